import Logrange.Proofs.PersistInv
/-!
# C07 — Stored state survives restart, including crash-shaped on-disk states

Property theorems only (model: `Logrange/Model/{PersistFS,TIndexFile,CIndexFile,PipeFiles,RestartModel}.lean`, lemmas:
`Logrange/Proofs/Persist.lean`, `Logrange/Proofs/PersistInv.lean`). All theorems are generic in the four codecs (`K : Codecs`) under the codec
contract `K.Laws` (true of `encoding/json` on Go maps/slices; checked by the harness) and in `parseOk` (do the
stored tag lines parse back — C08). Crash statements are about the sequential crash model of `PersistFS`.

Facts regenerated from the source on every run enter through `Logrange.Generated.C07` (call order of
`saveStateUnsafe`, who calls `savePipes` / `saveDataToFile`, file names, `loadState` never reads the backup …):
a repair of one of the open findings changes a generated fact and breaks the matching `cex_…` proof, which is then
replaced by the positive theorem.
-/
namespace Logrange.Props.C07
open Logrange.Persist Logrange.Generated.C07

/-- consistency of a running server's memory with its disk: `tindex.dat` is the encoding of the tag index (it is
saved on every change), the stored tag lines parse back (C08), every journal on disk has a record, and every pipe's
position file decodes to the pipe's positions (saved after every copied batch). -/
def WF (K : Codecs) (parseOk : TagLine → Bool) (s : Srv) : Prop :=
  s.disk.files .tindexDat = some (K.tidx.enc s.mem.tmap) ∧
  s.mem.tmap.all (fun e => parseOk e.1) = true ∧
  (journalsOnDisk s.disk.db).all (tmapHasSrc s.mem.tmap) = true ∧
  ∀ p ∈ s.mem.pipes, loadPipeInfo K.pinfo s.disk.files p.cfg.name = p.poss

/-- **Graceful restart, full statement**: after `shutdown` the server starts and its tag index, chunk hulls and
roots, pipe definitions and pipe positions are exactly what they were, and so are the journals. FALSE today
(finding F33: a pipe named `s`): kept as a definition. -/
def restart_graceful_full : Prop :=
  ∀ (K : Codecs) (parseOk : TagLine → Bool) (s : Srv), K.Laws → WF K parseOk s →
    ∃ s', recover K parseOk (shutdown K s).disk = .started s' ∧ s'.mem = s.mem ∧ s'.disk.db = s.disk.db

/-- **Graceful restart** (proved for every state without a pipe whose position file is the registry file —
the class of finding F33): `recover (shutdown s).disk = s.persistent`. -/
theorem restart_graceful_partial (K : Codecs) (parseOk : TagLine → Bool) (s : Srv) (hK : K.Laws)
    (hwf : WF K parseOk s) (hnc : nameCollision s.mem.pipes = false) :
    ∃ s', recover K parseOk (shutdown K s).disk = .started s' ∧ s'.mem = s.mem ∧ s'.disk.db = s.disk.db := by
  obtain ⟨ht, hp, hj, hpi⟩ := hwf
  obtain ⟨h1, h2⟩ := restart_mem (parseOk := parseOk) hK ht hp hj hpi fun p hp' => by
    simpa using List.any_eq_false.mp hnc p hp'
  exact ⟨_, h1, h2, rfl⟩

/-- **every RANGE query answers as it did** after a graceful restart: the hulls a new cursor sees are the same -/
theorem hulls_survive_graceful (K : Codecs) (parseOk : TagLine → Bool) (s : Srv) (hK : K.Laws)
    (hwf : WF K parseOk s) (hnc : nameCollision s.mem.pipes = false) :
    ∃ s', recover K parseOk (shutdown K s).disk = .started s' ∧
      ∀ src lo hi, rangeVisible (hullView s'.mem.cidx src ((alookup s'.disk.db src).getD [])) ((alookup s'.disk.db src).getD []) lo hi
        = rangeVisible (hullView s.mem.cidx src ((alookup s.disk.db src).getD [])) ((alookup s.disk.db src).getD []) lo hi := by
  obtain ⟨s', h1, h2, h3⟩ := restart_graceful_partial K parseOk s hK hwf hnc
  exact ⟨s', h1, by intro src lo hi; rw [h2, h3]⟩

/-! ## the tag-index save is crash-atomic (finding F05, repaired) -/

theorem saveSteps_eq (K : Codecs) (f : Files) (old new : TMap) (h : f .tindexDat = some (K.tidx.enc old)) :
    tindexSaveSteps K.tidx f new =
      [.truncate .tindexTmp, .append .tindexTmp (K.tidx.enc new), .remove .tindexBak, .link .tindexDat .tindexBak,
       .rename .tindexTmp .tindexDat] := by
  simp [tindexSaveSteps, tindexSaveStepsOf, saveStateCalls, tindexCallSteps, writeFile, h]

/-- what start-up finds depends on `tindex.dat` only -/
theorem cc_map (c : Codec TMap) (parseOk : TagLine → Bool) (f : Files) (js : List Src) :
    (checkConsistency c parseOk f js).map (·.1) =
      (loadState c parseOk f).bind (fun m => if js.all (tmapHasSrc m) then some m else none) := by
  unfold checkConsistency
  cases loadState c parseOk f with
  | none => rfl
  | some m =>
    show Option.map (fun (r : TMap × Files) => r.1) (if js.all (tmapHasSrc m) = true then _ else none) = if js.all (tmapHasSrc m) = true then some m else none
    by_cases h : js.all (tmapHasSrc m) = true
    · rw [if_pos h, if_pos h]; rfl
    · rw [if_neg h, if_neg h]; rfl

theorem loadState_congr (c : Codec TMap) (parseOk : TagLine → Bool) (f g : Files) (h : f .tindexDat = g .tindexDat) :
    loadState c parseOk f = loadState c parseOk g := by
  simp [loadState, h]

/-- at every cut of the save (every number of completed steps, every prefix of the temp file's content)
`tindex.dat` holds the complete old or the complete new content -/
theorem dat_at_cut (K : Codecs) (f : Files) (old new : TMap) (c : Cut) (h : f .tindexDat = some (K.tidx.enc old)) :
    diskAt f (tindexSaveSteps K.tidx f new) c .tindexDat = some (K.tidx.enc old) ∨
    diskAt f (tindexSaveSteps K.tidx f new) c .tindexDat = some (K.tidx.enc new) := by
  have := tindexDat_at_cut K f new c
  rwa [h] at this

/-- **The tag-index save is crash-atomic** (was finding F05): wherever the save of `new` over `old` is cut — after any
step, at any prefix of the temp file — start-up finds `old` or `new` (given that both cover the journals on disk). -/
theorem tindex_crash_atomic (K : Codecs) (hK : K.Laws) (parseOk : TagLine → Bool) (f : Files) (old new : TMap)
    (js : List Src) (c : Cut) (h : f .tindexDat = some (K.tidx.enc old))
    (ho : old.all (fun e => parseOk e.1) = true) (hn : new.all (fun e => parseOk e.1) = true)
    (hjo : js.all (tmapHasSrc old) = true) (hjn : js.all (tmapHasSrc new) = true) :
    (checkConsistency K.tidx parseOk (diskAt f (tindexSaveSteps K.tidx f new) c) js).map (·.1) = some old ∨
    (checkConsistency K.tidx parseOk (diskAt f (tindexSaveSteps K.tidx f new) c) js).map (·.1) = some new := by
  rw [cc_map]
  have found : ∀ m, diskAt f (tindexSaveSteps K.tidx f new) c .tindexDat = some (K.tidx.enc m) →
      m.all (fun e => parseOk e.1) = true → js.all (tmapHasSrc m) = true →
      (loadState K.tidx parseOk (diskAt f (tindexSaveSteps K.tidx f new) c)).bind
        (fun m => if js.all (tmapHasSrc m) then some m else none) = some m := by
    intro m hd hp hj
    have hl : loadState K.tidx parseOk (diskAt f (tindexSaveSteps K.tidx f new) c) = some m := by
      simp [loadState, hd, hK.tidx.rt, hp]
    rw [hl]
    exact if_pos hj
  exact (dat_at_cut K f old new c h).imp (found old · ho hjo) (found new · hn hjn)

/-- the same for the very first save (no `tindex.dat` yet): start-up finds the empty index or `new` -/
theorem tindex_crash_atomic_fresh (K : Codecs) (hK : K.Laws) (parseOk : TagLine → Bool) (f : Files) (new : TMap) (c : Cut)
    (h : f .tindexDat = none) (hn : new.all (fun e => parseOk e.1) = true) :
    loadState K.tidx parseOk (diskAt f (tindexSaveSteps K.tidx f new) c) = some [] ∨
    loadState K.tidx parseOk (diskAt f (tindexSaveSteps K.tidx f new) c) = some new := by
  rcases tindexDat_at_cut K f new c with e | e
  · exact .inl (by simp [loadState, e, h])
  · exact .inr (by simp [loadState, e, hK.tidx.rt, hn])

/-! ## the registry file -/

/-- **The registry save is crash-atomic** (was finding F41): at every cut of `savePipes` the registry file reads as
before the save or as the complete new list — never torn, never empty. -/
theorem pipes_dat_crash_atomic (K : Codecs) (hK : K.Laws) (f : Files) (new : List Pipe) (c : Cut) :
    loadPipes K.pipes (diskAt f (savePipesSteps K.pipes new) c) = loadPipes K.pipes f ∨
    loadPipes K.pipes (diskAt f (savePipesSteps K.pipes new) c) = some new := by
  have := loadPipes_at_cut K hK f new [] (fun _ h => nomatch h) c
  rwa [List.append_nil] at this

/-! ## pipes -/

def s0 : Srv := ⟨⟨[], [], []⟩, Disk.fresh⟩

theorem checkConsistency_files (c : Codec TMap) (parseOk : TagLine → Bool) (f f1 : Files) (js : List Src) (m : TMap)
    (h : checkConsistency c parseOk f js = some (m, f1)) : ∀ q, ¬ tindexPath q → f1 q = f q := by
  unfold checkConsistency at h
  cases hl : loadState c parseOk f with
  | none => simp [hl] at h
  | some m' =>
    simp only [hl] at h
    by_cases hj : js.all (tmapHasSrc m') = true
    · simp only [hj, if_true, Option.some.injEq, Prod.mk.injEq] at h
      intro q hq
      rw [← h.2]
      exact tindexSave_frame _ _ _ _ q hq
    · simp [hj] at h

/-- a server that starts on a disk whose registry file is the encoding of `ps` has exactly the definitions `ps` -/
theorem recover_pipes (K : Codecs) (hK : K.Laws) (parseOk : TagLine → Bool) (d : Disk) (ps : List Pipe)
    (h : d.files pipesDat = some (K.pipes.enc ps)) (s' : Srv) (hr : recover K parseOk d = .started s') :
    s'.mem.pipes.map (·.cfg) = ps := by
  unfold recover at hr
  cases hc : checkConsistency K.tidx parseOk d.files (journalsOnDisk d.db) with
  | none => simp [hc] at hr
  | some r =>
    obtain ⟨tm, f1⟩ := r
    have hf := checkConsistency_files _ _ _ _ _ _ hc pipesDat (by simp [tindexPath, pipesDat])
    simp only [hc, pipesInit, loadPipes, hf, h, hK.pipes.rt, Option.map_some] at hr
    injection hr with hr
    rw [← hr]
    simp [List.map_map, Function.comp_def]

/-- **An acknowledged CREATE PIPE survives every crash** (was finding F07): once `CreatePipe` has returned, the registry
file holds the new list of definitions (`savePipes` is called by `CreatePipe`: `pipeDefsSavedOnCreate`), so a server
started on the crash image has exactly these definitions — the new one among them. -/
theorem acked_pipe_definition_survives_crash (K : Codecs) (hK : K.Laws) (parseOk : TagLine → Bool) (s : Srv) (p : Pipe)
    (s' : Srv) (hr : recover K parseOk (step K s (.createPipe p)).disk = .started s') :
    s'.mem.pipes.map (·.cfg) = s.mem.pipes.map (·.cfg) ++ [p] := by
  have hf : pipeDefsSavedOnCreate = true := by decide
  apply recover_pipes K hK parseOk _ _ _ s' hr
  simp [step, hf, savePipes_at]

/-- **An acknowledged DELETE PIPE survives every crash**: the deleted pipe is not in the registry a crash image holds
(for a pipe whose position file is not the registry file — F33's class: there the removal of the position file removes
the registry). -/
theorem deleted_pipe_stays_deleted_after_crash (K : Codecs) (hK : K.Laws) (parseOk : TagLine → Bool) (s : Srv) (n : Bytes)
    (_hnc : pipeInfoPath n ≠ pipesDat) (s' : Srv) (hr : recover K parseOk (step K s (.deletePipe n)).disk = .started s') :
    s'.mem.pipes.map (·.cfg) = (s.mem.pipes.filter (fun p => !(p.cfg.name == n))).map (·.cfg) ∧
    ∀ q ∈ s'.mem.pipes, q.cfg.name ≠ n := by
  have hf : pipeDefsSavedOnDelete = true := by decide
  have h1 : s'.mem.pipes.map (·.cfg) = (s.mem.pipes.filter (fun p => !(p.cfg.name == n))).map (·.cfg) := by
    apply recover_pipes K hK parseOk _ _ _ s' hr
    have hf2 : deletePipeRemovesPositionsBeforeSave = true := by decide
    simp only [step, hf, hf2, if_true, runSteps_cons]
    rw [savePipes_at, if_pos rfl]
  refine ⟨h1, ?_⟩
  intro q hq hqn
  have : q.cfg ∈ s'.mem.pipes.map (·.cfg) := List.mem_map_of_mem hq
  rw [h1] at this
  obtain ⟨r, hr', hre⟩ := List.mem_map.mp this
  have := (List.mem_filter.mp hr').2
  rw [hre] at this
  simp [hqn] at this

theorem pipeFileName_s : pipeFileName [115] = pipesFileName := by decide

/-- **F33, crash image** (still there after the repairs): the positions of a pipe named `s` are written to `pipes.dat`
— in place, over the registry `CreatePipe` has just saved; `loadPipes` cannot decode a position map as a registry and
`Service.Init` fails. The window stays open until the next `savePipes` (create / delete / shutdown). -/
theorem cex_pipe_name_collision (K : Codecs) (hK : K.Laws) (parseOk : TagLine → Bool) (pm : PosMap) :
    pipeInfoPath [115] = pipesDat ∧
    recover K parseOk (run K s0 [.createPipe ⟨[115], [], []⟩, .savePipeInfo [115] pm]).disk = .refusedPipes := by
  have hp : pipeInfoPath [115] = pipesDat := by simp [pipeInfoPath, pipesDat, pipeFileName_s]
  refine ⟨hp, ?_⟩
  generalize hd : (run K s0 [.createPipe ⟨[115], [], []⟩, .savePipeInfo [115] pm]).disk = d
  obtain ⟨hfile, hti, hdb⟩ : d.files pipesDat = some (K.pinfo.enc pm) ∧ d.files .tindexDat = none ∧ d.db = [] := by
    rw [← hd]; exact pipe_s_overwrites_registry K s0 pm
  unfold recover
  cases hc : checkConsistency K.tidx parseOk d.files (journalsOnDisk d.db) with
  | none => simp [checkConsistency, loadState, hti, hdb, journalsOnDisk] at hc
  | some r =>
    obtain ⟨tm, f1⟩ := r
    have hf := checkConsistency_files _ _ _ _ _ _ hc pipesDat (by simp [tindexPath, pipesDat])
    simp [pipesInit, loadPipes, hf, hfile, hK.crossPipes]

/-! ## events acknowledged right before a graceful stop (finding F42, repaired) -/

theorem mem_foldl_append : ∀ (pieces : List (Nat × List Int)) (cks : List Chunk) (t : Int),
    ((∃ c ∈ cks, t ∈ c.recs) ∨ ∃ pc ∈ pieces, t ∈ pc.2) →
    ∃ c ∈ pieces.foldl (fun cks pc => appendToChunk cks pc.1 pc.2) cks, t ∈ c.recs
  | [], cks, t, h => h.elim id fun ⟨_, hpc, _⟩ => nomatch hpc
  | pc :: rest, cks, t, h => by
    refine mem_foldl_append rest _ t ?_
    rcases h with h | ⟨pc', hpc', ht⟩
    · exact .inl (mem_appendToChunk cks pc.1 pc.2 t (.inl h))
    · rcases List.mem_cons.mp hpc' with rfl | e
      · exact .inl (mem_appendToChunk cks _ _ t (.inr ht))
      · exact .inr ⟨pc', e, ht⟩

theorem alookup_aset_self {β : Type} : ∀ (m : List (Bytes × β)) (k : Bytes) (v : β), alookup (aset m k v) k = some v
  | [], k, v => by simp [aset, alookup]
  | e :: r, k, v => by
    by_cases h : (e.1 == k) = true
    · simp [aset, alookup, h]
    · have ih := alookup_aset_self r k v
      simp only [alookup] at ih ⊢
      simp [aset, h, List.find?_cons, ih]

/-- **Events acknowledged right before a graceful stop are in the journal afterwards** (was finding F42): the
shutdown sequence syncs the journals (`partition.Service.Shutdown`: `partitionShutdownSyncsJournals = true`), so every
record of an acknowledged write that was still in a chunk writer's buffer, and every record flushed before, is in the
partition's journal on the disk the stop leaves. -/
theorem acked_events_survive_graceful_stop (db : List (Src × List Chunk)) (src : Src) (pending : List (Nat × List Int)) :
    partitionShutdownSyncsJournals = true ∧ shutdownDb db src pending = flushPending db src pending ∧
    (∀ pc ∈ pending, ∀ t ∈ pc.2, ∃ c ∈ (alookup (shutdownDb db src pending) src).getD [], t ∈ c.recs) ∧
    (∀ c0 ∈ (alookup db src).getD [], ∀ t ∈ c0.recs, ∃ c ∈ (alookup (shutdownDb db src pending) src).getD [], t ∈ c.recs) := by
  have hf : partitionShutdownSyncsJournals = true := by decide
  have he : shutdownDb db src pending = flushPending db src pending := by simp [shutdownDb, hf]
  refine ⟨hf, he, ?_, ?_⟩
  · intro pc hpc t ht
    rw [he, flushPending, alookup_aset_self]
    exact mem_foldl_append pending _ t (Or.inr ⟨pc, hpc, ht⟩)
  · intro c0 hc0 t ht
    rw [he, flushPending, alookup_aset_self]
    exact mem_foldl_append pending _ t (Or.inl ⟨c0, hc0, ht⟩)

/-- **Graceful restart including the last acknowledged write**: stop a server that still holds the records `pending` of
an acknowledged write to `src` in a chunk writer's buffer; the restarted server has the same tag index, hulls, pipe
definitions and positions, and a journal that holds every flushed and every pending record
(`acked_events_survive_graceful_stop`). -/
theorem restart_graceful_with_pending (K : Codecs) (parseOk : TagLine → Bool) (s : Srv) (src : Src)
    (pending : List (Nat × List Int)) (hK : K.Laws)
    (hwf : WF K parseOk { s with disk := { s.disk with db := flushPending s.disk.db src pending } })
    (hnc : nameCollision s.mem.pipes = false) :
    ∃ s', recover K parseOk (shutdown K { s with disk := { s.disk with db := shutdownDb s.disk.db src pending } }).disk
        = .started s' ∧ s'.mem = s.mem ∧ s'.disk.db = flushPending s.disk.db src pending := by
  have he := (acked_events_survive_graceful_stop s.disk.db src pending).2.1
  rw [he]
  exact restart_graceful_partial K parseOk _ hK hwf hnc

/-! ## time-index snapshot -/

theorem cindexLoad_missing (c : Codec CMap) (f : Files) (h : f .cindexDat = none) : cindexLoad c f = [] := by
  simp [cindexLoad, h]

theorem cindexLoad_torn (c : Codec CMap) (hc : c.Laws) (f : Files) (m : CMap) (n : Nat) (hn : n < (c.enc m).length)
    (h : f .cindexDat = some ((c.enc m).take n)) : cindexLoad c f = [] := by
  simp [cindexLoad, h, hc.torn m n hn]

/-- the hull `lightFill` gives a monotone, non-empty chunk contains every record -/
theorem lightFill_fresh_sound (ck : Chunk) (hmono : ck.recs.Pairwise (· ≤ ·)) :
    ∀ t ∈ ck.recs, (lightFill1 ck ⟨ck.id, maxInt64, 0, 0, 0⟩).minTs ≤ t ∧ t ≤ (lightFill1 ck ⟨ck.id, maxInt64, 0, 0, 0⟩).maxTs := by
  intro t ht
  have hne := List.ne_nil_of_mem ht
  have h1 := head_le_of_pairwise ck.recs _ hmono (List.head?_eq_head hne) t ht
  have h2 := le_last_of_pairwise ck.recs _ hmono (List.getLast?_eq_getLast hne) t ht
  have : ¬ ck.recs.getLast hne < ck.recs.head hne := by omega
  simp only [lightFill1, List.head?_eq_head hne, List.getLast?_eq_getLast hne]
  simp [this]
  exact ⟨h1, h2⟩

/-- **F06 (stale snapshot), the unrepaired branches**: the index knows chunk 1 with the hull `[10, 20]` of an earlier clean
stop (2 records); the chunk grew by a record with timestamp 30 before the crash. Without `dropStale` (`syncChunkC false _`),
or with the hull copied BEFORE the drop (`syncChunkC true false`: the new entry carries the stale hull and `lightFill`
skips it, `MaxTs > 0`), the hull the index reports does not contain the flushed event 30. Since a7caf30 the selector keeps
such a chunk open for RANGE queries while the index accounts for fewer records than the chunk holds (which is the case in
the second branch only: `Recs` 0), but the unsound hull is what `TRUNCATE … BEFORE` decides on. -/
theorem cex_stale_snapshot :
    let stale : List ChkInfo := [⟨1, 10, 20, 0, 2⟩]
    let ck : Chunk := ⟨1, [10, 20, 30]⟩
    lightFillSkipsWhenMaxTsPositive = true ∧ cindexSnapshotOnlyAtClose = true ∧
    (syncChunkC false true stale ck).maxTs = 20 ∧ (syncChunkC true false stale ck).maxTs = 20 ∧
    (syncChunkC true true stale ck).maxTs = 30 := by
  decide

/-- **No flushed event is hidden after recovery from a stale snapshot — the repaired branch** (`syncChunkB true`: the
snapshot records how many records each hull accounts for, `chkInfo.Recs`, and `syncChunks` drops the entry of a chunk
that holds more): a chunk that grew since the snapshot is handled like a chunk the index does not know, so a monotone
chunk gets a hull that contains every record; an entry that is not stale is kept as it is. -/
theorem no_event_hidden_after_stale_snapshot (old : List ChkInfo) (ck : Chunk) (o : ChkInfo)
    (hfind : old.find? (fun o => o.id == ck.id) = some o) (hmono : ck.recs.Pairwise (· ≤ ·)) :
    (o.recs < ck.recs.length → ∀ t ∈ ck.recs, (syncChunkB true old ck).minTs ≤ t ∧ t ≤ (syncChunkB true old ck).maxTs) ∧
    (ck.recs.length ≤ o.recs → syncChunkB true old ck = o) := by
  constructor
  · intro hs
    have : syncChunkB true old ck = lightFill1 ck ⟨ck.id, maxInt64, 0, 0, 0⟩ := by simp [syncChunkB, syncChunkC, hfind, hs]
    rw [this]; exact lightFill_fresh_sound ck hmono
  · intro hs
    have : ¬ o.recs < ck.recs.length := by omega
    simp [syncChunkB, syncChunkC, hfind, this]

/-- **F06 repaired** (a2ca477; `syncChunksDropsStaleEntries = true`, regenerated): on the witness of the finding — the
snapshot of an earlier clean stop knows chunk 1 with the hull `[10, 20]` of 2 records, the chunk holds a third record 30 —
the entry is dropped, `RANGE [25:35]` returns the flushed event, and the state is not in F06's class any more. Reverting
the repair flips the fact and breaks this theorem. -/
theorem stale_snapshot_witness :
    let stale : CMap := [([106], [⟨1, 10, 20, 0, 2⟩])]
    let cks : List Chunk := [⟨1, [10, 20, 30]⟩]
    syncChunksDropsStaleEntries = true ∧ syncChunksDropsStaleBeforeHullCopy = true ∧ rangeSpec cks 25 35 = [30] ∧
    rangeVisible (hullView stale [106] cks) cks 25 35 = [30] ∧ staleGrown ((alookup stale [106]).getD []) cks = false ∧
    (hullView stale [106] cks).map (·.maxTs) = [30] := by
  decide

/-- **No flushed event is hidden after recovery from a stale snapshot** (the statement about the code as it is): a chunk
the loaded index knows with fewer records than it holds gets — `syncChunk`, the regenerated branch — a hull that contains
every record when its timestamps are monotone. -/
theorem stale_snapshot_sync_first (old : List ChkInfo) (ck : Chunk) (o : ChkInfo)
    (hfind : old.find? (fun o => o.id == ck.id) = some o) (hmono : ck.recs.Pairwise (· ≤ ·)) (hs : o.recs < ck.recs.length) :
    ∀ t ∈ ck.recs, (syncChunk old ck).minTs ≤ t ∧ t ≤ (syncChunk old ck).maxTs := by
  have hf : syncChunksDropsStaleEntries = true := by decide
  have hf2 : syncChunksDropsStaleBeforeHullCopy = true := by decide
  have : syncChunk old ck = syncChunkB true old ck := by simp [syncChunk, syncChunkB, hf, hf2]
  rw [this]
  exact (no_event_hidden_after_stale_snapshot old ck o hfind hmono).1 hs

/-- **F47 repaired** (1735e86; `cindexInitValidatesRoots = true`, regenerated): after `cindex.init` no chunk keeps a root
into a tree file whose block cannot be read or is empty — every remaining root is usable. -/
theorem no_unusable_root_after_init (usable : Nat → Bool) (m : CMap) :
    cindexInitValidatesRoots = true ∧
    ∀ e ∈ forgetUnusableRoots usable m, ∀ ci ∈ e.2, ci.root = 0 ∨ usable ci.root = true := by
  have hf : cindexInitValidatesRoots = true := by decide
  refine ⟨hf, ?_⟩
  intro e he ci hci
  simp only [forgetUnusableRoots, hf, if_true, List.mem_map] at he
  obtain ⟨e0, _, rfl⟩ := he
  simp only [List.mem_map] at hci
  obtain ⟨c0, _, rfl⟩ := hci
  by_cases h : c0.root ≠ 0 ∧ usable c0.root = false
  · simp [h]
  · rw [if_neg h]
    by_cases h0 : c0.root = 0
    · exact Or.inl h0
    · right
      cases hu : usable c0.root with
      | true => rfl
      | false => exact absurd ⟨h0, hu⟩ h

/-- the stale snapshot is what a crash leaves: after a clean stop (snapshot written), a restart and a further write,
the disk still holds the snapshot of the clean stop — `cindex.dat` is not touched by `write`. -/
theorem write_keeps_snapshot (K : Codecs) (s : Srv) (src : Src) (pieces : List (Nat × List Int)) :
    (step K s (.write src pieces)).disk.files = s.disk.files := by
  simp only [step]

/-- **Missing or torn snapshot, monotone chunk**: a chunk the loaded index does not know (every chunk, when
`cindex.dat` is missing or torn: `cindexLoad_missing`, `cindexLoad_torn`) gets its hull from `lightFill`; if its
timestamps are monotone and positive the hull contains every record, so no RANGE query loses an event of it. -/
theorem hull_after_recover_partial (old : List ChkInfo) (ck : Chunk)
    (hunk : old.find? (fun o => o.id == ck.id) = none) (hmono : ck.recs.Pairwise (· ≤ ·)) :
    ∀ t ∈ ck.recs, (syncChunk old ck).minTs ≤ t ∧ t ≤ (syncChunk old ck).maxTs := by
  have : syncChunk old ck = lightFill1 ck ⟨ck.id, maxInt64, 0, 0, 0⟩ := by simp [syncChunk, syncChunkC, hunk]
  rw [this]; exact lightFill_fresh_sound ck hmono

/-- non-monotone chunk: `lightFill`'s hull (first and last record) misses the record 50 — C02's class
"non-monotone partition" (DESIGN §7 #4) -/
theorem cex_lightFill_nonmonotone :
    let ck : Chunk := ⟨1, [10, 50, 20]⟩
    rangeVisible (syncChunks [] [ck]) [ck] 40 60 = [] ∧ rangeSpec [ck] 40 60 = [50] := by
  decide

/-- a sound hull never hides an event: when every record of every chunk lies inside the chunk's hull, the
hull-level RANGE answer is the specification's filter -/
theorem range_complete_of_sound_hulls : ∀ (hs : List ChkInfo) (cks : List Chunk) (lo hi : Int),
    hs.length = cks.length →
    (∀ (i : Nat) (h : ChkInfo) (ck : Chunk), hs[i]? = some h → cks[i]? = some ck → ∀ t ∈ ck.recs, h.minTs ≤ t ∧ t ≤ h.maxTs) →
    rangeVisible hs cks lo hi = rangeSpec cks lo hi
  | [], [], _, _, _, _ => by simp [rangeVisible, rangeSpec]
  | [], _ :: _, _, _, h, _ => by simp at h
  | _ :: _, [], _, _, h, _ => by simp at h
  | h :: hs, ck :: cks, lo, hi, hl, hsound => by
    have ih := range_complete_of_sound_hulls hs cks lo hi (by simpa using hl)
      (fun i h' ck' a b => hsound (i + 1) h' ck' (by simpa using a) (by simpa using b))
    rw [rangeVisible_cons _ _ _ _ _ _ (hsound 0 h ck (by simp) (by simp)), ih]
    rfl

/-! ## the first write after a start without a usable snapshot -/

theorem listMin_le_init : ∀ (l : List Int) (d : Int), listMin l d ≤ d
  | [], d => Int.le_refl d
  | x :: r, d => by
    show listMin r (if x < d then x else d) ≤ d
    by_cases hx : x < d
    · rw [if_pos hx]; have := listMin_le_init r x; omega
    · rw [if_neg hx]; exact listMin_le_init r d

theorem listMin_le_mem : ∀ (l : List Int) (d t : Int), t ∈ l → listMin l d ≤ t
  | [], _, _, h => by cases h
  | x :: r, d, t, h => by
    show listMin r (if x < d then x else d) ≤ t
    rcases List.mem_cons.mp h with e | e
    · subst e
      by_cases hx : t < d
      · rw [if_pos hx]; exact listMin_le_init r t
      · rw [if_neg hx]; have := listMin_le_init r d; omega
    · exact listMin_le_mem r _ t e

theorem init_le_listMax : ∀ (l : List Int) (d : Int), d ≤ listMax l d
  | [], d => Int.le_refl d
  | x :: r, d => by
    show d ≤ listMax r (if d < x then x else d)
    by_cases hx : d < x
    · rw [if_pos hx]; have := init_le_listMax r x; omega
    · rw [if_neg hx]; exact init_le_listMax r d

theorem mem_le_listMax : ∀ (l : List Int) (d t : Int), t ∈ l → t ≤ listMax l d
  | [], _, _, h => by cases h
  | x :: r, d, t, h => by
    show t ≤ listMax r (if d < x then x else d)
    rcases List.mem_cons.mp h with e | e
    · subst e
      by_cases hx : d < t
      · rw [if_pos hx]; exact init_le_listMax r t
      · rw [if_neg hx]; have := init_le_listMax r d; omega
    · exact mem_le_listMax r _ t e

/-- the rebuilt hull contains every record of the chunk -/
theorem rebuildHull_sound (recs : List Int) (ci : ChkInfo) : ∀ t ∈ recs, (rebuildHull recs ci).minTs ≤ t ∧ t ≤ (rebuildHull recs ci).maxTs := by
  intro t ht
  cases recs with
  | nil => cases ht
  | cons a r =>
    have h1 := listMin_le_mem (a :: r) a t ht
    have h2 := mem_le_listMax (a :: r) a t ht
    simp only [rebuildHull, ChkInfo.update]
    constructor
    · split <;> omega
    · split <;> omega

/-- **No flushed event is hidden after a start without a usable snapshot, even when the first thing that touches the
partition is a write** (missing or torn `cindex.dat` ⇒ the index has no entry for the source: `cindexLoad_missing`,
`cindexLoad_torn`): `onWrite` creates the entry from the notified batch only, but because an unknown source counts as a
new chunk (`onWriteUnknownSourceSetsNewChk`) and a new chunk that already holds records is rebuilt
(`onWriteNewChunkMidwayRebuilds`), the hull — once the rebuilder ran — contains every record of the chunk, the old ones
and the batch, so every RANGE query over that chunk returns exactly the events in range. -/
theorem no_event_hidden_after_first_write_on_lost_snapshot (m : CMap) (src : Src) (cid : Nat) (before batch : List Int)
    (mn mx lo hi : Int) (hunk : alookup m src = none) (hb : before ≠ []) :
    let m' := cindexOnWriteR m src cid before batch mn mx
    let ck : Chunk := ⟨cid, before ++ batch⟩
    onWriteUnknownSourceSetsNewChk = true ∧ onWriteNewChunkMidwayRebuilds = true ∧
    rangeVisible (hullView m' src [ck]) [ck] lo hi = rangeSpec [ck] lo hi := by
  have f1 : onWriteUnknownSourceSetsNewChk = true := by decide
  have f2 : onWriteNewChunkMidwayRebuilds = true := by decide
  refine ⟨f1, f2, ?_⟩
  have hne : before.isEmpty = false := by cases before <;> simp_all
  have hm' : alookup (cindexOnWriteR m src cid before batch mn mx) src
      = some [rebuildHull (before ++ batch) ⟨cid, mn, mx, 0, before.length + batch.length⟩] := by
    simp only [cindexOnWriteR, onWriteNewChk, hunk, f1, f2, hne, cindexOnWrite, alookup_aset_self, Bool.not_false,
      Bool.and_self, if_true, List.getLast?_singleton, List.dropLast_singleton, List.nil_append]
  have hid : (rebuildHull (before ++ batch) ⟨cid, mn, mx, 0, before.length + batch.length⟩).id = cid := by
    unfold rebuildHull; split <;> simp [ChkInfo.update]
  have hrec : (rebuildHull (before ++ batch) ⟨cid, mn, mx, 0, before.length + batch.length⟩).recs
      = before.length + batch.length := by
    unfold rebuildHull; split <;> simp [ChkInfo.update]
  refine rangeVisible_map_sound _ lo hi [_] fun ck hck t ht => ?_
  cases List.mem_singleton.mp hck
  have hs : syncChunk ((alookup (cindexOnWriteR m src cid before batch mn mx) src).getD []) ⟨cid, before ++ batch⟩
      = rebuildHull (before ++ batch) ⟨cid, mn, mx, 0, before.length + batch.length⟩ := by
    simp [hm', syncChunk, syncChunkC, hid, hrec]
  rw [hs]
  exact rebuildHull_sound _ _ t ht

/-- the other order: the first thing that touches the chunk after the start is a WRITE. `onWrite` finds the snapshot entry
(`last`, same chunk) accounting for fewer records than precede the batch, treats the chunk as notified from the middle
(`onWriteStaleSnapshotEntryIsNewChk`) and has it rebuilt (`onWriteNewChunkMidwayRebuilds`); after the rebuild the hull
contains every record — the ones the snapshot knew, the ones written between the snapshot and the crash, and the batch. -/
theorem stale_snapshot_write_first (m : CMap) (src : Src) (cid : Nat) (before batch : List Int) (mn mx lo hi : Int)
    (last : ChkInfo) (hm : alookup m src = some [last]) (hid : last.id = cid) (hstale : last.recs < before.length) :
    let m' := cindexOnWriteR m src cid before batch mn mx
    let ck : Chunk := ⟨cid, before ++ batch⟩
    rangeVisible (hullView m' src [ck]) [ck] lo hi = rangeSpec [ck] lo hi := by
  have f1 : onWriteStaleSnapshotEntryIsNewChk = true := by decide
  have f1b : onWriteChecksStalenessBeforeRecsBump = true := by decide
  have f2 : onWriteNewChunkMidwayRebuilds = true := by decide
  have f3 : syncChunksDropsStaleEntries = true := by decide
  have hne : before.isEmpty = false := by cases before <;> simp_all
  let e : ChkInfo := rebuildHull (before ++ batch) { last.update mn mx with recs := before.length + batch.length }
  have hm' : alookup (cindexOnWriteR m src cid before batch mn mx) src = some [e] := by
    simp only [cindexOnWriteR, onWriteNewChk, hm, f1, f1b, f2, hne, cindexOnWrite, alookup_aset_self, List.getLast?_singleton,
      List.dropLast_singleton, List.nil_append, hid, ne_eq, not_true_eq_false, decide_false, Bool.false_or, hstale,
      decide_true, Bool.and_self, Bool.not_false, if_true, if_false, e]
  have hide : e.id = cid := by
    simp only [e]; unfold rebuildHull; split <;> simp [ChkInfo.update, hid]
  have hrec : e.recs = before.length + batch.length := by
    simp only [e]; unfold rebuildHull; split <;> simp [ChkInfo.update]
  refine rangeVisible_map_sound _ lo hi [_] fun ck hck t ht => ?_
  cases List.mem_singleton.mp hck
  have hs : syncChunk ((alookup (cindexOnWriteR m src cid before batch mn mx) src).getD []) ⟨cid, before ++ batch⟩ = e := by
    simp [hm', syncChunk, syncChunkC, hide, hrec]
  rw [hs]
  exact rebuildHull_sound _ _ t ht

/-- **No flushed event is hidden after recovery from a stale snapshot, whichever comes first** (F06 and its refinement
F06b repaired: a2ca477, 7ea0278). The snapshot of an earlier clean stop knows a chunk with fewer records than it holds
after the crash. (1) If the first thing that touches the chunk is a read (`syncChunks`), the entry is dropped and the
monotone chunk gets a hull that contains every record. (2) If it is a write, the chunk is rebuilt and afterwards every
RANGE query over it returns exactly the events in range. The facts are regenerated; reverting either commit breaks this. -/
theorem no_event_hidden_after_recovery_from_stale_snapshot :
    (syncChunksDropsStaleEntries = true ∧ syncChunksDropsStaleBeforeHullCopy = true ∧ dropStaleOnlySnapshotEntries = true ∧
      onWriteStaleSnapshotEntryIsNewChk = true ∧ onWriteChecksStalenessBeforeRecsBump = true ∧ syncChunksNeverStoresEmptyList = true) ∧
    (∀ (old : List ChkInfo) (ck : Chunk) (o : ChkInfo), old.find? (fun o => o.id == ck.id) = some o →
      ck.recs.Pairwise (· ≤ ·) → o.recs < ck.recs.length →
      ∀ t ∈ ck.recs, (syncChunk old ck).minTs ≤ t ∧ t ≤ (syncChunk old ck).maxTs) ∧
    (∀ (m : CMap) (src : Src) (cid : Nat) (before batch : List Int) (mn mx lo hi : Int) (last : ChkInfo),
      alookup m src = some [last] → last.id = cid → last.recs < before.length →
      rangeVisible (hullView (cindexOnWriteR m src cid before batch mn mx) src [⟨cid, before ++ batch⟩]) [⟨cid, before ++ batch⟩] lo hi
        = rangeSpec [⟨cid, before ++ batch⟩] lo hi) :=
  ⟨by decide, stale_snapshot_sync_first,
    fun m src cid before batch mn mx lo hi last hm hid hs => stale_snapshot_write_first m src cid before batch mn mx lo hi last hm hid hs⟩

/-! ## non-vacuity -/

example : nameCollision [⟨⟨[116], [], []⟩, []⟩] = false := by decide
example : nameCollision [⟨⟨[115], [], []⟩, []⟩] = true := by decide
example : cutInsideSave [.rename .tindexDat .tindexBak, .truncate .tindexDat, .append .tindexDat [1, 2, 3]] ⟨2, 1⟩ = true := by decide
example : (⟨1, [10, 10, 12]⟩ : Chunk).recs.Pairwise (· ≤ ·) := by decide

end Logrange.Props.C07

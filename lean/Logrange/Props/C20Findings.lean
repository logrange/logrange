import Logrange.Props.C20Parts.Tables
/-!
# C20 — open findings as kernel-checked facts about the model (F67 … F73)

None of these contradicts `C20_full_holds`: that theorem is about a text ALONE, rendered upper-case from a valid instant, and
states the fields the code's own rules give (Go's convention for zone abbreviations, date.go's previous-year rule). The facts
below are outside it — a second line of a file, a lower-case spelling, a negative number, an abbreviation with a conventional
offset, the literal reading of "current year" — and show that the model has the behaviour the harness observes in the code.
(F71, the wrap of `UnixNano()` in `DateTime.Capture`, is outside the model: harness only.)
-/
namespace Logrange.Props.C20
open Logrange.Date Logrange.Generated

/-- **F67, sticky format**: `2019-01-02 03:04:05 a`, `2019-01-02 03:04:06.789 b`, `2019-01-02 03:04:07.500 +0300 c` read by one line
parser: all three are dated by `YYYY-MM-DD HH:mm:ss` (49), remembered from line 1 — the fraction of line 2 and the fraction and
zone of line 3 are lost (alone, the default parser dates them by formats 42 and 41) -/
theorem cex_sticky_format :
    lpRun flpcfg (LP.init flpcfg)
      ([[50, 48, 49, 57, 45, 48, 49, 45, 48, 50, 32, 48, 51, 58, 48, 52, 58, 48, 53, 32, 97, 10],
        [50, 48, 49, 57, 45, 48, 49, 45, 48, 50, 32, 48, 51, 58, 48, 52, 58, 48, 54, 46, 55, 56, 57, 32, 98, 10],
        [50, 48, 49, 57, 45, 48, 49, 45, 48, 50, 32, 48, 51, 58, 48, 52, 58, 48, 55, 46, 53, 48, 48, 32, 43, 48, 51, 48, 48, 32, 99, 10]].map
        (lineAns gadj colFmts fnow)) =
    [.dated 49 ⟨2019, 1, 2, 3, 4, 5, 0, .dflt⟩, .dated 49 ⟨2019, 1, 2, 3, 4, 6, 0, .dflt⟩, .dated 49 ⟨2019, 1, 2, 3, 4, 7, 0, .dflt⟩] :=
  tables_findings.1

/-- **F68, skipping**: a time-stamped line, ten undated lines, a time-stamped line: the last line is not read — it carries the
date of the first -/
theorem cex_skipping_drops_a_dated_line :
    (lpRun flpcfg (LP.init flpcfg)
      ((([[50, 48, 49, 57, 45, 48, 49, 45, 48, 50, 32, 48, 51, 58, 48, 52, 58, 48, 53, 32, 97, 10]] : List Bytes) ++
        List.replicate 10 ([73, 78, 70, 79, 58, 32, 120, 10] : Bytes) ++
        [([50, 48, 49, 57, 45, 48, 49, 45, 48, 50, 32, 48, 51, 58, 48, 57, 58, 48, 48, 32, 122, 10] : Bytes)]).map
        (lineAns gadj colFmts fnow))).getLast? = some (.carried (some ⟨2019, 1, 2, 3, 4, 5, 0, .dflt⟩)) :=
  tables_findings.2.1

/-- **F69, lower-case pm**: `1/2/2019 03:04:05 pm` — the P format's expression matches, its layout `PM` does not; the 24-hour
`D/M/YYYY HH:mm:ss` (16) claims the prefix: 03:04:05 instead of 15:04:05 -/
theorem cex_lowercase_pm :
    parseFirst gadj colFmts fnow [49, 47, 50, 47, 50, 48, 49, 57, 32, 48, 51, 58, 48, 52, 58, 48, 53, 32, 112, 109]
      = .ok 16 ⟨2019, 2, 1, 3, 4, 5, 0, .dflt⟩ :=
  tables_findings.2.2.1

/-- **F70, negative relative number**: of `--5m` the relative branch hands `-5` to `ParseFloat` (which accepts it): now + 5 minutes -/
theorem cex_negative_relative :
    (match parseLql gcfg lqlFmts fnow [45, 45, 53, 109] with | .rel u num _ => some (u, num) | _ => none) = some (109, [45, 53]) := by
  decide +kernel

/-! F71 — `DateTime.Capture` / `buildTsCond` call `time.Time.UnixNano()`, which computes `sec·10⁹ + nsec` in `int64`
(wrap-around; Go documents the result as undefined outside 1678..2262). -/

/-- Go's `int64` arithmetic: two's complement wrap-around -/
def wrapI64 (x : Int) : Int := (x + 9223372036854775808) % 18446744073709551616 - 9223372036854775808

/-- `Time.UnixNano()` = `(t.sec() + internalToUnix) * 1e9 + int64(t.nsec())` in `int64` -/
def unixNanoGo (unixSec nsec : Int) : Int := wrapI64 (wrapI64 (unixSec * 1000000000) + nsec)

/-- **F71, outside int64 nanoseconds**: 2999-12-31 00:00:00 UTC is 32 503 593 600 s after the epoch; its `UnixNano()` wraps to
−4 389 894 547 419 103 232 ns, i.e. 4 389 894 548 s BEFORE the epoch (November 1830) — a RANGE that starts there. Inside the
range the function is exact (2262-04-11 23:47:16 is the last whole second). -/
theorem cex_unixnano_wraps :
    unixNanoGo 32503593600 0 = -4389894547419103232 ∧ (-4389894547419103232 : Int) / 1000000000 = -4389894548 ∧
    unixNanoGo 9223372036 0 = 9223372036000000000 ∧ unixNanoGo 9223372037 0 < 0 := by decide +kernel

/-- **F72, zone abbreviation**: `2019-03-11 10:00:00 PST` is 10:00 in a fabricated zone of offset 0 (18:00 UTC is meant) -/
theorem cex_zone_abbreviation :
    parseFirst gadj colFmts fnow [50, 48, 49, 57, 45, 48, 51, 45, 49, 49, 32, 49, 48, 58, 48, 48, 58, 48, 48, 32, 80, 83, 84]
      = .ok 47 ⟨2019, 3, 11, 10, 0, 0, 0, .named [80, 83, 84] 0⟩ :=
  tables_findings.2.2.2.1

/-- **F73, previous year**: on 2026-09-26 the year-less `Dec 11 13:14:15` is December 2025, not the current year -/
theorem cex_previous_year :
    parseFirst gadj colFmts fnow [68, 101, 99, 32, 49, 49, 32, 49, 51, 58, 49, 52, 58, 49, 53]
      = .ok 57 ⟨2025, 12, 11, 13, 14, 15, 0, .dflt⟩ :=
  tables_findings.2.2.2.2.1

/-! F-C05-901 (registered by C05; no second id) — the LQL side of the mechanism of F69 / F-C20-901: `parseLqlDateTime` hands the
literal to `Format.Parse`, which finds a date ANYWHERE in the text and ignores the rest. `C20_lql` / `C20_lql_padded` speak about the
renderings of an instant in a format of the LQL list (blank-padded at most); the literals below are none, and what the property's
spirit demands of them — rejected, or read fully — is `C20_lql_strict`, which is false on the current code. -/

/-- **F-C05-901 on the model**: `2019-01-02 12:00:00.900` as an LQL literal is 12:00:00.000 — the LQL list has no zoneless `.SSS`
format, `YYYY-MM-DD HH:mm:ss` (49) claims the prefix and the fraction is ignored (the collector list reads the same text with its
format 42: 900 ms); `2019-01-02 12:00:00 trailing` and `x2019-01-02 12:00:00` are accepted, the rest of the literal ignored -/
theorem cex_lql_uncovered_text :
    parseLql gcfg lqlFmts fnow wFrac = .abs 49 ⟨2019, 1, 2, 12, 0, 0, 0, .dflt⟩ ∧
    parseFirst gadj colFmts fnow wFrac = .ok 42 ⟨2019, 1, 2, 12, 0, 0, 900000000, .dflt⟩ ∧
    parseLql gcfg lqlFmts fnow wTrail = .abs 49 ⟨2019, 1, 2, 12, 0, 0, 0, .dflt⟩ ∧
    parseLql gcfg lqlFmts fnow wLead = .abs 49 ⟨2019, 1, 2, 12, 0, 0, 0, .dflt⟩ :=
  ⟨tables_lql.2.2.1.1, tables_findings.2.2.2.2.2, tables_lql.2.2.1.2.1, tables_lql.2.2.1.2.2⟩

/-- what a strict reading of the LQL clause demands: an absolute literal that is accepted is matched AS A WHOLE (after the blank
trim) by the expression of the format that claims it — nothing of the literal is left uncovered -/
def C20_lql_strict : Prop :=
  ∀ (now : Now) (txt : Bytes) (j : Nat) (c : Civil), parseLql gcfg lqlFmts now txt = .abs j c →
    ∃ cf r, lqlFmts[j]? = some cf ∧ cf.rx = some r ∧ findG cf.guard r (trimBlanks txt) = some (trimBlanks txt)

theorem wTrail_facts :
    (lqlFmts[49]?.bind (fun cf => cf.rx.bind (fun r => findG cf.guard r (trimBlanks wTrail)))) = some wCore ∧
    trimBlanks wTrail ≠ wCore := by decide +kernel

/-- **the strict LQL clause is false on the current code** (F-C05-901): `2019-01-02 12:00:00 trailing` is accepted although the
claiming format's expression covers only the first 19 bytes -/
theorem C20_lql_strict_fails : ¬ C20_lql_strict := by
  intro h
  obtain ⟨cf, r, hcf, hr, hf⟩ := h fnow wTrail 49 _ cex_lql_uncovered_text.2.2.1
  obtain ⟨e, hne⟩ := wTrail_facts
  rw [hcf] at e
  simp only [Option.bind_some, hr, hf, Option.some.injEq] at e
  exact hne e

end Logrange.Props.C20

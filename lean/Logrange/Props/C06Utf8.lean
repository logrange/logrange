import Logrange.Proofs.TIndexUtf8
import Logrange.Props.C04Callers
/-!
# C06 — the code as it is after fix a7918dd (UTF-8 guard on creation), and FROM down to the set of opened journals

Part 1. `getOrCreateJournal` refuses a call that may create when the canonical line of the set is not valid UTF-8
(regenerated fact `Generated.C06.utf8GuardOnCreate`; model `TIndexUtf8.getOrCreateU`, `codeStep` = the step with the facts of
the tree). The guard changes nothing when it fires, so the invariant and the identity theorems of `Props/C06.lean` carry over to
the guarded step; what is new: every key created under the guard is valid UTF-8 (so `encoding/json` stores it unchanged —
C07's `jsanitize_valid`), the fast path and look-ups without creation are untouched.

Part 2. **FROM selects exactly the matches, or the query fails** — one statement from the tag-expression evaluator to the set
of journals a query opens: `tindex.Visit` (model `TIndexId.visit`, = filter by the reference evaluator) feeds
`partition.Service.GetJournals` (b-c04's model `MixTree.getJournals`: visit loop with the cursor's limit, read-only import),
whose error reaches the statement through the caller chain (C04's regenerated facts) — and, on the producer side, the visitor
closure's error reaches `GetJournals`' caller (fact `getJournalsVisitorErrorReachesCaller`: not shadowed).
-/
namespace Logrange.Props.C06Utf8
open Go Logrange.KV Logrange.Tags Logrange.TagsEval Logrange.TIndexId Logrange.TIndexUtf8 Logrange.Proofs.TIndexUtf8
  Logrange.Proofs.TIndexId Logrange.Proofs.TIndexRun

/-! ## Part 1: the UTF-8 guard -/

/-- the guard is in the code, in the shape the model has (`create && !utf8.ValidString(line)`, before the look-up of the line) -/
theorem utf8_guard_fact : Logrange.Generated.C06.utf8GuardOnCreate = true := by decide

/-- the step of the code as it is: refuse on invalid UTF-8 when the call may create, otherwise the unguarded step -/
theorem code_step_decomp (s : St) (raw : Bytes) (create : Bool) :
    codeStep s raw create =
      if utf8Rejects s raw create then (s, .badUtf8)
      else ((getOrCreate s raw create).1, .res (getOrCreate s raw create).2) := by
  unfold codeStep getOrCreateU
  have h1 : Logrange.Generated.C06.utf8GuardOnCreate = true := by decide
  have h2 : Logrange.TIndexGuard.codeGuard = false := by decide
  simp [h1, h2]

/-- the invariant of `tindex_map_inv` for the code with the guard (any guard facts, any history) -/
theorem tindex_map_inv_code (u g : Bool) (ops : List (Bytes × Bool)) : TInv (runU u g {} ops) :=
  tinv_runU u g {} ops tinv_init

/-- **every key the guarded index creates is valid UTF-8** (what is written to `tindex.dat` is read back under the same key) -/
theorem created_keys_valid_utf8 (g : Bool) (ops : List (Bytes × Bool)) :
    ∀ e ∈ (runU true g {} ops).tmap, validLine e.1 = true :=
  kinv_runU g {} ops (fun e he => by cases he)

/-- **no key created under the guard changes across a restart**: `encoding/json`'s `Unmarshal ∘ Marshal` on a Go string
(`Registry.jsanitize`, the model C19/C07 validate against the real codec: escapes of `<`, `>`, `&`, U+2028/9 decode back, invalid
bytes become U+FFFD) is the identity on it — the JSON side of "persisted index keys parse back" (F-C07-901 closed by a7918dd) -/
theorem created_keys_survive_json (g : Bool) (ops : List (Bytes × Bool)) :
    ∀ e ∈ (runU true g {} ops).tmap, Logrange.Registry.jsanitize e.1 = e.1 :=
  fun e he => Logrange.Proofs.KeyJson.valid_key_json_stable e.1 (created_keys_valid_utf8 g ops e he)

/-- **refused exactly when it would create under a non-UTF-8 line**: a text that is not a key already and parses to a
non-empty set `m`, in a call that may create, is refused iff `line m` is not valid UTF-8 -/
theorem utf8_refused_iff (g : Bool) (s : St) (raw : Bytes) (m : Map) (hl : lookup s.tmap raw = none)
    (hp : parse raw = some m) (hne : m ≠ []) :
    (getOrCreateU true g s raw true).2 = .badUtf8 ↔ validLine (line m) = false := by
  have h3 : m.isEmpty = false := by cases m with | nil => exact absurd rfl hne | cons _ _ => rfl
  have hr : utf8Rejects s raw true = !validLine (line m) := by
    unfold utf8Rejects; simp [hl, hp, h3]
  unfold getOrCreateU
  cases hv : validLine (line m) with
  | true =>
    simp only [hr, hv, Bool.not_true, Bool.and_false, Bool.false_eq_true, if_false]
    constructor
    · intro e; split at e <;> cases e
    · intro e; cases e
  | false => simp [hr, hv]

/-- **still found when it exists**: the raw-text fast path … -/
theorem existing_found_by_its_line (u g : Bool) (s : St) (raw : Bytes) (create : Bool) (td : Desc)
    (h : lookup s.tmap raw = some td) (hg : g = false) : getOrCreateU u g s raw create = (s, .res (.ok td.src)) := by
  subst hg
  exact stepU_hit u false s raw create td h

/-- … and a look-up without creation (`GetJournal`) are what they were -/
theorem lookup_without_create_unchanged (u : Bool) (s : St) (raw : Bytes) :
    getOrCreateU u false s raw false = ((getOrCreate s raw false).1, .res (getOrCreate s raw false).2) := by
  unfold getOrCreateU utf8Rejects
  simp

/-- **Same partition iff same set, for the code with the guard**: two Safe non-empty sets with valid UTF-8 lines -/
theorem same_partition_iff_code (u : Bool) (s : St) (hinv : TInv s) (hsafe : SafeSt s) (t1 t2 : Bytes) (m1 m2 : Map)
    (hp1 : parse t1 = some m1) (hp2 : parse t2 = some m2) (hne1 : m1 ≠ []) (hne2 : m2 ≠ [])
    (hs1 : safe m1 = true) (hs2 : safe m2 = true) (hu1 : validLine (line m1) = true) (hu2 : validLine (line m2) = true) :
    ∃ i j, (getOrCreateU u false s t1 true).2 = .res (.ok i) ∧
      (getOrCreateU u false (getOrCreateU u false s t1 true).1 t2 true).2 = .res (.ok j) ∧ (i = j ↔ m1 = m2) := by
  obtain ⟨i, j, h1, h2, h3⟩ := Logrange.Proofs.TIndexId.same_partition_iff Logrange.Proofs.Quote.quoteContract s hinv hsafe
    t1 t2 m1 m2 hp1 hp2 hne1 hne2 hs1 hs2
  have e1 : getOrCreateU u false s t1 true = ((getOrCreate s t1 true).1, .res (getOrCreate s t1 true).2) := by
    unfold getOrCreateU; simp [utf8Rejects_valid s t1 true m1 hp1 hu1]
  have e2 : getOrCreateU u false (getOrCreate s t1 true).1 t2 true =
      ((getOrCreate (getOrCreate s t1 true).1 t2 true).1, .res (getOrCreate (getOrCreate s t1 true).1 t2 true).2) := by
    unfold getOrCreateU; simp [utf8Rejects_valid _ t2 true m2 hp2 hu2]
  exact ⟨i, j, by rw [e1]; simp [h1], by rw [e1]; simp only; rw [e2]; simp [h2], h3⟩

/-- non-vacuity: `a=<0xff>` is refused on create; `a=é` (valid) is accepted -/
example : (codeStep {} [97, 61, 255] true).2 = .badUtf8 ∧ (codeStep {} [97, 61, 0xC3, 0xA9] true).2 = .res (.ok 0) ∧
    (codeStep {} [97, 61, 255] false).2 = .res .notFound := by decide +kernel

/-! ## Part 2: FROM → Visit → GetJournals → the query -/

/-- the visitor closure of `GetJournals` hands its failures to the enclosing function (not shadowed) -/
theorem visitor_error_reaches_caller : Logrange.Generated.C06.getJournalsVisitorErrorReachesCaller = true := by decide

/-- a descriptor of the tag index as a partition of the merge model: on an index satisfying `TInv` the journal id identifies
the tag line (keys distinct ⇔ ids distinct) -/
def toPart (d : Desc) : Logrange.MixTree.Part := ⟨d.src, d.src⟩

/-- the partitions whose tags satisfy the reference meaning of the source -/
def matching (so : StrOps) (s : St) (src : Source) : List Desc :=
  (s.tmap.map (·.2)).filter (fun d => evalTagsRef so src d.tags == some true)

theorem visit_eq_matching (so : StrOps) (s : St) (src : Source) (f : Map → Bool) (hb : buildSource so src = some f) :
    visit so s src = some (matching so s src) := by
  unfold visit matching
  rw [hb]
  have := (Logrange.Proofs.TagsEval.tags_eval_correct so src).1 f hb
  simp only [Option.some.injEq]
  apply List.filter_congr
  intro d _
  rw [this d.tags]
  cases f d.tags <;> simp

/-- **FROM selects exactly the matches, or the query fails.** For an index satisfying the invariant and any source
(`{tags}`, expression, empty): a source the builder rejects fails the statement; otherwise `Visit` hands `GetJournals` exactly the
partitions whose tags satisfy the reference meaning of the source, and the query either merges exactly those (fewer than the
cursor's limit) or answers an error (limit reached) — never a part of them. -/
theorem from_selects_exactly_or_fails (so : StrOps) (s : St) (hinv : TInv s) (src : Source) (rd : Logrange.MixTree.Readers) :
    (buildSource so src = none → visit so s src = none) ∧
    (∀ f, buildSource so src = some f →
      visit so s src = some (matching so s src) ∧
      (Logrange.Generated.C04.mergeLimit ≤ (matching so s src).length →
        Logrange.Props.C04Callers.queryMergeSet ((matching so s src).map toPart) rd = none) ∧
      ((matching so s src).length < Logrange.Generated.C04.mergeLimit →
        Logrange.Props.C04Callers.queryMergeSet ((matching so s src).map toPart) rd = some ((matching so s src).map toPart))) := by
  refine ⟨fun hb => by unfold visit; rw [hb], ?_⟩
  intro f hb
  have hnd : (((matching so s src).map toPart).map (·.line)).Nodup := by
    have h1 : ((matching so s src).map toPart).map (·.line) = (matching so s src).map (·.src) := by
      simp [toPart, List.map_map, Function.comp_def]
    rw [h1]
    have h2 : ((s.tmap.map (·.2)).map (·.src)).Nodup := by
      simpa [List.map_map, Function.comp_def] using hinv.2.2
    exact (List.Sublist.map _ (List.filter_sublist)).nodup h2
  obtain ⟨a, b⟩ := Logrange.Props.C04Callers.too_many_partitions_fail_the_query ((matching so s src).map toPart) rd hnd
  refine ⟨visit_eq_matching so s src f hb, ?_, ?_⟩
  · intro h; exact a (by simpa using h)
  · intro h; exact b (by simpa using h)

end Logrange.Props.C06Utf8

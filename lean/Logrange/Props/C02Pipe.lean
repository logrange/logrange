import Logrange.Proofs.PipeHist
/-!
# C02 — end to end ON THE PIPELINE MODEL (the model the driver runs and the harness compares with the code)

`Props/C02.lean` proves the range property at the Points level (flat point list per chunk) and, separately, that the
block tree answers like the flat list. This file threads them through ONE statement about the executable pipeline model:
`CIndex.onWrite` / `CIndex.rebuild` on the inductive block tree `ITree` (any depth, 41 records per block — regenerated),
`RangedIter.rebuildStatuses` (= `syncChunks` + `updatePoss` through `CIndex.grEqAns/lessAns`), the forward scan as a fold
over the chunk statuses and the `fitInRange` re-check (`PipeRead.absScan` — the value the driver compares with the
stateful iterator `RangedIter.scan` and, through it, with the real iterator on every scan).

The former run-time links "Points-level partition model = pipeline chunk index" and "flat rebuild = rebuilt tree" are
theorems here (`pipeline_refines_points`, `rebuilt_tree_eq_flat_rebuild`); they stay tests in the driver as well.
What remains a run-time link: `RangedIter.scan` (the stateful `JIterator` stepping with cached statuses, chunk-iterator
clamping and fuel) = `PipeRead.absScan` — checked on every scan (driver field `abs`); the stepping itself is proved
on the abstract scan (`scan_is_fold_over_chunks`) and, for the `Rd*` iterator models, under the contract
`chunk_window_sound` exported below.

Regenerated facts consumed (all through the models): `sparseSpace`, `bigGapFactor`, `maxRecsPerBlock`, `onWriteSkipIsStrictLess`,
`onWriteSkipsLateNotification`, `onWriteRecsNeverDecrease`, `staleDropOnlyForSnapshotEntries`, `syncChunksDropsStaleEntries`,
`rebuildSegmentIsStrictLess`, `rebuildSegmentMaxInit`, `updatePossOpensUnknownTail`, `lowerAskMinusOne`, `fitLower/UpperInclusive`.
-/
namespace Logrange.Props.C02Pipe
open Logrange Logrange.Points Logrange.PipeHist

/-! ## the three refinement steps -/

/-- **tree_window_eq_points_window**: for an index entry of the pipeline model that stands for a Points-level entry
(`RefChk`: same hull, `Recs`, `lastRec`, `corrupted`; well-formed tree whose level-0 records are the point list — at any
depth), the window `RangedIter.updatePoss` computes through the tree look-ups is the Points-level `window`, whenever the
entry accounts for every confirmed record (`count ≤ Recs`). -/
theorem tree_window_eq_points_window {x : CIndex.Chk} {c : ChunkHist.ChunkIdx} (h : RefChk x c) (s : RangedIter.St)
    (cid : Nat) (st : Selector.ChkSt) (hf : CIndex.findChk s.cidx (cid / 10) = some x) (hcnt : st.count ≤ x.recs) :
    ((RangedIter.updatePoss s cid st).1.minPos, (RangedIter.updatePoss s cid st).1.maxPos) =
        window ⟨x.minTs, x.maxTs⟩ (ChunkHist.idxOf c) ⟨s.rmin, s.rmax⟩ ∧
      (RangedIter.updatePoss s cid st).1.count = st.count :=
  window_eq h s cid st hf hcnt

/-- **onWrite_tree_refines_points**: one `OnWrite` notification (positions `c.n … c.n+k-1`, hull `[mn, mx]` as the write
loop reports it: `RollHull`) on the partition's last chunk: `CIndex.onWrite` — hull merge, `Recs`, late-notification /
sparse skip, big-gap corruption, `ckindex.addInterval` on the block tree — changes only that entry, and the new entry
stands for `ChunkHist.onWrite` of the old one. Hypotheses: the old entry is sound (`SoundL`), the data monotone, the
positions fit uint32. `ITree.add` never fails here (`tree_append_refines`). -/
theorem onWrite_tree_refines_points {tsOf : Nat → Int} {xs : List CIndex.Chk} {x : CIndex.Chk} {c : ChunkHist.ChunkIdx}
    (h : RefChk x c) (hs : RebuildHist.SoundL tsOf c) (k : Nat) (mn mx : Int) (hk : 0 < k)
    (hm : Monotone tsOf (c.n + k)) (he : RebuildHist.RollHull tsOf c.n k mn mx) (hn : c.n + k - 1 ≤ 4294967295) :
    ∃ x', (CIndex.onWrite ⟨xs ++ [x]⟩ c.n (c.n + k - 1) x.id mn mx).1.chunks = xs ++ [x'] ∧ x'.id = x.id ∧
      RefChk x' (ChunkHist.onWrite CIndex.sparseSpace CIndex.bigGap c k mn mx) :=
  chunk_ref_step h hs k mn mx hk hm he hn

/-- **rebuilt_tree_eq_flat_rebuild**: `rebuildIndexInt` over the first `m > 0` records of monotone int64 data
(`CIndex.rebuildIntWith`: root interval, segments of `sparseSpace` records written at their exclusive end through
`ckindex.addInterval`) never fails, gives a well-formed tree whose level-0 records are exactly the flat rebuild
`RebuildHist.rebuildPts` (the list `rebuild_sound` is about) and reports the scanned hull. -/
theorem rebuilt_tree_eq_flat_rebuild {tsOf : Nat → Int} {m : Nat} (hm0 : 0 < m) (hmono : Monotone tsOf m)
    (hlow : ∀ q, q < m → minI64 ≤ tsOf q) (hhi : ∀ q, q < m → tsOf q ≤ RebuildHist.maxI64) :
    ∃ tr, CIndex.rebuildInt ((List.range m).map tsOf) =
        (some tr, (RebuildHist.scannedHull ((List.range m).map tsOf)).minTs,
          (RebuildHist.scannedHull ((List.range m).map tsOf)).maxTs) ∧
      ITree.WF ITree.maxRecs tr ∧
      ITree.points tr = RebuildHist.rebuildPts CIndex.sparseSpace Generated.C02.rebuildSegmentMaxInit ((List.range m).map tsOf) := by
  have f : Generated.C02.rebuildSegmentMaxInit = minI64 := by decide
  obtain ⟨tr, e1, e2, e3, _⟩ := rebuildInt_ref (segMax0 := Generated.C02.rebuildSegmentMaxInit) hm0 hmono
    (by rw [f]; exact hlow) hhi
  exact ⟨tr, e1, e2, e3⟩

/-! ## whole histories -/

/-- **pipeline_refines_points**: after EVERY history of `Service.Write` calls (any batching, any split of a call over
chunks: `HistOK` only says that pieces are non-empty and that only the first piece of a call continues the last chunk)
and index rebuilds (any chunk, any prefix length, at any point of the history) whose records are monotone non-decreasing
int64 timestamps in stored order, with chunks of at most 2^32 − 1 records: the pipeline state stands, chunk by chunk, for
the Points-level partition `absRun evs` (`Ref`: ids dense, `RefChk` per chunk, same records), and that partition is sound
(`PartInv`: `SoundL` per chunk). This replaces the driver's run-time comparisons `PARTHIST-DIFFERS` / `flat-differs`. -/
theorem pipeline_refines_points (evs : List Ev) (hs : (allTs evs).Pairwise (· ≤ ·))
    (hb : ∀ t ∈ allTs evs, minI64 ≤ t ∧ t ≤ RebuildHist.maxI64) (hok : HistOK {} evs)
    (hsmall : ∀ l ∈ (run evs).tss, l.length ≤ 4294967295) :
    Ref (run evs) (absRun evs) ∧ PartHist.PartInv (absRun evs) :=
  ⟨(run_sound evs hs hb hok hsmall).1, (run_sound evs hs hb hok hsmall).2.1⟩

/-- **range_eq_filter_pipeline** — C02 on monotone data, end to end on the pipeline model. For every such history and
EVERY range `[rmin, rmax]` the ranged read of the pipeline state — `rebuildChunkStatuses` (`syncChunks`, then `updatePoss`
per chunk through hull, `Recs` and the block tree), `getPosForward`/`Get`/`Next`/`advanceChunk` as a fold over the chunk
statuses, `fitInRange` — is EXACTLY the filter of the unbounded read: the positions (chunk, index) of all records with
`rmin ≤ ts ≤ rmax`, in stored order; and the journal holds the history's records in order. -/
theorem range_eq_filter_pipeline (evs : List Ev) (hs : (allTs evs).Pairwise (· ≤ ·))
    (hb : ∀ t ∈ allTs evs, minI64 ≤ t ∧ t ≤ RebuildHist.maxI64) (hok : HistOK {} evs)
    (hsmall : ∀ l ∈ (run evs).tss, l.length ≤ 4294967295) (rmin rmax : Int) :
    read (run evs) rmin rmax =
        (fullRead (run evs).tss 0).filter (fun kq => decide (rmin ≤ tsAt (run evs).tss kq ∧ tsAt (run evs).tss kq ≤ rmax)) ∧
      (run evs).tss.flatten = allTs evs :=
  run_read_eq_filter evs hs hb hok hsmall rmin rmax

/-- **chunk_window_sound** — the contract the iterator-stepping proofs (`Rd*` family, C03/C16) assume about the index
side. After every history as above, for every chunk `k` (journal id `(k + 1) * 10`), every range and WHATEVER status the
selector held for the chunk before (`cs`: any old window, any confirmed count `cs.count` — smaller, equal or larger than
what the index has been told about): the window `updatePoss` gives contains the position of every record of the chunk
with `rmin ≤ ts ≤ rmax`. Covered cases: hull + tree present (any depth); index missing (`corrupted`, or no tree yet /
rebuilt from nothing); index rebuilt from any confirmed prefix at any time; unknown tail (`cs.count > Recs` ⇒ the whole
chunk is open). Not covered: non-monotone data (F04/F24), entries loaded from a snapshot (see
`stale_snapshot_entry_window_complete`), notifications that overtake each other (see `C02.late_notification_skip_sound`). -/
theorem chunk_window_sound (evs : List Ev) (hs : (allTs evs).Pairwise (· ≤ ·))
    (hb : ∀ t ∈ allTs evs, minI64 ≤ t ∧ t ≤ RebuildHist.maxI64) (hok : HistOK {} evs)
    (hsmall : ∀ l ∈ (run evs).tss, l.length ≤ 4294967295) (rmin rmax : Int) (k : Nat) (cs : Selector.ChkSt) (q : Nat)
    (hq : q < ((run evs).tss.getD k []).length)
    (hr : rmin ≤ tsAt (run evs).tss (k, q) ∧ tsAt (run evs).tss (k, q) ≤ rmax) :
    (RangedIter.updatePoss (toSt (run evs) rmin rmax) ((k + 1) * 10) cs).1.minPos ≤ q ∧
      q ≤ (RangedIter.updatePoss (toSt (run evs) rmin rmax) ((k + 1) * 10) cs).1.maxPos :=
  run_chunk_window evs hs hb hok hsmall rmin rmax k cs q hq hr

/-! ## non-vacuity: a history with a roll-over, a rebuild of a prefix and a continued chunk -/

/-- call 1 fills chunk 1 and rolls over into chunk 2; chunk 1 is rebuilt from its first two records; call 2 continues
chunk 2 and opens chunk 3; chunk 2 is rebuilt completely; a rebuild of a chunk that does not exist is a no-op -/
def hist : List Ev :=
  [.call [⟨true, [1, 2, 3]⟩, ⟨true, [4, 5]⟩], .rebuild 0 2, .call [⟨false, [6]⟩, ⟨true, [7, 8]⟩], .rebuild 1 9, .rebuild 7 1]

theorem hist_ok : HistOK {} hist := by
  refine ⟨⟨by decide, by decide, ?_⟩, ⟨by decide, by decide, ?_⟩, trivial⟩ <;> intro q hq <;> simp at hq <;> subst hq <;> decide

example : (run hist).tss = [[1, 2, 3], [4, 5, 6], [7, 8]] := by decide +kernel

example : (run hist).cidx.chunks.map (fun c => (c.id, c.minTs, c.maxTs, c.recs)) = [(1, 1, 3, 3), (2, 1, 6, 3), (3, 6, 8, 2)] ∧
    (run hist).cidx.chunks.map (fun c => (c.lastRec, c.corrupted)) = [(0, false), (0, false), (1, false)] ∧
    (run hist).cidx.chunks.map (fun c => c.root.map ITree.points) =
      [some [⟨1, 0⟩, ⟨1, 0⟩, ⟨2, 2⟩], some [⟨4, 0⟩, ⟨4, 0⟩, ⟨6, 3⟩], some [⟨6, 0⟩, ⟨8, 1⟩]] := by
  refine ⟨by decide +kernel, by decide +kernel, by decide +kernel⟩

example : read (run hist) 3 6 = [(0, 2), (1, 0), (1, 1), (1, 2)] := by decide +kernel

example (rmin rmax : Int) :
    read (run hist) rmin rmax =
      (fullRead (run hist).tss 0).filter (fun kq => decide (rmin ≤ tsAt (run hist).tss kq ∧ tsAt (run hist).tss kq ≤ rmax)) :=
  (range_eq_filter_pipeline hist (by decide) (by decide) hist_ok (by decide) rmin rmax).1


/-! ## concurrent writers: every delivery order of the write notifications (repair f6d29cf), and what it does not cover -/

open Logrange.Reorder in
/-- **reordered_notifications_sound** — `Service.Write` notifies the index after the chunk's write lock is gone, so the
notifications of the batches of one chunk can reach `cindex.onWrite` in ANY order. For a new chunk `cid` holding `n ≤ 2^32`
monotone records and EVERY list `ds` of notifications of pairwise disjoint batches of it (`NoteOk`: positions inside the
chunk, hull = first and last record, or the over-wide minimum of a rolled-over call on the chunk's first batch) — any
subset of the stored batches, in any order, i.e. every reachable state of the delivery LTS:
`CIndex.onWrite` (block tree) changes only the chunk's entry, the entry stands for the Points-level `Reorder.deliver ds`
(`RefChk`: `ITree.add` never fails, tree points = flat list), and that entry's index — when not dropped — is `LookupSound`
for ALL `n` stored records: both look-ups are sound at every moment, whatever has been announced so far; the hull covers
every announced batch; `Recs` is at least every announced batch's end (`Inv`). No rebuild runs in between (see
`cex_late_notification_after_rebuild`). -/
theorem reordered_notifications_sound {tsOf : Nat → Int} {n : Nat} (hm : Monotone tsOf n) (hn : n ≤ 4294967296)
    (xs : List CIndex.Chk) (cid : Nat) (hx : ∀ l, xs.getLast? = some l → l.id ≠ cid) (ds : List Note) (hne : ds ≠ [])
    (hok : ∀ b ∈ ds, NoteOk tsOf n b) (hp : ds.Pairwise Disj) :
    ∃ x ds', (deliverC cid ⟨xs⟩ ds).chunks = xs ++ [x] ∧ x.id = cid ∧
      RefChk x (deliver CIndex.sparseSpace CIndex.bigGap ds) ∧ (∀ b, b ∈ ds' ↔ b ∈ ds) ∧
      Inv tsOf n ds' (deliver CIndex.sparseSpace CIndex.bigGap ds) ∧
      ((deliver CIndex.sparseSpace CIndex.bigGap ds).corrupted = false →
        RebuildHist.LookupSound tsOf n (deliver CIndex.sparseSpace CIndex.bigGap ds).pts) := by
  obtain ⟨x, ds', h1, h2, h3, h4, h5⟩ := deliverC_new hm hn xs cid hx ds hne hok hp
  refine ⟨x, ds', h1, h2, h3, h4, h5, ?_⟩
  intro hc
  exact lookupSound_of_curve hm (fun p hp' => ⟨(h5.curve hc p hp').1, (h5.curve hc p hp').2.2⟩)

open Logrange.Reorder in
/-- **reordered_notifications_window_complete** — once every stored record has been announced (`hcov`), in whatever
order: every window over the resulting entry contains every in-range position (`n ≤ 2^32 − 1`). With
`tree_window_eq_points_window` (through the `RefChk` of `reordered_notifications_sound`) this is the window the pipeline
computes on the tree. -/
theorem reordered_notifications_window_complete {tsOf : Nat → Int} {n : Nat} (hm : Monotone tsOf n) (hn : n ≤ 4294967295)
    (ds : List Note) (hne : ds ≠ []) (hok : ∀ b ∈ ds, NoteOk tsOf n b) (hp : ds.Pairwise Disj)
    (hcov : ∀ q, q < n → ∃ b ∈ ds, b.f ≤ q ∧ q ≤ b.l) (r : TmRange) (p : Nat) (hpn : p < n) (hr : inRange r (tsOf p)) :
    ∃ h, (deliver CIndex.sparseSpace CIndex.bigGap ds).hull = some h ∧
      inWindow (window h (ChunkHist.idxOf (deliver CIndex.sparseSpace CIndex.bigGap ds)) r) p := by
  obtain ⟨_, ds', _, _, _, h4, h5, h6⟩ := reordered_notifications_sound hm (by omega) [] 1 (by simp) ds hne hok hp
  obtain ⟨b0, hb0, _⟩ := hcov p hpn
  obtain ⟨h, hh, _, _⟩ := h5.hullCov b0 ((h4 b0).mpr hb0)
  refine ⟨h, hh, ?_⟩
  apply RebuildHist.window_complete_of_lookup h _ r ?_ ?_ hn (h5.hullLow h hh) p hpn hr
  · intro q hq
    obtain ⟨b, hb, q1, q2⟩ := hcov q hq
    obtain ⟨h', hh', c1, c2⟩ := h5.hullCov b ((h4 b).mpr hb)
    rw [hh] at hh'
    simp only [Option.some.injEq] at hh'
    subst hh'
    obtain ⟨hfl, hln, hmx, hmn, _⟩ := hok b hb
    have a1 := hm b.f q q1 hq
    have a2 := hm q b.l q2 hln
    rcases hmn with e | ⟨e1, e2⟩
    · constructor <;> omega
    · have := hm 0 q (Nat.zero_le _) hq
      constructor <;> omega
  · intro pts hpts
    obtain ⟨hc, e⟩ := ChunkHist.idxOf_eq_some hpts
    rw [← e]; exact h6 hc

/-- four batches of 300 records (ts = 1000 + position) of one chunk announced in the order A, D, B, C — B and C late -/
def reorderNotes : List Reorder.Note := [⟨0, 299, 1000, 1299⟩, ⟨900, 1199, 1900, 2199⟩, ⟨300, 599, 1300, 1599⟩, ⟨600, 899, 1600, 1899⟩]

example : (deliverC 1 {} reorderNotes).chunks.map (fun c => (c.id, c.minTs, c.maxTs, c.recs, c.lastRec)) = [(1, 1000, 2199, 1200, 1199)] ∧
    (deliverC 1 {} reorderNotes).chunks.map (fun c => c.root.map ITree.points) = [some [⟨1000, 0⟩, ⟨1299, 299⟩, ⟨2199, 1199⟩]] ∧
    (Reorder.deliver CIndex.sparseSpace CIndex.bigGap reorderNotes).pts = [⟨1000, 0⟩, ⟨1299, 299⟩, ⟨2199, 1199⟩] := by
  refine ⟨by decide +kernel, by decide +kernel, by decide +kernel⟩

/-- **cex_late_notification_after_rebuild** (open finding F-C02-901): the repair f6d29cf recognises a late notification
by `lastRec <= last.lastRec` guarded with `last.lastRec > 0` — but `rebuildIndex` resets `lastRec` to 0. Batches A
(0…299), B (300…599), C (600…899), ts = 1000 + position, all stored; A and C announced; the chunk's index is rebuilt from
the 900 confirmed records; THEN B's notification arrives: it is not recognised as late, `addInterval` merges it into the
rebuilt tree, the last point becomes (1899, 599) — C's maximum at B's last position — and, `Recs` being 900 already, the
window of `RANGE [1600:1610]` ends at position 599: the in-range records 600…610 are hidden at once. Monotone data.
Stated for both shapes of the code (regenerated fact `onWriteLateByRecs`; false on the current tree): with the proposed
repair the late notification leaves the rebuilt tree alone and the same look-up answers 750. -/
theorem cex_late_notification_after_rebuild :
    let w (s : CIndex.St) (a b : Nat) : CIndex.St := (CIndex.onWrite s a b 1 (1000 + a) (1000 + b)).1
    let s2 := CIndex.rebuild (w (w {} 0 299) 600 899) 1 ((List.range 900).map (fun (q : Nat) => (1000 : Int) + q))
    CIndex.points s2 1 = "1000:0,1000:0,1249:250,1499:500,1749:750,1899:900" ∧
    CIndex.points (w s2 300 599) 1 =
      (if Generated.C02.onWriteLateByRecs then "1000:0,1000:0,1249:250,1499:500,1749:750,1899:900" else "1000:0,1000:0,1249:250,1899:599") ∧
    (CIndex.findChk (w s2 300 599) 1).map (fun c => (c.recs, c.lastRec)) = some (900, if Generated.C02.onWriteLateByRecs then 0 else 599) ∧
    CIndex.lessAns (w s2 300 599) 1 1610 = .ok (if Generated.C02.onWriteLateByRecs then 750 else 599) := by
  decide +kernel


/-! ## paging from a position inside a window, backward entry -/

/-- **scan_from_mid_window**: a cursor that starts at `(chunk k, index pIdx)` — what a page boundary leaves: the new cursor's
`getPosForward` enters the chunk at `pIdx`, `checkPosOrAdvance` corrects it to the window — delivers the positions of that
chunk's window at or behind `pIdx`, then the windows of the chunks that follow. -/
theorem scan_from_mid_window (st : Selector.ChkSt) (rest : List Selector.ChkSt) (pIdx fuel k : Nat) (hf : rest.length + 2 ≤ fuel) :
    PartScan.scan fuel (st :: rest) pIdx k =
      ((PartScan.windowPositions st).filter (fun p => decide (pIdx ≤ p))).map (fun p => (k, p)) ++
        PartScan.journalPositions rest (k + 1) :=
  PartScan.scan_mid_eq st rest pIdx fuel k hf

/-- **resume_read_eq_filter**: with complete windows (`chunk_window_sound` / `allComplete_of_partInv`) a ranged read resumed
at `(k, pIdx)` delivers exactly the in-range records at or behind that position: nothing is lost or repeated at a page
boundary, wherever in a window it falls. -/
theorem resume_read_eq_filter (ts : Nat → Nat → Int) (c : PartScan.ChunkMeta) (rest : List PartScan.ChunkMeta) (r : TmRange)
    (pIdx k : Nat) (hall : PartScan.AllComplete ts (c :: rest) k) :
    (PartScan.scan (rest.length + 2) ((c :: rest).map (PartScan.statusOf r)) pIdx k).filter
        (fun kp => RangedIter.fitInRange r.minTs r.maxTs (ts kp.1 kp.2)) =
      (PartScan.fullFrom (c :: rest) pIdx k).filter (fun kp => decide (inRange r (ts kp.1 kp.2))) :=
  PartScan.resume_read_eq_filter ts c rest r pIdx k hall

example : PartScan.scan 5 [⟨2, 7, 10⟩, ⟨0, 4294967295, 3⟩] 5 0 = [(0, 5), (0, 6), (0, 7), (1, 0), (1, 1), (1, 2)] ∧
    PartScan.scan 5 [⟨2, 7, 10⟩, ⟨0, 4294967295, 3⟩] 9 0 = [(1, 0), (1, 1), (1, 2)] := by decide +kernel

/-- **backward_entry_covers**: a backward reader (`getPosBackward` → `checkPosOrReduce`) enters a chunk whose window
contains the position `q` at `min pIdx (min maxPos (count − 1))`: accepted, inside the window and — when it comes from a
later chunk (`pIdx` = MaxUint32) or from a position at or behind `q` — at or behind `q`. With `chunk_window_sound` (every
in-range record's position is inside the window) no in-range record lies behind the backward entry point: the upper side
(`less`) of the window is as sound for backward reading as the lower side (`grEq`) is for forward reading. -/
theorem backward_entry_covers (st : Selector.ChkSt) (pIdx q : Nat) (h1 : st.minPos ≤ q) (h2 : q ≤ st.maxPos)
    (h3 : q < st.count) (hc : st.count ≤ 4294967296) :
    Selector.checkReduce st pIdx = (min pIdx (min st.maxPos (st.count - 1)),
        decide (st.minPos ≤ min pIdx (min st.maxPos (st.count - 1)))) ∧
      (q ≤ pIdx → (Selector.checkReduce st pIdx).2 = true ∧ q ≤ (Selector.checkReduce st pIdx).1 ∧
        (Selector.checkReduce st pIdx).1 ≤ st.maxPos) :=
  PartScan.checkReduce_covers st pIdx q h1 h2 h3 hc

example : Selector.checkReduce ⟨2, 7, 10⟩ 4294967295 = (7, true) ∧ Selector.checkReduce ⟨2, 4294967295, 10⟩ 4294967295 = (9, true) := by decide +kernel


/-- **late_notification_after_rebuild_is_skipped** (fix 817f0cf, was finding F-C02-901): one-sided obligation on the regenerated
facts — `onWrite` decides "late" by `Recs` as it was before the notification, `rebuildIndex` raises `Recs` to what it scanned — and
the former counterexample on the repaired branch: B's notification after the rebuild leaves the rebuilt tree alone and the
look-up for 1610 answers 750. (Since 3e8b3c3 `Service.Write` also serialises the writers of a partition, so the reordering is
no longer reachable through it; the index-level statement stands on its own.) -/
theorem late_notification_after_rebuild_is_skipped :
    Generated.C02.onWriteLateByRecs = true ∧ Generated.C02.rebuildRaisesRecs = true ∧
    (let w (s : CIndex.St) (a b : Nat) : CIndex.St := (CIndex.onWrite s a b 1 (1000 + a) (1000 + b)).1
     let s2 := CIndex.rebuild (w (w {} 0 299) 600 899) 1 ((List.range 900).map (fun (q : Nat) => (1000 : Int) + q))
     CIndex.points (w s2 300 599) 1 = "1000:0,1000:0,1249:250,1499:500,1749:750,1899:900" ∧
     CIndex.lessAns (w s2 300 599) 1 1610 = .ok 750) :=
  -- `onWriteLateByRecs` holds, so the `if`s of `cex_late_notification_after_rebuild` take their first branch
  ⟨rfl, rfl, cex_late_notification_after_rebuild.2.1, cex_late_notification_after_rebuild.2.2.2⟩


/-! ## lightFill scans every record (fix 3cb83a3, was the second half of finding #4) -/

/-- a journal of one chunk the index does not know, holding 1005, 1100, 1001, 1007 (the crash-image witness of the former
finding: first/last record give [1005, 1007]) -/
def unknownChunkSt : RangedIter.St := { cks := #[⟨10, 4⟩], tss := #[#[1005, 1100, 1001, 1007]], cidx := {} }

/-- **lightFill_hull_covers_all_records** (fix 3cb83a3): obligation on the regenerated fact — `lightFill` reads EVERY record of a
chunk the index does not know —, the hull it derives contains every record whatever their order (minimum / maximum fold),
and the former witness on the repaired branch: the chunk 1005, 1100, 1001, 1007 gets the hull [1001, 1100] with `Recs = 4`, so
`RANGE [1100:1100]` no longer excludes it. With this, every way a chunk's hull comes about (`onWrite`: merge of exact batch
hulls; `rebuildIndex`: scan; `lightFill`: scan) is exact or over-wide on ANY data: a loss behind a too narrow hull is never the
open finding #4 (driver field `hullbad`). -/
theorem lightFill_hull_covers_all_records :
    Generated.C02.lightFillScansAllRecords = true ∧
    (∀ (a : Int) (l : List Int), ∀ x ∈ a :: l, (a :: l).foldl min a ≤ x ∧ x ≤ (a :: l).foldl max a) ∧
    (RangedIter.syncChunks unknownChunkSt).cidx.chunks.map (fun c => (c.id, c.minTs, c.maxTs, c.recs)) = [(1, 1001, 1100, 4)] := by
  refine ⟨by decide, ?_, by decide⟩
  intro a l x hx
  exact (PipeHist.foldl_min_max_bounds (a :: l) a a).2.2 x hx

end Logrange.Props.C02Pipe

import Logrange.Proofs.RdMergeNJournal
import Logrange.Proofs.RdFilterPaging
import Logrange.Proofs.RdRngWin
/-!
# C03 — paging over a merged cursor of ANY number of partitions; the ranged iterator as a lawful mixer source

Property theorems only. The mixer tree is C04's model (`Logrange.Mixer.It`, `Logrange.MixTree.build` = the pairwise reduction
of `newCursor`; read-only import) with its proved semantics (`It.view` = nested `mergeSpec` in the shape of the tree,
`It.get_spec/next_spec/release_spec`, i.e. `mixer_refines_merge` applied at every node). The leaves are the journal iterator
models of C03/C16: `JSrc` (library iterator, C04's `Proofs/MixerJournal.lean`) and `RSrc` (ranged iterator,
`Proofs/RdRngSource.lean`). Chains of pages (`MergeN.pagesN`): page = read loop (`Get`, emit, `Next`, ≤ limit times) +
commit (`Get`, export every leaf's position, `Release`); per page the held cursor continues (`false`) or `newCursor` builds
a new tree over fresh iterators placed at the exported positions (`true`). Journals fixed; no filter above the tree.
-/
namespace Logrange.Props.C03Merged
open Logrange.Mixer Logrange.MixTree Logrange.MergeN Logrange.Rd LawfulSource

def GoodJournal (j : Journal) : Prop := Sorted j ∧ PosIds j ∧ bw_ChunkBound j

/-- **the ranged journal iterator (`partition.JIterator` under `LogEventIterator`) meets C04's leaf contract** in both
directions: `Get` = head of its stream and keeps it, `Next` = tail, `Release` keeps it, every operation keeps well-formedness.
The stream (`view`) is the list of records the chunk windows admit from the iterator's position on (backward: at or before
it, reversed). The instance is `Logrange.Mixer.RSrc.instLawfulRSrc`; every theorem of `Props/C04.lean` stated for a
`LawfulSource` applies to trees over `RSrc`. -/
theorem ranged_iterator_lawful (s : RSrc) (h : GoodJournal s.j) (hw : RWF s.j s.it) :
    (Source.get s).2 = (view s).head? ∧ view (Source.get s).1 = view s ∧
    view (Source.next s) = (view s).tail ∧ view (Source.release s) = view s ∧
    wf (Source.get s).1 ∧ wf (Source.next s) ∧ wf (Source.release s) ∧ ∀ bk, wf (Source.setBackward bk s) := by
  have w : wf s := ⟨h.1, h.2.1, h.2.2, hw⟩
  obtain ⟨g1, g2, g3, _, _⟩ := LawfulSource.get_spec s w
  obtain ⟨n1, n2, _⟩ := LawfulSource.next_spec s w trivial
  obtain ⟨r1, r2, _, _⟩ := LawfulSource.release_spec s w
  exact ⟨g1, g2, n1, r1, g3, n2, r2, fun bk => (LawfulSource.setBackward_spec bk s w).1⟩

/-- **paging_n_partitions** (un-ranged, unfiltered): for every `n ≥ 1`, every order and content of the partitions (any
chunking, empty chunks, empty journals, timestamp ties across partitions), every list of limits and every per-page choice:
the concatenated pages are the first Σ limits events of the merged stream of the cursor `newCursor` builds — and that
stream is a permutation of all stored events with every partition in stored order (each event exactly once). -/
theorem paging_n_partitions (srcs : List JSrc) (hne : srcs ≠ []) (hg : ∀ s ∈ srcs, GoodJournal s.j ∧ s.it = {})
    (steps : List (Bool × Nat)) :
    ∃ t, build srcs = some t ∧
      (pagesN refreshJ t steps).flatten = t.view.take (steps.map (·.2)).sum ∧
      t.view.Perm (srcs.flatMap JSrc.all) ∧ (∀ s ∈ srcs, s.all.Sublist t.view) := by
  obtain ⟨t, ht, hinv, hperm, hsub⟩ := built_J srcs hne hg
  exact ⟨t, ht, pagesN_spec PJ refreshJ pj_get pj_next pj_release pj_refresh steps t hinv, hperm, hsub⟩

/-- **paging_n_partitions with RANGE**, below the range re-check: the same for a cursor whose leaves are ranged iterators —
the merged stream is a permutation of the events the chunk windows ADMIT (`RSrc.all`; under window soundness these contain
every in-range event, `Props/C03Ranged.lean`), every partition in stored order. The `fiterator` above the tree (range
re-check, WHERE) is not part of this statement. -/
theorem paging_n_partitions_ranged (srcs : List RSrc) (hne : srcs ≠ []) (hg : ∀ s ∈ srcs, GoodJournal s.j ∧ s.it = {})
    (steps : List (Bool × Nat)) :
    ∃ t, build srcs = some t ∧
      (pagesN refreshR t steps).flatten = t.view.take (steps.map (·.2)).sum ∧
      t.view.Perm (srcs.flatMap RSrc.all) ∧ (∀ s ∈ srcs, s.all.Sublist t.view) := by
  obtain ⟨t, ht, hinv, hperm, hsub⟩ := built_R srcs hne hg
  exact ⟨t, ht, pagesN_spec PR refreshR pr_get pr_next pr_release pr_refresh steps t hinv, hperm, hsub⟩

/-- **`fiterator` is a transformer of lawful sources**: over any lawful iterator (a mixer tree, a single partition) the
`fiterator` (`Get` skip loop, `Next`, `Release`, `SetBackward` dropping its cache) is again a lawful source whose stream is the
FILTER of the stream below (`Logrange.MergeN.FSrc.instLawfulFSrc`, `Proofs/RdFilterSrc.lean`). `Next` needs a preceding `Get`. -/
theorem fiterator_lawful {σ : Type} [Source σ] [LawfulSource σ] (f : FSrc σ) (h : wf f) :
    (Source.get f).2 = ((view f.inner).filter f.p).head? ∧ view (Source.get f).1 = (view f.inner).filter f.p ∧
    view (Source.next (Source.get f).1) = ((view f.inner).filter f.p).tail ∧
    view (Source.release f) = (view f.inner).filter f.p ∧ wf (Source.get f).1 ∧ ∀ bk, wf (Source.setBackward bk f) := by
  obtain ⟨g1, g2, g3, _, g5⟩ := LawfulSource.get_spec f h
  obtain ⟨n1, _, _⟩ := LawfulSource.next_spec _ g3 g5
  obtain ⟨r1, _, _, _⟩ := LawfulSource.release_spec f h
  exact ⟨g1, g2, by rw [n1, g2]; rfl, r1, g3, fun bk => (LawfulSource.setBackward_spec bk f h).1⟩

/-- **paging_n_partitions with WHERE** (un-ranged): the cursor is the `fiterator` (filter `p` on events) above the mixer tree
over any number of partitions; per page the held cursor continues or a new `fiterator` over a new tree over fresh iterators
at the exported positions is built. The concatenated pages are the first Σ limits events of the filtered merged stream,
which is a permutation of all stored events that pass the filter. -/
theorem paging_n_partitions_filtered (srcs : List JSrc) (hne : srcs ≠ []) (hg : ∀ s ∈ srcs, GoodJournal s.j ∧ s.it = {})
    (p : Ev → Bool) (steps : List (Bool × Nat)) :
    ∃ t, build srcs = some t ∧
      (pagesS (refreshF refreshJ) (⟨t, p, false, none⟩ : FSrc (It JSrc)) steps).flatten =
        (t.view.filter p).take (steps.map (·.2)).sum ∧
      (t.view.filter p).Perm ((srcs.flatMap JSrc.all).filter p) := by
  obtain ⟨t, ht, hinv, hperm, _⟩ := built_J srcs hne hg
  exact ⟨t, ht, pagesF_spec PJ refreshJ pj_get pj_next pj_release pj_refresh steps _
    ⟨hinv, hinv.1, by intro h; cases h⟩, hperm.filter p⟩

/-- **paging_n_partitions with RANGE (and WHERE)**: ranged iterators as leaves, the `fiterator` with the range re-check above
the tree. Under window soundness for the filter (`WinSoundF`: every stored record whose event passes `p` lies inside its
chunk's window — for `p` = "timestamp in the range, and WHERE" this is `WinSound`, C02's subject) the filtered merged stream
is a permutation of all STORED events that pass the filter. -/
theorem paging_n_partitions_ranged_filtered (srcs : List RSrc) (hne : srcs ≠ [])
    (hg : ∀ s ∈ srcs, GoodJournal s.j ∧ s.it = {}) (p : Ev → Bool)
    (hw : ∀ s ∈ srcs, WinSoundF s.j (fun r => p (s.ev r))) (steps : List (Bool × Nat)) :
    ∃ t, build srcs = some t ∧
      (pagesS (refreshF refreshR) (⟨t, p, false, none⟩ : FSrc (It RSrc)) steps).flatten =
        (t.view.filter p).take (steps.map (·.2)).sum ∧
      (t.view.filter p).Perm ((srcs.flatMap (fun s => (flat s.j).map s.ev)).filter p) := by
  have h2 : (srcs.flatMap RSrc.all).filter p = (srcs.flatMap (fun s => (flat s.j).map s.ev)).filter p := by
    clear hne hg
    induction srcs with
    | nil => rfl
    | cons s rest ih =>
      simp only [List.flatMap_cons, List.filter_append]
      rw [ih (fun x hx => hw x (List.mem_cons_of_mem _ hx))]
      congr 1
      have := rwn_filter_wflat (hw s (List.mem_cons_self ..))
      simp only [RSrc.all, List.filter_map]
      rw [show (p ∘ s.ev) = (fun r => p (s.ev r)) from rfl, this]
  obtain ⟨t, ht, hinv, hperm, _⟩ := built_R srcs hne hg
  exact ⟨t, ht, pagesF_spec PR refreshR pr_get pr_next pr_release pr_refresh steps _
    ⟨hinv, hinv.1, by intro h; cases h⟩, h2 ▸ hperm.filter p⟩

/-- **event content across pagings**: every event of every page is a stored record of one of the partitions, delivered
unchanged — its timestamp, its payload identity (`lbl`: message and fields are one opaque payload in the model) and the tag
line of the partition it is stored in. (One partition: `paging`/`paging_ranged` are equalities of lists of whole records.) -/
theorem paged_event_content (srcs : List JSrc) (hne : srcs ≠ []) (hg : ∀ s ∈ srcs, GoodJournal s.j ∧ s.it = {})
    (steps : List (Bool × Nat)) (t : It JSrc) (ht : build srcs = some t) :
    ∀ e ∈ (pagesN refreshJ t steps).flatten, ∃ s ∈ srcs, ∃ r ∈ flat s.j, e = ⟨r.ts, r.lbl, s.tags⟩ := by
  obtain ⟨t', ht', hpg, hperm, _⟩ := paging_n_partitions srcs hne hg steps
  rw [ht] at ht'; cases ht'
  intro e he
  rw [hpg] at he
  have h1 : e ∈ srcs.flatMap JSrc.all := hperm.mem_iff.mp (List.mem_of_mem_take he)
  obtain ⟨s, hs, hes⟩ := List.mem_flatMap.mp h1
  simp only [JSrc.all, List.mem_map] at hes
  obtain ⟨r, hr, rfl⟩ := hes
  exact ⟨s, hs, r, hr, rfl⟩

-- non-vacuity: three partitions (a nested mixer), one with two chunks of which one is empty, ties across partitions
example : ∃ srcs : List JSrc, srcs.length = 3 ∧ (∀ s ∈ srcs, GoodJournal s.j ∧ s.it = {}) ∧ srcs.flatMap JSrc.all ≠ [] :=
  ⟨[⟨1, [⟨10, [⟨0, 1, true⟩, ⟨1, 2, true⟩], 0, 4294967295⟩, ⟨11, [], 0, 4294967295⟩], {}⟩,
    ⟨2, [⟨7, [⟨0, 2, true⟩], 0, 4294967295⟩], {}⟩, ⟨3, [⟨5, [⟨0, 2, true⟩, ⟨1, 3, true⟩], 0, 4294967295⟩], {}⟩], rfl,
    by simp [GoodJournal, Rd.Sorted, Rd.PosIds, Rd.bw_ChunkBound, Rd.Chunk.cnt, Rd.maxU32],
    by simp [JSrc.all, Rd.flat, JSrc.ev]⟩

end Logrange.Props.C03Merged

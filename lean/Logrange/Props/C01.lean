import Logrange.Proofs.WriteServe
import Logrange.Proofs.WritersLts
import Logrange.Proofs.JIterObsRefine
/-!
# C01 — Acknowledged writes are read back intact, exactly once, in write order

Property theorems only (lemmas: `Logrange/Proofs/WireRT.lean`, `Logrange/Proofs/WriteLoopM.lean`, `Logrange/Proofs/WriteServe.lean`; models:
`Logrange/Model/{WireRT,JournalW,WriteLoopM,WritersLts}.lean`). Every theorem here is an obligation of the C01 check.
-/
namespace Logrange.Props.C01
open Go Logrange.WireRT Logrange.JournalW Logrange.WriteLoopM

/-! ## the record codec -/

/-- **A stored record decodes to the event that was written**: for every 64-bit timestamp, all message bytes and
all (binary) fields, `Unmarshal(Marshal(e))` on a released event gives `e` and consumes exactly the record. -/
theorem event_roundtrip (e : Event) (h : e.WF) :
    Event.unmarshal [] e.marshal = .ok (e.marshal.length, e) :=
  unmarshal_marshal_released e h

/-- the quirk behind `LogEventIterator.Next`'s `Release`: unmarshalling a record *without* fields into an event that
still holds fields keeps the old fields -/
theorem event_unmarshal_keeps_stale_fields (e : Event) (prev : Bytes) (h : e.WF) (hf : e.fields = []) :
    Event.unmarshal prev e.marshal = .ok (e.marshal.length, ⟨e.ts, e.msg, prev⟩) := by
  have := unmarshal_marshal e prev [] h
  simp only [List.append_nil] at this
  rw [this]; simp [hf]

example : (⟨5, ofAscii "hi\x00", [1, 107, 1, 118]⟩ : Event).WF := by
  refine ⟨?_, ?_, ?_⟩ <;> simp [two64, Small, two63, ofAscii]

/-! ## the RPC write packet -/

/-- **The server decodes exactly what the client encoded**: for every tag text, every write-level field text the
parser accepts, every list of fewer than 2³² events (any timestamps, any message bytes incl. empty, any per-event tag and
field text), draining the server-side iterator over the client's packet yields the tags and, per event, the same
timestamp and message and the fields `wpIterator.Get` builds (`storedModel`). `parseKV` — the field text parser — is
arbitrary. If `init` validates the packet first (regenerated fact; proposed repair of F20b/F20c) the events' own field texts must
parse — otherwise the packet is rejected (`repaired_init_rejects`). -/
theorem packet_roundtrip (parseKV : Bytes → Option Bytes) (tags flds wf : Bytes) (evs : List WEvent)
    (ht : Small tags) (hf : Small flds) (hp : parseKV flds = some wf) (hn : evs.length < two32)
    (hwf : ∀ e ∈ evs, e.WF)
    (hval : Generated.C01.wpInitValidatesEvents = true → ∀ e ∈ evs, (parseKV e.fields).isSome) :
    wpDrain parseKV (wpEncode tags flds evs) = .ok (tags, evs.map (storedModel parseKV wf)) := by
  obtain ⟨it, hi, h1, h2, h3, h4, h5, h6⟩ := wpInit_encode parseKV tags flds wf evs ht hf hp hn hwf hval
  have hlen : evs.length < (wpEncode tags flds evs).length + 1 := by
    have := encodeEvents_length_ge evs
    simp only [wpEncode, List.length_append]
    omega
  simp only [wpDrain, hi, wpLoop_encode parseKV evs it _ h6 h3 (by rw [h5, h4, Nat.zero_add]) hlen hwf, h1, h2]

/-- **The bytes sent are the bytes built** — the premise under which the wire theorems speak about what a client receives: in
`api/rpc` no pooled buffer is used after its release (statement order, regenerated from the AST of `ServerQuerier.query` and
the `rc.Collect` sites): whatever another handler does with the pool, the page on the wire is the page the query loop built.
Moving `qr.Close()` in front of `SendResponse` flips the fact and breaks this obligation. -/
theorem response_bytes_are_built_bytes (built : Bytes) (env : Bytes → Bytes) : responseOnWire built env = built := by
  have h : Generated.C01.pooledBuffersReleasedAfterLastUse = true := by decide
  simp [responseOnWire, h]

/-- the regenerated facts about `Fields.Concat` and `wpIterator.Get` put the write-level fields first -/
theorem wpFields_eq (wf ef : Bytes) : wpFields wf ef = wf ++ ef := wpFields_eq' wf ef

/-- **… and that is what the property demands when every event's field text parses**: same timestamp, same message,
write-level fields followed by the event's own fields (`storedSpec`). -/
theorem packet_roundtrip_spec (parseKV : Bytes → Option Bytes) (tags flds wf : Bytes) (evs : List WEvent)
    (ht : Small tags) (hf : Small flds) (hp : parseKV flds = some wf) (hn : evs.length < two32)
    (hwf : ∀ e ∈ evs, e.WF) (hok : ∀ e ∈ evs, (parseKV e.fields).isSome) :
    ∃ es, wpDrain parseKV (wpEncode tags flds evs) = .ok (tags, es) ∧ evs.map (storedSpec parseKV wf) = es.map some := by
  refine ⟨_, packet_roundtrip parseKV tags flds wf evs ht hf hp hn hwf (fun _ => hok), ?_⟩
  rw [List.map_map]
  apply List.map_congr_left
  intro e he
  have := hok e he
  cases hpe : parseKV e.fields with
  | none => simp [hpe] at this
  | some ef => simp [storedSpec, storedModel, hpe, wpFields_eq]

example : wpDrain (fun t => if t = ofAscii "w=1" then some [1, 119, 1, 49] else if t = [] then some [] else none)
    (wpEncode (ofAscii "a=b") (ofAscii "w=1") [⟨1, ofAscii "m", [], []⟩, ⟨2, [], [], []⟩])
      = .ok (ofAscii "a=b", [⟨1, ofAscii "m", [1, 119, 1, 49]⟩, ⟨2, [], [1, 119, 1, 49]⟩]) := by decide +kernel

/-! ## the write loop -/

/-- **Every acknowledged batch is appended exactly once, in order, and announced exactly**: for every
`maxChunkSize ≥ 1`, every journal (empty, last chunk with room, last chunk full — so every alignment of the batch with
a chunk roll-over), every batch (any length incl. 0, any record sizes) `Service.Write` succeeds and
* the stored record sequence becomes the old one followed by the batch (nothing lost, duplicated, reordered; old
  records untouched);
* the positions of the stored records become the old ones followed by exactly the positions the `OnWrite`
  notifications announce, in order — so the notifications cover exactly the batch's records;
* `WriteEvent.StartPos` is the position of the batch's first record and `EndPos` is one past its last record
  (no event for an empty batch);
* every `OnWrite` notification carries the `iwrapper` hull of ALL records of the batch handed out up to the last record
  it announces (`CallsHull`; by `iwrapper_hull_exact` that hull is their exact minimum and maximum timestamp — the hull
  is never reset, so a later chunk's notification also covers the batch's earlier records). -/
theorem write_appends (maxChunk : Nat) (hm : 1 ≤ maxChunk) (j : Journal) (batch : List Rec) :
    let r := serviceWrite maxChunk j batch
    r.2.err = false ∧
    readAll r.1 = readAll j ++ batch.map (·.data) ∧
    positions r.1 = positions j ++ callPositions r.2.calls ∧
    (callPositions r.2.calls).length = batch.length ∧
    r.2.start = (callPositions r.2.calls).head? ∧
    r.2.endp = (callPositions r.2.calls).getLast?.map after ∧
    CallsHull [] batch r.2.calls := by
  intro r
  obtain ⟨e1, e2, nc, e3, e4, e5, e6⟩ := serviceWrite_spec maxChunk hm j batch
  obtain ⟨nc', f1, f2⟩ := serviceWriteLoop_hull maxChunk hm (batch.length + 1) j batch {} {} [] (Nat.lt_succ_self _)
    (fun _ _ _ => rfl)
  have hc : r.2.calls = nc := e3.trans (List.nil_append nc)
  have hc' : r.2.calls = nc' := f1.trans (List.nil_append nc')
  have hlen := congrArg List.length e4
  rw [positions_length, e2, List.length_append, List.length_append, positions_length, List.length_map] at hlen
  rw [hc]
  exact ⟨e1, e2, e4, (Nat.add_left_cancel hlen).symm, e5, by rw [e6]; exact Option.or_none, hc.symm.trans hc' ▸ f2⟩

example : (serviceWrite 20 [⟨[[1], [2]], 30⟩] [⟨5, [7, 7]⟩, ⟨0, [8]⟩, ⟨9, List.replicate 20 1⟩, ⟨1, [9]⟩]).2.calls.length = 2 := by decide +kernel

/-- **Acknowledged ⇒ every event of the batch was handed to a chunk, whatever fails**: in an environment where ANY iteration's
`jrnl.Write` may fail with nothing written (`faultAt`: the next chunk cannot be created — descriptors exhausted, directory
gone —, the context or the chunk is closed; at the first iteration or after the head of the batch already went into earlier
chunks), for every `maxChunkSize ≥ 1`, journal, batch and fault pattern: `Service.Write` stores a PREFIX of the batch after the
old records, in order, and **if it returns no error the prefix is the whole batch**. Consumes the regenerated fact about the
guard `if err1 != nil { if n <= 0 { err = … }; break }` (`writeErrGuardIsNLeZero`): with the guard `!weInit` the error of an
iteration that follows a partial write is dropped and this theorem breaks. (`journal.Write` never returns `n > 0` together
with an error — it returns `nil` as soon as something was written — so the model's failing call has `n = 0`.) -/
theorem acknowledged_write_is_complete_under_faults (faultAt : Nat → Journal → Bool) (maxChunk : Nat) (hm : 1 ≤ maxChunk)
    (j : Journal) (batch : List Rec) :
    let r := serviceWriteF faultAt maxChunk j batch
    (∃ k, k ≤ batch.length ∧ readAll r.1 = readAll j ++ (batch.take k).map (·.data)) ∧
    (r.2.err = false → readAll r.1 = readAll j ++ batch.map (·.data)) := by
  intro r
  have hg : Generated.C01.writeErrGuardIsNLeZero = true := by decide
  obtain ⟨k, hk, h1, h2⟩ := serviceWriteLoopF_spec faultAt maxChunk hm hg (batch.length + 1) 0 j batch {} {} (by omega) rfl
  refine ⟨⟨k, hk, h1⟩, fun he => ?_⟩
  have hk' := h2 he
  rw [hk', List.take_length] at h1
  exact h1

/-- non-vacuity: the context is cancelled while the second record is fetched; two records fit the chunk, the third needs a
new chunk, whose creation fails: an error is returned and the stored prefix has two records. Without a fault the same batch
is acknowledged and stored completely. -/
example : (serviceWriteF (faultCancelAt 1) 20 [] [⟨1, [1, 1, 1, 1, 1, 1]⟩, ⟨2, [2, 2, 2, 2, 2, 2]⟩, ⟨3, [3]⟩]).2.err = true ∧
    readAll (serviceWriteF (faultCancelAt 1) 20 [] [⟨1, [1, 1, 1, 1, 1, 1]⟩, ⟨2, [2, 2, 2, 2, 2, 2]⟩, ⟨3, [3]⟩]).1
      = [[1, 1, 1, 1, 1, 1], [2, 2, 2, 2, 2, 2]] ∧
    (serviceWriteF (fun _ _ => false) 20 [] [⟨1, [1, 1, 1, 1, 1, 1]⟩, ⟨2, [2, 2, 2, 2, 2, 2]⟩, ⟨3, [3]⟩]).2.err = false := by
  decide +kernel

/-- **Acknowledged ⇒ read back, also across a graceful restart**: for every chunk size, journal, batch and every number
`durable` of records that were already flushed when the stop began (0 for a brand-new partition whose first write is still in
the chunk writer's buffer): after an acknowledged `Service.Write`, a graceful stop (`partition.Service.Shutdown`) and a restart
on the same directory, the partition holds the old records followed by the whole batch. Consumes the regenerated fact
`shutdownSyncsEveryJournal`: a `Sync()` that is skipped for some journals (e.g. under `Count() > 0`, which counts confirmed
records only) breaks it. -/
theorem acknowledged_survives_graceful_restart (maxChunk : Nat) (hm : 1 ≤ maxChunk) (j : Journal) (batch : List Rec)
    (durable : Nat) :
    let r := serviceWrite maxChunk j batch
    r.2.err = false ∧ readAll (gracefulRestart r.1 durable) = readAll j ++ batch.map (·.data) := by
  intro r
  have hf : Generated.C01.shutdownSyncsEveryJournal = true := by decide
  obtain ⟨e1, e2, _⟩ := write_appends maxChunk hm j batch
  exact ⟨e1, by simp only [gracefulRestart, hf, ↓reduceIte]; exact e2⟩

/-- non-vacuity (and what the other shape would lose): a new partition, two records still buffered -/
example : readAll (gracefulRestart (serviceWrite 100 [] [⟨1, [1]⟩, ⟨2, [2]⟩]).1 0) = [[1], [2]] ∧
    readAll (truncJournal 0 (serviceWrite 100 [] [⟨1, [1]⟩, ⟨2, [2]⟩]).1) = [] := by decide +kernel

/-- **The timestamp hull `iwrapper` reports is exact** (after /repo commit 6624754; regenerated fact
`iwrapperUnsetIsFlag`): after handing out the records `r :: rs` — in this order, each possibly several times (`see_idem`) —
since its creation (`resetMinMaxTs` is never called: regenerated fact `writeLoopResetsHull = false`), `minTs`/`maxTs` are the
smallest/largest timestamp handed out, for every batch, including timestamps 0 and negative ones. -/
theorem iwrapper_hull_exact (r : Rec) (rs : List Rec) :
    let w := (r :: rs).foldl IW.see {}
    w.tsSet = true ∧ (∀ x ∈ r :: rs, w.minTs ≤ x.ts ∧ x.ts ≤ w.maxTs) ∧
      (∃ x ∈ r :: rs, x.ts = w.minTs) ∧ (∃ x ∈ r :: rs, x.ts = w.maxTs) := by
  exact fold_exact rs (({} : IW).see r) [r] (see_first {} r rfl)

/-- … in the vocabulary of `write_appends`: the hull a notification carries (`hullOf` of a non-empty prefix of the batch)
is that prefix's exact minimum and maximum timestamp -/
theorem notification_hull_exact (r : Rec) (rs : List Rec) :
    (∀ x ∈ r :: rs, (hullOf (r :: rs)).minTs ≤ x.ts ∧ x.ts ≤ (hullOf (r :: rs)).maxTs) ∧
    (∃ x ∈ r :: rs, x.ts = (hullOf (r :: rs)).minTs) ∧ (∃ x ∈ r :: rs, x.ts = (hullOf (r :: rs)).maxTs) :=
  (iwrapper_hull_exact r rs).2

/-- handing a record out twice (`Get` without `Next`, the peek at the end of each `Service.Write` iteration) is harmless -/
theorem iwrapper_see_idempotent (w : IW) (r : Rec) : (w.see r).see r = w.see r := see_idem w r

example : ([⟨5, []⟩, ⟨0, []⟩, ⟨-3, []⟩, ⟨0, []⟩] : List Rec).foldl IW.see {} = ⟨-3, 5, true⟩ := by decide +kernel

/-- the hull is never reset inside `Service.Write` (so the hull announced for a later chunk of one batch also covers the
batch's earlier records — wider than needed, never narrower) -/
theorem hull_not_reset_in_write_loop : Generated.C01.writeLoopResetsHull = false := by decide

/-! ## "a write the server cannot serve back must be rejected, not acknowledged" -/

/-- The clause at full strength: whatever request body the server **acknowledges** (`serveWriteSized … = some`: `ServerIngestor.write`
with the record-size limit it knows), over any
readable partition, (a) the partition afterwards reads back as the old events followed by the acknowledged ones, and
(b) the acknowledged events are what the strict decoder (`wpDrainStrict`: complete packet, every field text parses,
write-level fields before own fields) gives for that body. -/
def C01_full : Prop :=
  ∀ (parseKV : Bytes → Option Bytes) (maxChunk maxRec : Nat) (j j' : Journal) (body : Bytes) (es old : List Event),
    1 ≤ maxChunk → readEvents maxRec j = some old → serveWriteSized parseKV maxChunk maxRec j body = some (j', es) →
    readEvents maxRec j' = some (old ++ es) ∧ ∃ tags, wpDrainStrict parseKV body = some (tags, es)

/-- what the repaired `init` (regenerated fact `wpInitValidatesEvents = true`, /repo c6bbc14) guarantees of every iterator it
hands out: the strict decoder accepts the events area -/
theorem wpInit_ok_validated (parseKV : Bytes → Option Bytes) (body : Bytes) (it : WpIter)
    (h : wpInit parseKV body = .ok it) :
    ∃ es, strictLoop parseKV it.flds it.recs it.rest = some es ∧ it.read = false ∧ it.cur = 0 ∧
      it.rest.length ≤ body.length := by
  have hf : Generated.C01.wpInitValidatesEvents = true := by decide
  unfold wpInit at h
  simp only [hf, ↓reduceIte] at h
  repeat' split at h
  all_goals first
    | (simp at h; done)
    | (simp only [Out.ok.injEq] at h; subst h; exact ⟨_, ‹_›, rfl, rfl, by simp only [List.length_drop]; omega⟩)

/-- **Whatever packet the server accepts is a strictly well-formed packet, and the events it stores are the ones the strict
decoder yields** — for EVERY request body (truncated, corrupted, any field text) and every field parser: a packet with fewer
events than announced, or with an event whose own field text does not parse, is never drained (former findings F20b/F20c). -/
theorem acked_packet_is_strict (parseKV : Bytes → Option Bytes) (body tags : Bytes) (es : List Event)
    (h : wpDrain parseKV body = .ok (tags, es)) : wpDrainStrict parseKV body = some (tags, es) := by
  unfold wpDrain at h
  cases hi : wpInit parseKV body with
  | err => simp [hi] at h
  | panic => simp [hi] at h
  | ok it =>
    obtain ⟨es', hs, hr, hc, hl⟩ := wpInit_ok_validated parseKV body it hi
    have hn := strictLoop_len parseKV it.flds it.recs it.rest es' hs
    have hloop := strict_implies_loop parseKV it.recs it es' (body.length + 1) hs hr (by omega) (by omega)
    simp only [hi, hloop, Out.ok.injEq, Prod.mk.injEq] at h
    simp only [wpDrainStrict, hi, hs, Option.map_some, h.1, h.2]

/-- **Acknowledged ⇒ servable and faithful, outside the three open classes** (finding #20): for a *complete* client
packet (class ii excluded) whose per-event field texts all parse (class iii excluded) and whose records fit
`maxRecordSize` (class i excluded), the server acknowledges, the partition then reads back as the old events followed
by the batch — every chunk size, every alignment, every batch size — and the stored events are exactly what the strict
decoder demands. -/
theorem ackd_implies_servable_partial (parseKV : Bytes → Option Bytes) (maxChunk maxRec : Nat) (j : Journal)
    (old : List Event) (tags flds wf : Bytes) (evs : List WEvent)
    (hm : 1 ≤ maxChunk) (hold : readEvents maxRec j = some old)
    (ht : Small tags) (hf : Small flds) (hp : parseKV flds = some wf) (hn : evs.length < two32)
    (hwf : ∀ e ∈ evs, e.WF)
    (hok : ∀ e ∈ evs, (parseKV e.fields).isSome)
    (hfit : ∀ e ∈ evs, (storedModel parseKV wf e).WF ∧ (storedModel parseKV wf e).marshal.length ≤ maxRec) :
    ∃ j', serveWrite parseKV maxChunk j (wpEncode tags flds evs) = some (j', evs.map (storedModel parseKV wf)) ∧
      readEvents maxRec j' = some (old ++ evs.map (storedModel parseKV wf)) ∧
      wpDrainStrict parseKV (wpEncode tags flds evs) = some (tags, evs.map (storedModel parseKV wf)) := by
  have hd := packet_roundtrip parseKV tags flds wf evs ht hf hp hn hwf (fun _ => hok)
  have hfit' : ∀ e ∈ evs.map (storedModel parseKV wf), e.WF ∧ e.marshal.length ≤ maxRec := by
    intro e he
    obtain ⟨w, hw, rfl⟩ := List.mem_map.mp he
    exact hfit w hw
  exact ⟨_, (serveWrite_eq_some parseKV maxChunk hm j _ _ _).mpr ⟨⟨tags, hd⟩, rfl⟩,
    readEvents_serviceWrite maxChunk maxRec hm j old _ hold hfit', acked_packet_is_strict parseKV _ tags _ hd⟩

/-- lemma form (the unsized model `serveWrite`, records assumed to fit): for EVERY request body the server
acknowledges over a readable partition — provided the records it produces fit `maxRecordSize` —
the partition afterwards reads back as the old events followed by the acknowledged ones (every chunk size, alignment, batch
size), and the acknowledged events are exactly what the strict decoder yields for that body. -/
theorem ackd_implies_servable_fitting (parseKV : Bytes → Option Bytes) (maxChunk maxRec : Nat) (j j' : Journal) (body : Bytes)
    (es old : List Event) (hm : 1 ≤ maxChunk) (hold : readEvents maxRec j = some old)
    (hack : serveWrite parseKV maxChunk j body = some (j', es))
    (hfit : ∀ e ∈ es, e.WF ∧ e.marshal.length ≤ maxRec) :
    readEvents maxRec j' = some (old ++ es) ∧ ∃ tags, wpDrainStrict parseKV body = some (tags, es) := by
  obtain ⟨⟨tags, hd⟩, rfl⟩ := (serveWrite_eq_some parseKV maxChunk hm j j' body es).mp hack
  exact ⟨readEvents_serviceWrite maxChunk maxRec hm j old es hold hfit, tags, acked_packet_is_strict parseKV body tags es hd⟩

/-- the parser used by the counterexamples: `w=1`-style texts are irrelevant; only `""` parses -/
def onlyEmpty (t : Bytes) : Option Bytes := if t = [] then some [] else none

/-- **Retired counterexample, class (i)** — a statement about the OTHER branch of the regenerated fact (the code before /repo
e9a3bba, `ingestorChecksRecordSize = false`; vacuous on the current tree, see `repaired_ingestor_rejects_oversize`): a record longer than `maxRecordSize` (15 bytes against 12) is acknowledged
and afterwards the partition — readable before — cannot be read at all. -/
theorem cex_oversize_record_acknowledged : Generated.C01.ingestorChecksRecordSize = false →
    readEvents 12 [] = some [] ∧
    (match serveWriteSized onlyEmpty 100 12 [] (wpEncode [] [] [⟨1, [1, 2, 3, 4, 5], [], []⟩]) with
     | some (j', es) => decide (es = [⟨1, [1, 2, 3, 4, 5], []⟩] ∧ readEvents 12 j' = none)
     | none => false) = true := by decide +kernel

/-- **Regression statement for former finding F20a** (/repo e9a3bba: the validation pass of `wpIterator.init` rejects a packet
holding an event whose record would exceed the chunk reader's maximum record size): the witness packet is rejected as a whole —
also when the oversize event is not the first one —, and a record of exactly the limit is accepted. Unconditional: reverting
the repair flips the regenerated fact `ingestorChecksRecordSize` and breaks this theorem. -/
theorem repaired_ingestor_rejects_oversize :
    serveWriteSized onlyEmpty 100 12 [] (wpEncode [] [] [⟨1, [1, 2, 3, 4, 5], [], []⟩]) = none ∧
    serveWriteSized onlyEmpty 100 12 [] (wpEncode [] [] [⟨7, [9], [], []⟩, ⟨1, [1, 2, 3, 4, 5], [], []⟩]) = none ∧
    (serveWriteSized onlyEmpty 100 12 [] (wpEncode [] [] [⟨1, [1, 2], [], []⟩])).isSome = true := by decide +kernel

/-- **Retired counterexample, class (ii)** — a statement about the OTHER branch of the regenerated fact (the code before
/repo c6bbc14, `wpInitValidatesEvents = false`; vacuous on the current tree, see `repaired_init_rejects`): a request
body cut one byte short of its second event is acknowledged with the first event only; the strict decoder rejects it. -/
theorem cex_truncated_packet_acknowledged : Generated.C01.wpInitValidatesEvents = false →
    let body := (wpEncode [] [] [⟨1, [65], [], []⟩, ⟨2, [66], [], []⟩]).dropLast
    (match serveWrite onlyEmpty 100 [] body with
     | some (_, es) => decide (es = [⟨1, [65], []⟩])
     | none => false) = true ∧ wpDrainStrict onlyEmpty body = none := by decide +kernel

/-- **Retired counterexample, class (iii)** (same proviso, vacuous on the current tree): an event whose field text does not parse is acknowledged and stored
without its fields; the strict decoder rejects the packet. -/
theorem cex_unparsable_fields_dropped : Generated.C01.wpInitValidatesEvents = false →
    let body := wpEncode [] [] [⟨1, [65], [], ofAscii "oops"⟩]
    (match serveWrite onlyEmpty 100 [] body with
     | some (_, es) => decide (es = [⟨1, [65], []⟩])
     | none => false) = true ∧ wpDrainStrict onlyEmpty body = none := by decide +kernel

/-- **Regression statement for former findings F20b/F20c** (/repo c6bbc14: `wpIterator.init` decodes every announced event and
parses its field text before anything is written): the witnesses are rejected as a whole — nothing is stored, not even the
events before the bad one. Unconditional: reverting the repair flips the regenerated fact and breaks this theorem. -/
theorem repaired_init_rejects :
    serveWrite onlyEmpty 100 [] (wpEncode [] [] [⟨1, [65], [], []⟩, ⟨2, [66], [], []⟩]).dropLast = none ∧
    serveWrite onlyEmpty 100 [] (wpEncode [] [] [⟨1, [65], [], ofAscii "oops"⟩]) = none ∧
    serveWrite onlyEmpty 100 [] (wpEncode [] [] [⟨1, [65], [], []⟩, ⟨2, [66], [], ofAscii "oops"⟩]) = none := by decide +kernel

/-- retired with it: on the other branch the full clause fails (vacuous on the current tree; see `C01_full_holds`) -/
theorem not_C01_full : Generated.C01.ingestorChecksRecordSize = false → ¬ C01_full := by
  intro hfact h
  obtain ⟨h2, h1⟩ := cex_oversize_record_acknowledged hfact
  cases hs : serveWriteSized onlyEmpty 100 12 [] (wpEncode [] [] [⟨1, [1, 2, 3, 4, 5], [], []⟩]) with
  | none => simp [hs] at h1
  | some p =>
    obtain ⟨j', es⟩ := p
    simp only [hs, decide_eq_true_eq] at h1
    have := (h onlyEmpty 100 12 [] j' _ es [] (by decide) h2 hs).1
    rw [h1.2] at this
    exact absurd this (by simp)

/-- **The size `init` would check is the size that gets stored**: `LogEvent.WritableSize()` of the event with write-level fields
followed by its own fields — what the proposed check computes — is exactly the length of the record `iwrapper` marshals for
the event `wpIterator.Get` hands over (same fields by `wpFields_eq`; the timestamp has a fixed width). -/
theorem init_size_eq_marshalled_size (parseKV : Bytes → Option Bytes) (wf : Bytes) (e : WEvent) (ef : Bytes)
    (hp : parseKV e.fields = some ef) :
    (⟨e.ts, e.msg, wf ++ ef⟩ : Event).writableSize = (recOf (storedModel parseKV wf e)).data.length := by
  simp [recOf, storedModel, hp, wpFields_eq, writableSize_eq_marshal_length]

/-- **Acknowledged ⇒ servable and faithful — no class excluded** (after /repo c6bbc14 and e9a3bba): for EVERY request body
`ServerIngestor.write` acknowledges over a readable partition, with the record-size limit the readers use (`0 < maxRec`), the
partition afterwards reads back as the old events followed by the acknowledged ones — every chunk size, alignment, batch
size — and the acknowledged events are exactly what the strict decoder yields for that body (complete packet, every field text
parses, write-level fields before own fields). (`e.WF`: the decoded values are Go values — 64-bit timestamp, slices below 2⁶³
bytes.) Scope: the RPC write path; in-process callers of `partition.Service.Write` (the pipe worker) are not covered. -/
theorem ackd_implies_servable (parseKV : Bytes → Option Bytes) (maxChunk maxRec : Nat) (j j' : Journal) (body : Bytes)
    (es old : List Event) (hm : 1 ≤ maxChunk) (hr : 0 < maxRec) (hold : readEvents maxRec j = some old)
    (hack : serveWriteSized parseKV maxChunk maxRec j body = some (j', es))
    (hwf : ∀ e ∈ es, e.WF) :
    readEvents maxRec j' = some (old ++ es) ∧ ∃ tags, wpDrainStrict parseKV body = some (tags, es) := by
  have hfact : Generated.C01.ingestorChecksRecordSize = true := by decide
  unfold serveWriteSized at hack
  split at hack
  · exact absurd hack (by simp)
  · rename_i hrej
    -- none of the acknowledged events was too big, or the packet would have been rejected
    obtain ⟨⟨tags, hd⟩, _⟩ := (serveWrite_eq_some parseKV maxChunk hm j j' body es).mp hack
    have hs := acked_packet_is_strict parseKV body tags es hd
    have hne : (maxRec != 0) = true := by simp; omega
    simp only [sizeRejected, hfact, hne, hs, Bool.true_and, Bool.not_eq_true, Bool.not_eq_false',
      List.all_eq_true, decide_eq_true_eq] at hrej
    exact ackd_implies_servable_fitting parseKV maxChunk maxRec j j' body es old hm hold hack
      (fun e he => ⟨hwf e he, writableSize_eq_marshal_length e ▸ hrej e he⟩)

/-- **The "rejected, not acknowledged" clause now holds of the RPC write path** — `C01_full` for Go values (`e.WF`) and a
positive record-size limit; what remains open for C01 is the reader-side race F34 (library iterator), which this clause is not
about. -/
theorem C01_full_holds (parseKV : Bytes → Option Bytes) (maxChunk maxRec : Nat) (j j' : Journal) (body : Bytes)
    (es old : List Event) (hm : 1 ≤ maxChunk) (hr : 0 < maxRec) (hold : readEvents maxRec j = some old)
    (hack : serveWriteSized parseKV maxChunk maxRec j body = some (j', es)) (hwf : ∀ e ∈ es, e.WF) :
    readEvents maxRec j' = some (old ++ es) ∧ ∃ tags, wpDrainStrict parseKV body = some (tags, es) :=
  ackd_implies_servable parseKV maxChunk maxRec j j' body es old hm hr hold hack hwf

/-- non-vacuity of `ackd_implies_servable_partial`: a two-event packet with write-level and own fields over a
journal whose last chunk is full -/
example : (match serveWrite (fun t => if t = [] then some [] else if t = ofAscii "w=1" then some [1, 119, 1, 49] else if t = ofAscii "k=v" then some [1, 107, 1, 118] else none)
    20 [⟨[[32, 0, 0, 0, 0, 0, 0, 0, 9, 0]], 30⟩] (wpEncode (ofAscii "a=b") (ofAscii "w=1") [⟨1, ofAscii "m", [], ofAscii "k=v"⟩, ⟨2, [], [], []⟩]) with
    | some (j', es) => decide (es = [⟨1, ofAscii "m", [1, 119, 1, 49, 1, 107, 1, 118]⟩, ⟨2, [], [1, 119, 1, 49]⟩] ∧
        readEvents 64 j' = some [⟨9, [], []⟩, ⟨1, ofAscii "m", [1, 119, 1, 49, 1, 107, 1, 118]⟩, ⟨2, [], [1, 119, 1, 49]⟩])
    | none => false) = true := by decide +kernel

/-! ## concurrent writers -/

/-- **Per-writer order and exactly-once under every interleaving**: for any number of writers, any batches, any
`maxChunkSize` and EVERY schedule of the atomic steps (`submit`, `GetChunkForWrite`, one `Chunk.write` call) — so also when a
batch spans a roll-over and is split by other writers' records — the journal filtered by writer `w` is the concatenation of
the batches `w` has submitted, in order, minus exactly the not-yet-written rest of its current batch; once `w` is outside
`Service.Write` (all its batches acknowledged) it is exactly its acknowledged batches in write order. -/
theorem writers_interleave (maxChunk : Nat) (sched : List WritersLts.Label) (w : Nat) :
    let s := WritersLts.run maxChunk {} sched
    WritersLts.byWriter w (WritersLts.readAll s.chunks) ++ (s.loc w).pending = (s.loc w).submitted.flatten ∧
    ((s.loc w).active = false →
      WritersLts.byWriter w (WritersLts.readAll s.chunks) = (s.loc w).submitted.flatten) := by
  intro s
  have h := WritersLts.run_inv maxChunk sched {} WritersLts.init_inv w
  refine ⟨h.stored, fun ha => ?_⟩
  have := h.stored
  rw [h.idle ha, List.append_nil] at this
  exact this

/-- **No duplicates, nothing foreign**: under every schedule each record occurs in the journal exactly as often as its
writer submitted it, not counting the unwritten rest of that writer's current batch. -/
theorem writers_exactly_once (maxChunk : Nat) (sched : List WritersLts.Label) (r : WritersLts.TRec) :
    let s := WritersLts.run maxChunk {} sched
    (WritersLts.readAll s.chunks).count r + ((s.loc r.w).pending).count r = ((s.loc r.w).submitted.flatten).count r := by
  intro s
  have h := (writers_interleave maxChunk sched r.w).1
  have hc : (WritersLts.byWriter r.w (WritersLts.readAll s.chunks)).count r = (WritersLts.readAll s.chunks).count r := by
    unfold WritersLts.byWriter
    rw [List.count_filter]; simp
  rw [← hc, ← List.count_append]
  exact congrArg (List.count r) h

/-- non-vacuity: writer 1's three-record batch spans a roll-over (two records fit a chunk) and writer 2's record lands
between its second and third record; both writers end outside `Service.Write` -/
example :
    let s := WritersLts.run 10 {} [.submit 1 [[1], [2], [3]], .submit 2 [[9]], .getChunk 1, .chunkWrite 1, .getChunk 2,
      .chunkWrite 2, .getChunk 2, .chunkWrite 2, .getChunk 1, .chunkWrite 1]
    s.chunks.map (fun c => c.recs.map (fun r => (r.w, r.data))) = [[(1, [1]), (1, [2])], [(2, [9]), (1, [3])]] ∧
    (s.loc 1).active = false ∧ (s.loc 2).active = false := by decide +kernel

/-! ## a reader at the tail racing a writer (finding #34, library `journal.JIterator`) -/

/-- **Counterexample (F34)**: the new chunk's confirmed count grows from 0 to 150 between the chunk iterator's end-of-data
decision and the `Count()` read the end-of-data position is built from (script `[0, 150]`): the first `Get` reports EOF with
`Pos = (20, 150)` and none of the 150 records is returned by any of the next ten polls — the class predicate `grew` holds. -/
theorem cex_count_grows_between_decision_and_position :
    JIterObs.probe 3 [0, 150] 700 10 = ⟨true, (20, 150), [], true⟩ := by decide +kernel

/-- the same observation one read earlier (script `[150]`) or with both reads of the end-of-data step equal (`[0, 0, 150]`):
every record is delivered, in order (5 records here; the harness runs 150) -/
theorem no_growth_inside_the_step_delivers_all :
    (JIterObs.probe 3 [5] 60 10).delivered = List.range 5 ∧ (JIterObs.probe 3 [5] 60 10).grew = false ∧
    (JIterObs.probe 3 [0, 0, 5] 60 10).delivered = List.range 5 ∧ (JIterObs.probe 3 [0, 0, 5] 60 10).grew = false := by
  simp only [JIterObs.probe_refines]
  decide +kernel

/-- the tail model (on which the next theorem is proved) and the general observation model agree on the scripts of the
counterexamples (the harness compares them with each other and with the real iterator on every script it runs) -/
theorem tail_model_agrees_on_witnesses :
    JIterObs.Tail.probe [0, 150] 700 10 = JIterObs.probe 3 [0, 150] 700 10 ∧
    JIterObs.Tail.probe [0, 0, 0, 2] 60 10 = JIterObs.probe 3 [0, 0, 0, 2] 60 10 ∧
    JIterObs.Tail.probe [0, 1, 1, 3] 60 10 = JIterObs.probe 3 [0, 1, 1, 3] 60 10 :=
  ⟨(JIterObs.probe_refines ..).symm, (JIterObs.probe_refines ..).symm, (JIterObs.probe_refines ..).symm⟩

/-- **No skip when every end-of-data step sees one count**: for a reader on the journal's last chunk, every sequence of
confirmed-count observations that only grows, and any number of `Get`/`Next`/poll steps — if in every end-of-data step the
count the position is built from equals the count the EOF decision was taken against (`c₁ = c₂`: the run is `stable`), then at
every step what the reader has been handed is exactly the first `pos` records of the chunk, in stored order (a prefix of the
stored sequence: nothing skipped, nothing repeated), and its position is that prefix's length. -/
theorem tail_read_no_skip_partial (obs : Nat → Nat) (hm : JIterObs.Tail.Mono obs) (n : Nat) :
    let r := JIterObs.Tail.run obs n {}
    r.stable = true → r.delivered = List.range r.delivered.length ∧ r.s.pos = r.delivered.length := by
  intro r hs
  have h := JIterObs.Tail.run_inv obs hm n {} (JIterObs.Tail.init_inv obs) hs
  exact ⟨h.pre, h.pos⟩

/-- non-vacuity: a count that grows 0 → 1 → 3 *between* steps is stable and the reader gets all three records;
the same growth inside an end-of-data step (`[0, 3]`) is not stable and the reader is left at position 3 with nothing -/
example : let r := JIterObs.Tail.run (JIterObs.Tail.scriptObs [0, 0, 1, 1, 1, 1, 1, 3]) 8 {}
    r.stable = true ∧ r.delivered = [0, 1, 2] := by decide +kernel
example : let r := JIterObs.Tail.run (JIterObs.Tail.scriptObs [0, 3]) 8 {}
    r.stable = false ∧ r.delivered = [] ∧ r.s.pos = 3 := by decide +kernel

end Logrange.Props.C01

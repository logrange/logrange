import Logrange.Proofs.RdPos
import Logrange.Proofs.RdIterFwd
import Logrange.Proofs.RdPaging
import Logrange.Proofs.RdQueryLift
import Logrange.Proofs.RdResend
import Logrange.Proofs.RdMerge2
import Logrange.Generated.C03
/-!
# C03 — Paged and resumed reading delivers every matching event exactly once

Property theorems only. The executable model is `Logrange/Model/Rd*.lean` (journal iterators, cursor, mixer
tree, fiterator, `Querier.Query` loop, provider), compared step by step with the code by harness/cmd/c03.

Status (see props/C03.json): proved for ALL inputs — the position text round trip, the forward laws of the
library journal iterator (`get_forward`, `next_forward`, `iter_enumerates`, `pos_after`), stability of positions
under appends, and `paging` / `appends_between_pages` for one partition at the level of the cursor (read loop +
commit; same cursor object or fresh cursor from the position text), and its lift to the request level
(`paging_query_level`: `query`/`pages`, ids and held cursors, every resume mode). The code-shape facts
the model is written for are re-checked against /repo on every run; the open findings have counterexample
theorems evaluated on the model.
-/
namespace Logrange.Props.C03
open Logrange.Rd Logrange.Generated.C03

/-- The code still has the shape the model mirrors (each conjunct is one of the repaired defects or a
structural fact of the two query loops); regenerated from /repo on every run. -/
theorem code_shape_facts :
    offsetPositiveBranchSettles = true ∧ fiteratorSetBackwardDropsCache = true ∧ backwardEofKeepsPos = true ∧
    fwdEndPosFromDecisionCount = true ∧ bothLoopsClampAndCount = true ∧ cacheIsWaitOrClamped = true ∧
    newCursorSortsSources = true ∧ emptyCursorKeepsState = true ∧ applyStateDropsBuffers = true ∧
    advanceKeepsIteratorPos = true := by decide

/-- widths of the position text as the code has them now -/
theorem pos_widths_generated :
    posCidWidth = 16 ∧ posIdxWidth = 8 ∧ posParseLen = 24 ∧ posParseCut = 16 ∧
    posJrnlSplit = ":" ∧ posJrnlVal = "=" := by decide

/-- **`ParsePos (Pos.String p) = p`** for every chunk id below 2^64 and record index below 2^32, with the
widths read from the code. -/
theorem pos_string_roundtrip (p : Pos) (hc : p.cid < 2 ^ 64) (hi : p.idx < 2 ^ 32) :
    parsePosW posParseCut (posParseLen - posParseCut) (showPosW posCidWidth posIdxWidth p) = some p := by
  have h : posCidWidth = 16 ∧ posIdxWidth = 8 ∧ posParseLen = 24 ∧ posParseCut = 16 := by decide
  rw [h.1, h.2.1, h.2.2.1, h.2.2.2]
  exact parsePosW_showPosW 16 8 p (by decide) (by simpa using hc) (by simpa using hi)

theorem pos_string_roundtrip' (p : Pos) (hc : p.cid < 2 ^ 64) (hi : p.idx < 2 ^ 32) :
    parsePos (showPos p) = some p :=
  parsePosW_showPosW 16 8 p (by decide) (by simpa using hc) (by simpa using hi)

/-- the empty text is position zero (`head`) -/
theorem pos_empty_is_zero : parsePos [] = some {} := by decide

example : parsePos (showPos ⟨0x18D8DAD11BBA0000, 7⟩) = some ⟨0x18D8DAD11BBA0000, 7⟩ :=
  pos_string_roundtrip' _ (by decide) (by decide)

/-! ## the journal iterator (library `journal.JIterator`), forward, for ALL journals and positions

`flatIdx j p` = number of records stored strictly before `p`; `recordsFrom j p = (flat j).drop (flatIdx j p)`.
`WF j it` holds for every iterator state the code can reach (in particular for a fresh iterator positioned by
`SetPos`, whatever the position: before/inside/between/after the chunks, `tail`). -/

/-- `Get` returns the record at the iterator's flat index (EOF = past the end) and does not move -/
theorem get_forward (j : Journal) (it : It) (hs : Sorted j) (hw : WF j it) (hb : it.bkwd = false) :
    (get j it).2 = (flat j)[fIdx j it]? ∧ fIdx j (get j it).1 = fIdx j it ∧ WF j (get j it).1 :=
  let h := getFwd j it hs hw hb; ⟨h.1, h.2.2.2.1, h.2.1⟩

/-- `Next` advances the flat index by exactly one (it stays at the end) -/
theorem next_forward (j : Journal) (it : It) (hs : Sorted j) (hw : WF j it) (hb : it.bkwd = false) :
    fIdx j (next j it) = min (fIdx j it + 1) (flat j).length ∧ WF j (next j it) :=
  let h := nextFwd j it hs hw hb; ⟨h.2.2.2, h.1⟩

/-- **iter_enumerates**: from ANY position, draining the iterator (`Get`, emit, `Next`, until EOF) delivers
exactly the records from the normalised position on — across chunk edges and empty chunks. -/
theorem iter_enumerates (j : Journal) (p : Pos) (n : Nat) (hs : Sorted j) (hn : (flat j).length ≤ n) :
    drain j n (setPos j {} p) = recordsFrom j p := by
  obtain ⟨h1, h2, h3⟩ := setPos_fresh j p
  have hw : WF j (setPos j {} p) := by unfold WF; rw [h1]; trivial
  have := Logrange.Rd.iter_enumerates j (setPos j {} p) n hs hw h3 hn
  rw [this]; unfold effPos; rw [h1]; simp [h2]

/-- with any fuel: the first `n` of them -/
theorem drain_take (j : Journal) (it : It) (n : Nat) (hs : Sorted j) (hw : WF j it) (hb : it.bkwd = false) :
    drain j n it = (recordsFrom j (effPos it)).take n := drain_eq j it n hs hw hb

/-- **pos_after**: after `k` rounds of `Get; Next` the iterator stands at the (k+1)-th remaining record -/
theorem pos_after (j : Journal) (it : It) (k : Nat) (hs : Sorted j) (hw : WF j it) (hb : it.bkwd = false) :
    fIdx j (stepK j k it) = min (fIdx j it + k) (flat j).length :=
  (Logrange.Rd.pos_after j it k hs hw hb).1

/-- appends do not move a settled position and only extend what is stored behind it -/
theorem position_survives_appends (j j' : Journal) (p : Pos) (hg : Grows j j') (hs : Sorted j') (hp : Settled j p) :
    flatIdx j' p = flatIdx j p ∧ recordsFrom j p <+: recordsFrom j' p := by
  obtain ⟨⟨e, he⟩, h2, _⟩ := grows j j' hg hs
  refine ⟨(h2 p hp).1, ?_⟩
  unfold recordsFrom
  rw [(h2 p hp).1, ← he, List.drop_append_of_le_length (pg_flatIdx_le j p)]
  exact List.prefix_append _ _

/-! ## paging, one partition (un-ranged), for ALL journals, limits and environment choices

A page is the read loop of `Querier.Query` followed by `commit` (`pageOn`); before every further page the
environment chooses: the server still holds the cursor object (`same`) or a new cursor is built from the
position text of the previous answer (`fresh`: evicted cursor, request id zeroed and position-only requests
are this case). `pagesC` starts at `head`. `keepW w` is the WHERE filter (`w = false`: no filter). -/

/-- **paging**: the concatenated pages are the first Σ limits events of the unlimited read. -/
theorem paging (name : Nat) (w : Bool) (j : Journal) (l0 : Nat) (steps : List PStep) (hs : Sorted j)
    (hfix : ∀ st ∈ steps, st.jrnl = j) :
    (pagesC name w j l0 steps).flatten = ((flat j).filter (keepW w)).take (l0 + (steps.map (·.limit)).sum) :=
  pg_paging getFwd nextFwd hs l0 steps hfix

/-- **appends_between_pages**: when the journal grows between pages (`GrowsChain`: appends only), the
concatenated pages are a prefix of the matching events of the FINAL journal in stored order — nothing twice,
nothing foreign, later appends later — and if the last page came back shorter than its limit they are all of them. -/
theorem appends_between_pages (name : Nat) (w : Bool) (j0 : Journal) (l0 : Nat) (steps : List PStep)
    (hne : j0 ≠ []) (hs : Sorted j0) (hch : GrowsChain j0 steps) :
    ∃ R, (flat (lastJ j0 steps)).filter (keepW w) = (pagesC name w j0 l0 steps).flatten ++ R ∧
      (∀ st evs, steps.getLast? = some st → (pagesC name w j0 l0 steps).getLast? = some evs →
        evs.length < st.limit → R = []) :=
  pg_pages_grow getFwd nextFwd grows j0 l0 steps hne hs hch

/-! ## paging over a MERGED cursor of two partitions, for ALL journals, limits and environment choices

`pages2 n1 n2 j1 j2 l0 steps`: the cursor `newCursor` builds over two partitions (the faithful mixer-tree model:
two `LogEventIterator` leaves under one `Mixer`, no filter), first page from `head`, then per step the held
cursor object continues (`same`: the mixer keeps its selected head over `Release`) or a new cursor is built from
the position text of both partitions (`fresh`). -/

/-- **paging_two_partitions**: the concatenated pages are the first Σ limits events of the timestamp merge of the two
partitions (ties to the first source in leaf order) — whatever the limits and whatever is chosen per page. -/
theorem paging_two_partitions (n1 n2 : Nat) (j1 j2 : Journal) (l0 : Nat) (steps : List (Choice × Nat))
    (hs1 : Sorted j1) (hs2 : Sorted j2) (hne : n1 ≠ n2) :
    (pages2 n1 n2 j1 j2 l0 steps).flatten =
      (List.merge (flat j1) (flat j2) leTs).take (l0 + (steps.map (·.2)).sum) :=
  m2_paging getFwd nextFwd hs1 hs2 hne l0 steps

/-- … and that merge is the property's unlimited read: the same multiset as the two partitions together, each
partition's events in stored order (so every event exactly once, nothing foreign). -/
theorem merged_read_is_interleaving (j1 j2 : Journal) :
    (List.merge (flat j1) (flat j2) leTs).Perm (flat j1 ++ flat j2) ∧
    (flat j1).Sublist (List.merge (flat j1) (flat j2) leTs) ∧
    (flat j2).Sublist (List.merge (flat j1) (flat j2) leTs) :=
  ⟨List.merge_perm_append leTs, m2_sublist_left leTs _ _, m2_sublist_right leTs _ _⟩

/-- one `Get` of the merged cursor returns the head of the merge and one `Next` consumes it (any state) -/
theorem merged_get_next (n1 n2 : Nat) (j1 j2 : Journal) (c : Cur) (a b : Nat) (hs1 : Sorted j1) (hs2 : Sorted j2)
    (h : Abs2 n1 n2 j1 j2 c a b) :
    (curGet c).2 = (R2 j1 j2 a b).head? ∧
    ∃ a' b', Abs2 n1 n2 j1 j2 (curNext c) a' b' ∧ R2 j1 j2 a' b' = (R2 j1 j2 a b).tail :=
  ⟨(m2_curGet_abs getFwd nextFwd hs1 hs2 h).1, m2_curNext_abs getFwd nextFwd hs1 hs2 h⟩

/-- non-vacuity: two partitions with a timestamp tie, a fresh cursor and then the same one -/
example : (pages2 0 1 [⟨10, [⟨0, 0, true⟩, ⟨2, 2, true⟩], 0, maxU32⟩] [⟨10, [⟨1, 1, true⟩, ⟨2, 2, false⟩], 0, maxU32⟩] 1
      [(.fresh, 2), (.same, 5)]).flatten = [⟨0, 0, true⟩, ⟨1, 1, true⟩, ⟨2, 2, true⟩, ⟨2, 2, false⟩] := by decide +kernel

/-! ### the same chain through `Querier.Query` and the provider -/

/-- one partition, un-ranged: the server with that partition, a chain of pages -/
def onePart (j : Journal) : Server := { store := [(0, j)] }
def qAll (w : Bool) : Qry := { text := 1, where_ := w }
def keepOf (w : Bool) (r : Rec) : Bool := !w || r.keep

/-- the statement of `paging` at the level of `Logrange.Rd.pages`: `Querier.Query` with its limit clamp and cache
flag, the provider (held cursor found by request id + `ApplyState`, new cursor otherwise, ids zeroed on release of
an un-held cursor) and a client that follows / zeroes the id / sends only the position / meets an evicted cursor -/
def paging_query_level_stmt : Prop :=
  ∀ (j : Journal) (w : Bool) (l0 : Nat) (steps : List Step), Sorted j →
    (∀ s ∈ steps, s.store' = none) →
    (pages queryMaxLimit (onePart j) { query := some (qAll w), limit := l0, wait := true } steps).flatten
      = (((flat j).filter (keepOf w)).take
          ((l0 :: steps.map (·.limit)).map (fun l => min l queryMaxLimit)).sum)

/-- **paging at the request level**, for all journals, limits (clamped by `QueryMaxLimit`) and resume modes -/
theorem paging_query_level : paging_query_level_stmt := by
  intro j w l0 steps hs hall
  have := ql_pages getFwd nextFwd (j := j) (w := w) hs queryMaxLimit l0 true steps hall
  have hk : keepOf = keepW := rfl
  simpa [onePart, qAll, qOne, hk] using this

/-! ### bounded instances, evaluated by the kernel on the model -/

def r (l : Nat) (k : Bool := true) : Rec := { lbl := l, ts := l, keep := k }
/-- three chunks, the middle one empty -/
def j3 : Journal := [⟨10, [r 0, r 1 false, r 2], 0, maxU32⟩, ⟨20, [], 0, maxU32⟩, ⟨30, [r 3, r 4 false, r 5], 0, maxU32⟩]

example : Sorted j3 ∧ j3 ≠ [] := ⟨by unfold Sorted j3; decide, by simp [j3]⟩
/-- the cursor-level chain of `paging` on `j3`: a fresh cursor, then the same one -/
example : (pagesC 0 true j3 1 [⟨.fresh, 2, j3⟩, ⟨.same, 1, j3⟩]).flatten = ((flat j3).filter (keepW true)).take 4 := by
  decide +kernel

/-- `iter_enumerates` on `j3` for every position on a grid that covers before/inside/between/after the
chunks, idx 0..4 and `tail` -/
theorem iter_enumerates_j3 :
    ∀ cid ∈ [0, 9, 10, 11, 19, 20, 21, 30, 31, tailCid], ∀ idx ∈ [0, 1, 2, 3, 4, maxU32],
      drain j3 7 (setPos j3 {} ⟨cid, idx⟩) = recordsFrom j3 ⟨cid, idx⟩ := by
  intro cid _ idx _
  exact iter_enumerates j3 _ 7 (by unfold Sorted j3; decide) (by decide)

def stepsOf (ls : List Nat) (rs : List Resume) : List Step :=
  (ls.zip rs).map (fun p => { resume := p.2, limit := p.1, wait := true })

/-- `paging` on `j3`, with and without WHERE: first limit 1..3, then two more pages with limits from 1..3 and
every resume choice (follow / evicted / id zeroed / position only) -/
theorem paging_j3 :
    ∀ w ∈ [false, true], ∀ l0 ∈ [1, 2, 3], ∀ l1 ∈ [1, 2, 3], ∀ l2 ∈ [1, 3],
    ∀ r1 ∈ [Resume.follow, .evicted, .zeroId, .posOnly], ∀ r2 ∈ [Resume.follow, .evicted, .zeroId, .posOnly],
      (pages queryMaxLimit (onePart j3) { query := some (qAll w), limit := l0, wait := true }
          (stepsOf [l1, l2] [r1, r2])).flatten
        = ((flat j3).filter (keepOf w)).take (l0 + l1 + l2) := by
  intro w _ l0 h0 l1 h1 l2 h2 r1 _ r2 _
  have hm : ∀ l ∈ [1, 2, 3], min l queryMaxLimit = l := by decide
  have hs : Sorted j3 := by unfold Sorted j3; decide
  rw [paging_query_level j3 w l0 _ hs (by simp [stepsOf])]
  simp [stepsOf, hm l0 h0, hm l1 h1, hm l2 (by simp at h2 ⊢; omega), Nat.add_assoc]

/-! ## open findings: counterexamples evaluated on the model -/

/-- the old witness of #22 (repaired by 0706090), now passing: a held cursor, WHERE; page 1, page 2, then page 2's
request again (same id, the older position) repeats page 2 (it used to start with the event the fiterator had buffered). -/
theorem resend_older_pos_filtered :
    let q : Qry := qAll true
    let j : Journal := [⟨10, [r 0, r 1, r 2, r 3, r 4, r 5], 0, maxU32⟩]
    let (s1, p1) := query queryMaxLimit (onePart j) { query := some q, limit := 2, wait := true }
    let (s2, p2) := query queryMaxLimit s1 p1.next
    let (_, p3) := query queryMaxLimit s2 p1.next
    p2.events.map (·.lbl) = [2, 3] ∧ p3.events.map (·.lbl) = [2, 3] := by
  -- `simp only` turns the pair patterns into projections: looking for the `Decidable` instance under a `match`
  -- would make the elaborator run `query` itself, at ten times the kernel's price
  intro q j
  simp only
  decide +kernel

/-- `ApplyState` with a position that differs from the held cursor's own yields the re-positioned cursor with its
buffers dropped (0706090; the code shape is the regenerated fact `applyStateDropsBuffers` in `code_shape_facts`). -/
theorem applyState_repaired (h : Held) (qt : Nat) (m : List (Nat × Pos))
    (hq : h.qtext = qt) (hne : h.pos ≠ .map m) :
    applyState h qt (.map m) =
      some { h with pos := .map m, cur := curSetBackward (curSetBackward (applyStatePos h.cur m) true) false } := by
  simp [applyState, hq, hne]

/-- **a re-sent page is the page a fresh cursor serves** (one partition, un-ranged, ± WHERE; ALL journals, ANY state
of the held cursor — in particular with an event cached in its fiterator —, any settled position, any limit): the
re-positioned held cursor of `applyState_repaired` and a new cursor built from the position text deliver the same
page, the first `lim` matching records from that position. -/
theorem resent_page_is_fresh_page (name : Nat) (j : Journal) (w : Bool) (c : Cur) (i : Nat) (p : Pos) (lim : Nat)
    (hs : Sorted j) (h : Abs name j w true c i) (hp : Settled j p) :
    (pageOn lim (curSetBackward (curSetBackward (applyStatePos c [(name, p)]) true) false)).2.1
        = (FL j w (flatIdx j p)).take lim ∧
    (pageOn lim (applyStatePos (mk1 name j w) [(name, p)])).2.1 = (FL j w (flatIdx j p)).take lim :=
  ⟨(pg_pageOn_abs getFwd nextFwd hs lim (rs_reposition hs h hp)).1,
   (pg_pageOn_abs getFwd nextFwd hs lim (pg_fresh_abs name j w p)).1⟩

/-- the merged witness of #22, now passing: two partitions WITHOUT any filter, page 1, page 2, page 2's request again
repeats page 2 (the `Mixer`'s selected head used to survive `ApplyState`: stale head first, event 1 lost). -/
theorem resend_older_pos_merged :
    let q : Qry := qAll false
    let rt (l : Nat) (t : Int) : Rec := { lbl := l, ts := t }
    let s0 : Server := { store := [(0, [⟨10, [rt 0 10, rt 1 12, rt 2 14], 0, maxU32⟩]),
                                    (1, [⟨10, [rt 100000 11, rt 100001 13], 0, maxU32⟩])] }
    let (s1, p1) := query queryMaxLimit s0 { query := some q, limit := 2, wait := true }
    let (s2, p2) := query queryMaxLimit s1 p1.next
    let (_, p3) := query queryMaxLimit s2 p1.next
    p1.events.map (·.lbl) = [0, 100000] ∧ p2.events.map (·.lbl) = [1, 100001] ∧
      p3.events.map (·.lbl) = [1, 100001] := by
  intro q rt s0
  simp only
  decide +kernel

/-! ### a chain that starts while no partition matches (finding #35, repaired by a8a4a54) -/

/-- **no matching partition: the answer hands the request back** — no events, and the next request carries the
same query and position with request id 0 (and the clamped limit), for EVERY store without a matching partition. -/
theorem empty_page_keeps_query (M : Nat) (srv : Server) (req : Req) (q : Qry) (hq : req.query = some q)
    (hid : req.id = 0) (hno : resolve srv.store q = []) :
    (query M srv req).2.events = [] ∧ (query M srv req).2.next.query = some q ∧
    (query M srv req).2.next.pos = req.pos ∧ (query M srv req).2.next.id = 0 ∧
    ((query M srv req).1.store = srv.store) := by
  simp [query, hq, hid, newCur, hno, sortSrcs]

/-- … so following it is asking the original question again: once the partition exists, the followed chain
delivers its events (the old witness of #35, now passing). -/
theorem chain_started_empty_delivers :
    let q : Qry := qAll false
    let j : Journal := [⟨10, [r 0, r 1], 0, maxU32⟩]
    let (s1, p1) := query queryMaxLimit ({} : Server) { query := some q, limit := 5 }
    let s1' : Server := { s1 with store := [(0, j)] }
    let (_, p2) := query queryMaxLimit s1' { p1.next with limit := 5 }
    p1.events = [] ∧ p1.next.query = some q ∧ p2.events.map (·.lbl) = [0, 1] := by
  intro q j
  simp only
  decide +kernel

/-! ### the ranged tail reader at the end of the LAST chunk (finding F59, the second half of #34; repaired by 008ef8e)

One chunk (id 10). The reader has delivered the 3 confirmed records and asks for the next one: its chunk iterator
answers EOF against the journal as it is (`jd`, 3 records); before `advanceChunk → ensureChkIt → getPosForward` read
the chunk's count in the `idx == n` branch the writer confirms 7 more (`ja`, 10 records). `rGetObs jd ja` is that
call with the observation split. -/

def f59jd : Journal := [⟨10, [r 0, r 1, r 2], 0, maxU32⟩]
def f59ja : Journal := [⟨10, [r 0, r 1, r 2, r 3, r 4, r 5, r 6, r 7, r 8, r 9], 0, maxU32⟩]
/-- the reader after three `Get; Next` rounds over `jd` -/
def f59reader : RIt := rNext f59jd (rNext f59jd (rNext f59jd {}))

/-- the old witness, now passing: the call answers EOF, the position stays where the chunk iterator stopped, (10, 3),
and the next calls deliver records 3..9 (the position used to jump to (10, 10): records 3..9 lost for good). -/
theorem tail_no_skip_last_chunk :
    (rGetObs f59jd f59ja f59reader).2 = none ∧ (rGetObs f59jd f59ja f59reader).1.pos = ⟨10, 3⟩ ∧
    (rDrain f59ja 20 (rGetObs f59jd f59ja f59reader).1).map (·.lbl) = [3, 4, 5, 6, 7, 8, 9] := by decide +kernel

/-- the same for every amount confirmed before (1..4 of 6 records) and a growth to all 6 -/
theorem tail_no_skip_last_chunk_grid :
    let all := [r 0, r 1, r 2, r 3, r 4, r 5]
    ∀ c1 ∈ [1, 2, 3, 4],
      let jd : Journal := [⟨10, all.take c1, 0, maxU32⟩]
      let ja : Journal := [⟨10, all, 0, maxU32⟩]
      let reader := (List.range c1).foldl (fun s _ => rNext jd s) ({} : RIt)
      rDrain ja 20 (rGetObs jd ja reader).1 = all.drop c1 := by decide +kernel

/-- #40: a held cursor never sees a partition created after it; the same chain resumed by position only does. -/
theorem cex_held_cursor_misses_new_partition :
    let q : Qry := qAll false
    let j0 : Journal := [⟨10, [r 0, r 1], 0, maxU32⟩]
    let j1 : Journal := [⟨10, [r 100000, r 100001], 0, maxU32⟩]
    let (s1, p1) := query queryMaxLimit (onePart j0) { query := some q, limit := 1, wait := true }
    let s1' : Server := { s1 with store := [(0, j0), (1, j1)] }
    let (_, p2) := query queryMaxLimit s1' { p1.next with limit := 10 }
    let (_, p2') := query queryMaxLimit s1' { query := some q, pos := p1.next.pos, limit := 10 }
    p2.events.map (·.lbl) = [1] ∧ p2'.events.map (·.lbl) = [1, 100000, 100001] := by
  intro q j0 j1
  simp only
  decide +kernel

end Logrange.Props.C03

import Logrange.Proofs.LqlSites
import Logrange.Generated.C13Sites
import Logrange.Props.C13
import Logrange.Model.IngestLimit
/-!
# C13 — the Go-level panic sites of pkg/lql are guarded (property theorems)

The participle engine is a total interpreter (C12's model); what remains of "lql.Parse* and the evaluators built from the AST never
panic" is the ordinary Go code of pkg/lql. `tools/extract/c13_sites.go` enumerates every index expression, slice expression,
single-value type assertion, explicit dereference, explicit `panic` call and every method call on an optional grammar node of the
package's non-test files, and reads for each the guard that makes it safe (dominating `len` / `nil` / loop-bound tests, nil-safe
methods, or a named library contract). `lql_sites_guarded` is broken by the first site without a recognised guard; the other
theorems give the guard classes their meaning on the checked operations of `Model/Outcome.lean` and prove the two functions whose
guard is an argument rather than a test.

Trusted here: the extractor's reading of the source (structural, go/ast), and the two library contracts it names
(`contract:participle-capture`: `Capture(values)` is called with at least one captured token and an allocated receiver;
`contract:regexp-submatch`: `FindSubmatchIndex` is nil or has `2·(1+NumSubexp)` entries with `0 ≤ m[0] ≤ m[1] ≤ len`, and
`SubexpNames` has `1+NumSubexp` entries; `contract:bytes-count-lastindex`: `bytes.LastIndex(b, sep) ≥ 0` when
`bytes.Count(b, sep) ≠ 0`). `caller:` sites are parameters whose bound every call site in the package establishes.

Part 2 of the census (`c13_sites2.go`) are the IMPLICIT dereferences: a field selection `X.f` through a pointer to a grammar node (types
resolved locally). Their classes: `nonnil` (dominating test), `fresh` (`&T{}` / a local value), `slice-element`, `grammar:mandatory`,
`grammar:alternative` (the other branch of a two-branch alternation was found nil by a dominating test), `param:<classes>` (a pointer
parameter: every call site in the package passes an argument of those classes). `slice-element` / `grammar:*` are contracts of
participle (a node slice has no nil element; a mandatory capture is set after a successful parse; exactly one branch of an
alternation is set) — read from the struct tags by the extractor and CHECKED by the harness on the AST of every accepted text
(robust section, `ast-shape`, same reading of the tags by reflection).
-/
namespace Logrange.Props.C13Sites
open Go Logrange Logrange.LqlSites Logrange.Generated

/-- every panic site of pkg/lql the census found has a recognised guard, and there are sites at all (the walker still understands
the package) -/
theorem lql_sites_guarded :
    C13Sites.unguarded = 0 ∧ C13Sites.sites.all (fun s => s.code != 0) = true ∧ 20 ≤ C13Sites.sites.length := by
  decide +kernel

/-- no single-value type assertion and no explicit `panic(…)` in pkg/lql -/
theorem lql_no_assertion_no_panic_call :
    C13Sites.sites.all (fun s => s.kind != "type-assertion" && s.kind != "panic-call") = true := by
  decide +kernel

/-- what the guard classes mean: a dominating `len(X) ≥ need` makes `X[i]` (i < need), `X[k:]` (k ≤ need) and `X[a:len(X)-c]`
(a + c ≤ need) pass Go's bounds check; `i < len(X)` makes `X[i]` pass; `p != nil` makes `*p` pass -/
theorem lql_guard_classes_sound :
    (∀ (α : Type) (l : List α) (need i : Nat), need ≤ l.length → i + 1 ≤ need → (Go.index l i).isPanic = false) ∧
    (∀ (b : Bytes) (need k : Nat), need ≤ b.length → k ≤ need → (Go.sliceFrom b k).isPanic = false) ∧
    (∀ (α : Type) (l : List α) (need k : Nat), need ≤ l.length → k ≤ need → (sliceFromL l k).isPanic = false) ∧
    (∀ (b : Bytes) (need a c : Nat), need ≤ b.length → a + c ≤ need → (Go.slice b a ((b.length : Int) - c)).isPanic = false) ∧
    (∀ (α : Type) (l : List α) (i : Nat), i < l.length → (Go.index l i).isPanic = false) ∧
    (∀ (α : Type) (p : Option α), p ≠ none → (deref p).isPanic = false) :=
  ⟨fun _ l need i h hi => by rw [index_ok l i (Nat.lt_of_lt_of_le hi h)]; rfl,
   fun b need k h hk => by rw [sliceFrom_ok_of (Nat.le_trans hk h)]; rfl,
   fun _ l need k h hk => by unfold sliceFromL; rw [if_pos (Nat.le_trans hk h)]; rfl,
   fun b need a c h hk => by rw [slice_ok_of (by omega)]; rfl,
   fun _ l i h => by rw [index_ok l i h]; rfl,
   fun _ p h => deref_noPanic p h⟩

example : (Go.index [10, 20, 30] 2).isPanic = false ∧ (Go.index [10, 20, 30] 3).isPanic = true := by decide +kernel

/-- every `len`-guarded site has a constant need (the length its operand must have), which the dominating test establishes -/
theorem lql_len_sites_have_need :
    C13Sites.sites.all (fun s => s.code != 1 || decide (1 ≤ s.need)) = true := by
  decide +kernel

/-- the shape `parseRalativeDateTime` relies on is in place: the byte the text must start with is not among the bytes the switch
over the last byte accepts -/
theorem rel_datetime_shape_in_place :
    C13Sites.relDateShape = true ∧ (C13Sites.relDateDims.map UInt8.ofNat).contains (UInt8.ofNat C13Sites.relDateFirst) = false := by
  decide +kernel

/-- `parseRalativeDateTime` passes every bounds check for ALL texts: `dt[0]`, `dt[len(dt)-1]`, `dt[1:len(dt)-1]` -/
theorem rel_datetime_total (dt : Bytes) :
    (relDateTime (UInt8.ofNat C13Sites.relDateFirst) (C13Sites.relDateDims.map UInt8.ofNat) dt).isPanic = false :=
  relDateTime_noPanic _ _ rel_datetime_shape_in_place.2 dt

example : relDateTime 45 [109, 104, 100] [45, 49, 46, 53, 104] = .ok [49, 46, 53] := by decide +kernel   -- "-1.5h" → "1.5"
example : relDateTime 45 [109, 104, 100] [45] = .err := by decide +kernel                                  -- "-"
example : relDateTime 45 [109, 104, 100] [45, 104] = .ok [] := by decide +kernel                           -- "-h" → "" (ParseFloat refuses it)

/-- why the shape matters: were the first byte among the accepted last bytes, the one-byte text would slice `[1:0]` -/
theorem cex_rel_datetime_first_among_dims : (relDateTime 45 [109, 104, 100, 45] [45]).isPanic = true := by decide +kernel

/-- `buildCond` + `buildFldCond`: `fldName[7:]` after the caller's `len(strings.ToLower(fldName)) ≥ 8` passes the bounds check for
every identifier on which lower-casing keeps the length (identifiers are ASCII: the lexer's Ident / Keyword classes) -/
theorem fld_cut_total (lower : Bytes → Bytes) (hl : ∀ s, (lower s).length = s.length) (fldName : Bytes) :
    (fldCut lower fldName).isPanic = false :=
  fldCut_noPanic lower hl fldName

example : fldCut id [102, 105, 101, 108, 100, 115, 58, 120] = .ok [120] := by decide +kernel              -- "fields:x" → "x"
example : fldCut id [102, 105, 101, 108, 100, 115, 58] = .err := by decide +kernel                        -- "fields:" is refused

/-- the test is made on the lower-cased copy and the cut on the original: a `lower` that lengthens its argument breaks it -/
theorem cex_fld_cut_lengthening_lower :
    (fldCut (fun _ => [102, 105, 101, 108, 100, 115, 58, 120]) [102]).isPanic = true := by decide +kernel

/-- the walk of `buildOrConds` / `buildXConds` / `getFirstParamName` (`l[0]`, `l[1:]` behind `len(l) == 0` / `len(l) == 1` tests)
never fails a bounds check and ends within `len(l) + 1` calls, for every list -/
theorem cond_walk_total (α : Type) (l : List α) :
    (walkConds (l.length + 1) l).isPanic = false ∧ (walkConds (l.length + 1) l).isOutOfFuel = false :=
  by rw [walkConds_eq _ l (Nat.lt_succ_self _)]; exact ⟨rfl, rfl⟩

example : walkConds 4 [1, 2, 3] = .ok 3 := by decide +kernel

/-! ## the pipe path: what a pipe worker stores

`pkg/pipe/worker.go` builds the provenance fields with `field.Parse(srcTags.String())` (`NewFieldsFromKVString`, the empty list on an
error) and `siterator.Get` stores `le.Fields.Concat(extFlds)` for every source event. `stored_fields_WF` covers the RPC path; this
is the same statement for the copy. The *size* of the copied record is not checked anywhere on that path: finding F52 (open,
registered under C10 with `Logrange.Props.C10.cex_copy_exceeds_max_record_size`, witness `corpus/C10/f52-…`); the instance on this
file's record model is `cex_pipe_copy_outgrows_record_limit`. -/

open Logrange.WireFields in
/-- `field.Parse(text)`: the builder's list, the empty list on an error -/
def fieldParse (split : Bytes → Option (List Bytes)) (trim : Bytes → Bytes) (unq : Bytes → Option Bytes) (s : Bytes) : Bytes :=
  (fromKV split trim unq s).getD []

open Logrange.WireFields in
/-- **What a pipe stores is readable, field-wise**: the field list of a copied event (source fields ++ provenance fields) is
well-formed whenever the source's is — for every tag text and every split / trim / unquote behaviour (trim must not lengthen) —
and the readers (`Value` for any name, `AsKVString`, `Check`) are total on it. -/
theorem pipe_copy_fields_WF (split : Bytes → Option (List Bytes)) (trim : Bytes → Bytes) (unq : Bytes → Option Bytes)
    (htrim : ∀ v, (trim v).length ≤ v.length) (src tagsText name : Bytes) (hsrc : WF src) :
    WF (concat src (fieldParse split trim unq tagsText)) ∧
    (value (concat src (fieldParse split trim unq tagsText)) name).isPanic = false ∧
    check (concat src (fieldParse split trim unq tagsText)) = true := by
  have hp : WF (fieldParse split trim unq tagsText) := by
    unfold fieldParse
    cases h : fromKV split trim unq tagsText with
    | none => exact WF_nil
    | some f => exact Logrange.Props.C13.fromKV_WF split trim unq htrim tagsText f h
  have hw := concat_WF src _ hsrc hp
  have hv := Logrange.Props.C13.value_total _ name hw
  exact ⟨hw, hv.1, hv.2.2.2⟩

example : WireFields.WF (WireFields.concat [1, 97, 1, 98] [1, 112, 1, 113]) :=
  ⟨[[97], [98], [112], [113]], by decide, rfl, rfl⟩

/-- … but not size-wise (F52, open, C10): a record that fits a limit (here 16 bytes: ts 1, message `m`, fields `a=b`) is stored by
the copy path, which checks no size, with 4 more bytes of provenance (`p=q`) — 20 bytes. With the real limit (MaxRecordSize) every
later read of the pipe's partition fails. -/
theorem cex_pipe_copy_outgrows_record_limit :
    (Wire.Event.marshal ⟨1, [109], [1, 97, 1, 98]⟩).length = 16 ∧
    (Wire.Event.marshal ⟨1, [109], WireFields.concat [1, 97, 1, 98] [1, 112, 1, 113]⟩).length = 20 := by
  decide +kernel

/-! ## the ingest limit and the life of the request buffer

"never stores an event whose fields a later read cannot decode" has a size clause: a record above the chunk reader's buffer makes the
partition unreadable from that record on. "never reads outside the request buffer" has a lifetime clause: a string decoded without
copying must not be read after the buffer was given back to the pool. Both are code shapes of api/rpc, read by
`tools/extract/c13_ingest.go`, and both are exercised end to end (e2e `recsize` batch: record sizes limit−2 … limit+6 with a small
configured MaxRecordSize and read-back; section `lifetime`: a held cursor's ReqId re-used with another query of equal length). -/

open Logrange.IngestLimit

/-- the facts: the limit is the configured MaxRecordSize as it is, and the validation refuses what is above it -/
theorem ingest_limit_in_place :
    Generated.C13.ingestLimitHasAddend = false ∧ Generated.C13.ingestSizeTestRejectsAbove = true := by decide +kernel

/-- **Every acknowledged record fits the reader's buffer**: with the regenerated shapes, an event the validation accepts under a
configured `MaxRecordSize = mrs > 0` needs at most `mrs` bytes — whatever the addend would be. -/
theorem acked_record_fits_reader (addend mrs sz : Nat) (hm : 0 < mrs)
    (h : accepts Generated.C13.ingestSizeTestRejectsAbove
          (ingestLimit Generated.C13.ingestLimitHasAddend addend mrs) sz = true) :
    readable mrs sz = true := by
  have hf := ingest_limit_in_place
  rw [hf.1, hf.2] at h
  simp only [ingestLimit, accepts, readable] at *
  simp at h
  simp
  rcases h with h | h
  · omega
  · exact h

example : accepts true (ingestLimit false 4 4096) 4096 = true ∧ accepts true (ingestLimit false 4 4096) 4097 = false := by decide +kernel

/-- why the shapes matter (kernel-evaluated): with an addend of 4 a record of limit+1 … limit+4 bytes is acknowledged and not
readable; without the test everything is -/
theorem cex_ingest_limit_addend :
    accepts true (ingestLimit true 4 4096) 4100 = true ∧ readable 4096 4100 = false ∧
    accepts false (ingestLimit false 0 4096) 9000 = true := by decide +kernel

/-- the size test is applied to every event of the packet (regenerated: it is a statement of the validation loop's body and no
continue / goto / break before it lets an event pass without it) -/
theorem ingest_size_test_on_every_event : Generated.C13.ingestSizeTestOnEveryEvent = true := by decide +kernel

/-- **Every event of an acknowledged packet fits the reader's buffer**, whatever fields texts its neighbours carry -/
theorem acked_packet_fits_reader (addend mrs : Nat) (hm : 0 < mrs) :
    ∀ (evs : List (Bytes × Nat)) (last : Option Bytes),
      packetAccepts Generated.C13.ingestSizeTestOnEveryEvent Generated.C13.ingestSizeTestRejectsAbove
        (ingestLimit Generated.C13.ingestLimitHasAddend addend mrs) last evs = true →
      ∀ e ∈ evs, readable mrs e.2 = true := by
  intro evs
  induction evs with
  | nil => intro _ _ e he; cases he
  | cons ev rest ih =>
    intro last h e he
    obtain ⟨txt, sz⟩ := ev
    rw [packetAccepts, ingest_size_test_on_every_event] at h
    simp only [Bool.not_true, Bool.false_and, Bool.false_eq_true, if_false, Bool.and_eq_true] at h
    rcases List.mem_cons.mp he with rfl | hr
    · exact acked_record_fits_reader addend mrs sz hm h.1
    · exact ih (some txt) (by rw [ingest_size_test_on_every_event]; exact h.2) e hr

example : packetAccepts true true 4096 none [([], 20), ([], 4096)] = true ∧ packetAccepts true true 4096 none [([], 20), ([], 4097)] = false := by decide +kernel

/-- the memoising loop (kernel-evaluated): an oversize event directly behind an event with the same fields text — the empty one
too — is acknowledged; first in the packet, or behind another text, it is refused -/
theorem cex_size_test_skipped_for_equal_fields_text :
    packetAccepts false true 4096 none [([], 20), ([], 9000)] = true ∧
    packetAccepts false true 4096 none [([107, 61, 118], 20), ([107, 61, 118], 9000)] = true ∧
    packetAccepts false true 4096 none [([], 9000), ([], 20)] = false ∧
    packetAccepts false true 4096 none [([107, 61, 118], 20), ([], 9000)] = false := by decide +kernel

/-- **No decoded string outlives the buffer it points into** (request side): no server handler of api/rpc both decodes its body
without copying and gives the body back to the pool; and the fact is about something — the query handler does decode without copying. -/
theorem request_strings_do_not_outlive_buffer :
    Generated.C13.rpcHandlers.all (fun h => !(h.2.1 && h.2.2)) = true ∧
    Generated.C13.rpcHandlers.any (fun h => h.2.1) = true := by decide +kernel

/-- hence what a holder of a decoded request string reads later is the text that was decoded, for every handler and every next request -/
theorem held_request_text_is_stable (decoded next : Bytes) :
    ∀ h ∈ Generated.C13.rpcHandlers, heldText h.2.1 h.2.2 decoded next = decoded :=
  fun h hh => if_neg (ne_true_of_eq_false
    (Eq.mp (Bool.not_eq_true' _) (List.all_eq_true.mp request_strings_do_not_outlive_buffer.1 h hh)))

/-- … and with both (the handler collects the body it decoded weakly) the holder reads the NEXT request's bytes -/
theorem cex_collected_weak_string (decoded next : Bytes) : heldText true true decoded next = next := rfl

end Logrange.Props.C13Sites

import Logrange.Props.C05
import Logrange.Proofs.LqlLex
/-!
# C05 at text level: from the characters of the WHERE clause to the delivered events

`Props/C05.lean`'s headline `select_where_exact` starts from a token list. Here it starts from the **text**: C12 owns a
character-level model of the lexer (`Lql.lex`: maximal munch over the seven token groups, blanks skipped, participle's
unquote) and proves what it does on printed expressions. Imported read-only; the C12 facts used are named in each
theorem:

* `parseWhereText f text = (Lql.lex text).bind …` — the model of `lql.ParseExpr` on text: C12's lexer model, then C12's
  direct recursive-descent parser `Lql.dExpr`, all tokens consumed. It is word for word C12's
  `parseExprText` of `Props/C12.lean` (restated here so that this file depends on C12's *proof* modules only, not on its property
  file, which is under construction by its owner);
* `Proofs/LqlLex.lean: lex_printExpr` (C12's obligation `lexable_expr`): `lex (printExpr e) = some (toksExpr e)` for every
  expression with lexable atoms (`laExpr`, decidable), and `Proofs/Lql.lean: dExpr_toks` (C12's `token_roundtrip_expr`):
  the direct parser inverts `toksExpr` on the parser's image (`wfExpr`). Together they are C12's `print_parse_expr`,
  re-derived below as `print_parse_where`.

What remains C12's: that the lexer model and the direct parser agree with the real `participle` lexer/parser on every
text (their correspondence harness; the C05 harness compares the real parser's AST with the intended one of every
generated text as well).
-/
namespace Logrange.Props.C05Text
open Go Logrange Logrange.Where Logrange.FIter Logrange.Props.C05

/-- `lql.ParseExpr` on text as modelled by C12 (= C12's `parseExprText`): lexer model, then the direct parser, all
tokens consumed; `f` = parser fuel -/
def parseWhereText (f : Nat) (text : Bytes) : Option Lql.Expr :=
  (Lql.lex text).bind (fun ts => match Lql.dExpr f ts with | some (e, []) => some e | _ => none)

/-- a text the parser model reads as `e` is a token list the direct parser reads as `e` -/
theorem text_tokens (f : Nat) (text : Bytes) (e : Lql.Expr) (hp : parseWhereText f text = some e) :
    ∃ toks, Lql.lex text = some toks ∧ Lql.dExpr f toks = some (e, []) := by
  unfold parseWhereText at hp
  cases hl : Lql.lex text with
  | none => rw [hl] at hp; cases hp
  | some toks =>
    rw [hl] at hp
    simp only [Option.bind_some] at hp
    refine ⟨toks, rfl, ?_⟩
    split at hp
    · rename_i e' h; cases hp; exact h
    · cases hp

/-- print then parse is the identity on the image (C12's `print_parse_expr`, from `lex_printExpr` and `dExpr_toks`) -/
theorem print_parse_where (e : Lql.Expr) (hw : Lql.wfExpr e = true) (hl : Lql.laExpr e = true) :
    parseWhereText (Lql.szExpr e) (Lql.printExpr e) = some e := by
  have h := Lql.dExpr_toks e (Lql.szExpr e) [] (Nat.le_refl _) hw (by simp [Lql.headNot]) (by simp [Lql.headNot])
  simp only [List.append_nil] at h
  simp [parseWhereText, Lql.lex_printExpr e hl, h]

/-- **C05 headline at text level, every text the lexer model tokenises.** If the characters of the WHERE clause are
read (C12's lexer model, then C12's direct parser) as the expression `e`, and the builder accepts `e`, then reading any
underlying iterator (ends within `n` steps, events with well-formed fields) through the filtering iterator delivers
exactly the underlying events for which `e` holds (and whose timestamp is in range) — same events, same order, once
each. C12 facts used: only the *definitions* of its lexer model and direct parser; no hypothesis about lexing is left. -/
theorem select_where_text_exact {σ : Type} (env : Env) (f : Nat) (text : Bytes) (e : Lql.Expr) (flt : Pred)
    (I : It σ Event) (rng : Event → Bool) (n : Nat) (s : σ)
    (hp : parseWhereText f text = some e)
    (hb : buildWhere env (some (trExpr e)) = .ok flt)
    (hex : Exhausts I n s) (hwf : ∀ ev ∈ drainIt I n s, Fields.WF ev.fields)
    (g k : Nat) (hg : n + 1 ≤ g) (hk : n + 1 ≤ k) :
    drain I flt rng g k (new s) = (drainIt I n s).filter (fun ev => evalParsed env e ev && rng ev) := by
  obtain ⟨toks, _, hd⟩ := text_tokens f text e hp
  exact select_where_exact env f toks e flt I rng n s hd hb hex hwf g k hg hk

/-- **…and for the printed form of every expression of the image.** For every expression `e` the parser can produce
(`wfExpr`) with lexable atoms (`laExpr`: operands identifier-shaped, operators symbolic or keyword-shaped, values whose
`strconv.Quote` text is one String token that unquotes back), of any nesting depth: the text `printExpr e` (what
`Expression.String()` prints, what a pipe stores as its filter) is read back as `e` itself, and if the builder accepts
it the filtering iterator delivers `filter (meaning of e ∧ in range)`. C12 facts used: `lex_printExpr` (its obligation
`lexable_expr`) and `dExpr_toks` (its `token_roundtrip_expr`). -/
theorem select_where_printed_exact {σ : Type} (env : Env) (e : Lql.Expr) (flt : Pred)
    (I : It σ Event) (rng : Event → Bool) (n : Nat) (s : σ)
    (hw : Lql.wfExpr e = true) (hl : Lql.laExpr e = true)
    (hb : buildWhere env (some (trExpr e)) = .ok flt)
    (hex : Exhausts I n s) (hwf : ∀ ev ∈ drainIt I n s, Fields.WF ev.fields)
    (g k : Nat) (hg : n + 1 ≤ g) (hk : n + 1 ≤ k) :
    parseWhereText (Lql.szExpr e) (Lql.printExpr e) = some e ∧
    drain I flt rng g k (new s) = (drainIt I n s).filter (fun ev => evalParsed env e ev && rng ev) :=
  ⟨print_parse_where e hw hl,
   select_where_text_exact env _ _ e flt I rng n s (print_parse_where e hw hl) hb hex hwf g k hg hk⟩

/-- **Rejection at text level**: a text read as `e` gets a filter if and only if `e` has a meaning; otherwise the
builder reports an error (never a filter that is true). -/
theorem where_text_rejects (env : Env) (f : Nat) (text : Bytes) (e : Lql.Expr)
    (_hp : parseWhereText f text = some e) :
    (∃ err, buildWhere env (some (trExpr e)) = .error err) ↔ supported env (trExpr e) = false :=
  where_rejects env (trExpr e)

/-- a text the lexer model or the parser rejects yields no expression at all (so no filter is ever built from it) -/
theorem unlexable_text_no_filter (f : Nat) (text : Bytes) (h : Lql.lex text = none) :
    parseWhereText f text = none := by
  simp [parseWhereText, h]

/-! ### non-vacuity -/

/-- `msg CONTAINS "a" AND ts < "10" OR NOT fields:a = "x" AND msg PREFIX "b"` as C12's AST -/
def exW : Lql.Expr :=
  .mk (.cons (.mk (.cons (.cond false cA) (.cons (.cond false cB) .nil)))
      (.cons (.mk (.cons (.cond true cC) (.cons (.cond false cD) .nil))) .nil))

example : Lql.wfExpr exW = true ∧ Lql.laExpr exW = true := by decide +kernel
example : (buildWhere env0 (some (trExpr exW))).toBool = true := by decide +kernel
/-- the printed text, character by character (`Expression.String()` puts a blank before every condition) -/
example : Lql.printExpr exW = Go.ofAscii " msg CONTAINS \"a\" AND  ts < \"10\" OR  NOT fields:a = \"x\" AND  msg PREFIX \"b\"" := by
  decide +kernel
example : parseWhereText (Lql.szExpr exW) (Lql.printExpr exW) = some exW :=
  print_parse_where exW (by decide +kernel) (by decide +kernel)
/-- all hypotheses of `select_where_printed_exact` are met by `exW` over a three-event list iterator -/
example : ∃ flt, buildWhere env0 (some (trExpr exW)) = .ok flt ∧
    drain (listIt Event) flt (fun _ => true) 4 4 (new ⟨[ev0, ev1, ev0], 0, false, false⟩) =
      [ev0, ev1, ev0].filter (fun ev => evalParsed env0 exW ev && true) := by
  have hok : (buildWhere env0 (some (trExpr exW))).toBool = true := by decide +kernel
  cases hb : buildWhere env0 (some (trExpr exW)) with
  | error err => rw [hb] at hok; cases hok
  | ok flt =>
    refine ⟨flt, rfl, ?_⟩
    have hd := listIt_drain_fwd [ev0, ev1, ev0] 3 0 (by decide)
    have h := (select_where_printed_exact env0 exW flt (listIt Event) (fun _ => true) 3 ⟨[ev0, ev1, ev0], ((0 : Nat) : Int), false, false⟩
      (by decide +kernel) (by decide +kernel) hb (listIt_exhausts_fwd [ev0, ev1, ev0] 3 0 (by decide))
      (by rw [hd]; intro ev hev; simp at hev; rcases hev with rfl | rfl | rfl <;> decide) 4 4 (by omega) (by omega)).2
    rw [hd] at h
    simpa using h
/-- a text that is not printer output (lower-case keywords, no leading blank, extra blanks) is still covered by
`select_where_text_exact`: the model reads it -/
example : (parseWhereText 40 (Go.ofAscii "msg contains \"a\"  and  not ts<\"10\"")).isSome = true := by decide +kernel

end Logrange.Props.C05Text

import Logrange.Props.C07
import Logrange.Model.Points
/-! C07 goal 4 (partial): from the recovered index entries to the hull-level RANGE answer, in one theorem. -/
namespace Logrange.Props.C07Hull
open Logrange.Persist Logrange.Generated.C07 Logrange.Props.C07

/-- what a stored index entry promises about its chunk: the hull contains the records it accounts for (the first `recs`) -/
def HullOk (ci : ChkInfo) (ck : Chunk) : Prop := ∀ t ∈ ck.recs.take ci.recs, ci.minTs ≤ t ∧ t ≤ ci.maxTs

/-- **One chunk, after any recovery**: whatever the loaded index says about a monotone chunk — nothing (snapshot missing or
torn), an entry that accounts for all its records (clean stop), or a stale entry that accounts for fewer (crash after
growth) — as long as a present entry keeps its promise (`HullOk`), the entry `syncChunks` hands to a RANGE cursor either has
a hull that contains every record, or accounts for fewer records than the chunk holds (and then the selector leaves the
chunk wholly open, a7caf30). -/
theorem recovered_entry_sound (old : List ChkInfo) (ck : Chunk) (hmono : ck.recs.Pairwise (· ≤ ·))
    (hok : ∀ o, old.find? (fun o => o.id == ck.id) = some o → HullOk o ck) :
    ∀ t ∈ ck.recs, (syncChunk old ck).minTs ≤ t ∧ t ≤ (syncChunk old ck).maxTs := by
  have hf : syncChunksDropsStaleEntries = true := by decide
  have hf2 : syncChunksDropsStaleBeforeHullCopy = true := by decide
  cases hfind : old.find? (fun o => o.id == ck.id) with
  | none => exact hull_after_recover_partial old ck hfind hmono
  | some o =>
    by_cases hs : o.recs < ck.recs.length
    · exact stale_snapshot_sync_first old ck o hfind hmono hs
    · have e : syncChunk old ck = o := by simp [syncChunk, syncChunkC, hfind, hs]
      rw [e]
      intro t ht
      have := hok o hfind
      have e2 : ck.recs.take o.recs = ck.recs := List.take_of_length_le (by omega)
      unfold HullOk at this
      rw [e2] at this
      exact this t ht

/-- **No flushed event becomes hidden from time-range queries after recovery (hull level, whole partition)**: for the chunks
of a partition with monotone timestamps and ANY loaded index whose entries keep their promise, the answer a RANGE query can
give at chunk-hull granularity is exactly the filter. Inside a chunk whose hull meets the range the window is C02's
(`Props/C02Pipe.chunk_window_sound`: the window `updatePoss` computes contains every record in range, for any index state
incl. "index missing" and "unknown tail"). -/
theorem no_event_hidden_after_recovery_hulls (m : CMap) (src : Src) (cks : List Chunk)
    (hmono : ∀ ck ∈ cks, ck.recs.Pairwise (· ≤ ·))
    (hok : ∀ ck ∈ cks, ∀ o, ((alookup m src).getD []).find? (fun o => o.id == ck.id) = some o → HullOk o ck) (lo hi : Int) :
    rangeVisible (hullView m src cks) cks lo hi = rangeSpec cks lo hi := by
  exact rangeVisible_map_sound _ lo hi cks fun ck hck => recovered_entry_sound _ ck (hmono ck hck) (hok ck hck)

/-- the promise is kept by the hull update of `onWrite` on the chunk's entry: widening by bounds of the batch and raising
`recs` to the new length (the batch is appended to the records the entry accounted for) -/
theorem hullOk_update (ci : ChkInfo) (before batch : List Int) (mn mx : Int) (cid : Nat)
    (h : HullOk ci ⟨cid, before⟩) (hfull : before.length ≤ ci.recs)
    (hb : ∀ t ∈ batch, mn ≤ t ∧ t ≤ mx) :
    HullOk { ci.update mn mx with recs := before.length + batch.length } ⟨cid, before ++ batch⟩ := by
  intro t ht
  have e : (before ++ batch).take (before.length + batch.length) = before ++ batch :=
    List.take_of_length_le (by simp)
  simp only at ht
  rw [e] at ht
  have h0 : ∀ t ∈ before, ci.minTs ≤ t ∧ t ≤ ci.maxTs := by
    intro t ht
    have e2 : before.take ci.recs = before := List.take_of_length_le hfull
    have := h t (by simpa [e2] using ht)
    exact this
  simp only [ChkInfo.update]
  rcases List.mem_append.mp ht with h1 | h1
  · have := h0 t h1
    constructor
    · split <;> omega
    · split <;> omega
  · have := hb t h1
    constructor
    · split <;> omega
    · split <;> omega

/-- a clean stop's entry keeps the promise for the chunk as it is at the next start, and a later growth does not break it
(the entry speaks about a prefix) -/
theorem hullOk_grow (ci : ChkInfo) (cid : Nat) (recs more : List Int) (h : HullOk ci ⟨cid, recs⟩) (hle : ci.recs ≤ recs.length) :
    HullOk ci ⟨cid, recs ++ more⟩ := by
  intro t ht
  apply h t
  simp only at ht ⊢
  rwa [List.take_append_of_le_length hle] at ht

/-- **C07's `HullOk` is C02's hull soundness** (`Points.HullSound`, the `hullOk` field of `RebuildHist.SoundL`) for the entry's
hull, the chunk's records as a position function (`fun q => recs.getD q 0`, which is `PartHist.tsOfList recs` by definition; only
`Model/Points.lean` is imported, so that this check does not build C02's proofs) and the entry's record count — the interface of the
refinement between the recovery model and C02's pipeline state (design-notes/C02.md, "Note for C07") -/
theorem hullOk_iff_c02_hullSound (ci : ChkInfo) (ck : Chunk) (hle : ci.recs ≤ ck.recs.length) :
    HullOk ci ck ↔ Logrange.Points.HullSound ⟨ci.minTs, ci.maxTs⟩ (fun q => ck.recs.getD q 0) ci.recs := by
  constructor
  · intro h p hp
    have hlt : p < ck.recs.length := by omega
    have hm : ck.recs[p] ∈ ck.recs.take ci.recs := by
      rw [List.mem_take_iff_getElem]
      exact ⟨p, by omega, rfl⟩
    have := h _ hm
    simpa [List.getD_eq_getElem?_getD, List.getElem?_eq_getElem hlt] using this
  · intro h t ht
    rw [List.mem_take_iff_getElem] at ht
    obtain ⟨p, hp, rfl⟩ := ht
    have hlt : p < ck.recs.length := by omega
    have := h p (by omega)
    simpa [List.getD_eq_getElem?_getD, List.getElem?_eq_getElem hlt] using this

/-! non-vacuity: a stale entry (2 of 3 records) that keeps its promise, and one that does not -/
example : HullOk ⟨1, 10, 20, 0, 2⟩ ⟨1, [10, 20, 30]⟩ := by
  intro t ht; simp at ht; rcases ht with h | h <;> subst h <;> decide
example : ¬ HullOk ⟨1, 10, 15, 0, 2⟩ ⟨1, [10, 20, 30]⟩ := by
  intro h; have := h 20 (by simp); simp at this

end Logrange.Props.C07Hull

import Logrange.Proofs.LineReader
import Logrange.Proofs.ScanWorker
import Logrange.Proofs.ScanDrain
import Logrange.Model.Descs
import Logrange.Generated.C17
import Logrange.Model.StateFile
/-!
# C17 — Collector ships every byte of a tailed file once, in order; offsets resume

Property theorems only. Models: `Model/LineReader.lean` (bufio.ReadSlice contract on a growing source,
`lineReader.readLine`, parser offsets), `Model/ScanWorker.lean` (the worker loop, persist, stop-on-EOF, cancel as
a labelled transition system), `Model/Descs.lean` (`mergeDescs`). Lemmas: `Proofs/LineReader.lean`,
`Proofs/ScanWorker.lean`.
-/
namespace Logrange.Props.C17
open Logrange.LineReader Logrange.ScanWorker Logrange.Descs

/-! ## the reader: every byte once, in order; split, never dropped -/

/-- **`lines_concat`** For every script `src` (content of the file from `start` on *and* the way it arrives:
pieces, EOFs in between, cancellation), every buffer size `B`, any number `n` of `NextRecord` calls after
`SetStreamPos(start)` (the caller polls again after every EOF): the records are the reader's lines; the returned
lines, then the partial line the reader keeps (`pend`), then what bufio still buffers, then what the source has
not delivered yet are together exactly the file's bytes from `start` — nothing dropped, duplicated or reordered —,
and the parser's position is `start` plus the number of bytes returned (so `lines ++ pend = file[start … consumed)`). -/
theorem lines_concat (B n start : Nat) (src : List Piece) :
    let p := setStreamPos start src
    let recs := (nextRecords B n p).1
    let p' := (nextRecords B n p).2
    recs = (readLines B n p.lr).1 ∧
    recs.flatten ++ p'.lr.pend ++ p'.lr.buf ++ flat p'.lr.pieces = flat src ∧
    p'.pos = start + recs.flatten.length := by
  intro p recs p'
  have h1 := nextRecords_lines B n p
  have h2 := readLines_conserve B n p.lr
  have h3 := nextRecords_pos B n p
  refine ⟨h1.1, ?_, h3⟩
  show (nextRecords B n p).1.flatten ++ (nextRecords B n p).2.lr.pend ++ (nextRecords B n p).2.lr.buf
    ++ flat (nextRecords B n p).2.lr.pieces = _
  rw [h1.1, h1.2, h2]
  simp [p, setStreamPos]

/-- **`line_shape`** Every returned record ends with the newline or is at least one buffer (`B` = the record
limit) long — a long line is split, never dropped — and contains no newline before its last byte (records are cut
at the first newline). -/
theorem line_shape (B n start : Nat) (src : List Piece) (l : Bytes)
    (h : l ∈ (nextRecords B n (setStreamPos start src)).1) :
    (l.getLast? = some 10 ∨ B ≤ l.length) ∧ (10 : UInt8) ∉ l.dropLast := by
  rw [(nextRecords_lines B n _).1] at h
  exact readLines_shape B n _ (by simp [PendOk, setStreamPos]) l h

/-- records are never empty (the record limit the configuration accepts is at least bufio's minimum) -/
theorem record_nonempty (B n start : Nat) (hB : 1 ≤ B) (src : List Piece) (l : Bytes)
    (h : l ∈ (nextRecords B n (setStreamPos start src)).1) : l ≠ [] := by
  have := (line_shape B n start src l h).1
  intro e; subst e
  rcases this with h | h
  · simp at h
  · simp at h; omega

/-- `ReadSlice` always answers: the model's fuel (`sliceFuel`) is sufficient for every source. -/
theorem readSlice_answers (B : Nat) (s : St) : (readSlice B (sliceFuel s) s).2 ≠ .oof :=
  readSlice_fuel B (sliceFuel s) s (by simp [sliceFuel])

/-- **`partial_line_poll_reports_eof`** (what fix 7a8317a establishes at the reader): with nothing buffered and the
source reporting EOF for now, one call answers EOF at once — whatever partial line is pending — and keeps that
partial line unchanged for the next call. (Before the fix the call never returned while a partial line was
pending: finding F50.) -/
theorem partial_line_poll_reports_eof (B : Nat) (hB : 0 < B) (s : St) (ps : List Piece)
    (hc : s.cancelled = false) (hb : s.buf = []) (hp : s.pieces = .eof :: ps) :
    (readLine B s).2 = .eof ∧ (readLine B s).1.pend = s.pend ∧ (readLine B s).1.pieces = ps := by
  rw [readLine_at_source_eof B s ps hc hb hB hp]
  exact ⟨rfl, rfl, rfl⟩

/-- the code facts the model's offset accounting rests on, as the extractor reads them from `/repo` now -/
theorem code_facts :
    Generated.C17.posAdvancesByLineLength = true ∧ Generated.C17.setOffsetOnlyAfterConfirm = true ∧
    Generated.C17.finalPersistAfterLoop = true ∧ Generated.C17.eventGetsOwnRecordSlice = true ∧
    Generated.C17.readerKeepsPartialReportsEOF = true ∧ Generated.C17.stateFileReplacedAtomically = true ∧
    16 ≤ Generated.C17.recordMaxSizeMin ∧
    Generated.C17.recordMaxSizeMin ≤ Generated.C17.recordMaxSizeDefault ∧
    Generated.C17.recordMaxSizeDefault ≤ Generated.C17.recordMaxSizeMax := by decide

/-- two more code shapes the models rest on, regenerated: `scanPaths` lists a file whatever its size — so an emptied file
is SEEN by `mergeDescs` with its size 0 and restarts (`same_id_shrunk_restarts`, `truncated_file_read_from_beginning`)
instead of counting as "missing from this scan" —, and every `persistState` call that could marshal the descriptors
hands them to the storage (the `persist` / `finalPersist` steps of the worker LTS write: `graceful_restart_exact`) -/
theorem scan_and_persist_facts :
    Generated.C17.scanListsFilesOfAnySize = true ∧ Generated.C17.persistAlwaysWrites = true := by decide

/-! ## the worker: persisted offsets are ends of confirmed records -/

theorem step_start (c : Cfg) (s s' : S) (l : L) (hs : step c s l = some s') : s'.start = s.start :=
  (step_sound hs).grow.1

theorem run_start (c : Cfg) : ∀ (tr : List L) (s : S), (run c s tr).start = s.start :=
  ScanWorker.run_start c

/-- **`offset_is_confirmed_end`** (every configuration, every interleaving of worker steps, consumer, persist
ticks, stop-on-EOF and cancel, any length): the in-memory offset and the persisted offset are the session's start
offset or the parser position at a confirm rendez-vous; each such position is the start plus the bytes of a
prefix of the confirmed records (an end of a confirmed record); `persisted ≤ offset ≤ start + confirmed bytes`;
while no batch was abandoned `offset ≤ parser position`; and the confirmed records are a prefix of what the
parser returned — in order, none skipped, none twice. -/
theorem offset_is_confirmed_end (c : Cfg) (start : Nat) (tr : List L) :
    let s := run c (init start) tr
    s.offset ∈ start :: s.ends ∧ s.persisted ∈ start :: s.ends ∧
    (∀ e ∈ s.ends, ∃ k, k ≤ s.confirmed.length ∧ e = start + bytesOf (s.confirmed.take k)) ∧
    s.persisted ≤ s.offset ∧ s.offset ≤ start + bytesOf s.confirmed ∧
    (s.dropped = false → s.offset ≤ s.pos) ∧
    s.confirmed <+: s.readLog := by
  intro s
  have h : WInv s := winv_run c tr (init start) (winv_init start)
  have hst : s.start = start := run_start c tr (init start)
  have hoff := h.offLe
  have a5 := h.offMem; have a6 := h.perMem; have a8 := h.endsOk
  simp only [confEnd, hst] at hoff a5 a6 a8
  exact ⟨a5, a6, a8, h.perLe, hoff, fun hd => Nat.le.intro (h.posEq hd).symm, h.pre⟩

/-- the worker configuration of the code as it is now: where the state is sampled and where the final persist
stands are regenerated from `/repo` -/
def codeCfg (recsPerEvent : Nat) : Cfg :=
  ⟨recsPerEvent, Generated.C17.stateSampledBeforeNextRecord, Generated.C17.finalPersistAfterWorkersWait⟩

/-- what "a graceful stop and a restart neither re-send a confirmed byte nor skip one" needs from the final
persist: whenever it can run, it stores exactly the end of the confirmed bytes -/
def GracefulExact (c : Cfg) : Prop :=
  ∀ (start : Nat) (tr : List L) (s' : S),
    step c (run c (init start) tr) .finalPersist = some s' →
      s'.persisted = s'.start + bytesOf s'.confirmed ∧ s'.confirmed <+: s'.readLog

/-- **`graceful_restart_exact`** (the code as it is now, fix c6aad9a; every interleaving, no side condition): the
final persist runs only after the worker has left its loop, hence after its last `setOffset`; it stores exactly
the start plus all confirmed bytes, and the confirmed records are a prefix of what was read. The next session's
`SetStreamPos(persisted)` continues with the first unconfirmed byte (`lines_concat` from there): nothing
confirmed is re-sent, nothing skipped. -/
theorem graceful_restart_exact (k : Nat) : GracefulExact (codeCfg k) := by
  intro start tr s' hp
  have hfact : Generated.C17.finalPersistAfterWorkersWait = true := by decide
  have hcfg : (codeCfg k).finalAfterWorkers = true := hfact
  have h : WInv (run (codeCfg k) (init start) tr) := winv_run _ tr (init start) (winv_init start)
  simp only [step, hcfg, Bool.not_true, Bool.false_or] at hp
  split at hp
  · rename_i hcond
    simp only [Bool.and_eq_true, beq_iff_eq] at hcond
    simp only [Option.some.injEq] at hp
    subst hp
    exact ⟨(h.idle (by rw [hcond.2]; rfl)).1, h.pre⟩
  · cases hp

/-- a *periodic* persist that does not fall between a confirm rendez-vous and its `setOffset` stores exactly the
end of the confirmed bytes (one that does fall there lags by that one event: `crash_resends_bounded`) -/
theorem persist_outside_window_exact (c : Cfg) (start : Nat) (tr : List L) (s' : S)
    (hwin : isSetting (run c (init start) tr).pc = false)
    (hp : step c (run c (init start) tr) .persist = some s') :
    s'.persisted = s'.start + bytesOf s'.confirmed ∧ s'.confirmed <+: s'.readLog := by
  have h := winv_run c tr (init start) (winv_init start)
  simp only [step, Option.some.injEq] at hp
  subst hp
  exact ⟨(h.idle hwin).1, h.pre⟩

/-- **`cex_final_persist_before_workers`** (finding F17, fixed by c6aad9a — kept as the behaviour of the *old*
order): with the final persist running as soon as the context is cancelled, `confirm, cancel, finalPersist,
setOffset` stores the old offset, so the confirmed record is sent again by the next session. -/
theorem cex_final_persist_before_workers : ¬ GracefulExact ⟨1, true, false⟩ := by
  intro h
  have := (h 0 [.step, .next (.record [97, 10]), .step, .send, .confirm, .cancel] _ rfl).1
  revert this
  decide

/-- **`crash_resends_bounded`** At every moment the stored offset is at most the end of the confirmed bytes and
is an offset the worker had set; unless the last persist fell into the rendez-vous/`setOffset` window it equals
the confirmed end *at that persist*: a crash re-sends exactly what was confirmed since the last save. -/
theorem crash_resends_bounded (c : Cfg) (start : Nat) (tr : List L) :
    let s := run c (init start) tr
    s.persisted ≤ start + bytesOf s.confirmed ∧ s.confAtPersist ≤ start + bytesOf s.confirmed ∧
    (s.persistInWindow = false → s.persisted = s.confAtPersist) := by
  intro s
  have h : WInv s := winv_run c tr (init start) (winv_init start)
  have hst : s.start = start := run_start c tr (init start)
  have h3 := h.offLe
  have h12 := h.confMono
  simp only [confEnd, hst] at h3 h12
  exact ⟨Nat.le_trans h.perLe h3, h12, h.noRace⟩

/-- **`drains_when_quiet`** (eventual completeness, bounded form). Take any reachable state at a quiet loop head
(not cancelled, not told to stop, no batch abandoned). If the file has stopped growing with the complete lines
`lines` still unread — `NextRecord` answers them one by one and then EOF (`lines_concat`: these are exactly the file's
bytes up to the last complete line) — and the consumer takes and confirms every event at once, then the system
follows the schedule `drain` of at most `7 · |lines| + 7` steps (`|lines|` ≤ pending bytes, records are
non-empty; per line 4 steps, 7 when it completes a batch of `k`), after which every pending line has been handed
over and confirmed (the batch in progress included), the offset is the parser position = start + all confirmed
bytes, and the next persist stores exactly that end. -/
theorem drains_when_quiet (k start : Nat) (hk : 1 ≤ k) (tr : List L) (lines : List Bytes) :
    let s := run (codeCfg k) (init start) tr
    Quiet s → s.dropped = false →
    let sched := drain k s.recs.length lines
    let s' := run (codeCfg k) s sched
    sched.length ≤ 7 * lines.length + 7 ∧
    s'.confirmed = s.confirmed ++ s.recs ++ lines ∧ s'.recs = [] ∧
    s'.pos = s.pos + bytesOf lines ∧ s'.offset = s'.pos ∧ s'.pos = start + bytesOf s'.confirmed ∧
    ∀ s'', step (codeCfg k) s' .persist = some s'' → s''.persisted = start + bytesOf s''.confirmed := by
  intro s hq hnd sched s'
  obtain ⟨hlt, hoff⟩ := head_ready (codeCfg k) hk start tr hq.pc hnd
  have hd : Drained s s' lines := drain_drains (codeCfg k) lines s hq hlt hoff
  have hw' : WInv s' := winv_run _ _ s (winv_run _ tr (init start) (winv_init start))
  have hpos' : s'.pos = start + bytesOf s'.confirmed := by
    rw [hw'.pos_flushed (by rw [hd.quiet.pc]; rfl) hd.recs (hd.dropped.trans hnd), hd.start]
    exact congrArg (· + _) (run_start _ tr (init start))
  refine ⟨drain_length k lines _, hd.confirmed, hd.recs, hd.pos, hd.offset, hpos', ?_⟩
  intro s'' hp
  obtain rfl := Option.some.inj hp
  show s'.offset = start + bytesOf s'.confirmed
  rw [hd.offset, hpos']

/-- **`rotated_partial_line_worker_stops`** (what fix 7a8317a establishes at the worker). Take any reachable state
at a loop head of a worker that was told to run until EOF (its file was rotated out or replaced; not cancelled,
nothing abandoned). If the file no longer grows — `NextRecord` answers the pending complete lines and then EOF,
which the reader now reports at its first poll even while a partial last line is pending
(`partial_line_poll_reports_eof`) — and the consumer confirms at once, then after the schedule `drain` of at most
`7 · |lines| + 7` steps (exactly one EOF poll) the worker has left its loop through the "EOF reached" rule, every
pending complete line has been handed over and confirmed, and the offset is the end of the confirmed bytes: the
worker, its goroutine and its file descriptor are released; the never-completed partial line is not shipped. -/
theorem rotated_partial_line_worker_stops (k start : Nat) (hk : 1 ≤ k) (tr : List L) (lines : List Bytes) :
    let s := run (codeCfg k) (init start) tr
    QuietU s → s.dropped = false →
    let sched := drain k s.recs.length lines
    let s' := run (codeCfg k) s sched
    sched.length ≤ 7 * lines.length + 7 ∧
    s'.pc = .done ∧ s'.stoppedByEof = true ∧ s'.wstate = .stopped ∧
    s'.confirmed = s.confirmed ++ s.recs ++ lines ∧ s'.offset = s'.pos ∧ s'.pos = start + bytesOf s'.confirmed := by
  intro s hq hnd sched s'
  obtain ⟨hlt, hoff⟩ := head_ready (codeCfg k) hk start tr hq.pc hnd
  have hd : Stopped s s' lines := drain_stops (codeCfg k) hk lines s hq hlt hoff
  have hw' : WInv s' := winv_run _ _ s (winv_run _ tr (init start) (winv_init start))
  have hpos' : s'.pos = start + bytesOf s'.confirmed := by
    rw [hw'.pos_flushed (by rw [hd.pc]; rfl) hd.recs (hd.dropped.trans hnd), hd.start]
    exact congrArg (· + _) (run_start _ tr (init start))
  exact ⟨drain_length k lines _, hd.pc, hd.byEof, hd.ws, hd.confirmed, hd.offset, hpos'⟩

/-- **`state_file_old_or_new`** (fix e59ee79) At every crash cut of a save, `scanner.json` holds the old or the new
complete content: what a restart loads is a state that was persisted, so `crash_resends_bounded` speaks about every
crash, also one during a save. -/
theorem state_file_old_or_new (old new c : Bytes)
    (h : c ∈ StateFile.crashCuts Generated.C17.stateFileReplacedAtomically old new) : c = old ∨ c = new := by
  have hf : Generated.C17.stateFileReplacedAtomically = true := by decide
  simpa [StateFile.crashCuts, hf] using h

/-- the in-place write of the old code passes through the empty file and every prefix (fixed finding F60) -/
theorem cex_state_file_in_place :
    ([] : Bytes) ∈ StateFile.crashCuts false [1, 2] [3, 4] ∧ ([3] : Bytes) ∈ StateFile.crashCuts false [1, 2] [3, 4] := by
  decide

/-! ## rotation -/

/-- **`rotated_file_drained`** A worker that ended through the "EOF reached" rule has seen, *after* it was told to
run until EOF, a `NextRecord` that found the file exhausted (so whatever was appended before that read was
shipped or is in the batch being confirmed). For every interleaving. -/
theorem rotated_file_drained (k start : Nat) (tr : List L) :
    let s := run (codeCfg k) (init start) tr
    s.stoppedByEof = true → s.eofSeen = true := by
  intro s hst
  have hfact : Generated.C17.stateSampledBeforeNextRecord = true := by decide
  have hc : (codeCfg k).sampleBefore = true := hfact
  exact ((rinv_run (codeCfg k) hc tr (init start) (rinv_init start)).stopped hst).1

/-- **`cex_stale_eof`** (finding F36, fixed by 91d80cf — kept as the behaviour of the *old* loop): with the state
read in the stop test after the sleep, `EOF, (file grows), stopOnEOF, wake` stops the worker on the stale EOF. -/
theorem cex_stale_eof :
    let s := run ⟨1, false, true⟩ (init 0) [.step, .next .eof, .step, .stopOnEOF, .wake, .step]
    s.stoppedByEof = true ∧ s.eofSeen = false := by decide

/-- `mergeDescs` as the code does it now: whether it stats again is regenerated -/
def codeMerge (old : List Desc) (new : List (Desc × Option Nat)) : List (Desc × Bool) :=
  mergeDescs Generated.C17.mergeRestatsAfterOffset old new Generated.C17.mergeKeepsMissedOneScan
def codeMergeOne := mergeOne Generated.C17.mergeRestatsAfterOffset

/-- **`rotation_new_id_from_zero`** a file whose id is not known is taken with the scanned descriptor (offset 0). -/
theorem rotation_new_id_from_zero (old : List Desc) (new : List (Desc × Option Nat)) (nd : Desc) (rs : Option Nat)
    (h : (nd, rs) ∈ new) (hid : lookup old nd.id = none) : (nd, false) ∈ codeMerge old new := by
  simp only [codeMerge, mergeDescs, List.mem_append, List.mem_map]
  exact Or.inl ⟨(nd, rs), h, by simp [hid, mergeOne]⟩

/-- **`same_id_grown_keeps_offset`** (the code as it is now, fix f247e22). A file that only grows — the scanned size
is at least the size seen last time, a later stat gives at least the scanned size — and whose worker offset, as
every offset, is at most the file's size at the moment it is read, hence at most what a *later* stat answers
(`hoff`; no relation between the offset and the *scanned* size is assumed): the old descriptor, i.e. its offset,
is kept. `restat` is what the second `os.Stat` answers; it is only consulted when the offset is beyond the scanned
size, and must then succeed (`hre`). -/
theorem same_id_grown_keeps_offset (od nd : Desc) (restat : Option Nat) (later : Nat)
    (hgrow1 : od.lastSeenSize ≤ nd.lastSeenSize) (hgrow2 : nd.lastSeenSize ≤ later) (hoff : od.offset ≤ later)
    (hre : nd.lastSeenSize < od.offset → restat = some later) :
    (codeMergeOne (some od) nd restat).2 = true ∧ (codeMergeOne (some od) nd restat).1.offset = od.offset := by
  have hfact : Generated.C17.mergeRestatsAfterOffset = true := by decide
  simp only [codeMergeOne, hfact, mergeOne, effSize, Bool.true_and]
  by_cases hlt : nd.lastSeenSize < od.offset
  · simp only [hlt, decide_true, if_true, hre hlt, Option.getD_some]
    have : od.lastSeenSize ≤ later ∧ od.offset ≤ later := ⟨by omega, hoff⟩
    simp [this]
  · simp only [hlt, decide_false, Bool.false_eq_true, if_false]
    have : od.lastSeenSize ≤ nd.lastSeenSize ∧ od.offset ≤ nd.lastSeenSize := ⟨hgrow1, by omega⟩
    simp [this]

/-- the same id with a size (the one the merge decides with) below what was seen or below the offset — a truncated
file — restarts from the scanned descriptor (offset 0) -/
theorem same_id_shrunk_restarts (od nd : Desc) (restat : Option Nat)
    (h : effSize Generated.C17.mergeRestatsAfterOffset od nd restat < od.lastSeenSize ∨
         effSize Generated.C17.mergeRestatsAfterOffset od nd restat < od.offset) :
    (codeMergeOne (some od) nd restat).2 = false ∧ (codeMergeOne (some od) nd restat).1.offset = nd.offset := by
  simp only [codeMergeOne, mergeOne]
  have : ¬ (od.lastSeenSize ≤ effSize Generated.C17.mergeRestatsAfterOffset od nd restat ∧
      od.offset ≤ effSize Generated.C17.mergeRestatsAfterOffset od nd restat) := by omega
  simp [this]

/-- **`truncated_file_read_from_beginning`** A file truncated in place (same id; the size the merge decides with is
below what was seen or below the offset) gets the scanned descriptor, offset 0 as `scanPaths` produces it; the old
worker stops at its next EOF (`rotated_partial_line_worker_stops`), and the new worker's `SetStreamPos(0)` reads
the new content from its first byte: records, pending partial line, buffer and undelivered rest are exactly the
new content. -/
theorem truncated_file_read_from_beginning (od nd : Desc) (restat : Option Nat) (hz : nd.offset = 0)
    (h : effSize Generated.C17.mergeRestatsAfterOffset od nd restat < od.lastSeenSize ∨
         effSize Generated.C17.mergeRestatsAfterOffset od nd restat < od.offset)
    (B n : Nat) (src : List Piece) :
    let d := (codeMergeOne (some od) nd restat).1
    d.offset = 0 ∧
    let p' := (nextRecords B n (setStreamPos d.offset src)).2
    (nextRecords B n (setStreamPos d.offset src)).1.flatten ++ p'.lr.pend ++ p'.lr.buf ++ flat p'.lr.pieces = flat src ∧
    p'.pos = (nextRecords B n (setStreamPos d.offset src)).1.flatten.length := by
  intro d
  have hd : d.offset = 0 := by rw [← hz]; exact (same_id_shrunk_restarts od nd restat h).2
  refine ⟨hd, ?_⟩
  rw [hd]
  have := lines_concat B n 0 src
  simp only [] at this
  exact ⟨this.2.1, by rw [this.2.2]; simp⟩

/-- **`cex_missing_from_one_scan_restarts`** (finding F61; the merge WITHOUT the one-scan grace, `keepsMissed = false` —
the code as long as `Generated.C17.mergeKeepsMissedOneScan` is `false`, and the other branch once
proposed-fixes/F61.diff is committed). `mergeDescs` builds its result from the ids of the new scan only. A file that one
scan does not find (renamed away and back, a failing `os.Stat`) loses its descriptor — and with it the offset 17 —; the
next scan, which finds it again, adds it as a new file with offset 0: the file is sent again although it only grew. -/
theorem cex_missing_from_one_scan_restarts :
    mergeDescs true [⟨[105, 100], 17, 17, false⟩] [] false = [] ∧
    mergeDescs true [] [(⟨[105, 100], 0, 17, false⟩, none)] false = [(⟨[105, 100], 0, 17, false⟩, false)] := by decide

/-- **`missed_once_keeps_offset`** (the merge WITH the one-scan grace, `keepsMissed = true`: proposed-fixes/F61.diff). A
descriptor whose id the scan did not find is kept, flagged, with its offset; found again by the next scan — the file
only grew (hypotheses of `same_id_grown_keeps_offset`) — it is the same descriptor with the same offset and loses the flag;
not found by the next scan either, it is forgotten. -/
theorem missed_once_keeps_offset (restats : Bool) (od : Desc) (hm : od.missed = false) :
    mergeDescs restats [od] [] true = [({ od with missed := true }, true)] ∧
    mergeDescs restats [{ od with missed := true }] [] true = [] ∧
    ∀ (nd : Desc) (restat : Option Nat), od.lastSeenSize ≤ nd.lastSeenSize → od.offset ≤ nd.lastSeenSize →
      (mergeOne restats (some { od with missed := true }) nd restat).2 = true ∧
      (mergeOne restats (some { od with missed := true }) nd restat).1.offset = od.offset ∧
      (mergeOne restats (some { od with missed := true }) nd restat).1.missed = false := by
  refine ⟨by simp [mergeDescs, keptMissed, absent, hm], by simp [mergeDescs, keptMissed, absent], ?_⟩
  intro nd restat h1 h2
  have hs : effSize restats { od with missed := true } nd restat = nd.lastSeenSize := by
    simp only [effSize]
    have : ¬ nd.lastSeenSize < od.offset := by omega
    simp [this]
  simp only [mergeOne, hs]
  have : od.lastSeenSize ≤ nd.lastSeenSize ∧ od.offset ≤ nd.lastSeenSize := ⟨h1, h2⟩
  simp [this]

/-- **`code_merge_keeps_new_ids_first`** whichever branch the code is on: the result is one entry per id of the new scan,
in its order, decided by `mergeOne`, followed by old descriptors the scan did not find — none without the grace; with it
exactly the unflagged ones, flagged now, offsets untouched. -/
theorem code_merge_keeps_new_ids_first (old : List Desc) (new : List (Desc × Option Nat)) :
    codeMerge old new = new.map (fun p => codeMergeOne (lookup old p.1.id) p.1 p.2) ++
      keptMissed Generated.C17.mergeKeepsMissedOneScan old new ∧
    ∀ e ∈ keptMissed Generated.C17.mergeKeepsMissedOneScan old new,
      Generated.C17.mergeKeepsMissedOneScan = true ∧ e.2 = true ∧ e.1.missed = true ∧
      ∃ od ∈ old, od.missed = false ∧ absent new od = true ∧ e.1 = { od with missed := true } := by
  refine ⟨rfl, ?_⟩
  intro e he
  simp only [keptMissed] at he
  split at he
  · rename_i hk
    simp only [List.mem_map, List.mem_filter, Bool.and_eq_true, Bool.not_eq_true'] at he
    obtain ⟨od, ⟨hod, ha, hmf⟩, rfl⟩ := he
    exact ⟨hk, rfl, rfl, od, hod, hmf, ha, rfl⟩
  · cases he

/-- the code has the one-scan grace (fix b5388a7), as the extractor reads it from `/repo` now -/
theorem code_keeps_missed_one_scan : Generated.C17.mergeKeepsMissedOneScan = true := by decide

/-- **`missing_from_one_scan_keeps_offset`** (the code as it is now, fix b5388a7 — finding F61 repaired). A known file the
scan does not find (renamed away for a moment, a failing `os.Stat`) keeps its descriptor, flagged, with its offset; when
the next scan finds it again — it only grew — it is the same descriptor with the same offset (`missed_once_keeps_offset`):
nothing is sent again. Missing from the next scan too, it is forgotten (a file gone for two scans is gone). -/
theorem missing_from_one_scan_keeps_offset (od : Desc) (hm : od.missed = false) :
    codeMerge [od] [] = [({ od with missed := true }, true)] ∧
    codeMerge [{ od with missed := true }] [] = [] := by
  have hf : Generated.C17.mergeKeepsMissedOneScan = true := by decide
  simp only [codeMerge, hf]
  exact ⟨(missed_once_keeps_offset _ od hm).1, (missed_once_keeps_offset _ od hm).2.1⟩

/-- offset 17 survives one missed scan -/
example : codeMerge [⟨[105, 100], 17, 17, false⟩] [] = [(⟨[105, 100], 17, 17, true⟩, true)] := by decide

/-- **`cex_replaced_file_regrown_keeps_offset`** (finding F64) same path and inode, all 26 old bytes shipped, the file
is replaced in place and has 55 bytes at the next scan: the id and the sizes cannot tell, the old descriptor — offset
26 — is kept, the first 26 bytes of the new content are never read. (`truncated_file_read_from_beginning` needs the
size the merge decides with to be below the offset or the size seen last.) -/
theorem cex_replaced_file_regrown_keeps_offset :
    codeMergeOne (some ⟨[105, 100], 26, 26, false⟩) ⟨[105, 100], 0, 55, false⟩ (some 55) = (⟨[105, 100], 26, 55, false⟩, true) := by decide

/-- **`cex_stale_size_resend_old`** (finding F17b, fixed by f247e22 — kept as the behaviour of the *old* merge,
`restats = false`): 17 bytes at the scan's stat, 31 bytes shipped and confirmed by the time of the merge ⇒ the
scanned descriptor (offset 0) replaces the old one and the file is sent again. With the second stat it is kept. -/
theorem cex_stale_size_resend_old :
    mergeOne false (some ⟨[105, 100], 31, 17, false⟩) ⟨[105, 100], 0, 17, false⟩ (some 31) = (⟨[105, 100], 0, 17, false⟩, false) ∧
    mergeOne true (some ⟨[105, 100], 31, 17, false⟩) ⟨[105, 100], 0, 17, false⟩ (some 31) = (⟨[105, 100], 31, 31, false⟩, true) := by
  decide

/-! ### non-vacuity: concrete, non-trivial instances -/

/-- "ab\ncd" arrives as "a", EOF, "b\nc", EOF, "d", then nothing more: one line, and "cd" is the pending partial -/
example :
    let r := readLines 16 5 { pieces := [.data [97], .eof, .data [98, 10, 99], .eof, .data [100]] }
    r.1 = [[97, 98, 10]] ∧ r.2.pend = [99, 100] := by decide

/-- the poll that finds nothing new answers EOF and keeps the partial line "ab" -/
example : (readLine 16 { pieces := [.eof, .data [10]], pend := [97, 98] }).2 = .eof ∧
    (readLine 16 { pieces := [.eof, .data [10]], pend := [97, 98] }).1.pend = [97, 98] := by decide

/-- a 5-byte line with `B = 4` is split into 4 + 1 bytes, nothing dropped -/
example : (nextRecords 4 3 (setStreamPos 7 [.data [1, 2, 3, 4, 10]])).1 = [[1, 2, 3, 4], [10]] ∧
    (nextRecords 4 3 (setStreamPos 7 [.data [1, 2, 3, 4, 10]])).2.pos = 12 := by decide

/-- the record limit is not an upper bound: a line appended in small pieces with pauses accumulates -/
example : (readLines 2 4 { pieces := [.data [1], .eof, .data [2], .eof, .data [3], .eof, .data [10]] }).1
    = [[1, 2, 3, 10]] := by decide

/-- a full batch is sent, confirmed, the offset set, persisted: offset 2 = end of the confirmed record -/
example :
    let s := run ⟨1, true, true⟩ (init 0) [.step, .next (.record [97, 10]), .step, .send, .confirm, .setOffset, .persist]
    s.persisted = 2 ∧ s.confirmed = [[97, 10]] ∧ isSetting s.pc = false := by decide

/-- a quiet period: two pending lines, batches of 2, starting from the initial state: 7 + 7... steps, both lines
confirmed, offset 4 persisted -/
example :
    let s' := run (codeCfg 2) (init 0) (drain 2 0 [[97, 10], [98, 10]] ++ [.persist])
    s'.confirmed = [[97, 10], [98, 10]] ∧ s'.persisted = 4 ∧ s'.pc = .top ∧
    (drain 2 0 [[97, 10], [98, 10]]).length = 16 := by decide

/-- the fixed loop on the stale-EOF schedule keeps running (it goes back to the loop head) -/
example : (run ⟨1, true, true⟩ (init 0) [.step, .next .eof, .step, .stopOnEOF, .wake, .step]).pc = .top := by decide

/-- the hypothesis of `graceful_restart_exact` is met: after a cancel in the rendez-vous window the final persist is
not enabled before `setOffset` and the end of the loop, and then stores 2 = the confirmed end -/
example :
    step (codeCfg 1) (run (codeCfg 1) (init 0) [.step, .next (.record [97, 10]), .step, .send, .confirm, .cancel])
      .finalPersist = none ∧
    ((step (codeCfg 1) (run (codeCfg 1) (init 0) [.step, .next (.record [97, 10]), .step, .send, .confirm, .cancel,
      .setOffset, .step, .step]) .finalPersist).map (·.persisted)) = some 2 := by decide

/-- same path and inode, new content at least as long as the old offset: the old offset is kept (the id cannot
tell; OS behaviour, outside the property's claim) -/
example : mergeOne true (some ⟨[1], 10, 10, false⟩) ⟨[1], 0, 25, false⟩ none = (⟨[1], 10, 25, false⟩, true) := by decide

/-- the one-scan grace (branch `keepsMissed = true`): missing once ⇒ kept and flagged, found again (grown to 20) ⇒ offset
17 kept, flag cleared; missing twice ⇒ forgotten; a new id next to a missing one: both in the result -/
example : mergeDescs true [⟨[1], 17, 17, false⟩] [] true = [(⟨[1], 17, 17, true⟩, true)] ∧
    mergeOne true (some ⟨[1], 17, 17, true⟩) ⟨[1], 0, 20, false⟩ none = (⟨[1], 17, 20, false⟩, true) ∧
    mergeDescs true [⟨[1], 17, 17, true⟩] [] true = [] ∧
    mergeDescs true [⟨[1], 17, 17, false⟩] [(⟨[2], 0, 5, false⟩, none)] true =
      [(⟨[2], 0, 5, false⟩, false), (⟨[1], 17, 17, true⟩, true)] := by decide

/-- if the second stat fails (`none`) the merge falls back to the scanned size -/
example : mergeOne true (some ⟨[1], 31, 17, false⟩) ⟨[1], 0, 17, false⟩ none = (⟨[1], 0, 17, false⟩, false) := by decide

end Logrange.Props.C17

import Logrange.Proofs.Where
import Logrange.Proofs.FIter
import Logrange.Proofs.WhereParse
import Logrange.Proofs.PathMatch
import Logrange.Proofs.PathMatchErr
import Logrange.Generated.C05
/-!
# C05 — WHERE filtering equals the reference meaning of the expression

Property theorems only. Model: `Logrange/Model/{Where,Fields,PathMatch,FIter}.lean`; lemmas:
`Logrange/Proofs/{Where,Fields,FIter}.lean`, for LIKE
`Logrange/Proofs/{PathMatchClass,PathMatchItems,PathMatch,PathMatchErr}.lean`. Every theorem here is an obligation of the C05 check.

`env : Env` carries what the theorems are parametric in: Go's `strings.ToUpper`/`ToLower` and the time literal
parser (C20). `wellFormed e` is the grammar's guarantee that no OR list is empty.
-/
namespace Logrange.Props.C05
open Go Logrange.Where Logrange.FIter

/-- **The built filter is the reference meaning.** For every WHERE expression the builder accepts — any nesting
depth, any operators, NOT placements and function nestings — and every event with well-formed fields, the closure
built by `whereeval.go` returns exactly `evalRef`: OR = some alternative, AND = all members, NOT = negation of what it
stands before, ts against the parsed literal, msg / first field of that name (missing = empty) through
UPPER()/LOWER(), compared as strings or by shell pattern. -/
theorem where_correct (env : Env) (e : Expr) (f : Pred)
    (hb : buildWhere env (some e) = .ok f) (hw : wellFormed e = true) :
    ∀ ev : Event, Fields.WF ev.fields → f ev = evalRef env e ev := by
  have h := or_agrees env e
  simp only [buildWhere] at hb
  rw [hb] at h
  exact h.2 hw

/-- an absent WHERE clause lets every event through -/
theorem where_absent (env : Env) (f : Pred) (hb : buildWhere env none = .ok f) : ∀ ev, f ev = true := by
  simp only [buildWhere, Except.ok.injEq] at hb
  subst hb; intro ev; rfl

/-- **Rejected exactly when unsupported.** The builder reports an error if and only if some condition of the
expression has no meaning (`supported`: operand is ts / msg / fields:<non-empty>; ts without functions, with
`< > <= >=` and a parsable literal; msg with CONTAINS/PREFIX/SUFFIX/LIKE only; functions UPPER/LOWER with one
parameter; LIKE pattern not malformed). In particular an expression it cannot evaluate is never turned into a
filter (let alone one that is true). -/
theorem where_rejects (env : Env) (e : Expr) :
    (∃ err, buildWhere env (some e) = .error err) ↔ supported env e = false := by
  have h := or_agrees env e
  simp only [buildWhere]
  constructor
  · rintro ⟨err, he⟩
    rw [he] at h; exact h
  · intro hs
    cases hb : buildOrConds env e with
    | error err => exact ⟨err, rfl⟩
    | ok f => rw [hb] at h; rw [h.1] at hs; cases hs

/-- a malformed LIKE pattern makes its condition unsupported, hence (by `where_rejects`) the whole expression rejected -/
theorem like_malformed_rejected (env : Env) (n : Bool) (c : Cond)
    (hmsg : env.lo (leaf c.ident) = sMsg) (hop : env.up c.op = sLIKE)
    (hbad : PathMatch.pathMatch c.value sProbe = none) :
    ∃ err, buildWhere env (some (.cons (.cons (.cond n c) .nil) .nil)) = .error err := by
  rw [where_rejects]
  have hs : subjectOf env c.ident = .msg := by
    have h0 : (sMsg == sTs) = false := by decide
    simp [subjectOf, hmsg, h0]
  have h1 : (sLIKE == sCONTAINS) = false := by decide
  have h2 : (sLIKE == sPREFIX) = false := by decide
  have h3 : (sLIKE == sSUFFIX) = false := by decide
  simp [supported, supportedAnd, supportedX, condSupported, hs, hop, strOpOf, h1, h2, h3, StrOp.forMsg, patternOk, hbad]

/-- **`Fields.Value`** on a well-formed encoding never panics and returns the value of the first field of that name,
or the empty string if there is none. -/
theorem fields_value (f name : Bytes) (h : Fields.WF f) :
    Fields.valueP f name = some ((Fields.firstValue (Fields.pairs f) name).getD []) := by
  obtain ⟨ps, hp⟩ := h
  rw [Fields.valueP_wf f name ps hp]
  simp [Fields.pairs, hp]

/-- **The filtering iterator refines `List.filter`**, over any wrapped iterator that reaches its end within `n`
steps: draining it yields exactly the events the wrapped iterator yields that pass the WHERE function and the time
range — same events, same order, same multiplicity. -/
theorem fiter_refines_filter {σ α : Type} (I : It σ α) (flt rng : α → Bool) (n : Nat) (s : σ)
    (h : Exhausts I n s) (g k : Nat) (hg : n + 1 ≤ g) (hk : n + 1 ≤ k) :
    drain I flt rng g k (new s) = (drainIt I n s).filter (fun e => flt e && rng e) :=
  drain_eq_filter I flt rng n s none g k h hg hk

/-! ### the default range (no RANGE clause) — finding F-C05-902, repaired in /repo d9d7013 -/

/-- the range predicate of a fiterator with the bounds `mn`, `mx` -/
def rangeOf (mn mx : Int) (ev : Where.Event) : Bool := inRange mn mx ev.ts

/-- the range predicate `newFIterator` installs when the statement has no RANGE (constants regenerated from
`pkg/cursor/fiterator.go`, `pkg/model/tmrange.go`, `math`) -/
def defaultRange (ev : Where.Event) : Bool :=
  rangeOf Generated.C05.fiterDefaultRangeMin Generated.C05.fiterDefaultRangeMax ev

/-- what a `SELECT … WHERE e` without RANGE delivers, by `fiter_refines_filter`: the events for which `e` holds **and**
whose timestamp lies in the default range -/
theorem fiter_default_range_meaning {σ : Type} (I : It σ Where.Event) (flt : Where.Pred) (n : Nat) (s : σ)
    (h : Exhausts I n s) :
    drain I flt defaultRange (n+1) (n+1) (new s) = (drainIt I n s).filter (fun e => flt e && defaultRange e) :=
  drain_eq_filter I flt defaultRange n s none (n+1) (n+1) h (Nat.le_refl _) (Nat.le_refl _)

/-- the property's reading: without a RANGE every int64 timestamp is in range -/
def C05_default_range_full : Prop :=
  ∀ ev : Where.Event, -(2^63) ≤ ev.ts → ev.ts < 2^63 → defaultRange ev = true

/-- **Without a RANGE every int64 timestamp is in range** — on the regenerated constants of the no-RANGE branch of
`newFIterator` (`[math.MinInt64, math.MaxInt64]` since /repo d9d7013; with the earlier lower bound `model.MinTimestamp` =
−6795364578871345152 this obligation fails: finding F-C05-902). -/
theorem default_range_full : C05_default_range_full := by
  intro ev h1 h2
  have e : (2 : Int) ^ 63 = 9223372036854775808 := by decide
  have hmin : Generated.C05.fiterDefaultRangeMin ≤ -9223372036854775808 := by decide
  have hmax : 9223372036854775807 ≤ Generated.C05.fiterDefaultRangeMax := by decide
  rw [e] at h1 h2
  simp only [defaultRange, rangeOf, inRange, Bool.and_eq_true, decide_eq_true_eq, ge_iff_le]
  omega

/-- hence **`SELECT … WHERE e` without RANGE delivers exactly `filter e`** of the underlying events (int64 timestamps):
the default range takes nothing away -/
theorem select_where_no_range_exact {σ : Type} (I : It σ Where.Event) (flt : Where.Pred) (n : Nat) (s : σ)
    (h : Exhausts I n s) (h64 : ∀ ev ∈ drainIt I n s, -(2^63) ≤ ev.ts ∧ ev.ts < 2^63) :
    drain I flt defaultRange (n+1) (n+1) (new s) = (drainIt I n s).filter flt := by
  rw [fiter_default_range_meaning I flt n s h]
  apply List.filter_congr
  intro ev hev
  rw [default_range_full ev (h64 ev hev).1 (h64 ev hev).2, Bool.and_true]

/-- never alters, reorders or duplicates: the output is a sublist of the wrapped iterator's output -/
theorem fiter_sublist {σ α : Type} (I : It σ α) (flt rng : α → Bool) (n : Nat) (s : σ) (h : Exhausts I n s) :
    (drain I flt rng (n+1) (n+1) (new s)).Sublist (drainIt I n s) := by
  rw [fiter_refines_filter I flt rng n s h (n+1) (n+1) (Nat.le_refl _) (Nat.le_refl _)]
  exact List.filter_sublist

/-- over a list read forward from its start, the fiterator delivers `items.filter` -/
theorem fiter_list_forward {α : Type} (items : List α) (flt rng : α → Bool) :
    drain (listIt α) flt rng (items.length + 1) (items.length + 1) (new ⟨items, 0, false, false⟩)
      = items.filter (fun e => flt e && rng e) := by
  have hex := listIt_exhausts_fwd items items.length 0 (by omega)
  have hd := listIt_drain_fwd items items.length 0 (by omega)
  have := fiter_refines_filter (listIt α) flt rng items.length ⟨items, ((0 : Nat) : Int), false, false⟩ hex _ _
    (Nat.le_refl _) (Nat.le_refl _)
  rw [hd] at this
  simpa using this

/-- **Why the default range must be the whole int64 range (the other branch, constants as parameters).** With ANY lower
bound `mn` above the int64 minimum, the event stamped `mn − 1` is a legal event for which the WHERE function `flt` is
true, and the filtering iterator with the range `[mn, mx]` delivers nothing — while `List.filter flt` keeps it. Instance:
`mn = model.MinTimestamp = −6795364578871345152`, the default before /repo d9d7013 (finding F-C05-902). -/
theorem cex_narrow_default_range_drops_events (mn mx : Int) (h : -(2^63) < mn) (hm : mn ≤ 2^63) (flt : Where.Pred)
    (msg fields : Bytes) (hf : flt ⟨mn - 1, msg, fields⟩ = true) :
    (-(2^63) ≤ mn - 1 ∧ mn - 1 < 2^63) ∧
    drain (listIt Where.Event) flt (rangeOf mn mx) 2 2 (new ⟨[⟨mn - 1, msg, fields⟩], 0, false, false⟩) = [] ∧
    ([⟨mn - 1, msg, fields⟩] : List Where.Event).filter flt = [⟨mn - 1, msg, fields⟩] := by
  refine ⟨by omega, ?_, by simp [hf]⟩
  have := fiter_list_forward [(⟨mn - 1, msg, fields⟩ : Where.Event)] flt (rangeOf mn mx)
  simp only [List.length_cons, List.length_nil, Nat.zero_add, Nat.reduceAdd] at this
  rw [this]
  have hr : rangeOf mn mx ⟨mn - 1, msg, fields⟩ = false := by
    simp only [rangeOf, inRange, Bool.and_eq_false_iff, decide_eq_false_iff_not]
    left; omega
  simp [hf, hr]

/-- the instance that was the code's default range before the repair -/
theorem cex_F_C05_902_old_default :
    drain (listIt Where.Event) Where.positive (rangeOf (-6795364578871345152) 9223372036854775807) 2 2
      (new ⟨[⟨-6795364578871345153, [109], []⟩], 0, false, false⟩) = [] :=
  (cex_narrow_default_range_drops_events (-6795364578871345152) 9223372036854775807 (by decide) (by decide)
    Where.positive [109] [] rfl).2.1

/-- read backward from position `i` (after `SetBackward(true)`), the fiterator delivers the filter of the reversed prefix -/
theorem fiter_list_backward {α : Type} (items : List α) (flt rng : α → Bool) (i : Nat) (hi : i < items.length) :
    drain (listIt α) flt rng (i + 2) (i + 2) (new ⟨items, (i : Int), true, false⟩)
      = ((items.take (i + 1)).reverse).filter (fun e => flt e && rng e) := by
  have := fiter_refines_filter (listIt α) flt rng (i + 1) ⟨items, (i : Int), true, false⟩ (listIt_exhausts_bwd items i) _ _
    (Nat.le_refl _) (Nat.le_refl _)
  rw [listIt_drain_bwd items i hi] at this
  exact this

/-- the modelled `strings.Contains / HasPrefix / HasSuffix` are infix / prefix / suffix of byte lists -/
theorem string_functions_meaning (s p : Bytes) :
    (contains s p = true ↔ p <:+: s) ∧ (hasPrefix s p = true ↔ p <+: s) ∧ (hasSuffix s p = true ↔ p <:+ s) :=
  ⟨contains_iff_infix s p, hasPrefix_iff s p, hasSuffix_iff s p⟩

/-- `Get` twice without `Next` hands out the same event (the cache), and `SetBackward` / `Next` drop the cache -/
theorem fiter_get_cached {σ α : Type} (I : It σ α) (flt rng : α → Bool) (g : Nat) (f f' : FIt σ α) (e : α)
    (h : get I flt rng (g+1) f = (f', .ok e)) (hv : f'.valid = true) (hle : f'.le = some e) :
    get I flt rng (g+1) f' = (f', .ok e) := by
  simp [Logrange.FIter.get, hv, hle]

theorem fiter_switch_drops_cache {σ α : Type} (I : It σ α) (b : Bool) (f : FIt σ α) :
    (setBackward I b f).valid = false ∧ (next I f).valid = false := ⟨rfl, rfl⟩

/-- **The code's operator tables are the ones the model is written against** (regenerated from
`pkg/lql/whereeval.go` on every run): which comparison each `case` of `buildTsCond`, `buildMsgCond`, `buildFldCond`
and which mapping each function of `buildMsgLeStrFldF` performs, and that the LIKE pre-test assigns the builder's
error (the repair of the malformed-pattern defect), and for the fiterator that `Next`/`SetBackward` drop the cache, that
`fltF && range` decides `valid`, and that the range check has both bounds inclusive. The facts are read structurally
(any loop form, hoisted locals and no-op conversions looked through, same-file helpers followed), so that a
behaviour-preserving refactoring does not change them. -/
theorem code_tables_as_modelled :
    Generated.C05.tsTable = [(sLT, "subj<val"), (sGT, "subj>val"), (sLE, "subj<=val"), (sGE, "subj>=val")] ∧
    Generated.C05.msgTable = [(sCONTAINS, "Contains(subj,val)"), (sPREFIX, "HasPrefix(subj,val)"),
      (sSUFFIX, "HasSuffix(subj,val)"), (sLIKE, "Match(val,subj)")] ∧
    Generated.C05.fldTable = [(sCONTAINS, "Contains(subj,val)"), (sPREFIX, "HasPrefix(subj,val)"),
      (sSUFFIX, "HasSuffix(subj,val)"), (sLIKE, "Match(val,subj)"), (sEQ, "subj==val"), (sNE, "subj!=val"),
      (sGT, "subj>val"), (sLT, "subj<val"), (sGE, "subj>=val"), (sLE, "subj<=val")] ∧
    Generated.C05.fnTable = [(sUPPER, "ToUpper"), (sLOWER, "ToLower")] ∧
    Generated.C05.fnArityIsOne = true ∧
    Generated.C05.operandClassifiedBy = "ToLower" ∧
    Generated.C05.likeTestAssignsErrMsg = true ∧ Generated.C05.likeTestAssignsErrFld = true ∧
    Generated.C05.fiterNextResetsValid = true ∧ Generated.C05.fiterSetBackwardResetsValid = true ∧
    Generated.C05.fiterValidIsFltAndRange = true ∧
    Generated.C05.fiterRangeCheck = "Timestamp>=MinTs&&Timestamp<=MaxTs" ∧
    Generated.C05.tsNumericFallback = "ParseInt(_,10,64);Unix(0,v)" := by decide +kernel


/-- **A numeric time literal is compared as the exact integer written.** With an environment that reads numeric literals
exactly (`NumericExact`: the code's last fallback is `strconv.ParseInt(dt, 10, 64)` handed unchanged to `time.Unix(0, v)`
— regenerated fact `tsNumericFallback` in `code_tables_as_modelled`; the harness checks every literal against the exact
value), the filter built for `[NOT] ts <op> <number>` is the integer comparison of the event's timestamp with that
number — at nanosecond magnitudes, at the int64 extremes, everywhere. -/
theorem ts_numeric_literal_exact (env : Env) (hx : NumericExact env) (n : Bool) (c : Cond) (o : TsOp) (i : Int) (f : Pred)
    (hs : subjectOf env c.ident = .ts) (ho : tsOpOf c.op = some o) (hi : decimalInt c.value = some i)
    (hb : buildWhere env (some (.cons (.cons (.cond n c) .nil) .nil)) = .ok f) :
    ∀ ev : Event, Fields.WF ev.fields → f ev = (n != evalTsOp o ev.ts i) := by
  intro ev hev
  rw [where_correct env _ f hb (by simp [wellFormed, wellFormedAnd, wellFormedX]) ev hev]
  simp [evalRef, evalAnd, evalX, condRef, hs, hx _ _ hi, ho]

/-- the SPEC environment of the driver is exact by construction -/
theorem exactEnv_numericExact (env : Env) : NumericExact (exactEnv env) := by
  intro v i h; simp [exactEnv, h]

/-! ### the parser in front of the evaluator (C12's direct recursive-descent parser `Lql.dExpr`, token level) -/

/-- **An unparenthesised token list is read as OR of AND of optionally negated conditions** — NOT binds tighter than
AND, AND tighter than OR: `g1 OR g2 OR …` with `gi = x1 AND x2 AND …` and `xj = [NOT] cond` parses to exactly
`Or [And [x…] …]`, for any number of groups and conditions (conditions with any function nesting). -/
theorem parse_unparenthesised (g : Group) (gs : List Group) (f : Nat)
    (hf : Lql.szExpr (exprOf g gs) ≤ f)
    (hg : atomOk g.1 = true ∧ ∀ x ∈ g.2, atomOk x = true)
    (hgs : ∀ g' ∈ gs, atomOk g'.1 = true ∧ ∀ x ∈ g'.2, atomOk x = true) :
    Lql.dExpr f (tokFlat g gs) = some (exprOf g gs, []) := by
  have hw : Lql.wfExpr (exprOf g gs) = true := by
    simp only [exprOf, Lql.wfExpr, Bool.and_eq_true]
    exact ⟨wfOr_orOf g hg.1 hg.2, wfOrs_orsOf gs hgs⟩
  have := Lql.dExpr_toks (exprOf g gs) f [] hf hw (by simp [Lql.headNot]) (by simp [Lql.headNot])
  rw [toksExpr_exprOf] at this
  simpa using this

/-- and its meaning: some group all of whose (optionally negated) conditions hold -/
theorem unparenthesised_meaning (env : Env) (ev : Event) (g : Group) (gs : List Group) :
    evalRef env (trExpr (exprOf g gs)) ev =
      (g :: gs).any (fun grp => (grp.1 :: grp.2).all (fun x => x.1 != condRef env (trCond x.2) ev)) :=
  evalRef_exprOf env ev g gs

/-- **`a AND b OR NOT c AND d` parses to `Or [And [a, b], And [Not c, d]]`** for arbitrary conditions. -/
theorem parse_or_and_not (a b c d : Lql.Cond) (f : Nat)
    (ha : atomOk (false, a) = true) (hb : atomOk (false, b) = true) (hc : atomOk (true, c) = true)
    (hd : atomOk (false, d) = true)
    (hf : Lql.szExpr (exprOf ((false, a), [(false, b)]) [((true, c), [(false, d)])]) ≤ f) :
    Lql.dExpr f (Lql.toksCond a ++ Lql.tAND :: (Lql.toksCond b ++ Lql.tOR :: Lql.tNOT :: (Lql.toksCond c ++ Lql.tAND :: Lql.toksCond d)))
      = some (.mk (.cons (.mk (.cons (.cond false a) (.cons (.cond false b) .nil)))
              (.cons (.mk (.cons (.cond true c) (.cons (.cond false d) .nil))) .nil)), []) := by
  have := parse_unparenthesised ((false, a), [(false, b)]) [((true, c), [(false, d)])] f hf
    ⟨ha, by simpa using hb⟩ (by simpa using ⟨hc, hd⟩)
  simpa [tokFlat, tokGroup, tokAtom, exprOf, orOf, orsOf, xsOf] using this

/-- **Parser and evaluator compose.** Whatever token list the parser accepts, if the builder accepts the parsed
expression then the built filter is the reference meaning of that expression (no `wellFormed` hypothesis left: the
parser's image is well-formed). -/
theorem parsed_where_correct (env : Env) (f : Nat) (toks : List Lql.Tok) (e : Lql.Expr) (flt : Pred)
    (hp : Lql.dExpr f toks = some (e, [])) (hb : buildWhere env (some (trExpr e)) = .ok flt) :
    ∀ ev : Event, Fields.WF ev.fields → flt ev = evalRef env (trExpr e) ev ∧ flt ev = evalParsed env e ev := by
  intro ev hev
  have h := where_correct env (trExpr e) flt hb (parsed_wellFormed f toks e [] hp) ev hev
  exact ⟨h, by rw [evalParsed_tr]; exact h⟩

/-- **C05 headline: `SELECT … WHERE e` delivers exactly `List.filter (meaning of e)`.** For a WHERE clause whose tokens
the parser reads as `e` and whose expression the builder accepts, reading any underlying iterator (events with
well-formed fields, ends within `n` steps) through the filtering iterator delivers precisely the underlying events for
which `e` holds (and whose timestamp is in the query's range) — same events, same order, once each. -/
theorem select_where_exact {σ : Type} (env : Env) (f : Nat) (toks : List Lql.Tok) (e : Lql.Expr) (flt : Pred)
    (I : It σ Event) (rng : Event → Bool) (n : Nat) (s : σ)
    (hp : Lql.dExpr f toks = some (e, []))
    (hb : buildWhere env (some (trExpr e)) = .ok flt)
    (hex : Exhausts I n s) (hwf : ∀ ev ∈ drainIt I n s, Fields.WF ev.fields)
    (g k : Nat) (hg : n + 1 ≤ g) (hk : n + 1 ≤ k) :
    drain I flt rng g k (new s) = (drainIt I n s).filter (fun ev => evalParsed env e ev && rng ev) := by
  rw [fiter_refines_filter I flt rng n s hex g k hg hk]
  apply List.filter_congr
  intro ev hev
  rw [(parsed_where_correct env f toks e flt hp hb ev (hwf ev hev)).2]


/-! ### LIKE: Go's `path.Match` against the documented pattern language (`Model/PathSpec.lean`) -/

open Logrange.PathSpec in
/-- **`path.Match` is the documented shell pattern semantics on every pattern without `*`** (literals, `\` escapes,
`?`, character classes with ranges and `^`), for every name, valid UTF-8 or not: the algorithm's answer — including
`ErrBadPattern` — is the specification's (`specMatch`: parse the pattern by the documented grammar, then one piece of
the name per item). -/
theorem pathMatch_eq_spec_noStar (p n : Bytes) (h : noStar p = true) :
    PathMatch.pathMatch p n = specMatch p n := pathMatch_noStar p n h

open Logrange.PathSpec in
/-- in the requested form: an answer `b` means the pattern is well formed and `b` says whether the name matches -/
theorem pathMatch_correct_noStar (p n : Bytes) (h : noStar p = true) (b : Bool) :
    PathMatch.pathMatch p n = some b ↔ (WellFormed p ∧ (b = true ↔ Matches p n)) := by
  rw [pathMatch_noStar p n h]
  unfold specMatch WellFormed Matches
  cases hi : items? p with
  | none => simp
  | some its =>
    simp only [Option.map_some, Option.some.injEq, Option.isSome_some, true_and]
    constructor
    · intro hb; subst hb
      exact ⟨fun hm => ⟨its, rfl, hm⟩, fun ⟨its', he, hm⟩ => by cases he; exact hm⟩
    · intro hb
      cases hm : matchItems its n with
      | true => exact (hb.mpr ⟨its, rfl, hm⟩).symm
      | false =>
        cases b with
        | false => rfl
        | true =>
          obtain ⟨its', he, hm'⟩ := hb.mp rfl
          cases he; rw [hm] at hm'; cases hm'

open Logrange.PathSpec in
/-- `ErrBadPattern` exactly on the malformed patterns (no `*`), whatever the name: in particular the builder's
pre-test on the probe name `abc` rejects exactly the patterns that are malformed for every subject -/
theorem pathMatch_malformed_noStar (p n : Bytes) (h : noStar p = true) :
    PathMatch.pathMatch p n = none ↔ ¬ WellFormed p := by
  rw [pathMatch_noStar p n h]
  unfold specMatch WellFormed
  cases items? p <;> simp

open Logrange.PathSpec in
/-- **`ErrBadPattern` is decided by the pattern alone — every pattern, with `*`, classes, escapes, any bytes, every
name.** Whether `path.Match` reports a malformed pattern equals the algorithm's own syntax check of the pattern's chunks
(`validateRest`), in which the name does not occur. -/
theorem pathMatch_malformed_iff_syntax (p n : Bytes) :
    PathMatch.pathMatch p n = none ↔ PathMatch.validateRest (p.length + 1) p = false := by
  have h := pathMatch_isSome p n
  cases hm : PathMatch.pathMatch p n with
  | none => rw [hm] at h; simp only [Option.isSome_none] at h; simp [← h]
  | some b => rw [hm] at h; simp only [Option.isSome_some] at h; simp [← h]

open Logrange.PathSpec in
/-- hence the error does not depend on the name -/
theorem pathMatch_error_name_independent (p n n' : Bytes) :
    PathMatch.pathMatch p n = none ↔ PathMatch.pathMatch p n' = none := by
  rw [pathMatch_malformed_iff_syntax p n, pathMatch_malformed_iff_syntax p n']

/-- **The builder's LIKE pre-test is sound for every pattern**: a pattern accepted on the probe name `abc` never makes
`path.Match` fail on any subject — so an accepted `x LIKE p` is evaluable on every event (its `res, _ :=` never drops an
error) and `NOT (x LIKE p)` is never true because of an unevaluable pattern. -/
theorem like_probe_sound (p n : Bytes) (hp : patternOk p = true) : (PathMatch.pathMatch p n).isSome = true := by
  unfold patternOk at hp
  cases hn : PathMatch.pathMatch p n with
  | some b => rfl
  | none =>
    rw [(pathMatch_error_name_independent p n sProbe).mp hn] at hp
    cases hp

open Logrange.PathSpec in
/-- so for a LIKE pattern without `*` the probe decides evaluability on every subject: accepted on `abc` ⇒ never an
error on any name -/
theorem like_probe_sound_noStar (p n : Bytes) (h : noStar p = true) (hp : patternOk p = true) :
    (PathMatch.pathMatch p n).isSome = true :=
  like_probe_sound p n hp

open Logrange.PathSpec in
/-- **Why the theorem stops at `*`.** With `*` the implementation commits to the leftmost position where the next
chunk matches, and it tries positions byte by byte. On `*?*\xAC` against `€` (E2 82 AC) the specification lets `*` take
the byte E2, `?` the (then invalid) byte 82 and the literal AC the rest — a match; `path.Match` takes `?` = `€` at the
first position and fails. The equality of the byte-wise existential semantics and Go's greedy algorithm is false on
names/patterns that are not valid UTF-8 sequences split at character boundaries. -/
theorem cex_star_greedy_splits_rune :
    PathMatch.pathMatch [42, 63, 42, 0xAC] [0xE2, 0x82, 0xAC] = some false ∧
    specMatch [42, 63, 42, 0xAC] [0xE2, 0x82, 0xAC] = some true := by decide +kernel

open Logrange.PathSpec in
/-- the same on plain ASCII: a class may match `/` but `*` may not, and the committed leftmost position is not revised.
`**[^a]*` against `*x*]/`: the specification lets the stars take `*x*]`, the class the `/` and the last star nothing;
`path.Match` commits the class to the first byte and then cannot get the last `*` over the `/`. (Found by the C05
harness, seed 4.) LIKE's meaning in logrange is `path.Match` as implemented (`evalRef` uses the model of the
algorithm), so this is a property of Go's library, not a defect of the WHERE evaluator. -/
theorem cex_star_greedy_class_slash :
    PathMatch.pathMatch [42, 42, 91, 94, 97, 93, 42] [42, 120, 42, 93, 47] = some false ∧
    specMatch [42, 42, 91, 94, 97, 93, 42] [42, 120, 42, 93, 47] = some true := by decide +kernel

/-- the constants the model reads are the documented ones -/
theorem code_constants_as_documented :
    Generated.C05.cmpContains = sCONTAINS ∧ Generated.C05.cmpHasPrefix = sPREFIX ∧
    Generated.C05.cmpHasSuffix = sSUFFIX ∧ Generated.C05.cmpLike = sLIKE ∧
    Generated.C05.opndTimestamp = sTs ∧ Generated.C05.opndMessage = sMsg ∧
    Generated.C05.fieldsPrefix = sFieldsColon ∧ Generated.C05.fieldsMinLen = 8 ∧ Generated.C05.fieldsCut = 7 ∧
    Generated.C05.likeTestName = sProbe := by decide +kernel

/-- why `where_correct` asks for `wellFormed`: on an (unparsable) empty OR list the builder answers "true" while the
reference meaning of an empty disjunction is "false" -/
theorem cex_empty_or (env : Env) (ev : Event) :
    (∃ f, buildWhere env (some .nil) = .ok f ∧ f ev = true) ∧ evalRef env .nil ev = false :=
  ⟨⟨positive, rfl, rfl⟩, rfl⟩

/-! ### non-vacuity: concrete expressions, events and iterators meet the hypotheses -/

def env0 : Env := tableEnv [] [] [([49, 48], some 10)]
def idOf (s : Bytes) : Ident := .mk s .nil
/-- `fields:a = "x" OR NOT (lower(msg) CONTAINS "b" AND ts < 10)` -/
def e0 : Expr :=
  .cons (.cons (.cond false ⟨idOf [102, 105, 101, 108, 100, 115, 58, 97], sEQ, [120]⟩) .nil)
  (.cons (.cons (.sub true
      (.cons (.cons (.cond false ⟨.mk [108, 111, 119, 101, 114] (.cons (idOf sMsg) .nil), [99, 111, 110, 116, 97, 105, 110, 115], [98]⟩)
             (.cons (.cond false ⟨idOf sTs, sLT, [49, 48]⟩) .nil)) .nil)) .nil) .nil)
/-- ts 9, msg "aBc", fields a=y, a=x (the first `a` counts) -/
def ev0 : Event := ⟨9, [97, 66, 99], Fields.encode [([97], [121]), ([97], [120])]⟩
def ev1 : Event := ⟨10, [97, 66, 99], Fields.encode [([97], [121]), ([97], [120])]⟩

example : wellFormed e0 = true ∧ supported env0 e0 = true := by decide +kernel
example : Fields.WF ev0.fields := by decide +kernel
example : (match buildWhere env0 (some e0) with | .ok f => (f ev0, f ev1) | .error _ => (true, false)) = (false, true) := by decide +kernel
example : (evalRef env0 e0 ev0, evalRef env0 e0 ev1) = (false, true) := by decide +kernel
/-- a malformed pattern: `msg LIKE "["` is rejected -/
example : ∃ err, buildWhere env0 (some (.cons (.cons (.cond false ⟨idOf sMsg, [108, 105, 107, 101], [91]⟩) .nil) .nil)) = .error err :=
  like_malformed_rejected env0 false _ (by decide) (by decide) (by decide)
example : Exhausts (listIt Nat) 3 ⟨[1, 2, 3], 0, false, false⟩ := listIt_exhausts_fwd [1, 2, 3] 3 0 rfl
example : drain (listIt Nat) (fun x => x != 2) (fun _ => true) 4 4 (new ⟨[1, 2, 3], 0, false, false⟩) = [1, 3] := by decide +kernel

/-- `[a-c]x` (no `*`): well formed, matches `bx`, not `dx`; `[` is malformed -/
example : PathSpec.noStar [91, 97, 45, 99, 93, 120] = true ∧ PathMatch.pathMatch [91, 97, 45, 99, 93, 120] [98, 120] = some true ∧
    PathMatch.pathMatch [91, 97, 45, 99, 93, 120] [100, 120] = some false ∧ PathMatch.pathMatch [91] [97] = none := by decide +kernel
/-- the tokens of `msg contains "a" AND ts < "10" OR NOT fields:a = "x" AND msg prefix "b"` -/
def cA : Lql.Cond := ⟨.mk sMsg .nil, [67, 79, 78, 84, 65, 73, 78, 83], [97]⟩
def cB : Lql.Cond := ⟨.mk sTs .nil, sLT, [49, 48]⟩
def cC : Lql.Cond := ⟨.mk [102, 105, 101, 108, 100, 115, 58, 97] .nil, sEQ, [120]⟩
def cD : Lql.Cond := ⟨.mk sMsg .nil, [80, 82, 69, 70, 73, 88], [98]⟩
example : atomOk (false, cA) = true ∧ atomOk (false, cB) = true ∧ atomOk (true, cC) = true ∧ atomOk (false, cD) = true := by decide +kernel
example : ∃ e, Lql.dExpr 40 (Lql.toksCond cA ++ Lql.tAND :: (Lql.toksCond cB ++ Lql.tOR :: Lql.tNOT :: (Lql.toksCond cC ++ Lql.tAND :: Lql.toksCond cD))) = some (e, [])
    ∧ (buildWhere env0 (some (trExpr e))).toBool = true :=
  ⟨_, parse_or_and_not cA cB cC cD 40 (by decide) (by decide) (by decide) (by decide) (by decide), by decide⟩

/-- `a*[` is malformed for every name although its first chunk matches; `*[a-c]x*` is accepted by the probe -/
example : PathMatch.pathMatch [97, 42, 91] [97] = none ∧ PathMatch.pathMatch [97, 42, 91] [98] = none ∧
    patternOk [42, 91, 97, 45, 99, 93, 120, 42] = true := by decide +kernel

/-- nanosecond magnitude and the int64 extremes are read exactly -/
example : decimalInt [49,53,53,50,51,48,55,54,56,51,49,50,51,52,53,54,55,56,57] = some 1552307683123456789 ∧
    decimalInt [45,57,50,50,51,51,55,50,48,51,54,56,53,52,55,55,53,56,48,56] = some (-9223372036854775808) ∧
    decimalInt [57,50,50,51,51,55,50,48,51,54,56,53,52,55,55,53,56,48,56] = none ∧ decimalInt [32,49,48,32] = some 10 := by decide +kernel

end Logrange.Props.C05

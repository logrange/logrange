import Logrange.Proofs.TIndexGuard
/-!
# C06 with the write-time guard of the proposed repair F08r — partition identity WITHOUT the `Safe` hypothesis

`proposed-fixes/F08r.diff` makes `getOrCreateJournal` refuse a text whose parsed set's canonical line would not be read
back as the same set (`tag.Set.Reparses`). Whether the code has the guard is the regenerated fact
`Generated.C06.reparseGuardBeforeLookup` (`TIndexGuard.codeGuard`; the model driver runs `getOrCreateG codeGuard`, see
`guarded_decomp`). For the tree as it is the fact is `false` and `getOrCreateG false` is the model of the current code
(`guard_off_is_current`); the theorems below are about `getOrCreateG true` — they start to apply to the code the moment
the fact flips (`code_guarded_identity` consumes the fact).
-/
namespace Logrange.Props.C06Guard
open Go Logrange.KV Logrange.Tags Logrange.TIndexId Logrange.TIndexGuard Logrange.Proofs.TIndexGuard
  Logrange.Proofs.TIndexId

/-- without the guard the guarded model is literally the model of the current code -/
theorem guard_off_is_current (s : St) (raw : Bytes) (create : Bool) :
    getOrCreateG false s raw create = ((getOrCreate s raw create).1, .res (getOrCreate s raw create).2) :=
  guard_off s raw create

/-- what the driver runs: refuse when `guardRejects`, otherwise the step of the current code -/
theorem guarded_step_decomp (g : Bool) (s : St) (raw : Bytes) (create : Bool) :
    getOrCreateG g s raw create =
      if g && guardRejects s raw then (s, .notReparsing)
      else ((getOrCreate s raw create).1, .res (getOrCreate s raw create).2) :=
  guarded_decomp g s raw create

/-- **Invariant of the guarded index** after any history from the empty index: it is an injective map from lines to
partitions (`TInv`) and EVERY key reads back as exactly the set of its partition — no `Safe` hypothesis on the texts. -/
theorem guarded_index_inv (ops : List (Bytes × Bool)) :
    TInv (runG true {} ops) ∧ ∀ e ∈ (runG true {} ops).tmap, e.1 = line e.2.tags ∧ parse e.1 = some e.2.tags := by
  have h := rinv_run {} ops rinv_init
  exact ⟨h.1, fun e he => ⟨(h.1.1 e he).1, h.2 e he⟩⟩

/-- **Partition identity, unconditional**: after any guarded history, two accepted texts — whatever they are — get the
same partition iff they denote the same set. -/
theorem guarded_same_partition_iff (ops : List (Bytes × Bool)) (t1 t2 : Bytes) (c1 c2 : Bool) (i j : Nat) (m1 m2 : Map)
    (h1 : (getOrCreateG true (runG true {} ops) t1 c1).2 = .res (.ok i))
    (h2 : (getOrCreateG true (getOrCreateG true (runG true {} ops) t1 c1).1 t2 c2).2 = .res (.ok j))
    (p1 : parse t1 = some m1) (p2 : parse t2 = some m2) : i = j ↔ m1 = m2 :=
  Logrange.Proofs.TIndexGuard.guarded_same_partition_iff _ (rinv_run {} ops rinv_init) t1 t2 c1 c2 i j m1 m2 h1 h2 p1 p2

/-- every accepted text denotes a non-empty set whose line reads back (so an accepted text never creates an unreadable key) -/
theorem guarded_accepted_reparses (ops : List (Bytes × Bool)) (raw : Bytes) (create : Bool) (i : Nat)
    (h : (getOrCreateG true (runG true {} ops) raw create).2 = .res (.ok i)) :
    ∃ m, parse raw = some m ∧ m ≠ [] ∧ parse (line m) = some m := by
  obtain ⟨m, a, b, c, _⟩ := guarded_accept _ (rinv_run {} ops rinv_init) raw create i h
  exact ⟨m, a, b, c⟩

/-- **The class the guard refuses, exactly**: a text that is not a key already and parses to a non-empty set `m` is
refused iff `parse (line m) ≠ some m` -/
theorem guarded_rejects_exactly (s : St) (raw : Bytes) (create : Bool) (m : Map) (hl : lookup s.tmap raw = none)
    (hp : parse raw = some m) (hne : m ≠ []) :
    (getOrCreateG true s raw create).2 = .notReparsing ↔ parse (line m) ≠ some m :=
  Logrange.Proofs.TIndexGuard.guarded_rejects_exactly s raw create m hl hp hne

/-- nothing the `_partial` theorems cover is refused: every `safeW` (in particular every Safe) parsed set passes -/
theorem guarded_accepts_safeW (t : Bytes) (m : Map) (h : parse t = some m) (hs : safeW m = true) : reparses m = true :=
  safeW_reparses m (Logrange.Proofs.Tags.parse_WF t m h) hs

theorem guarded_accepts_safe (t : Bytes) (m : Map) (h : parse t = some m) (hs : safe m = true) : reparses m = true :=
  guarded_accepts_safeW t m h (Logrange.Proofs.TagsTight.safe_imp_safeW m hs)

/-- persisted keys with the guard: `loadState ∘ saveState` rebuilds the same map after any history -/
theorem guarded_load_save (ops : List (Bytes × Bool)) :
    loadEntries (saveState (runG true {} ops)) = some (runG true {} ops).tmap :=
  Logrange.Proofs.TIndexGuard.guarded_load_save _ (rinv_run {} ops rinv_init)

/-- the theorems apply to the code as soon as the regenerated fact says the guard is there -/
theorem code_guarded_identity (hg : codeGuard = true) (ops : List (Bytes × Bool)) :
    ∀ e ∈ (runG codeGuard {} ops).tmap, parse e.1 = some e.2.tags := by
  rw [hg]; exact fun e he => (guarded_index_inv ops).2 e he |>.2

/-- **Naming an existing partition again, in any spelling, changes nothing** — neither the index nor what the next
`saveStateUnsafe` writes (`tindex.dat` never learns a client's spelling): the model of the CURRENT code -/
theorem respelling_keeps_index (s : St) (raw : Bytes) (create : Bool) (m : Map) (td : Desc)
    (hp : parse raw = some m) (hl : lookup s.tmap (line m) = some td) :
    (getOrCreate s raw create).1 = s ∧ saveState (getOrCreate s raw create).1 = saveState s := by
  have h : (getOrCreate s raw create).1 = s := by
    cases h1 : lookup s.tmap raw with
    | some td' => rw [getOrCreate_hit create h1]
    | none =>
      rw [getOrCreate_miss create h1 hp, hl]
      split <;> rfl
  exact ⟨h, by rw [h]⟩

/-! ## Non-vacuity and the witnesses of F08-C06 under the guard -/

/-- the two colliding texts of F08-C06 (`a=""` and `a="\"\""`): the first is accepted, the second is REFUSED -/
example : (getOrCreateG true {} [97,61,34,34] true).2 = .res (.ok 0) ∧
    (getOrCreateG true (getOrCreateG true {} [97,61,34,34] true).1 [97,61,34,92,34,92,34,34] true).2 = .notReparsing := by
  decide +kernel

/-- the fast-path capture witness (`a=" c "`): refused, so the raw text `a= c ` later creates its own partition for {a: c} -/
example : (getOrCreateG true {} [97,61,34,32,99,32,34] true).2 = .notReparsing ∧
    (getOrCreateG true {} [97,61,32,99,32] true).2 = .res (.ok 0) := by decide +kernel

/-- a non-trivial accepted history: quoted value with a comma, another spelling of the same set, a different set -/
example : (getOrCreateG true {} [97,61,34,120,44,121,34,44,98,61,49] true).2 = .res (.ok 0) ∧
    (getOrCreateG true (getOrCreateG true {} [97,61,34,120,44,121,34,44,98,61,49] true).1
      [123,98,61,49,44,32,97,61,34,120,44,121,34,125] true).2 = .res (.ok 0) := by decide +kernel

end Logrange.Props.C06Guard

import Logrange.Proofs.TruncateDry
import Logrange.Proofs.TruncateWriter
import Logrange.Proofs.TruncateDisk
import Logrange.Proofs.TruncateUnsel
import Logrange.Proofs.TruncateInUse
import Logrange.Generated.C09
/-!
# C09 — Truncation removes only whole oldest chunks, within the requested bounds

Property theorems only (lemmas: `Logrange/Proofs/Truncate.lean`, model: `Logrange/Model/Truncate.lean`).
The model is instantiated with the facts the extractor reads from `/repo` on every run
(`Generated.C09`: the comparison operator of the time loop, the constants of the MAXDBSIZE pass' inner call).
-/
namespace Logrange.Props.C09
open Logrange.Truncate

/-- the time loop's comparison as the code has it now -/
def strict : Bool := Generated.C09.timeLoopStrict
def gMin : Nat := Generated.C09.globalMinSrcSize
def gMax : Nat := Generated.C09.globalMaxSrcSize
/-- the accounting shape of the MAXDBSIZE pass as the code has it now (`false`: only when the partition was dropped,
finding F77; `true`: whenever the inner truncate ran, the repair) — every theorem about `runNow` holds for both -/
def acct : Bool := Generated.C09.globalAccountsWhenDropRefused

/-- the chooser / the truncation of one partition / the command, as the code is now -/
local notation "chooseNow" => choose strict
local notation "truncateNow" => truncate strict
local notation "runNow" => run acct strict gMin gMax

/-- **The shape of the code the model mirrors** (regenerated from the source): strict `<` in the time loop, both
loops re-check MINSIZE, the size loop is guarded by `Max > 0 && Max > Min`, deletion addresses `cks[idx-1]` and is
skipped by DRYRUN, the MAXDBSIZE pass calls `truncate` with `MinSrcSize 0, MaxSrcSize 1`. -/
theorem code_shape :
    Generated.C09.timeLoopStrict = true ∧ Generated.C09.sizeLoopGuarded = true ∧
    Generated.C09.sizeLoopChecksMin = true ∧ Generated.C09.timeLoopChecksMin = true ∧
    Generated.C09.deletesUpToIdxMinusOne = true ∧ Generated.C09.dryRunReturnsBeforeDelete = true ∧
    Generated.C09.globalMinSrcSize = 0 ∧ Generated.C09.globalMaxSrcSize = 1 ∧
    -- b1a5e66: one snapshot of the chunk sizes for the total and the guards
    Generated.C09.truncateReadsJournalSize = false ∧ Generated.C09.totalIsSnapshotSum = true ∧
    Generated.C09.loopsRereadChunkSize = false ∧
    -- 49b0b2b: the dry MAXDBSIZE pass subtracts the chunks phase I already counted
    Generated.C09.globalDeltaIsLenCks = true ∧ Generated.C09.dryDeltaSubtractsPhase1 = true ∧
    -- the time index folds a write notification into a chunk's hull with two independent ifs (MinTs, MaxTs)
    Generated.C09.hullUpdateIndependentIfs = true ∧
    -- deleteJournal re-checks the size under its exclusive lock, after a Sync (eafecef)
    Generated.C09.deleteJournalRechecksSize = true ∧ Generated.C09.deleteJournalSyncsBeforeRecheck = true ∧
    -- deleteJournal removes the partition's own folder from the disk, nothing above it
    Generated.C09.deleteJournalRemovesOwnFolderOnly = true ∧
    -- 46009da (F77): the MAXDBSIZE pass accounts for and reports what it removed also when the drop is refused;
    -- 4d9dcd4 (F56, statement vs statement): Service.Truncate is serialised by a mutex
    Generated.C09.globalAccountsWhenDropRefused = true ∧ Generated.C09.truncateSerialized = true ∧
    -- the visitor of Service.Truncate flushes before it looks at the partition's size, dry run included (466355c)
    Generated.C09.truncateVisitorSyncsBeforeSize = true ∧
    -- cac5c5d: equal latest timestamps are ordered by source id
    Generated.C09.insertOrdersByTsDescThenSrcAsc = true := by decide

/-! ## one partition (phase I: `truncate` with the statement's parameters) -/

/-- **Only whole chunks, only the oldest**: whatever `Journal.Size()` answered, the chunks afterwards are the
chunks before minus a prefix of `n ≤ len` chunks (`n` = the chooser's count, also the count reported), and a DRYRUN
keeps all of them. Chunk ids ascend (library contract A.2). -/
theorem truncate_prefix (p : Params) (cks : List Chunk) (hs : Ascending cks) :
    (chooseNow p cks).n ≤ cks.length ∧
    (truncateNow p cks).n = (chooseNow p cks).n ∧
    (truncateNow p cks).chunks = if p.dryRun = true then cks else cks.drop (chooseNow p cks).n :=
  ⟨choose_n_le _ p cks, truncate_n _ p cks hs, truncate_chunks _ p cks hs⟩

/-- **Content afterwards is a suffix of the content before** (`ev` = the events a chunk holds). -/
theorem suffix_after {α : Type} (ev : Chunk → List α) (p : Params) (cks : List Chunk) (hs : Ascending cks) :
    ((truncateNow p cks).chunks.flatMap ev) <:+ (cks.flatMap ev) := by
  rw [truncate_chunks strict p cks hs]
  exact flatMap_suffix_of_drop ev _ cks _

/-- **Size rule** (no hypothesis on the sizes: the total is the sum of the snapshot the guards use, b1a5e66): the `i`-th chunk taken by the size
loop was taken with MAXSIZE given, the partition above MAXSIZE before it went, and at least MINSIZE left after. -/
theorem size_rule (p : Params) (cks : List Chunk) (i : Nat) (hi : i < (chooseNow p cks).bySize) :
    0 < p.maxSrc ∧ p.maxSrc < psize (cks.drop i) ∧ p.minSrc ≤ psize (cks.drop (i + 1)) :=
  (choose_spec strict p cks).2.1 i hi

/-- **BEFORE rule**: a chunk taken by the time loop has its newest timestamp strictly below `t`. -/
theorem before_rule (p : Params) (cks : List Chunk) (i : Nat)
    (h1 : (chooseNow p cks).bySize ≤ i) (h2 : i < (chooseNow p cks).n) :
    (cks.getD i default).maxTs < p.oldestTs ∧ 0 < p.oldestTs := by
  have hfact : strict = true := by decide
  obtain ⟨h0, hold, _⟩ := (choose_spec strict p cks).2.2 i h1 h2
  rw [hfact] at hold
  exact ⟨of_decide_eq_true hold, h0⟩

/-- **Removed for BEFORE t only if ALL its events are older than t.** The newest timestamp `truncate` compares is the
`MaxTs` of the hull the time index keeps for the chunk: created from the chunk's first write notification, every
further notification folded in by `chkInfo.update` — whose shape (two independent `if`s) is regenerated from the
source. `rs` are the notifications of the chunk (each the [min, max] of the records one write put there); an event
with timestamp `ts` lies in one of them. Then a chunk taken by the time loop holds no event with `ts ≥ t`, for every
order of arrival of the batches (in-order, out-of-order, straddling the hull on both sides). -/
theorem before_removes_only_older (p : Params) (cks : List Chunk) (i : Nat)
    (h1 : (chooseNow p cks).bySize ≤ i) (h2 : i < (chooseNow p cks).n)
    (rs : List Hull) (h : Hull) (hh : chunkHull Generated.C09.hullUpdateIndependentIfs rs = some h)
    (hc : (cks.getD i default).maxTs = h.maxTs) (ts : Int) (hts : ∃ r ∈ rs, ts ≤ r.maxTs) :
    ts < p.oldestTs := by
  have hfact : Generated.C09.hullUpdateIndependentIfs = true := by decide
  rw [hfact] at hh
  obtain ⟨r, hr, hle⟩ := hts
  have hcov := (chunkHull_covers rs h hh r hr).2
  have hb := (before_rule p cks i h1 h2).1
  omega

/-- with `if … else if …` in `chkInfo.update` (a seeded change the check must catch) a batch that extends the hull on
both sides leaves `MaxTs` stale: notifications [100,117] then [50,200] give the hull [50,117], and `BEFORE 150` would
take a chunk holding the event of 200 -/
theorem cex_hull_else_if :
    chunkHull false [⟨100, 117⟩, ⟨50, 200⟩] = some ⟨50, 117⟩ ∧ chunkHull true [⟨100, 117⟩, ⟨50, 200⟩] = some ⟨50, 200⟩ := by
  decide

/-- **Never below MINSIZE** in phase I: after every single removal (by either loop) at least MINSIZE is left. -/
theorem never_below_min (p : Params) (cks : List Chunk) (i : Nat) (hi : i < (chooseNow p cks).n) :
    p.minSrc ≤ psize (cks.drop (i + 1)) := by
  by_cases h : i < (chooseNow p cks).bySize
  · exact ((choose_spec strict p cks).2.1 i h).2.2
  · exact ((choose_spec strict p cks).2.2 i (Nat.le_of_not_lt h) hi).2.2

/-- **A partition not above MAXSIZE loses nothing to the size rule**, and nothing at all without BEFORE. -/
theorem untouched_if_not_above_max (p : Params) (cks : List Chunk) (h : psize cks ≤ p.maxSrc ∨ p.maxSrc = 0) :
    (chooseNow p cks).bySize = 0 ∧
    (p.oldestTs ≤ 0 → (truncateNow p cks).chunks = cks ∧ (truncateNow p cks).n = 0) := by
  have hb : (chooseNow p cks).bySize = 0 := Nat.eq_zero_of_not_pos fun hpos => by
    have := (choose_spec strict p cks).2.1 0 hpos
    rw [List.drop_zero] at this
    omega
  refine ⟨hb, fun ht => ?_⟩
  -- nor does the time loop take anything: it only runs when BEFORE is given
  have hn : (chooseNow p cks).n = 0 := Nat.eq_zero_of_not_pos fun hpos => by
    have := ((choose_spec strict p cks).2.2 0 (Nat.le_of_eq hb) hpos).1
    omega
  rw [truncate_def, if_pos (Or.inl hn)]
  exact ⟨rfl, hn⟩

/-- the reported byte count is the size of the removed prefix -/
theorem removed_bytes (p : Params) (cks : List Chunk) :
    (truncateNow p cks).removed = psize (cks.take (chooseNow p cks).n) :=
  truncate_removed strict p cks

/-! ## the whole command -/

/-- **DRYRUN changes nothing**: for every visiting order and every parameter combination the partitions
afterwards are the partitions before. -/
theorem dryrun_changes_nothing (p : Params) (hd : p.dryRun = true) (order : List Part) :
    (runNow p order).db = order := by
  unfold run phase2
  simp only []
  rw [globalLoop_dry_db strict gMin gMax p hd, phase1_dry_db strict p hd]

/-- **Partitions that do not match the source condition are untouched — the whole command, MAXDBSIZE pass included.**
For every layout, every parameter combination (DRYRUN or not, any MINSIZE / MAXSIZE / BEFORE / MAXDBSIZE), every
visiting order and any holders (`users` arbitrary), with distinct source ids: the partitions the condition does not
select are afterwards exactly the records they were, in the same relative order, and no report line names one of
them. (Phase I skips them before anything is read; the MAXDBSIZE pass only ever looks up source ids of entries phase I
made, and it makes entries for selected partitions only.) -/
theorem unselected_untouched (p : Params) (order : List Part) (hnd : (order.map (·.src)).Nodup) :
    (runNow p order).db.filter (fun q => !q.sel) = order.filter (fun q => !q.sel) ∧
    ∀ r ∈ (runNow p order).reports, ∀ q ∈ order, q.sel = false → r.src ≠ q.src :=
  run_unselected_untouched strict gMin gMax p order hnd

/-- non-vacuity: a selected partition above MAXSIZE loses a chunk, the unselected one beside it (same layout) stays -/
example :
    let order : List Part := [⟨1, true, 0, [⟨1, 10, 5⟩, ⟨2, 10, 6⟩]⟩, ⟨2, false, 0, [⟨1, 10, 5⟩, ⟨2, 10, 6⟩]⟩]
    (runNow { maxSrc := 10 } order).db ≠ order ∧
    (runNow { maxSrc := 10 } order).db.filter (fun q => !q.sel) = order.filter (fun q => !q.sel) := by decide

/-- **What the MAXDBSIZE pass guarantees**: every entry of the sorted list is either left alone or its partition is
taken whole (`after = 0`, `deleted`), and the pass does nothing at all when the total is within MAXDBSIZE. -/
theorem global_pass (p : Params) (infos : List Info) (ts : Nat) (db : List Part) :
    Forall2 Taken infos (globalLoop acct strict gMin gMax p infos ts db).1 ∧
    (ts ≤ p.maxDB → globalLoop acct strict gMin gMax p infos ts db = (infos, db)) :=
  ⟨globalLoop_shape strict gMin gMax p infos ts db, globalLoop_idle strict gMin gMax p infos ts db⟩

/-- **Size clause for the whole command, partial** (`MAXDBSIZE` absent or not exceeded after phase I): the command is
phase I alone — every partition afterwards is what `truncate` with the statement's parameters left of it (so
`size_rule`, `before_rule`, `never_below_min`, `untouched_if_not_above_max` apply), nothing else is touched. -/
theorem size_rule_partial (p : Params) (order : List Part)
    (h : totalAfter (phase1 strict p order).infos ≤ p.maxDB) :
    (runNow p order).db = (phase1 strict p order).db ∧
    (runNow p order).reports = (phase1 strict p order).reports ++
      (phase1 strict p order).infos.filter (fun ti => ti.after != ti.before) := by
  unfold run phase2
  simp only []
  rw [globalLoop_idle strict gMin gMax p _ _ _ h]
  exact ⟨rfl, rfl⟩

/-- phase I, one partition: untouched when the source condition does not match; otherwise dropped, or kept with
the chunks `truncate` (statement's parameters) left -/
theorem phase1_part_cases (p : Params) (part : Part) :
    (part.sel = false → (phase1Part strict p part).part = some part) ∧
    ((phase1Part strict p part).part = none ∨ (phase1Part strict p part).part = some part ∨
     (phase1Part strict p part).part =
       some { part with chunks := (truncateNow p part.chunks).chunks }) := by
  refine ⟨fun hsel => (phase1Part_unsel strict p part hsel).symm ▸ rfl, ?_⟩
  rcases Bool.eq_false_or_eq_true part.sel with hsel | hsel
  · by_cases hz : psize part.chunks = 0
    · rw [phase1Part_empty strict p part hsel hz]
      simp only []
      split
      · exact Or.inl rfl
      · exact Or.inr (Or.inl rfl)
    · rw [phase1Part_data strict p part hsel hz]
      simp only []
      generalize (if (truncate strict p part.chunks).removed = psize part.chunks
        then (p.dryRun || canDelete part.users (truncate strict p part.chunks).chunks) else false) = D
      split
      · exact Or.inl rfl
      · exact Or.inr (Or.inr rfl)
  · exact Or.inr (Or.inl ((phase1Part_unsel strict p part hsel).symm ▸ rfl))

/-- **A partition is dropped in phase I only when it holds no data afterwards and nobody else uses it.** -/
theorem drop_only_if_empty_and_unused (p : Params) (part : Part) (h : (phase1Part strict p part).part = none) :
    part.users = 0 ∧ p.dryRun = false ∧
    psize (truncateNow p part.chunks).chunks = 0 := by
  rcases Bool.eq_false_or_eq_true part.sel with hsel | hsel
  · by_cases hz : psize part.chunks = 0
    · rw [phase1Part_empty strict p part hsel hz] at h
      simp only [] at h
      split at h
      · next hc =>
        have hu := (Bool.and_eq_true _ _ ▸ hc.2 : (part.users == 0) = true ∧ _).1
        exact ⟨eq_of_beq hu, hc.1, Nat.le_zero.mp (hz ▸ truncate_psize_le strict p part.chunks)⟩
      · cases h
    · rw [phase1Part_data strict p part hsel hz] at h
      by_cases hc : (if (truncate strict p part.chunks).removed = psize part.chunks then
          (p.dryRun || canDelete part.users (truncate strict p part.chunks).chunks) else false) = true ∧
          p.dryRun = false
      · obtain ⟨hflag, hd⟩ := hc
        by_cases hr : (truncate strict p part.chunks).removed = psize part.chunks
        · rw [if_pos hr, hd, Bool.false_or, canDelete, Bool.and_eq_true] at hflag
          exact ⟨eq_of_beq hflag.1, hd, eq_of_beq hflag.2⟩
        · rw [if_neg hr] at hflag; cases hflag
      · exact absurd h (by simp only [hc, if_false]; exact Option.some_ne_none _)
  · rw [phase1Part_unsel strict p part hsel] at h; cases h

/-- **A partition is dropped only when, at the moment `deleteJournal` holds its exclusive lock, nobody else holds it
and it holds no data** — whatever happened between the caller's look at the partition and the lock (`now` is
arbitrary: a writer may have appended into a new chunk and released in between). Rests on the regenerated fact that
`deleteJournal` re-checks `j.Size() > 0` under the lock. `canDelete`, the guard the sequential model uses, is this
step with `now` = what the caller saw. -/
theorem drop_only_without_data_at_lock (users : Nat) (now : List Chunk)
    (h : deleteJournalAt Generated.C09.deleteJournalRechecksSize users now = true) : users = 0 ∧ psize now = 0 := by
  have hfact : Generated.C09.deleteJournalRechecksSize = true := by decide
  rw [hfact] at h
  simpa [deleteJournalAt] using h

theorem canDelete_is_drop_step (users : Nat) (cks : List Chunk) : canDelete users cks = deleteJournalAt true users cks := by
  simp [canDelete, deleteJournalAt]

/-- without the re-check (a seeded change the check must catch) a partition that received an event between
`truncate`'s snapshot and the lock is dropped with the event in it -/
theorem cex_drop_without_recheck : deleteJournalAt false 0 [⟨2, 19, 500⟩] = true ∧ deleteJournalAt true 0 [⟨2, 19, 500⟩] = false := by
  decide

/-- **Dropping a partition leaves the files of every other partition alone** — also of one that lives in the same
two-character parent folder (`<dir>/<bucket>/<id>`, any bucket function, equal buckets included): `deleteJournal`
hands `os.RemoveAll` the partition's own folder (regenerated from the source), and the folders of two different
partitions are not nested. What goes is exactly what lies at or below the dropped partition's folder. -/
theorem drop_leaves_other_partitions_files {α : Type} [DecidableEq α] (bucket : α → α) (base : List α) (id : α)
    (files : List (List α)) :
    (∀ other f, other ≠ id → f ∈ files → partFolder bucket base other <+: f →
      f ∈ dropOnDisk Generated.C09.deleteJournalRemovesOwnFolderOnly bucket base id files) ∧
    (∀ f, f ∈ dropOnDisk Generated.C09.deleteJournalRemovesOwnFolderOnly bucket base id files ↔
      f ∈ files ∧ ¬ partFolder bucket base id <+: f) := by
  have hfact : Generated.C09.deleteJournalRemovesOwnFolderOnly = true := by decide
  rw [hfact]
  refine ⟨fun other f hne hf hin => keeps_other bucket base id other files f hne hf hin, fun f => ?_⟩
  simp only [dropOnDisk, dropTarget, if_true]
  exact mem_removeAll _ _ _

/-- non-vacuity: partitions 0x1CC and 0x2CC share the folder 0xCC; dropping the first keeps the second one's file -/
example : dropOnDisk true (· % 256) [0] 0x1CC [[0, 0xCC, 0x1CC, 7], [0, 0xCC, 0x2CC, 7], [0, 0xC8, 0x1C8, 7]] =
    [[0, 0xCC, 0x2CC, 7], [0, 0xC8, 0x1C8, 7]] := by decide

/-- removing the parent folder as well (a seeded change the check must catch) takes the files of the partition that
shares it -/
theorem cex_drop_removes_shared_folder :
    dropOnDisk false (· % 256) [0] 0x1CC [[0, 0xCC, 0x1CC, 7], [0, 0xCC, 0x2CC, 7], [0, 0xC8, 0x1C8, 7]] =
      [[0, 0xC8, 0x1C8, 7]] := by decide

/-- **A partition is not dropped while it holds acknowledged records, flushed or not** (fix eafecef): `deleteJournal`
flushes under the exclusive lock before it re-checks the size — both regenerated from the source. -/
theorem drop_only_without_acknowledged_data (users confirmed unflushed : Nat)
    (h : deleteJournalSeen Generated.C09.deleteJournalRechecksSize Generated.C09.deleteJournalSyncsBeforeRecheck
      users confirmed unflushed = true) : users = 0 ∧ confirmed = 0 ∧ unflushed = 0 := by
  have h1 : Generated.C09.deleteJournalRechecksSize = true := by decide
  have h2 : Generated.C09.deleteJournalSyncsBeforeRecheck = true := by decide
  rw [h1, h2] at h
  simp [deleteJournalSeen] at h
  omega

/-- regression of F76 (fixed): without the Sync a new partition whose 57 acknowledged bytes wait for their flush looks
empty to the re-check and is dropped; with it the drop is refused -/
theorem regress_unflushed_drop :
    deleteJournalSeen true false 0 0 57 = true ∧ deleteJournalSeen true true 0 0 57 = false := by decide

/-- **For a partition nobody else holds, the dry run announces its drop exactly when the run drops it — acknowledged
records that are not flushed yet included** (fix 466355c: the visitor flushes before it reads the size, in a dry run
too; fix eafecef: `deleteJournal` flushes before its re-check). All three shapes are regenerated from the source. -/
theorem dry_announces_drop_iff_run_drops (confirmed unflushed : Nat) :
    dryAnnouncesDrop Generated.C09.truncateVisitorSyncsBeforeSize confirmed unflushed =
      deleteJournalSeen Generated.C09.deleteJournalRechecksSize Generated.C09.deleteJournalSyncsBeforeRecheck
        0 confirmed unflushed := by
  have h1 : Generated.C09.deleteJournalRechecksSize = true := by decide
  have h2 : Generated.C09.deleteJournalSyncsBeforeRecheck = true := by decide
  have h3 : Generated.C09.truncateVisitorSyncsBeforeSize = true := by decide
  rw [h1, h2, h3]
  simp [dryAnnouncesDrop, deleteJournalSeen]

/-- regression of F84 (fixed by 466355c): a dry run that goes by `Size()` alone announces the drop of a partition whose
57 acknowledged bytes wait for their flush, which the run refuses; with the flush it announces nothing -/
theorem regress_dry_announces_unflushed_drop :
    dryAnnouncesDrop false 0 57 = true ∧ dryAnnouncesDrop true 0 57 = false ∧ deleteJournalSeen true true 0 0 57 = false := by
  decide

/-- **DRYRUN announces what the run does — phase I, one partition, nobody else using it**: same immediate report,
same entry for the sorted list (bytes, chunk count, deleted flag). -/
theorem dryrun_equals_run_phase1 (p : Params) (part : Part) (hu : part.users = 0) (hs : Ascending part.chunks) :
    (phase1Part strict { p with dryRun := true } part).report = (phase1Part strict { p with dryRun := false } part).report ∧
    (phase1Part strict { p with dryRun := true } part).info = (phase1Part strict { p with dryRun := false } part).info :=
  phase1Part_dry_eq_run strict p part hu hs

/-! ## DRYRUN and the MAXDBSIZE pass -/

/-- **The inner call of the MAXDBSIZE pass empties the partition it takes** (ascending ids, no chunk smaller than two
bytes — a stored record takes at least 14), so `deleteJournal` then succeeds whenever nobody else holds the partition:
the run deletes exactly where the dry run says "deleted". -/
theorem global_truncate_empties_partition (cks : List Chunk) (hs : Ascending cks) (hall : ∀ c ∈ cks, 2 ≤ c.size) :
    (truncateNow { dryRun := false, minSrc := gMin, maxSrc := gMax } cks).chunks = [] ∧
    canDelete 0 (truncateNow { dryRun := false, minSrc := gMin, maxSrc := gMax } cks).chunks = true := by
  have h1 : gMin = 0 := by decide
  have h2 : gMax = 1 := by decide
  rw [h1, h2, global_truncate_empties strict cks hs hall]
  exact ⟨rfl, by decide⟩

/-- **Chunk count of a partition the MAXDBSIZE pass takes: DRYRUN = run** (replaces the retired counterexample of
finding F30, fixed by 49b0b2b). `ti` is the partition's phase-I entry (`ti.chunksDeleted` chunks chosen there); the dry
pass sees the unreduced chunk list, the real pass the list phase I left: both write the same entry. -/
theorem dryrun_chunk_count_agrees (ti : Info) (cks : List Chunk) (h : ti.chunksDeleted ≤ cks.length) :
    takenInfo true ti cks = takenInfo false ti (cks.drop ti.chunksDeleted) ∧
    (takenInfo true ti cks).chunksDeleted = cks.length :=
  ⟨takenInfo_dry_eq_run ti cks h, by simp [takenInfo]; omega⟩

/-- **`sortedInfos` is sorted and is the same list for every visiting order** (`insert_perm_invariant` lifted to
phase I): by latest timestamp descending, equal timestamps by source id ascending — Go's map order cannot show. -/
theorem sortedInfos_order_invariant (p : Params) (o1 o2 : List Part) (hp : o1.Perm o2) (hnd : (o1.map (·.src)).Nodup) :
    (phase1 strict p o1).infos = (phase1 strict p o2).infos ∧ SortedInfos (phase1 strict p o1).infos := by
  rw [phase1_eq, phase1_eq]
  obtain ⟨h1, h2, _⟩ := insert_perm_invariant _ _ (hp.filterMap (fun q => (phase1Part strict p q).info))
    (p1_infos_nodup strict p o1 hnd)
  exact ⟨h1, h2⟩

/-- the order-independence of the sorted insertion itself: the same entries (distinct source ids) inserted in any two
orders give the same, sorted, list -/
theorem insert_perm_invariant (l1 l2 : List Info) (hp : l1.Perm l2) (hnd : (l1.map (·.src)).Nodup) :
    sortInfos l1 = sortInfos l2 ∧ SortedInfos (sortInfos l1) ∧ (sortInfos l1).Perm l1 :=
  Logrange.Truncate.insert_perm_invariant l1 l2 hp hnd

/-- **DRYRUN announces exactly what the run does — the whole command, MAXDBSIZE pass included.** For every layout,
every parameter combination and every visiting order of the two calls (`o1`: the dry run's walk over the tag index,
`o2`: the run's — two independent walks over a Go map), with nobody else using the partitions
(`users = 0`: `noConcurrentUsers`), distinct source ids, ascending chunk ids, and partitions that are empty or have no
chunk below two bytes (`WellSized`; a stored record takes at least 14): every report line of the dry run (partition,
size before and after, chunk count, deleted flag) is a report line of the run and vice versa. No tie hypothesis, no
double-count hypothesis (repairs cac5c5d, 49b0b2b). Together with `dryrun_changes_nothing` this is the property's
DRYRUN clause. -/
theorem dryrun_equals_run_full (p : Params) (o1 o2 : List Part) (hp : o1.Perm o2) (hnd : (o1.map (·.src)).Nodup)
    (hq : ∀ q ∈ o1, q.users = 0 ∧ Ascending q.chunks ∧ WellSized q) :
    (∀ r, r ∈ (runNow { p with dryRun := true } o1).reports ↔ r ∈ (runNow { p with dryRun := false } o2).reports) ∧
    (runNow { p with dryRun := true } o1).db = o1 := by
  have h1 : gMin = 0 := by decide
  have h2 : gMax = 1 := by decide
  refine ⟨?_, dryrun_changes_nothing _ rfl o1⟩
  rw [h1, h2]
  exact dryrun_equals_run strict p o1 o2 hp hnd hq

/-- **The MAXDBSIZE pass takes the front of the latest-timestamp order and stops as soon as the total fits**
(stated on the dry run, whose reports are the run's by `dryrun_equals_run_full`): the list the pass walks is sorted
(`SortedInfos`: latest timestamp descending, ties by source id); the pass visits exactly its first
`passLen MaxDBSize infos total` entries — `passLen` counts entries while the running total exceeds MAXDBSIZE —, every
visited entry leaves with nothing left (`after = 0`: its partition is taken whole, or was already emptied by phase I),
and every entry behind them is untouched. -/
theorem global_pass_front (p : Params) (hd : p.dryRun = true) (order : List Part) (hnd : (order.map (·.src)).Nodup) :
    let I := (phase1 strict p order).infos
    let res := (globalLoop acct strict gMin gMax p I (totalAfter I) (phase1 strict p order).db).1
    let k := passLen p.maxDB I (totalAfter I)
    SortedInfos I ∧ (∀ x ∈ res.take k, x.after = 0) ∧ res.drop k = I.drop k := by
  intro I res k
  refine ⟨(sortedInfos_order_invariant p order order (List.Perm.refl _) hnd).2, ?_⟩
  apply globalLoop_dry_front strict gMin gMax p hd
  -- every candidate's partition is still there: a dry phase I drops nothing
  intro ti hti _
  rw [phase1_dry_db strict p hd]
  have hI : I = sortInfos (order.filterMap (fun q => (phase1Part strict p q).info)) := by
    show (phase1 strict p order).infos = _
    rw [phase1_eq]
  rw [hI] at hti
  obtain ⟨q, hq, hqi⟩ := (mem_phase1_infos strict p order hnd ti).mp hti
  rw [(p1_info_src strict p q ti hqi).2, dbFind_of_mem order hnd q hq]
  rfl

def c (id size : Nat) (ts : Int) : Chunk := ⟨id, size, ts⟩

/-- regression of F30 (fixed): layout 200+200+120, `MAXSIZE 400 MINSIZE 100 MAXDBSIZE 100` — the dry run and the run both
report 3 chunks. -/
theorem regress_dryrun_chunk_count :
    let part : Part := ⟨1, true, 0, [c 1 200 5, c 2 200 9, c 3 120 12]⟩
    let p : Params := { maxSrc := 400, minSrc := 100, maxDB := 100 }
    (runNow { p with dryRun := true } [part]).reports.map (·.chunksDeleted) = [3] ∧
    (runNow { p with dryRun := false } [part]).reports.map (·.chunksDeleted) = [3] ∧
    (runNow { p with dryRun := false } [part]).db = [] := by decide

/-- regression of F31 (fixed): two partitions whose newest events share a timestamp, `MAXDBSIZE` lets exactly one go —
in either visiting order the dry run and the run name the partition with the smaller source id, with equal reports. -/
theorem regress_dryrun_tie :
    let a : Part := ⟨1, true, 0, [c 1 60 20]⟩
    let b : Part := ⟨2, true, 0, [c 1 60 20]⟩
    let p : Params := { maxDB := 60 }
    (runNow { p with dryRun := true } [a, b]).reports = (runNow { p with dryRun := false } [b, a]).reports ∧
    (runNow { p with dryRun := true } [b, a]).reports = (runNow { p with dryRun := false } [a, b]).reports ∧
    (runNow { p with dryRun := false } [b, a]).reports.map (·.src) = [1] := by decide

/-- **The order of the sorted insertion is total on distinct source ids** (replaces the retired counterexample of
finding F31, fixed by cac5c5d): of two entries with different source ids exactly one comes before the other, whatever
their timestamps — the visiting order can no longer decide. -/
theorem tie_break_total (a b : Info) (h : a.src ≠ b.src) : notBefore a b = !notBefore b a := by
  rw [Bool.eq_iff_iff, Bool.not_eq_true', notBefore_iff, notBefore_false_iff]
  exact ⟨Before.total h, fun h1 h2 => Before.asymm h2 h1⟩

/-- F32 — the MAXDBSIZE pass ignores MAXSIZE and MINSIZE: a 113-byte partition, `MINSIZE 100 MAXSIZE 500 MAXDBSIZE 97`,
is emptied and dropped although it is not above MAXSIZE and ends below MINSIZE. -/
theorem cex_global_ignores_bounds :
    (runNow { minSrc := 100, maxSrc := 500, maxDB := 97 } [⟨1, true, 0, [c 1 113 31]⟩]).db = [] ∧
    (phase1 strict { minSrc := 100, maxSrc := 500, maxDB := 97 } [⟨1, true, 0, [c 1 113 31]⟩]).db =
      [⟨1, true, 0, [c 1 113 31]⟩] := by decide

/-- regression of F43 (fixed by b1a5e66): `MINSIZE 57 MAXSIZE 113` on a one-chunk partition that has grown from 114 to
152 bytes keeps the chunk — the loops start from the sum of the sizes they subtract; started from a stale total of 114
(`chooseAt`, the code before the fix, whose `jrnl.Size()` read could be older) the guard `114 - 152` wraps and the
chunk is taken. The general statement is `never_below_min`, which no longer has a snapshot hypothesis. -/
theorem regress_size_wrap :
    (chooseNow { minSrc := 57, maxSrc := 113 } [c 1 152 8]).n = 0 ∧
    (chooseAt strict { minSrc := 57, maxSrc := 113 } [c 1 152 8] 114).n = 1 := by decide

/-- F21 (fixed by 62f799c) — with `<=` in the time loop `BEFORE 5` would take a chunk whose newest record is exactly 5;
with `<` (the code now, `strict = true`) it keeps it. -/
theorem cex_before_equal :
    (choose false { oldestTs := 5 } [c 1 2 4, c 2 3 5]).n = 2 ∧ (chooseNow { oldestTs := 5 } [c 1 2 4, c 2 3 5]).n = 1 := by
  decide

/-- **A reader without an open chunk handle continues at the first remaining event.** -/
theorem reader_continues_partial (remaining : List (Nat × Nat)) (first : Nat × Nat) (rest : List (Nat × Nat)) (pos : RPos)
    (closed : Bool) (hr : remaining = first :: rest) (hid : pos.cid ≤ first.1) (hrec : 0 < first.2) :
    getAfterRemoval remaining pos false closed = .record first.1 0 := by
  subst hr
  simp [getAfterRemoval, List.find?, hid, hrec]

/-- F26 — a cursor the server holds between two pages keeps its chunk handle: after the chunk was removed and closed
the next `Get` answers `ClosedState` instead of the first remaining event. -/
theorem cex_open_handle_after_truncate :
    getAfterRemoval [(2, 3)] ⟨1, 3⟩ true true = .closedState ∧ getAfterRemoval [(2, 3)] ⟨1, 3⟩ false true = .record 2 0 := by
  decide

/-! ## one partition while a writer appends (every schedule of the writer between the snapshot and the deletion) -/

/-- **Under a concurrent writer TRUNCATE still removes only whole oldest chunks.** `snap` is the chunk list `truncate`
decided on, `now` the journal when `DeleteChunks` runs — any journal the snapshot can have grown into (`GrownFrom`: the
writer appended to the last chunk and/or opened new chunks, any number of times, at any moments). Then exactly the `n`
oldest chunks of the journal as it is then go (`n` = the chooser's count on the snapshot, `n ≤ len(snap)`); the content
afterwards is a suffix of the content at that moment (which is the old content followed by everything appended); and
every chunk the writer opened after the snapshot survives whole. -/
theorem truncate_under_writer (p : Params) (snap now : List Chunk) (hg : GrownFrom snap now) (hs : Ascending now) :
    (chooseNow p snap).n ≤ snap.length ∧
    truncateAt strict p snap now = (if p.dryRun = true then now else now.drop (chooseNow p snap).n) ∧
    (∀ {α : Type} (ev : Chunk → List α), (truncateAt strict p snap now).flatMap ev <:+ now.flatMap ev) ∧
    now.drop snap.length <:+ truncateAt strict p snap now := by
  have hle := choose_n_le strict p snap
  have heq := truncateAt_eq strict p snap now hg hs
  refine ⟨hle, heq, ?_, ?_⟩
  · intro α ev
    rw [heq]
    exact flatMap_suffix_of_drop ev _ now _
  · rw [heq]
    split
    · exact List.drop_suffix _ _
    · have e : now.drop snap.length = (now.drop (chooseNow p snap).n).drop (snap.length - (chooseNow p snap).n) := by
        rw [List.drop_drop]; congr 1; omega
      rw [e]
      exact List.drop_suffix _ _

/-- **Size clause under a concurrent writer**: the sizes the snapshot showed are lower bounds of the sizes at deletion
time, so a chunk taken by the size loop goes from a partition that IS above MAXSIZE, and after every single removal
(either loop) at least MINSIZE IS left. -/
theorem size_rule_under_writer (p : Params) (snap now : List Chunk) (hg : GrownFrom snap now) (i : Nat) :
    (i < (chooseNow p snap).bySize → p.maxSrc < psize (now.drop i)) ∧
    (i < (chooseNow p snap).n → p.minSrc ≤ psize (now.drop (i + 1))) := by
  have g1 := grown_psize_drop hg i
  have g2 := grown_psize_drop hg (i + 1)
  refine ⟨?_, ?_⟩
  · intro hi
    have := ((choose_spec strict p snap).2.1 i hi).2.1
    omega
  · intro hi
    have := never_below_min p snap i hi
    omega

/-- **What goes is what the snapshot showed, unless everything goes**: when the chooser keeps at least one chunk of
the snapshot, the removed chunks are the snapshot's, unchanged (no appended event is removed, and
`before_removes_only_older` applies to them as they are). -/
theorem removed_as_seen_partial (p : Params) (snap now : List Chunk) (hg : GrownFrom snap now)
    (h : (chooseNow p snap).n < snap.length) : now.take (chooseNow p snap).n = snap.take (chooseNow p snap).n :=
  grown_take hg _ h

/-- When TRUNCATE takes EVERY chunk it saw, the last of them can have grown in between: `BEFORE 10` over a partition
whose only chunk ended at timestamp 5; an event of timestamp 12 is appended to that chunk after the time loop looked at
its hull and before `DeleteChunks`; the chunk goes with it. (Race window between `SyncChunks` and `DeleteChunks`; no
lock covers it. Finding F-C09-R1: reproduced on the implementation with a hook point before the `DeleteChunks` call —
`TRUNCATE … BEFORE "50"` removed the chunk together with the acknowledged event of timestamp 400 and dropped the
partition.) -/
theorem cex_before_race :
    GrownFrom [c 1 100 5] [c 1 119 12] ∧ (chooseNow { oldestTs := 10 } [c 1 100 5]).n = 1 ∧
    truncateAt strict { oldestTs := 10 } [c 1 100 5] [c 1 119 12] = [] := by
  refine ⟨?_, by decide, by decide⟩
  exact GrownFrom.cons _ _ [] [] rfl (by decide) (by intro h; exact absurd rfl h) (GrownFrom.nil [])

/-- non-vacuity: a snapshot of three chunks grown by an append to the last one and two new chunks; MAXSIZE 400 takes the
oldest, everything else — including what the writer added — stays -/
example : GrownFrom [c 10 200 5, c 13 200 9, c 17 120 12] [c 10 200 5, c 13 200 9, c 17 150 13, c 20 90 14, c 21 10 15] ∧
    truncateAt strict { maxSrc := 400, minSrc := 100 } [c 10 200 5, c 13 200 9, c 17 120 12]
      [c 10 200 5, c 13 200 9, c 17 150 13, c 20 90 14, c 21 10 15] = [c 13 200 9, c 17 150 13, c 20 90 14, c 21 10 15] := by
  refine ⟨?_, by decide⟩
  refine GrownFrom.cons _ _ _ _ rfl (by decide) (fun _ => rfl) ?_
  refine GrownFrom.cons _ _ _ _ rfl (by decide) (fun _ => rfl) ?_
  exact GrownFrom.cons _ _ [] _ rfl (by decide) (by intro h; exact absurd rfl h) (GrownFrom.nil _)

/-! ## the MAXDBSIZE pass and a partition somebody holds (finding F77) -/

/-- F77 — `dryrun_equals_run_full` needs `users = 0` for a reason: three partitions of 57 bytes, the newest events in
partition 3, which a reader holds; `MAXDBSIZE 114`. The dry run announces partition 3 (and only it). The run removes
partition 3's chunk, cannot drop it (`deleteJournal` refuses: in use), so it neither reports nor subtracts it, goes on
and drops partition 2: the report names partition 2 only, partition 3 is left empty without a word. -/
theorem cex_in_use_divergence :
    let o : List Part := [⟨1, true, 0, [c 1 57 12]⟩, ⟨2, true, 0, [c 1 57 22]⟩, ⟨3, true, 1, [c 1 57 32]⟩]
    (run false strict gMin gMax { dryRun := true, maxDB := 114 } o).reports.map (·.src) = [3] ∧
    (run false strict gMin gMax { dryRun := false, maxDB := 114 } o).reports.map (·.src) = [2] ∧
    (run false strict gMin gMax { dryRun := false, maxDB := 114 } o).db = [⟨1, true, 0, [c 1 57 12]⟩, ⟨3, true, 1, []⟩] := by decide

/-- the repaired accounting (`proposed-fixes/F77.diff`, shape `acct = true`) on the same input: the run reports partition 3
with the bytes and the chunk the dry run announced (only the deleted flag differs: it is in use and stays, empty), the
total is reduced, and partition 2 is left alone -/
theorem repaired_in_use_agreement :
    let o : List Part := [⟨1, true, 0, [c 1 57 12]⟩, ⟨2, true, 0, [c 1 57 22]⟩, ⟨3, true, 1, [c 1 57 32]⟩]
    (run true strict gMin gMax { dryRun := true, maxDB := 114 } o).reports.map (fun i => (i.src, i.before, i.after, i.chunksDeleted, i.deleted)) = [(3, 57, 0, 1, true)] ∧
    (run true strict gMin gMax { dryRun := false, maxDB := 114 } o).reports.map (fun i => (i.src, i.before, i.after, i.chunksDeleted, i.deleted)) = [(3, 57, 0, 1, false)] ∧
    (run true strict gMin gMax { dryRun := false, maxDB := 114 } o).db =
      [⟨1, true, 0, [c 1 57 12]⟩, ⟨2, true, 0, [c 1 57 22]⟩, ⟨3, true, 1, []⟩] := by decide

/-- **With the repaired accounting DRYRUN announces what the run removes whoever holds the partitions** (the positive
statement for shape `acct = true`, `proposed-fixes/F77.diff`): the whole command, MAXDBSIZE pass included, every layout,
every parameter combination, two arbitrary visiting orders, ANY holders — every report line of the dry run (partition, size
before and after, chunk count) is a report line of the run up to the deleted flag (a partition somebody holds is emptied,
not dropped), and vice versa. Hypotheses: distinct source ids, ascending chunk ids, `WellSized` (not used by the proof), and
no selected partition that is empty AND in use (the dry run's `size = 0` branch announces a drop the run must refuse). -/
theorem dryrun_equals_run_in_use_repaired (p : Params) (o1 o2 : List Part) (hp : o1.Perm o2)
    (hnd : (o1.map (·.src)).Nodup)
    (hq : ∀ q ∈ o1, Ascending q.chunks ∧ WellSized q ∧ (q.users ≠ 0 → q.sel = true → 0 < psize q.chunks)) :
    ∀ r, r ∈ ((run true strict gMin gMax { p with dryRun := true } o1).reports.map unflag) ↔
         r ∈ ((run true strict gMin gMax { p with dryRun := false } o2).reports.map unflag) := by
  have h1 : gMin = 0 := by decide
  have h2 : gMax = 1 := by decide
  rw [h1, h2]
  exact dryrun_equals_run_in_use strict p o1 o2 hp hnd hq

/-- **the code as it is now is one of the two shapes**, and in the repaired shape the pass never leaves an entry it
emptied unreported: every entry the pass visits (total above MAXDBSIZE, data left, partition found) leaves with
`after = 0`, dropped or not -/
theorem pass_accounts_by_shape (p : Params) (ti : Info) (rest : List Info) (ts : Nat) (db : List Part) (part : Part)
    (h1 : p.maxDB < ts) (h2 : 0 < ti.after) (hf : dbFind db ti.src = some part) :
    ((globalLoop true strict gMin gMax p (ti :: rest) ts db).1.head?.map (·.after)) = some 0 := by
  cases hd : p.dryRun with
  | true => rw [globalLoop_step_fst strict gMin gMax p ti rest ts db h1, passStep_dry strict gMin gMax p hd ti ts db part h2 hf]; rfl
  | false =>
    rw [globalLoop_step_fst strict gMin gMax p ti rest ts db h1,
      (passStep_run_found strict gMin gMax p hd ti ts db part h2 hf (Or.inl rfl)).1]
    rfl

/-! ## chunk objects that outlive their chunk (finding F56, journal library) -/

/-- F56 — two TRUNCATE statements overlap on a partition: both took the snapshot [1,2,3] and chose the two oldest
chunks; the first one's removal has completed (wrappers 1 and 2 closed); the second one's `DeleteChunks(cks[1].Id(), …)`
dereferences a closed wrapper. Reproduced deterministically (section trunc2race); the same dereference is reached from
`journal.Write` and `getChunkForWrite` under several writers and one TRUNCATE loop (stress program cmd/c09crash). -/
theorem cex_overlapping_truncates :
    deleteArg strict { maxSrc := 120 } [c 1 100 5, c 2 100 9, c 3 100 12] [1, 2] = none ∧
    deleteArg strict { maxSrc := 120 } [c 1 100 5, c 2 100 9, c 3 100 12] [] = some 2 := by decide

/-- the ids another TRUNCATE statement can have closed between this statement's snapshot and its `DeleteChunks`:
none when `Service.Truncate` is serialised by a mutex (regenerated fact `truncateSerialized`, `proposed-fixes/F56.diff`) -/
def overlapClosed (serialized : Bool) (other : List Nat) : List Nat := if serialized then [] else other

/-- **statement vs statement, by code shape**: with the mutex no TRUNCATE dereferences a chunk object another TRUNCATE
closed, whatever that one removed; without it the counterexample of F56 stands -/
theorem overlapping_truncates_by_shape :
    (∀ (p : Params) (snap : List Chunk) (other : List Nat), 0 < (chooseNow p snap).n →
      (deleteArg strict p snap (overlapClosed true other)).isSome = true) ∧
    deleteArg strict { maxSrc := 120 } [c 1 100 5, c 2 100 9, c 3 100 12] (overlapClosed false [1, 2]) = none ∧
    (Generated.C09.truncateSerialized = true ∨ Generated.C09.truncateSerialized = false) := by
  refine ⟨?_, by decide, by decide⟩
  intro p snap other hn
  unfold deleteArg derefId overlapClosed
  simp

/-- a statement whose snapshot was taken after every earlier removal completed never touches a closed chunk object:
the snapshot then holds none of the closed ids (`Chunks()` excludes chunks marked for deletion) — serialising TRUNCATE
statements would remove this path (not the writer paths inside the library) -/
theorem serialized_truncate_never_derefs_closed (p : Params) (snap : List Chunk) (closed : List Nat)
    (h : ∀ x ∈ snap, x.id ∉ closed) (hn : 0 < (chooseNow p snap).n) :
    (deleteArg strict p snap closed).isSome = true := by
  unfold deleteArg derefId
  have hle := choose_n_le strict p snap
  have hi : (chooseNow p snap).n - 1 < snap.length := by omega
  have hm : snap.getD ((chooseNow p snap).n - 1) default ∈ snap := by
    rw [List.getD_eq_getElem?_getD, List.getElem?_eq_getElem hi]; exact List.getElem_mem hi
  have := h _ hm
  rw [List.getD_eq_getElem?_getD] at this
  simp [List.contains_iff_mem, this]

/-! ### non-vacuity: the hypotheses above are met by concrete, non-trivial states -/

def lay : List Chunk := [c 10 200 5, c 13 200 9, c 17 120 12]

example : Ascending lay := by unfold Ascending lay c; decide
/-- size rule fires: MAXSIZE 400 MINSIZE 100 takes exactly the oldest chunk -/
example : (chooseNow { maxSrc := 400, minSrc := 100 } lay).bySize = 1 ∧
    (truncateNow { maxSrc := 400, minSrc := 100 } lay).chunks = [c 13 200 9, c 17 120 12] := by decide
/-- time rule fires: BEFORE 10 takes the two chunks older than 10, BEFORE 9 only the first -/
example : (chooseNow { oldestTs := 10 } lay).byTime = 2 ∧ (chooseNow { oldestTs := 9 } lay).byTime = 1 := by
  decide
/-- both loops in one call -/
example : (chooseNow { maxSrc := 400, minSrc := 100, oldestTs := 10 } lay).bySize = 1 ∧
    (chooseNow { maxSrc := 400, minSrc := 100, oldestTs := 10 } lay).byTime = 1 := by decide
/-- MINSIZE stops the time loop -/
example : (chooseNow { minSrc := 300, oldestTs := 100 } lay).n = 1 := by decide
/-- a dry run with the global pass active reports but keeps everything -/
example : (runNow { dryRun := true, maxDB := 100 } [⟨1, true, 0, lay⟩]).reports.length = 1 := by decide
/-- the global pass idles when the total fits -/
example : totalAfter (phase1 strict { maxSrc := 400 } [⟨1, true, 0, lay⟩]).infos ≤ ({ maxSrc := 400 } : Params).maxDB := by decide
/-- the hypotheses of `dryrun_equals_run_full` are met by two visiting orders of two partitions whose newest events tie,
with the MAXDBSIZE pass active (total 150 > 100) -/
example : ([⟨1, true, 0, [c 1 60 20]⟩, ⟨2, true, 0, [c 1 60 19, c 2 30 20]⟩] : List Part).Perm
      [⟨2, true, 0, [c 1 60 19, c 2 30 20]⟩, ⟨1, true, 0, [c 1 60 20]⟩] ∧
    (([⟨1, true, 0, [c 1 60 20]⟩, ⟨2, true, 0, [c 1 60 19, c 2 30 20]⟩] : List Part).map (·.src)).Nodup ∧
    (∀ q ∈ ([⟨1, true, 0, [c 1 60 20]⟩, ⟨2, true, 0, [c 1 60 19, c 2 30 20]⟩] : List Part),
      q.users = 0 ∧ Ascending q.chunks ∧ WellSized q) ∧
    (runNow { dryRun := true, maxDB := 100 } [⟨1, true, 0, [c 1 60 20]⟩, ⟨2, true, 0, [c 1 60 19, c 2 30 20]⟩]).reports.map (·.src) = [1] := by
  refine ⟨List.Perm.swap _ _ _, by decide, ?_, by decide⟩
  intro q hq
  simp only [List.mem_cons, List.not_mem_nil, or_false] at hq
  rcases hq with rfl | rfl
  · exact ⟨rfl, by simp [Ascending], Or.inr (by simp [c])⟩
  · exact ⟨rfl, by simp [Ascending, c], Or.inr (by simp [c])⟩
/-- an empty, unused partition is dropped; a used one is not -/
example : (phase1Part strict {} ⟨1, true, 0, []⟩).part = none ∧ (phase1Part strict {} ⟨1, true, 1, []⟩).part = some ⟨1, true, 1, []⟩ := by
  decide

end Logrange.Props.C09

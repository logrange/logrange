import Logrange.Proofs.RdIterFwd
/-!
# C09, reader clause — "a reader positioned inside removed data simply continues at the first remaining event"

Stated on the faithful model of the library's journal iterator (`Logrange/Model/RdJIter.lean`, the C03/C16 model of
`journal.JIterator` and `chunkfs.cIterator`, validated against the real iterators by the C03 harness) and proved from
its forward specification (`Rd.getFwd`, `Rd.iter_enumerates`). The journal before the TRUNCATE is `pre ++ rest`
(chunk ids ascending), the TRUNCATE removes the chunks `pre`, the journal afterwards is `rest`.
The hypothesis `it.ci = none` is "no chunk handle open": an uncached read builds its iterator from the position text of
the previous page. With a handle still open on a removed chunk the state is not well-formed for `rest` (`Rd.WF` asks
for the open chunk to exist) — that is finding F26, exhibited in `Props/C09.lean` (`cex_open_handle_after_truncate`).
-/
namespace Logrange.Props.C09Reader
open Logrange.Rd

/-- **A forward reader without an open chunk, positioned anywhere inside removed chunks, continues at the first
remaining record** — for every journal, every removed prefix `pre`, every index inside (or beyond) the removed chunk:
its next `Get` returns the first record of what is left, and draining it delivers exactly the remaining records, each
once, in order. -/
theorem reader_continues (pre rest : Journal) (hs : Sorted (pre ++ rest)) (it : It)
    (hci : it.ci = none) (hb : it.bkwd = false) (hin : ∃ c ∈ pre, c.id = it.cid) :
    (get rest it).2 = (flat rest).head? ∧
    ∀ n, (flat rest).length ≤ n → drain rest n it = flat rest := by
  have hrest : Sorted rest := (List.pairwise_append.mp hs).2.1
  obtain ⟨c0, hc0, hid⟩ := hin
  have hlt : ∀ c ∈ rest, it.cid < c.id := by
    intro c hc
    have := (List.pairwise_append.mp hs).2.2 c0 hc0 c hc
    omega
  have hwf : WF rest it := by unfold WF; rw [hci]; trivial
  have hz := fIdx_eq_zero_of_lt hci hlt
  refine ⟨by rw [(getFwd rest it hrest hwf hb).1, hz, List.head?_eq_getElem?], fun n hn => ?_⟩
  rw [iter_enumerates rest it n hrest hwf hb hn]
  show (flat rest).drop (fIdx rest it) = flat rest
  rw [hz, List.drop_zero]

/-- the same for a position that names no chunk at all any more but lies before everything that is left (the position
text of a page that ended exactly at the end of the last removed chunk, or a chunk removed by an earlier statement) -/
theorem reader_continues_before_all (rest : Journal) (hs : Sorted rest) (it : It)
    (hci : it.ci = none) (hb : it.bkwd = false) (hlt : ∀ c ∈ rest, it.cid < c.id) :
    (get rest it).2 = (flat rest).head? := by
  have hwf : WF rest it := by unfold WF; rw [hci]; trivial
  rw [(getFwd rest it hs hwf hb).1, fIdx_eq_zero_of_lt hci hlt, List.head?_eq_getElem?]

/-! ### non-vacuity -/

/-- two removed chunks, two left; the reader stood at index 1 of the first removed chunk -/
example : (get [⟨3, [⟨30, 0, true⟩, ⟨31, 0, true⟩], 0, 4294967295⟩, ⟨4, [⟨40, 0, true⟩], 0, 4294967295⟩]
    { cid := 1, idx := 1 }).2 = some ⟨30, 0, true⟩ := by decide

end Logrange.Props.C09Reader

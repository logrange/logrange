import Logrange.Proofs.Registry
import Logrange.Proofs.RegistrySave
import Logrange.Generated.C19
/-!
# C19 — Pipe registry: unique names, alphabetical paginated listing, idempotent ensure

Property theorems only (lemmas live in `Logrange/Proofs/Registry.lean`, the model in
`Logrange/Model/Registry.lean`). Every theorem here is an obligation of the C19 check; the audit lists
their axioms.
-/
namespace Logrange.Props.C19
open Go Logrange.Registry

/-- The listing the code computes, in the shape the extractor found in `/repo` *now*: either the insertion
loop (with its counter behaviour `Generated.C19.getPipesIncrementsCnt`) or collect-then-library-sort
(`Generated.C19.getPipesLibrarySort`). -/
def listing (order : List Pipe) : List Pipe :=
  getPipesShape Generated.C19.getPipesLibrarySort Generated.C19.getPipesIncrementsCnt order

/-- the library-sort shape gives the sorted permutation -/
theorem libSort_sorted_perm (order : List Pipe) :
    (libSortPipes order).Pairwise (fun a b => bytesLe a.name b.name = true) ∧ (libSortPipes order).Perm order := by
  refine ⟨?_, List.mergeSort_perm _ _⟩
  unfold libSortPipes
  exact List.pairwise_mergeSort (le := fun a b => bytesLe a.name b.name)
    (fun a b c h1 h2 => bytesLe_trans a.name b.name c.name h1 h2)
    (fun a b => by
      rcases bytesLe_total a.name b.name with h | h <;> simp [h]) order

/-- **Listing is alphabetical and complete**, for every map iteration order and any number of pipes:
sorted by name (Go string order) and a permutation of the registry's pipes — every pipe exactly once. -/
theorem listing_sorted (order : List Pipe) :
    (listing order).Pairwise (fun a b => bytesLe a.name b.name = true) ∧ (listing order).Perm order := by
  -- the source has one of the two shapes for which the listing is the sorted permutation
  have hshape : Generated.C19.getPipesLibrarySort = true ∨
      (Generated.C19.getPipesLibrarySort = false ∧ Generated.C19.getPipesIncrementsCnt = true ∧
        Generated.C19.getPipesSearchesOverCnt = true ∧ Generated.C19.getPipesSearchComparesNames = true) := by decide
  unfold listing getPipesShape
  rcases hshape with h | ⟨h, hfact, _⟩
  · rw [h]; exact libSort_sorted_perm order
  · rw [h, hfact]; exact getPipes_sorted_perm order

/-- The listing does not depend on the map iteration order when names are distinct: two orders of the
same pipes give the same list. -/
theorem listing_order_independent (o1 o2 : List Pipe) (hp : o1.Perm o2)
    (_hn : (o1.map (·.name)).Nodup) : (listing o1).map (·.name) = (listing o2).map (·.name) := by
  obtain ⟨s1, p1⟩ := listing_sorted o1
  obtain ⟨s2, p2⟩ := listing_sorted o2
  have hperm : ((listing o1).map (·.name)).Perm ((listing o2).map (·.name)) :=
    ((p1.trans hp).trans p2.symm).map _
  have hs1 : ((listing o1).map (·.name)).Pairwise (fun a b => bytesLe a b = true) := by
    rw [List.pairwise_map]; exact s1
  have hs2 : ((listing o2).map (·.name)).Pairwise (fun a b => bytesLe a b = true) := by
    rw [List.pairwise_map]; exact s2
  exact List.Perm.eq_of_pairwise (le := fun a b => bytesLe a b = true)
    (fun a b _ _ h1 h2 => bytesLe_antisymm a b h1 h2) hs1 hs2 hperm

/-- **Paging visits every pipe exactly once**: `SHOW PIPES OFFSET i·k LIMIT k` for `i = 0, 1, …`
concatenate to the whole listing (any page size `k ≥ 1`, enough pages). -/
theorem paging_partition (names : List Bytes) (k pages : Nat) (hk : 0 < k) (hp : names.length ≤ pages * k)
    (hkm : (k : Int) ≤ maxInt64) (hpm : ((pages * k : Nat) : Int) ≤ maxInt64) :
    ((List.range pages).map (fun i => (showPipes names (some (k : Int)) (some ((i * k : Nat) : Int))).getD [])).flatten
      = names := by
  have : (List.range pages).map (fun i => (showPipes names (some (k : Int)) (some ((i * k : Nat) : Int))).getD []) =
      (List.range pages).map (fun i => (names.drop (0 + i * k)).take k) := by
    apply List.map_congr_left
    intro i hi
    have hi' : i < pages := List.mem_range.mp hi
    have hle : i * k ≤ pages * k := Nat.mul_le_mul_right k (Nat.le_of_lt hi')
    rw [showPipes_eq names k (i * k) hk hkm (by omega)]; simp
  rw [this, pages_concat names k pages 0 (by omega)]; simp

/-- a negative OFFSET is rejected, never clamped -/
theorem negative_offset_rejected (names : List Bytes) (lim : Option Int) (o : Int) (h : o < 0) :
    showPipes names lim (some o) = none := by
  simp [showPipes, h]

/-- **Creating an existing name fails and changes nothing.** -/
theorem create_existing_fails_unchanged (r : Reg) (p q : Pipe) (ok : Bool) (h : r.find p.name = some q) :
    step r (.create p ok) = (r, .exists_) := by
  simp [step, create, h]

/-- **Creating a fresh name with parsable conditions registers exactly that definition.** -/
theorem create_fresh (r : Reg) (p : Pipe) (h : r.find p.name = none) :
    (step r (.create p true)).2 = .ok p ∧ (step r (.create p true)).1.find p.name = some p := by
  simp [step, create, h, find_cons_self]

/-- **Ensure is idempotent**: ensuring a pipe with the definition it already has returns it, unchanged. -/
theorem ensure_idempotent (r : Reg) (p : Pipe) (ok ok' : Bool) (h : r.find p.name = none) (hok : ok = true) :
    let r1 := (step r (.ensure p ok)).1
    step r1 (.ensure p ok') = (r1, .ok p) := by
  subst hok
  have h' : List.find? (fun x => x.name == p.name) r = none := h
  simp [step, ensure, Reg.find, h']

/-- **Ensure with a different definition fails and changes nothing.** -/
theorem ensure_conflict_fails (r : Reg) (p q : Pipe) (ok : Bool) (h : r.find p.name = some q)
    (hd : q.fltCond ≠ p.fltCond ∨ q.tagsCond ≠ p.tagsCond) :
    step r (.ensure p ok) = (r, .conflict) := by
  simp only [step, ensure, h]
  rcases hd with hd | hd <;> simp [hd]

/-- **A deleted pipe can be created again** (with any definition). -/
theorem delete_then_create (r : Reg) (n : Bytes) (q p : Pipe) (hq : r.find n = some q) (hp : p.name = n) :
    let r1 := (step r (.delete n)).1
    (step r1 (.create p true)).2 = .ok p := by
  subst hp
  exact create_after_delete r p

/-- DESCRIBE PIPE (`GetPipe`) reports the stored definition. -/
theorem describe_reports_stored (r : Reg) (p : Pipe) (h : r.find p.name = none) :
    (step (step r (.create p true)).1 (.get p.name)).2 = .ok p := by
  have h' : List.find? (fun x => x.name == p.name) r = none := h
  simp [step, create, Reg.find, h']

/-- **Names stay unique** along every history of registry operations. -/
theorem names_unique (r : Reg) (ops : List Op) (h : r.Nodup) : (run r ops).Nodup := by
  induction ops generalizing r with
  | nil => simpa [run] using h
  | cons o os ih => exact ih _ (step_nodup r o h)

/-! ### concurrent creates: the two critical sections of `CreatePipe`, any number of callers, any schedule -/

/-- Invariant of the concurrent-create transition system. -/
def CInv (s : CState) : Prop :=
  s.reg.Nodup ∧
  (∀ (a : Nat) (p : Pipe), s.pcs[a]? = some (p, Pc.done true) → ∃ q, s.reg.find p.name = some q) ∧
  (∀ (a b : Nat) (p q : Pipe), a ≠ b → s.pcs[a]? = some (p, Pc.done true) →
    s.pcs[b]? = some (q, Pc.done true) → p.name ≠ q.name)

/-- a step that only moves actor `a` to a program counter other than "created" keeps the invariant -/
theorem cinv_set_other (s : CState) (a : Nat) (p : Pipe) (pc : Pc) (hpc : pc ≠ Pc.done true)
    (halt : a < s.pcs.length) (h : CInv s) : CInv { s with pcs := s.pcs.set a (p, pc) } := by
  obtain ⟨hn, hacc, huniq⟩ := h
  have key : ∀ (b : Nat) (p' : Pipe), (s.pcs.set a (p, pc))[b]? = some (p', Pc.done true) →
      s.pcs[b]? = some (p', Pc.done true) := by
    intro b p' hb
    by_cases e : b = a
    · subst e
      rw [List.getElem?_set_self halt] at hb
      simp only [Option.some.injEq, Prod.mk.injEq] at hb
      exact absurd hb.2 hpc
    · rw [List.getElem?_set_ne (Ne.symm e)] at hb; exact hb
  refine ⟨hn, ?_, ?_⟩
  · intro b p' hb; exact hacc b p' (key b p' hb)
  · intro b c p' q' hbc hb hc; exact huniq b c p' q' hbc (key b p' hb) (key c q' hc)

theorem cstep_inv (s s' : CState) (a : Nat) (h : CInv s) (hs : cstep true s a = some s') : CInv s' := by
  unfold cstep at hs
  cases hpa : s.pcs[a]? with
  | none => simp [hpa] at hs
  | some pp =>
    obtain ⟨p, pc⟩ := pp
    have halt : a < s.pcs.length := (List.getElem?_eq_some_iff.mp hpa).1
    cases pc with
    | start =>
      simp only [hpa] at hs
      cases hf : s.reg.find p.name <;> simp only [hf, Option.some.injEq] at hs <;> subst hs <;>
        exact cinv_set_other s a p _ (by simp) halt h
    | checked =>
      simp only [hpa, if_true] at hs
      cases hf : s.reg.find p.name with
      | some q =>
        simp only [hf, Option.some.injEq] at hs; subst hs
        exact cinv_set_other s a p _ (by simp) halt h
      | none =>
        simp only [hf, Option.some.injEq] at hs; subst hs
        obtain ⟨hn, hacc, huniq⟩ := h
        -- who is told "created" after the step: actor `a` with `p`, or one that was told so before
        have key : ∀ (b : Nat) (p' : Pipe), (s.pcs.set a (p, Pc.done true))[b]? = some (p', Pc.done true) →
            (b = a ∧ p' = p) ∨ (b ≠ a ∧ s.pcs[b]? = some (p', Pc.done true)) := by
          intro b p' hb
          rcases getElem?_set_cases _ a b _ _ halt hb with ⟨e, e'⟩ | h'
          · exact .inl ⟨e, (Prod.mk.inj e').1⟩
          · exact .inr h'
        -- the name of an earlier winner is registered; `p`'s was not
        have fresh : ∀ (b : Nat) (p' : Pipe), s.pcs[b]? = some (p', Pc.done true) → p.name ≠ p'.name := by
          intro b p' hb en
          obtain ⟨x, hx⟩ := hacc b p' hb
          rw [en, hx] at hf; cases hf
        refine ⟨List.nodup_cons.mpr ⟨find_none_not_mem _ _ hf, hn⟩, ?_, ?_⟩
        · intro b p' hb
          rcases key b p' hb with ⟨_, rfl⟩ | ⟨_, hb'⟩
          · exact ⟨p', find_cons_self _ _⟩
          · obtain ⟨q, hq⟩ := hacc b p' hb'
            exact ⟨q, (List.find?_cons_of_neg (by simpa using fresh b p' hb')).trans hq⟩
        · intro b c p' q' hbc hb hc
          rcases key b p' hb with ⟨rfl, rfl⟩ | ⟨_, hb'⟩ <;> rcases key c q' hc with ⟨rfl, rfl⟩ | ⟨_, hc'⟩
          · exact absurd rfl hbc
          · exact fresh c q' hc'
          · exact (fresh b p' hb').symm
          · exact huniq b c p' q' hbc hb' hc'
    | done ok => simp [hpa] at hs

/-- **Concurrent creates keep the registry functional**: for every schedule of any number of callers,
the registry holds at most one pipe per name, every caller that was told "created" finds a pipe of its
name registered, and no two callers were told "created" for the same name. -/
theorem registry_functional (s : CState) (sched : List Nat) (h : CInv s) :
    CInv (crun Generated.C19.createPipeRechecks s sched) := by
  have hfact : Generated.C19.createPipeRechecks = true := by decide
  rw [hfact]
  induction sched generalizing s with
  | nil => simpa [crun] using h
  | cons a as ih =>
    simp only [crun]
    cases hs : cstep true s a with
    | none => exact ih s h
    | some s' => exact ih s' (cstep_inv s s' a h hs)

/-- Any number of callers, all starting now on a well-formed registry: whatever the interleaving of their
critical sections, two different callers never both succeed for one name. -/
theorem concurrent_same_name_one_winner (r : Reg) (hr : r.Nodup) (wants : List Pipe) (sched : List Nat)
    (a b : Nat) (p q : Pipe) (hab : a ≠ b) :
    let s := crun Generated.C19.createPipeRechecks ⟨r, wants.map (fun w => (w, Pc.start))⟩ sched
    s.pcs[a]? = some (p, Pc.done true) → s.pcs[b]? = some (q, Pc.done true) → p.name ≠ q.name := by
  intro s ha hb
  have h0 : CInv ⟨r, wants.map (fun w => (w, Pc.start))⟩ := by
    refine ⟨hr, ?_, ?_⟩
    · intro a p h; simp [List.getElem?_map] at h
    · intro a b p q _ h; simp [List.getElem?_map] at h
  exact (registry_functional _ sched h0).2.2 a b p q hab ha hb

/-! ### concurrent ensures of one definition -/

/-- **Ensure is idempotent under races.** Any number of callers ensure one name with one definition
(`SameDef d`), on a registry that has no pipe of that name or one with that definition; whatever the
interleaving of their critical sections (GetPipe, CreatePipe's two sections, up to three attempts each),
every caller that has returned got a pipe with that definition — none fails, none sees a conflict — and the
registry holds at most that definition under the name. -/
theorem ensure_same_definition_all_succeed (d : Pipe) (r : Reg) (hr : RegGood d r)
    (callers : List Pipe) (hc : ∀ p ∈ callers, SameDef d p) (sched : List Nat) :
    let s := erun ⟨r, callers.map (fun p => (p, Epc.get 0))⟩ sched
    (∀ (a : Nat) (p : Pipe) (res : Res), s.pcs[a]? = some (p, Epc.done res) → ∃ q, res = .ok q ∧ SameDef d q) ∧
    RegGood d s.reg := by
  intro s
  have h0 : EInv d ⟨r, callers.map (fun p => (p, Epc.get 0))⟩ := by
    refine ⟨hr, ?_⟩
    intro x hx
    obtain ⟨p, hp, rfl⟩ := List.mem_map.mp hx
    exact ⟨hc p hp, by simp⟩
  have hinv := erun_inv d _ sched h0
  refine ⟨?_, hinv.1⟩
  intro a p res ha
  have := hinv.2 (p, Epc.done res) (List.mem_of_getElem? ha)
  exact this.2

/-- no caller ever needs the third attempt (so the "Oops" exit of the three-attempt loop is unreachable
without concurrent deletes) -/
theorem ensure_never_exhausts_attempts (d : Pipe) (r : Reg) (hr : RegGood d r)
    (callers : List Pipe) (hc : ∀ p ∈ callers, SameDef d p) (sched : List Nat) (a : Nat) (p : Pipe) :
    (erun ⟨r, callers.map (fun p => (p, Epc.get 0))⟩ sched).pcs[a]? ≠ some (p, Epc.done .failed) := by
  intro h
  obtain ⟨q, hq, _⟩ := (ensure_same_definition_all_succeed d r hr callers hc sched).1 a p _ h
  cases hq

/-! ### the listing and its pages together -/

/-- **Walking SHOW PIPES with OFFSET/LIMIT pages visits every pipe exactly once, in alphabetical order**:
the pages of the listing the code computes (for any map iteration order) concatenate to a list that is
sorted and a permutation of the registry's names. -/
theorem paged_walk_visits_each_pipe_once (order : List Pipe) (k pages : Nat) (hk : 0 < k)
    (hp : order.length ≤ pages * k) (hkm : (k : Int) ≤ maxInt64) (hpm : ((pages * k : Nat) : Int) ≤ maxInt64) :
    let names := (listing order).map (·.name)
    let walk := ((List.range pages).map (fun i =>
      (showPipes names (some (k : Int)) (some ((i * k : Nat) : Int))).getD [])).flatten
    walk.Pairwise (fun a b => bytesLe a b = true) ∧ walk.Perm (order.map (·.name)) := by
  intro names walk
  obtain ⟨hs, hperm⟩ := listing_sorted order
  have hlen : names.length ≤ pages * k := by
    simp only [names, List.length_map]; rw [hperm.length_eq]; exact hp
  have hw : walk = names := paging_partition names k pages hk hlen hkm hpm
  rw [hw]
  exact ⟨by simp only [names]; rw [List.pairwise_map]; exact hs, hperm.map _⟩

/-! ### non-vacuity: the hypotheses above are met by concrete, non-trivial states -/

def pA : Pipe := ⟨[97], [], []⟩
def pB : Pipe := ⟨[98], [1], []⟩
def pA' : Pipe := ⟨[97], [2], []⟩

example : (getPipes true [pB, pA]).map (·.name) = [[97], [98]] := by decide
example : (libSortPipes [pB, pA]).map (·.name) = [[97], [98]] := by
  simp [libSortPipes, List.mergeSort, List.MergeSort.Internal.splitInTwo, List.splitAt, List.splitAt.go, pA, pB, bytesLe, bytesLt]
example : Reg.Nodup [pA, pB] ∧ Reg.find [pA, pB] pA'.name = some pA := by
  unfold Reg.Nodup; decide
/-- two racing creators of one name: one schedule where the second section of the first caller runs last -/
example : (crun true ⟨[], [(pA, .start), (pA', .start)]⟩ [0, 1, 1, 0]).pcs = [(pA, .done false), (pA', .done true)] := by
  decide

/-- why the re-check matters: without it the same schedule tells BOTH callers "created" (this is what
`registry_functional` would have to face if the second look-up were removed from the code) -/
theorem cex_without_recheck :
    (crun false ⟨[], [(pA, .start), (pA', .start)]⟩ [0, 1, 1, 0]).pcs = [(pA, .done true), (pA', .done true)] := by
  decide

-- three racing ensures of one fresh name: the interleaving below ends with all three holding the pipe
example : (erun ⟨[], [(pA, .get 0), (pA, .get 0), (pA, .get 0)]⟩ [0, 1, 2, 0, 1, 2, 2, 1, 0, 0, 1, 2]).pcs =
    [(pA, .done (.ok pA)), (pA, .done (.ok pA)), (pA, .done (.ok pA))] := by decide


/-! ### concurrent ensures with DIFFERENT definitions -/

/-- what an ensure may answer: "ok" only with a pipe that carries the caller's own two conditions -/
def EnsureSound (x : Pipe × Epc) : Prop :=
  match x.2 with
  | .done (.ok q) => q.fltCond = x.1.fltCond ∧ q.tagsCond = x.1.tagsCond
  | _ => True

theorem estep_sound (s s' : EState) (a : Nat) (h : ∀ x ∈ s.pcs, EnsureSound x) (hs : estep s a = some s') :
    ∀ x ∈ s'.pcs, EnsureSound x := by
  unfold estep at hs
  -- every branch replaces actor `a`'s entry only; it is enough to show the new entry is sound
  have key : ∀ (y : Pipe × Epc) (reg : Reg), EnsureSound y →
      ∀ x ∈ ({ reg := reg, pcs := s.pcs.set a y } : EState).pcs, EnsureSound x := by
    intro y reg hy x hx
    rcases List.mem_or_eq_of_mem_set hx with hx | rfl
    · exact h x hx
    · exact hy
  have next : ∀ (p : Pipe) (n : Nat), EnsureSound (p, nextAttempt n) := by
    intro p n; unfold nextAttempt; split <;> trivial
  cases hpa : s.pcs[a]? with
  | none => simp [hpa] at hs
  | some pp =>
    obtain ⟨p, pc⟩ := pp
    cases pc with
    | get n =>
      simp only [hpa] at hs
      cases hf : s.reg.find p.name with
      | none => simp only [hf, Option.some.injEq] at hs; subst hs; exact key _ _ trivial
      | some q =>
        simp only [hf] at hs
        by_cases hq : (q.fltCond != p.fltCond || q.tagsCond != p.tagsCond) = true
        · simp only [hq, if_true, Option.some.injEq] at hs; subst hs; exact key _ _ trivial
        · simp only [hq, Bool.false_eq_true, if_false, Option.some.injEq] at hs; subst hs
          refine key _ _ ?_
          simpa [EnsureSound] using hq
    | createStart n =>
      simp only [hpa] at hs
      cases hf : s.reg.find p.name <;> simp only [hf, Option.some.injEq] at hs <;> subst hs
      · exact key _ _ trivial
      · exact key _ _ (next p n)
    | createChecked n =>
      simp only [hpa] at hs
      cases hf : s.reg.find p.name <;> simp only [hf, Option.some.injEq] at hs <;> subst hs <;> exact key _ _ (next p n)
    | done r => simp [hpa] at hs

/-- **An ensure never hands out another definition.** Any number of concurrent `EnsurePipe` callers with ANY
definitions (same name or not, same conditions or not), any interleaving of their critical sections: a caller
that is answered "ok" gets a pipe with exactly its own two conditions — if somebody else's definition won the
name, the answer is the conflict error (or, after three lost attempts, the failure), never the other pipe. -/
theorem ensure_never_returns_another_definition (r : Reg) (callers : List Pipe) (sched : List Nat) :
    ∀ x ∈ (erun ⟨r, callers.map (fun p => (p, Epc.get 0))⟩ sched).pcs, EnsureSound x := by
  have hinit : ∀ x ∈ (⟨r, callers.map (fun p => (p, Epc.get 0))⟩ : EState).pcs, EnsureSound x := by
    intro x hx
    obtain ⟨p, _, rfl⟩ := List.mem_map.mp hx
    simp [EnsureSound]
  generalize (⟨r, callers.map (fun p => (p, Epc.get 0))⟩ : EState) = s at hinit
  induction sched generalizing s with
  | nil => simpa [erun] using hinit
  | cons a as ih =>
    simp only [erun]
    cases hs : estep s a with
    | none => exact ih s hinit
    | some s' => exact ih s' (estep_sound s s' a hinit hs)

/-- two ensurers of one name with different conditions: the overtaken one is told "conflict" -/
example : (erun ⟨[], [(pA, .get 0), (pA', .get 0)]⟩ [0, 0, 1, 1, 1, 1, 0, 0]).pcs =
    [(pA, .done .conflict), (pA', .done (.ok pA'))] := by decide

/-! ## persistence: the registry survives a clean restart (and an acknowledged definition survives a crash) -/

/-- which operations persist the registry, as the extractor reads it from the source now -/
def cfgNow : PCfg :=
  ⟨Generated.C19.createPipeSaves, Generated.C19.deletePipeSaves, Generated.C19.shutdownSaves⟩

/-- what is on disk is the registry, and every registered pipe is one `newPPipe` accepts -/
def PInv (acc : Pipe → Bool) (s : PState) : Prop :=
  (s.disk = some s.mem ∨ (s.disk = none ∧ s.mem = [])) ∧ ∀ p ∈ s.mem, acc p = true

theorem pload_of_inv (acc : Pipe → Bool) (s : PState) (h : PInv acc s) : pload acc s.disk = some s.mem := by
  obtain ⟨hd, ha⟩ := h
  have hall : s.mem.all acc = true := by simpa [List.all_eq_true] using ha
  rcases hd with hd | ⟨hd, hm⟩
  · simp [pload, hd, hall]
  · simp [pload, hd, hm]

/-- an operation that does not change the registry leaves it as it is -/
theorem step_unchanged (r : Reg) (o : Op) (h : changes r o = false) : (step r o).1 = r := by
  rcases step_fst r o with ⟨e, _⟩ | ⟨p, hp, hf, _⟩ | ⟨n, rfl, _⟩
  · exact e
  · rcases hp with rfl | rfl <;> simp [changes, hf] at h
  · simp only [step, changes] at h ⊢
    cases hf : r.find n with
    | none => rfl
    | some q => rw [hf] at h; cases h

/-- whatever an operation (with acceptance decided by `acc`) leaves in the registry is accepted by `acc` -/
theorem step_acc (acc : Pipe → Bool) (r : Reg) (o : Op) (h : ∀ p ∈ r, acc p = true) :
    ∀ p ∈ (step r (withAcc acc o)).1, acc p = true :=
  step_forall r _ h fun p hp => by
    cases o <;> rcases hp with hp | hp <;> simp only [withAcc, Op.create.injEq, Op.ensure.injEq, reduceCtorEq] at hp
    all_goals exact hp.1 ▸ hp.2

/-- one step of a server whose create and delete persist keeps the invariant, whatever `Shutdown` does -/
theorem pstep_inv (cfg : PCfg) (acc : Pipe → Bool) (hc : cfg.createSaves = true) (hd : cfg.deleteSaves = true)
    (s : PState) (o : POp) (h : PInv acc s) : PInv acc (pstep cfg acc s o).1 := by
  have hl := pload_of_inv acc s h
  obtain ⟨hdisk, hacc⟩ := h
  cases o with
  | restart =>
    unfold pstep
    by_cases hs : cfg.shutdownSaves = true
    · have : pload acc (some s.mem) = some s.mem := by
        have hall : s.mem.all acc = true := by simpa [List.all_eq_true] using hacc
        simp [pload, hall]
      simp only [hs, if_true, this]; exact ⟨Or.inl rfl, hacc⟩
    · have hs' : cfg.shutdownSaves = false := by simpa using hs
      simp only [hs', Bool.false_eq_true, if_false, hl]; exact ⟨hdisk, hacc⟩
  | crash => unfold pstep; simp only [hl]; exact ⟨hdisk, hacc⟩
  | op o =>
    have hsave : savesAfter cfg s.mem (withAcc acc o) = changes s.mem (withAcc acc o) := by
      unfold savesAfter; cases o <;> simp [withAcc, hc, hd, changes]
    refine ⟨?_, step_acc acc s.mem o hacc⟩
    show (if savesAfter cfg s.mem (withAcc acc o) = true then some (step s.mem (withAcc acc o)).1 else s.disk)
        = some (step s.mem (withAcc acc o)).1 ∨
      ((if savesAfter cfg s.mem (withAcc acc o) = true then some (step s.mem (withAcc acc o)).1 else s.disk) = none ∧
        (step s.mem (withAcc acc o)).1 = [])
    rw [hsave]
    cases hch : changes s.mem (withAcc acc o) with
    | true => exact .inl rfl
    | false => rw [step_unchanged s.mem (withAcc acc o) hch]; exact hdisk

/-- **The registry survives a clean restart** — and a crash — at any point of any history: from an empty
directory, after every sequence of create / ensure / delete / get operations, clean restarts and crashes,
a further clean restart (or crash) starts (is not refused) and leaves exactly the registry that was there.
The three facts (CreatePipe, DeletePipe and Shutdown call `savePipes`) are read from the source on every run. -/
theorem registry_survives_restart (acc : Pipe → Bool) (ops : List POp) :
    let s := prun cfgNow acc ⟨[], none⟩ ops
    pstep cfgNow acc s .restart = (⟨s.mem, some s.mem⟩, none) ∧
    (pstep cfgNow acc s .crash).1.mem = s.mem ∧ (pstep cfgNow acc s .crash).2 = none := by
  have hc : cfgNow.createSaves = true := by decide
  have hd : cfgNow.deleteSaves = true := by decide
  have hs : cfgNow.shutdownSaves = true := by decide
  have hinv : ∀ (ops : List POp) (s : PState), PInv acc s → PInv acc (prun cfgNow acc s ops) := by
    intro ops
    induction ops with
    | nil => intro s h; exact h
    | cons o os ih => intro s h; exact ih _ (pstep_inv cfgNow acc hc hd s o h)
  have h := hinv ops ⟨[], none⟩ ⟨Or.inr ⟨rfl, rfl⟩, by simp⟩
  intro s
  have hl := pload_of_inv acc s h
  have hall : s.mem.all acc = true := by simpa [List.all_eq_true] using h.2
  refine ⟨?_, ?_, ?_⟩
  · simp [pstep, hs, pload, hall]
  · simp [pstep, hl]
  · simp [pstep, hl]

/-- why the save in `CreatePipe` matters (the repair of F07): without it a crash right after an acknowledged
create loses the definition — the model's other branch -/
theorem cex_create_without_save :
    (prun ⟨false, true, true⟩ (fun _ => true) ⟨[], none⟩ [.op (.create pA true), .crash]).mem = [] := by
  decide

example : (prun cfgNow (fun _ => true) ⟨[], none⟩ [.op (.create pA true), .op (.create pB true), .op (.delete [97]), .restart]).mem = [pB] := by
  decide


/-! ## concurrent creates and the registry file -/

/-- **An acknowledged create is in pipes.dat, under every interleaving**: any number of concurrent callers of
`CreatePipe` (same or different names), any schedule of their atomic steps (the two critical sections, the
snapshot `savePipes` takes under the service lock, the write of the file): every caller that has been told
"created" finds its definition on disk — so a crash at any later point keeps it. `savePipes` being serialized
by its own mutex is read from the source on every run. -/
theorem concurrent_acknowledged_creates_on_disk (r : Reg) (wants : List Pipe) (sched : List Nat) :
    let s := srun Generated.C19.savePipesSerialized ⟨r, r, none, wants.map (fun w => (w, SPc.start))⟩ sched
    ∀ (a : Nat) (p : Pipe), s.pcs[a]? = some (p, SPc.done true) → p ∈ s.disk := by
  have hfact : Generated.C19.savePipesSerialized = true := by decide
  rw [hfact]
  intro s a p ha
  have hinit : SInv ⟨r, r, none, wants.map (fun w => (w, SPc.start))⟩ := by
    refine ⟨fun q hq => hq, ?_, ?_⟩
    · intro b x hb
      simp only [List.getElem?_map] at hb
      cases hw : wants[b]? with
      | none => simp [hw] at hb
      | some w => simp only [hw, Option.map_some, Option.some.injEq] at hb; subst hb; simp [SOk]
    · intro b hb; cases hb
  have h := (srun_inv _ sched hinit).2.1 a (p, SPc.done true) ha
  simpa [SOk] using h

/-- why the serialization matters (found by an independent reviewer of the F07 repair): without it two calls
can take their snapshots in one order and write them in the other — the second caller is told "created" and
its definition is not on disk. The model's other branch. -/
theorem cex_unserialized_save_loses_acknowledged_create :
    let s := srun false ⟨[], [], none, [(pA, SPc.start), (pB, SPc.start)]⟩ [0, 0, 0, 1, 1, 1, 1, 0]
    s.pcs[1]? = some (pB, SPc.done true) ∧ pB ∉ s.disk := by
  decide

/-- the same schedule with the serialized `savePipes`: caller 1 waits for caller 0's write, both are on disk -/
example : (srun true ⟨[], [], none, [(pA, SPc.start), (pB, SPc.start)]⟩ [0, 0, 0, 1, 1, 1, 0, 1, 1]).disk = [pB, pA] := by
  decide

end Logrange.Props.C19

import Logrange.Proofs.TIndexLts
import Logrange.Proofs.TIndexProg
import Logrange.Proofs.TIndexDnr
import Logrange.Proofs.TIndexWr
import Logrange.Generated.C14
/-!
# C14 — A partition is never deleted, re-created or left locked while someone uses it

Property theorems only (model: `Logrange/Model/TIndexLts.lean`, lemmas: `Logrange/Proofs/TIndexLts.lean`).
All theorems quantify over **every trace** of the transition system (`run init tr`): any number of actors,
any number of partitions, every interleaving of the critical sections of `tindex.inmemService`, including the
interleavings inside `Visit` (callbacks, waiting, aborting, `VF_DO_NOT_RELEASE`).

`readers` is the counter in the code; `holds` is the ghost multiset of acquisitions not yet given back.
-/
namespace Logrange.Props.C14
open Logrange.TIndexLts

/-- the state after an arbitrary trace -/
def reach (tr : List Lbl) : St := run init tr

theorem reach_inv (tr : List Lbl) : StInv (reach tr) := run_inv tr init inv_init

/-- The regenerated lock-discipline facts: every access to `tmap`/`smap`/`done` and to the descriptor fields
`readers`/`exclusive` in `pkg/tindex/inmem.go` is lexically inside `ims.lock.Lock() … Unlock()` (or in a function that
is only called with the lock held / before the service is published). This is what makes "one label = one critical
section" the right granularity. -/
theorem lock_discipline : Generated.C14.unlockedAccesses = [] := by decide

/-- `deleteJournal` (the only exclusive section in the code base) is straight-line: between `LockExclusively` and
the matching `UnlockExclusively` it calls nothing that can wait for a partition (lock; `j.Sync()`; size test; then
either unlock + return, or `Delete` + unlock), it contains no loop, switch, goroutine or defer, and no `return` or `panic`
is reached while the lock is held. With `progress_*` below this is
the deadlock-freedom argument: waiting happens only on an exclusively locked source, and its locker never waits. -/
theorem exclusive_section_straight_line : Generated.C14.blockingCallsInsideExclusiveSection = [] ∧
    Generated.C14.exclusiveSectionLockedExits = [] := by decide

/-- exclusive locks are taken by `deleteJournal` only, and only on a partition with exactly one reader (the model's
`lockRaw` demands `readers == 1`) -/
theorem only_deleteJournal_locks :
    Generated.C14.lockExclusivelyCallers = ["pkg/partition/partition.go:deleteJournal"] ∧
    Generated.C14.lockExclusivelyReaders = 1 := by decide

/-- **No leak, no double release**: the reader count of every live partition equals the number of outstanding
acquisitions (Σ over all actors). -/
theorem readers_eq_holds (tr : List Lbl) (s : Nat) (p : Part) (h : (reach tr).c.parts s = some p) :
    p.readers = (nTok s (reach tr).c.holds : Int) :=
  (reach_inv tr).core.cnt s p h

/-- **Exclusive means alone**: an exclusively locked partition has exactly one reader, that acquisition belongs
to the locker, and nobody else holds the partition. -/
theorem exclusive_single (tr : List Lbl) (s : Nat) (p : Part) (h : (reach tr).c.parts s = some p)
    (hx : p.exclusive = true) :
    p.readers = 1 ∧ ∃ a, (reach tr).c.locker s = some a ∧ holdsAny (reach tr).c.holds a s = true ∧
      ∀ t, t ∈ (reach tr).c.holds → t.src = s → t.actor = a := by
  have hi := (reach_inv tr).core
  obtain ⟨r1, a, au, hl, hm⟩ := hi.excl s p h hx
  refine ⟨r1, a, hl, ?_, ?_⟩
  · cases au with
    | false => simp [holdsAny, hm]
    | true => simp [holdsAny, hm]
  · intro t ht hts
    by_cases e : t = ⟨a, s, au⟩
    · rw [e]
    · have two := nTok_two s t ⟨a, s, au⟩ _ ht hm e hts rfl
      have := hi.cnt s p h
      omega

/-- **Nobody gets in while it is exclusive** (`GetJournalTags`): the call changes nothing and has to retry. -/
theorem no_acquire_while_exclusive_getTags (st : St) (a s : Nat) (lock : Bool) (p : Part)
    (h : st.c.parts s = some p) (hx : p.exclusive = true) : step st (.getTags a s lock) = some st :=
  step_getTags_wait h hx lock

/-- … `getOrCreateJournal` / `GetJournal` -/
theorem no_acquire_while_exclusive_getOrCreate (st : St) (a tags s : Nat) (create : Bool) (p : Part)
    (hf : findTags st.c.parts tags st.c.next = some s)
    (h : st.c.parts s = some p) (hx : p.exclusive = true) : step st (.getOrCreate a tags create) = some st :=
  step_getOrCreate_wait hf h hx create

/-- … the per-item section of the waiting `Visit`: it neither acquires nor calls the visitor (and before a shutdown
it changes nothing at all: the visit retries) -/
theorem no_acquire_while_exclusive_visitTry (st st' : St) (a s : Nat) (p : Part)
    (h : st.c.parts s = some p) (hx : p.exclusive = true) (hs : step st (.visitTry a s) = some st') :
    st'.c = st.c ∧ (st.done = false → st' = st) := by
  cases step_eff hs with
  | skip | tryWait => exact ⟨rfl, fun _ => rfl⟩
  | tryDown v _ hd => exact ⟨rfl, fun h0 => by rw [hd] at h0; cases h0⟩
  | tryGone v _ _ _ hp => rw [h] at hp; cases hp
  | tryAcq v p' _ _ _ hp hx' => rw [h] at hp; cases hp; rw [hx] at hx'; cases hx'

/-- … the snapshot of both `Visit` flavours never contains (and the skipping flavour never acquires) an
exclusively locked partition: the number of acquisitions of an exclusively locked source is unchanged -/
theorem no_acquire_while_exclusive_visitBegin (tr : List Lbl) (a : Nat) (sel : List Nat) (skipping noRelease : Bool)
    (st' : St) (s : Nat) (p : Part)
    (h : (reach tr).c.parts s = some p) (hx : p.exclusive = true)
    (hs : step (reach tr) (.visitBegin a sel skipping noRelease) = some st') :
    nTok s st'.c.holds = nTok s (reach tr).c.holds ∧ st'.c.parts s = some p := by
  have hi := reach_inv tr
  have hi' := step_inv _ _ _ hi hs
  cases step_eff hs with
  | skip => exact ⟨rfl, h⟩
  | start =>
    -- the descriptor is untouched, and `readers` counts the acquisitions before and after
    have hp' := (snap_inv a sel skipping _ _ (List.range (reach tr).c.next) _ _ hi.core).2.2.2.2.2 s p h hx
    have c1 := hi.core.cnt s p h
    have c2 := hi'.core.cnt s p hp'
    exact ⟨Int.ofNat.inj (c2.symm.trans c1), hp'⟩

/-- **Delete only when unused**: a `Delete` that removes the partition happens in a state where the only
outstanding acquisition is the deleter's own. -/
theorem delete_only_unused (tr : List Lbl) (a s : Nat) (st' : St) (p : Part)
    (h : (reach tr).c.parts s = some p) (hs : step (reach tr) (.delete a s) = some st') (hd : st'.c.parts s = none) :
    nTok s (reach tr).c.holds = 1 ∧ (reach tr).c.locker s = some a ∧
      ∀ t, t ∈ (reach tr).c.holds → t.src = s → t.actor = a := by
  cases step_eff hs with
  | skip => rw [h] at hd; cases hd
  | delete p' hp' hx hl =>
    rw [h] at hp'; cases hp'
    obtain ⟨r1, b, hb, _, hall⟩ := exclusive_single tr s p h hx
    have := readers_eq_holds tr s p h
    rw [hl] at hb; cases hb
    exact ⟨by omega, hl, hall⟩

/-- **A deleted partition stays deleted** (sources are never re-used, so a running `Visit` that still points at
the old descriptor can never touch a re-created one): `Delete` on a live, locked partition removes it. -/
theorem delete_removes (st : St) (a s : Nat) (p : Part) (h : st.c.parts s = some p) (hx : p.exclusive = true)
    (hl : st.c.locker s = some a) :
    ∃ st', step st (.delete a s) = some st' ∧ st'.c.parts s = none :=
  ⟨_, step_delete hl h hx, upd_same _ _ _⟩

/-- **No half-deleted partition is handed out** (`GetJournalTags(src, true)`): when the call acquires, the
source is in the maps, not exclusively locked, and counted. -/
theorem no_half_deleted_getTags (tr : List Lbl) (a s : Nat) (st' : St)
    (hs : step (reach tr) (.getTags a s true) = some st') (hne : st'.c.holds ≠ (reach tr).c.holds) :
    ∃ p', st'.c.parts s = some p' ∧ p'.exclusive = false ∧ 1 ≤ p'.readers ∧ (⟨a, s, false⟩ : Tok) ∈ st'.c.holds := by
  cases step_eff hs with
  | skip => exact absurd rfl hne
  | acqId p hp hx =>
    refine ⟨{ p with readers := p.readers + 1 }, upd_same _ _ _, hx, ?_, List.mem_cons_self⟩
    have := (reach_inv tr).core.cnt s p hp
    show 1 ≤ p.readers + 1; omega

/-- … the per-item section of the waiting `Visit`: the visitor is only called (`cur = some s`) on a partition that
is in the maps at that moment, not exclusively locked, and acquired for the visit. -/
theorem no_half_deleted_visitTry (tr : List Lbl) (a s : Nat) (st' : St) (v' : Visit)
    (hs : step (reach tr) (.visitTry a s) = some st') (hv : st'.vis a = some v') (hc : v'.cur = some s) :
    ∃ p', st'.c.parts s = some p' ∧ p'.exclusive = false ∧ (⟨a, s, true⟩ : Tok) ∈ st'.c.holds := by
  -- `cur` is set by the acquiring outcome only
  have old : ∀ v, (reach tr).vis a = some v → v.cur = none → st' = reach tr → False := by
    intro v hva hcur e
    rw [e, hva] at hv; cases hv; rw [hcur] at hc; cases hc
  cases step_eff hs with
  | skip hl => cases hl
  | tryWait v hva hcur => exact (old v hva hcur rfl).elim
  | tryDown v => rw [show (St.setVis _ a none).vis a = none from upd_same _ _ _] at hv; cases hv
  | tryGone v _ _ hcur =>
    rw [show (St.setVis _ a _).vis a = some _ from upd_same _ _ _] at hv; cases hv
    rw [show v.cur = none from hcur] at hc; cases hc
  | tryAcq v p _ _ _ hp hx =>
    exact ⟨{ p with readers := p.readers + 1 }, upd_same _ _ _, hx, List.mem_cons_self⟩

/-- … every callback of either `Visit` flavour runs while the visit itself holds the partition, so (by
`exclusive_single`) nobody else can lock it exclusively or delete it during the callback. -/
theorem callback_holds (tr : List Lbl) (a s : Nat) (v : Visit) (hv : (reach tr).vis a = some v)
    (hc : cbOk v s = true) : (⟨a, s, true⟩ : Tok) ∈ (reach tr).c.holds := by
  have hso : s ∈ v.owed := by
    simp only [cbOk, Bool.and_eq_true, List.contains_iff_mem] at hc
    exact hc.2
  have := (reach_inv tr).visTok a v hv s
  have h1 := List.one_le_count_iff.mpr hso
  exact List.one_le_count_iff.mp (by omega)

/-- **Release never panics** for a caller that releases what it acquired and does not release what it holds
exclusively; and the server never reaches a panic along any trace of protocol-following actors. -/
theorem release_never_panics (tr : List Lbl) (a s : Nat) (au : Bool)
    (hm : (⟨a, s, au⟩ : Tok) ∈ (reach tr).c.holds) (hmay : mayRelease (reach tr).c a s = true) :
    (relRaw (reach tr).c.parts s).2 = .ok ∨ (relRaw (reach tr).c.parts s).2 = .absent := by
  rcases relRaw_of_inv _ (reach_inv tr).core a s au hm hmay with h | ⟨_, h⟩
  · left; rw [h]
  · right; rw [h]

theorem never_panics (tr : List Lbl) : (reach tr).panicked = false := (reach_inv tr).noPanic

/-- the final locked section of a `Visit` gives back exactly what the visit still owes: afterwards the actor has
no visit-owned acquisition left on sources the visit owed nothing else for -/
theorem visit_end_releases (tr : List Lbl) (a : Nat) (v : Visit) (st' : St)
    (hv : (reach tr).vis a = some v) (hs : step (reach tr) (.visitEnd a) = some st') (s : Nat) :
    st'.c.holds.count ⟨a, s, true⟩ + v.owed.count s = (reach tr).c.holds.count ⟨a, s, true⟩ ∧ st'.vis a = none := by
  have hi := reach_inv tr
  cases step_eff hs with
  | skip hl => cases hl
  | finish v' hv' hmay =>
    rw [hv] at hv'; cases hv'
    obtain ⟨_, _, i3⟩ := relAll_inv a _ _ v.owed _ _ hi.core hmay (hi.visTok a v hv)
    exact ⟨i3 s, upd_same _ _ _⟩

/-- **Counts return to zero when activity stops**: once every acquisition has been given back, every live
partition has `readers = 0` and is not exclusively locked — so it can be locked exclusively and deleted. -/
theorem quiescent_zero (tr : List Lbl) (hq : (reach tr).c.holds = []) (s : Nat) (p : Part)
    (h : (reach tr).c.parts s = some p) : p.readers = 0 ∧ p.exclusive = false :=
  zero_of_no_holds (reach_inv tr).core hq h

/-- **Progress**: a partition that is not exclusively locked is acquired at once (waiting happens only behind an
exclusive lock, whose holder — `deleteJournal` — runs straight through, `exclusive_section_straight_line`). -/
theorem progress_getTags (st : St) (a s : Nat) (p : Part) (h : st.c.parts s = some p) (hx : p.exclusive = false)
    (hd : st.done = false) :
    ∃ st', step st (.getTags a s true) = some st' ∧ st'.c.holds = ⟨a, s, false⟩ :: st.c.holds :=
  ⟨_, step_getTags_acq hd h hx, rfl⟩

/-- **Shutdown**: after `Shutdown()` nothing is acquired any more and no visit starts; a waiting `Visit` that notices
the flag in its per-item section ends without its final locked section — what it still owes stays counted (the
process is about to exit; this is the one way `readers` can stay above 0 without a holder that will come back). -/
theorem shutdown_stops_acquisitions (st : St) (hd : st.done = true) (a x : Nat) (b c : Bool) (sel : List Nat) :
    step st (.getTags a x b) = some st ∧ step st (.getOrCreate a x b) = some st ∧
    (st.vis a = none → step st (.visitBegin a sel b c) = some st) :=
  ⟨step_getTags_done hd b, step_getOrCreate_done hd x b, fun hv => step_visitBegin_done hv hd sel b c⟩

/-- the flag is never reset: a trace whose final state is not shut down never was -/
theorem done_monotone (st : St) (l : Lbl) (st' : St) (hs : step st l = some st') (hd : st.done = true) :
    st'.done = true := by
  rcases step_done hs with e | ⟨_, e⟩
  · rw [e]; exact hd
  · exact e

/-! ### caller programs; finding F15 and its repair

`partition.Service.GetJournals` as an actor program: a `VF_DO_NOT_RELEASE` visit of the waiting flavour; for every
visited source `ok` says whether `Journals.GetOrCreate` succeeded; a failure makes the visitor return `false`;
the error path then releases the journals collected in `res` — which does not contain the failing one.
`fix` is the code shape (`Generated.C14.getJournalsVisitorReleasesFailed`): with the repair of F15 the visitor
itself calls `Release` on the partition it gives up on. (In the code that `Release` runs inside the callback,
i.e. just before the label `visitCb … false`; for this one actor the two orders reach the same state, and the
`release` label is only enabled for a client-owned token, which the entry becomes at `visitCb`.) -/
def progGetJournals (fix : Bool) (a : Nat) (sel : List Nat) (visits : List (Nat × Bool)) : List Lbl :=
  [Lbl.visitBegin a sel false true]
    ++ visits.flatMap (fun x =>
        [Lbl.visitTry a x.1, Lbl.visitCb a x.1 x.2] ++ (if fix && !x.2 then [Lbl.release a x.1] else []))
    ++ [Lbl.visitEnd a]
    ++ (if visits.all (·.2) then [] else (visits.filter (·.2)).map (fun x => Lbl.release a x.1))

/-- a writer created partition 0 with tags 7 and released it -/
def setup : List Lbl := [.getOrCreate 0 7 true, .release 0 0]

/-- two partitions (tags 7 and 8), nobody holds them -/
def setup2 : List Lbl := [.getOrCreate 0 7 true, .release 0 0, .getOrCreate 0 8 true, .release 0 1]

/-- **F15 (the un-repaired shape)**: `GetJournals` whose visitor aborts because `Journals.GetOrCreate` failed keeps one
acquisition that nobody releases: the partition's `readers` stays 1 for ever, so it can never be locked exclusively
(deleted) by anybody who acquires it first, as `deleteJournal` does. Kept as the record of what a revert would do. -/
theorem cex_getjournals_error_leak :
    let st := reach (setup ++ progGetJournals false 1 [7] [(0, false)])
    st.c.holds = [⟨1, 0, false⟩] ∧ st.vis 1 = none ∧ st.c.parts 0 = some ⟨7, 1, false⟩ ∧
      (reach (setup ++ progGetJournals false 1 [7] [(0, false)] ++ [.getTags 2 0 true, .lockX 2 0])).c.parts 0
        = some ⟨7, 2, false⟩ := by
  decide

/-- **The repaired shape gives everything back**: the same failing run, and a run that fails on its second partition
after a first success, leave no acquisition behind and every count at 0. -/
theorem getjournals_error_path_balanced_repaired :
    (reach (setup ++ progGetJournals true 1 [7] [(0, false)])).c.holds = [] ∧
    (reach (setup ++ progGetJournals true 1 [7] [(0, false)])).c.parts 0 = some ⟨7, 0, false⟩ ∧
    (reach (setup2 ++ progGetJournals true 1 [7, 8] [(1, true), (0, false)])).c.holds = [] ∧
    (reach (setup2 ++ progGetJournals true 1 [7, 8] [(0, true), (1, false)])).c.holds = [] := by
  decide

/-- **The code as it is now** (shape regenerated from the source): the failing `GetJournals` run leaks exactly when
the visitor does not release the entry it gives up on. When the repair is applied this theorem turns into "no leak"
by itself; when it is reverted, into the leak. -/
theorem getjournals_error_path_current :
    (reach (setup ++ progGetJournals Generated.C14.getJournalsVisitorReleasesFailed 1 [7] [(0, false)])).c.holds
      = (if Generated.C14.getJournalsVisitorReleasesFailed then [] else [⟨1, 0, false⟩]) := by
  decide

/-- the limit path (`len(res) == maxLimit`): the visitor returns `false` on an entry that IS in `res` (no `GetOrCreate`
failure, so the repair's extra `Release` is not involved); the error path releases `res`: balanced, no double release -/
theorem getjournals_limit_path_balanced :
    let st := reach (setup2 ++ [.visitBegin 1 [7, 8] false true, .visitTry 1 0, .visitCb 1 0 false, .visitEnd 1, .release 1 0])
    st.c.holds = [] ∧ st.panicked = false ∧ st.vis 1 = none ∧ st.c.parts 0 = some ⟨7, 0, false⟩ := by
  decide

/-! ### the real callers as programs: they follow the protocol, they are balanced, they cannot deadlock

`Model/TIndexProg.lean` mirrors every caller of the tag index in /repo as a control-state machine over the labels
above (`Write`, `GetParitionInfo`, `GetJournal`+`Release`, `tmirebuilder.serve`, `cleanupTsIndex`, `truncateGlobally`,
`ppipe.cleanPartitions`, `Partitions`, `GetJournals` incl. limit and repaired error path + `cursor.close`, `Truncate` with
`deleteJournal`). `Reach` = any number of such callers, started at any time, interleaved in any way, with `Shutdown()` of
the tag index at any point of the run (`Reach.shutdown`). -/
open Logrange.TIndexProg in
/-- **The callers follow the protocol**: every critical section a caller is about to perform is enabled (it releases
only what it holds, locks only what it holds, unlocks/deletes only what it locked, …) — so every theorem above about
protocol-following actors applies to the real callers. -/
theorem callers_follow_protocol (x : Sys) (h : Reach x) (a : Nat) (l : Lbl) (c' : Ctl)
    (ho : (l, c') ∈ pnext a x.st (x.ctl a)) : ∃ st', step x.st l = some st' := by
  have hi := sysInv_reach h
  obtain ⟨o, hl⟩ := hi.locE a
  obtain ⟨st', _, hs, _⟩ := own_step hi.st hl l c' ho
  exact ⟨st', hs⟩

open Logrange.TIndexProg in
/-- **Every caller program is balanced**: whatever the interleaving with any number of other callers, a caller that
has returned holds nothing — no client acquisition, no visit-owned acquisition, no exclusive lock, no visit (as long as
the tag index has not been shut down; for runs with `Shutdown()` see `program_balanced_shutdown`). -/
theorem program_balanced (x : Sys) (h : Reach x) (hd : x.st.done = false) (a : Nat) (hf : x.ctl a = .fin) :
    (∀ t, t ∈ x.st.c.holds → t.actor ≠ a) ∧ x.st.vis a = none ∧ ∀ s, x.st.c.locker s ≠ some a := by
  have hl := (sysInv_reach h).loc0 hd a
  rw [hf] at hl
  have hv : x.st.vis a = none := hl.vis
  refine ⟨?_, hv, fun s hlk => by have := hl.lck s hlk; simp [lockedAt] at this⟩
  intro t ht hta
  obtain ⟨ta, ts, tau⟩ := t
  simp only [] at hta; subst hta
  have h1 := List.one_le_count_iff.mpr ht
  cases tau with
  | false => have := hl.cli ts; simp [heldOf] at this; omega
  | true => have := hl.aut ts; rw [hv] at this; simp [owedCount] at this; omega

open Logrange.TIndexProg in
/-- **Matched release in every run, `Shutdown()` included**: whenever `Shutdown()` happens (before, between or inside
the callers' critical sections), a caller that has returned holds no client acquisition (everything it obtained through
`GetOrCreateJournal`, `GetJournalTags` or a `VF_DO_NOT_RELEASE` visit was given back exactly once), no exclusive lock and no
running visit. What it may legitimately still owe are visit-owned acquisitions (`auto = true`) — see `shutdown_orphans`. -/
theorem program_balanced_shutdown (x : Sys) (h : Reach x) (a : Nat) (hf : x.ctl a = .fin) :
    (∀ s, x.st.c.holds.count ⟨a, s, false⟩ = 0) ∧ x.st.vis a = none ∧ ∀ s, x.st.c.locker s ≠ some a := by
  obtain ⟨o, hl⟩ := (sysInv_reach h).locE a
  rw [hf] at hl
  exact ⟨fun s => by rw [hl.cli s]; simp [heldOf], hl.vis, fun s hlk => by have := hl.lck s hlk; simp [lockedAt] at this⟩

open Logrange.TIndexProg in
/-- **What a `Visit` interrupted by `Shutdown()` ends owing**: in every reachable state there is a book `orph` of orphaned
visit-owned acquisitions — empty as long as the index is not shut down — such that every actor's visit-owned tokens are
exactly what its running visit still owes plus its orphans. Orphans arise in one place only: the per-item section of a
waiting `Visit` that sees `ims.done` and returns `WrongState` without the final locked section (`own_visit`); the process
is then about to exit. Nothing else is ever left behind. -/
theorem shutdown_orphans (x : Sys) (h : Reach x) :
    ∃ orph : Nat → Nat → Nat, (x.st.done = false → ∀ a s, orph a s = 0) ∧
      ∀ a s, x.st.c.holds.count ⟨a, s, true⟩ = owedCount (x.st.vis a) s + orph a s := by
  obtain ⟨orph, h0, hl⟩ := (sysInv_reach h).loc
  exact ⟨orph, h0, fun a s => (hl a).aut s⟩

/-- **`GetJournals` interrupted by `Shutdown()` owes nothing**: along every trace of the LTS, a waiting visit with
`VF_DO_NOT_RELEASE` owes exactly the entry whose callback is running, and nothing between two callbacks — where the per-item
section stands when it sees `ims.done`. So skipping the final locked section loses nothing for `GetJournals` (what it
acquired is in `res` and is released by its error path: `program_balanced_shutdown`); orphans (`shutdown_orphans`) can only
come from the auto-release waiting visit, `Partitions`. -/
theorem interrupted_getjournals_owes_nothing (tr : List Lbl) (a : Nat) (v : Visit) (hv : (reach tr).vis a = some v)
    (hw : v.skipping = false) (hn : v.noRelease = true) :
    (v.cur = none → v.owed = []) ∧ (∀ s, v.cur = some s → v.owed = [s]) :=
  dnrInv_run tr init dnrInv_init a v hv hw hn

open Logrange.TIndexProg in
/-- … the same in the system of caller programs (any callers, any interleaving, `Shutdown()` at any point) -/
theorem callers_getjournals_owes_nothing (x : Sys) (h : Reach x) (a : Nat) (v : Visit) (hv : x.st.vis a = some v)
    (hw : v.skipping = false) (hn : v.noRelease = true) (hc : v.cur = none) : v.owed = [] := by
  have hi : DnrInv x.st := dnrInv_reach h
  exact (hi a v hv hw hn).1 hc

open Logrange.TIndexProg in
/-- `Shutdown()` is reachable at any point and is final: the flag stays set along every further run -/
theorem shutdown_reachable (x : Sys) (h : Reach x) : Reach ⟨{ x.st with done := true }, x.ctl⟩ := Reach.shutdown h

open Logrange.TIndexProg in
/-- `cursor.newCursor` with all its error paths (a filter that cannot be built, a position that cannot be applied, too
many partitions, a failing `GetOrCreate`) is one of the caller programs, so `callers_follow_protocol`,
`program_balanced` and `no_deadlock` cover it: each error path gives back exactly what was acquired, once. -/
theorem newCursor_is_a_caller (sel : List Nat) (s : Nat) : isEntry (newCursorByQuery sel) ∧ isEntry (newCursorBySrc s) :=
  ⟨trivial, trivial⟩

/-- **Matched release inside the callers that acquire by id and go on** (regenerated from the source on every run): in
`ppipe.catchUp` (the pipe's start-up catch-up), `Service.truncateGlobally`, `Service.cleanupTsIndex` and `tmirebuilder.serve` no
way out — `return`, `continue` / `break` of the loop the acquisition stands in, the end of that loop body or of the function,
`panic` — is reached after a successful `GetJournal` / `GetJournalTags(…, true)` without a `Release` on the way (a deferred
one counts). This is what makes the programs `catchUp srcs` / `idLoopOf srcs del` mirror these functions: every acquisition
is followed by its `rel`. -/
theorem matched_release_in_callers : Generated.C14.acquiredAtExit = [] := by decide

open Logrange.TIndexProg in
/-- the pipe's start-up catch-up is one of the caller programs (acquire by id, release, next source), so
`callers_follow_protocol`, `program_balanced`, `program_balanced_shutdown`, `no_deadlock` cover it -/
theorem catchUp_is_a_caller (srcs : List Nat) : isEntry (catchUp srcs) := by
  cases srcs <;> simp [catchUp, idLoopOf, isEntry]

open Logrange.TIndexProg in
/-- … and once only: a control state that is about to `Release` the same partition twice (an error path calling both
`cur.close()` and `releaseJournals`) is consistent with the caller's tokens only if it acquired the partition twice —
after one acquisition the second `Release` is not enabled (it would take away somebody else's hold or panic). -/
theorem double_release_needs_two_holds (o : Nat → Nat) (a s : Nat) (st : St) (k : Ctl) (h : Local o a (.rel s [s] k) st) :
    2 ≤ st.c.holds.count ⟨a, s, false⟩ := by
  rw [h.cli s]; simp [heldOf]

open Logrange.TIndexProg in
/-- **Counts return to zero when activity stops** — for the real callers, by theorem: when every caller has returned,
no acquisition is outstanding, every live partition has `readers = 0` and none is exclusively locked. -/
theorem callers_quiescent_zero (x : Sys) (h : Reach x) (hd : x.st.done = false) (hall : ∀ a, x.ctl a = .fin) :
    x.st.c.holds = [] ∧ ∀ s p, x.st.c.parts s = some p → p.readers = 0 ∧ p.exclusive = false := by
  have hnil : x.st.c.holds = [] := by
    apply List.eq_nil_iff_forall_not_mem.mpr
    intro t ht
    exact (program_balanced x h hd t.actor (hall t.actor)).1 t ht rfl
  exact ⟨hnil, fun s p hp => zero_of_no_holds (sysInv_reach h).st.core hnil hp⟩

open Logrange.TIndexProg in
/-- … and in runs with `Shutdown()`: when every caller has returned, the only acquisitions left are visit-owned orphans
of interrupted waiting visits, and no partition is exclusively locked. -/
theorem callers_quiescent_shutdown (x : Sys) (h : Reach x) (hall : ∀ a, x.ctl a = .fin) :
    (∀ t, t ∈ x.st.c.holds → t.auto = true) ∧ ∀ s p, x.st.c.parts s = some p → p.exclusive = false := by
  refine ⟨?_, ?_⟩
  · intro t ht
    obtain ⟨ta, ts, tau⟩ := t
    cases tau with
    | true => rfl
    | false =>
      have := (program_balanced_shutdown x h ta (hall ta)).1 ts
      have h1 := List.one_le_count_iff.mpr ht
      omega
  · intro s p hp
    cases hx : p.exclusive with
    | false => rfl
    | true =>
      obtain ⟨_, b, _, hlb, _⟩ := (sysInv_reach h).st.core.excl s p hp hx
      exact absurd hlb ((program_balanced_shutdown x h b (hall b)).2.2 s)

open Logrange.TIndexProg in
/-- **The exclusive holder is inside `deleteJournal`'s straight-line section and its next step frees the partition**:
whenever a partition is exclusively locked, its locker `b` stands right before `Delete` or before `UnlockExclusively`;
that step is enabled, and after it the partition is gone or no longer exclusively locked (bounded progress: a waiter
waits for at most this one step of the holder — the second, final `UnlockExclusively` after a `Delete` is a no-op). -/
theorem exclusive_holder_frees (x : Sys) (h : Reach x) (s : Nat) (p : Part) (hp : x.st.c.parts s = some p)
    (hx : p.exclusive = true) :
    ∃ b k, x.st.c.locker s = some b ∧ (x.ctl b = .dj .delete s k ∨ x.ctl b = .dj .unlock s k) ∧
      ∃ l c' st', (l, c') ∈ pnext b x.st (x.ctl b) ∧ step x.st l = some st' ∧
        (st'.c.parts s = none ∨ ∃ p', st'.c.parts s = some p' ∧ p'.exclusive = false) := by
  have hi := sysInv_reach h
  obtain ⟨_, b, _, hlb, _⟩ := hi.st.core.excl s p hp hx
  obtain ⟨k, l, c', st', hc, hpn, hstep, hfree⟩ := holder_next hi hlb
  exact ⟨b, k, hlb, hc, l, c', st', by rw [hpn]; exact List.mem_singleton_self _, hstep, hfree⟩

open Logrange.TIndexProg in
/-- **No deadlock**: in every reachable state in which some caller has not returned, some caller can perform a step
that is not a pure wait (its control state or the shared state changes). A caller only ever waits behind an
exclusively locked partition (`moves_or_excl`), and then the locker itself can move (`exclusive_holder_frees`). -/
theorem no_deadlock (x : Sys) (h : Reach x) (a : Nat) (hc : x.ctl a ≠ .fin) :
    ∃ b l c', (l, c') ∈ pnext b x.st (x.ctl b) ∧ Moves x.st (x.ctl b) l c' := by
  have hi := sysInv_reach h
  obtain ⟨o, hl⟩ := hi.locE a
  rcases moves_or_excl hi.st hl hc with ⟨l, c', ho, hm⟩ | ⟨s, p, hp, hx⟩
  · exact ⟨a, l, c', ho, hm⟩
  · obtain ⟨b, k, _, _, l, c', st', ho, hs, hfree⟩ := exclusive_holder_frees x h s p hp hx
    refine ⟨b, l, c', ho, st', hs, Or.inr ?_⟩
    intro e; rw [e, hp] at hfree
    rcases hfree with hf | ⟨p', hp', hx'⟩
    · cases hf
    · cases hp'; rw [hx] at hx'; cases hx'

open Logrange.TIndexProg in
/-- a caller waits only behind an exclusive lock: if no live partition is exclusively locked, every caller that has
not returned can move itself -/
theorem waits_only_behind_exclusive (x : Sys) (h : Reach x) (a : Nat) (hc : x.ctl a ≠ .fin)
    (hno : ∀ s p, x.st.c.parts s = some p → p.exclusive = false) :
    ∃ l c', (l, c') ∈ pnext a x.st (x.ctl a) ∧ Moves x.st (x.ctl a) l c' := by
  have hi := sysInv_reach h
  obtain ⟨o, hl⟩ := hi.locE a
  rcases moves_or_excl hi.st hl hc with hm | ⟨s, p, hp, hx⟩
  · exact hm
  · rw [hno s p hp] at hx; cases hx

open Logrange.TIndexProg in
/-- **Nobody waits after `Shutdown()`**: every caller that has not returned has an option that changes its control
state (acquisitions fail at once, a waiting visit returns `WrongState`, running visitors and `deleteJournal` finish). -/
theorem no_wait_after_shutdown (x : Sys) (h : Reach x) (hd : x.st.done = true) (a : Nat) (hc : x.ctl a ≠ .fin) :
    ∃ l c', (l, c') ∈ pnext a x.st (x.ctl a) ∧ Moves x.st (x.ctl a) l c' := by
  have hi := sysInv_reach h
  obtain ⟨o, hl⟩ := hi.locE a
  exact moves_down hi.st hd hl hc

open Logrange.TIndexProg in
/-- a caller waits for ONE named partition: it can move unless the partition it needs next (`needs`) is exclusively
locked — and as soon as that partition is gone or unlocked, it can move -/
theorem waiter_proceeds_when_free (x : Sys) (h : Reach x) (a : Nat) (hc : x.ctl a ≠ .fin) (s : Nat)
    (hn : needs a x.st (x.ctl a) s)
    (hfree : x.st.c.parts s = none ∨ ∃ p, x.st.c.parts s = some p ∧ p.exclusive = false) :
    ∃ l c', (l, c') ∈ pnext a x.st (x.ctl a) ∧ Moves x.st (x.ctl a) l c' := by
  have hi := sysInv_reach h
  obtain ⟨o, hl⟩ := hi.locE a
  exact waiter_moves_when_free hi.st hl hc s hn hfree

open Logrange.TIndexProg in
/-- **Bounded waiting (liveness in bounded form, k = 1)**. Fairness is taken in its weakest useful form: the holder of the
exclusive lock is scheduled at least once in the run segment (`b ∈ as`; its steps are never waits — `exclusive_holder_frees`).
Then, whatever the other callers do meanwhile (any number of them, any interleaving, `Shutdown()` aside): the lock on `s`
stays with `b` and `b` stays where it is in `deleteJournal` until `b`'s FIRST step; that step frees `s` (deleted or
unlocked); and at that very moment every caller that was waiting for `s` can proceed. A waiter therefore waits for exactly
one step of the holder. (Not claimed: that the waiter itself is scheduled before a NEW `deleteJournal` locks the
partition again — an unfair scheduler can starve it; that needs fairness towards the waiter.) -/
theorem bounded_wait (x z : Sys) (h : Reach x) (as : List Nat) (b s : Nat) (hl : x.st.c.locker s = some b)
    (r : Run x as z) (hb : b ∈ as) :
    ∃ as1 as2 y y', as = as1 ++ b :: as2 ∧ b ∉ as1 ∧ Run x as1 y ∧ y.st.c.locker s = some b ∧ y.ctl b = x.ctl b ∧
      SysStepBy b y y' ∧ Run y' as2 z ∧
      (y'.st.c.parts s = none ∨ ∃ p', y'.st.c.parts s = some p' ∧ p'.exclusive = false) ∧
      ∀ a, y'.ctl a ≠ .fin → needs a y'.st (y'.ctl a) s →
        ∃ l c', (l, c') ∈ pnext a y'.st (y'.ctl a) ∧ Moves y'.st (y'.ctl a) l c' := by
  obtain ⟨as1, as2, y, y', e, n1, r1, l1, c1, s1, r2, f⟩ := first_holder_step_frees as x z h b s hl r hb
  refine ⟨as1, as2, y, y', e, n1, r1, l1, c1, s1, r2, f, ?_⟩
  intro a hc hn
  have hy' : Reach y' := Reach.step (reach_run r1 h) s1.toStep
  exact waiter_proceeds_when_free y' hy' a hc s hn f

/-! ### the per-partition write lock of `partition.Service.Write` (`wrLocks`, since 25f9816 / 3e8b3c3)

`Model/TIndexProgWr.lean`: the system of caller programs extended by the write mutex of every partition — a writer takes it
AFTER its tag-index acquisition and gives it back right after its `Release`; nobody else takes it. -/

open Logrange.TIndexProg in
/-- the extension changes nothing for the tag index: every state of the extended system projects to a reachable state of
the system of caller programs — so every theorem above (protocol, balance, exclusive means alone, …) holds with the write
lock in place -/
theorem write_lock_conservative (z : SysW) (h : ReachW z) : Reach z.x := reachW_reach h

open Logrange.TIndexProg in
/-- **The write lock adds no wait-for cycle**: in every reachable state of the extended system in which some caller has
not returned, some step is possible that is not a pure wait. Lock order: tag-index acquisition → write lock. The holder of a
write lock stands right before its `Release`, which never blocks (it holds an acquisition, so the partition is not
exclusively locked by anybody else); a writer waiting for the write lock waits only for that holder; everybody else waits
as before, only behind `deleteJournal`'s straight-line exclusive section — and `deleteJournal` never takes a write lock. -/
theorem write_lock_no_deadlock (z : SysW) (h : ReachW z) (a : Nat) (hc : z.x.ctl a ≠ .fin) :
    ∃ z', StepW z z' ∧ MovesW z z' := by
  have hr := reachW_reach h
  have hi := winv_reach h
  by_cases h1 : ∃ b s, z.ph b = some (s, true)
  · -- somebody holds a write lock: its `Release` (+ unlock) is enabled
    obtain ⟨b, s, hp⟩ := h1
    have hcb := hi.ctl b s true hp
    have ho : (Lbl.release b s, Ctl.fin) ∈ pnext b z.x.st (z.x.ctl b) := by simp [hcb, pnext, relThen]
    obtain ⟨st', hs⟩ := callers_follow_protocol z.x hr b _ _ ho
    refine ⟨_, StepW.rel (y := ⟨st', upd z.x.ctl b .fin⟩) b s hp ⟨_, _, ho, hs, rfl⟩, Or.inl ?_⟩
    intro e
    have := congrFun e b
    simp only [upd_same] at this
    rw [hcb] at this; cases this
  · by_cases h2 : ∃ b s, z.ph b = some (s, false)
    · -- nobody holds any write lock, so a waiting writer gets the one it wants
      obtain ⟨b, s, hp⟩ := h2
      have hfree : z.wr s = none := by
        cases hw : z.wr s with
        | none => rfl
        | some c => exact absurd ⟨c, s, hi.own s c hw⟩ h1
      refine ⟨_, StepW.take b s hp hfree, Or.inr (Or.inr ?_)⟩
      intro e
      have := congrFun e b
      simp only [upd_same] at this
      rw [hp] at this; simp at this
    · -- no writer is between its acquisition and its `Release`: the system of caller programs as before
      have hnone : ∀ b, z.ph b = none := by
        intro b
        cases hb : z.ph b with
        | none => rfl
        | some sb =>
          obtain ⟨s, bb⟩ := sb
          cases bb with
          | true => exact absurd ⟨b, s, hb⟩ h1
          | false => exact absurd ⟨b, s, hb⟩ h2
      obtain ⟨b, l, c', ho, st', hs, hm⟩ := no_deadlock z.x hr a hc
      refine ⟨_, StepW.base (y := ⟨st', upd z.x.ctl b c'⟩) b (hnone b) ⟨l, c', ho, hs, rfl⟩, ?_⟩
      rcases hm with hm | hm
      · left; intro e
        have := congrFun e b
        simp only [upd_same] at this
        exact hm this
      · right; left; exact hm

/-! non-vacuity of the write-lock theorems -/
namespace WrExample
open Logrange.TIndexProg

/-- two writers to the same tags -/
def ctlW : Nat → Ctl := fun a => if a = 1 then .acqTags 7 true else if a = 2 then .acqTags 7 true else .fin
def u1 : St := (step init (.getOrCreate 1 7 true)).getD init
def u2 : St := (step u1 (.getOrCreate 2 7 true)).getD init
def z0 : SysW := ⟨⟨init, ctlW⟩, fun _ => none, fun _ => none⟩
def y1 : Sys := ⟨u1, upd ctlW 1 (.rel 0 [] .fin)⟩
def z1 : SysW := ⟨y1, z0.wr, upd z0.ph 1 (mark (z0.x.ctl 1) (y1.ctl 1))⟩
def z2 : SysW := ⟨z1.x, upd z1.wr 0 (some 1), upd z1.ph 1 (some (0, true))⟩
def y3 : Sys := ⟨u2, upd y1.ctl 2 (.rel 0 [] .fin)⟩
def z3 : SysW := ⟨y3, z2.wr, upd z2.ph 2 (mark (z2.x.ctl 2) (y3.ctl 2))⟩

theorem reach_z3 : ReachW z3 := by
  have h0 : ReachW z0 := ReachW.start ctlW (by
    intro a; unfold ctlW; split
    · simp [isEntry]
    · split <;> simp [isEntry])
  have h1 : ReachW z1 := ReachW.step h0 (StepW.base 1 rfl ⟨.getOrCreate 1 7 true, .rel 0 [] .fin,
    by simp [pnext, z0, ctlW, init, findTags], rfl, rfl⟩)
  have h2 : ReachW z2 := ReachW.step h1 (StepW.take 1 0 (by decide) rfl)
  exact ReachW.step h2 (StepW.base 2 (by decide) ⟨.getOrCreate 2 7 true, .rel 0 [] .fin, by
    have hf : findTags u1.c.parts 7 u1.c.next = some 0 := by decide
    have hp : u1.c.parts 0 = some ⟨7, 1, false⟩ := by decide
    have hd : u1.done = false := rfl
    simp [pnext, z2, z1, y1, upd, ctlW, hf, hp, hd], rfl, rfl⟩)

/-- writer 1 holds the write lock of partition 0, writer 2 has acquired the partition and waits for the write lock -/
example : z3.wr 0 = some 1 ∧ z3.ph 1 = some (0, true) ∧ z3.ph 2 = some (0, false) ∧
    z3.x.st.c.parts 0 = some ⟨7, 2, false⟩ := by decide
example : ∃ z', StepW z3 z' ∧ MovesW z3 z' := write_lock_no_deadlock z3 reach_z3 2 (by simp [z3, y3, upd])

end WrExample

/-! non-vacuity of the caller-program theorems: a writer and a `Truncate` (with a `MAXDBSIZE` pass over source 0)
start together; the writer creates partition 0 — a reachable state with one unfinished caller holding a partition
and another one about to visit it -/
namespace CallersExample
open Logrange.TIndexProg

def ctl0 : Nat → Ctl := fun a => if a = 0 then .acqTags 7 true else if a = 1 then .vStart (.truncate [0]) [7] else .fin
def st1 : St := (step init (.getOrCreate 0 7 true)).getD init
def sys1 : Sys := ⟨st1, upd ctl0 0 (.rel 0 [] .fin)⟩

theorem reach_sys1 : Reach sys1 := by
  refine Reach.step (Reach.start ctl0 ?_) ⟨0, .getOrCreate 0 7 true, .rel 0 [] .fin, ?_, rfl, rfl⟩
  · intro a; unfold ctl0; split
    · simp [isEntry]
    · split <;> simp [isEntry]
  · simp [pnext, ctl0, init, findTags]

example : sys1.st.c.holds = [⟨0, 0, false⟩] ∧ sys1.ctl 0 = .rel 0 [] .fin := ⟨rfl, rfl⟩
example : ∃ b l c', (l, c') ∈ pnext b sys1.st (sys1.ctl b) ∧ Moves sys1.st (sys1.ctl b) l c' :=
  no_deadlock sys1 reach_sys1 0 (by simp [sys1, upd])
/-- `Shutdown()` while the writer still holds partition 0: the state is reachable, the writer is not stuck (it releases),
and the truncation that has not started yet ends at once -/
example : Reach ⟨{ sys1.st with done := true }, sys1.ctl⟩ := shutdown_reachable sys1 reach_sys1
example : ∃ l c', (l, c') ∈ pnext 1 ({ sys1.st with done := true } : St) (sys1.ctl 1) ∧
    Moves ({ sys1.st with done := true } : St) (sys1.ctl 1) l c' :=
  no_wait_after_shutdown ⟨{ sys1.st with done := true }, sys1.ctl⟩ (shutdown_reachable sys1 reach_sys1) rfl 1
    (by simp [sys1, upd, ctl0])
end CallersExample

/-! non-vacuity of `bounded_wait`: a reachable state in which TRUNCATE (actor 0) holds partition 0 exclusively, right before
`Delete`, while a writer (actor 2) needs it -/
namespace WaitExample
open Logrange.TIndexProg

/-- actor 1 writes to tags 7 (creating partition 0), actor 0 truncates (no `MAXDBSIZE` pass), actor 2 wants to write too -/
def ctlA : Nat → Ctl := fun a =>
  if a = 0 then .vStart (.truncate []) [7] else if a = 1 then .acqTags 7 true else if a = 2 then .acqTags 7 true else .fin
def nx (st : St) (l : Lbl) : St := (step st l).getD init
def t1 : St := nx init (.getOrCreate 1 7 true)
def t2 : St := nx t1 (.release 1 0)
def t3 : St := nx t2 (.visitBegin 0 [7] true false)
def t4 : St := nx t3 (.lockX 0 0)
def c1 : Nat → Ctl := upd ctlA 1 (.rel 0 [] .fin)
def c2 : Nat → Ctl := upd c1 1 .fin
def c3 : Nat → Ctl := upd c2 0 (.vPick (.truncate []) [])
def c4 : Nat → Ctl := upd c3 0 (.dj .delete 0 (.vRet (.truncate []) 0 []))
def x4 : Sys := ⟨t4, c4⟩

theorem reach_x4 : Reach x4 := by
  have h0 : Reach ⟨init, ctlA⟩ := Reach.start ctlA (by
    intro a; unfold ctlA; split
    · simp [isEntry]
    · split
      · simp [isEntry]
      · split <;> simp [isEntry])
  have h1 : Reach ⟨t1, c1⟩ := Reach.step h0 ⟨1, .getOrCreate 1 7 true, .rel 0 [] .fin,
    by simp [pnext, ctlA, init, findTags], rfl, rfl⟩
  have h2 : Reach ⟨t2, c2⟩ := Reach.step h1 ⟨1, .release 1 0, .fin, by simp [pnext, c1, upd, relThen], rfl, rfl⟩
  have h3 : Reach ⟨t3, c3⟩ := Reach.step h2 ⟨0, .visitBegin 0 [7] true false, .vPick (.truncate []) [],
    by simp [pnext, c2, c1, upd, ctlA, skipOf, dnrOf, t2, t1, nx, step, init, findTags, relRaw, mayRelease], rfl, rfl⟩
  exact Reach.step h3 ⟨0, .lockX 0 0, .dj .delete 0 (.vRet (.truncate []) 0 []), by
    have hv : t3.vis 0 = some ⟨true, false, [0], [0], none, false⟩ := by decide
    have hk : lockOk t3 0 = true := by decide
    simp [pnext, c3, upd, hv, skipOf, cbOpts, djOpts, retOpts, hk], rfl, rfl⟩

example : x4.st.c.locker 0 = some 0 := by decide

/-- the truncating actor 0 holds partition 0 exclusively; the writer 2 needs it -/
example : needs 2 x4.st (x4.ctl 2) 0 := by
  show findTags t4.c.parts 7 t4.c.next = some 0
  decide

/-- the holder's only option: `Delete` -/
def t5 : St := nx t4 (.delete 0 0)
def x5 : Sys := ⟨t5, upd c4 0 (.dj .unlock 0 (.vRet (.truncate []) 0 []))⟩
theorem step_x4_x5 : SysStepBy 0 x4 x5 :=
  ⟨.delete 0 0, .dj .unlock 0 (.vRet (.truncate []) 0 []), by simp [pnext, x4, c4, upd, djOpts], rfl, rfl⟩

/-- `bounded_wait` applies: a run segment `[2, 0]` (the waiting writer spins once, then the holder moves) — after the
holder's first step partition 0 is gone and the writer can proceed (it will create the partition anew) -/
example : ∃ y, SysStepBy 2 x4 y ∧ y.st = x4.st :=
  ⟨⟨t4, upd c4 2 (.acqTags 7 true)⟩, ⟨.getOrCreate 2 7 true, .acqTags 7 true, by
    have hf : findTags t4.c.parts 7 t4.c.next = some 0 := by decide
    have hp : t4.c.parts 0 = some ⟨7, 1, true⟩ := by decide
    have hd : t4.done = false := rfl
    simp [pnext, x4, c4, c3, c2, c1, upd, ctlA, hf, hp, hd], by
    show step t4 (.getOrCreate 2 7 true) = some t4
    have hf : findTags t4.c.parts 7 t4.c.next = some 0 := by decide
    have hp : t4.c.parts 0 = some ⟨7, 1, true⟩ := by decide
    exact step_getOrCreate_wait hf hp rfl _, rfl⟩, rfl⟩
example : x5.st.c.parts 0 = none := by decide
example := bounded_wait x4 x5 reach_x4 [0] 0 0 (by decide) (Run.cons step_x4_x5 (Run.nil x5)) (by simp)

end WaitExample

/-- what an interrupted waiting visit leaves behind (LTS level): `Partitions` (waiting, auto-release) has visited
partition 0 and still owes its release when `Shutdown()` comes; its next per-item section ends the visit without the
final locked section — the acquisition of partition 0 stays (an orphan), exactly the case `shutdown_orphans` books -/
example : let st := reach (setup2 ++ [.visitBegin 1 [7, 8] false false, .visitTry 1 0, .visitCb 1 0 true, .shutdown, .visitTry 1 1])
    st.c.holds = [⟨1, 0, true⟩] ∧ st.vis 1 = none ∧ st.done = true ∧ st.c.parts 0 = some ⟨7, 1, false⟩ := by decide

/-! ### non-vacuity: concrete traces that meet the hypotheses above -/

/-- `Truncate` deleting an empty partition from inside its (skipping, auto-release) visit while a reader holds
another partition: lock, delete, the no-op unlock, end of the visit on the orphaned descriptor. -/
def trTruncate : List Lbl :=
  [.getOrCreate 0 7 true, .release 0 0, .getOrCreate 0 8 true,          -- partitions 0 (tags 7) and 1 (tags 8, still held by 0)
   .visitBegin 2 [7, 8] true false, .visitCb 2 0 true, .lockX 2 0]

example : (reach trTruncate).c.parts 0 = some ⟨7, 1, true⟩ ∧ (reach trTruncate).c.locker 0 = some 2 ∧
    (reach trTruncate).c.parts 1 = some ⟨8, 2, false⟩ := by decide
example : ((reach (trTruncate ++ [.delete 2 0, .unlockX 2 0, .visitCb 2 1 true, .visitEnd 2, .release 0 1])).c.holds = []) ∧
    (reach (trTruncate ++ [.delete 2 0, .unlockX 2 0, .visitCb 2 1 true, .visitEnd 2, .release 0 1])).c.parts 1 = some ⟨8, 0, false⟩ ∧
    (reach (trTruncate ++ [.delete 2 0, .unlockX 2 0, .visitCb 2 1 true, .visitEnd 2, .release 0 1])).c.parts 0 = none := by decide
/-- a reader arriving while partition 0 is exclusively locked changes nothing (it retries) -/
example : (step (reach trTruncate) (.getTags 5 0 true)).map (·.c.holds.length) = some (reach trTruncate).c.holds.length := by
  decide
/-- the waiting visit: snapshot, partition 0 found locked (wait), then deleted (skipped), partition 1 visited -/
example : let st := reach (trTruncate ++ [.visitBegin 3 [7, 8] false false, .delete 2 0, .visitTry 3 0, .visitTry 3 1,
      .visitCb 3 1 true, .visitEnd 3])
    st.vis 3 = none ∧ st.c.parts 1 = some ⟨8, 2, false⟩ := by decide
/-- a successful `GetJournals` keeps exactly the returned journals acquired -/
example : (reach (setup ++ progGetJournals false 1 [7] [(0, true)])).c.holds = [⟨1, 0, false⟩] := by decide

end Logrange.Props.C14

import Logrange.Proofs.ScanCrash
import Logrange.Proofs.ScanLag
import Logrange.Props.C17
/-!
# C17 — the crash clause at every point of the two-step save of `scanner.json`

Property theorems only. Model: `Model/ScanCrash.lean` (the worker LTS of `Model/ScanWorker.lean` with
`persistState()` split into the write of `scanner.json.tmp` and the rename; every reachable state is a crash point,
the next session starts from `disk`). Lemmas: `Proofs/ScanCrash.lean`.
-/
namespace Logrange.Props.C17Crash
open Logrange.ScanWorker Logrange.ScanCrash

/-- **`crash_any_point_resends_bounded`** the crash clause at EVERY point, also between the write of
`scanner.json.tmp` and its rename (every configuration, every interleaving of worker steps, consumer, stop-on-EOF,
cancel, begin and rename of periodic and final saves, any length): what `scanner.json` holds is the session's start
offset or the parser position at a confirm rendez-vous; each such position is the start plus the bytes of a prefix
of the confirmed records (an end of a confirmed record); it is at most the in-memory offset, which is at most the
end of the confirmed bytes; the confirmed end at the moment the stored content was marshalled is at most the
confirmed end now, and unless that marshal fell between a confirm rendez-vous and its `setOffset` the stored offset
equals it: a crash at this very point re-sends exactly what was confirmed since the content on disk was marshalled;
and the confirmed records are a prefix of what the parser returned. -/
theorem crash_any_point_resends_bounded (c : Cfg) (start : Nat) (tr : List CL) :
    let x := crun c (cinit start) tr
    x.disk ∈ start :: x.s.ends ∧
    (∀ e ∈ x.s.ends, ∃ k, k ≤ x.s.confirmed.length ∧ e = start + bytesOf (x.s.confirmed.take k)) ∧
    x.disk ≤ x.s.offset ∧ x.s.offset ≤ start + bytesOf x.s.confirmed ∧
    x.diskConf ≤ start + bytesOf x.s.confirmed ∧
    (x.diskWin = false → x.disk = x.diskConf) ∧
    x.s.confirmed <+: x.s.readLog := by
  intro x
  have h : CInv x := cinv_run c tr (cinit start) (cinv_init start)
  have hst : x.s.start = start := crun_start c tr (cinit start)
  have hmem := h.diskMem
  have hends := h.winv.endsOk
  have hoff := h.winv.offLe
  have hconf := h.confLe
  rw [hst] at hmem hends
  simp only [confEnd, hst] at hoff hconf
  exact ⟨hmem, hends, h.diskLe, hoff, hconf, h.noRace, h.winv.pre⟩

/-- a crash between the two steps of a save: the record was confirmed, its offset set and marshalled into the
temporary file (`persisted = 2`), `scanner.json` still holds 0 — the restart re-sends the 2 confirmed bytes, which
were confirmed since the last completed save (`diskConf = 0`); once the rename is done the file holds 2 -/
example :
    let tr : List CL := [.w .step, .w (.next (.record [97, 10])), .w .step, .w .send, .w .confirm, .w .setOffset,
      .saveBegin false]
    let x := crun ⟨1, true, true⟩ (cinit 0) tr
    let y := crun ⟨1, true, true⟩ (cinit 0) (tr ++ [.saveRename])
    x.saving = true ∧ x.disk = 0 ∧ x.diskConf = 0 ∧ x.s.persisted = 2 ∧ x.s.offset = 2 ∧ x.s.confirmed = [[97, 10]] ∧
    x.s.ends = [2] ∧ y.saving = false ∧ y.disk = 2 ∧ y.diskConf = 2 ∧ y.diskWin = false := by decide

/-- a save whose marshal falls between the confirm rendez-vous and `setOffset` stores the old offset although the
record is confirmed: `diskWin = true`, `disk = 0 < diskConf = 2` -/
example :
    let x := crun ⟨1, true, true⟩ (cinit 0) [.w .step, .w (.next (.record [97, 10])), .w .step, .w .send, .w .confirm,
      .saveBegin false, .w .setOffset, .saveRename]
    x.saving = false ∧ x.disk = 0 ∧ x.diskConf = 2 ∧ x.diskWin = true ∧ x.s.offset = 2 := by decide

/-- **`state_file_old_or_new_at_every_point`** `scanner.json` holds the newest marshalled content, or — while a save
is between its two steps — the one before it, which is not ahead of the newest; the newest marshalled offset is at
most the in-memory offset. -/
theorem state_file_old_or_new_at_every_point (c : Cfg) (start : Nat) (tr : List CL) :
    let x := crun c (cinit start) tr
    (x.saving = false → x.disk = x.s.persisted) ∧
    (x.saving = true → x.disk ≤ x.s.persisted) ∧ x.s.persisted ≤ x.s.offset := by
  intro x
  have h : CInv x := cinv_run c tr (cinit start) (cinv_init start)
  exact ⟨fun hs => (h.idle hs).1, h.busy, h.winv.perLe⟩

/-- both cases occur: between the two steps the file holds the older content (0, the newest is 2), a second
`saveBegin` is not enabled while the first save is not renamed, after the rename the file holds the newest -/
example :
    let tr : List CL := [.w .step, .w (.next (.record [97, 10])), .w .step, .w .send, .w .confirm, .w .setOffset,
      .saveBegin false]
    let x := crun ⟨1, true, true⟩ (cinit 0) tr
    (x.saving = true ∧ x.disk = 0 ∧ x.s.persisted = 2) ∧
    cstep ⟨1, true, true⟩ x (.saveBegin false) = none ∧
    (crun ⟨1, true, true⟩ x [.saveRename]).saving = false ∧
    (crun ⟨1, true, true⟩ x [.saveRename]).disk = 2 ∧
    (crun ⟨1, true, true⟩ x [.saveRename]).s.persisted = 2 := by decide

/-- **`graceful_final_save_exact`** graceful stop (the code as it is now: the final persist waits for the worker,
fix c6aad9a; every interleaving): once the FINAL save is complete — marshalled and renamed, and not yet replaced by
a later one —, `scanner.json` holds exactly the end of the confirmed bytes, and the worker has left its loop, so
that end does not move any more: the next session re-sends no confirmed byte and skips none. -/
theorem graceful_final_save_exact (k start : Nat) (tr : List CL) :
    let x := crun (Logrange.Props.C17.codeCfg k) (cinit start) tr
    x.diskFinal = true → x.disk = start + bytesOf x.s.confirmed ∧ x.s.pc = .done := by
  intro x hdf
  have hfact : Generated.C17.finalPersistAfterWorkersWait = true := by decide
  have hcfg : (Logrange.Props.C17.codeCfg k).finalAfterWorkers = true := hfact
  have hg : GInv x := ginv_run _ hcfg tr (cinit start) (cinv_init start) (ginv_init start)
  have hst : x.s.start = start := crun_start _ tr (cinit start)
  obtain ⟨hpc, hd⟩ := hg.fin hdf
  simp only [confEnd, hst] at hd
  exact ⟨hd, hpc⟩

/-- the hypothesis is met: record confirmed, offset set, cancel, the worker leaves its loop, the final save is
marshalled and renamed — the file holds 2 = the end of the confirmed bytes; a final save asked for right after the
cancel (the worker still in its loop) is not enabled -/
example :
    let pre : List CL := [.w .step, .w (.next (.record [97, 10])), .w .step, .w .send, .w .confirm, .w .setOffset,
      .w .cancel]
    let x := crun (Logrange.Props.C17.codeCfg 1) (cinit 0) (pre ++ [.w .step, .w .step, .saveBegin true, .saveRename])
    (x.diskFinal = true ∧ x.disk = 2 ∧ x.s.pc = .done ∧ x.s.confirmed = [[97, 10]]) ∧
    cstep (Logrange.Props.C17.codeCfg 1) (crun (Logrange.Props.C17.codeCfg 1) (cinit 0) pre) (.saveBegin true) = none := by
  decide

/-- **`inner_state_reachable`** the inner system of the split-save system is a reachable state of the one-step-save
LTS: every theorem about `run` (`offset_is_confirmed_end`, `crash_resends_bounded`, `rotated_file_drained`, …) holds
for the worker part of every state of the split-save system. -/
theorem inner_state_reachable (c : Cfg) (start : Nat) (tr : List CL) :
    ∃ tr' : List L, (crun c (cinit start) tr).s = run c (init start) tr' :=
  crun_inner c (init start) tr (cinit start) ⟨[], rfl⟩

/-- the split-save trace with both steps of the save and the worker's `setOffset` in between has the inner state
of the one-step trace with the persist at the place of `saveBegin` -/
example :
    (crun ⟨1, true, true⟩ (cinit 0) [.w .step, .w (.next (.record [97, 10])), .w .step, .w .send, .w .confirm,
      .saveBegin false, .w .setOffset, .saveRename]).s =
    run ⟨1, true, true⟩ (init 0) [.step, .next (.record [97, 10]), .step, .send, .confirm, .persist, .setOffset] := by
  decide

/-! ## the size of the lag of a save that falls into the confirm-to-`setOffset` window -/

/-- **`window_lag_is_one_event`** the SIZE of the lag (worker LTS with the one-step save; every configuration with
`recsPerEvent ≥ 1`, every interleaving, any length): what the last persist stored is the start offset plus the bytes
of the first `j` confirmed records, the confirmed end at the moment of that persist the start plus the bytes of the
first `j + m` of them; `m = 0` unless the persist ran between a confirm rendez-vous and its `setOffset`, and then
`1 ≤ m ≤ recsPerEvent`: the stored offset lags behind by exactly the one event that was just confirmed — its `m`
consecutive confirmed records `confirmed[j .. j+m)`. -/
theorem window_lag_is_one_event (c : Cfg) (hk : 1 ≤ c.recsPerEvent) (start : Nat) (tr : List L) :
    let s := run c (init start) tr
    ∃ j m, j + m ≤ s.confirmed.length ∧ m ≤ c.recsPerEvent ∧
      s.persisted = start + bytesOf (s.confirmed.take j) ∧
      s.confAtPersist = start + bytesOf (s.confirmed.take (j + m)) ∧
      (s.persistInWindow = false → m = 0) ∧ (s.persistInWindow = true → 1 ≤ m) :=
  Logrange.ScanWorker.window_lag_is_one_event c hk start tr

/-- the window case occurs (`j = 0`, `m = 1`): the persist runs between the confirm rendez-vous and `setOffset`; it
stores 0 = the end of 0 confirmed records while the confirmed end is 2 = the end of 1 confirmed record -/
example :
    let s := run ⟨1, true, true⟩ (init 0) [.step, .next (.record [97, 10]), .step, .send, .confirm, .persist]
    s.persisted = 0 ∧ s.confAtPersist = 2 ∧ s.persistInWindow = true ∧ s.confirmed = [[97, 10]] ∧
    s.persisted = 0 + bytesOf (s.confirmed.take 0) ∧ s.confAtPersist = 0 + bytesOf (s.confirmed.take (0 + 1)) := by
  decide

/-- the upper bound is met (`recsPerEvent = 2`, `j = 0`, `m = 2`): an event of two records is confirmed, the persist
in the window stores 0 while the confirmed end is 4 = the end of 2 confirmed records; and after `setOffset` the next
persist is outside the window and stores the confirmed end (`j = 2`, `m = 0`) -/
example :
    let tr : List L := [.step, .next (.record [97, 10]), .step, .step, .step, .next (.record [98, 10]), .step, .send,
      .confirm, .persist]
    let s := run ⟨2, true, true⟩ (init 0) tr
    let t := run ⟨2, true, true⟩ (init 0) (tr ++ [.setOffset, .persist])
    (s.persisted = 0 ∧ s.confAtPersist = 4 ∧ s.persistInWindow = true ∧ s.confirmed = [[97, 10], [98, 10]] ∧
     s.confAtPersist = 0 + bytesOf (s.confirmed.take (0 + 2))) ∧
    (t.persisted = 4 ∧ t.confAtPersist = 4 ∧ t.persistInWindow = false ∧
     t.persisted = 0 + bytesOf (t.confirmed.take 2)) := by
  decide

/-- **`crash_window_lag_is_one_event`** the same at every point of the two-step save: what `scanner.json` holds is
the start offset plus the bytes of the first `j` confirmed records, the confirmed end at the moment that content was
marshalled the start plus the bytes of the first `j + m` of them; `m = 0` unless the marshal fell between a confirm
rendez-vous and its `setOffset`, and then `1 ≤ m ≤ recsPerEvent`: a crash then re-sends, of what was confirmed
before the marshal, exactly one event — at least 1 and at most `recsPerEvent` consecutive confirmed records (plus
whatever was confirmed since, see `crash_any_point_resends_bounded`). -/
theorem crash_window_lag_is_one_event (c : Cfg) (hk : 1 ≤ c.recsPerEvent) (start : Nat) (tr : List CL) :
    let x := crun c (cinit start) tr
    ∃ j m, j + m ≤ x.s.confirmed.length ∧ m ≤ c.recsPerEvent ∧
      x.disk = start + bytesOf (x.s.confirmed.take j) ∧
      x.diskConf = start + bytesOf (x.s.confirmed.take (j + m)) ∧
      (x.diskWin = false → m = 0) ∧ (x.diskWin = true → 1 ≤ m) :=
  Logrange.ScanCrash.crash_window_lag_is_one_event c hk start tr

/-- the window case occurs for the state file (`j = 0`, `m = 1`): the marshal falls between the confirm rendez-vous and
`setOffset`, the rename comes after it; `scanner.json` holds 0 = the end of 0 confirmed records, the confirmed end at
the marshal was 2 = the end of 1 confirmed record; while a LATER save is between its two steps the file still holds
that content although the inner `persisted` has moved on to 2 -/
example :
    let tr : List CL := [.w .step, .w (.next (.record [97, 10])), .w .step, .w .send, .w .confirm,
      .saveBegin false, .w .setOffset, .saveRename]
    let x := crun ⟨1, true, true⟩ (cinit 0) tr
    let y := crun ⟨1, true, true⟩ (cinit 0) (tr ++ [.saveBegin false])
    (x.disk = 0 ∧ x.diskConf = 2 ∧ x.diskWin = true ∧ x.s.confirmed = [[97, 10]] ∧
     x.disk = 0 + bytesOf (x.s.confirmed.take 0) ∧ x.diskConf = 0 + bytesOf (x.s.confirmed.take (0 + 1))) ∧
    (y.saving = true ∧ y.disk = 0 ∧ y.diskConf = 2 ∧ y.diskWin = true ∧ y.s.persisted = 2 ∧
     y.s.persistInWindow = false) := by
  decide


end Logrange.Props.C17Crash

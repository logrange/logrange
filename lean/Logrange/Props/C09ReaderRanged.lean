import Logrange.Proofs.RdRngFwd
import Logrange.Proofs.RdRngWin
import Logrange.Proofs.RdRngPaging
/-!
# C09, reader clause with RANGE — "a reader positioned inside removed data simply continues at the first remaining event"

Stated on the C03/C16 model of the ranged journal iterator (`partition.JIterator` + `chkSelector`:
`Model/RdSelector.lean`, proofs `Proofs/RdRngFwd.lean`, `RdRngWin.lean`, imported read-only; its correspondence with the
real iterator is checked by the C03 harness, and this check's section `reader` runs half of its cases with RANGE).
The journal before the TRUNCATE is `pre ++ rest`, the TRUNCATE removes `pre`. A paging request builds a fresh iterator
and applies the position text of the previous page (`rSetPos rest {} p`): the record index of `p` belonged to the chunk
that is gone — `getPosForward` must forget it (the seeded changes C09-1, C09-5, C09-11 keep it and skip events).
Input contract as in C03Ranged: `WinSound rest lo hi` (every record in the range lies inside its chunk's window; C02).
-/
namespace Logrange.Props.C09ReaderRanged
open Logrange.Rd

/-- **A RANGE reader positioned anywhere inside removed chunks delivers exactly the remaining events of the range,
each once, in stored order, starting with the first remaining one** — for every sorted journal, every removed prefix,
every record index of the stale position, every range and all sound windows. -/
theorem reader_continues_ranged (pre rest : Journal) (hs : Sorted (pre ++ rest)) (p : Pos) (lo hi : Option Int)
    (hw : WinSound rest lo hi) (hin : ∃ c ∈ pre, c.id = p.cid) (n : Nat) (hn : (flat rest).length ≤ n) :
    (rDrain rest n (rSetPos rest {} p)).filter (inRange lo hi) = (flat rest).filter (inRange lo hi) ∧
    ((rDrain rest n (rSetPos rest {} p)).filter (inRange lo hi)).head? = ((flat rest).filter (inRange lo hi)).head? := by
  have hrest : Sorted rest := (List.pairwise_append.mp hs).2.1
  obtain ⟨c0, hc0, hid⟩ := hin
  have hlt : ∀ c ∈ rest, p.cid < c.id := by
    intro c hc
    have := (List.pairwise_append.mp hs).2.2 c0 hc0 c hc
    omega
  have hzero : flatIdx rest p = 0 := flatIdx_eq_zero_of_lt hlt
  have e1 : (rDrain rest n (rSetPos rest {} p)).filter (inRange lo hi) = (recordsFrom rest p).filter (inRange lo hi) := by
    rw [rf_drain_fresh rest p n hrest hn, rwn_filter_from hrest (hw.toF (f := inRange lo hi) (fun _ h => h)) p]; rfl
  have e2 : (rDrain rest n (rSetPos rest {} p)).filter (inRange lo hi) = (flat rest).filter (inRange lo hi) := by
    rw [e1]; unfold recordsFrom; rw [hzero, List.drop_zero]
  exact ⟨e2, by rw [e2]⟩

end Logrange.Props.C09ReaderRanged

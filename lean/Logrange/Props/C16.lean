import Logrange.Proofs.RdOffsetBwd
import Logrange.Proofs.RdMerge2Offset
import Logrange.Generated.C03
/-!
# C16 — Backward navigation and offsets are consistent with forward order

Property theorems only; the model is `Logrange/Model/RdOffset.lean` (`crsr.Offset`, `iterateToPos`) over
`RdCursor.lean` (mixer tree, fiterator) and the two journal iterators, compared op by op with the real cursor
by harness/cmd/c16. For ONE partition (un-ranged, with or without a WHERE filter) the three laws are proved
for ALL journals, all `k` and all read lengths (`head_plus_k`, `tail_minus_k`, `plus_minus_k`, and the general
`offset_forward` / `offset_backward`), on the faithful model of `crsr.Offset` (no intermediate model): the proof
goes through a flat-index abstraction of both journal-iterator directions (`Proofs/RdIterFwd.lean`,
`Proofs/RdIterBwd.lean`) and of the one-source cursor with its fiterator cache (`Proofs/RdPaging.lean`,
`RdOffsetLaws.lean`, `RdOffsetBwd.lean`). Merged cursors: kernel-evaluated fixed-order instance and the
counterexample for the open finding on tie order between cursor incarnations.
-/
namespace Logrange.Props.C16
open Logrange.Rd Logrange.Generated.C03

/-- the three repairs the offset model is written for are still in the code (regenerated every run) -/
theorem code_shape_facts :
    offsetPositiveBranchSettles = true ∧ fiteratorSetBackwardDropsCache = true ∧ backwardEofKeepsPos = true ∧
    newCursorSortsSources = true := by
  decide

/-- offset 0 leaves the cursor alone -/
theorem offset_zero (c : Cur) : offset c 0 = c := by simp [offset]

def r (l : Nat) (k : Bool := true) (ts : Int := l) : Rec := { lbl := l, ts := ts, keep := k }
def j3 : Journal := [⟨10, [r 0, r 1 false, r 2], 0, maxU32⟩, ⟨20, [], 0, maxU32⟩, ⟨30, [r 3, r 4 false, r 5, r 6], 0, maxU32⟩]

def curJ (j : Journal) (w : Bool) : Cur := mkCur [{ name := 0, jrnl := j }] w none none false
def fwd (j : Journal) (w : Bool) : List Rec := (flat j).filter (keepW w)
def read (c : Cur) : List Rec := (readLoop 100 c []).2

/-! ## the laws, one partition, for ALL journals

`fwdAll j w` is the forward result (stored order, WHERE applied); `readN n c` reads at most `n` events forward.
Hypotheses: `Sorted j` (chunk ids increase); for the backward walk `PosIds j` (no chunk id 0 — ids are
time-derived), `bw_ChunkBound j` (a chunk holds at most 2^32 records — its count is a uint32; without it the
model's backward chunk entry at index MaxUint32 would lose the tail of a larger chunk, see
`bw_getBwdSpec_false`), and `IdsBelowTail j` (every id is below the `tail` id 0xFFFF…). -/

def fwdAll (j : Journal) (w : Bool) : List Rec := (flat j).filter (keepW w)

/-- **the offset of a request is applied once**: both query loops (backend and RPC) hand back a continuation request whose
`Offset` is 0 (regenerated fact `continuationOffsetZero`), and so does the model's `query` in every branch — a client that sends
the server's `NextQueryRequest` verbatim (as `api.Select` and the shell do) continues where the page ended instead of skipping
`k` events again on every page. -/
theorem continuation_request_offset_zero :
    continuationOffsetZero = true ∧
    ∀ (M : Nat) (srv : Server) (req : Req), (query M srv req).2.next.offset = 0 := by
  refine ⟨by decide, ?_⟩
  intro M srv req
  unfold query
  extract_lets lim cache
  split
  · rfl
  · extract_lets found applied
    split
    split
    · rfl
    · simp only [pair_match]
      split <;> rfl

/-- **head_plus_k**: `head` with offset +k skips exactly the first k matching events. -/
theorem head_plus_k (name : Nat) (j : Journal) (w : Bool) (k n : Nat) (hs : Sorted j) :
    readN n (offset (applyCorner (mk1 name j w) false) (k : Int)) = ((fwdAll j w).drop k).take n :=
  ob_head_plus_k getFwd nextFwd name j w k n hs

/-- **tail_minus_k**: `tail` with offset −k followed by a forward read returns exactly the last k events of the
forward result (all of it if shorter). -/
theorem tail_minus_k (name : Nat) (j : Journal) (w : Bool) (k n : Nat) (hs : Sorted j) (hp : PosIds j)
    (hcb : bw_ChunkBound j) (ht : IdsBelowTail j) :
    readN n (offset (applyCorner (mk1 name j w) true) (-(k : Int))) =
      ((fwdAll j w).drop ((fwdAll j w).length - k)).take n :=
  ob_tail_minus_k getFwd nextFwd bw_getBwd_bounded bw_nextBwd_bounded name j w k n hs hp hcb ht

/-- **plus_minus_k**: from the position after any `m` delivered events, moving by +k and then by −k (both inside
the data) leads back to the same next event — indeed to the same remaining read. -/
theorem plus_minus_k (name : Nat) (j : Journal) (w : Bool) (m k n : Nat) (hs : Sorted j) (hp : PosIds j)
    (hcb : bw_ChunkBound j) (hk : m + k ≤ (fwdAll j w).length) :
    readN n (offset (offset (readLoop m (applyCorner (mk1 name j w) false) []).1 (k : Int)) (-(k : Int))) =
      readN n (readLoop m (applyCorner (mk1 name j w) false) []).1 :=
  ob_plus_minus_k getFwd nextFwd bw_getBwd_bounded bw_nextBwd_bounded name j w m k n hs hp hcb hk

/-- general forward law: from any forward state of a one-source cursor (`Abs … c i`: standing at flat index `i`)
`Offset(+k)` drops the first `k` of what was left -/
theorem offset_forward (name : Nat) (j : Journal) (w : Bool) (c : Cur) (i k : Nat) (hs : Sorted j)
    (h : Abs name j w false c i) :
    ∃ i', Abs name j w false (offset c (k : Int)) i' ∧ FL j w i' = (FL j w i).drop k :=
  of_offset_pos getFwd nextFwd hs k h

/-- general backward law: `Offset(−k)` moves the cursor back over `k` matching events, or to the start -/
theorem offset_backward (name : Nat) (j : Journal) (w : Bool) (c : Cur) (i k : Nat) (hs : Sorted j) (hp : PosIds j)
    (hcb : bw_ChunkBound j) (h : Abs name j w false c i) :
    ∃ i', Abs name j w false (offset c (-(k : Int))) i' ∧
      FL j w i' = (FL j w 0).drop (((FL j w 0).length - (FL j w i).length) - k) :=
  ob_offset_neg getFwd nextFwd bw_getBwd_bounded bw_nextBwd_bounded hs hp hcb k h

/-- the backward iterator laws need the chunk bound: without it they are false for the model -/
theorem backward_laws_need_chunk_bound : ¬ GetBwdSpec ∧ ¬ NextBwdSpec :=
  ⟨bw_getBwdSpec_false, bw_nextBwdSpec_false⟩

/-! ### non-vacuity: the hypotheses hold for a concrete journal, and the laws there -/

example : Sorted j3 ∧ PosIds j3 ∧ bw_ChunkBound j3 ∧ IdsBelowTail j3 := by
  unfold Sorted PosIds bw_ChunkBound IdsBelowTail j3; decide


theorem head_plus_k_j3 : ∀ w ∈ [false, true], ∀ k ∈ List.range 10,
    read (offset (applyCorner (curJ j3 w) false) (k : Nat)) = (fwd j3 w).drop k := by
  intro w _ k _
  have h := head_plus_k 0 j3 w k 100 (by unfold Sorted j3; decide)
  rwa [List.take_of_length_le] at h
  exact Nat.le_trans (List.length_drop ▸ Nat.sub_le _ _) (Nat.le_trans (List.length_filter_le _ _) (by decide))

theorem tail_minus_k_j3 : ∀ w ∈ [false, true], ∀ k ∈ List.range 10,
    read (offset (applyCorner (curJ j3 w) true) (-(k : Int))) = (fwd j3 w).drop ((fwd j3 w).length - k) := by
  intro w _ k _
  have h := tail_minus_k 0 j3 w k 100 (by unfold Sorted j3; decide) (by unfold PosIds j3; decide)
    (by unfold bw_ChunkBound j3; decide) (by unfold IdsBelowTail j3; decide)
  rwa [List.take_of_length_le] at h
  exact Nat.le_trans (List.length_drop ▸ Nat.sub_le _ _) (Nat.le_trans (List.length_filter_le _ _) (by decide))

theorem plus_minus_k_j3 : ∀ w ∈ [false, true], ∀ i ∈ List.range 6, ∀ k ∈ List.range 6,
    i + k ≤ (fwd j3 w).length →
    (read (offset (offset (readLoop i (curJ j3 w) []).1 (k : Nat)) (-(k : Int)))).head? = ((fwd j3 w).drop i).head? := by
  intro w _ i _ k _ hk
  have hs : Sorted j3 := by unfold Sorted j3; decide
  have h0 := ob_mk1_abs 0 j3 w
  have h := ob_plus_minus_from getFwd nextFwd bw_getBwd_bounded bw_nextBwd_bounded i k 100 hs
    (by unfold PosIds j3; decide) (by unfold bw_ChunkBound j3; decide) h0 (by simpa [FL, fwd] using hk)
  obtain ⟨_, i1, a1, f1⟩ := pg_readLoop_abs getFwd nextFwd hs i _ 0 [] h0
  show (readN 100 (offset (offset (readLoop i (mk1 0 j3 w) []).1 (k : Int)) (-(k : Int)))).head? = _
  rw [h, ob_readN getFwd nextFwd hs 100 a1, f1]
  simp [FL, fwd, List.head?_take]

/-- two partitions, one incarnation (leaf order fixed), timestamps tie across the partitions: head +k and
tail -k are slices of this cursor's own forward read -/
def ja : Journal := [⟨10, [r 0 true 5, r 1 true 5, r 2 true 7], 0, maxU32⟩]
def jb : Journal := [⟨10, [r 100000 true 5, r 100001 true 6], 0, maxU32⟩, ⟨20, [r 100002 true 7], 0, maxU32⟩]
def cur2 (order : List Nat) : Cur :=
  mkCur (order.map (fun n => { name := n, jrnl := if n = 0 then ja else jb })) false none none false

theorem offset_laws_fixed_order_instance : ∀ order ∈ [[0, 1], [1, 0]], ∀ k ∈ List.range 8,
    read (offset (applyCorner (cur2 order) false) (k : Nat)) = (read (cur2 order)).drop k ∧
    read (offset (applyCorner (cur2 order) true) (-(k : Int))) = (read (cur2 order)).drop (6 - k) := by
  decide +kernel

/-! ## open finding F48: the position exported right after a backward walk

One partition, chunks of 2 + 2 records, no filter. The position after 3 delivered events, `Offset −2` with
`Limit 0` (position only): the cursor stands on event 1 (its `Get` returns it) but the exported position is
(chunk 10, idx 2) — one record too far — and a client that follows it gets event 2: event 1 is skipped. -/
theorem cex_exported_position_skips_event :
    let q : Qry := { text := 1 }
    let j : Journal := [⟨10, [r 0, r 1], 0, maxU32⟩, ⟨20, [r 2, r 3], 0, maxU32⟩]
    let s0 : Server := { store := [(0, j)] }
    let (s1, p1) := query queryMaxLimit s0 { query := some q, limit := 3 }
    let (s2, p2) := query queryMaxLimit s1 { query := some q, pos := p1.next.pos, offset := -2, limit := 0 }
    let (_, p3) := query queryMaxLimit s2 { query := some q, pos := p2.next.pos, limit := 1 }
    p1.events.map (·.lbl) = [0, 1, 2] ∧ p2.next.pos = .map [(0, ⟨10, 2⟩)] ∧ p3.events.map (·.lbl) = [2] := by
  simp only [pair_match]
  decide +kernel

/-! ## merged cursor of TWO partitions: the forward law, for ALL journals

`mk2 n1 n2 j1 j2` is the cursor `newCursor` builds over two partitions (two leaves under one `Mixer`, the faithful
mixer-tree model, no filter); its forward result is the timestamp merge of the partitions, ties to the first source
in leaf order (`Proofs/RdMerge2.lean`). -/

/-- **head_plus_k_two_partitions**: `head` with offset +k skips exactly the first k events of the merged forward
result — ties across the partitions included. -/
theorem head_plus_k_two_partitions (n1 n2 : Nat) (j1 j2 : Journal) (k n : Nat) (hs1 : Sorted j1) (hs2 : Sorted j2) :
    readN n (offset (applyCorner (mk2 n1 n2 j1 j2) false) (k : Int)) =
      ((List.merge (flat j1) (flat j2) leTs).drop k).take n :=
  m2_head_plus_k getFwd nextFwd n1 n2 j1 j2 k n hs1 hs2

/-- general form: from any forward state of the merged cursor with `L` still to deliver, `Offset(+k)` leaves `L.drop k` -/
theorem offset_forward_two_partitions (n1 n2 : Nat) (j1 j2 : Journal) (c : Cur) (L : List Rec) (k : Nat)
    (hs1 : Sorted j1) (hs2 : Sorted j2) (h : Rem2 n1 n2 j1 j2 c L) :
    Rem2 n1 n2 j1 j2 (offset c (k : Int)) (L.drop k) :=
  (m2_delivers getFwd nextFwd hs1 hs2).offset_pos k h

/-- **offset_laws_fixed_order** (statement, merged sources — the forward half for two partitions is
`head_plus_k_two_partitions`; the backward half and more than two partitions are not proved): for a cursor over any
sources in a fixed leaf order (after f086c95: the tag-line order), un-ranged and unfiltered, with `fwd` the
cursor's own forward read from `head`: `head + k` and `tail − k` are the slices of `fwd`. Instance:
`offset_laws_fixed_order_instance` (cross-partition ties, both orders); tested at cursor level and through
`Query` across incarnations (sections `cursor`, `incarn`, `offset-api`). The one-source case is the theorems above. -/
def offset_laws_fixed_order_stmt : Prop :=
  ∀ (srcs : List (Nat × Journal)) (k n : Nat),
    (∀ s ∈ srcs, Sorted s.2 ∧ PosIds s.2 ∧ bw_ChunkBound s.2 ∧ IdsBelowTail s.2 ∧
      s.2.Pairwise (fun _ _ => True) ∧ (flat s.2).Pairwise (fun a b => a.ts ≤ b.ts)) →
    (srcs.map (·.1)).Nodup →
    let mk := mkCur ((sortSrcs srcs).map (fun x => { name := x.1, jrnl := x.2 })) false none none false
    let fwd := readN ((srcs.map (fun s => (flat s.2).length)).sum) (applyCorner mk false)
    readN n (offset (applyCorner mk false) (k : Int)) = (fwd.drop k).take n ∧
    readN n (offset (applyCorner mk true) (-(k : Int))) = (fwd.drop (fwd.length - k)).take n

/-! ## tie order between partitions (finding #23, repaired by f086c95)

`newCursor` now sorts its sources by tag line before it builds the mixer tree, so the leaf order — the
priority that breaks timestamp ties, forward to the left and backward to the right — is a function of the set of
sources and no longer of Go's map iteration order. -/

theorem insertSrc_perm (x : Nat × Journal) (l : List (Nat × Journal)) : (insertSrc x l).Perm (x :: l) := by
  induction l with
  | nil => exact List.Perm.refl _
  | cons y ys ih =>
    simp only [insertSrc]; split
    · exact List.Perm.refl _
    · exact ((List.Perm.cons y ih).trans (List.Perm.swap x y ys))

theorem sortSrcs_perm (l : List (Nat × Journal)) : (sortSrcs l).Perm l := by
  induction l with
  | nil => exact List.Perm.refl _
  | cons x xs ih => exact (insertSrc_perm x _).trans (List.Perm.cons x ih)

theorem insertSrc_sorted (x : Nat × Journal) (l : List (Nat × Journal))
    (h : l.Pairwise (fun a b => a.1 ≤ b.1)) : (insertSrc x l).Pairwise (fun a b => a.1 ≤ b.1) := by
  induction l with
  | nil => simp [insertSrc]
  | cons y ys ih =>
    simp only [insertSrc]; split
    · rename_i hxy
      refine List.Pairwise.cons ?_ h
      intro b hb
      rcases List.mem_cons.mp hb with rfl | hb'
      · exact hxy
      · exact Nat.le_trans hxy ((List.pairwise_cons.mp h).1 b hb')
    · rename_i hxy
      obtain ⟨h1, h2⟩ := List.pairwise_cons.mp h
      refine List.Pairwise.cons ?_ (ih h2)
      intro b hb
      rcases List.mem_cons.mp ((insertSrc_perm x ys).subset hb) with rfl | hb'
      · omega
      · exact h1 b hb'

theorem sortSrcs_sorted (l : List (Nat × Journal)) : (sortSrcs l).Pairwise (fun a b => a.1 ≤ b.1) := by
  induction l with
  | nil => simp [sortSrcs]
  | cons x xs ih => exact insertSrc_sorted x _ ih

theorem name_inj_of_nodup (l : List (Nat × Journal)) (hn : (l.map (·.1)).Nodup) :
    ∀ a b, a ∈ l → b ∈ l → a.1 = b.1 → a = b := by
  have h := List.pairwise_map.mp hn
  intro a b ha hb
  exact List.Pairwise.forall_of_forall_of_flip (R := fun a b => a.1 = b.1 → a = b) (fun _ _ _ => rfl)
    (h.imp fun hne e => absurd e hne) (h.imp fun hne e => absurd e.symm hne) ha hb

/-- **cursor incarnations over the same partitions have the same leaf order**: whatever order the sources come
in (Go's map iteration), the sorted list is the same — for any number of partitions with distinct names. -/
theorem leaf_order_independent_of_map_order (l1 l2 : List (Nat × Journal)) (hp : l1.Perm l2)
    (hn : (l1.map (·.1)).Nodup) : sortSrcs l1 = sortSrcs l2 := by
  have hperm : (sortSrcs l1).Perm (sortSrcs l2) := ((sortSrcs_perm l1).trans hp).trans (sortSrcs_perm l2).symm
  refine List.Perm.eq_of_pairwise (le := fun a b => a.1 ≤ b.1) ?_ (sortSrcs_sorted l1) (sortSrcs_sorted l2) hperm
  intro a b ha hb h1 h2
  have ha' : a ∈ l1 := (sortSrcs_perm l1).subset ha
  have hb' : b ∈ l1 := hp.symm.subset ((sortSrcs_perm l2).subset hb)
  have hname : a.1 = b.1 := Nat.le_antisymm h1 h2
  exact name_inj_of_nodup l1 hn a b ha' hb' hname

/-- the cursor a request builds does not depend on the order of the store's partition list -/
theorem new_cursor_independent_of_map_order (s1 s2 : List (Nat × Journal)) (q : Qry) (p : PosText)
    (hp : (resolve s1 q).Perm (resolve s2 q)) (hn : ((resolve s1 q).map (·.1)).Nodup) :
    newCur s1 q p = newCur s2 q p := by
  unfold newCur; rw [leaf_order_independent_of_map_order _ _ hp hn]

/-- the old witness of #23, now passing: two partitions whose records share a timestamp; read one event, take the
position; in a NEW incarnation (the store lists the partitions the other way round) `+1` then `−1` leads back
to the same next event. -/
theorem tie_order_same_across_incarnations :
    let q : Qry := { text := 1 }
    let a : Journal := [⟨10, [r 0 true 5, r 1 true 5], 0, maxU32⟩]
    let b : Journal := [⟨10, [r 100000 true 5, r 100001 true 5], 0, maxU32⟩]
    let nextAfter : List (Nat × Journal) → List Nat := fun store =>
      let (s1, p1) := query queryMaxLimit { store := [(0, a), (1, b)] } { query := some q, limit := 1 }
      let (s2, p2) := query queryMaxLimit { s1 with store := store } { query := some q, pos := p1.next.pos, offset := 1, limit := 0 }
      let (_, p3) := query queryMaxLimit s2 { query := some q, pos := p2.next.pos, offset := -1, limit := 1 }
      p3.events.map (·.lbl)
    nextAfter [(0, a), (1, b)] = [1] ∧ nextAfter [(1, b), (0, a)] = [1] := by decide +kernel

end Logrange.Props.C16

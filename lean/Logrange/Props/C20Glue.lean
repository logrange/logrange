import Logrange.Props.C20Parts.Tables
import Logrange.Generated.C20G
/-!
# C20 — the glue around the date-time parsers (facts regenerated into `Generated/C20G.lean`)

The theorems of `Props/C20.lean` are about `parseLqlDateTime` / the default parser as FUNCTIONS of (text, now). The property's LQL
clauses ("as an absolute time literal of an LQL RANGE or ts condition", "relative literals … all not later than now") are about
what reaches those functions and when:

* **no memory**: the answer for a literal must not depend on what the process parsed before — neither `pkg/lql` nor
  `pkg/scanner/parser/date` keeps mutable package-level state (`lql_date_path_is_stateless`), and `(*DateTime).Capture` (RANGE,
  TRUNCATE BEFORE) parses its literal on every call (`capture_parses_every_time`). Otherwise a relative literal, the constants
  `minute` / `hour` / `day` / `week` and the today's-date / current-year formats go stale: a fresh `-0.002m` can come out LATER than
  a remembered `-0.001m`. The harness parses the same texts repeatedly across a clock advance (section `lqltime`).
* **the literal's text reaches the parser unchanged**: `cmdCreatePipe` stores the printed FROM / WHERE text as it is
  (`create_pipe_keeps_condition_text`); blanks inside a literal are significant (`collapsed_blanks_change_the_instant`). The
  harness creates pipes with `ts` conditions through CREATE PIPE and evaluates the stored condition (section `pipepath`).
-/
namespace Logrange.Props.C20Glue
open Logrange.Date Logrange.Generated Logrange.Props.C20

/-- `pkg/lql` and `pkg/scanner/parser/date` keep no mutable package-level state (read from the source on every run; the names of
offending variables are in the generated file's comment) -/
theorem lql_date_path_is_stateless : C20G.lqlMutablePackageVars = 0 ∧ C20G.dateMutablePackageVars = 0 := by decide

/-- `(*DateTime).Capture` parses its literal on every call -/
theorem capture_parses_every_time : C20G.captureParsesEveryTime = true := by decide

/-- `CREATE PIPE` stores the printed text of its conditions, not a transformation of it -/
theorem create_pipe_keeps_condition_text : C20G.createPipeKeepsConditionText = true := by decide

/-- **why the text must arrive unchanged**: `Mon Mar  4 12:34:43 2019` (two blanks: the `_D` text of `DDD MMM _D HH:mm:ss YYYY`, LQL
format 1) is 4 March 2019; with the run of blanks collapsed no dated format matches and `HH:mm:ss` (66) claims the clock —
12:34:43 TODAY -/
theorem collapsed_blanks_change_the_instant :
    parseLql gcfg lqlFmts ⟨2026, 9, 26⟩ [77, 111, 110, 32, 77, 97, 114, 32, 32, 52, 32, 49, 50, 58, 51, 52, 58, 52, 51, 32, 50, 48, 49, 57]
      = .abs 1 ⟨2019, 3, 4, 12, 34, 43, 0, .dflt⟩ ∧
    parseLql gcfg lqlFmts ⟨2026, 9, 26⟩ [77, 111, 110, 32, 77, 97, 114, 32, 52, 32, 49, 50, 58, 51, 52, 58, 52, 51, 32, 50, 48, 49, 57]
      = .abs 66 ⟨2026, 9, 26, 12, 34, 43, 0, .dflt⟩ :=
  tables_lql.2.2.2

end Logrange.Props.C20Glue

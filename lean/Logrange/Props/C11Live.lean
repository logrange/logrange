import Logrange.Proofs.WaitLive
/-!
# C11 — bounded liveness: confirmed data is eventually delivered to a waiting reader

Property theorems only (model: `Logrange/Model/WaitLts.lean`; lemmas: `Logrange/Proofs/WaitLive.lean`).
`no_lost_wakeup` (`Logrange/Props/C11.lean`) says a notification is pending; here the notification is followed to the
end. Proved, for all reachable states (any interleaving, any number of waiters, restarts, cancellations of others):

* `eventually_delivered` — if waiter `w` is inside its wait call with confirmed data beyond its position (the delivery
  *obligation*, `Owed`), the explicit schedule `deliver st w` — the lock holder's `subscribe`, the writer side's pending
  `OnNewData` steps, `w`'s own `wake` and `lockCheck`; no `append`, no `confirm`, no `cancel` (`deliver_labels`), at most
  `pendNotif + 4` labels (`deliver_length`) — ends with `w` returning nil;
* `obligation_persists` / `delivered_or_still_deliverable` — no step other than `w`'s own `cancel` removes the
  obligation except the delivery itself; so along every continuation without that cancellation the data was delivered on
  the way or the delivering schedule still exists at the end (the "always eventually possible" form);
* `progress` — a pending `OnNewData` call is never stuck.

Not a theorem here (the model has no scheduler): that a concrete fair scheduler takes these steps. Every label of the
schedule belongs to a goroutine that is runnable and waits for nothing but the listener mutex; `loadWaiters`, `subscribe`
and `wake` stay enabled until taken, `closeAll` and `lockCheck w` compete for the mutex with other waiters' locked
checks (each of which releases it after one `subscribe`, `lock_holder_is_holding`), so delivery under scheduling
needs weak fairness plus a starvation-free mutex. Latency in wall-clock terms is measured by the harness.
-/
namespace Logrange.Props.C11Live
open Logrange.WaitLts

/-- **Deadlock-freedom of the notification**: in every reachable state with an `OnNewData` call pending, the call's
next step (`loadWaiters` or `closeAll`) is enabled, or the listener lock is held by a waiter whose `subscribe` step
(which releases it) is enabled. -/
theorem progress (nWaiters stored : Nat) (ls : List Label) :
    let st := run (init nWaiters stored) ls
    0 < st.pendNotif + st.pendClose →
    (step st .loadWaiters).isSome = true ∨ (step st .closeAll).isSome = true ∨
    ∃ v, st.lock = some v ∧ (step st (.subscribe v)).isSome = true := by
  intro st hp
  exact progress_of_winv2 st (run_winv2 _ ls (winv2_init nWaiters stored)) hp

/-- the listener lock is held only by a waiter between its locked check and its subscription (reachable states) -/
theorem lock_holder_is_holding (nWaiters stored : Nat) (ls : List Label) (v : Nat) :
    let st := run (init nWaiters stored) ls
    st.lock = some v → ∃ x, st.ws[v]? = some x ∧ x.pc = .holding := by
  intro st hl
  exact (run_winv2 _ ls (winv2_init nWaiters stored)).2 v hl

/-- **Eventually delivered** (bounded form): in any reachable state, a waiter inside its wait call (`counted`, `holding`
or `asleep`) with confirmed data beyond its position returns nil (`returning`, `woke`) after the schedule
`deliver st w`. -/
theorem eventually_delivered (nWaiters stored : Nat) (ls : List Label) (w : Nat) (x : WSt) :
    let st := run (init nWaiters stored) ls
    st.ws[w]? = some x → (x.pc = .counted ∨ x.pc = .holding ∨ x.pc = .asleep) → x.pos < st.cfrmd →
    ∃ y, (run st (deliver st w)).ws[w]? = some y ∧ y.pc = .returning ∧ y.woke = true := by
  intro st hx hpc hlt
  exact deliver_delivers st (run_winv2 _ ls (winv2_init nWaiters stored)) w ⟨x, hx, hpc, hlt⟩

/-- **The obligation persists**: in a reachable state, no step other than `w`'s own cancellation (the sibling's return,
the timeout) makes a waiter with confirmed data beyond its position lose it — after the step the data is still owed, or
the step was the delivery. -/
theorem obligation_persists (nWaiters stored : Nat) (ls : List Label) (w : Nat) (l : Label) (st' : State) :
    let st := run (init nWaiters stored) ls
    Owed st w → l ≠ .cancel w → step st l = some st' → Owed st' w ∨ Delivered st' w := by
  intro st ho hl hs
  exact owed_step w (run_cfrmd_le _ ls (Nat.le_refl _)) (.of_step hs) ho hl

/-- **Always eventually deliverable**: from a reachable state that owes data to `w`, along any continuation `ls'` that
does not cancel `w`, the wait call returned nil at some point of `ls'`, or the bounded schedule of `eventually_delivered`
delivers from the state reached. -/
theorem delivered_or_still_deliverable (nWaiters stored : Nat) (ls ls' : List Label) (w : Nat) :
    let st := run (init nWaiters stored) ls
    Owed st w → Label.cancel w ∉ ls' →
    (∃ pre suf, ls' = pre ++ suf ∧ Delivered (run st pre) w) ∨
    Delivered (run (run st ls') (deliver (run st ls') w)) w := by
  intro st ho hn
  rcases owed_run w ls' st (run_cfrmd_le _ ls (Nat.le_refl _)) ho hn with h | h
  · exact Or.inr (deliver_delivers _ (run_winv2 _ ls' (run_winv2 _ ls (winv2_init nWaiters stored))) w h)
  · exact Or.inl h

/-- the schedule is bounded by the number of pending `OnNewData` calls plus 4 -/
theorem deliver_length (st : State) (w : Nat) : (deliver st w).length ≤ st.pendNotif + 4 := by
  unfold deliver
  cases st.lock <;> simp <;> omega

/-- the schedule consists of fair/forced steps only: the lock holder's `subscribe`, the writer side's `OnNewData` steps,
`w`'s own `wake` and `lockCheck` — never an `append`, a `confirm`, a `cancel` or another waiter's optional step -/
theorem deliver_labels (st : State) (w : Nat) :
    ∀ l ∈ deliver st w, l = .loadWaiters ∨ l = .closeAll ∨ l = .wake w ∨ l = .lockCheck w ∨
      (∃ v, st.lock = some v ∧ l = .subscribe v) := by
  intro l hl
  unfold deliver at hl
  simp only [List.mem_append, List.mem_replicate, List.mem_cons, List.not_mem_nil, or_false] at hl
  rcases hl with (hl | hl) | hl | hl | hl
  · cases hlock : st.lock with
    | none => rw [hlock] at hl; simp at hl
    | some v =>
      rw [hlock] at hl
      simp only [List.mem_cons, List.not_mem_nil, or_false] at hl
      exact Or.inr (Or.inr (Or.inr (Or.inr ⟨v, rfl, hl⟩)))
  · exact Or.inl hl.2
  · exact Or.inr (Or.inl hl)
  · exact Or.inr (Or.inr (Or.inl hl))
  · exact Or.inr (Or.inr (Or.inr (Or.inl hl)))

/-! ### non-vacuity: kernel-evaluated runs -/

/-- waiter 0 asleep on an open subscription at position 3, two flushes confirmed (two `OnNewData` calls pending), waiter 1
holds the listener lock: the hypotheses of `eventually_delivered` are met … -/
example : let st := run (init 2 3) [.start 0 3, .inc 0, .lockCheck 0, .subscribe 0, .append 2, .confirm, .append 1, .confirm,
      .start 1 10, .inc 1, .lockCheck 1]
    st.ws[0]? = some ⟨.asleep, 3, true, false⟩ ∧ 3 < st.cfrmd ∧ st.pendNotif = 2 ∧ st.lock = some 1 ∧
    deliver st 0 = [.subscribe 1, .loadWaiters, .loadWaiters, .closeAll, .wake 0, .lockCheck 0] := by decide +kernel
/-- … and the schedule delivers -/
example : let st := run (init 2 3) [.start 0 3, .inc 0, .lockCheck 0, .subscribe 0, .append 2, .confirm, .append 1, .confirm,
      .start 1 10, .inc 1, .lockCheck 1]
    ((run st (deliver st 0)).ws[0]?).map (fun x => (x.pc, x.woke)) = some (.returning, true) := by decide +kernel
/-- the waiter itself holds the lock (flush between its locked check and its subscription) -/
example : let st := run (init 1 3) [.start 0 3, .inc 0, .append 1, .lockCheck 0, .append 1, .confirm]
    (st.ws[0]?).map (fun x => (x.pc, x.pos)) = some (.holding, 3) ∧ st.lock = some 0 ∧ st.cfrmd = 5 ∧
    ((run st (deliver st 0)).ws[0]?).map (fun x => (x.pc, x.woke)) = some (.returning, true) := by decide +kernel
/-- a waiter in front of its locked check (`counted`): `closeAll` and `wake` are skipped or irrelevant -/
example : let st := run (init 1 3) [.start 0 3, .append 1, .confirm, .inc 0]
    (st.ws[0]?).map (fun x => x.pc) = some .counted ∧
    ((run st (deliver st 0)).ws[0]?).map (fun x => (x.pc, x.woke)) = some (.returning, true) := by decide +kernel
/-- `progress`: a pending call behind a held lock — the holder's `subscribe` is the enabled step -/
example : let st := run (init 1 3) [.start 0 3, .inc 0, .lockCheck 0, .append 1, .confirm, .loadWaiters]
    st.pendClose = 1 ∧ st.lock = some 0 ∧ (step st .closeAll).isSome = false ∧ (step st (.subscribe 0)).isSome = true := by
  decide +kernel

/-- `obligation_persists` is not vacuous and `cancel` is the exception: the sleeper of the first example is owed data; its
cancellation returns `ctx.Err()` -/
example : let st := run (init 2 3) [.start 0 3, .inc 0, .lockCheck 0, .subscribe 0, .append 2, .confirm, .subscribe 1]
    ((st.ws[0]?).map (fun x => (x.pc, decide (x.pos < st.cfrmd))) = some (.asleep, true)) ∧
    ((run st [.cancel 0]).ws[0]?).map (fun x => (x.pc, x.woke)) = some (.returning, false) := by decide +kernel

end Logrange.Props.C11Live

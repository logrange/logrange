import Logrange.Proofs.PipeRep
import Logrange.Proofs.PipeSpecRep
import Logrange.Props.C10
/-!
# C10 — the pipe LTS with the repairs of F79 (catch-up at start, first descriptor persisted) and F10 (publication in storage order)

Property theorems only (model: `Logrange/Model/PipeLtsRep.lean` — the unchanged pipe LTS with three switches; lemmas:
`Logrange/Proofs/PipeRep.lean`). The switches are facts regenerated from the source (`rcNow`); every theorem here is stated
for an arbitrary setting or under the explicit hypothesis that a switch is on, so this file builds on a tree with and without
the repairs. With all switches off `stepR` IS the plain LTS (`unrepaired_is_plain`): `cex_restart_strands_data` and
`cex_first_notification_reordered` (Props/C10) are statements about that branch.
-/
namespace Logrange.Props.C10Rep
open Logrange.PipeLts Logrange.Props.C10

/-- the repairs as the extractor finds them in the source now -/
def rcNow : RCfg :=
  ⟨Generated.C10.initCatchesUpLoadedPipes, Generated.C10.firstNotificationPersistsDescriptor,
   Generated.C10.writePublishesUnderPartitionLock⟩

/-- without the repairs the repaired LTS is the plain pipe LTS, step by step and run by run -/
theorem unrepaired_is_plain (st : State) (l : Label) (ls : List Label) :
    stepR cfgNow unrepaired st l = step cfgNow st l ∧ runR cfgNow unrepaired st ls = run cfgNow st ls :=
  ⟨stepR_unrepaired cfgNow st l, runR_unrepaired cfgNow st ls⟩

/-- **The copy invariant holds with any combination of the repairs** (all interleavings, as `pipe_copy_inv`): what the pipe
partition holds of source `s` is exactly the records of `[start, cursor)` the filter accepts, once, in stored order,
provenance appended; nothing without a descriptor. -/
theorem pipe_copy_inv_rep (rc : RCfg) (n : Nat) (l : Nat → Bool) (p : Nat → Bytes) (f : Ev → Bool) (o : Bool)
    (ls : List Label) (s : Nat) :
    let st := runR cfgNow rc (init n l p f o) ls
    ((st.srcs s).desc = none → proj s st.dest = []) ∧
    (∀ d, (st.srcs s).desc = some d →
      d.start ≤ d.pos ∧ d.pos ≤ curOf (st.srcs s) d ∧ curOf (st.srcs s) d ≤ (st.srcs s).log.length ∧
      proj s st.dest = (sel cfgNow st.flt (slice (st.srcs s).log d.start (curOf (st.srcs s) d))).map (addProv (st.srcs s).prov)) := by
  intro st
  have hg : GInv cfgNow st := runR_ginv cfgNow rc _ ls (ginv_init cfgNow n l p f o)
  constructor
  · intro hd; exact ((hg.1 s).1 hd).1
  · intro d hd
    obtain ⟨a1, a2, a3, _, _, a6, _, _⟩ := (hg.1 s).2 d hd
    exact ⟨a1, a2, a3, a6⟩

/-- … in the words of the property (a worker not between its write and its `saveState`) -/
theorem pipe_copy_exactly_once_in_order_rep (rc : RCfg) (n : Nat) (l : Nat → Bool) (p : Nat → Bytes) (f : Ev → Bool) (o : Bool)
    (ls : List Label) (s : Nat) (d : Desc) :
    let st := runR cfgNow rc (init n l p f o) ls
    (st.srcs s).desc = some d → (∀ c, (st.srcs s).wk ≠ .written c) →
    proj s st.dest = ((slice (st.srcs s).log d.start d.pos).filter st.flt).map (addProv (st.srcs s).prov) := by
  intro st hd hw
  have h := ((pipe_copy_inv_rep rc n l p f o ls s).2 d hd).2.2.2
  have hc : curOf (st.srcs s) d = d.pos := by
    unfold curOf; split
    · rename_i c hc; exact absurd hc (hw c)
    · rfl
  have hf : cfgNow.applyFilter = true := by decide +kernel
  rw [hc] at h
  simpa [sel, hf] using h

/-- **F79 repaired (a): a restart never strands data.** With the catch-up at `Init`, in the state right after a restart
every source of the live pipe whose saved position is behind the end of its stored data has a charged worker (`starting`),
its `LastKnwnPos` stands at (or beyond) that end, and the descriptor is not `stale` — whatever was queued, unpublished or
behind when the service stopped. -/
theorem restart_never_strands_data (rc : RCfg) (hc : rc.catchUpAtInit = true) (st st' : State)
    (hs : stepR cfgNow rc st .restart = some st') (hl : st'.pipe = .live) (s : Nat) (d : Desc)
    (hd : (st'.srcs s).desc = some d) (hb : d.pos < (st'.srcs s).log.length) :
    d.charged = true ∧ (st'.srcs s).wk = .starting ∧ (st'.srcs s).log.length ≤ d.lastKnown ∧ d.stale = false := by
  obtain ⟨s1, h1, hrep, _⟩ := stepR_cases hs
  rcases hrep with ⟨rfl, _, hno⟩ | ⟨e, _⟩ | ⟨_, _, _, rfl⟩
  · exact absurd hl (hno rfl hc)
  · cases e
  · change (catchUpSrc (s1.srcs s)).desc = some d at hd
    change d.pos < (catchUpSrc (s1.srcs s)).log.length at hb
    show _ ∧ (catchUpSrc (s1.srcs s)).wk = .starting ∧ (catchUpSrc (s1.srcs s)).log.length ≤ _ ∧ _
    rw [catchUpSrc_log] at hb ⊢
    cases h0 : (s1.srcs s).desc with
    | none => rw [catchUpSrc_desc_none _ h0] at hd; cases hd
    | some d0 =>
      -- a descriptor loaded by the restart is not charged, so `startWorker` decides on `Pos < max …` alone
      have hch : d0.charged = false := by
        cases h1 with
        | restart hdn => obtain ⟨sv, _, rfl⟩ := Option.map_eq_some_iff.mp h0; rfl
      rw [catchUpSrc_some _ _ h0] at hd ⊢
      by_cases hcond : d0.pos < max d0.lastKnown (s1.srcs s).log.length
      · rw [startWorker_start _ { d0 with lastKnown := max d0.lastKnown (s1.srcs s).log.length } hch hcond] at hd ⊢
        cases hd; exact ⟨rfl, rfl, Nat.le_max_right _ _, rfl⟩
      · rw [startWorker_skip _ _ { d0 with lastKnown := max d0.lastKnown (s1.srcs s).log.length } (Or.inr (Or.inr hcond))] at hd
        cases hd; exact absurd (Nat.lt_of_lt_of_le hb (Nat.le_max_right _ _)) hcond

/-- **F79 repaired (b): the descriptor of a source seen for the first time is on disk at once** — the notification that
creates a descriptor leaves the positions file equal to the pipe's positions, so a stop before the first copy does not
forget the start position. -/
theorem first_descriptor_is_persisted (rc : RCfg) (hp : rc.persistFirst = true) (st st' : State)
    (hs : stepR cfgNow rc st .notify = some st') (hfirst : firstSeen st = true) (s : Nat) :
    (st'.srcs s).saved = (st'.srcs s).desc := by
  obtain ⟨s1, _, hrep, _⟩ := stepR_cases hs
  rcases hrep with ⟨_, hno, _⟩ | ⟨_, _, _, rfl⟩ | ⟨e, _⟩
  · rw [hno rfl hp] at hfirst; cases hfirst
  · rfl
  · cases e

/-- **F10 repaired: publication in storage order.** With the per-partition write lock, in every reachable state (all
interleavings) the write events of one source stand in the channel and among the unpublished ones in the order of its
records — an event stored earlier is never notified later — and at most one event per source is unpublished. The schedule
of `cex_first_notification_reordered` (`write; write; enqueue 1; enqueue 0`) does not exist. -/
theorem publication_in_storage_order (rc : RCfg) (hw : rc.writeLock = true) (n : Nat) (l : Nat → Bool) (p : Nat → Bytes)
    (f : Ev → Bool) (o : Bool) (ls : List Label) :
    let st := runR cfgNow rc (init n l p f o) ls
    (st.chan ++ st.pend).Pairwise (fun a b => a.src = b.src → a.endPos ≤ b.startPos) ∧
    st.pend.Pairwise (fun a b => a.src ≠ b.src) :=
  runR_pubinv cfgNow rc hw _ ls (ginv_init cfgNow n l p f o) (pubinv_init n l p f o)

/-- the monitor is a ghost of the repaired LTS too -/
theorem monitor_is_ghost_rep (rc : RCfg) (st : State) (m : Mon) (ls : List Label) :
    (runMR cfgNow rc (st, m) ls).1 = runR cfgNow rc st ls :=
  runMR_fst cfgNow rc (st, m) ls

/-- **The specification for every clean schedule, with any combination of the repairs** (`pipe_spec` transferred to
`stepR`; same ghost monitor): in a quiescent state of a running service with the pipe alive, a listening source whose
schedule was clean has in the pipe partition exactly the events written to it after the pipe's creation for which the filter
is true — once, in stored order, provenance appended. Proof: the invariants of `pipe_spec` (`GInv`, `NS`, `PInv`, `MInv`)
plus "a stopped service has nothing queued or unpublished" are kept by `stepR` (`Proofs/PipeSpecRep.stepR_allinv`): the
write lock only removes steps, `resaveAll` rebuilds the file clause from the descriptor clause, and after a clean stop the
catch-up finds `LastKnwnPos` already at the end. -/
theorem pipe_spec_rep (rc : RCfg) (n : Nat) (l : Nat → Bool) (p : Nat → Bytes) (f : Ev → Bool) (o : Bool) (ls : List Label)
    (s : Nat) :
    let r := runMR cfgNow rc (init n l p f o, mon0) ls
    let st := r.1
    quiescent st = true → st.closed = false → st.down = false → st.pipe = .live → s < st.n →
    (st.srcs s).listens = true → r.2.clean s = true →
    proj s st.dest = specProj st s :=
  spec_of_clean_rep cfgNow rc (by decide) (by decide) (by decide) (by decide) n l p f o ls s

/-! ### the former counterexample runs under the repairs (kernel-evaluated) -/

/-- the schedule of `cex_restart_strands_data` with the repairs: right after the restart a worker is charged for the source
that was behind, and its first round — no later write — completes the pipe partition -/
theorem restart_behind_witness :
    let st := runR cfgNow repaired (init 1 (fun _ => true) (fun _ => prov0) (fun _ => true) false)
      [.create, .write 0 [evA], .enqueue 0, .notify, .wopen 0, .wcopy 0 9, .wsave 0, .write 0 [evB], .enqueue 0, .notify,
       .shutdown, .wtimeout 0, .wdone 0, .halt, .restart]
    let st' := runR cfgNow repaired st [.wopen 0, .wcopy 0 9, .wsave 0, .wtimeout 0, .wdone 0]
    ((st.srcs 0).desc.map (fun d => (d.pos, d.lastKnown, d.charged)) = some (1, 2, true) ∧ (st.srcs 0).wk = .starting) ∧
    (quiescent st' = true ∧ proj 0 st'.dest = specProj st' 0 ∧ (proj 0 st'.dest).length = 2) := by
  decide +kernel

/-- a first batch whose descriptor was never saved by a worker: notified, the worker cancelled by the stop before it copied —
with the repairs the descriptor is on disk, the restart charges a worker, the batch arrives -/
theorem first_batch_survives_stop_witness :
    let st := runR cfgNow repaired (init 1 (fun _ => true) (fun _ => prov0) (fun _ => true) false)
      [.create, .write 0 [evA], .enqueue 0, .notify, .shutdown, .wtimeout 0, .wdone 0, .halt, .restart,
       .wopen 0, .wcopy 0 9, .wsave 0, .wtimeout 0, .wdone 0]
    quiescent st = true ∧ proj 0 st.dest = specProj st 0 ∧ (proj 0 st.dest).length = 1 := by
  decide +kernel

/-- … and without the repairs the same schedule loses the batch (the plain LTS) -/
theorem first_batch_lost_without_repair :
    let st := runR cfgNow unrepaired (init 1 (fun _ => true) (fun _ => prov0) (fun _ => true) false)
      [.create, .write 0 [evA], .enqueue 0, .notify, .shutdown, .wtimeout 0, .wdone 0, .halt, .restart,
       .wopen 0, .wcopy 0 9, .wsave 0, .wtimeout 0, .wdone 0]
    quiescent st = true ∧ proj 0 st.dest = [] ∧ (st.srcs 0).desc = none := by
  decide +kernel

/-- **what the repairs do not cover** (the rest of F79's class): a FIRST notification that is still queued when the service
stops — there is no descriptor yet, nothing to persist, nothing to catch up with; the later write defines a new start and the
queued batch is never copied. Same run as `cex_notification_lost_at_shutdown`, here with all repairs on. -/
theorem cex_queued_first_notification_still_lost :
    let st := runR cfgNow repaired (init 1 (fun _ => true) (fun _ => prov0) (fun _ => true) false)
      ([.create, .write 0 [evA], .enqueue 0, .shutdown, .halt, .restart, .write 0 [evB], .enqueue 0, .notify] ++ copyCycle)
    quiescent st = true ∧ proj 0 st.dest = [addProv prov0 evB] ∧ (specProj st 0).length = 2 := by
  decide +kernel

/-- … the same with the event not even published when the service stops (a write overlapping the stop: stored and
acknowledged, `onWriteEvent` reaches nobody). This is the schedule of the harness' witness
`stop-first-notification-unpublished` (open finding F-C10-901), which the real server reproduces. -/
theorem cex_unpublished_first_notification_still_lost :
    let st := runR cfgNow repaired (init 1 (fun _ => true) (fun _ => prov0) (fun _ => true) false)
      ([.create, .write 0 [evA], .shutdown, .halt, .restart, .write 0 [evB], .enqueue 0, .notify] ++ copyCycle)
    quiescent st = true ∧ proj 0 st.dest = [addProv prov0 evB] ∧ (specProj st 0).length = 2 := by
  decide +kernel

/-- the schedule of `cex_first_notification_reordered` under the write lock: the second write is not enabled while the
first is unpublished; the only schedules left publish in stored order, and the partition meets the specification -/
theorem racing_first_writes_witness :
    let s0 := runR cfgNow repaired (init 1 (fun _ => true) (fun _ => prov0) (fun _ => true) false) [.create, .write 0 [evA]]
    (stepR cfgNow repaired s0 (.write 0 [evB])).isNone = true ∧
    (let st := runR cfgNow repaired s0 ([.enqueue 0, .write 0 [evB], .enqueue 0, .notify, .notify] ++ copyCycle)
     quiescent st = true ∧ proj 0 st.dest = specProj st 0 ∧ (proj 0 st.dest).length = 2) := by
  decide +kernel

end Logrange.Props.C10Rep

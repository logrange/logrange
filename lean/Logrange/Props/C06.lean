import Logrange.Proofs.TIndexId
import Logrange.Proofs.Quote
import Logrange.Proofs.TIndexRun
import Logrange.Proofs.TIndexGet
import Logrange.Proofs.TIndexSave
/-!
# C06 — Partition identity is tag-set equality; FROM selects exactly the matches

Property theorems only (lemmas: `Logrange/Proofs/{Tags,TagsEval,TIndexId}.lean`; models:
`Logrange/Model/{Tags,TagsEval,TIndexId}.lean`). Every theorem here is an obligation of the C06 check.

Identity rests on C08's round trip, so it is proved on `Safe` sets (`same_partition_iff`); for the code as it is
the full statement is false (open finding F08, shared with C08): two different sets can print the same line and
then share a partition, and a raw text can hit the key of another set on the fast path (`cex_…`).
Selection (`from_tags`, `from_expr`, `from_empty`, `tags_eval_correct`) holds for all sets and expressions.
-/
namespace Logrange.Props.C06
open Go Logrange.KV Logrange.Tags Logrange.TagsEval Logrange.TIndexId Logrange.Proofs.KV Logrange.Proofs.Tags
  Logrange.Proofs.TagsEval Logrange.Proofs.TIndexId Logrange.Proofs.TIndexRun Logrange.Proofs.TIndexGet Logrange.TIndexSave Logrange.Proofs.TIndexSave

/-- full statement: whatever the index holds, two accepted non-empty tag texts get the same partition iff they
denote the same set (false today, see `cex_two_sets_one_partition`) -/
def same_partition_full : Prop :=
  ∀ (ops : List (Bytes × Bool)) (t1 t2 : Bytes) (m1 m2 : Map), parse t1 = some m1 → parse t2 = some m2 → m1 ≠ [] → m2 ≠ [] →
    ∃ i j, (getOrCreate (run {} ops) t1 true).2 = .ok i ∧
      (getOrCreate (getOrCreate (run {} ops) t1 true).1 t2 true).2 = .ok j ∧ (i = j ↔ m1 = m2)

/-- **The index is a map from canonical lines to partitions and stays one**: after any sequence of
`getOrCreateJournal` critical sections — i.e. any interleaving of any number of racing writers, since the whole
look-up-or-create is one critical section of `ims.lock` — every key is the line of its partition's non-empty tag
set, keys are distinct and partition ids are distinct. -/
theorem tindex_map_inv (ops : List (Bytes × Bool)) : TInv (run {} ops) :=
  tinv_run {} ops tinv_init

/-- one step preserves the invariant (what `tindex_map_inv` iterates) -/
theorem tindex_step_inv (s : St) (raw : Bytes) (create : Bool) (h : TInv s) : TInv (getOrCreate s raw create).1 :=
  tinv_step s raw create h

/-- **Same partition iff same set** (on `Safe` sets, whatever order, spacing, braces or quoting the two texts
use; `s` any index state satisfying the invariant whose stored sets are `Safe`): the two writes get ids `i`, `j`
and `i = j ↔ m1 = m2`. -/
theorem same_partition_iff (s : St) (hinv : TInv s) (hsafe : SafeSt s) (t1 t2 : Bytes) (m1 m2 : Map)
    (hp1 : parse t1 = some m1) (hp2 : parse t2 = some m2) (hne1 : m1 ≠ []) (hne2 : m2 ≠ [])
    (hs1 : safe m1 = true) (hs2 : safe m2 = true) :
    ∃ i j, (getOrCreate s t1 true).2 = .ok i ∧ (getOrCreate (getOrCreate s t1 true).1 t2 true).2 = .ok j ∧
      (i = j ↔ m1 = m2) :=
  Logrange.Proofs.TIndexId.same_partition_iff Logrange.Proofs.Quote.quoteContract s hinv hsafe t1 t2 m1 m2 hp1 hp2 hne1 hne2 hs1 hs2

/-- the `Safe`-ness of the stored sets is itself preserved as long as only `Safe` sets are written -/
theorem safe_index_preserved (s : St) (raw : Bytes) (create : Bool) (h : SafeSt s)
    (hr : ∀ m, parse raw = some m → safe m = true) : SafeSt (getOrCreate s raw create).1 :=
  safeSt_step s raw create h hr

/-- a write finds the partition that already holds its set, and creates one otherwise (Safe sets) -/
theorem write_lands_in_its_partition (s : St) (hinv : TInv s) (hsafe : SafeSt s) (t : Bytes) (m : Map)
    (hp : parse t = some m) (hne : m ≠ []) (hs : safe m = true) :
    ∃ i, (getOrCreate s t true).2 = .ok i ∧ (∃ e ∈ (getOrCreate s t true).1.tmap, e.2.src = i ∧ e.2.tags = m) ∧
      (∀ e ∈ s.tmap, e.2.tags = m → e.2.src = i) ∧ (∀ e ∈ s.tmap, e ∈ (getOrCreate s t true).1.tmap) :=
  getOrCreate_spec s hinv (keys_reparse Logrange.Proofs.Quote.quoteContract s hinv hsafe) t m hp hne
    (roundtrip_core Logrange.Proofs.Quote.quoteContract m (parse_WF t m hp) hs)

/-! ### End to end: reachable states, the fast path, racing writers, persisted keys -/

/-- **The raw-text fast path is sound on Safe indexes**: a raw text that hits the map is the canonical line of the
stored set and denotes exactly that set. -/
theorem fast_path_sound (s : St) (hinv : TInv s) (hsafe : SafeSt s) (raw : Bytes) (td : Desc)
    (h : lookup s.tmap raw = some td) : raw = line td.tags ∧ parse raw = some td.tags :=
  Logrange.Proofs.TIndexRun.fast_path_sound s hinv hsafe raw td h

/-- every state reached by a history whose accepted texts denote Safe sets satisfies the invariant and stores Safe
sets only -/
theorem reachable_inv (ops : List (Bytes × Bool)) (ho : SafeOps ops) : TInv (run {} ops) ∧ SafeSt (run {} ops) :=
  Logrange.Proofs.TIndexRun.reachable_inv ops ho

/-- **Same partition iff same set, end to end**: after ANY history of look-ups and creations whose accepted texts
denote Safe sets (any spellings, incl. texts that take the fast path, rejected texts, look-ups without creation), two
accepted non-empty Safe texts get the same partition iff they denote the same set. -/
theorem same_partition_reachable (ops : List (Bytes × Bool)) (ho : SafeOps ops) (t1 t2 : Bytes) (m1 m2 : Map)
    (hp1 : parse t1 = some m1) (hp2 : parse t2 = some m2) (hne1 : m1 ≠ []) (hne2 : m2 ≠ [])
    (hs1 : safe m1 = true) (hs2 : safe m2 = true) :
    ∃ i j, (getOrCreate (run {} ops) t1 true).2 = .ok i ∧
      (getOrCreate (getOrCreate (run {} ops) t1 true).1 t2 true).2 = .ok j ∧ (i = j ↔ m1 = m2) :=
  Logrange.Proofs.TIndexRun.same_partition_reachable ops ho t1 t2 m1 m2 hp1 hp2 hne1 hne2 hs1 hs2

/-- **Racing first writes** (K writers, one critical section each; the list is the schedule — the statement holds for
every list, hence for every order of every multiset of writers): every writer gets a partition, and two writers get
the same partition iff they wrote the same set. -/
theorem racing_writers_ids (s : St) (hinv : TInv s) (hsafe : SafeSt s) (ws : List (Bytes × Map)) (hw : Writers ws) :
    ∃ ids : List Nat, (runRes s (ws.map (·.1))).2 = ids.map Res.ok ∧ ids.length = ws.length ∧
      ∀ a b (ha : a < ws.length) (hb : b < ws.length) (ia ib : Nat), ids[a]? = some ia → ids[b]? = some ib →
        (ia = ib ↔ (ws[a]).2 = (ws[b]).2) :=
  Logrange.Proofs.TIndexRun.racing_writers_ids s hinv hsafe ws hw

/-- … and afterwards, for every schedule, the index holds **exactly one partition per written set**, nothing that was
there before is lost or moved, and there is no partition for a set nobody wrote. -/
theorem racing_writers_one_partition (s : St) (hinv : TInv s) (hsafe : SafeSt s) (ws : List (Bytes × Map))
    (hw : Writers ws) :
    let s' := (runRes s (ws.map (·.1))).1
    TInv s' ∧ SafeSt s' ∧ (∀ e ∈ s.tmap, e ∈ s'.tmap) ∧
    (∀ w ∈ ws, ∃ e ∈ s'.tmap, e.2.tags = w.2 ∧ ∀ e' ∈ s'.tmap, e'.2.tags = w.2 → e' = e) ∧
    (∀ e ∈ s'.tmap, e ∈ s.tmap ∨ ∃ w ∈ ws, e.2.tags = w.2) :=
  Logrange.Proofs.TIndexRun.racing_writers_one_partition s hinv hsafe ws hw

/-- **Persisted index keys**: every key the index stores is the canonical line of its partition's set, and on a Safe
index `loadState`'s re-parse of a key gives back exactly that set … -/
theorem tindex_keys_reparse_partial (s : St) (hinv : TInv s) (hsafe : SafeSt s) :
    ∀ e ∈ s.tmap, e.1 = line e.2.tags ∧ parse e.1 = some e.2.tags :=
  fun e he => ⟨(hinv.1 e he).1, tindex_keys_reparse s hinv hsafe e he⟩

/-- … so saving and loading the index (a clean restart) rebuilds the same map from lines to partitions. -/
theorem load_save_partial (s : St) (hinv : TInv s) (hsafe : SafeSt s) : loadEntries (saveState s) = some s.tmap :=
  load_save s hinv hsafe

/-- **FROM {tags}** selects exactly the partitions whose tag set contains all given pairs. -/
theorem from_tags (so : StrOps) (s : St) (t : Map) :
    visit so s (.tags t) = some ((s.tmap.map (·.2)).filter (fun d => t.all (fun p => d.tags.get? p.1 == some p.2))) :=
  Logrange.Proofs.TIndexId.from_tags so s t

/-- **FROM <expression>** selects exactly the partitions for which the reference meaning of the expression is
true of the partition's tags; an expression the builder rejects selects nothing (the statement fails). -/
theorem from_expr (so : StrOps) (s : St) (e : OrList) :
    (∀ f, buildOr so e = some f → visit so s (.expr e) = some ((s.tmap.map (·.2)).filter (fun d => orRef so e d.tags == some true))) ∧
    (buildOr so e = none → visit so s (.expr e) = none) :=
  Logrange.Proofs.TIndexId.from_expr so s e

/-- **An empty FROM** selects all partitions. -/
theorem from_empty (so : StrOps) (s : St) : visit so s .none = some (s.tmap.map (·.2)) :=
  Logrange.Proofs.TIndexId.from_empty so s

/-- **The compiled tag condition equals the reference evaluator** (structural induction over the expression;
for every case mapping and `path.Match`): accepted ⇒ same truth value on every tag set, rejected ⇒ the reference
evaluator rejects too. -/
theorem tags_eval_correct (so : StrOps) (src : Source) :
    (∀ f, buildSource so src = some f → ∀ m, evalTagsRef so src m = some (f m)) ∧
    (buildSource so src = none → ∀ m, evalTagsRef so src m = none) :=
  Logrange.Proofs.TagsEval.tags_eval_correct so src

/-- a malformed LIKE pattern is rejected when the condition is built (fix 4537423), never at evaluation -/
theorem malformed_like_rejected (so : StrOps) (id : Ident) (pat : Bytes) (h : so.like pat [97, 98, 99] = none) :
    buildCond so ⟨id, .like, pat⟩ = none := by
  unfold buildCond
  cases buildIdent so id <;> simp [h]

/-! ## Counterexamples to the full statement (F08 seen from C06) -/

/-- two different sets, one partition: `a=""` (empty value) and `a="\"\""` (the value `""`) print the same line -/
theorem cex_two_sets_one_partition :
    parse [97,61,34,34] = some [([97],[])] ∧ parse [97,61,34,92,34,92,34,34] = some [([97],[34,34])] ∧
    (getOrCreate {} [97,61,34,34] true).2 = .ok 0 ∧
    (getOrCreate (getOrCreate {} [97,61,34,34] true).1 [97,61,34,92,34,92,34,34] true).2 = .ok 0 := by decide +kernel

/-- the raw-text fast path hits another set's key: after a write for {a: ` c `} (line `a= c `) the text `a= c `,
which denotes {a: `c`}, lands in that partition -/
theorem cex_fast_path_capture :
    parse [97,61,34,32,99,32,34] = some [([97],[32,99,32])] ∧ parse [97,61,32,99,32] = some [([97],[99])] ∧
    (getOrCreate {} [97,61,34,32,99,32,34] true).2 = .ok 0 ∧
    (getOrCreate (getOrCreate {} [97,61,34,32,99,32,34] true).1 [97,61,32,99,32] true).2 = .ok 0 := by decide +kernel

/-- outside the Safe class a persisted key is not read back: the index holding {a: `x"y`} cannot be loaded again (the
server refuses to start), the one holding {a: ` c `} comes back with another set -/
theorem cex_load_unsafe_key :
    loadEntries (saveState (run {} [([97,61,34,120,92,34,121,34], true)])) = none ∧
    (loadEntries (saveState (run {} [([97,61,34,32,99,32,34], true)]))).map (fun l => l.map (fun e => e.2.tags)) =
      some [[([97],[99])]] := by decide +kernel

theorem same_partition_full_false : ¬ same_partition_full := by
  intro h
  obtain ⟨h1, h2, h3, h4⟩ := cex_two_sets_one_partition
  obtain ⟨i, j, hi, hj, hij⟩ := h [] _ _ _ _ h1 h2 (by simp) (by simp)
  simp only [run] at hi hj
  rw [h3] at hi; rw [h4] at hj
  cases hi; cases hj
  have := hij.mp rfl
  simp at this

/-! ## Non-vacuity -/

/-- the hypotheses of `same_partition_iff` hold in a non-trivial state: one partition {a: b} exists; the texts
`{b=2, a=1}` and `a=1,b="2"` are two spellings of one Safe set -/
example : SafeSt (run {} [([97,61,98], true)]) := by
  show ∀ e ∈ _, _
  decide +kernel
example : parse [123,98,61,50,44,32,97,61,49,125] = some [([97],[49]), ([98],[50])] ∧
    parse [97,61,49,44,98,61,34,50,34] = some [([97],[49]), ([98],[50])] ∧ safe [([97],[49]), ([98],[50])] = true := by
  decide +kernel
/-- selection on a population of two partitions -/
example : (visit ⟨id, id, fun _ _ => some false⟩ (run {} [([97,61,49], true), ([97,61,50,44,98,61,51], true)])
    (.tags [([98],[51])])).map (fun l => l.map (·.src)) = some [1] := by decide +kernel

/-- `racing_writers_ids` is not vacuous: three writers, two spellings of one set and another set -/
example : Writers [([97,61,49], [([97],[49])]), ([123,97,61,34,49,34,125], [([97],[49])]), ([98,61,50], [([98],[50])])] := by
  show ∀ w ∈ _, _
  decide +kernel
example : (runRes {} [[97,61,49], [123,97,61,34,49,34,125], [98,61,50]]).2 = [.ok 0, .ok 0, .ok 1] := by decide +kernel
/-- `same_partition_reachable`'s hypothesis: a history of Safe texts (one of them rejected) -/
example : SafeOps [([97,61,49], true), ([97], true), ([123,98,61,50,125], false)] := by
  show ∀ op ∈ _, ∀ m ∈ parse (Prod.fst op), safe m = true
  decide +kernel

/-! ## A failing index save: `tmap` / `smap` consistency (model `TIndexSave`, facts regenerated from the create branch) -/

/-- the create branch of `getOrCreateJournal` as it is now rolls back correctly: the `tmap` entry is deleted on a failed
save, and since `smap` is written before the save that entry is deleted too (regenerated facts) -/
theorem rollback_facts_good : GoodFacts codeFacts := codeFacts_good

/-- **`tmap` and `smap` hold the same partitions after every sequence of calls, whatever saves fail** (and the
line → partition invariant holds as well) -/
theorem tmap_smap_consistent (ops : List (Bytes × Bool × Bool)) :
    TInv (runS codeFacts {} ops).base ∧ SInv (runS codeFacts {} ops) :=
  inv_runS codeFacts codeFacts_good ops

/-- a refused write (failed save) leaves no trace in either map -/
theorem save_failed_no_trace (s : StS) (raw : Bytes) (create saveOK : Bool)
    (h : (getOrCreateS codeFacts s raw create saveOK).2 = .saveFailed) :
    (getOrCreateS codeFacts s raw create saveOK).1.base = s.base ∧ (getOrCreateS codeFacts s raw create saveOK).1.smap = s.smap :=
  Logrange.Proofs.TIndexSave.save_failed_no_trace codeFacts codeFacts_good s raw create saveOK h

/-- the `Visit` that skips descriptors missing from `smap` is the plain filter on consistent states: `from_tags`,
`from_expr`, `from_empty` apply to it -/
theorem visit_skipping_unregistered_eq (so : StrOps) (s : StS) (h : SInv s) (src : Source) :
    visitS so s src = visit so s.base src :=
  visitS_eq_visit so s h src

/-- **every acknowledged partition is selected by an empty FROM**, also when earlier saves failed and the write was a
retry -/
theorem acknowledged_selectable (so : StrOps) (s : StS) (h : SInv s) (raw : Bytes) (create saveOK : Bool) (i : Nat)
    (hr : (getOrCreateS codeFacts s raw create saveOK).2 = .res (.ok i)) :
    ∃ ds, visitS so (getOrCreateS codeFacts s raw create saveOK).1 .none = some ds ∧ ∃ d ∈ ds, d.src = i :=
  Logrange.Proofs.TIndexSave.acknowledged_selectable so codeFacts codeFacts_good s h raw create saveOK i hr

/-- with the smap registration moved behind the save and the roll-back dropped (seeded change), a failed first write
followed by the retry is acknowledged with a partition that is in no `smap` and that the empty FROM misses -/
theorem cex_half_registered :
    let F : Facts := ⟨false, false, false⟩
    let s1 := (getOrCreateS F {} [97,61,49] true false)
    let s2 := getOrCreateS F s1.1 [97,61,49] true true
    s1.2 = .saveFailed ∧ s2.2 = .res (.ok 0) ∧ s2.1.smap = [] ∧
    (visitS ⟨id, id, fun _ _ => some false⟩ s2.1 .none).map (fun l => l.map (·.src)) = some [] :=
  Logrange.Proofs.TIndexSave.cex_half_registered

/-! ## Look-up without creation, refused texts, `Set.Equals` -/

/-- `GetJournal` (look-up without creation) never changes the index -/
theorem get_no_change (s : St) (raw : Bytes) : (getOrCreate s raw false).1 = s :=
  Logrange.Proofs.TIndexGet.get_no_change s raw

/-- **`GetJournal` finds exactly the partition of the set**: `notFound` iff no partition holds that set, otherwise the id
of the one that does (Safe index, Safe non-empty set, any spelling). -/
theorem get_journal_spec (s : St) (hinv : TInv s) (hsafe : SafeSt s) (t : Bytes) (m : Map) (hp : parse t = some m)
    (hne : m ≠ []) (hs : safe m = true) :
    ((getOrCreate s t false).2 = .notFound ∧ ∀ e ∈ s.tmap, e.2.tags ≠ m) ∨
    (∃ e ∈ s.tmap, e.2.tags = m ∧ (getOrCreate s t false).2 = .ok e.2.src) :=
  Logrange.Proofs.TIndexGet.get_journal_spec s hinv hsafe t m hp hne hs

/-- a text the parser rejects (that is not a stored key) never names a partition, and changes nothing -/
theorem rejected_text_refused (s : St) (raw : Bytes) (create : Bool) (h1 : lookup s.tmap raw = none)
    (hp : parse raw = none) : getOrCreate s raw create = (s, .badTags) :=
  Logrange.Proofs.TIndexGet.rejected_text_refused s raw create h1 hp

/-- the empty tag set never names a partition -/
theorem empty_set_refused (s : St) (raw : Bytes) (create : Bool) (h1 : lookup s.tmap raw = none)
    (hp : parse raw = some []) : getOrCreate s raw create = (s, .empty) :=
  Logrange.Proofs.TIndexGet.empty_set_refused s raw create h1 hp

/-- `Set.Equals` compares lines: on Safe sets that is set equality -/
theorem equals_iff_same_set (m1 m2 : Map) (h1 : Map.WF m1) (h2 : Map.WF m2) (s1 : safe m1 = true) (s2 : safe m2 = true) :
    line m1 = line m2 ↔ m1 = m2 :=
  Logrange.Proofs.TIndexGet.equals_iff_same_set m1 m2 h1 h2 s1 s2

example : (getOrCreate (run {} [([97,61,49], true)]) [123,97,61,34,49,34,125] false).2 = .ok 0 ∧
    (getOrCreate (run {} [([97,61,49], true)]) [97,61,50] false).2 = .notFound := by decide +kernel

end Logrange.Props.C06

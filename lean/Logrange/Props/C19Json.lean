import Logrange.Proofs.RegistryJson
import Logrange.Props.C19
import Logrange.Generated.C19
/-!
# C19 — the registry survives a restart **through the concrete text of `pipes.dat`**

`Props/C19.lean` proves `registry_survives_restart` on a machine whose disk holds the saved LIST (the JSON codec as a contract).
Here the disk holds BYTES: `pipes.dat` is `encPipes` = Go 1.23's `json.Marshal([]Pipe)` (string escaping with `escapeHTML`,
invalid UTF-8 written as the escape of U+FFFD), read back by `decPipes` = `json.Unmarshal` on the fragment the encoder emits
(all string escapes, surrogate pairs, raw invalid bytes → U+FFFD) and `Service.Init`'s loop into the map (`loadMap`: a later
duplicate name overwrites). `Model/RegistryJson.lean`, `Proofs/RegistryJson.lean`; the model is compared with the real
`encoding/json` and with the real `pipes.dat` of a running server by the harness (section `codec`).

* For definitions whose three strings are **valid UTF-8** the byte machine simulates the list machine step by step
  (`jstep_sim`), so the registry survives every restart and crash (`registry_survives_restart_json`), and DESCRIBE after a
  restart reports the definition given (`describe_after_restart_json`).
* Outside UTF-8 the property fails on the real code (shared finding F-C07-902 of C07, witness there): a name changes
  (`cex_json_changes_name`), two pipes become one (`cex_json_merges_names`, `cex_restart_loses_a_pipe`).
-/
namespace Logrange.Props.C19Json
open Go Logrange.Registry Logrange.Props.C19

/-- the codec is exact on UTF-8 definitions, for every list of pipes (quotes, backslashes, control bytes, `<`, U+2028 …) -/
theorem pipes_dat_round_trip (ps : List Pipe) (h : ps.all pipeUtf8 = true) : decPipes (encPipes ps) = some ps :=
  codec_round_trip_utf8 ps h

/-- …and in general it is exact up to `encoding/json`'s replacement of invalid UTF-8 -/
theorem pipes_dat_round_trip_general (ps : List Pipe) : decPipes (encPipes ps) = some (ps.map sanitizePipe) :=
  decPipes_encPipes ps

/-- **The registry survives a clean restart (and a crash) through the JSON text of `pipes.dat`**: from an empty directory,
after EVERY sequence of create / ensure / delete / get operations, restarts and crashes whose definitions are valid UTF-8, a
further clean restart is not refused, leaves exactly the registry that was there and the file that encodes it; so does a crash.
Save points as in `registry_survives_restart` (regenerated facts `cfgNow`). -/
theorem registry_survives_restart_json (acc : Pipe → Bool) (ops : List POp) (h : ops.all opUtf8 = true) :
    (jstep cfgNow acc (jrun cfgNow acc ⟨[], none⟩ ops) .restart).1.mem = (jrun cfgNow acc ⟨[], none⟩ ops).mem ∧
    (jstep cfgNow acc (jrun cfgNow acc ⟨[], none⟩ ops) .restart).1.file = some (encPipes (jrun cfgNow acc ⟨[], none⟩ ops).mem) ∧
    (jstep cfgNow acc (jrun cfgNow acc ⟨[], none⟩ ops) .restart).2 = none ∧
    (jstep cfgNow acc (jrun cfgNow acc ⟨[], none⟩ ops) .crash).1.mem = (jrun cfgNow acc ⟨[], none⟩ ops).mem ∧
    (jstep cfgNow acc (jrun cfgNow acc ⟨[], none⟩ ops) .crash).2 = none := by
  obtain ⟨pr, pc⟩ := registry_survives_restart acc ops
  exact survives_of_sim cfgNow acc _ _ (jrun_sim cfgNow acc ops _ _ JSim.init h) pr pc

/-- non-vacuity: a definition with a quote, a backslash, `<`, a newline, `é` and U+2028 in its name is valid UTF-8; created, then a
restart: it is there, unchanged -/
example :
    opUtf8 (.op (.create ⟨[0x61, 0x22, 0x5c, 0x3c, 0x0a, 0xc3, 0xa9, 0xe2, 0x80, 0xa8], [97, 61, 49], []⟩ true)) = true ∧
    (jrun cfgNow (fun _ => true) ⟨[], none⟩
      [.op (.create ⟨[0x61, 0x22, 0x5c, 0x3c, 0x0a, 0xc3, 0xa9, 0xe2, 0x80, 0xa8], [97, 61, 49], []⟩ true), .restart]).mem =
      [⟨[0x61, 0x22, 0x5c, 0x3c, 0x0a, 0xc3, 0xa9, 0xe2, 0x80, 0xa8], [97, 61, 49], []⟩] := by decide +kernel

/-- **DESCRIBE PIPE after a restart reports the definition given** (UTF-8 definitions): create `p` under a fresh name at the end
of any history, restart through the file, `GetPipe` — the three strings are the ones given. (`cmdDescribePipe` prints them with
`%s`; that the conditions `cmdCreatePipe` stores are the printer's normal form of the statement is C12's round trip.) -/
theorem describe_after_restart_json (acc : Pipe → Bool) (ops : List POp) (h : ops.all opUtf8 = true) (p : Pipe)
    (hp : pipeUtf8 p = true) (hacc : acc p = true)
    (hfresh : ((jrun cfgNow acc ⟨[], none⟩ ops).mem).find p.name = none) :
    (jrun cfgNow acc ⟨[], none⟩ (ops ++ [.op (.create p true), .restart, .op (.get p.name)])).mem.find p.name = some p := by
  -- the byte machine after `ops ++ [create p]` equals the list machine, which survives the restart
  have hsurv := registry_survives_restart_json acc (ops ++ [POp.op (.create p true)])
    (by simp only [List.all_append, h, Bool.true_and, List.all_cons, List.all_nil, Bool.and_true, opUtf8, opU, hp])
  have hrun : ∀ (a b : List POp) (s : JState), jrun cfgNow acc s (a ++ b) = jrun cfgNow acc (jrun cfgNow acc s a) b := by
    intro a
    induction a with
    | nil => intro b s; rfl
    | cons o os ih => intro b s; simp only [List.cons_append, jrun]; exact ih b _
  have e1 : ops ++ [POp.op (.create p true), .restart, .op (.get p.name)] =
      (ops ++ [POp.op (.create p true)]) ++ [.restart, .op (.get p.name)] := by simp
  rw [e1, hrun]
  simp only [jrun]
  -- the get does not change the registry
  have hget : ∀ (s : JState), (jstep cfgNow acc s (.op (.get p.name))).1.mem = s.mem := by
    intro s
    simp only [jstep, jopStep, withAcc, step]
    split <;> rfl
  rw [hget, hsurv.1]
  -- the registry after `ops ++ [create p]`
  rw [hrun]
  simp only [jrun, jstep, jopStep, withAcc, hacc, step, create, hfresh]
  simp [Reg.find]

/-! ## for the definitions `CreatePipe` accepts

`newPPipe` refuses a definition that is not valid UTF-8 (/repo 3cf6638; regenerated fact `newPPipeRequiresUtf8`), so the
acceptance function of the model (`acc`, the conditions parse AND the strings are UTF-8) implies `pipeUtf8`: the hypothesis on the
operations disappears — every history, whatever definitions the callers offer. -/

/-- `newPPipe` refuses non-UTF-8 definitions: read from the source on every run -/
theorem newPPipe_requires_utf8 : Generated.C19.newPPipeRequiresUtf8 = true := by decide

/-- an operation whose definition is refused by `newPPipe` changes neither machine -/
theorem refused_op_changes_nothing (cfg : PCfg) (acc : Pipe → Bool) (j : JState) (s : PState) (o : POp)
    (hacc : ∀ q, acc q = true → pipeUtf8 q = true) (ho : opUtf8 o = false) :
    (jstep cfg acc j o).1 = j ∧ (pstep cfg acc s o).1 = s := by
  cases o with
  | restart => cases ho
  | crash => cases ho
  | op o =>
    have hch : ∀ r : Reg, changes r (withAcc acc o) = false := by
      intro r
      have hq : ∀ q, pipeUtf8 q = false → acc q = false := fun q hu =>
        Bool.eq_false_iff.mpr fun h => by rw [hacc q h] at hu; cases hu
      cases o with
      | delete n => cases ho
      | get n => cases ho
      | create q b => simp [withAcc, changes, hq q ho]
      | ensure q b => simp [withAcc, changes, hq q ho]
    have hsv : ∀ r : Reg, savesAfter cfg r (withAcc acc o) = false := fun r => by unfold savesAfter; rw [hch r]; rfl
    constructor
    · show (⟨(step j.mem (withAcc acc o)).1, if savesAfter cfg j.mem (withAcc acc o) then _ else j.file⟩ : JState) = j
      rw [hsv, step_unchanged _ _ (hch _)]; rfl
    · show (⟨(step s.mem (withAcc acc o)).1, if savesAfter cfg s.mem (withAcc acc o) then _ else s.disk⟩ : PState) = s
      rw [hsv, step_unchanged _ _ (hch _)]; rfl

theorem jrun_sim_accepted (acc : Pipe → Bool) (hacc : ∀ q, acc q = true → pipeUtf8 q = true) :
    ∀ (ops : List POp) (j : JState) (s : PState), JSim j s → JSim (jrun cfgNow acc j ops) (prun cfgNow acc s ops)
  | [], _, _, h => h
  | o :: os, j, s, h => by
    simp only [jrun, prun]
    cases ho : opUtf8 o with
    | true => exact jrun_sim_accepted acc hacc os _ _ (jstep_sim cfgNow acc j s o h ho).1
    | false =>
      obtain ⟨e1, e2⟩ := refused_op_changes_nothing cfgNow acc j s o hacc ho
      rw [e1, e2]; exact jrun_sim_accepted acc hacc os _ _ h

/-- **The registry survives a clean restart through the JSON text of `pipes.dat` — for the definitions `CreatePipe` accepts**:
whatever definitions the callers offer (any bytes), after every history a further restart or crash is not refused and leaves the
registry that was there and the file that encodes it. `hacc`: what `newPPipe` accepts is valid UTF-8 (fact
`newPPipe_requires_utf8`; the harness offers non-UTF-8 definitions to the real service and demands the refusal). -/
theorem registry_survives_restart_accepted (acc : Pipe → Bool) (hacc : ∀ q, acc q = true → pipeUtf8 q = true) (ops : List POp) :
    (jstep cfgNow acc (jrun cfgNow acc ⟨[], none⟩ ops) .restart).1.mem = (jrun cfgNow acc ⟨[], none⟩ ops).mem ∧
    (jstep cfgNow acc (jrun cfgNow acc ⟨[], none⟩ ops) .restart).1.file = some (encPipes (jrun cfgNow acc ⟨[], none⟩ ops).mem) ∧
    (jstep cfgNow acc (jrun cfgNow acc ⟨[], none⟩ ops) .restart).2 = none ∧
    (jstep cfgNow acc (jrun cfgNow acc ⟨[], none⟩ ops) .crash).1.mem = (jrun cfgNow acc ⟨[], none⟩ ops).mem ∧
    (jstep cfgNow acc (jrun cfgNow acc ⟨[], none⟩ ops) .crash).2 = none := by
  obtain ⟨pr, pc⟩ := registry_survives_restart acc ops
  exact survives_of_sim cfgNow acc _ _ (jrun_sim_accepted acc hacc ops _ _ JSim.init) pr pc

/-- a name that is not valid UTF-8 does not survive the restart (the file holds U+FFFD instead); two such names merge —
the byte machine against the list machine on `create ff, create fe, restart` (shared with C07: finding F-C07-902) -/
theorem cex_non_utf8_name_does_not_survive :
    decPipes (encPipes [⟨[0xff], [], []⟩]) = some [⟨[0xEF, 0xBF, 0xBD], [], []⟩] ∧
    ((jrun ⟨true, true, true⟩ (fun _ => true) ⟨[], none⟩
        [.op (.create ⟨[0xff], [97], []⟩ true), .op (.create ⟨[0xfe], [98], []⟩ true), .restart]).mem,
     (prun ⟨true, true, true⟩ (fun _ => true) ⟨[], none⟩
        [.op (.create ⟨[0xff], [97], []⟩ true), .op (.create ⟨[0xfe], [98], []⟩ true), .restart]).mem) =
    ([⟨[0xEF, 0xBF, 0xBD], [97], []⟩], [⟨[0xfe], [98], []⟩, ⟨[0xff], [97], []⟩]) :=
  ⟨cex_json_changes_name, cex_restart_loses_a_pipe⟩

end Logrange.Props.C19Json

import Logrange.Proofs.MixerReadAs
import Logrange.Proofs.MixerJournal
/-!
# C04 on journals: the multi-partition read over the journal iterator model

`JSrc` (`Proofs/MixerJournal.lean`) is `LogEventIterator` over the library's `journal.JIterator` as modelled for C03/C16
(`Model/RdJIter.lean`), proved to meet the mixer's leaf contract (`instLawfulJSrc`). So the theorems of `Props/C04.lean` apply to
cursors over real partitions, not only over the in-memory iterator. A journal is the list of its chunks (`Rd.Journal`),
`Rd.flat j` its records in stored order, `s.all` the same as events under the partition's tag line.

Hypotheses on every journal, and where they come from:
* `Rd.Sorted j` — chunk ids strictly increase (the library keeps chunks sorted by id);
* `Rd.PosIds j` — chunk ids are positive (they are time-derived);
* `Rd.bw_ChunkBound j` — a chunk holds at most 2³² records (the real counter is a `uint32`). Only the *backward* lemmas of
  C03/C16 need the last two (without the bound they are false: `Rd.bw_getBwdSpec_false`); they appear in the forward theorem as
  well because the leaf contract is one for both directions (`JSrc.wf`) — the forward proofs do not use them.
The store is quiescent while the cursor reads (the journal value does not change between the calls).
-/
namespace Logrange.Props.C04Journal
open Logrange.Mixer Logrange.MixTree LawfulSource Logrange.Props.C04

/-- what is assumed of a partition's journal -/
def GoodJournal (j : Rd.Journal) : Prop := Rd.Sorted j ∧ Rd.PosIds j ∧ Rd.bw_ChunkBound j

/-- the journal iterator under `LogEventIterator` meets the contract of a mixer source (forward: `getFwd`, `nextFwd`;
backward: `bw_getBwd_bounded`, `bw_nextBwd_bounded`; `Release`: `release_keeps`) -/
theorem journal_iterator_lawful (s : JSrc) (h : GoodJournal s.j) (hw : Rd.WF s.j s.it) :
    (Source.get s).2 = (view s).head? ∧ view (Source.get s).1 = view s ∧
    view (Source.next s) = (view s).tail ∧ view (Source.release s) = view s ∧
    wf (Source.get s).1 ∧ wf (Source.next s) ∧ wf (Source.release s) ∧ ∀ bk, wf (Source.setBackward bk s) := by
  have w : wf s := ⟨h.1, h.2.1, h.2.2, hw⟩
  obtain ⟨g1, g2, g3, _, _⟩ := LawfulSource.get_spec s w
  obtain ⟨n1, n2, _⟩ := LawfulSource.next_spec s w trivial
  obtain ⟨r1, r2, _, _⟩ := LawfulSource.release_spec s w
  exact ⟨g1, g2, n1, r1, g3, n2, r2, fun bk => (LawfulSource.setBackward_spec bk s w).1⟩

/-- **a cursor over n journals, read forward from the head**: for every `n ≥ 1`, every order of the partitions, every content
(any chunking, empty chunks, empty journals), with `Release` calls anywhere: the read is a permutation of the concatenated
journals (every stored record exactly once, under its partition's tag line), each partition's stored order is kept, and it
is ascending in time whenever every journal is. -/
theorem multi_read_journals (srcs : List JSrc) (hne : srcs ≠ [])
    (hg : ∀ s ∈ srcs, GoodJournal s.j ∧ s.it = {})
    (rel : Nat → Bool × Bool) (f : Nat) (hf : (srcs.flatMap JSrc.all).length < f) :
    ∃ t, build srcs = some t ∧
      let read := t.drainRel rel f 0
      read.Perm (srcs.flatMap JSrc.all) ∧
      (∀ s ∈ srcs, s.all.Sublist read) ∧
      ((∀ s ∈ srcs, Ascending s.all) → Ascending read) ∧
      (∀ e ∈ read, ∃ s ∈ srcs, e ∈ s.all ∧ e.tags = s.tags) := by
  refine multi_read_as JSrc.all JSrc.tags srcs hne (fun s hs => ?_) (fun s hs => ?_) (fun s _ e he => ?_) rel f hf
  · obtain ⟨⟨h1, h2, h3⟩, hi⟩ := hg s hs
    exact ⟨⟨h1, h2, h3, by rw [hi]; simp [Rd.WF]⟩, by show s.it.bkwd = false; rw [hi]⟩
  · obtain ⟨⟨_, hp, _⟩, hi⟩ := hg s hs
    obtain ⟨tags, j, it⟩ := s
    simp only at hi hp; subst hi
    exact JSrc.view_head tags j hp
  · obtain ⟨r, _, rfl⟩ := List.mem_map.mp he; rfl

/-- **the same cursor placed at the tail and walked backward**: every iterator stands behind all chunks of its journal
(`POSITION tail`: chunk id and index all ones), the cursor is switched backward and read: a permutation of the concatenated
journals, each partition in *reversed* stored order, descending in time whenever every journal is ascending.
Needs the chunk-size bound (part of `GoodJournal`), as the backward iterator lemmas do. -/
theorem multi_read_journals_backward (srcs : List JSrc) (hne : srcs ≠ [])
    (hg : ∀ s ∈ srcs, GoodJournal s.j ∧ ∃ cid idx, s.it = { cid := cid, idx := idx } ∧ ∀ c ∈ s.j, c.id < cid)
    (rel : Nat → Bool × Bool) (f : Nat) (hf : (srcs.flatMap JSrc.all).length < f) :
    ∃ t, build srcs = some t ∧
      let read := (t.setBackward true).drainRel rel f 0
      read.Perm (srcs.flatMap (fun s => s.all.reverse)) ∧
      (∀ s ∈ srcs, s.all.reverse.Sublist read) ∧
      ((∀ s ∈ srcs, Ascending s.all) → Descending read) ∧
      (∀ e ∈ read, ∃ s ∈ srcs, e ∈ s.all ∧ e.tags = s.tags) := by
  refine multi_read_backward_as JSrc.all JSrc.tags srcs hne (fun s hs => ?_) (fun s hs => ?_) (fun s _ e he => ?_) rel f hf
  · obtain ⟨⟨h1, h2, h3⟩, cid, idx, hi, _⟩ := hg s hs
    exact ⟨⟨h1, h2, h3, by rw [hi]; simp [Rd.WF]⟩, by show s.it.bkwd = false; rw [hi]⟩
  · obtain ⟨_, cid, idx, hi, hc⟩ := hg s hs
    obtain ⟨tags, j, it⟩ := s
    simp only at hi hc; subst hi
    exact JSrc.view_tail_backward tags j cid idx hc
  · obtain ⟨r, _, rfl⟩ := List.mem_map.mp he; rfl

-- non-vacuity: two partitions, one with two chunks (one of them empty), a tie across the partitions
example : ∃ srcs : List JSrc, srcs.length = 2 ∧ (∀ s ∈ srcs, GoodJournal s.j ∧ s.it = {}) ∧
    (∀ s ∈ srcs, Ascending s.all) ∧ srcs.flatMap JSrc.all ≠ [] :=
  ⟨[⟨1, [⟨10, [⟨0, 1, true⟩, ⟨1, 2, true⟩], 0, 4294967295⟩, ⟨11, [], 0, 4294967295⟩, ⟨12, [⟨2, 2, true⟩], 0, 4294967295⟩], {}⟩,
    ⟨2, [⟨7, [⟨0, 2, true⟩], 0, 4294967295⟩], {}⟩], rfl,
    by simp [GoodJournal, Rd.Sorted, Rd.PosIds, Rd.bw_ChunkBound, Rd.Chunk.cnt, Rd.maxU32],
    by simp [JSrc.all, Rd.flat, JSrc.ev],
    by simp [JSrc.all, Rd.flat]⟩

end Logrange.Props.C04Journal

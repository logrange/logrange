import Logrange.Proofs.TagsTight
import Logrange.Proofs.ParsedKeys
import Logrange.Proofs.TagsNecessity
import Logrange.Proofs.TagsNecessityN
import Logrange.Proofs.TagsNecessityS2
/-!
# C08 — how tight is the hypothesis `safe` of `tags_roundtrip_partial`?

* `safe` is NOT the weakest class for sets of two or more pairs: `RemoveCurlyBraces` looks only at the two ends of the
  line, so only the FIRST name must not start with `{` and only the LAST raw value must not end with `}`.
  `tags_roundtrip_weak` proves the round trip on the larger, position-aware class `safeW`; `safeW_strictly_larger` is a
  kernel-checked member of `safeW \ safe` that round-trips.
* On one-pair sets `safeW = safe` (`safeW_eq_safe_on_singletons`) and the class is EXACT, both directions proved:
  `singleton_roundtrip_iff_safe : parse (line [(k, v)]) = some [(k, v)] ↔ safe [(k, v)]` — the partial theorem is tight
  there. The necessity direction rests on `unquote_ne_self` / `unquote_never_restores`: `strconv.Unquote` has no fixed point
  (a length argument fails — an invalid UTF-8 byte grows to U+FFFD, three bytes — the proof counts backslashes and double
  quotes: every step of `UnquoteChar` appends at most as many as it consumes, the two delimiters are lost).
* For any number of pairs `safeW` is EXACT whenever the raw values are inert: `safeW_iff_inert` (`parse (line m) = some m ↔ safeW m`
  under `rawInert m`), `safeW_iff_noDQ` (same under "no unquoted value contains a double quote"); `names_necessary` holds
  without any hypothesis. What stays open of `safeW_necessary : Prop` is exactly a raw value that is NOT inert (an unbalanced
  double quote in a value printed without quotes): the splitter then runs out of step with the pairs, later quoted values are
  read at top level and `mp[k] = v` lets a later pair override an earlier one; no counting argument closes it (lengths fail on
  invalid UTF-8, the backslash/quote count has slack), it needs a positional invariant of the out-of-step run. It is supported by
  kernel-checked counterexamples for each dropped condition (`Props.C08.cex_…`, `cex_first_name_brace`, …) and measured on
  every run by the harness (section `tags`, cross-tab `safeW=0|1 × outcome`: quick 75 288 accepted sets, `safeW=1` ⇒ same
  43 097/43 097, `safeW=0` ⇒ same 0/32 191; a round trip outside `safeW` is kept as a sample).
-/
namespace Logrange.Props.C08Tight
open Go Logrange.Quote Logrange.KV Logrange.Tags Logrange.Proofs.KV Logrange.Proofs.Tags Logrange.Proofs.TagsTight
  Logrange.Proofs.TagsNecessity Logrange.Proofs.UnquoteFix

/-- **Round trip on the larger class `safeW`** for every accepted tag text -/
theorem tags_roundtrip_weak (t : Bytes) (m : Map) (h : parse t = some m) (hs : safeW m = true) :
    parse (line m) = some m :=
  roundtrip_safeW Logrange.Proofs.Quote.quoteContract m (parse_WF t m h) hs

/-- the same for any map handed to `tag.MapToSet` -/
theorem mapset_roundtrip_weak (m : Map) (hwf : Map.WF m) (hs : safeW m = true) : parse (line m) = some m :=
  roundtrip_safeW Logrange.Proofs.Quote.quoteContract m hwf hs

/-- on `safeW` sets the line determines the set -/
theorem line_injective_weak (m1 m2 : Map) (h1 : Map.WF m1) (h2 : Map.WF m2) (s1 : safeW m1 = true)
    (s2 : safeW m2 = true) (h : line m1 = line m2) : m1 = m2 := by
  have e1 := mapset_roundtrip_weak m1 h1 s1
  have e2 := mapset_roundtrip_weak m2 h2 s2
  rw [h, e2] at e1
  exact (Option.some.inj e1).symm

theorem safe_subset_safeW (m : Map) (hs : safe m = true) : safeW m = true := Logrange.Proofs.Tags.safe_imp_safeW m hs

theorem safeW_eq_safe_on_singletons (k v : Bytes) : safeW [(k, v)] = safe [(k, v)] := safeW_singleton k v

/-- `safeW` is strictly larger than `safe`: `a=x},{c=2` (a first value ending in `}`, a second name starting with `{`)
is in `safeW`, not in `safe`, and its line reads back as the same set -/
theorem safeW_strictly_larger : safeW [([97], [120, 125]), ([123, 99], [50])] = true ∧
    safe [([97], [120, 125]), ([123, 99], [50])] = false ∧
    parse (line [([97], [120, 125]), ([123, 99], [50])]) = some [([97], [120, 125]), ([123, 99], [50])] := safeW_strict

/-- **The name conditions are necessary**: if the line of a set reads back as the same set, every name is non-empty,
trimmed and inert (`okKey`) -/
theorem names_necessary (m : Map) (h : parse (line m) = some m) : ∀ p ∈ m, okKey p.1 = true := by
  intro p hp
  obtain ⟨h1, h2, h3⟩ := Logrange.Proofs.ParsedKeys.parsed_names_readable (line m) m h p hp
  unfold okKey
  simp only [Bool.and_eq_true, Bool.not_eq_true', h2, h3, and_true]
  cases hk : p.1 with
  | nil => exact absurd hk h1
  | cons _ _ => rfl

/-- **`strconv.Unquote` has no fixed point**: a text that starts with a double quote or a backquote is never its own
unquoted value (all byte strings, valid UTF-8 or not) -/
theorem unquote_ne_self (v : Bytes) (h : v.head? = some DQ ∨ v.head? = some BQ) : unquote v ≠ some v :=
  Logrange.Proofs.UnquoteFix.unquote_ne_self v h

/-- …not even up to surrounding blanks (what `kvstring.ToMap` does to a raw value piece: trim, then unquote) -/
theorem unquote_never_restores (v : Bytes) (h : (trimSpaces v).head? = some DQ ∨ (trimSpaces v).head? = some BQ) :
    unquote (trimSpaces v) ≠ some v :=
  unquote_trim_ne v h

/-- **`safe` is exactly tight on one-pair sets**: the line of `{k: v}` is accepted and denotes `{k: v}` IFF the set is Safe -/
theorem singleton_roundtrip_iff_safe (k v : Bytes) : parse (line [(k, v)]) = some [(k, v)] ↔ safe [(k, v)] = true :=
  ⟨fun h => by
     rw [← safeW_singleton]
     exact Logrange.Proofs.TagsNecessityS2.safeW_necessary_initInert [] k v (by simp [Map.WF]) rfl h,
   fun hs => roundtrip_core Logrange.Proofs.Quote.quoteContract [(k, v)] (by simp [Map.WF]) hs⟩

/-- non-vacuity of both directions: `a=x"y"z` is Safe; `a=x"y` is not and does not read back -/
example : safe [([97], [120, 34, 121, 34, 122])] = true ∧ safe [([97], [120, 34, 121])] = false ∧
    parse (line [([97], [120, 34, 121])]) = none := by decide +kernel

/-- **`safeW` is exactly tight for ANY number of pairs whose raw values are inert** (every value that is printed without
quotes has balanced double quotes and no dangling backslash inside them): the line reads back as the same set IFF `safeW` -/
theorem safeW_iff_inert (m : Map) (hwf : Map.WF m) (hi : Logrange.Proofs.TagsNecessityN.rawInert m = true) :
    parse (line m) = some m ↔ safeW m = true :=
  Logrange.Proofs.TagsNecessityN.safeW_iff_inert m hwf hi

theorem safeW_necessary_inert (m : Map) (hwf : Map.WF m) (hi : Logrange.Proofs.TagsNecessityN.rawInert m = true)
    (h : parse (line m) = some m) : safeW m = true :=
  Logrange.Proofs.TagsNecessityN.safeW_necessary_inert m hwf hi h

/-- the same under a purely syntactic hypothesis: no raw (unquoted) value contains a double quote -/
theorem safeW_iff_noDQ (m : Map) (hwf : Map.WF m) (h : ∀ p ∈ m, needsQuote p.2 = false → DQ ∉ p.2) :
    parse (line m) = some m ↔ safeW m = true :=
  Logrange.Proofs.TagsNecessityN.safeW_iff_noDQ m hwf h

/-- non-vacuity: `a=x},{c=2` (in `safeW \ safe`) has inert raw values -/
example : Logrange.Proofs.TagsNecessityN.rawInert [([97], [120, 125]), ([123, 99], [50])] = true := by decide +kernel

/-- necessity also when only the LAST value may be a non-inert raw value (all earlier raw values inert): a non-inert raw value
at the end leaves the splitter inside a string — the split fails (`last_raw_not_inert`) -/
theorem safeW_necessary_initInert (A : Map) (k v : Bytes) (hwf : Map.WF (A ++ [(k, v)]))
    (hA : Logrange.Proofs.TagsNecessityN.rawInert A = true)
    (h : parse (line (A ++ [(k, v)])) = some (A ++ [(k, v)])) : safeW (A ++ [(k, v)]) = true :=
  Logrange.Proofs.TagsNecessityS2.safeW_necessary_initInert A k v hwf hA h

/-- a `,` that reaches `ToMap`'s value decoding survives it (raw, double-quoted or back-quoted: `,` is no part of any
escape), so the value piece that runs on past a swallowed separator never decodes to the raw value it started with -/
theorem diverged_piece_ne (v z x : Bytes) (hv : CM ∉ v) (hd : decodeValue (trimSpaces (v ++ CM :: z)) = some x) : x ≠ v :=
  Logrange.Proofs.TagsNecessityS2.diverged_piece_ne v z x hv hd

/-- the full characterisation for any number of pairs — what is left open is exactly the case of a raw value that is NOT
inert (an unbalanced double quote in a value printed without quotes): see the header -/
def safeW_necessary : Prop := ∀ m, Map.WF m → parse (line m) = some m → safeW m = true

/-- the two position-dependent conditions are necessary where they apply: a FIRST name starting with `{` … -/
theorem cex_first_name_brace : okPair ([123, 99], [50]) = true ∧ parse (line [([123, 99], [50])]) = none := by decide +kernel
/-- … and a LAST raw value ending in `}` break the round trip -/
theorem cex_last_value_brace : okPair ([97], [120, 125]) = true ∧ parse (line [([97], [120, 125])]) = none := by decide +kernel
/-- both together are read back as ANOTHER set: `{c=x}` is {c: x} -/
theorem cex_both_braces : parse (line [([123, 99], [120, 125])]) = some [([99], [120])] := by decide +kernel

end Logrange.Props.C08Tight

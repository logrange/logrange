import Logrange.Proofs.PipeWin
import Logrange.Proofs.PipeWrite
import Logrange.Proofs.PipeIter
/-!
# C02 — what the iterator models of C03/C16 (`Rd*`) may assume about the windows, proved from the pipeline model; and
`Service.Write` as one event of the history model

* `win_monotone_of_win_sound`, `rd_window_sound_pipeline`, `win_monotone_pipeline`: `Rd.WinSound` and the body of `Rd.WinMonotone`
  (Props/C03Ranged) for the `Rd` journal read off a pipeline state (`PipeWin.rdJournal`), for every monotone history and every
  continuation of it. `WinMonotone` turns out to need nothing beyond `WinSound` of both journals + `Grows` + distinct chunk ids.
* `service_write_is_call`: the former run-time link "the OnWrite calls of `WriteLoop.serviceWrite` are the pieces of a
  `PipeHist` call" as a theorem (the driver still checks it on every write: `PIPEHIST-DIFFERS`).
-/
namespace Logrange.Props.C02Win
open Logrange Logrange.Rd Logrange.PipeHist Logrange.PipeWin

/-- **win_monotone_of_win_sound** — the body of `Rd.WinMonotone j j' lo hi` follows from: `j'` is `j` after appends (`Grows`), the
chunk ids of `j'` are distinct (`Sorted`), and both journals have sound windows. (An old in-range record keeps its index and
is in range, so the new window contains it; a record of the old part below the OLD lower end is out of range because the old
window was sound.) No further property of the index is needed. -/
theorem win_monotone_of_win_sound (j j' : Journal) (lo hi : Option Int) (hg : Grows j j') (hs : Sorted j')
    (h1 : WinSound j lo hi) (h2 : WinSound j' lo hi) :
    Grows j j' ∧ WinSound j lo hi ∧ WinSound j' lo hi ∧
    ∀ c ∈ j, ∀ c' ∈ j', c.id = c'.id →
      (∀ (k : Nat) (r : Rec), c.recs[k]? = some r → Rd.inRange lo hi r = true → c'.minPos ≤ k ∧ k ≤ c'.maxPos) ∧
      (∀ (k : Nat) (r : Rec), c'.recs[k]? = some r → c'.minPos ≤ k → k < c.minPos → k < c.cnt → Rd.inRange lo hi r = false) :=
  winMonotone_of_winSound j j' lo hi hg hs h1 h2

/-- **rd_window_sound_pipeline** — `Rd.WinSound` (the input contract of the ranged iterator theorems of C03/C16) holds for the
journal read off the pipeline state after every monotone history of Write calls and rebuilds (hypotheses of
`range_eq_filter_pipeline`), for every RANGE; `mk` labels the records, only `(mk k i t).ts = t` matters. -/
theorem rd_window_sound_pipeline (mk : Nat → Nat → Int → Rec) (hmk : ∀ k i t, (mk k i t).ts = t) (evs : List Ev)
    (hs : (allTs evs).Pairwise (· ≤ ·)) (hb : ∀ t ∈ allTs evs, Points.minI64 ≤ t ∧ t ≤ RebuildHist.maxI64) (hok : HistOK {} evs)
    (hsmall : ∀ l ∈ (run evs).tss, l.length ≤ 4294967295) (lo hi : Option Int) :
    WinSound (rdJournal mk (run evs) (RangedIter.rangeOf lo hi).1 (RangedIter.rangeOf lo hi).2) lo hi :=
  rdJournal_winSound mk hmk evs hs hb hok hsmall lo hi

/-- **win_monotone_pipeline** — `WinMonotone` between the journal after a monotone history `evs` and the journal after ANY
continuation `evs'` (more Write calls into the last chunk and new chunks, rebuilds of any chunk) that keeps the history
monotone: TRUE. -/
theorem win_monotone_pipeline (mk : Nat → Nat → Int → Rec) (hmk : ∀ k i t, (mk k i t).ts = t) (evs evs' : List Ev)
    (hs : (allTs (evs ++ evs')).Pairwise (· ≤ ·)) (hb : ∀ t ∈ allTs (evs ++ evs'), Points.minI64 ≤ t ∧ t ≤ RebuildHist.maxI64)
    (hok1 : HistOK {} evs) (hok : HistOK {} (evs ++ evs'))
    (hs1 : (allTs evs).Pairwise (· ≤ ·)) (hb1 : ∀ t ∈ allTs evs, Points.minI64 ≤ t ∧ t ≤ RebuildHist.maxI64)
    (hsmall : ∀ l ∈ (run (evs ++ evs')).tss, l.length ≤ 4294967295)
    (hsmall1 : ∀ l ∈ (run evs).tss, l.length ≤ 4294967295) (lo hi : Option Int) :
    Grows (rdJournal mk (run evs) (RangedIter.rangeOf lo hi).1 (RangedIter.rangeOf lo hi).2)
        (rdJournal mk (run (evs ++ evs')) (RangedIter.rangeOf lo hi).1 (RangedIter.rangeOf lo hi).2) ∧
      WinSound (rdJournal mk (run evs) (RangedIter.rangeOf lo hi).1 (RangedIter.rangeOf lo hi).2) lo hi ∧
      WinSound (rdJournal mk (run (evs ++ evs')) (RangedIter.rangeOf lo hi).1 (RangedIter.rangeOf lo hi).2) lo hi ∧
      ∀ c ∈ rdJournal mk (run evs) (RangedIter.rangeOf lo hi).1 (RangedIter.rangeOf lo hi).2,
        ∀ c' ∈ rdJournal mk (run (evs ++ evs')) (RangedIter.rangeOf lo hi).1 (RangedIter.rangeOf lo hi).2, c.id = c'.id →
        (∀ (k : Nat) (r : Rec), c.recs[k]? = some r → Rd.inRange lo hi r = true → c'.minPos ≤ k ∧ k ≤ c'.maxPos) ∧
        (∀ (k : Nat) (r : Rec), c'.recs[k]? = some r → c'.minPos ≤ k → k < c.minPos → k < c.cnt → Rd.inRange lo hi r = false) :=
  winMonotone_pipeline mk hmk evs evs' hs hb hok1 hok hs1 hb1 hsmall hsmall1 lo hi

/-- three records in chunk 1 (window of `RANGE [2:3]` = the whole chunk: too few records for an index point inside) -/
example : (rdJournal (fun k i t => ⟨100 * k + i, t, true⟩) (run [.call [⟨true, [1, 2, 3]⟩]]) 2 3).map
    (fun c => (c.id, c.recs.map (·.ts), c.minPos, c.maxPos)) = [(10, [1, 2, 3], 0, 4294967295)] := by decide +kernel

/-- **service_write_is_call** — `Service.Write` (`WriteLoop.serviceWrite` followed by `CIndex.onWrite` for every OnWrite call:
`RangedIter.writeWith`, the op the driver runs for `rw.write` and the harness compares with the real write) is ONE `call` event
of the history model: there are pieces with the shape `HistOK` asks for (`CallOKt`) that carry exactly the written
timestamps in order, and the chunk index and the journal after the call are those of `PipeHist.step`. `JInv j tss`: the
write loop's journal stands for the records `tss` (dense ids, counts, `0 < maxSize`). An EMPTY write on a full / absent last
chunk creates an empty chunk (`writeWith_is_call_needs_hne`), hence the last hypothesis. -/
theorem service_write_is_call (j : WriteLoop.J) (cidx : CIndex.St) (tss : List (List Int)) (recs : List WriteLoop.Rec)
    (hj : PipeWrite.JInv j tss) (hne : recs ≠ [] ∨ ∃ c, j.chunks.getLast? = some c ∧ c.size < j.maxSize) :
    ∃ pieces : List PartHist.Piece,
      CallOKt tss pieces ∧ (pieces.map (·.l)).flatten = recs.map (·.ts) ∧
      (RangedIter.writeWith {} j cidx recs).2.1 = (step ⟨cidx, tss⟩ (.call pieces)).cidx ∧
      PipeWrite.JInv (RangedIter.writeWith {} j cidx recs).1 (step ⟨cidx, tss⟩ (.call pieces)).tss :=
  PipeWrite.writeWith_is_call j cidx tss recs hj hne


/-- **scan_eq_abs_scan** — the former run-time link "stateful iterator = abstract scan" as a theorem: on ANY pipeline state (chunk
index, records, range arbitrary) a fresh forward cursor of the executable iterator model — `ensureChkIt`/`getPosForward` with the
statuses `rebuildChunkStatuses` computes once and caches, chunk-iterator clamping and its `cached` flag, `Get`/`Next`/`advanceChunk`
(incl. the 008ef8e end position), `fiterator` skipping records out of range, every fuel bound — delivers exactly `PipeRead.absScan`
(journal chunk ids are the dense ids × 10). Paging (`page ≠ 0`: cursor re-creation) stays a driver test (field `abs`). -/
theorem scan_eq_abs_scan (s : RangedIter.St) (hf : PipeScan.Fresh s) (fuel : Nat) (hfuel : PipeScan.total s + 2 ≤ fuel) :
    (RangedIter.scan s 0 fuel).2.toList = (PipeRead.absScan s).map (fun kp => (10 * (kp.1 + 1), kp.2)) :=
  PipeScan.scan_eq_absScan s hf fuel hfuel

/-- **range_eq_filter_iterator** — C02 end to end through the stateful iterator model: for every monotone history of Write calls
and rebuilds (hypotheses of `range_eq_filter_pipeline`) and every range, what `RangedIter.scan` — the function the driver
answers `r.scan` with and the harness compares with the real `JIterator`/`fiterator` — delivers from a fresh cursor is the
list of (chunk id, index) of exactly the records with `rmin ≤ ts ≤ rmax`, in stored order. -/
theorem range_eq_filter_iterator (evs : List Ev) (hs : (allTs evs).Pairwise (· ≤ ·))
    (hb : ∀ t ∈ allTs evs, Points.minI64 ≤ t ∧ t ≤ RebuildHist.maxI64) (hok : HistOK {} evs)
    (hsmall : ∀ l ∈ (run evs).tss, l.length ≤ 4294967295) (rmin rmax : Int) (fuel : Nat)
    (hfuel : ((run evs).tss.map (·.length)).sum + 2 ≤ fuel) :
    (RangedIter.scan (toSt (run evs) rmin rmax) 0 fuel).2.toList =
      ((fullRead (run evs).tss 0).filter (fun kq => decide (rmin ≤ tsAt (run evs).tss kq ∧ tsAt (run evs).tss kq ≤ rmax))).map
        (fun kp => (10 * (kp.1 + 1), kp.2)) :=
  run_scan_eq_filter evs hs hb hok hsmall rmin rmax fuel hfuel

example : (RangedIter.scan (toSt (run [.call [⟨true, [1, 2, 3]⟩, ⟨true, [4, 5]⟩], .rebuild 0 2, .call [⟨false, [6]⟩]]) 3 5) 0 8).2.toList =
    [(10, 2), (20, 0), (20, 1)] := by decide +kernel

end Logrange.Props.C02Win

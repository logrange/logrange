import Logrange.Props.C20Parts.LineSep
import Logrange.Props.C20Formats
/-!
# C20 — the text of an instant **at the start of a log line read by the collector**

`Format.Parse` searches the whole line, and `parser.Parse` asks the formats in list order, not the line in position order: what
follows the timestamp can change the answer. This file says exactly when it cannot (`C20_collector_line`) and exhibits the
other cases on the model (the harness reproduces each on the real parser, sections `sweep-col` / `linesep`).

* **Proved** — separator byte `c` that no atom of any format's expression can consume (`isLineSep`: control bytes incl. TAB
  and newline, `! " # $ % & ' ( ) * ; < = > ? @ [ \ ] ^ _ \` { | } ~`, bytes ≥ 0x7f; the unescaped `.` of `.SSS` and
  `MM.DD.YYYY` consumes any byte but must be followed by a digit), a rest of the line that does not begin with a digit, and in
  which no format up to the text's own finds a date: the answer is the answer for the text alone, for every format of the
  collector list and every valid instant.
* **Counterexamples (kernel-evaluated)** for the separators the expressions can consume (blank `,` `:` `/` `-` `+`, letters,
  digits): a format that is a prefix of another plus trailing text (`YYYY-MM-DD` + ` 12:00:00 x`), a second date later in
  the line, a fraction followed by a digit; and the harmless variant: ` INFO` after the seconds is read as a zone abbreviation of
  offset 0 (another claimant, the same instant).
-/
namespace Logrange.Props.C20
open Logrange.Date Logrange.Generated

theorem line_separator_inert (c : UInt8) (h : isLineSep c = true) (cf : CFormat) (hcf : cf ∈ allFmts) : fmtInert c cf = true := by
  have hb : (!isLineSep c || allFmts.all (fmtInert c)) = true := by
    have hc : c = UInt8.ofNat c.toNat := by simp
    rw [hc]
    exact (List.all_eq_true.mp line_separators_table) c.toNat (List.mem_range.mpr c.toNat_lt)
  rw [h] at hb
  have h2 : allFmts.all (fmtInert c) = true := by simpa using hb
  exact List.all_eq_true.mp h2 cf hcf

/-- **C20 at the start of a log line (collector list), every format, every valid instant**: the text of the instant in format
`k`, followed by a separator of `isLineSep` and a rest of the line `w` that does not begin with a digit and in which no format
up to `k` finds a date (`noDateInRest`), is answered by the default parser with exactly the fields format `k` carries — the
answer for the text alone (`C20_collector`). -/
theorem C20_collector_line (k : Nat) (hk : k < colFmts.length) (i : XInst) (hi : ValidX i) (now : Now)
    (c : UInt8) (w : Bytes) (hc : isLineSep c = true) (hw : noDigitHead w = true) (hrest : noDateInRest colFmts k c w) :
    ∃ ck txt cv j', colFmts[k]? = some ck ∧ renderLayout ck.layout i = some txt ∧ projectX ck.layout i = .ok cv ∧ j' ≤ k ∧
      parseFirst gadj colFmts now (txt ++ c :: w) = .ok j' (adjAll gadj ck now cv) := by
  have hck : colFmts[k]? = some colFmts[k] := List.getElem?_eq_getElem hk
  have hmem : colFmts[k] ∈ allFmts := List.mem_append_left _ (List.getElem_mem hk)
  have hown := List.all_eq_true.mp all_formats_own_ok _ hmem
  have hsep : sepInert colFmts k c = true := by
    simp only [sepInert, List.all_eq_true]
    intro cf hcf
    have := line_separator_inert c hc cf (List.mem_append_left _ (List.mem_of_mem_take hcf))
    exact this
  obtain ⟨txt, cv, j', ht, hcv, hj, hpf⟩ :=
    first_match_line (adj := gadj) (now := now) hck (col_idx_ok k hk) hown i hi c w hsep hw hrest
  exact ⟨_, txt, cv, j', hck, ht, hcv, hj, hpf⟩

/-- non-vacuity (evaluation): `2019-03-11 12:00:00` + TAB + `INFO [main] request served in 35 ms` — TAB is a separator, the rest
does not begin with a digit, and the formats up to 49 find nothing in it; the line is dated as the text alone -/
example :
    isLineSep 9 = true ∧
    noDigitHead [73, 78, 70, 79, 32, 91, 109, 97, 105, 110, 93, 32, 114, 101, 113, 117, 101, 115, 116, 32, 115, 101, 114, 118, 101, 100, 32, 105, 110, 32, 51, 53, 32, 109, 115] = true ∧
    ((colFmts.take 50).all (fun cf => match cf.rx with
      | some r => findFrom cf.guard r false [73, 78, 70, 79, 32, 91, 109, 97, 105, 110, 93, 32, 114, 101, 113, 117, 101, 115, 116, 32, 115, 101, 114, 118, 101, 100, 32, 105, 110, 32, 51, 53, 32, 109, 115] == none
      | none => false)) = true ∧
    parseFirst gadj colFmts lnow ([50, 48, 49, 57, 45, 48, 51, 45, 49, 49, 32, 49, 50, 58, 48, 48, 58, 48, 48] ++ [9, 73, 78, 70, 79, 32, 91, 109, 97, 105, 110, 93, 32, 114, 101, 113, 117, 101, 115, 116, 32, 115, 101, 114, 118, 101, 100, 32, 105, 110, 32, 51, 53, 32, 109, 115])
      = .ok 49 ⟨2019, 3, 11, 12, 0, 0, 0, .dflt⟩ :=
  ⟨by decide, by decide, tables_line.1, tables_line.2.1⟩

/-! ## what the theorem excludes, on the model -/

/-- the blank, `,`, `:`, `/`, `-`, `+` are consumed by some format's expression: not separators in the sense above -/
theorem blank_is_not_inert : [32, 43, 44, 45, 47, 58].all (fun c => !isLineSep c) = true := by decide

/-- **a format that is a prefix of another**: `2019-03-11` (format `YYYY-MM-DD`, 52; alone: midnight) followed by ` 12:00:00 x`
is the text of `YYYY-MM-DD HH:mm:ss` (49): noon. Inherent: the line IS a text of format 49 at the start of a line. -/
theorem cex_line_prefix_format :
    parseFirst gadj colFmts lnow [50, 48, 49, 57, 45, 48, 51, 45, 49, 49] = .ok 52 ⟨2019, 3, 11, 0, 0, 0, 0, .dflt⟩ ∧
    parseFirst gadj colFmts lnow ([50, 48, 49, 57, 45, 48, 51, 45, 49, 49] ++ [32, 49, 50, 58, 48, 48, 58, 48, 48, 32, 120])
      = .ok 49 ⟨2019, 3, 11, 12, 0, 0, 0, .dflt⟩ :=
  ⟨tables_line.2.2.1, tables_line.2.2.2.1⟩

/-- **a second date later in the line wins when its format comes earlier in the list** (finding F-C20-901): `2019-03-11`, TAB,
`see 2018-01-01 10:00:00 for details` is dated 2018-01-01 10:00:00 by format 49 — `parser.Parse` asks the formats in list
order and each searches the whole line. (`noDateInRest` fails for this rest.) -/
theorem cex_line_later_date_wins :
    parseFirst gadj colFmts lnow ([50, 48, 49, 57, 45, 48, 51, 45, 49, 49] ++ [9, 115, 101, 101, 32, 50, 48, 49, 56, 45, 48, 49, 45, 48, 49, 32, 49, 48, 58, 48, 48, 58, 48, 48, 32, 102, 111, 114, 32, 100, 101, 116, 97, 105, 108, 115])
      = .ok 49 ⟨2018, 1, 1, 10, 0, 0, 0, .dflt⟩ :=
  tables_line.2.2.2.2.1

/-- **a date followed by digits**: `2019-03-11 12:00:00.123` followed by `4 ms` is read with the fraction `.1234` — the text
of another instant of the same format (inherent: `.SSS` is `.\d{3,}`) -/
theorem cex_line_fraction_then_digit :
    parseFirst gadj colFmts lnow ([50, 48, 49, 57, 45, 48, 51, 45, 49, 49, 32, 49, 50, 58, 48, 48, 58, 48, 48, 46, 49, 50, 51] ++ [52, 32, 109, 115])
      = .ok 42 ⟨2019, 3, 11, 12, 0, 0, 123400000, .dflt⟩ :=
  tables_line.2.2.2.2.2.1

/-- **blank + upper-case word**: `2019-03-11 12:00:00 INFO x` is claimed by `YYYY-MM-DD HH:mm:ss ZZZ` (47), which reads `INF`
as a zone abbreviation; Go fabricates offset 0 for it, so the instant is the one of the text alone (12:00 UTC) — another
claimant, the same instant -/
theorem line_blank_word_same_instant :
    parseFirst gadj colFmts lnow ([50, 48, 49, 57, 45, 48, 51, 45, 49, 49, 32, 49, 50, 58, 48, 48, 58, 48, 48] ++ [32, 73, 78, 70, 79, 32, 120])
      = .ok 47 ⟨2019, 3, 11, 12, 0, 0, 0, .named [73, 78, 70] 0⟩ :=
  tables_line.2.2.2.2.2.2

end Logrange.Props.C20

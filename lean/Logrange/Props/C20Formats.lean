import Logrange.Props.C20Parts.Tables
import Logrange.Props.C20Parts.Idx1
import Logrange.Props.C20Parts.Idx2
/-!
# C20 — every format of both regenerated lists: round trip, own expression, first match — for every valid instant

Part of the property theorems of C20 (same namespace as `Props/C20.lean`, which imports this file). Everything here is
about the **regenerated** lists and terms. The kernel evaluations over the tables live in `Props/C20Parts/*` (one module
per piece, built in parallel); the theorems below lift them to all instants.
-/
namespace Logrange.Props.C20
open Logrange.Date Logrange.Generated

/-! ## the repaired tree is pinned -/

/-- `NewParser` wraps every format's expression in the left guard `(?:^|[^0-9])`: a date never starts inside a digit run
(/repo 6279a73). A revert flips the regenerated fact and breaks this obligation (and the first-match certificates). -/
theorem regexp_left_guard_present : C20.regexpLeftGuard = true := by decide

/-- the AM/PM formats come before the 24-hour formats whose texts they extend, in both lists (/repo 6279a73):
`D/M/YYYY hh:mm:ss P` before `DD/MM/YYYY HH:mm:ss`; `D/M/YYYY hh:mm P` and `D/M/YYYY h:mm P` before `DD/MM/YYYY HH:mm` -/
theorem ampm_formats_come_first :
    [C20.collectorFormats, C20.lqlFormats].all (fun l =>
      l.idxOf [68, 47, 77, 47, 89, 89, 89, 89, 32, 104, 104, 58, 109, 109, 58, 115, 115, 32, 80] <
        l.idxOf [68, 68, 47, 77, 77, 47, 89, 89, 89, 89, 32, 72, 72, 58, 109, 109, 58, 115, 115] &&
      l.idxOf [68, 47, 77, 47, 89, 89, 89, 89, 32, 104, 104, 58, 109, 109, 32, 80] <
        l.idxOf [68, 68, 47, 77, 77, 47, 89, 89, 89, 89, 32, 72, 72, 58, 109, 109] &&
      l.idxOf [68, 47, 77, 47, 89, 89, 89, 89, 32, 104, 58, 109, 109, 32, 80] <
        l.idxOf [68, 68, 47, 77, 77, 47, 89, 89, 89, 89, 32, 72, 72, 58, 109, 109] &&
      l.idxOf [68, 68, 47, 77, 77, 47, 89, 89, 89, 89, 32, 72, 72, 58, 109, 109] < l.length) = true := by decide +kernel

/-! ## (1) + (2): every format parses its own text back, and its own expression returns the whole text -/

theorem all_formats_own_ok : allFmts.all ownOK = true := by
  simp only [allFmts, List.all_append, Bool.and_eq_true]
  refine ⟨col_formats_own_ok, ?_⟩
  rw [List.all_eq_true]
  intro cf hcf
  have := List.all_eq_true.mp lql_formats_own_ok cf hcf
  simp only [Bool.and_eq_true] at this
  exact this.1

/-- **`format_parse_fields` for every format of both lists and every layout element they use** (`Jan January Mon Monday 1 2 _2
3 03 04 05 06 15 2006 PM .999999999 -0700 -07:00 MST`): the text of any valid instant (years 1000..2999, fraction of 3..9
digits, zone offset of whole minutes, three-letter zone abbreviation) is parsed back by the format's layout to Go's
epilogue of exactly the fields the layout carries, and that parse succeeds. -/
theorem format_parse_fields_all (cf : CFormat) (hcf : cf ∈ allFmts) (i : XInst) (hi : ValidX i) :
    ∃ txt c, renderLayout cf.layout i = some txt ∧ parseLayout cf.layout txt = .ok c ∧ projectX cf.layout i = .ok c := by
  obtain ⟨txt, c, _, ht, hc, hp, _⟩ := formatParse_own (List.all_eq_true.mp all_formats_own_ok cf hcf) i hi
  exact ⟨txt, c, ht, hp, hc⟩

/-- **`own_regexp_matches` for every format of both lists**: the expression `NewParser` derives for the format, searched
unanchored in the format's own text, returns the whole text — for every valid instant. -/
theorem own_regexp_matches (cf : CFormat) (hcf : cf ∈ allFmts) (i : XInst) (hi : ValidX i) :
    ∃ txt r, renderLayout cf.layout i = some txt ∧ cf.rx = some r ∧ find r txt = some txt := by
  obtain ⟨txt, _, ht, _, _⟩ := format_parse_fields_all cf hcf i hi
  obtain ⟨r, hr, hf, _⟩ := own_regexp_whole (List.all_eq_true.mp all_formats_own_ok cf hcf) hi ht
  exact ⟨txt, r, ht, hr, hf⟩

/-- so a format alone (`date.NewParser(fmt)`) accepts its own text and gives the fields it carries -/
theorem format_alone_correct (cf : CFormat) (hcf : cf ∈ allFmts) (i : XInst) (hi : ValidX i) (adj : Adjust) (now : Now) :
    ∃ txt c, renderLayout cf.layout i = some txt ∧ projectX cf.layout i = .ok c ∧
      formatParse adj cf now txt = adjustRes adj cf now c := by
  obtain ⟨txt, c, _, ht, hc, _, _, _, hfp⟩ := formatParse_own (List.all_eq_true.mp all_formats_own_ok cf hcf) i hi
  exact ⟨txt, c, ht, hc, hfp adj now⟩

/-! ## (3) + (4): first match — the property for EVERY format of both lists -/

theorem idx_ok {fmts : List CFormat} (hrx : fmts.all (fun cf => cf.rx == rxOfLayout cf.layout) = true)
    (h1 : idxRangeOK (fmts.map viaLayout) 0 50 = true) (h2 : idxRangeOK (fmts.map viaLayout) 50 100000 = true)
    (hlen : fmts.length < 100000) (k : Nat) (hk : k < fmts.length) : idxOK fmts k = true := by
  rw [map_viaLayout hrx] at h1 h2
  by_cases h : k < 50
  · exact idxOK_of_range h1 hk (Nat.zero_le _) h
  · exact idxOK_of_range h2 hk (by omega) (by omega)

theorem col_idx_ok (k : Nat) (hk : k < colFmts.length) : idxOK colFmts k = true :=
  idx_ok tables_col.2.2.2.1 idx_ok_1.1 idx_ok_2.1 (by simp [colFmts]; decide) k hk

theorem lql_idx_ok (k : Nat) (hk : k < lqlFmts.length) : idxOK lqlFmts k = true :=
  idx_ok tables_col.2.2.2.2.1 idx_ok_1.2 idx_ok_2.2 (by simp [lqlFmts]; decide) k hk

/-- **C20 for the collector list — every format, every valid instant, text alone.** The default parser, given the text of
the instant in format `k`, answers with exactly the fields format `k` carries (UTC without a zone; the current or previous
year for a year-less format; today's date for a time-only one). The claimant `j'` is format `k` itself or an earlier
digit-width twin that reads the same fields (`DD/MM/YYYY…` claims the two-digit texts of `D/M/YYYY…`). No sweep, no
sample: all instants of `ValidX`. A table edit that re-introduces a shadow breaks `idx_ok_*`. -/
theorem C20_collector (k : Nat) (hk : k < colFmts.length) (i : XInst) (hi : ValidX i) (now : Now) :
    ∃ ck txt c j', colFmts[k]? = some ck ∧ renderLayout ck.layout i = some txt ∧ projectX ck.layout i = .ok c ∧ j' ≤ k ∧
      parseFirst gadj colFmts now txt = .ok j' (adjAll gadj ck now c) := by
  have hck : colFmts[k]? = some colFmts[k] := List.getElem?_eq_getElem hk
  have hmem : colFmts[k] ∈ allFmts := List.mem_append_left _ (List.getElem_mem hk)
  have hown := List.all_eq_true.mp all_formats_own_ok _ hmem
  obtain ⟨txt, c, j', ht, hc, hj, hpf⟩ := first_match_agree (adj := gadj) (now := now) hck (col_idx_ok k hk) hown i hi
  exact ⟨_, txt, c, j', hck, ht, hc, hj, hpf⟩

/-- **C20 for LQL literals — every format, every valid instant.** `parseLqlDateTime`, given the text of the instant in
format `k` of the LQL list as an absolute literal, answers with the fields format `k` carries. -/
theorem C20_lql (k : Nat) (hk : k < lqlFmts.length) (i : XInst) (hi : ValidX i) (now : Now) :
    ∃ ck txt c j', lqlFmts[k]? = some ck ∧ renderLayout ck.layout i = some txt ∧ projectX ck.layout i = .ok c ∧ j' ≤ k ∧
      parseLql gcfg lqlFmts now txt = .abs j' (adjAll gadj ck now c) := by
  have hck : lqlFmts[k]? = some lqlFmts[k] := List.getElem?_eq_getElem hk
  have hside := List.all_eq_true.mp lql_formats_own_ok _ (List.getElem_mem hk)
  simp only [Bool.and_eq_true] at hside
  obtain ⟨txt, c, j', ht, hc, hj, hpf⟩ := first_match_agree (adj := gadj) (now := now) hck (lql_idx_ok k hk) hside.1 i hi
  obtain ⟨sh, hsh, hs⟩ := renderLayout_shape lqlFmts[k].layout i hi txt ht
  have hok := List.all_eq_true.mp hside.2 sh hsh
  have hfl : gcfg.fmtLower = false := by decide
  exact ⟨_, txt, c, j', hck, ht, hc, hj, parseLql_of_list gcfg hfl lqlFmts now hs hok hpf⟩

/-- what the fields are, on an example (evaluation): `MMM D, YYYY h:mm:ss P` (format 0), 2019-03-11 13:04:05 — the text is
`Mar 11, 2019 1:04:05 PM` and the projected fields are 13:04:05 on 2019-03-11 in the default zone -/
example : let i : XInst := { year := 2019, month := 3, day := 11, hour := 13, min := 4, sec := 5, wd := 1 }
    (colFmts[0]?.map (fun cf => (renderLayout cf.layout i, projectX cf.layout i))) =
      some (some [77, 97, 114, 32, 49, 49, 44, 32, 50, 48, 49, 57, 32, 49, 58, 48, 52, 58, 48, 53, 32, 80, 77],
            .ok ⟨2019, 3, 11, 13, 4, 5, 0, .dflt⟩) := by decide +kernel

def exInst : XInst :=
  { year := 2019, month := 3, day := 11, hour := 13, min := 4, sec := 5, nsec := 123000, wd := 1, fracDigits := 6, offMin := 330 }

/-- …and `YYYY-MM-DDTHH:mm:ss.SSSZZZZ` (format 35) with a 6-digit fraction and offset +05:30:
`2019-03-11T13:04:05.000123+0530` → nanoseconds 123000, zone offset 19800 s -/
example :
    (colFmts[35]?.map (fun cf => (renderLayout cf.layout exInst, projectX cf.layout exInst))) =
      some (some [50, 48, 49, 57, 45, 48, 51, 45, 49, 49, 84, 49, 51, 58, 48, 52, 58, 48, 53, 46, 48, 48, 48, 49, 50, 51, 43, 48, 53, 51, 48],
            .ok ⟨2019, 3, 11, 13, 4, 5, 123000, .offset 19800⟩) := by decide +kernel

end Logrange.Props.C20

import Logrange.Proofs.ForwarderSplit
import Logrange.Generated.C18
import Logrange.Props.C18
/-!
# C18 (statement level) — Forwarder: a crash or stop at any statement; the state file's two-step replacement

Property theorems only. Model: `Model/ForwarderSplit.lean` — the worker loop of `pkg/forwarder/worker.go` with every
statement another goroutine or a crash can observe as its own step (`Query`, `OnEvent`, request replacement,
`setPosition`), the persist goroutine's save as two steps (write `forwarder.json.tmp`, rename), stop request, loop
exit and a restart that may be taken in EVERY state. Lemmas (invariant, simulation of the atomic model
`Model/Forwarder.lean`): `Proofs/ForwarderSplit.lean`. The order of `OnEvent` / `setPosition` is regenerated from
`/repo` (`Generated.C18.setPositionAfterAccept`).
-/
namespace Logrange.Props.C18Split
open Logrange.ForwarderSplit

/-- the order of `OnEvent` and `setPosition` in the loop as the extractor reads it from `/repo` now -/
def codeOrder : Bool := Generated.C18.setPositionAfterAccept

theorem codeOrder_eq : codeOrder = true := by decide

/-- **`split_delivered_prefix`** For every interleaving of query failures, answered queries, sink accept/reject
decisions, request replacement, `setPosition`, the two steps of a save, stop requests, loop exits, growth of the
partition and restarts (crashes) at any statement: what the sink accepted in the current session is exactly the run of
consecutive events `sessionStart, …, pos + inflight - 1` in stored order (`inflight` = the batch the sink has accepted
and `qr.Pos` does not cover yet) — no gap, no duplicate — and it lies inside the partition. -/
theorem split_delivered_prefix (n start : Nat) (hs : start ≤ n) (tr : List L) :
    let s := run codeOrder (init n start) tr
    s.sess = List.range' s.sessionStart (s.pos + inflight s.pc - s.sessionStart) ∧ s.sessionStart ≤ s.pos ∧
    s.pos + inflight s.pc ≤ s.n := by
  rw [codeOrder_eq]
  intro s
  have h : SInv s := sinv_reach n start hs tr
  exact ⟨h.sessEq, h.startLe, h.posLe⟩

/-- a rejected batch, a save begun while a batch is in flight, a second batch accepted and not yet covered by `qr.Pos` -/
example :
    let s := run codeOrder (init 6 0) [.qFail, .query 2, .sink false, .query 2, .sink true, .saveBegin, .replaceReq,
      .setPos, .saveRename, .query 3, .sink true]
    s.pc = .accepted 3 ∧ s.pos = 2 ∧ s.sessionStart = 0 ∧ s.sess = [0, 1, 2, 3, 4] ∧ s.disk = 0 := by decide

/-- **`split_position_never_ahead`** no position that is published (desc), being written (tmp) or on disk is ahead of
what the sink accepted: `disk ≤ desc ≤ pos`, the temporary file's position lies between `disk` and `desc`, and every
event before `desc` — from the very first start on — has been accepted by the sink at least once. -/
theorem split_position_never_ahead (n start : Nat) (hs : start ≤ n) (tr : List L) :
    let s := run codeOrder (init n start) tr
    s.disk ≤ s.desc ∧ s.desc ≤ s.pos ∧ (∀ p, s.tmp = some p → s.disk ≤ p ∧ p ≤ s.desc) ∧
    (∀ i, start ≤ i → i < s.desc → i ∈ s.all) := by
  rw [codeOrder_eq]
  intro s
  have h : SInv s := sinv_reach n start hs tr
  have hst : s.start0 = start := run_start0 true tr (init n start)
  refine ⟨h.diskLe, h.descLe, h.tmpOk, ?_⟩
  intro i h1 h2
  apply h.cover i (by rw [hst]; exact h1)
  have := h.descLe; have := h.posHigh; omega

/-- a temporary file written between request replacement and `setPosition` holds the old position; in that window
`desc` is behind `pos` -/
example :
    let s := run codeOrder (init 6 0) [.query 2, .sink true, .replaceReq, .saveBegin]
    s.pc = .setting ∧ s.desc = 0 ∧ s.pos = 2 ∧ s.tmp = some 0 ∧ s.all = [0, 1] := by decide

example :
    let s := run codeOrder (init 6 0) [.query 2, .sink true, .replaceReq, .saveBegin, .setPos, .query 2, .sink true,
      .replaceReq, .setPos]
    s.disk = 0 ∧ s.tmp = some 0 ∧ s.desc = 4 ∧ s.pos = 4 ∧ s.all = [0, 1, 2, 3] := by decide

/-- **`split_restart_any_moment`** a crash / stop at ANY moment (any pc, temp file written or not): the restart begins
at disk, skips nothing (every event below the high-water mark has been accepted at least once, and `disk ≤ high`),
re-delivers exactly the accSince events accepted since the content of forwarder.json was read (`[disk, pos + inflight)`);
a temporary file that is renamed first moves that bound to `accTmp`. -/
theorem split_restart_any_moment (n start : Nat) (hs : start ≤ n) (tr : List L) :
    let s := run codeOrder (init n start) tr
    (step codeOrder s .restart).sessionStart = s.disk ∧ (step codeOrder s .restart).pos = s.disk ∧
    (step codeOrder s .restart).all = s.all ∧
    start ≤ s.disk ∧ s.disk ≤ s.high ∧ s.high ≤ s.n ∧
    (∀ i, start ≤ i → i < s.high → i ∈ s.all) ∧ (∀ i ∈ s.all, start ≤ i ∧ i < s.high) ∧
    s.pos + inflight s.pc = s.disk + s.accSince ∧
    (∀ p, s.tmp = some p → s.pos + inflight s.pc = p + s.accTmp) := by
  rw [codeOrder_eq]
  intro s
  have h : SInv s := sinv_reach n start hs tr
  have hst : s.start0 = start := run_start0 true tr (init n start)
  refine ⟨rfl, rfl, rfl, by rw [← hst]; exact h.s0Disk, ?_, h.highLe, ?_, ?_, h.accEq, h.accTmpEq⟩
  · have := h.diskLe; have := h.descLe; have := h.posHigh; omega
  · intro i h1 h2; exact h.cover i (by rw [hst]; exact h1) h2
  · intro i hi; have := h.allLt i hi; rw [hst] at this; exact this

/-- a crash with a batch accepted and `qr.Pos` not yet advanced, after a completed save of position 0: the five events
accepted since are delivered again, then the sixth -/
example :
    let s := run codeOrder (init 6 0) [.qFail, .query 2, .sink false, .query 2, .sink true, .saveBegin, .replaceReq,
      .setPos, .saveRename, .query 3, .sink true]
    s.accSince = 5 ∧ (step codeOrder s .restart).sessionStart = 0 ∧
    (run codeOrder s [.restart, .query 6, .sink true]).all = [0, 1, 2, 3, 4, 0, 1, 2, 3, 4, 5] := by decide

/-- a crash between the write of the temporary file and the rename: the temporary file (position 2) is ignored -/
example :
    let s := run codeOrder (init 6 0) [.query 2, .sink true, .replaceReq, .setPos, .saveBegin]
    s.tmp = some 2 ∧ s.accTmp = 0 ∧ s.accSince = 2 ∧ s.disk = 0 ∧ (step codeOrder s .restart).sessionStart = 0 := by
  decide

/-- **`split_quiescent_stop_exact`** a stop at a quiescent point (the loop has seen the stop request at its head, no
temporary file pending) followed by a complete save re-delivers nothing: the next session starts at `pos`. -/
theorem split_quiescent_stop_exact (n start : Nat) (hs : start ≤ n) (tr : List L) :
    let s := run codeOrder (init n start) tr
    s.pc = .stopped → s.tmp = none →
    (run codeOrder s [.saveBegin, .saveRename, .restart]).sessionStart = s.pos := by
  rw [codeOrder_eq]
  intro s hpc ht
  have h : SInv s := sinv_reach n start hs tr
  have hd : s.desc = s.pos := h.descEq (by rw [hpc]; intro e; cases e)
  simp only [run, step, ht]
  exact hd

example :
    let s := run codeOrder (init 6 0) [.query 2, .sink true, .replaceReq, .setPos, .stopReq, .exit]
    s.pc = .stopped ∧ s.tmp = none ∧ s.pos = 2 ∧
    (run codeOrder s [.saveBegin, .saveRename, .restart]).sessionStart = 2 ∧
    (run codeOrder s [.saveBegin, .saveRename, .restart]).all = [0, 1] := by decide

/-- **`split_refines_atomic`** the statement-level system refines the atomic one: an atomic trace, expanded (`expand`:
one loop iteration = its four statements, a persist = write + rename, a stop = request, exit, complete save, restart),
gives the same observable fields — so the theorems of `Props/C18.lean` are about runs of this system too. -/
theorem split_refines_atomic (n start : Nat) (hs : start ≤ n) (tr : List Forwarder.L) :
    let s := run codeOrder (init n start) (tr.flatMap expand)
    let a := Forwarder.run Logrange.Props.C18.genCfg (Forwarder.init n start) tr
    s.pc = .idle ∧ s.tmp = none ∧ a.n = s.n ∧ a.pos = s.pos ∧ a.desc = s.desc ∧ a.persisted = s.disk ∧
    a.sessionStart = s.sessionStart ∧ a.sess = s.sess ∧ a.all = s.all ∧ a.high = s.high ∧ a.accSince = s.accSince := by
  intro s a
  have h : Sim s a := by
    show Sim (run codeOrder (init n start) (tr.flatMap expand))
      (Forwarder.run Logrange.Props.C18.genCfg (Forwarder.init n start) tr)
    rw [codeOrder_eq, Logrange.Props.C18.genCfg_eq]
    exact sim_run tr _ _ (sim_init n start) (Forwarder.finv_init n start hs)
  obtain ⟨h1, h2, _, h4, h5, h6, h7, _, h9, h10, h11, h12, h13⟩ := h
  exact ⟨h1, h2, h4, h5, h6, h7, h9, h10, h11, h12, h13⟩

example :
    let tr : List Forwarder.L := [.qTransport, .page 2 false, .page 2 true, .persist, .page 2 true,
      .crashAfterAccept 1, .page 3 true, .graceful]
    (run codeOrder (init 6 0) (tr.flatMap expand)).all = [0, 1, 2, 3, 4, 2, 3, 4] ∧
    (Forwarder.run Logrange.Props.C18.genCfg (Forwarder.init 6 0) tr).all = [0, 1, 2, 3, 4, 2, 3, 4] ∧
    (run codeOrder (init 6 0) (tr.flatMap expand)).sessionStart = 5 := by decide

/-- **`split_drains_when_quiet`** bounded eventual completeness on the statement-level system: from any reachable
state at the loop head, `m` fault-free iterations (query answers up to `k` events, the sink accepts, the request is
replaced, the position set; nothing else interleaves) with `m · k ≥ n - pos` bring the worker's position and the
published position to the end of the partition, and every event from the first start on has been accepted. -/
theorem split_drains_when_quiet (n start : Nat) (hs : start ≤ n) (tr : List L) (k m : Nat) :
    let s := run codeOrder (init n start) tr
    s.pc = .idle → s.n - s.pos ≤ m * k →
    let s' := run codeOrder s (List.flatten (List.replicate m (iter k)))
    s'.pos = s.n ∧ s'.desc = s.n ∧ (∀ i, start ≤ i → i < s.n → i ∈ s'.all) := by
  rw [codeOrder_eq]
  intro s hpc hm s'
  have h : SInv s := sinv_reach n start hs tr
  have hin : inflight s.pc = 0 := by rw [hpc]; rfl
  have hle : s.pos ≤ s.n := by have := h.posLe; omega
  obtain ⟨hpc', hpos', hn'⟩ : s'.pc = .idle ∧ s'.pos = min (s.pos + m * k) s.n ∧ s'.n = s.n :=
    run_iters k m s hpc hle
  have h' : SInv s' := sinv_run _ s h
  have hst : s'.start0 = start := by
    show (run true (run true (init n start) tr) _).start0 = start
    rw [run_start0, run_start0]; rfl
  have hpos : s'.pos = s.n := by rw [hpos']; omega
  have hd : s'.desc = s'.pos := h'.descEq (by rw [hpc']; intro e; cases e)
  refine ⟨hpos, by rw [hd, hpos], ?_⟩
  intro i h1 h2
  apply h'.cover i (by rw [hst]; exact h1)
  have := h'.posHigh; omega

/-- 25 events, pages of 10: after a failed query and a rejected batch, three quiet iterations reach the end -/
example :
    let s := run codeOrder (init 25 0) [.qFail, .query 10, .sink false]
    s.pc = .idle ∧ (run codeOrder s (List.flatten (List.replicate 3 (iter 10)))).pos = 25 ∧
    (run codeOrder s (List.flatten (List.replicate 3 (iter 10)))).desc = 25 := by decide

/-! ### what the theorems exclude, and what they allow -/

/-- what the theorems exclude: position published before the sink call, a save and a crash → the batch is skipped -/
theorem cex_split_set_before_accept :
    let s := run false (init 5 0) [.query 2, .saveBegin, .saveRename, .restart]
    s.sessionStart = 2 ∧ s.all = [] := by decide

/-- allowed by the property (at-least-once): the final persist does not wait for the worker; a stop that lands between
the sink's accept and setPosition re-delivers that one batch -/
theorem stop_in_window_redelivers_one_batch :
    let s := run true (init 5 0) [.query 2, .sink true, .stopReq, .saveBegin, .saveRename, .replaceReq, .setPos, .exit,
      .restart]
    s.sessionStart = 0 ∧ s.all = [0, 1] ∧ s.accSince = 0 := by decide

end Logrange.Props.C18Split

import Logrange.Proofs.WaitLts
import Logrange.Generated.C11
/-!
# C11 — Readers waiting at the end of a stream are woken by new data

Property theorems only (model: `Logrange/Model/WaitLts.lean`, lemmas: `Logrange/Proofs/WaitLts.lean`).
What a model cannot exhibit — the actual latency ("promptly, well before the timeout"), goroutine scheduling
fairness, timers — is *measured* by the harness (`harness/cmd/c11`); C11 is therefore **partial** by nature.
The pipe-worker clause is C10's `no_stranded_data` (`Logrange/Props/C10.lean`).
-/
namespace Logrange.Props.C11
open Logrange.WaitLts

/-- structural facts the shape of the model relies on (re-read from the source on every run) -/
theorem model_shape_facts :
    Generated.C11.waitOneWaiterPerPartition = true ∧ Generated.C11.waitStartsWithCurrentPos = true ∧
    Generated.C11.waiterCancelsTheRest = true ∧ Generated.C11.waitReturnsCtxErr = true ∧
    Generated.C11.queryLoopWaitCondition = true ∧ Generated.C11.queryLoopFreshTimeout = true ∧
    Generated.C11.queryLoopBreaksOnTimeout = true ∧ Generated.C11.queryLoopComparesClampedLimit = true := by decide +kernel

/-- **End of data means "at the end position"**: when the forward `Get` of the journal iterator answers EOF, the
iterator's position is the end position built from the (second) count read `c₂`, and every record below the first read
`c₁` had been returned. So the position a waiter is started with (`it.Pos()`, fact `waitStartsWithCurrentPos`) is below
the confirmed count exactly when something was confirmed after that read — the `lockCheck` then returns at once. -/
theorem eof_pos_is_end (idx c1 c2 : Nat) (h : (jget idx c1 c2).1 = .eof) :
    (jget idx c1 c2).2 = c2 ∧ c1 ≤ idx := by
  unfold jget at *
  by_cases hlt : idx < c1
  · simp [hlt] at h
  · simp [hlt]; omega

/-- … for every underlying iterator of a multi-partition reader (the mixer reports EOF only when all of them do) -/
theorem eof_pos_is_end_all (parts : List (Nat × Nat × Nat))
    (h : ∀ p, p ∈ parts → (jget p.1 p.2.1 p.2.2).1 = .eof) :
    ∀ p, p ∈ parts → (jget p.1 p.2.1 p.2.2).2 = p.2.2 := by
  intro p hp; exact (eof_pos_is_end _ _ _ (h p hp)).1

/-- **No lost wake-up** (all interleavings of the writer's append / confirm / `OnNewData` steps with any number of
waiters' increment / locked check / subscribe / sleep / wake / cancel / return steps, waiters restarted any number
of times — back-to-back waits —, any start positions): a waiter that sleeps on an open subscription while data
beyond its position is confirmed has an `OnNewData` call pending that will close its subscription. -/
theorem no_lost_wakeup (nWaiters stored : Nat) (ls : List Label) (w : Nat) (x : WSt) :
    let st := run (init nWaiters stored) ls
    st.ws[w]? = some x → x.pc = .asleep → x.sub = true → x.pos < st.cfrmd → 0 < st.pendNotif + st.pendClose := by
  intro st hx hpc hsub hlt
  have _facts := model_shape_facts
  exact (run_winv _ ls (winv_init nWaiters stored)).1 w x hx (Or.inl ⟨hpc, hsub⟩) hlt

/-- the same for a waiter that has passed its locked check and is about to subscribe -/
theorem no_lost_wakeup_before_subscribe (nWaiters stored : Nat) (ls : List Label) (w : Nat) (x : WSt) :
    let st := run (init nWaiters stored) ls
    st.ws[w]? = some x → x.pc = .holding → x.pos < st.cfrmd → 0 < st.pendNotif + st.pendClose ∧ st.lock = some w := by
  intro st hx hpc hlt
  have hI := run_winv _ ls (winv_init nWaiters stored)
  exact ⟨hI.1 w x hx (Or.inr hpc) hlt, hI.2 w x hx hpc⟩

/-- **The sleeper's next step is enabled**: once the writer side is idle (no `OnNewData` pending), a sleeping waiter
with confirmed data beyond its position finds its channel closed — its `wake` step can be taken (and the following
locked check returns nil: `wake_then_returns`). -/
theorem wake_enabled (nWaiters stored : Nat) (ls : List Label) (w : Nat) (x : WSt) :
    let st := run (init nWaiters stored) ls
    st.ws[w]? = some x → x.pc = .asleep → x.pos < st.cfrmd → st.pendNotif = 0 → st.pendClose = 0 →
    (step st (.wake w)).isSome = true := by
  intro st hx hpc hlt h1 h2
  have hsub : x.sub = false := by
    cases hs : x.sub with
    | false => rfl
    | true =>
      have h3 : 0 < st.pendNotif + st.pendClose := no_lost_wakeup nWaiters stored ls w x hx hpc hs hlt
      omega
  simp [step, hx, hpc, hsub]

/-- after the wake-up the locked check sees the data and the call returns nil (`woke`) -/
theorem wake_then_returns (st : State) (w : Nat) (x : WSt) (hx : st.ws[w]? = some x) (hpc : x.pc = .counted)
    (hlt : x.pos < st.cfrmd) (hl : st.lock = none) :
    ∃ st', step st (.lockCheck w) = some st' ∧ ∃ y, st'.ws[w]? = some y ∧ y.pc = .returning ∧ y.woke = true := by
  have hlen := lt_of_getElem?_some hx
  have hs : step st (.lockCheck w) = some { st with ws := st.ws.set w { x with pc := .returning, woke := true } } := by
    simp [step, hx, hpc, hl, hlt]
  refine ⟨_, hs, { x with pc := .returning, woke := true }, ?_, rfl, rfl⟩
  exact List.getElem?_set_self hlen

/-- a sleeping waiter can always be cancelled when the listener lock is free (the sibling's return, the timeout) -/
theorem cancel_enabled (st : State) (w : Nat) (x : WSt) (hx : st.ws[w]? = some x) (hpc : x.pc = .asleep)
    (hl : st.lock = none) : (step st (.cancel w)).isSome = true := by
  simp [step, hx, hpc, hl]

/-! ### the Query loop -/

/-- **The loop answers** over real partitions: with whatever the successive waits bring (events, wake-ups that bring
nothing the query selects, time-outs), the loop of `Querier.Query` ends within `scriptMeasure + 1` iterations. -/
theorem query_answers_partial (wt lim limit : Nat) (s : Script) (acc : List Nat) :
    queryLoop scriptCur wt lim (scriptMeasure s + 1) limit s acc ≠ .outOfFuel :=
  queryLoop_script_terminates wt lim _ limit s acc (Nat.lt_succ_self _)

/-- the cursor `GetOrCreate` returns when no partition matches, as the source defines it now -/
def emptyCurNow : Cur Unit := emptyCur Generated.C11.emptyCursorWaitReturnsAtOnce

/-- **F11 repaired** (2ae8d4c; formerly `cex_empty_cursor_spins`): `emptyCursor.WaitNewData` blocks until the wait
context ends and reports that, so a query over no partition — waiting or not, any limit — leaves the loop in its
**first iteration** with an empty answer: `Get` is EOF, the wait reports the timeout, the loop breaks. Fuel bound: 1. -/
theorem query_answers_empty_cursor (wt lim : Nat) :
    ∀ fuel, 0 < fuel → queryLoop emptyCurNow wt lim fuel lim () [] = .ok [] := by
  have hfact : Generated.C11.emptyCursorWaitReturnsAtOnce = false := by decide +kernel
  have _hblocks : Generated.C11.emptyCursorWaitBlocksUntilCtxEnds = true := by decide +kernel
  intro fuel hf
  cases fuel with
  | zero => omega
  | succ f =>
    unfold queryLoop
    by_cases h : lim = 0
    · simp [h]
    · have hg : emptyCurNow.get () = (none, ()) := rfl
      have hw : emptyCurNow.wait () = (.timeout, ()) := by
        simp [emptyCurNow, emptyCur, hfact]
      simp only [h, if_false, hg, hw]
      split <;> rfl

/-- what the loop did before the repair, kept as a statement about the model's other branch: with a `WaitNewData`
that returns nil at once, a waiting query over no partition has no answer for any amount of fuel -/
theorem unrepaired_empty_cursor_would_spin (wt lim : Nat) (hw : 0 < wt) (hl : 0 < lim) :
    ∀ fuel, queryLoop (emptyCur true) wt lim fuel lim () [] = .outOfFuel :=
  queryLoop_empty_spins lim wt hl hw

/-- the full statement for the Query loop: every query answers — over real partitions and over none. -/
def C11_query_full : Prop :=
  (∀ wt lim limit (s : Script) acc, ∃ fuel, queryLoop scriptCur wt lim fuel limit s acc ≠ .outOfFuel) ∧
  (∀ wt lim, ∃ fuel, queryLoop emptyCurNow wt lim fuel lim () [] ≠ .outOfFuel)

/-- **Holds** since the repair of F11 (with explicit fuel: `scriptMeasure + 1`, resp. 1). -/
theorem query_answers : C11_query_full := by
  constructor
  · intro wt lim limit s acc
    exact ⟨scriptMeasure s + 1, query_answers_partial wt lim limit s acc⟩
  · intro wt lim
    refine ⟨1, ?_⟩
    rw [query_answers_empty_cursor wt lim 1 (by omega)]
    intro h; cases h

/-! ### the RPC path -/

/-- the two Query loops as the source has them now -/
def backendShape : LoopShape :=
  ⟨Generated.C11.backendLoopShape.1, Generated.C11.backendLoopShape.2.1, Generated.C11.backendLoopShape.2.2, false⟩
def rpcShape : LoopShape :=
  ⟨Generated.C11.rpcLoopShape.1, Generated.C11.rpcLoopShape.2.1, Generated.C11.rpcLoopShape.2.2,
   Generated.C11.rpcEarlyEmptyForZeroLimit⟩

/-- **The RPC server's Query is the backend's Query** as far as reading and waiting go: for every cursor, wait timeout,
limit and cursor state, `rpc.ServerQuerier.query` (which differs in the shape read from the source only by answering
empty before it creates a cursor when `lim == 0 && WaitTimeout <= 0`) returns what `backend.Querier.Query` returns.
Everything proved about `queryLoop` — it answers within the fuel bound, it re-reads after a wake-up, it waits again with a
fresh timeout after a wake-up that brought nothing selected — therefore holds for both paths. -/
theorem rpc_query_equals_backend_query {σ : Type} (c : Cur σ) (wt lim fuel : Nat) (s : σ) (hf : 0 < fuel) :
    queryCall rpcShape c wt lim fuel s = queryCall backendShape c wt lim fuel s := by
  have h1 : rpcShape = ⟨true, true, true, true⟩ := by decide +kernel
  have h2 : backendShape = ⟨true, true, true, false⟩ := by decide +kernel
  rw [h1, h2]
  unfold queryCall
  by_cases h : lim = 0 ∧ wt = 0
  · obtain ⟨hl, hw⟩ := h
    subst hl; subst hw
    cases fuel with
    | zero => omega
    | succ f => simp [queryLoop]
  · have : (lim == 0 && wt == 0) = false := by
      cases hl : (lim == 0) <;> cases hw : (wt == 0) <;> simp_all
    simp [this]

/-- both calls are the `queryLoop` of the theorems above -/
theorem backend_query_is_queryLoop {σ : Type} (c : Cur σ) (wt lim fuel : Nat) (s : σ) :
    queryCall backendShape c wt lim fuel s = queryLoop c wt lim fuel lim s [] := by
  have h2 : backendShape = ⟨true, true, true, false⟩ := by decide +kernel
  rw [h2]; simp [queryCall]

/-! ### the request's `Limit` (the page cap `QueryMaxLimit`) -/

/-- how the two functions treat the request's `Limit`, as the source has it now -/
def backendLimit : LimitShape := ⟨Generated.C11.backendLimitShape.1, Generated.C11.backendLimitShape.2⟩
def rpcLimit : LimitShape := ⟨Generated.C11.rpcLimitShape.1, Generated.C11.rpcLimitShape.2⟩

/-- **The wait condition compares with the clamped limit**: for every `Limit` a client can send — below, at and beyond
`QueryMaxLimit` — a request is the `queryCall` of the theorems above over `min Limit QueryMaxLimit`, on both paths. So
everything proved about `queryCall`/`queryLoop` (it waits at end of data, re-reads after a wake-up, waits again with a fresh
timeout) holds for requests with an oversized `Limit` too. -/
theorem query_request_is_clamped_call {σ : Type} (c : Cur σ) (wt reqLimit fuel : Nat) (s : σ) :
    queryRequest rpcShape rpcLimit Generated.C11.queryMaxLimit c wt reqLimit fuel s
      = queryCall rpcShape c wt (min reqLimit Generated.C11.queryMaxLimit) fuel s ∧
    queryRequest backendShape backendLimit Generated.C11.queryMaxLimit c wt reqLimit fuel s
      = queryCall backendShape c wt (min reqLimit Generated.C11.queryMaxLimit) fuel s := by
  have h1 : rpcLimit = ⟨true, true⟩ := by decide +kernel
  have h2 : backendLimit = ⟨true, true⟩ := by decide +kernel
  rw [h1, h2]
  constructor <;> simp [queryRequest, queryCall]

/-- **A waiting request of any positive `Limit` waits and returns the next event** — also `Limit > QueryMaxLimit`
(seeded change C11-9 made exactly those requests answer empty at once): at end of data, with a wait timeout, the event the
first wake-up brings is the answer, on both paths. -/
theorem big_limit_request_waits (wt reqLimit e : Nat) (hw : 0 < wt) (hl : 0 < reqLimit) :
    queryRequest rpcShape rpcLimit Generated.C11.queryMaxLimit scriptCur wt reqLimit 3 ([], [some [e]]) = .ok [e] ∧
    queryRequest backendShape backendLimit Generated.C11.queryMaxLimit scriptCur wt reqLimit 3 ([], [some [e]]) = .ok [e] := by
  have hm : 0 < Generated.C11.queryMaxLimit := by decide +kernel
  have hq := query_request_is_clamped_call scriptCur wt reqLimit 3 ([], [some [e]])
  have hpos : 0 < min reqLimit Generated.C11.queryMaxLimit := by
    rw [Nat.lt_min]; exact ⟨hl, hm⟩
  have hb : ∀ lim, 0 < lim → queryLoop scriptCur wt lim 3 lim ([], [some [e]]) [] = .ok [e] := by
    intro lim hlim
    have h0 : lim ≠ 0 := by omega
    have h1 : lim - 1 ≠ lim := by omega
    simp [queryLoop, scriptCur, h0, hw, h1]
  rw [hq.1, hq.2, rpc_query_equals_backend_query _ _ _ _ _ (by omega), backend_query_is_queryLoop]
  exact ⟨hb _ hpos, hb _ hpos⟩

/-- the model's other branch (what seeded change C11-9 did): if the wait condition compares the countdown variable with the
REQUEST's limit, a request beyond the cap never waits — whatever would have been written during its timeout, the answer is
empty, at once. -/
theorem unclamped_wait_condition_never_waits (early : Bool) (maxLimit wt reqLimit fuel : Nat) (futs : List (Option (List Nat)))
    (hm : 0 < maxLimit) (hbig : maxLimit < reqLimit) :
    queryRequest ⟨true, true, true, early⟩ ⟨true, false⟩ maxLimit scriptCur wt reqLimit (fuel + 1) ([], futs) = .ok [] := by
  have h0 : min reqLimit maxLimit = maxLimit := Nat.min_eq_right (Nat.le_of_lt hbig)
  have h1 : maxLimit ≠ 0 := by omega
  have h2 : maxLimit ≠ reqLimit := by omega
  simp [queryRequest, h0, h1, h2, queryLoop, scriptCur]

/-! ### the client's stream loop (`api.Select`): back-to-back waits with writes racing the gaps -/

/-- total number of events that become readable over the rounds -/
def roundsTotal : List Round → Nat
  | [] => 0
  | r :: rs => r.gap + r.during + roundsTotal rs

theorem selectStream_at_end (stored : Nat) (rs : List Round) :
    selectStream true stored (.at stored) rs = List.range' stored (roundsTotal rs) := by
  induction rs generalizing stored with
  | nil => simp [selectStream, roundsTotal]
  | cons r rs ih =>
    simp only [selectStream, roundsTotal, Bool.not_true, Bool.and_false, Bool.false_eq_true, if_false]
    rw [ih (stored + r.gap + r.during)]
    have e1 : stored + r.gap + r.during - stored = r.gap + r.during := by rw [Nat.add_assoc, Nat.add_sub_cancel_left]
    have e2 : stored + r.gap + r.during = stored + (r.gap + r.during) := Nat.add_assoc _ _ _
    rw [e1, e2, List.range'_append_1]

theorem selectStream_at (n stored : Nat) (r : Round) (rs : List Round) (h : n ≤ stored) :
    selectStream true stored (.at n) (r :: rs) = List.range' n (stored + roundsTotal (r :: rs) - n) := by
  simp only [selectStream, roundsTotal, Bool.not_true, Bool.and_false, Bool.false_eq_true, if_false]
  rw [selectStream_at_end]
  have hle : n ≤ stored + r.gap + r.during := Nat.le_trans h (Nat.le_trans (Nat.le_add_right _ _) (Nat.le_add_right _ _))
  have e1 : stored + r.gap + r.during = n + (stored + r.gap + r.during - n) := (Nat.add_sub_cancel' hle).symm
  have e2 : stored + (r.gap + r.during + roundsTotal rs) - n = (stored + r.gap + r.during - n) + roundsTotal rs := by
    rw [← Nat.add_assoc, ← Nat.add_assoc, Nat.sub_add_comm hle]
  rw [e2, ← List.range'_append_1, ← e1]

/-- **Back-to-back waits of the documented client loop deliver every event, once, in order — however the writes race the
gaps.** `api.Select` in stream mode as the source has it now (fact `clientSelectTakesNextRequest`: every round continues with
the answer's `NextQueryRequest`), started at a concrete position or at `"tail"`: for every schedule of rounds — events landing
in the gap between an answer and the next request, or during a wait, any number of empty rounds — the handler receives
exactly the events from the first request's position to the end, each once, in stored order. -/
theorem client_stream_delivers_every_event (stored : Nat) (r : Round) (rs : List Round) :
    selectStream Generated.C11.clientSelectTakesNextRequest stored .tail (r :: rs)
      = List.range' (stored + r.gap) (r.during + roundsTotal rs) ∧
    (∀ n, n ≤ stored → selectStream Generated.C11.clientSelectTakesNextRequest stored (.at n) (r :: rs)
      = List.range' n (stored + roundsTotal (r :: rs) - n)) := by
  have hfact : Generated.C11.clientSelectTakesNextRequest = true := by decide +kernel
  rw [hfact]
  constructor
  · simp only [selectStream, Bool.not_true, Bool.and_false, Bool.false_eq_true, if_false]
    rw [selectStream_at_end]
    rw [Nat.add_sub_cancel_left, List.range'_append_1]
  · intro n hn; exact selectStream_at n stored r rs hn

/-- the model's other branch (seeded change C11-15: an empty page `continue`s without taking the continuation request): a
stream started at `"tail"` whose first wait expired empty re-resolves `"tail"` — the event that landed in the gap is skipped
and never delivered, although a later event is -/
theorem resent_tail_request_skips_gap_event :
    selectStream false 3 .tail [⟨0, 0⟩, ⟨1, 0⟩, ⟨0, 1⟩] = [4] ∧
    selectStream true 3 .tail [⟨0, 0⟩, ⟨1, 0⟩, ⟨0, 1⟩] = [3, 4] := by decide +kernel

/-! ### non-vacuity and the behaviours the harness measures, as kernel-evaluated runs -/

/-- a write racing with the reader going to sleep — append and flush between the reader's EOF (position 3) and its
locked check: the check returns at once -/
example : ((run (init 1 3) [.start 0 3, .append 1, .confirm, .loadWaiters, .inc 0, .lockCheck 0]).ws[0]?).map (fun x => (x.pc, x.woke))
    = some (.returning, true) := by decide +kernel
/-- flush between the locked check and the subscription: `OnNewData` finds `waiters > 0`, waits for the lock, closes
the fresh subscription; the waiter wakes and returns -/
example : ((run (init 1 3) [.start 0 3, .inc 0, .append 1, .lockCheck 0, .confirm, .loadWaiters, .closeAll, .subscribe 0,
      .closeAll, .wake 0, .lockCheck 0]).ws[0]?).map (fun x => (x.pc, x.woke)) = some (.returning, true) := by decide +kernel
/-- a sleeping reader, then append and flush -/
example : ((run (init 1 3) [.start 0 3, .inc 0, .lockCheck 0, .subscribe 0, .append 2, .confirm, .loadWaiters, .closeAll,
      .wake 0, .lockCheck 0]).ws[0]?).map (fun x => (x.pc, x.woke)) = some (.returning, true) := by decide +kernel
/-- the hypotheses of `no_lost_wakeup` are met in the middle of that run: asleep, subscribed, data confirmed, a call pending -/
example : let st := run (init 1 3) [.start 0 3, .inc 0, .lockCheck 0, .subscribe 0, .append 2, .confirm]
    st.ws[0]? = some ⟨.asleep, 3, true, false⟩ ∧ 3 < st.cfrmd ∧ st.pendNotif = 1 := by decide +kernel
/-- back-to-back waits of one waiter, two partitions' worth of waiters in one system, a cancelled sibling -/
example : ((run (init 2 0) [.start 0 0, .start 1 0, .inc 0, .inc 1, .lockCheck 0, .subscribe 0, .lockCheck 1, .subscribe 1,
      .append 1, .confirm, .loadWaiters, .closeAll, .wake 0, .lockCheck 0, .ret 0, .cancel 1, .ret 1,
      .start 0 1, .inc 0, .lockCheck 0, .subscribe 0, .append 1, .confirm, .loadWaiters, .closeAll, .wake 0, .lockCheck 0]).ws.map
      (fun x => (x.pc, x.woke))) = [(.returning, true), (.idle, false)] := by decide +kernel
/-- the loop re-reads after a wake-up and returns the event; a wake-up that brings nothing selected waits again with a
fresh timeout and then returns empty -/
example : queryLoop scriptCur 5 10 10 10 ([], [some [7]]) [] = .ok [7] := by decide +kernel
example : queryCall rpcShape scriptCur 1 10 10 ([], [some [], some [7]]) = .ok [7] := by decide +kernel
example : queryCall rpcShape scriptCur 0 0 10 ([1], []) = .ok [] ∧ queryCall backendShape scriptCur 0 0 10 ([1], []) = .ok [] := by decide +kernel
example : queryLoop scriptCur 5 10 10 10 ([], [some [], none]) [] = .ok [] := by decide +kernel
example : queryLoop scriptCur 5 10 10 10 ([1, 2], [some [3]]) [] = .ok [1, 2] := by decide +kernel
example : queryLoop emptyCurNow 1 10 40 10 () [] = .ok [] := by decide +kernel
example : queryLoop (emptyCur true) 1 10 40 10 () [] = .outOfFuel := by decide +kernel
/-- requests at and beyond the page cap: they wait and return what the wake-up brings; under the other branch the big one does not -/
example : queryRequest rpcShape rpcLimit 10000 scriptCur 1 20000 10 ([], [some [], some [7]]) = .ok [7] := by decide +kernel
example : queryRequest backendShape backendLimit 10000 scriptCur 1 10001 10 ([], [some [7]]) = .ok [7] := by decide +kernel
example : queryRequest rpcShape ⟨true, false⟩ 10000 scriptCur 1 10000 10 ([], [some [7]]) = .ok [7] ∧
    queryRequest rpcShape ⟨true, false⟩ 10000 scriptCur 1 10001 10 ([], [some [7]]) = .ok [] := by decide +kernel

end Logrange.Props.C11

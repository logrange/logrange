import Logrange.Proofs.WritersPos
import Logrange.Proofs.JIterObsRefine
/-!
# C01 — concurrency: the positions concurrent writers get back; the observation model refines to the tail model

Property theorems only. Models: `Model/WritersLts.lean` + `Model/WritersPos.lean` (returns of `Chunk.write`), `Model/JIterObs.lean`
(general observation model of the library journal iterator and its tail specialisation). Lemmas: `Proofs/WritersPos.lean`,
`Proofs/JIterObsRefine.lean`.
-/
namespace Logrange.Props.C01Conc
open Logrange

/-! ## positions returned to concurrent writers -/

/-- **Every announcement delimits exactly the caller's own records, under every schedule** — with the chunk's record count taken
inside `Chunk.write`'s critical section (`retOf`): for any number of writers, any batches, any `maxChunkSize`, EVERY schedule of
`submit` / `GetChunkForWrite` / `Chunk.write` steps, every call that wrote `n > 0` records and returned `(chunk, cnt)`: in the
final state of the schedule the records `[cnt-n, cnt)` of that chunk — the range `Service.Write` hands to `OnWrite(first, last)` and
builds `StartPos`/`EndPos` from — are exactly the `n` records that call wrote, all the caller's own. -/
theorem writer_positions_delimit_own_records (maxSize : Nat) (sched : List WritersLts.Label) :
    ∀ r ∈ (WritersLts.runLog maxSize {} sched).2, ∃ c : WritersLts.Chunk,
      (WritersLts.run maxSize {} sched).chunks[r.chunk]? = some c ∧
      (c.recs.drop r.first).take r.n = r.recs ∧ r.recs.length = r.n ∧ 0 < r.n ∧ (∀ x ∈ r.recs, x.w = r.w) :=
  WritersLts.runLog_delimits maxSize sched {} WritersLts.init_inv

/-- … and they go on doing so whatever happens afterwards (chunks are append-only) -/
theorem writer_positions_stable (maxSize : Nat) (sched more : List WritersLts.Label) :
    ∀ r ∈ (WritersLts.runLog maxSize {} sched).2,
      WritersLts.Delimits (WritersLts.run maxSize (WritersLts.run maxSize {} sched) more) r :=
  fun r hr => (WritersLts.runLog_delimits maxSize sched {} WritersLts.init_inv r hr).mono
    (WritersLts.run_chunks_prefix maxSize more _)

/-- **Every stored record is announced exactly once, to its writer, in stored order**: the records announced to writer `w` by its
successive calls, concatenated in call order, are exactly `w`'s records in the journal in stored order (with
`writers_interleave`: its submitted batches minus the unwritten rest of the current one). So the first announced position of a
`Service.Write` (`StartPos`) is the position of the batch's first record, the last (`EndPos`) is one past its last record, and
between them lie all records of the batch — plus other writers' records only where the batch was split at a roll-over. -/
theorem writer_returns_cover_exactly (maxSize : Nat) (sched : List WritersLts.Label) (w : Nat) :
    (((WritersLts.runLog maxSize {} sched).2.filter (fun r => r.w == w)).flatMap (·.recs)) =
      WritersLts.byWriter w (WritersLts.readAll (WritersLts.run maxSize {} sched).chunks) :=
  ((WritersLts.runLog_covers maxSize w sched {} WritersLts.init_inv).trans (List.nil_append _)).symm

/-- the statement at full strength for the code AS IT IS: the library reads the count after the writer lock is released
(`cw.lock.Unlock(); …; return wrtn, cw.cnt, err` in `chunkfs.cWrtier.write`), i.e. in some LATER state -/
def late_positions_exact : Prop :=
  ∀ (maxSize : Nat) (s later : WritersLts.State) (more : List WritersLts.Label) (l : WritersLts.Label) (r : WritersLts.Ret),
    WritersLts.retOf maxSize s l = some r → later = WritersLts.run maxSize ((WritersLts.step maxSize s l).getD s) more →
    WritersLts.lateCount later r.chunk - r.n = r.first

/-- **partial**: the late count gives the exact range whenever nothing was appended to that chunk between the end of the critical
section and the count read -/
theorem late_positions_exact_partial (maxSize : Nat) (s later : WritersLts.State) (l : WritersLts.Label) (r : WritersLts.Ret)
    (h : WritersLts.retOf maxSize s l = some r)
    (hq : WritersLts.lateCount later r.chunk = WritersLts.lateCount ((WritersLts.step maxSize s l).getD s) r.chunk) :
    WritersLts.lateCount later r.chunk - r.n = r.first := by
  obtain ⟨c, s', _, hc, _, hfirst, hn, _, hrecs, hs, hch⟩ := WritersLts.retOf_some maxSize s l r h
  have : r.recs.length = r.n := by
    rw [hrecs, List.length_take]
    exact Nat.min_eq_left (hn ▸ WritersLts.taken_le maxSize (s.loc r.w).pending c.size)
  rw [hq, hs]
  simp only [Option.getD_some, WritersLts.lateCount, hch, WritersLts.upd_get_self s.chunks r.chunk c r.recs hc,
    Option.map_some, List.length_append, hfirst, this, Nat.add_sub_cancel]

/-- **counterexample (kernel-checked)**: two writers hold the same chunk; writer 1 writes records 0,1; writer 2's record lands
between writer 1's unlock and its count read: the count is 3, writer 1 announces `[1,2]` — its own first record is missing from
the range and writer 2's record is inside it. -/
theorem cex_late_count_shifts_positions :
    WritersLts.retOf 100 WritersLts.cexBefore (.chunkWrite 1) = some ⟨1, 0, 0, 2, [⟨1, [1]⟩, ⟨1, [2]⟩]⟩ ∧
    WritersLts.lateCount WritersLts.cexS2 0 = 3 ∧ WritersLts.lateCount WritersLts.cexS2 0 - 2 = 1 ∧
    (WritersLts.cexS2.chunks[0]?.map (fun c => (c.recs.drop 1).take 2)) = some [⟨1, [2]⟩, ⟨2, [9]⟩] :=
  WritersLts.cex_late_count_shifts_positions

theorem not_late_positions_exact : ¬ late_positions_exact := by
  intro h
  have h1 := WritersLts.cex_late_count_shifts_positions
  have := h 100 WritersLts.cexBefore WritersLts.cexS2 [.chunkWrite 2] (.chunkWrite 1) _ h1.1 (by
    show WritersLts.cexS2 = _
    unfold WritersLts.cexS2 WritersLts.cexS1 WritersLts.cexBefore
    rfl)
  rw [h1.2.2.1] at this
  exact absurd this (by decide)

/-! ### … and under the per-partition write lock of `Service.Write` (regenerated fact `writeLockScope`; /repo 25f9816) -/

/-- the statement at full strength for the write lock as the source has it: between a call's return and its late count read the
other writers take whatever steps the lock leaves them (`between`) — for every assignment `noEv` of `noEvent` arguments to writers -/
def late_positions_exact_locked : Prop :=
  ∀ (maxSize : Nat) (noEv : Nat → Bool) (s : WritersLts.State) (more : List WritersLts.Label) (l : WritersLts.Label)
    (r : WritersLts.Ret), WritersLts.retOf maxSize s l = some r →
    WritersLts.lateCount (WritersLts.run maxSize ((WritersLts.step maxSize s l).getD s) (WritersLts.between noEv r.w more)) r.chunk
      - r.n = r.first

/-- **Positions are exact among writers that all take the partition's write lock** — whatever `writeLockScope` is: if every
writer of the partition holds the lock (`takesLock (noEv v)` for all `v`), then whatever the others attempt between a call's return
and its late count read, `cnt - n` is the index of the call's first record (with `writer_positions_delimit_own_records`: the
announced range is exactly the call's own records). -/
theorem late_positions_exact_for_locking_writers (maxSize : Nat) (noEv : Nat → Bool)
    (hall : ∀ v, WritersLts.takesLock (noEv v) = true) (s : WritersLts.State) (more : List WritersLts.Label)
    (l : WritersLts.Label) (r : WritersLts.Ret) (h : WritersLts.retOf maxSize s l = some r) :
    WritersLts.lateCount (WritersLts.run maxSize ((WritersLts.step maxSize s l).getD s) (WritersLts.between noEv r.w more)) r.chunk
      - r.n = r.first := by
  apply late_positions_exact_partial maxSize s _ l r h
  simp only [WritersLts.lateCount]
  rw [WritersLts.run_submits_chunks maxSize _ _ (WritersLts.between_submits noEv r.w more hall)]

/-- on a tree where at least the event-publishing writers are serialised (`1 ≤ writeLockScope`, /repo 25f9816): writers that all
call with `noEvent = false` (the RPC ingestor) get exact positions -/
theorem late_positions_exact_when_events_published (h1 : 1 ≤ Generated.C01.writeLockScope ∧ Generated.C01.writeLockScope ≤ 2)
    (maxSize : Nat) (noEv : Nat → Bool) (hev : ∀ v, noEv v = false) (s : WritersLts.State) (more : List WritersLts.Label)
    (l : WritersLts.Label) (r : WritersLts.Ret) (h : WritersLts.retOf maxSize s l = some r) :
    WritersLts.lateCount (WritersLts.run maxSize ((WritersLts.step maxSize s l).getD s) (WritersLts.between noEv r.w more)) r.chunk
      - r.n = r.first := by
  apply late_positions_exact_for_locking_writers maxSize noEv _ s more l r h
  intro v
  have : Generated.C01.writeLockScope = 1 ∨ Generated.C01.writeLockScope = 2 := by omega
  rcases this with e | e <;> simp [WritersLts.takesLock, e, hev v]

/-- **the branch for the complete repair** (`writeLockScope = 2`: every caller of `Service.Write` takes the lock): the full statement
holds. Vacuous while the lock is conditional. -/
theorem late_positions_exact_all_writers (h2 : Generated.C01.writeLockScope = 2) : late_positions_exact_locked := by
  intro maxSize noEv s more l r h
  exact late_positions_exact_for_locking_writers maxSize noEv (fun v => by simp [WritersLts.takesLock, h2]) s more l r h

/-- **the other branch (finding F-C01-901, open while `writeLockScope ≠ 2`)**: as long as some callers do not take the lock — the
pipe workers call with `noEvent = true` — the counterexample schedule stands: two such writers on one chunk, writer 2's record lands
between writer 1's unlock and its count read. -/
theorem cex_unlocked_writers_shift (h2 : Generated.C01.writeLockScope ≠ 2) : ¬ late_positions_exact_locked := by
  intro h
  have h1 := WritersLts.cex_late_count_shifts_positions
  have hno : WritersLts.takesLock true = false := by
    unfold WritersLts.takesLock
    simp only [h2, ↓reduceIte]
    split <;> rfl
  have hb : WritersLts.between (fun _ => true) 1 [.chunkWrite 2] = [.chunkWrite 2] := by
    simp [WritersLts.between, hno]
  have := h 100 (fun _ => true) WritersLts.cexBefore [.chunkWrite 2] (.chunkWrite 1) _ h1.1
  rw [show (⟨1, 0, 0, 2, [⟨1, [1]⟩, ⟨1, [2]⟩]⟩ : WritersLts.Ret).w = 1 from rfl, hb] at this
  have e : WritersLts.run 100 ((WritersLts.step 100 WritersLts.cexBefore (.chunkWrite 1)).getD WritersLts.cexBefore) [.chunkWrite 2]
      = WritersLts.cexS2 := by
    unfold WritersLts.cexS2 WritersLts.cexS1 WritersLts.cexBefore
    rfl
  rw [e, h1.2.2.1] at this
  exact absurd this (by decide)

/-- **Regression statement for the fixed finding F-C01-901** (/repo 25f9816 + 3e8b3c3: every caller of `Service.Write` holds the
partition's write lock for the whole call — regenerated fact `writeLockScope = 2`): the positions every writer computes from the
late count are exact, whatever the other writers of the partition attempt in between and whatever `noEvent` they call with.
Unconditional: a lock that is dropped, or taken only by some callers (`if !noEvent`), regenerates the fact to 0/1 and breaks this
theorem (and `cex_unlocked_writers_shift` becomes live again). -/
theorem repaired_write_lock_makes_positions_exact : late_positions_exact_locked :=
  late_positions_exact_all_writers (by decide)

/-- non-vacuity of the hypothesis "all writers take the lock", whichever of the two lock shapes the source has: writers that
publish their events do -/
example (h : 1 ≤ Generated.C01.writeLockScope ∧ Generated.C01.writeLockScope ≤ 2) : ∀ v : Nat, WritersLts.takesLock ((fun _ => false) v) = true := by
  intro _
  have : Generated.C01.writeLockScope = 1 ∨ Generated.C01.writeLockScope = 2 := by omega
  rcases this with e | e <;> simp [WritersLts.takesLock, e]

/-- non-vacuity: writer 1's batch spans a roll-over, writer 2's record lands in between; three calls wrote something -/
example : (WritersLts.runLog 10 {} [.submit 1 [[1], [2], [3]], .submit 2 [[9]], .getChunk 1, .chunkWrite 1, .getChunk 2,
    .chunkWrite 2, .getChunk 2, .chunkWrite 2, .getChunk 1, .chunkWrite 1]).2.map (fun r => (r.w, r.chunk, r.first, r.n))
      = [(1, 0, 0, 2), (2, 1, 0, 1), (1, 1, 1, 1)] := by decide +kernel

/-! ## the general observation model refines to the tail model (finding F34) -/

/-- **Refinement**: the general observation model of `journal.JIterator` (chunk list, chunk iterators per contract A.1, every
`Count()` read taken from the chunk's script) run on the probe journal — an old chunk, fully read, and a new last chunk whose
confirmed count follows ANY script — behaves exactly like the tail model (`Tail`: the algorithm specialised to a reader on the last
chunk): same first answer, same position, same delivered records, same class predicate, for every `old`, script, fuel and number
of polls. (Round 1–7: tested three-way on every script; `tail_model_agrees_on_witnesses` was three instances of this.) -/
theorem obs_model_refines_to_tail (old : Nat) (script : List Nat) (fuel polls : Nat) :
    JIterObs.probe old script fuel polls = JIterObs.Tail.probe script fuel polls :=
  JIterObs.probe_refines old script fuel polls

/-- **No skip on the OBSERVATION model when every end-of-data step sees one count**: for every sorted script (confirmed counts only
grow) — if no end-of-data step of the run saw the count grow between the EOF decision and the position read (`grew = false`) then
the reader was handed exactly the records `0, 1, 2, …` in order: nothing skipped, nothing repeated. -/
theorem obs_no_skip_when_stable (old : Nat) (script : List Nat) (hs : script.Pairwise (· ≤ ·)) (fuel polls : Nat) :
    (JIterObs.probe old script fuel polls).grew = false →
    (JIterObs.probe old script fuel polls).delivered = List.range (JIterObs.probe old script fuel polls).delivered.length := by
  rw [JIterObs.probe_refines]
  exact JIterObs.tail_probe_no_skip script (JIterObs.mono_of_sorted script hs) fuel polls

/-- non-vacuity, and the hypothesis cannot be dropped: `[0,0,1,1,1,1,1,3]` is stable and delivers all three records; in `[0,1,1,3]`
one end-of-data step sees the count grow and record 0 is skipped -/
example : (JIterObs.probe 3 [0, 0, 1, 1, 1, 1, 1, 3] 60 10).grew = false ∧
    (JIterObs.probe 3 [0, 0, 1, 1, 1, 1, 1, 3] 60 10).delivered = [0, 1, 2] ∧
    (JIterObs.probe 3 [0, 1, 1, 3] 60 10).grew = true ∧ (JIterObs.probe 3 [0, 1, 1, 3] 60 10).delivered = [1, 2] := by
  simp only [JIterObs.probe_refines]
  decide +kernel

end Logrange.Props.C01Conc

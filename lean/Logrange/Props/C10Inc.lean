import Logrange.Proofs.PipeInc
import Logrange.Props.C10Spec
/-!
# C10 — a pipe name that is deleted and created again (incarnations)

Property theorems only (model: `Logrange/Model/PipeLtsInc.lean`, which wraps the unchanged pipe LTS; lemmas:
`Logrange/Proofs/PipeInc.lean`). The former model boundary "one pipe incarnation per name" (finding F74 lived in the harness
only, pinned by `f74_window_closed`) is replaced by theorems over **every interleaving** of deletions, re-creations, the
deleted incarnations' leftover workers, writes, notifications in any order, worker steps, shutdowns and restarts.
-/
namespace Logrange.Props.C10Inc
open Logrange.PipeLts Logrange.PipeLts.Inc Logrange.Props.C10

/-- the incarnation facts as the extractor reads them from the source now -/
def icfgNow : ICfg :=
  ⟨Generated.C10.deleteCleansUpBeforeAcknowledging, Generated.C10.saveStateRefusesDeletedPipe⟩

/-- **Every incarnation is a fresh pipe** (all interleavings; any number of deletions and re-creations of the name, leftover
workers of deleted incarnations, shutdowns and restarts in between): the state of the current incarnation — its descriptors
and positions, its workers, its positions file, the write-event channel and cache, and the part of the pipe's partition it
has written — is a state the plain pipe LTS reaches for a pipe created ONCE, under a name never used before. Nothing of an
earlier incarnation is visible to it: positions are not inherited (F74, for every interleaving, not only the parked one),
and every theorem about `run cfgNow (init …) ls` holds of every incarnation. Consumes the regenerated facts
`deleteCleansUpBeforeAcknowledging`, `saveStateRefusesDeletedPipe`, `createDropsCache`, `createSavesRegistry`. -/
theorem incarnation_is_fresh_pipe (n : Nat) (l : Nat → Bool) (p : Nat → Bytes) (f : Ev → Bool) (o : Bool)
    (tr : List ILabel) :
    ∃ ls, (irun cfgNow icfgNow (iinit n l p f o) tr).cur = run cfgNow (init n l p f o) ls := by
  have h0 : IInv cfgNow (init n l p f o) (iinit n l p f o) :=
    ⟨reach_refl _ _, init n l p f o, reach_refl _ _, shadow_init n l p f o⟩
  obtain ⟨⟨ls, hls⟩, _⟩ := irun_iinv cfgNow icfgNow (init n l p f o) (iinit n l p f o) tr (by decide) (by decide) (by decide) h0
  exact ⟨ls, hls.symm⟩

/-- **A re-created pipe starts from nothing**: right after `CreatePipe` under the name of a deleted pipe there is no
descriptor, no saved position and no worker for any source, its creation point is the source's current end, the pipe is
live, and the pipe's partition is exactly what the earlier incarnations left. -/
theorem recreated_pipe_inherits_nothing (ist ist' : IState) (h : istep cfgNow icfgNow ist .recreate = some ist') (s : Nat) :
    (ist'.cur.srcs s).desc = none ∧ (ist'.cur.srcs s).saved = none ∧ (ist'.cur.srcs s).wk = .none ∧
    (ist'.cur.srcs s).createdAt = (ist.cur.srcs s).log.length ∧ (ist'.cur.srcs s).log = (ist.cur.srcs s).log ∧
    ist'.cur.pipe = .live ∧ ist'.cur.dest = [] ∧ partition ist' = partition ist := by
  have hf : fileSurvives icfgNow = false := by decide +kernel
  simp only [istep] at h
  split at h
  · cases h
  · simp only [Option.some.injEq] at h; subst h
    simp [recreated, hf, partition]

/-- the copy invariant, in the words of the property, **for every incarnation**: what the current incarnation has written
into the pipe's partition of source `s` is exactly the records of `[start, Pos)` of ITS OWN descriptor for which the filter
is true, once, in stored order, provenance appended (the descriptor was made by a notification this incarnation handled —
`recreated_pipe_inherits_nothing`); the partition is that, after what earlier incarnations wrote. -/
theorem incarnation_copy_exactly_once_in_order (n : Nat) (l : Nat → Bool) (p : Nat → Bytes) (f : Ev → Bool) (o : Bool)
    (tr : List ILabel) (s : Nat) (d : Desc) :
    let ist := irun cfgNow icfgNow (iinit n l p f o) tr
    (ist.cur.srcs s).desc = some d → (∀ c, (ist.cur.srcs s).wk ≠ .written c) →
    proj s ist.cur.dest = ((slice (ist.cur.srcs s).log d.start d.pos).filter ist.cur.flt).map (addProv (ist.cur.srcs s).prov) ∧
    partition ist = ist.base ++ ist.cur.dest := by
  intro ist hd hw
  obtain ⟨ls, hls⟩ := incarnation_is_fresh_pipe n l p f o tr
  refine ⟨?_, rfl⟩
  have h := pipe_copy_exactly_once_in_order n l p f o ls s d
  simp only at h
  rw [← hls] at h
  exact h hd hw

/-- `no_stranded_data` for every incarnation (also C11's pipe clause): data behind `LastKnwnPos` has a charged worker -/
theorem incarnation_no_stranded_data (n : Nat) (l : Nat → Bool) (p : Nat → Bytes) (f : Ev → Bool) (o : Bool)
    (tr : List ILabel) (s : Nat) (d : Desc) :
    let ist := irun cfgNow icfgNow (iinit n l p f o) tr
    (ist.cur.srcs s).desc = some d →
    ist.cur.closed = true ∨ ist.cur.pipe = .deleted ∨ d.charged = true ∨ ¬ d.pos < d.lastKnown ∨ d.stale = true := by
  intro ist hd
  obtain ⟨ls, hls⟩ := incarnation_is_fresh_pipe n l p f o tr
  have h := no_stranded_data n l p f o ls s d
  simp only at h
  rw [← hls] at h
  exact h hd

/-- **The specification for every incarnation**: there is a trace `ls` of the plain LTS that ends in the current
incarnation's state, and if the monitor finds `ls` clean for a listening source, then in a quiescent running state with the
pipe alive this incarnation's part of the pipe's partition holds exactly the events written to the source **after this
incarnation was created** for which the filter is true — once, in stored order, provenance appended
(`specProj` reads the incarnation's own `createdAt`). -/
theorem incarnation_pipe_spec (n : Nat) (l : Nat → Bool) (p : Nat → Bytes) (f : Ev → Bool) (o : Bool) (tr : List ILabel) :
    let ist := irun cfgNow icfgNow (iinit n l p f o) tr
    ∃ ls, ist.cur = run cfgNow (init n l p f o) ls ∧
      ∀ s, quiescent ist.cur = true → ist.cur.closed = false → ist.cur.down = false → ist.cur.pipe = .live → s < ist.cur.n →
        (ist.cur.srcs s).listens = true → (runM cfgNow (init n l p f o, mon0) ls).2.clean s = true →
        proj s ist.cur.dest = specProj ist.cur s := by
  intro ist
  obtain ⟨ls, hls⟩ := incarnation_is_fresh_pipe n l p f o tr
  refine ⟨ls, hls, ?_⟩
  intro s
  have h := C10Spec.pipe_spec_run n l p f o ls s
  simp only at h
  rw [← hls] at h
  exact h

/-! ### kernel-evaluated runs: the same schedule with and without the repair of F74 -/

/-- pipe copies `evA`; deleted; `evB` is written while no pipe exists; the name is created again; `evC` is written and copied -/
def recreateRun : List ILabel :=
  [.plain .create, .plain (.write 0 [evA]), .plain (.enqueue 0), .plain .notify] ++ copyCycle.map .plain ++
  [.plain .delete, .plain (.write 0 [evB]), .plain (.enqueue 0), .plain .notify, .recreate,
   .plain (.write 0 [⟨3, [99], []⟩]), .plain (.enqueue 0), .plain .notify] ++ copyCycle.map .plain

/-- the code as it is now: the second incarnation copies `evC` only — its part of the partition meets the specification,
the partition is `evA` (first incarnation) followed by `evC` -/
theorem recreate_witness :
    let ist := irun cfgNow icfgNow (iinit 1 (fun _ => true) (fun _ => prov0) (fun _ => true) false) recreateRun
    ist.gen = 1 ∧ quiescent ist.cur = true ∧ ist.cur.pipe = .live ∧
    proj 0 ist.cur.dest = specProj ist.cur 0 ∧
    (partition ist).map (·.2.msg) = [[97], [99]] := by
  decide +kernel

/-- **F74 as the model's other branch**: if the deleted pipe's positions file survives until the name is created again
(`deleteCleansUpBeforeAcknowledging = false`: the old asynchronous clean-up, parked), the new pipe has a descriptor before
any notification and copies `evB`, written while no pipe existed. -/
theorem cex_recreate_inherits_positions_without_cleanup :
    let ist := irun cfgNow ⟨false, true⟩ (iinit 1 (fun _ => true) (fun _ => prov0) (fun _ => true) false) recreateRun
    quiescent ist.cur = true ∧ ist.cur.pipe = .live ∧ proj 0 ist.cur.dest ≠ specProj ist.cur 0 ∧
    (partition ist).map (·.2.msg) = [[97], [98], [99]] := by
  decide +kernel

/-- non-vacuity of `recreated_pipe_inherits_nothing`: the `recreate` step of that run is enabled, with a leftover worker
of the deleted incarnation still running (deleted while the worker waits) -/
example :
    let ist := irun cfgNow icfgNow (iinit 1 (fun _ => true) (fun _ => prov0) (fun _ => true) false)
      [.plain .create, .plain (.write 0 [evA]), .plain (.enqueue 0), .plain .notify, .plain (.wopen 0), .plain .delete]
    (istep cfgNow icfgNow ist .recreate).isSome = true ∧
    ((istep cfgNow icfgNow ist .recreate).map (·.old)) = some 1 := by
  decide +kernel

/-- … and `Shutdown` waits for that leftover worker: `halt` is enabled only after it has gone -/
example :
    let tr : List ILabel := [.plain .create, .plain (.write 0 [evA]), .plain (.enqueue 0), .plain .notify, .plain (.wopen 0),
      .plain .delete, .recreate, .plain .shutdown]
    let ist := irun cfgNow icfgNow (iinit 1 (fun _ => true) (fun _ => prov0) (fun _ => true) false) tr
    (istep cfgNow icfgNow ist (.plain .halt)).isSome = false ∧
    ((istep cfgNow icfgNow ist .oldExit).bind (fun i => istep cfgNow icfgNow i (.plain .halt))).isSome = true := by
  decide +kernel

end Logrange.Props.C10Inc

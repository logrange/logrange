import Logrange.Props.C20Parts.Tables
/-! C20 — which bytes are inert separators for every format of both regenerated lists -/
namespace Logrange.Props.C20
open Logrange.Date Logrange.Generated

/-- on the regenerated lists and terms (checked per format against the byte set `lineSeps`, in `tables_run`): every byte of
`isLineSep` is inert for every format of both lists (one
direction only, so that a table edit which makes MORE bytes inert raises no alarm; an edit that lets some expression consume one
of these separators breaks this obligation) -/
theorem line_separators_table :
    (List.range 256).all (fun n => !isLineSep (UInt8.ofNat n) || allFmts.all (fmtInert (UInt8.ofNat n))) = true := by
  rw [List.all_eq_true]
  intro n _
  cases h : isLineSep (UInt8.ofNat n) with
  | false => rfl
  | true =>
    simp only [Bool.not_true, Bool.false_or, List.all_eq_true]
    exact fun cf hcf => fmtInert_of_seps h (List.all_eq_true.mp tables_col.2.2.1 cf hcf)

/-- on the current tables the other printable ASCII bytes are consumed by some expression: blank `+ , - /`, digits, `:`, letters
(the `.` is inert today only because the `.` of `.SSS` and `MM.DD.YYYY` is unescaped; it is not counted as a separator) -/
theorem non_separators_consumed :
    [32, 43, 44, 45, 47, 48, 57, 58, 65, 90, 97, 122].all (fun c => !(allFmts.all (fmtInert c))) = true := tables_col.2.1

end Logrange.Props.C20

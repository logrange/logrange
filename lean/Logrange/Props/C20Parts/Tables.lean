import Logrange.Props.C20Parts.Defs
/-!
C20 — the evaluations that need a whole compiled list, in one kernel run.

`compile` applies the 24 terms one after the other with `strings.Replace`, twice per format (`dateMap`, `regexpMap`), which is
slow in the kernel: an evaluation that walks a whole list is mostly that. Inside one declaration the kernel compiles each format
once, and 58 formats are common to the two lists, so every fact that needs all of `colFmts` or all of `lqlFmts` is evaluated here
once, in groups: the table-wide checks (`tables_col`), the instances of `Props/C20Findings.lean`, `Props/C20Line.lean` and
`Props/C20.lean` that search the collector list to its end (`tables_findings`, `tables_line`, `tables_c20`), and the LQL table with
the LQL literals of those files and of `Props/C20Glue.lean` (`tables_lql`). The files state the facts one by one and project.
An instance whose claimant stands early in its list forces only the formats before it and is evaluated where it is stated.
-/
namespace Logrange.Props.C20
open Logrange.Date Logrange.Generated

theorem tables_run :
    -- both tables: own expression and layout, consumed and inert bytes, expression = `rxOfLayout`; collector formats with a numeric layout
    (colFmts.all ownOK = true ∧
     [32, 43, 44, 45, 47, 48, 57, 58, 65, 90, 97, 122].all (fun c => !(allFmts.all (fmtInert c))) = true ∧
     allFmts.all fmtInertSeps = true ∧
     colFmts.all (fun cf => cf.rx == rxOfLayout cf.layout) = true ∧
     lqlFmts.all (fun cf => cf.rx == rxOfLayout cf.layout) = true ∧
     (colFmts.filter (fun cf => NumericLayout cf.layout)).length = 13) ∧
    -- Props/C20Findings.lean
    (lpRun flpcfg (LP.init flpcfg)
      ([[50, 48, 49, 57, 45, 48, 49, 45, 48, 50, 32, 48, 51, 58, 48, 52, 58, 48, 53, 32, 97, 10],
        [50, 48, 49, 57, 45, 48, 49, 45, 48, 50, 32, 48, 51, 58, 48, 52, 58, 48, 54, 46, 55, 56, 57, 32, 98, 10],
        [50, 48, 49, 57, 45, 48, 49, 45, 48, 50, 32, 48, 51, 58, 48, 52, 58, 48, 55, 46, 53, 48, 48, 32, 43, 48, 51, 48, 48, 32, 99, 10]].map
        (lineAns gadj colFmts fnow)) =
      [.dated 49 ⟨2019, 1, 2, 3, 4, 5, 0, .dflt⟩, .dated 49 ⟨2019, 1, 2, 3, 4, 6, 0, .dflt⟩, .dated 49 ⟨2019, 1, 2, 3, 4, 7, 0, .dflt⟩] ∧
     (lpRun flpcfg (LP.init flpcfg) (f68File.map (lineAns gadj colFmts fnow))).getLast? =
       some (.carried (some ⟨2019, 1, 2, 3, 4, 5, 0, .dflt⟩)) ∧
     parseFirst gadj colFmts fnow [49, 47, 50, 47, 50, 48, 49, 57, 32, 48, 51, 58, 48, 52, 58, 48, 53, 32, 112, 109]
       = .ok 16 ⟨2019, 2, 1, 3, 4, 5, 0, .dflt⟩ ∧
     parseFirst gadj colFmts fnow [50, 48, 49, 57, 45, 48, 51, 45, 49, 49, 32, 49, 48, 58, 48, 48, 58, 48, 48, 32, 80, 83, 84]
       = .ok 47 ⟨2019, 3, 11, 10, 0, 0, 0, .named [80, 83, 84] 0⟩ ∧
     parseFirst gadj colFmts fnow [68, 101, 99, 32, 49, 49, 32, 49, 51, 58, 49, 52, 58, 49, 53]
       = .ok 57 ⟨2025, 12, 11, 13, 14, 15, 0, .dflt⟩ ∧
     parseFirst gadj colFmts fnow wFrac = .ok 42 ⟨2019, 1, 2, 12, 0, 0, 900000000, .dflt⟩) ∧
    -- Props/C20Line.lean
    (((colFmts.take 50).all (fun cf => match cf.rx with
        | some r => findFrom cf.guard r false [73, 78, 70, 79, 32, 91, 109, 97, 105, 110, 93, 32, 114, 101, 113, 117, 101, 115, 116, 32, 115, 101, 114, 118, 101, 100, 32, 105, 110, 32, 51, 53, 32, 109, 115] == none
        | none => false)) = true ∧
     parseFirst gadj colFmts lnow ([50, 48, 49, 57, 45, 48, 51, 45, 49, 49, 32, 49, 50, 58, 48, 48, 58, 48, 48] ++ [9, 73, 78, 70, 79, 32, 91, 109, 97, 105, 110, 93, 32, 114, 101, 113, 117, 101, 115, 116, 32, 115, 101, 114, 118, 101, 100, 32, 105, 110, 32, 51, 53, 32, 109, 115])
       = .ok 49 ⟨2019, 3, 11, 12, 0, 0, 0, .dflt⟩ ∧
     parseFirst gadj colFmts lnow [50, 48, 49, 57, 45, 48, 51, 45, 49, 49] = .ok 52 ⟨2019, 3, 11, 0, 0, 0, 0, .dflt⟩ ∧
     parseFirst gadj colFmts lnow ([50, 48, 49, 57, 45, 48, 51, 45, 49, 49] ++ [32, 49, 50, 58, 48, 48, 58, 48, 48, 32, 120])
       = .ok 49 ⟨2019, 3, 11, 12, 0, 0, 0, .dflt⟩ ∧
     parseFirst gadj colFmts lnow ([50, 48, 49, 57, 45, 48, 51, 45, 49, 49] ++ [9, 115, 101, 101, 32, 50, 48, 49, 56, 45, 48, 49, 45, 48, 49, 32, 49, 48, 58, 48, 48, 58, 48, 48, 32, 102, 111, 114, 32, 100, 101, 116, 97, 105, 108, 115])
       = .ok 49 ⟨2018, 1, 1, 10, 0, 0, 0, .dflt⟩ ∧
     parseFirst gadj colFmts lnow ([50, 48, 49, 57, 45, 48, 51, 45, 49, 49, 32, 49, 50, 58, 48, 48, 58, 48, 48, 46, 49, 50, 51] ++ [52, 32, 109, 115])
       = .ok 42 ⟨2019, 3, 11, 12, 0, 0, 123400000, .dflt⟩ ∧
     parseFirst gadj colFmts lnow ([50, 48, 49, 57, 45, 48, 51, 45, 49, 49, 32, 49, 50, 58, 48, 48, 58, 48, 48] ++ [32, 73, 78, 70, 79, 32, 120])
       = .ok 47 ⟨2019, 3, 11, 12, 0, 0, 0, .named [73, 78, 70] 0⟩) ∧
    -- Props/C20.lean
    (lpRun lpcfg (LP.init lpcfg) ([[50, 48, 49, 57, 45, 48, 51, 45, 49, 49, 32, 49, 51, 58, 49, 52, 58, 49, 53, 32, 99, 111, 109, 46, 97, 99, 109, 101, 46, 83, 101, 114, 118, 101, 114, 32, 104, 97, 110, 100, 108, 101, 10], [73, 78, 70, 79, 58, 32, 114, 101, 113, 117, 101, 115, 116, 32, 104, 97, 110, 100, 108, 101, 100, 10], [50, 48, 49, 57, 45, 48, 51, 45, 49, 49, 32, 49, 51, 58, 50, 49, 58, 49, 54, 32, 99, 111, 109, 46, 97, 99, 109, 101, 46, 83, 101, 114, 118, 101, 114, 32, 104, 97, 110, 100, 108, 101, 10]].map (lineAns gadj colFmts now0)) =
      [.dated 49 ⟨2019, 3, 11, 13, 14, 15, 0, .dflt⟩, .carried (some ⟨2019, 3, 11, 13, 14, 15, 0, .dflt⟩),
       .dated 49 ⟨2019, 3, 11, 13, 21, 16, 0, .dflt⟩] ∧
     ((lineAns gadj colFmts now0 f68Header1).findable = true ∧ (lineAns gadj colFmts now0 f68Header2).findable = true ∧
      (List.range colFmts.length).all (fun i => ((lineAns gadj colFmts now0 f68Undated).fast i).isNone) = true ∧
      headersDated (f68File.map (lineAns gadj colFmts now0)) (lpRun lpcfg (LP.init lpcfg) (f68File.map (lineAns gadj colFmts now0))) = false) ∧
     parseFirst gadj colFmts now0 [50, 48, 49, 57, 47, 48, 49, 47, 48, 49] = .ok 33 ⟨2019, 1, 1, 0, 0, 0, 0, .dflt⟩ ∧
     parseFirst gadj colFmts now0 [49, 49, 47, 51, 47, 50, 48, 49, 57, 32, 49, 50, 58, 48, 53, 32, 65, 77]
       = .ok 17 ⟨2019, 3, 11, 0, 5, 0, 0, .dflt⟩) ∧
    -- the LQL table (own expression, numeric layouts, no format claims a digit string), then the LQL literals of `Props/C20.lean`,
    -- `Props/C20Findings.lean`, `Props/C20Glue.lean`
    ((lqlFmts.all (fun cf => ownOK cf && (symLayout cf.layout).all lqlShapeOK) = true ∧
      (lqlFmts.filter (fun cf => NumericLayout cf.layout)).length = 15 ∧
      lqlFmts.all fmtRejectsDigits = true) ∧
     (parseLql gcfg lqlFmts ⟨2026, 9, 26⟩ (decimal 9223372036854775808) = .err ∧
      parseLql gcfg lqlFmts now0 [50, 48, 49, 57, 45, 48, 51, 45, 49, 49, 84, 49, 50, 58, 48, 48, 58, 48, 48, 90]
        = .abs 39 ⟨2019, 3, 11, 12, 0, 0, 0, .dflt⟩ ∧
      parseLql { gcfg with fmtLower := true } lqlFmts now0 [50, 48, 49, 57, 45, 48, 51, 45, 49, 49, 84, 49, 50, 58, 48, 48, 58, 48, 48, 90]
        = .abs (C20.lqlFormats.idxOf [89, 89, 89, 89, 45, 77, 77, 45, 68, 68]) ⟨2019, 3, 11, 0, 0, 0, 0, .dflt⟩) ∧
     (parseLql gcfg lqlFmts fnow wFrac = .abs 49 ⟨2019, 1, 2, 12, 0, 0, 0, .dflt⟩ ∧
      parseLql gcfg lqlFmts fnow wTrail = .abs 49 ⟨2019, 1, 2, 12, 0, 0, 0, .dflt⟩ ∧
      parseLql gcfg lqlFmts fnow wLead = .abs 49 ⟨2019, 1, 2, 12, 0, 0, 0, .dflt⟩) ∧
     (parseLql gcfg lqlFmts ⟨2026, 9, 26⟩ [77, 111, 110, 32, 77, 97, 114, 32, 32, 52, 32, 49, 50, 58, 51, 52, 58, 52, 51, 32, 50, 48, 49, 57]
        = .abs 1 ⟨2019, 3, 4, 12, 34, 43, 0, .dflt⟩ ∧
      parseLql gcfg lqlFmts ⟨2026, 9, 26⟩ [77, 111, 110, 32, 77, 97, 114, 32, 52, 32, 49, 50, 58, 51, 52, 58, 52, 51, 32, 50, 48, 49, 57]
        = .abs 66 ⟨2026, 9, 26, 12, 34, 43, 0, .dflt⟩)) := by
  decide +kernel

theorem tables_col : type_of% tables_run.1 := tables_run.1
theorem tables_findings : type_of% tables_run.2.1 := tables_run.2.1
theorem tables_line : type_of% tables_run.2.2.1 := tables_run.2.2.1
theorem tables_c20 : type_of% tables_run.2.2.2.1 := tables_run.2.2.2.1
theorem tables_lql : type_of% tables_run.2.2.2.2 := tables_run.2.2.2.2

/-- every collector format: layout well formed for the round trip, own expression returns the whole text on every shape -/
theorem col_formats_own_ok : colFmts.all ownOK = true := tables_col.1

/-- every LQL format: layout well formed for the round trip, own expression returns the whole text on every shape; and every shape is
a safe LQL literal (no blank at either end, no leading minus, a digit inside) -/
theorem lql_formats_own_ok : lqlFmts.all (fun cf => ownOK cf && (symLayout cf.layout).all lqlShapeOK) = true :=
  tables_lql.1.1

end Logrange.Props.C20

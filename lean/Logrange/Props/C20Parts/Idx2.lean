import Logrange.Props.C20Parts.Defs
/-! C20 — kernel evaluation: first-match certificates of both lists (58 formats are common to them), indices 50..end -/
namespace Logrange.Props.C20
open Logrange.Date
theorem idx_ok_2 :
    idxRangeOK (colFmts.map viaLayout) 50 100000 = true ∧ idxRangeOK (lqlFmts.map viaLayout) 50 100000 = true := by decide +kernel
end Logrange.Props.C20

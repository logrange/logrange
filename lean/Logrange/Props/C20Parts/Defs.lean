import Logrange.Proofs.DateLine
import Logrange.Proofs.DateLineParser
import Logrange.Generated.C20
/-! C20 — the regenerated tables as compiled formats (shared by the evaluation modules, which lake builds in parallel). -/
namespace Logrange.Props.C20
open Logrange.Date Logrange.Generated

def gterms : List Term := C20.terms
def colFmts : List CFormat := C20.collectorFormats.map (compile gterms C20.regexpLeftGuard)
def lqlFmts : List CFormat := C20.lqlFormats.map (compile gterms C20.regexpLeftGuard)
def gadj : Adjust := { year := C20.formatParseAdjustsYear, date := C20.formatParseAdjustsDate }
def gcfg : LqlCfg :=
  { lower := C20.lqlLowerCases, trim := C20.lqlTrimsBlanks, fmtLower := C20.lqlLowerCases && C20.lqlFormatsSeeLowerCased, adj := gadj }

/-- all entries of both lists -/
def allFmts : List CFormat := colFmts ++ lqlFmts

/-- `idxOK` for the indices `lo ≤ k < hi` of a list (the evaluation is cut into such pieces) -/
def idxRangeOK (fmts : List CFormat) (lo hi : Nat) : Bool :=
  (List.range fmts.length).all (fun k => !(decide (lo ≤ k) && decide (k < hi)) || idxOK fmts k)

theorem idxOK_of_range {fmts : List CFormat} {lo hi k : Nat} (h : idxRangeOK fmts lo hi = true) (hk : k < fmts.length)
    (h1 : lo ≤ k) (h2 : k < hi) : idxOK fmts k = true := by
  simp only [idxRangeOK, List.all_eq_true, List.mem_range] at h
  have := h k hk
  simpa [h1, h2] using this

/-- the separator bytes that are inert for every format of both lists -/
def isLineSep (c : UInt8) : Bool :=
  c < 32 || (33 ≤ c && c ≤ 42) || (59 ≤ c && c ≤ 64) || (91 ≤ c && c ≤ 96) || 123 ≤ c

def fmtInert (c : UInt8) (cf : CFormat) : Bool :=
  match cf.rx with
  | some r => inertD c r
  | none => false

/-- the format with its expression rebuilt from its layout. `tables_run` checks that this is the format itself
(`cf.rx == rxOfLayout cf.layout`, both sides options); the first-match certificates are evaluated on it, so that the kernel never
forces the `rx` of `compile` there: it is overwritten, and `regexpMap` is the slower half of `compile`. -/
def viaLayout (cf : CFormat) : CFormat := { cf with rx := rxOfLayout cf.layout }

theorem map_viaLayout {fmts : List CFormat} (h : fmts.all (fun cf => cf.rx == rxOfLayout cf.layout) = true) :
    fmts.map viaLayout = fmts := by
  rw [List.all_eq_true] at h
  refine (List.map_congr_left fun cf hcf => ?_).trans (List.map_id _)
  have := h cf hcf
  rw [beq_iff_eq] at this
  rw [viaLayout, ← this]
  rfl

def lineSeps : BSet := [(0, 31), (33, 42), (59, 64), (91, 96), (123, 255)]

theorem inCls_lineSeps {c : UInt8} (h : isLineSep c = true) : inCls lineSeps c = true := by
  have := c.toNat_lt
  simp only [isLineSep, inCls, lineSeps, List.any_cons, List.any_nil, Bool.or_eq_true, Bool.and_eq_true, decide_eq_true_eq,
    UInt8.lt_iff_toNat_lt, UInt8.le_iff_toNat_le, UInt8.toNat_ofNat] at h ⊢
  omega

def fmtInertSeps (cf : CFormat) : Bool :=
  match cf.rx with
  | some r => inertSet lineSeps r
  | none => false

theorem fmtInert_of_seps {c : UInt8} (hc : isLineSep c = true) {cf : CFormat} (h : fmtInertSeps cf = true) :
    fmtInert c cf = true := by
  unfold fmtInertSeps at h
  unfold fmtInert
  split at h
  · exact inertD_of_inertSet (inCls_lineSeps hc) _ h
  · cases h

def lnow : Now := ⟨2026, 9, 26⟩

def fnow : Now := ⟨2026, 9, 26⟩

def flpcfg : LPCfg :=
  { maxFail := C20.lpMaxFailCnt, maxSkip0 := C20.lpMaxSkipCnt, maxSkipOnDetect := C20.lpMaxSkipCntOnDetect, skipCap := C20.lpSkipCap,
    resetOnFast := C20.lpResetsCountOnFastPath, resetOnDetect := C20.lpResetsCountOnDetect,
    lastOnFast := C20.lpSetsLastDateOnFastPath, lastOnDetect := C20.lpSetsLastDateOnDetect }

def now0 : Now := ⟨2026, 9, 26⟩

def lpcfg : LPCfg :=
  { maxFail := C20.lpMaxFailCnt, maxSkip0 := C20.lpMaxSkipCnt, maxSkipOnDetect := C20.lpMaxSkipCntOnDetect, skipCap := C20.lpSkipCap,
    resetOnFast := C20.lpResetsCountOnFastPath, resetOnDetect := C20.lpResetsCountOnDetect,
    lastOnFast := C20.lpSetsLastDateOnFastPath, lastOnDetect := C20.lpSetsLastDateOnDetect }

def f68Header1 : Bytes := [50, 48, 49, 57, 45, 48, 49, 45, 48, 50, 32, 48, 51, 58, 48, 52, 58, 48, 53, 32, 97, 10]
def f68Undated : Bytes := [73, 78, 70, 79, 58, 32, 120, 10]
def f68Header2 : Bytes := [50, 48, 49, 57, 45, 48, 49, 45, 48, 50, 32, 48, 51, 58, 48, 57, 58, 48, 48, 32, 122, 10]
def f68File : List Bytes := [f68Header1] ++ List.replicate 10 f68Undated ++ [f68Header2]

def wFrac : Bytes := [50, 48, 49, 57, 45, 48, 49, 45, 48, 50, 32, 49, 50, 58, 48, 48, 58, 48, 48, 46, 57, 48, 48]
def wTrail : Bytes := [50, 48, 49, 57, 45, 48, 49, 45, 48, 50, 32, 49, 50, 58, 48, 48, 58, 48, 48, 32, 116, 114, 97, 105, 108, 105, 110, 103]
def wLead : Bytes := [120, 50, 48, 49, 57, 45, 48, 49, 45, 48, 50, 32, 49, 50, 58, 48, 48, 58, 48, 48]
def wCore : Bytes := [50, 48, 49, 57, 45, 48, 49, 45, 48, 50, 32, 49, 50, 58, 48, 48, 58, 48, 48]

end Logrange.Props.C20

import Logrange.Props.C20Parts.Defs
/-! C20 — kernel evaluation: first-match certificates of both lists (58 formats are common to them), indices 0..49 -/
namespace Logrange.Props.C20
open Logrange.Date
theorem idx_ok_1 :
    idxRangeOK (colFmts.map viaLayout) 0 50 = true ∧ idxRangeOK (lqlFmts.map viaLayout) 0 50 = true := by decide +kernel
end Logrange.Props.C20

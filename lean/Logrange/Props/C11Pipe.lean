import Logrange.Proofs.PipeLive
import Logrange.Props.C10
/-!
# C11 — the pipe-worker half: an event written while a worker is finishing is copied without waiting for a later write

Property theorems only (model: the pipe LTS `Logrange/Model/PipeLts.lean` of C10; lemmas: `Logrange/Proofs/PipeLive.lean`).
`no_stranded_data` (C10) is the safety half for all interleavings: data behind `LastKnwnPos` has a charged worker. Here is
the liveness half in bounded form, like `eventually_delivered` for readers: the two critical sections that can race — the
finishing worker's `workerDone` (hook `pipe.worker.beforeDone` parks the worker right before it) and the notificator's
`onWriteEvent` for the late write — are taken in **either order**, and in both the result is the same state: a NEW worker is
charged for the source with `LastKnwnPos` at the end of the late write; that worker's first round (open the cursor at `Pos`,
copy, save — no step of any writer) puts everything stored, the late event included, into the pipe's partition.
The write itself and its publication (`write`, `enqueue`) touch neither the descriptor nor the worker, so every interleaving
of the worker's finishing steps with the write's three steps reduces to these two orders.
-/
namespace Logrange.Props.C11Pipe
open Logrange.PipeLts Logrange.Props.C10

/-- the order of "sign off" and "check for more data", regenerated from `ppipe.workerDone` / `ppipe.onWriteEvent`:
`wCharged = false` precedes `startWorker` in `workerDone`; `LastKnwnPos = …` precedes `startWorker` in `onWriteEvent`; each
pair lies inside one critical section of the pipe's lock (so the model's `wdone` and `notify` are atomic steps); and
`workerDone` does call `startWorker`. The model's `wdone` clears `charged` first and `onWriteEvent` records first — as here. -/
theorem finishing_order_facts :
    Generated.C10.workerDoneSignsOffBeforeRecheck = true ∧ Generated.C10.onWriteEventRecordsBeforeStart = true ∧
    Generated.C10.signOffAndNotificationUnderOneLock = true ∧ Generated.C10.workerDoneRearms = true ∧
    Generated.C10.startWorkerCondition = true := by decide +kernel

/-- **Either order re-arms** (any state of the LTS — no reachability needed — with the pipe alive and the service running):
a worker of source `s` has left its loop (`finishing`, still charged), the notification `we` of a write that ends beyond the
saved position is at the head of the channel and finds the pipe. Whether the notificator or `workerDone` takes the pipe's
lock first, afterwards a new worker is `starting`, the descriptor is charged with `LastKnwnPos = we.EndPos`, the
notification is consumed and nothing was written to the pipe's partition yet. -/
theorem late_event_rearms_in_either_order (st : State) (s : Nat) (d : Desc) (we : WE) (rest : List WE)
    (hns : noStart cfgNow st = false) (hdn : st.down = false)
    (hch : st.chan = we :: rest) (hsrc : we.src = s) (hhit : (pipesForSource st s).1 = true)
    (hd : (st.srcs s).desc = some d) (hw : (st.srcs s).wk = .finishing) (hc : d.charged = true)
    (hlt : d.pos < we.endPos) (tr : List Label) (htr : tr = [.notify, .wdone s] ∨ tr = [.wdone s, .notify]) :
    let st' := run cfgNow st tr
    (st'.srcs s).wk = .starting ∧ (st'.srcs s).desc = some (rearmed d we) ∧ st'.chan = rest ∧ st'.dest = st.dest := by
  have _facts := finishing_order_facts
  have hre : cfgNow.rearm = true := by decide +kernel
  rcases htr with h | h
  · subst h
    obtain ⟨a, b, c, e, _⟩ := notify_then_done cfgNow st s d we rest hre hns hdn hch hsrc hhit hd hw hc hlt
    exact ⟨a, b, c, e⟩
  · subst h
    obtain ⟨a, b, c, e, _⟩ := done_then_notify cfgNow st s d we rest hre hns hdn hch hsrc hhit hd hw hc hlt
    exact ⟨a, b, c, e⟩

/-- **The late event is copied without a later write** (bounded liveness): from such a state, for either order of the two
critical sections, the explicit schedule `order ++ [wopen s, wcopy s k, wsave s]` — which contains no `write`, `enqueue` or
further `notify` — ends with the saved position at the end of the stored data (`k` large enough for one round; a smaller `k`
just means more rounds), and the pipe's partition has grown by exactly the accepted events from the old position to the end
— the late write's events among them (`d.pos < we.EndPos ≤ stored`). Length of the schedule: 5. -/
theorem event_written_while_finishing_is_copied (st : State) (s : Nat) (d : Desc) (we : WE) (rest : List WE)
    (hns : noStart cfgNow st = false) (hdn : st.down = false) (hlive : st.pipe = .live)
    (hch : st.chan = we :: rest) (hsrc : we.src = s) (hhit : (pipesForSource st s).1 = true)
    (hd : (st.srcs s).desc = some d) (hw : (st.srcs s).wk = .finishing) (hc : d.charged = true)
    (hlt : d.pos < we.endPos) (hend : we.endPos ≤ (st.srcs s).log.length)
    (tr : List Label) (htr : tr = [.notify, .wdone s] ∨ tr = [.wdone s, .notify])
    (k : Nat) (hk : (st.srcs s).log.length ≤ d.pos + k) :
    let st2 := run cfgNow st (tr ++ [.wopen s, .wcopy s k, .wsave s])
    (st2.srcs s).desc = some { rearmed d we with pos := (st.srcs s).log.length } ∧
    we.endPos ≤ (st.srcs s).log.length ∧
    st2.dest = st.dest ++ ((slice (st.srcs s).log d.pos (st.srcs s).log.length).filter st.flt).map
      (fun e => (s, addProv (st.srcs s).prov e)) ∧
    (st2.srcs s).log = (st.srcs s).log ∧ st2.chan = rest := by
  have hre : cfgNow.rearm = true := by decide +kernel
  have hcl : st.closed = false := by
    simp only [noStart, Bool.or_eq_false_iff] at hns; exact hns.1
  have hmid : let st' := run cfgNow st tr
      (st'.srcs s).wk = .starting ∧ (st'.srcs s).desc = some (rearmed d we) ∧ st'.chan = rest ∧ st'.dest = st.dest ∧
      (st'.srcs s).log = (st.srcs s).log ∧ st'.pipe = st.pipe ∧ st'.closed = st.closed ∧ st'.flt = st.flt ∧
      (st'.srcs s).prov = (st.srcs s).prov := by
    rcases htr with h | h
    · subst h; exact notify_then_done cfgNow st s d we rest hre hns hdn hch hsrc hhit hd hw hc hlt
    · subst h; exact done_then_notify cfgNow st s d we rest hre hns hdn hch hsrc hhit hd hw hc hlt
  obtain ⟨m1, m2, m3, m4, m5, m6, m7, m8, m9⟩ := hmid
  have hround := starting_worker_round cfgNow (run cfgNow st tr) s k (rearmed d we) m1 m2 (by rw [m7]; exact hcl) (by rw [m6]; exact hlive)
  rw [run_append]
  obtain ⟨r1, _, r3, r4, r5⟩ := hround
  have hmin : min ((rearmed d we).pos + k) (st.srcs s).log.length = (st.srcs s).log.length := by
    have : (rearmed d we).pos = d.pos := rfl
    rw [this]; exact Nat.min_eq_right hk
  have hf : cfgNow.applyFilter = true := by decide +kernel
  rw [m5, hmin] at r1 r3
  refine ⟨r1, hend, ?_, by rw [r4, m5], by rw [r5, m3]⟩
  rw [r3, m4, m8, m9]
  simp [sel, hf, rearmed]

/-- the four ways `workerDone` can fall between the three steps of the late write (stored, published, notified) -/
def finishingInterleavings (s : Nat) (batch : List Ev) : List (List Label) :=
  [[.wdone s, .write s batch, .enqueue 0, .notify], [.write s batch, .wdone s, .enqueue 0, .notify],
   [.write s batch, .enqueue 0, .wdone s, .notify], [.write s batch, .enqueue 0, .notify, .wdone s]]

/-- **Every interleaving of the worker's sign-off with the late write** (stored → published → notified): a worker of source
`s` has left its loop (`finishing`, charged), nothing is queued or unpublished, a batch is written to `s`. Wherever
`workerDone` falls — before the write, between the write and its publication, between publication and notification, or after
the notification — the same three worker steps afterwards (open, copy, save; no further write) leave the saved position at the
end of the stored data and the pipe's partition grown by exactly the accepted events from the old position to that end: the
late batch is there. (`write`/`enqueue` commute with `wdone`: `done_commutes_with_write_and_publication`; the remaining two
orders are `late_event_rearms_in_either_order`.) -/
theorem late_write_copied_in_every_interleaving (st : State) (s : Nat) (d : Desc) (batch : List Ev)
    (hns : noStart cfgNow st = false) (hdn : st.down = false) (hlive : st.pipe = .live) (hs : s < st.n)
    (hb : batch.isEmpty = false) (hpend : st.pend = []) (hchan : st.chan = [])
    (hhit : (pipesForSource st s).1 = true)
    (hd : (st.srcs s).desc = some d) (hw : (st.srcs s).wk = .finishing) (hc : d.charged = true)
    (hpos : d.pos ≤ (st.srcs s).log.length)
    (tr : List Label) (htr : tr ∈ finishingInterleavings s batch) (k : Nat) (hk : (st.srcs s).log.length + batch.length ≤ d.pos + k) :
    let st2 := run cfgNow st (tr ++ [.wopen s, .wcopy s k, .wsave s])
    (∃ d2, (st2.srcs s).desc = some d2 ∧ d2.pos = (st.srcs s).log.length + batch.length ∧ d2.charged = true) ∧
    (st2.srcs s).log = (st.srcs s).log ++ batch ∧
    st2.dest = st.dest ++ ((slice ((st.srcs s).log ++ batch) d.pos ((st.srcs s).log.length + batch.length)).filter st.flt).map
      (fun e => (s, addProv (st.srcs s).prov e)) := by
  have hre : cfgNow.rearm = true := by decide +kernel
  have hcap : st.chan.length < cfgNow.chanCap := by rw [hchan]; decide
  have hblen : 0 < batch.length := by
    cases batch with
    | nil => simp at hb
    | cons _ _ => simp
  -- the state after "stored and published"
  have hW := step_write0 cfgNow st s batch hdn hs hb hpend
  have hE := step_enqueue0 cfgNow st s (st.srcs s) batch hdn hcap
  have hWE : ∀ rest, run cfgNow st (.write s batch :: .enqueue 0 :: rest) = run cfgNow (published st s (st.srcs s) batch) rest := by
    intro rest; rw [run_cons_some _ _ _ _ _ hW, run_cons_some _ _ _ _ _ hE]
  obtain ⟨hc1, hc2⟩ := done_commutes_with_write_and_publication cfgNow st s d batch hre hns hdn hs hb hpend hcap hd hw
  -- the hypotheses of the two-order theorem hold in that state
  let we : WE := ⟨s, (st.srcs s).log.length, (st.srcs s).log.length + batch.length⟩
  have key : ∀ o, (o = [Label.notify, .wdone s] ∨ o = [Label.wdone s, .notify]) →
      let st2 := run cfgNow (published st s (st.srcs s) batch) (o ++ [.wopen s, .wcopy s k, .wsave s])
      (∃ d2, (st2.srcs s).desc = some d2 ∧ d2.pos = (st.srcs s).log.length + batch.length ∧ d2.charged = true) ∧
      (st2.srcs s).log = (st.srcs s).log ++ batch ∧
      st2.dest = st.dest ++ ((slice ((st.srcs s).log ++ batch) d.pos ((st.srcs s).log.length + batch.length)).filter st.flt).map
        (fun e => (s, addProv (st.srcs s).prov e)) := by
    intro o ho
    have hlen : ((published st s (st.srcs s) batch).srcs s).log.length = (st.srcs s).log.length + batch.length := by
      simp [published, setSrc]
    have h := event_written_while_finishing_is_copied (published st s (st.srcs s) batch) s d we []
      hns hdn hlive (by simp [published, setSrc, hchan, we]) rfl
      (by rw [pipesForSource_congr st (published st s (st.srcs s) batch) s rfl rfl rfl (by simp [published, setSrc])]; exact hhit)
      (by simp [published, setSrc, hd]) (by simp [published, setSrc, hw]) hc
      (by simp only [we]; omega) (by rw [hlen]; exact Nat.le_refl _) o ho k (by rw [hlen]; exact hk)
    obtain ⟨h1, _, h3, h4, _⟩ := h
    refine ⟨⟨_, h1, by rw [hlen], rfl⟩, ?_, ?_⟩
    · rw [h4]; simp [published, setSrc]
    · rw [h3, hlen]; simp [published, setSrc]
  -- `workerDone` may be moved behind the publication; then the run passes through the published state
  have move : ∀ pre, run cfgNow st pre = run cfgNow st [.write s batch, .enqueue 0, .wdone s] → ∀ rest,
      run cfgNow st (pre ++ .notify :: rest) = run cfgNow (published st s (st.srcs s) batch) (.wdone s :: .notify :: rest) := by
    intro pre e rest
    rw [run_append, e, ← run_append]; exact hWE _
  simp only [finishingInterleavings, List.mem_cons, List.mem_nil_iff, or_false] at htr
  rcases htr with rfl | rfl | rfl | rfl
  · exact (move [.wdone s, .write s batch, .enqueue 0] hc1 _).symm ▸ key _ (Or.inr rfl)
  · exact (move [.write s batch, .wdone s, .enqueue 0] hc2 _).symm ▸ key _ (Or.inr rfl)
  · exact (hWE _).symm ▸ key _ (Or.inr rfl)
  · exact (hWE _).symm ▸ key _ (Or.inl rfl)

/-- non-vacuity, and the behaviour section `pipe` of the harness measures: a worker copied `evA`, timed out and is parked
before `workerDone`; `evB` is written and its notification queued; both orders end with `evB` in the pipe's partition -/
example :
    let st := run cfgNow (init 1 (fun _ => true) (fun _ => prov0) (fun _ => true) false)
      [.create, .write 0 [evA], .enqueue 0, .notify, .wopen 0, .wcopy 0 100, .wsave 0, .wtimeout 0, .write 0 [evB], .enqueue 0]
    noStart cfgNow st = false ∧ st.down = false ∧ st.pipe = .live ∧ st.chan = [⟨0, 1, 2⟩] ∧ (pipesForSource st 0).1 = true ∧
    (st.srcs 0).wk = .finishing ∧ (st.srcs 0).desc = some ⟨1, 1, true, 0, false⟩ ∧
    (proj 0 (run cfgNow st [.notify, .wdone 0, .wopen 0, .wcopy 0 100, .wsave 0]).dest).map (·.msg) = [[97], [98]] ∧
    (proj 0 (run cfgNow st [.wdone 0, .notify, .wopen 0, .wcopy 0 100, .wsave 0]).dest).map (·.msg) = [[97], [98]] := by
  decide +kernel

end Logrange.Props.C11Pipe

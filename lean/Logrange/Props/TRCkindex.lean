import Logrange.Translated.Ckindex
import Logrange.Model.ITree
import Logrange.Proofs.TrCkSearch
/-!
# TR — `pkg/tmindex/ckindex.go`: the *translated* block helpers equal the hand-written tree model (C02)

`Logrange.Translated.Ckindex` is regenerated from the Go source by `tools/go2lean` on every run. The hand model of the time
index tree (`Logrange.ITree`, records as `Points.Pt` with `ts : Int`, `idx : Nat`) is what C02's theorems about look-ups in
the tree are proved on. `absRec`/`absIv` read the translated `record {ts int64, idx uint32}` / `interval`. The block buffer
is represented by its header `hdr count level rest`; `readRecord` is an opaque callee of the translated functions (it decodes
12 bytes with the `xbinary` library): the theorems hold for every function that returns the model's records.
-/
namespace Logrange.Props.TRCkindex
open Go Go.Sem Logrange Logrange.Points Logrange.Translated.Ckindex

/-- the hand models keep `ts` as `Int` and `idx` as `Nat` -/
def absRec (r : record) : Pt := ⟨r.ts.toInt, r.idx.toNat⟩
def absIv (i : interval) : Iv := ⟨absRec i.p0, absRec i.p1⟩

theorem tr_minmax_eq :
    (∀ a b : Int64, ∃ r, maxInt64 a b = .ok r ∧ r.toInt = max a.toInt b.toInt) ∧
    (∀ a b : Int64, ∃ r, minInt64 a b = .ok r ∧ r.toInt = min a.toInt b.toInt) ∧
    (∀ a b : UInt32, ∃ r, maxUint32 a b = .ok r ∧ r.toNat = max a.toNat b.toNat) ∧
    (∀ a b : UInt32, ∃ r, minUint32 a b = .ok r ∧ r.toNat = min a.toNat b.toNat) ∧
    (∀ a b : Int, maxInt a b = .ok (max a b)) := by
  refine ⟨?_, ?_, ?_, ?_, ?_⟩
  · intro a b; simp only [maxInt64, gt_iff_lt, Int64.lt_iff_toInt_lt]
    by_cases h : b.toInt < a.toInt <;> simp [h] <;> omega
  · intro a b; simp only [minInt64, Int64.lt_iff_toInt_lt]
    by_cases h : a.toInt < b.toInt <;> simp [h] <;> omega
  · intro a b; simp only [maxUint32, gt_iff_lt, UInt32.lt_iff_toNat_lt]
    by_cases h : b.toNat < a.toNat <;> simp [h] <;> omega
  · intro a b; simp only [minUint32, UInt32.lt_iff_toNat_lt]
    by_cases h : a.toNat < b.toNat <;> simp [h] <;> omega
  · exact Proofs.TrCkSearch.maxInt_eq

theorem tr_record_reduce_eq (r r1 : record) :
    ∃ q, record_reduce r r1 = .ok q ∧ absRec q = ITree.reduce (absRec r) (absRec r1) := by
  obtain ⟨_, hmin64, _, hmin32, _⟩ := tr_minmax_eq
  obtain ⟨a, ha, ha'⟩ := hmin64 r.ts r1.ts
  obtain ⟨b, hb, hb'⟩ := hmin32 r.idx r1.idx
  refine ⟨{ ts := a, idx := b }, ?_, ?_⟩
  · simp [record_reduce, ha, hb]
  · simp [absRec, ITree.reduce, ha', hb']

theorem tr_record_extend_eq (r r1 : record) :
    ∃ q, record_extend r r1 = .ok q ∧
      absRec q = ⟨max (absRec r).ts (absRec r1).ts, max (absRec r).idx (absRec r1).idx⟩ := by
  obtain ⟨hmax64, _, hmax32, _, _⟩ := tr_minmax_eq
  obtain ⟨a, ha, ha'⟩ := hmax64 r.ts r1.ts
  obtain ⟨b, hb, hb'⟩ := hmax32 r.idx r1.idx
  refine ⟨{ ts := a, idx := b }, ?_, ?_⟩
  · simp [record_extend, ha, hb]
  · simp [absRec, ha', hb']

theorem tr_applyPrevRecord_eq (i : interval) (r : record) :
    ∃ q, interval_applyPrevRecord i r = .ok q ∧ absIv q = { absIv i with p0 := absRec r } := by
  exact ⟨_, rfl, rfl⟩

/-- a block buffer whose header says `n` records at level `lvl` -/
def hdr (n : Nat) (lvl : UInt8) (rest : Bytes) : Bytes := UInt8.ofNat n :: lvl :: rest

theorem tr_block_records_eq (n : Nat) (hn : n < 256) (lvl : UInt8) (rest : Bytes) :
    block_records { buf := hdr n lvl rest } = .ok (n : Int) :=
  Proofs.TrCkSearch.records_eq n hn (lvl :: rest)

theorem tr_block_level_eq (n : Nat) (lvl : UInt8) (rest : Bytes) :
    block_level { buf := hdr n lvl rest } = .ok (lvl.toNat : Int) :=
  Proofs.TrCkSearch.level_eq _ lvl rest

theorem tr_block_intervals_eq (b : ITree.T) (hn : ITree.records b < 256) (lvl : UInt8) (rest : Bytes) :
    block_intervals { buf := hdr (ITree.records b) lvl rest } = .ok (ITree.intervals b : Int) := by
  have e : (UInt8.ofNat (ITree.records b)).toNat = ITree.records b := by simp [UInt8.toNat_ofNat', Nat.mod_eq_of_lt hn]
  have hi : index (hdr (ITree.records b) lvl rest) (0 : Int) = .ok (UInt8.ofNat (ITree.records b)) := by simp [hdr, index]
  simp only [block_intervals, hi, Go.Sem.bind, e, ITree.intervals]
  by_cases h : ITree.records b ≤ 1
  · have h' : ((ITree.records b : Nat) : Int) ≤ 1 := by omega
    simp [h, h']
  · have h' : ¬ ((ITree.records b : Nat) : Int) ≤ 1 := by omega
    simp [h, h']; omega

/-- `theBlockInterval` on a block with records `pts` (C02's tree model does not represent block numbers: `p0.idx` is the
block's own number in the code, compared separately) -/
theorem tr_theBlockInterval_eq (pts : List Pt) (hne : pts ≠ []) (hn : pts.length < 256) (lvl : UInt8) (rest : Bytes) (bi : Int)
    (rr : Int → record) (hrr : ∀ (h : Nat) (hh : h < pts.length), absRec (rr (h : Int)) = pts[h]) :
    ∃ q, block_theBlockInterval { buf := hdr pts.length lvl rest, idx := bi } rr = .ok q ∧
      (absIv q).p0.ts = (ITree.theBlockInterval (.leaf pts)).p0.ts ∧
      (absIv q).p0.idx = (UInt32.ofInt bi).toNat ∧
      (absIv q).p1 = (ITree.theBlockInterval (.leaf pts)).p1 := by
  have hr := tr_block_records_eq pts.length hn lvl rest
  have hpos : 0 < pts.length := List.length_pos_iff.mpr hne
  have hz : ¬ ((pts.length : Int) = 0) := by omega
  have e1 : ((pts.length : Int) - 1) = ((pts.length - 1 : Nat) : Int) := by omega
  have h0 := hrr 0 hpos
  have hl := hrr (pts.length - 1) (by omega)
  simp only [block_theBlockInterval, hr, Go.Sem.bind, beq_iff_eq, hz, if_false, e1]
  refine ⟨_, rfl, ?_, ?_, ?_⟩
  · have : (absRec (rr ((0 : Nat) : Int))).ts = pts[0].ts := by rw [h0]
    cases pts with
    | nil => exact absurd rfl hne
    | cons p r => simpa [absIv, absRec, ITree.theBlockInterval] using this
  · simp [absIv, absRec]
  · simp only [absIv, ITree.theBlockInterval]
    rw [hl]
    cases pts with
    | nil => exact absurd rfl hne
    | cons p r => simp [List.getLastD_eq_getLast?, List.getLast?_eq_getElem?]

/-- … and it panics on an empty block, as the code says -/
theorem tr_theBlockInterval_empty (lvl : UInt8) (rest : Bytes) (bi : Int) (rr : Int → record) :
    block_theBlockInterval { buf := hdr 0 lvl rest, idx := bi } rr = .panic := by
  have hr := tr_block_records_eq 0 (by decide) lvl rest
  simp [block_theBlockInterval, hr]

/-- `findIntervalIdx`: on ts-sorted records the Go binary search computes C02's `ITree.findIntervalIdx` of the leaf -/
theorem tr_findIntervalIdx_eq (pts : List Pt) (hs : SortedTs pts) (hn : pts.length < 256) (lvl : UInt8) (rest : Bytes)
    (rr : Int → record) (hrr : ∀ (h : Nat) (hh : h < pts.length), (rr (h : Int)).ts.toInt = pts[h].ts) (ts : Int64) :
    block_findIntervalIdx { buf := hdr pts.length lvl rest } ts rr = .ok (ITree.findIntervalIdx (.leaf pts) ts.toInt) := by
  rw [hdr, Proofs.TrCkSearch.findIntervalIdx_eq pts hs hn (lvl :: rest) rr hrr ts]
  simp [ITree.findIntervalIdx, ITree.records, ITree.recsOf, ITree.cntLE]

/-- `findIntervalInsertIdx` in terms of the number of records with `ts ≤ t` (`Points.cntLE`) and the block's level byte -/
theorem tr_findIntervalInsertIdx_eq (pts : List Pt) (hs : SortedTs pts) (hn : pts.length < 256) (lvl : UInt8) (rest : Bytes)
    (rr : Int → record) (hrr : ∀ (h : Nat) (hh : h < pts.length), (rr (h : Int)).ts.toInt = pts[h].ts) (ts : Int64) :
    block_findIntervalInsertIdx { buf := hdr pts.length lvl rest } ts rr =
      .ok (if pts.length = 0 then 0
           else if lvl = 0 then (cntLE pts ts.toInt : Int) - 1
           else if cntLE pts ts.toInt = pts.length then (pts.length : Int) - 2
           else max 0 ((cntLE pts ts.toInt : Int) - 1)) :=
  Proofs.TrCkSearch.findIntervalInsertIdx_eq pts hs hn lvl rest rr hrr ts

/-- … which is `ITree.findIntervalInsertIdx` on a leaf (level 0) -/
theorem tr_findIntervalInsertIdx_leaf (pts : List Pt) (hs : SortedTs pts) (hn : pts.length < 256) (rest : Bytes)
    (rr : Int → record) (hrr : ∀ (h : Nat) (hh : h < pts.length), (rr (h : Int)).ts.toInt = pts[h].ts) (ts : Int64) :
    block_findIntervalInsertIdx { buf := hdr pts.length 0 rest } ts rr =
      .ok (ITree.findIntervalInsertIdx (.leaf pts) ts.toInt) := by
  rw [tr_findIntervalInsertIdx_eq pts hs hn 0 rest rr hrr ts]
  simp [ITree.findIntervalInsertIdx, ITree.records, ITree.recsOf, ITree.cntLE]

/-- … and on an upper-level block (level byte ≠ 0; `pts` are the block's records as the model lists them) -/
theorem tr_findIntervalInsertIdx_node (l : Nat) (keys : List Int) (kids : List ITree.T) (last : Pt) (lvl : UInt8) (hl : lvl ≠ 0)
    (hs : SortedTs (ITree.recsOf (.node l keys kids last))) (hn : (ITree.recsOf (.node l keys kids last)).length < 256)
    (rest : Bytes) (rr : Int → record)
    (hrr : ∀ (h : Nat) (hh : h < (ITree.recsOf (.node l keys kids last)).length),
      (rr (h : Int)).ts.toInt = (ITree.recsOf (.node l keys kids last))[h].ts) (ts : Int64) :
    block_findIntervalInsertIdx { buf := hdr (ITree.recsOf (.node l keys kids last)).length lvl rest } ts rr =
      .ok (ITree.findIntervalInsertIdx (.node l keys kids last) ts.toInt) := by
  rw [tr_findIntervalInsertIdx_eq _ hs hn lvl rest rr hrr ts]
  simp only [ITree.findIntervalInsertIdx, ITree.records, ITree.cntLE, hl, if_false]
  by_cases h0 : (ITree.recsOf (.node l keys kids last)).length = 0
  · simp [h0]
  · by_cases h1 : cntLE (ITree.recsOf (.node l keys kids last)) ts.toInt = (ITree.recsOf (.node l keys kids last)).length
    · simp [h0, h1]
    · simp [h0, h1]

end Logrange.Props.TRCkindex

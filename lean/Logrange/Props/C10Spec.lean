import Logrange.Proofs.PipeSpec
import Logrange.Props.C10
/-!
# C10 — the pipe specification for clean schedules (ghost monitor)

Property theorems only (model: `Logrange/Model/PipeLts.lean`; monitor, invariant and lemmas: `Logrange/Proofs/PipeSpec.lean`).

`pipe_spec_partial` (Props/C10) assumes two facts about the *final descriptor* (`d.start = createdAt`,
`d.lastKnown = log.length`). Here they are derived from a condition on the *schedule*: the monitor `Mon` runs alongside
the LTS (`runM`; the model is untouched, `monitor_is_ghost`) and keeps, per source, the flag `clean` —

* no notification of the source was in flight when the pipe was created,
* every notification of the source processed since was looked up successfully (no stale cache entry) and started where
  the previous one ended (write order; the first one at the creation point),
* every stop (`halt`) found nothing of the source queued or unpublished and nothing behind `LastKnwnPos`.

`clean = false` is exactly the class of finding F10 and its relatives; each way of losing it is witnessed below by a
kernel-evaluated run in which the pipe partition differs from the specification.
-/
namespace Logrange.Props.C10Spec
open Logrange.PipeLts Logrange.Props.C10

/-- the monitor is a ghost: the LTS component of the instrumented run is the plain run -/
theorem monitor_is_ghost (st : State) (m : Mon) (ls : List Label) : (runM cfgNow (st, m) ls).1 = run cfgNow st ls :=
  runM_fst cfgNow (st, m) ls

/-- **The specification, for every clean schedule** (all interleavings; any number of sources, batches, worker steps,
shutdowns and restarts): in a quiescent state of a running service with the pipe alive, the pipe partition holds for a
listening source whose schedule was clean exactly the events written to it after the pipe's creation for which the
filter is true — once, in stored order, provenance appended. No hypothesis about the descriptor. -/
theorem pipe_spec (n : Nat) (l : Nat → Bool) (p : Nat → Bytes) (f : Ev → Bool) (o : Bool) (ls : List Label) (s : Nat) :
    let r := runM cfgNow (init n l p f o, mon0) ls
    let st := r.1
    quiescent st = true → st.closed = false → st.down = false → st.pipe = .live → s < st.n →
    (st.srcs s).listens = true → r.2.clean s = true →
    proj s st.dest = specProj st s :=
  spec_of_clean cfgNow (by decide) (by decide) (by decide) (by decide) n l p f o ls s

/-- the same about the plain run: the final state is that of `run`, cleanliness is the monitor's verdict on `ls` -/
theorem pipe_spec_run (n : Nat) (l : Nat → Bool) (p : Nat → Bytes) (f : Ev → Bool) (o : Bool) (ls : List Label) (s : Nat) :
    let st := run cfgNow (init n l p f o) ls
    quiescent st = true → st.closed = false → st.down = false → st.pipe = .live → s < st.n →
    (st.srcs s).listens = true → (runM cfgNow (init n l p f o, mon0) ls).2.clean s = true →
    proj s st.dest = specProj st s := by
  have h := pipe_spec n l p f o ls s
  simp only [monitor_is_ghost] at h
  exact h

/-! ### the ways of losing `clean` (each: a quiescent live state, `clean = false`, partition ≠ specification) -/

/-- (a) **F10**, racing first writes, the later one notified first (the run of `cex_first_notification_reordered`) -/
example :
    let r := runM cfgNow (init 1 (fun _ => true) (fun _ => prov0) (fun _ => true) false, mon0)
      ([.create, .write 0 [evA], .write 0 [evB], .enqueue 1, .enqueue 0, .notify, .notify] ++ copyCycle)
    quiescent r.1 = true ∧ r.1.closed = false ∧ r.1.down = false ∧ r.1.pipe = .live ∧
      r.2.clean 0 = false ∧ proj 0 r.1.dest ≠ specProj r.1 0 := by
  decide +kernel

/-- (b) a notification still queued at `halt` (the run of `cex_notification_lost_at_shutdown`) -/
example :
    let r := runM cfgNow (init 1 (fun _ => true) (fun _ => prov0) (fun _ => true) false, mon0)
      ([.create, .write 0 [evA], .enqueue 0, .shutdown, .halt, .restart, .write 0 [evB], .enqueue 0, .notify] ++ copyCycle)
    quiescent r.1 = true ∧ r.1.closed = false ∧ r.1.down = false ∧ r.1.pipe = .live ∧
      r.2.clean 0 = false ∧ proj 0 r.1.dest ≠ specProj r.1 0 := by
  decide +kernel

/-- (c) a notification in flight at `create`: the pipe copies an event that is older than itself -/
example :
    let r := runM cfgNow (init 1 (fun _ => true) (fun _ => prov0) (fun _ => true) false, mon0)
      ([.write 0 [evA], .enqueue 0, .create, .notify] ++ copyCycle)
    quiescent r.1 = true ∧ r.1.closed = false ∧ r.1.down = false ∧ r.1.pipe = .live ∧
      r.2.clean 0 = false ∧ proj 0 r.1.dest = [addProv prov0 evA] ∧ specProj r.1 0 = [] := by
  decide +kernel

/-- (d) a stop with data behind `LastKnwnPos` (the worker left before copying): the descriptor comes back stale and
nothing wakes it — `clean` is lost at the `halt` -/
example :
    let r := runM cfgNow (init 1 (fun _ => true) (fun _ => prov0) (fun _ => true) false, mon0)
      [.create, .write 0 [evA], .enqueue 0, .notify, .wopen 0, .wcopy 0 0, .wsave 0, .shutdown, .wtimeout 0, .wdone 0,
       .halt, .restart]
    quiescent r.1 = true ∧ r.1.closed = false ∧ r.1.down = false ∧ r.1.pipe = .live ∧
      r.2.clean 0 = false ∧ proj 0 r.1.dest ≠ specProj r.1 0 := by
  decide +kernel

/-! ### non-vacuity: a clean schedule -/

/-- two sources, interleaved workers, a restart at a quiescent point, later writes to both: `clean` holds for both
sources, every hypothesis of `pipe_spec` is met, and the partition is the specification (four events) -/
example :
    let r := runM cfgNow (init 2 (fun _ => true) (fun s => [s.toUInt8]) (fun _ => true) false, mon0)
      [.create, .write 0 [evA], .write 1 [evB], .enqueue 0, .enqueue 0, .notify, .notify, .wopen 1, .wopen 0, .wcopy 1 5,
       .wcopy 0 5, .wsave 0, .wsave 1, .wtimeout 0, .wtimeout 1, .wdone 0, .wdone 1, .shutdown, .halt, .restart,
       .write 0 [evB], .write 1 [evA], .enqueue 0, .enqueue 0, .notify, .notify,
       .wopen 0, .wcopy 0 5, .wsave 0, .wtimeout 0, .wdone 0, .wopen 1, .wcopy 1 5, .wsave 1, .wtimeout 1, .wdone 1]
    quiescent r.1 = true ∧ r.1.closed = false ∧ r.1.down = false ∧ r.1.pipe = .live ∧
      r.2.clean 0 = true ∧ r.2.clean 1 = true ∧
      proj 0 r.1.dest = specProj r.1 0 ∧ proj 1 r.1.dest = specProj r.1 1 ∧
      r.1.dest = [(1, addProv [1] evB), (0, addProv [0] evA), (0, addProv [0] evB), (1, addProv [1] evA)] := by
  decide +kernel

/-- a filtering pipe over a source that already held data at the creation: clean, and only the accepted later event -/
example :
    let r := runM cfgNow (init 1 (fun _ => true) (fun _ => prov0) fltNotA false, mon0)
      ([.write 0 [evB], .enqueue 0, .notify, .create, .write 0 [evA, evB], .enqueue 0, .notify] ++ copyCycle)
    quiescent r.1 = true ∧ r.2.clean 0 = true ∧ r.2.nextExp 0 = 3 ∧ (r.1.srcs 0).createdAt = 1 ∧
      proj 0 r.1.dest = [addProv prov0 evB] ∧ specProj r.1 0 = [addProv prov0 evB] := by
  decide +kernel

end Logrange.Props.C10Spec

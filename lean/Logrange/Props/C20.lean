import Logrange.Proofs.Date
import Logrange.Proofs.DateRoundTrip
import Logrange.Proofs.DateLineParser
import Logrange.Proofs.DateLineSkip
import Logrange.Proofs.DateFloat
import Logrange.Proofs.DatePad
import Logrange.Generated.C20
import Logrange.Props.C20Formats
import Logrange.Props.C20Findings
import Logrange.Props.C20Line
/-!
# C20 — Timestamp text is parsed to the instant it denotes, for every supported format

Property theorems only (model: `Logrange/Model/Date{Terms,Layout,Rx,Parser}.lean`, lemmas:
`Logrange/Proofs/Date.lean`, `Logrange/Proofs/DateRoundTrip.lean`). Both format lists, the `terms` table and the
switches of `parseLqlDateTime` are the **regenerated** `Logrange.Generated.C20.*`: a changed format, term or switch
re-checks every theorem below that evaluates them.

"The same instant" is stated on civil fields in a zone; Go's `time.Date` (fields → instant) is applied by the harness
on both sides (trusted, DESIGN §C20).

The full statement `C20_full` (text alone) is a THEOREM on the repaired tree (`C20_full_holds`, from `C20_collector` / `C20_lql` in
`Props/C20Formats.lean`): the defects that refuted it — LQL lower-casing (F19a), `DDDD` (F19d), the damaged `MST` literal (F19m),
cross-format shadowing (F19s) — are repaired in /repo (ab30677, 65e6bcc, bf37a58, 6279a73) and pinned by obligations below.
-/
namespace Logrange.Props.C20
open Logrange.Date Logrange.Generated

/-! ## Integer literals -/

/-- No format of the regenerated LQL list can claim a signed digit string: its regular expression cannot match inside
one (abstract interpretation `reach`, sound by `ms_reach`), or — `MM.DD.YYYY`, `MM.DD.YY`, whose unescaped `.` does match a
digit — its layout rejects whatever digits were matched. Evaluated on the regenerated table by the kernel. -/
theorem lql_formats_reject_digits : lqlFmts.all fmtRejectsDigits = true :=
  tables_lql.1.2.2

/-- The structure of `parseLqlDateTime` the model assumes (four attempts in the order relative, constants, format list,
integer) is what the extractor sees in the source now. -/
theorem lql_attempt_order : C20.lqlOrderRelConstFmtInt = true := by decide

/-- **In LQL an integer literal is taken as Unix nanoseconds exactly** — every `int64`, any "now". -/
theorem integer_literal (now : Now) (n : Int) (hlo : -9223372036854775808 ≤ n) (hhi : n ≤ 9223372036854775807) :
    parseLql gcfg lqlFmts now (decimal n) = .unixNano n :=
  parseLql_decimal gcfg lqlFmts (fun cf hcf => List.all_eq_true.mp lql_formats_reject_digits cf hcf) now n hlo hhi

/-- non-vacuity: the text of 1552305600000000000 is the 19 digits one expects, and of −42 is `-42` -/
example : decimal 1552305600000000000 = [49, 53, 53, 50, 51, 48, 53, 54, 48, 48, 48, 48, 48, 48, 48, 48, 48, 48, 48] ∧
    decimal (-42) = [45, 52, 50] := by decide +kernel

/-- the second disjunct of `fmtRejectsDigits` is needed: the expression of `MM.DD.YYYY` (LQL format 53) does match a run
of ten digits (its `.` is unescaped), it is the layout that then fails (the format is looked up by its text, not by its index) -/
example : ((lqlFmts.find? (fun cf => cf.fmt == [77, 77, 46, 68, 68, 46, 89, 89, 89, 89])).bind (·.rx)).map
      (fun rx => find rx [48, 49, 48, 50, 48, 51, 50, 48, 48, 54]) =
    some (some [48, 49, 48, 50, 48, 51, 50, 48, 48, 54]) := by decide +kernel

/-- one past `int64` is not an integer literal (rejected, as `strconv.ParseInt` does) -/
theorem integer_out_of_range_rejected :
    parseLql gcfg lqlFmts ⟨2026, 9, 26⟩ (decimal 9223372036854775808) = .err :=
  tables_lql.2.1.1

/-! ## Relative literals

`strconv.ParseFloat`, the float multiplication and the conversion `time.Duration(val)` are not modelled; they enter as a
contract (IEEE-754 behaviour assumed, exercised against the real library by the harness). The model reports the *shape*
`rel unit numberText` and the theorems are about the instant `now − dur` the contract assigns to it. -/

/-- what is assumed about `time.Duration(ParseFloat(num) * float64(unit))` for decimal natural numbers -/
structure FloatContract where
  /-- nanoseconds subtracted from now for the number text `num` and the unit's nanoseconds; `none` = ParseFloat fails -/
  dur : Bytes → Nat → Option Int
  /-- exact on small integers: the product is below 2^53, so every step is exact -/
  exact_small : ∀ (n mult : Nat), 0 < mult → n * mult < 9007199254740992 → dur (natDecimal n) mult = some ((n * mult : Nat) : Int)
  /-- monotone: a numerically larger text and/or a larger unit never gives a smaller duration (rounding is monotone) -/
  mono : ∀ (a b ma mb : Nat) (da db : Int), a ≤ b → ma ≤ mb → dur (natDecimal a) ma = some da → dur (natDecimal b) mb = some db → da ≤ db
  /-- non-negative numbers give non-negative durations -/
  nonneg : ∀ (a m : Nat) (d : Int), dur (natDecimal a) m = some d → 0 ≤ d

def unitNanos (u : UInt8) : Nat := if u == 109 then 60000000000 else if u == 104 then 3600000000000 else 86400000000000

/-- the relative literal `-<n><unit>` -/
def relText (n : Nat) (u : UInt8) : Bytes := 45 :: (natDecimal n ++ [u])

/-- the instant (Unix nanoseconds) the model's answer denotes under a contract, given now -/
def relInstant (C : FloatContract) (nowNs : Int) : LqlRes → Option Int
  | .rel u num _ => (C.dur num (unitNanos u)).map (fun d => nowNs - d)
  | _ => none

def relTextS (s : Bytes) (u : UInt8) : Bytes := 45 :: (s ++ [u])

/-- a number text of digits and dots reaches `ParseFloat` as written -/
theorem relTextS_shape (s : Bytes) (hs : ∀ c ∈ s, isDig c = true ∨ c = 46) (u : UInt8) (hu : u = 109 ∨ u = 104 ∨ u = 100) (now : Now) :
    ∃ e, parseLql gcfg lqlFmts now (relTextS s u) = .rel u s e := by
  refine parseLql_relative gcfg lqlFmts now s (fun c hc => ?_) hu
  rcases hs c hc with hd | rfl
  · exact ⟨(sdByte_facts (Or.inl hd)).1, (sdByte_facts (Or.inl hd)).2.1⟩
  · decide

theorem relText_shape (n : Nat) (u : UInt8) (hu : u = 109 ∨ u = 104 ∨ u = 100) (now : Now) :
    ∃ e, parseLql gcfg lqlFmts now (relText n u) = .rel u (natDecimal n) e :=
  relTextS_shape (natDecimal n) (fun c hc => Or.inl (natDecimal_allDig n c hc)) u hu now

/-- **Relative literals are monotone**: within one unit (and across units when the unit is not smaller) a larger
`-<n>(m|h|d)` denotes an earlier-or-equal instant. Partial: under the float contract. -/
theorem relative_monotone (C : FloatContract) (nowNs : Int) (now : Now) (a b : Nat) (ua ub : UInt8)
    (hua : ua = 109 ∨ ua = 104 ∨ ua = 100) (hub : ub = 109 ∨ ub = 104 ∨ ub = 100)
    (hab : a ≤ b) (hu : unitNanos ua ≤ unitNanos ub) (ta tb : Int)
    (ha : relInstant C nowNs (parseLql gcfg lqlFmts now (relText a ua)) = some ta)
    (hb : relInstant C nowNs (parseLql gcfg lqlFmts now (relText b ub)) = some tb) : tb ≤ ta := by
  obtain ⟨ea, hea⟩ := relText_shape a ua hua now
  obtain ⟨eb, heb⟩ := relText_shape b ub hub now
  rw [hea] at ha; rw [heb] at hb
  simp only [relInstant, Option.map_eq_some_iff] at ha hb
  obtain ⟨da, hda, rfl⟩ := ha
  obtain ⟨db, hdb, rfl⟩ := hb
  have := C.mono a b _ _ da db hab hu hda hdb
  omega

/-- **Relative literals are not later than now.** Partial: under the float contract. -/
theorem relative_not_future (C : FloatContract) (nowNs : Int) (now : Now) (a : Nat) (u : UInt8)
    (hu : u = 109 ∨ u = 104 ∨ u = 100) (t : Int)
    (h : relInstant C nowNs (parseLql gcfg lqlFmts now (relText a u)) = some t) : t ≤ nowNs := by
  obtain ⟨e, he⟩ := relText_shape a u hu now
  rw [he] at h
  simp only [relInstant, Option.map_eq_some_iff] at h
  obtain ⟨d, hd, rfl⟩ := h
  have := C.nonneg a _ d hd
  omega

/-- **Exact on small integers**: `-90m` is exactly 90 minutes before now. -/
theorem relative_exact_small (C : FloatContract) (nowNs : Int) (now : Now) (a : Nat) (u : UInt8)
    (hu : u = 109 ∨ u = 104 ∨ u = 100) (hs : a * unitNanos u < 9007199254740992) :
    relInstant C nowNs (parseLql gcfg lqlFmts now (relText a u)) = some (nowNs - ((a * unitNanos u : Nat) : Int)) := by
  obtain ⟨e, he⟩ := relText_shape a u hu now
  have hpos : 0 < unitNanos u := by unfold unitNanos; split <;> (try split) <;> omega
  rw [he]; simp [relInstant, C.exact_small a _ hpos hs]

/-- non-vacuity: `-90m` has the relative shape with number text `90` -/
example : ∃ e, parseLql gcfg lqlFmts ⟨2026, 9, 26⟩ [45, 57, 48, 109] = .rel 109 [57, 48] e :=
  relText_shape 90 109 (Or.inl rfl) _

/-! ## Relative literals on an IEEE-754 model — no contract

`Model/DateFloat.lean` models `time.Duration(strconv.ParseFloat(num, 64) * float64(unit))` for decimal texts `digits[.digits]` over
`Nat`: the correctly rounded parse (round-half-even to 53 bits, subnormals, overflow = `ParseFloat`'s range error), the correctly rounded
product with the exactly representable unit, truncation to `int64`, and the amd64 result of an out-of-range conversion (`MinInt64`,
whose negation is itself: 2⁶³ ns are subtracted). `Proofs/DateFloat.lean` proves rounding monotone (`rne_mono`, `f64Round_mono`), exact
below 2⁵³ (`f64Round_exact`), and the three laws of the contract — so the contract is INHABITED by the model (`ieeeContract`) and the
theorems above hold without a hypothesis (`…_ieee`), and for decimal fractions too (`…_decimal`). The model is compared with the real
functions on boundary values in every run (harness section `floatmodel`). -/

/-- the IEEE model satisfies the contract -/
def ieeeContract : FloatContract where
  dur := fun num mult => relDur amd64Ovf num mult
  exact_small := fun n mult hm h => relDur_exact_small amd64Ovf n mult hm h
  mono := fun a b ma mb da db hab hm ha hb => relDur_mono_nat amd64Ovf (by decide) a b ma mb hab hm da db ha hb
  nonneg := fun a m d h => relDur_nonneg amd64Ovf (natDecimal a) m d h

/-- **Relative literals are monotone** — on the IEEE model, no float hypothesis -/
theorem relative_monotone_ieee (nowNs : Int) (now : Now) (a b : Nat) (ua ub : UInt8)
    (hua : ua = 109 ∨ ua = 104 ∨ ua = 100) (hub : ub = 109 ∨ ub = 104 ∨ ub = 100)
    (hab : a ≤ b) (hu : unitNanos ua ≤ unitNanos ub) (ta tb : Int)
    (ha : relInstant ieeeContract nowNs (parseLql gcfg lqlFmts now (relText a ua)) = some ta)
    (hb : relInstant ieeeContract nowNs (parseLql gcfg lqlFmts now (relText b ub)) = some tb) : tb ≤ ta :=
  relative_monotone ieeeContract nowNs now a b ua ub hua hub hab hu ta tb ha hb

/-- **Relative literals are not later than now** — on the IEEE model -/
theorem relative_not_future_ieee (nowNs : Int) (now : Now) (a : Nat) (u : UInt8)
    (hu : u = 109 ∨ u = 104 ∨ u = 100) (t : Int)
    (h : relInstant ieeeContract nowNs (parseLql gcfg lqlFmts now (relText a u)) = some t) : t ≤ nowNs :=
  relative_not_future ieeeContract nowNs now a u hu t h

/-- **Exact on small integers** — on the IEEE model: `-<n><unit>` with n·unit < 2⁵³ ns (104 days) is exactly n units before now -/
theorem relative_exact_small_ieee (nowNs : Int) (now : Now) (a : Nat) (u : UInt8)
    (hu : u = 109 ∨ u = 104 ∨ u = 100) (hs : a * unitNanos u < 9007199254740992) :
    relInstant ieeeContract nowNs (parseLql gcfg lqlFmts now (relText a u)) = some (nowNs - ((a * unitNanos u : Nat) : Int)) :=
  relative_exact_small ieeeContract nowNs now a u hu hs

/-- non-vacuity (evaluation): `-90m` is 5 400 000 000 000 ns before now; `-0.1m` is exactly 6 s; `-106752d` is beyond the int64 horizon and
saturates at 2⁶³ ns (≈ 292 years before now, not after it); a 310-digit number is rejected by `ParseFloat` (range error) -/
example : relDur amd64Ovf [57, 48] 60000000000 = some 5400000000000 ∧ relDur amd64Ovf [48, 46, 49] 60000000000 = some 6000000000 ∧
    relDur amd64Ovf [49, 48, 54, 55, 53, 50] 86400000000000 = some 9223372036854775808 ∧
    relDur amd64Ovf (List.replicate 310 57) 60000000000 = none := by decide +kernel

/-- **Relative literals with decimal fractions are monotone** (IEEE model): `-<a>(m|h|d)` and `-<b>(m|h|d)` with the number texts
`digits[.digits]` of values a ≤ b (as rationals: `na/da ≤ nb/db`) and the unit of b not smaller — b denotes an earlier-or-equal instant -/
theorem relative_monotone_decimal (nowNs : Int) (now : Now) (sa sb : Bytes) (hsa : ∀ c ∈ sa, isDig c = true ∨ c = 46)
    (hsb : ∀ c ∈ sb, isDig c = true ∨ c = 46) (na da nb db : Nat) (hva : decValue sa = some (na, da)) (hvb : decValue sb = some (nb, db))
    (hle : na * db ≤ nb * da) (ua ub : UInt8) (hua : ua = 109 ∨ ua = 104 ∨ ua = 100) (hub : ub = 109 ∨ ub = 104 ∨ ub = 100)
    (hu : unitNanos ua ≤ unitNanos ub) (ta tb : Int)
    (ha : relInstant ieeeContract nowNs (parseLql gcfg lqlFmts now (relTextS sa ua)) = some ta)
    (hb : relInstant ieeeContract nowNs (parseLql gcfg lqlFmts now (relTextS sb ub)) = some tb) : tb ≤ ta := by
  obtain ⟨ea, hea⟩ := relTextS_shape sa hsa ua hua now
  obtain ⟨eb, heb⟩ := relTextS_shape sb hsb ub hub now
  rw [hea] at ha; rw [heb] at hb
  simp only [relInstant, Option.map_eq_some_iff] at ha hb
  obtain ⟨ra, hra, rfl⟩ := ha
  obtain ⟨rb, hrb, rfl⟩ := hb
  have := relDur_mono amd64Ovf (by decide) sa sb na da nb db _ _ hva hvb hle hu ra rb hra hrb
  omega

/-- **…and not later than now, and never more than 2⁶³ ns before it** (IEEE model, any number text of digits and dots) -/
theorem relative_not_future_decimal (nowNs : Int) (now : Now) (s : Bytes) (hs : ∀ c ∈ s, isDig c = true ∨ c = 46) (u : UInt8)
    (hu : u = 109 ∨ u = 104 ∨ u = 100) (t : Int)
    (h : relInstant ieeeContract nowNs (parseLql gcfg lqlFmts now (relTextS s u)) = some t) :
    t ≤ nowNs ∧ nowNs - 9223372036854775808 ≤ t := by
  obtain ⟨e, he⟩ := relTextS_shape s hs u hu now
  rw [he] at h
  simp only [relInstant, Option.map_eq_some_iff] at h
  obtain ⟨r, hr, rfl⟩ := h
  have h1 := relDur_nonneg amd64Ovf s _ r hr
  have h2 := relDur_le_ovf amd64Ovf (by decide) s _ r hr
  have h3 : ((amd64Ovf : Nat) : Int) = 9223372036854775808 := by decide
  omega

/-! ## Format round trip on civil fields -/

/-- **`format_parse_fields`** — generic in the layout: for every layout made of literals and the numeric fixed-width
elements `2006 01 02 15 04 05` (`NumericLayout`, decidable), and every instant with valid civil fields, parsing the
text `time.Format` produces gives back exactly the fields the layout carries (`project`), everything else at its
default. Elements outside this subset (names, 1-digit forms, `06`, am/pm, fractions, zones) stay tested. -/
theorem format_parse_fields (L : Layout) (hL : NumericLayout L = true) (i : Inst) (hi : ValidInst i) :
    ∃ txt, formatLayout L i = some txt ∧ parseLayout L txt = .ok (project L i) :=
  format_parse_numeric L hL i hi

/-- the formats of both regenerated lists whose derived layout is in the covered subset -/
def coveredFormats : List CFormat := (colFmts ++ lqlFmts).filter (fun cf => NumericLayout cf.layout)

/-- how many formats of the current lists the generic theorem covers (13 collector + 15 LQL entries) -/
theorem covered_count : coveredFormats.length = 28 := by
  rw [coveredFormats, List.filter_append, List.length_append, tables_col.2.2.2.2.2, tables_lql.1.2.1]

/-- instantiated: every covered format of the regenerated lists parses its own `time.Format` text back to the fields it
carries — for all instants, not a sample -/
theorem covered_formats_round_trip (cf : CFormat) (hcf : cf ∈ coveredFormats) (i : Inst) (hi : ValidInst i) :
    ∃ txt, formatLayout cf.layout i = some txt ∧ parseLayout cf.layout txt = .ok (project cf.layout i) := by
  have : NumericLayout cf.layout = true := by
    have := (List.mem_filter.mp hcf).2
    simpa using this
  exact format_parse_numeric cf.layout this i hi

/-- non-vacuity: `YYYY-MM-DD HH:mm:ss` is covered; 2019-03-11 12:04:05 prints as expected and parses back -/
example : let L := (compile gterms C20.regexpLeftGuard [89, 89, 89, 89, 45, 77, 77, 45, 68, 68, 32, 72, 72, 58, 109, 109, 58, 115, 115]).layout
    NumericLayout L = true ∧ ValidInst ⟨2019, 3, 11, 12, 4, 5, 0, 1⟩ ∧
    formatLayout L ⟨2019, 3, 11, 12, 4, 5, 0, 1⟩ =
      some [50, 48, 49, 57, 45, 48, 51, 45, 49, 49, 32, 49, 50, 58, 48, 52, 58, 48, 53] := by
  refine ⟨by decide +kernel, by decide, by decide +kernel⟩

/-! ## At the start of a log line read by the collector: the line parser's remembered format and skip counters -/

/-- `lineParser.parse` resets its failure counter where the full parser detects a format (read from the source now) -/
theorem lp_resets_on_detect : C20.lpResetsCountOnDetect = true := by decide

/-- **Every time-stamped line of a file gets its own date** as long as fewer than `maxFailCnt` (10) undated lines occur in
a row — whatever the mix of headers and continuation lines, any file length: the parser never enters `skipping`.
`hcons`: a line the remembered format dates is also dated by the full parser (which contains that format) — a property of
the date parsers, exercised by the harness (section linefile), assumed here. What the date *is* is `C20_collector` /
`C20_collector_line` (`Props/C20Formats.lean`, `Props/C20Line.lean`). -/
theorem collector_headers_dated (now : Now) (lines : List Bytes)
    (hruns : okRuns lpcfg.maxFail 0 (lines.map (lineAns gadj colFmts now)) = true)
    (hcons : consistent (lines.map (lineAns gadj colFmts now))) :
    headersDated (lines.map (lineAns gadj colFmts now)) (lpRun lpcfg (LP.init lpcfg) (lines.map (lineAns gadj colFmts now))) = true :=
  lp_headers_dated lpcfg lp_resets_on_detect _ 0 _ (lpInv_init lpcfg) hruns hcons

/-- non-vacuity: header, undated line, header — dated by format 49 `YYYY-MM-DD HH:mm:ss`, carried, dated (through
detection again, because the undated line made the parser forget the format) -/
example : lpRun lpcfg (LP.init lpcfg) ([[50, 48, 49, 57, 45, 48, 51, 45, 49, 49, 32, 49, 51, 58, 49, 52, 58, 49, 53, 32, 99, 111, 109, 46, 97, 99, 109, 101, 46, 83, 101, 114, 118, 101, 114, 32, 104, 97, 110, 100, 108, 101, 10], [73, 78, 70, 79, 58, 32, 114, 101, 113, 117, 101, 115, 116, 32, 104, 97, 110, 100, 108, 101, 100, 10], [50, 48, 49, 57, 45, 48, 51, 45, 49, 49, 32, 49, 51, 58, 50, 49, 58, 49, 54, 32, 99, 111, 109, 46, 97, 99, 109, 101, 46, 83, 101, 114, 118, 101, 114, 32, 104, 97, 110, 100, 108, 101, 10]].map (lineAns gadj colFmts now0)) =
    [.dated 49 ⟨2019, 3, 11, 13, 14, 15, 0, .dflt⟩, .carried (some ⟨2019, 3, 11, 13, 14, 15, 0, .dflt⟩),
     .dated 49 ⟨2019, 3, 11, 13, 21, 16, 0, .dflt⟩] := tables_c20.1

/-! ## At and beyond the skip threshold (`maxFailCnt` undated lines in a row): what the property demands, what the code does

The property has no exemption: a line that starts with a timestamp must get its own date. The parser delivers that **exactly when
it is not in state `skipping`** — `collector_dated_unless_skipping` (any counters, any history) against
`collector_skip_window_loses_every_header` (inside a skip window NO line is dated, whatever it starts with); a window ends after
`maxSkip − cnt` lines and is at most `skipBound` = 200 lines long (`collector_skip_window_ends`). So the line clause of the
property, stated without the threshold (`collector_headers_dated_full`), is FALSE on the current code
(`collector_headers_dated_full_fails`, open finding F68 — the documented CPU guard), and true below the threshold
(`collector_headers_dated`). -/

/-- **whenever the line parser is not skipping, a line the default parser dates gets its own date** — after any history, at the
threshold too (the 10th undated line switches the state; a dated line after 9 undated ones is still read) -/
theorem collector_dated_unless_skipping (now : Now) (lp : LP) (line : Bytes) (hpar : lp.skipping = false)
    (hd : (lineAns gadj colFmts now line).findable = true) :
    (lpStepA lpcfg lp (lineAns gadj colFmts now line)).2.isDated = true :=
  lp_parsing_dates lpcfg lp _ hpar hd

theorem lp_first_skip_positive : 0 < lpcfg.maxSkip0 := by decide

/-- **inside a skip window no line gets its own date**: after any file prefix that left the parser in `skipping`, the next line's
record carries the stale `lastDate`, whatever the line starts with -/
theorem collector_skip_window_loses_every_header (now : Now) (pre : List Bytes) (line : Bytes)
    (hsk : (lpState lpcfg (LP.init lpcfg) (pre.map (lineAns gadj colFmts now))).skipping = true) :
    (lpStepA lpcfg (lpState lpcfg (LP.init lpcfg) (pre.map (lineAns gadj colFmts now))) (lineAns gadj colFmts now line)).2 =
      .carried (lpState lpcfg (LP.init lpcfg) (pre.map (lineAns gadj colFmts now))).last :=
  lp_skipping_carries lpcfg _ _ (lpWf_run lpcfg _ _ (lpWf_init lpcfg lp_first_skip_positive)) hsk

/-- **a skip window ends and is bounded**: from any reachable state in `skipping`, after exactly `maxSkip − cnt` further lines —
whatever they are — the parser reads lines again; that is never more than 200 lines (10, 20, 40, 80, 160 on the current constants) -/
theorem collector_skip_window_ends (now : Now) (pre rest : List Bytes)
    (hsk : (lpState lpcfg (LP.init lpcfg) (pre.map (lineAns gadj colFmts now))).skipping = true)
    (hlen : rest.length = (lpState lpcfg (LP.init lpcfg) (pre.map (lineAns gadj colFmts now))).maxSkip -
      (lpState lpcfg (LP.init lpcfg) (pre.map (lineAns gadj colFmts now))).cnt) :
    (lpState lpcfg (lpState lpcfg (LP.init lpcfg) (pre.map (lineAns gadj colFmts now))) (rest.map (lineAns gadj colFmts now))).skipping = false ∧
    rest.length ≤ 200 := by
  have hwf := lpWf_run lpcfg (pre.map (lineAns gadj colFmts now)) _ (lpWf_init lpcfg lp_first_skip_positive)
  refine ⟨lp_skip_window_ends lpcfg _ _ hwf hsk
    (by rw [List.length_map, hlen]; exact Nat.add_sub_cancel' (Nat.le_of_lt (hwf.skipCnt hsk))), ?_⟩
  have hb := lp_skip_window_bounded lpcfg _ hwf
  have h200 : skipBound lpcfg = 200 := by decide
  omega

/-- the line clause of the property without the threshold: every line of every file that starts with a timestamp gets its own date -/
def collector_headers_dated_full : Prop :=
  ∀ (now : Now) (lines : List Bytes), consistent (lines.map (lineAns gadj colFmts now)) →
    headersDated (lines.map (lineAns gadj colFmts now)) (lpRun lpcfg (LP.init lpcfg) (lines.map (lineAns gadj colFmts now))) = true

theorem f68_facts :
    (lineAns gadj colFmts now0 f68Header1).findable = true ∧ (lineAns gadj colFmts now0 f68Header2).findable = true ∧
    (List.range colFmts.length).all (fun i => ((lineAns gadj colFmts now0 f68Undated).fast i).isNone) = true ∧
    headersDated (f68File.map (lineAns gadj colFmts now0)) (lpRun lpcfg (LP.init lpcfg) (f68File.map (lineAns gadj colFmts now0))) = false :=
  tables_c20.2.1

/-- **the line clause without the threshold is false on the current code** (open finding F68): a time-stamped line, ten undated
lines, a time-stamped line — the last line is not read -/
theorem collector_headers_dated_full_fails : ¬ collector_headers_dated_full := by
  intro h
  obtain ⟨h1, h2, hu, hfalse⟩ := f68_facts
  have hcons : consistent (f68File.map (lineAns gadj colFmts now0)) := by
    intro a ha i c hfast
    simp only [f68File, List.map_append, List.map_cons, List.map_nil, List.map_replicate, List.mem_append, List.mem_cons,
      List.mem_replicate, List.not_mem_nil, or_false] at ha
    rcases ha with (ha | ha) | ha
    · subst ha; exact h1
    · obtain ⟨_, ha⟩ := ha
      subst ha
      exfalso
      by_cases hi : i < colFmts.length
      · have := List.all_eq_true.mp hu i (List.mem_range.mpr hi)
        rw [hfast] at this; simp at this
      · have hnone : colFmts[i]? = none := List.getElem?_eq_none (by omega)
        simp [lineAns, hnone] at hfast
    · subst ha; exact h2
  have := h now0 f68File hcons
  rw [hfalse] at this
  cases this

/-! ## The full statement (text alone) -/

/-- **the property on the model, for a text alone**: for every format of either regenerated list and every valid instant,
the text of the instant in that format is parsed — by the collector's default parser, resp. by `parseLqlDateTime` as an
absolute literal — to exactly the fields the format carries (UTC without a zone; the current/previous year, today's date
when it has none) -/
def C20_full : Prop :=
  (∀ k, k < colFmts.length → ∀ i, ValidX i → ∀ now, ∃ ck txt c j', colFmts[k]? = some ck ∧ renderLayout ck.layout i = some txt ∧
      projectX ck.layout i = .ok c ∧ j' ≤ k ∧ parseFirst gadj colFmts now txt = .ok j' (adjAll gadj ck now c)) ∧
  (∀ k, k < lqlFmts.length → ∀ i, ValidX i → ∀ now, ∃ ck txt c j', lqlFmts[k]? = some ck ∧ renderLayout ck.layout i = some txt ∧
      projectX ck.layout i = .ok c ∧ j' ≤ k ∧ parseLql gcfg lqlFmts now txt = .abs j' (adjAll gadj ck now c))

/-- **C20, text alone, holds for all 59 + 68 formats and every valid instant.** Tested only (differential sweeps): texts with
surrounding text (log-line prefix), and that the model is the code. -/
theorem C20_full_holds : C20_full := ⟨C20_collector, C20_lql⟩

/-! ## LQL literals with surrounding text: blanks -/

theorem lql_trims_blanks : gcfg.trim = true := by decide

/-- **C20 for LQL literals with surrounding blanks** (the only surrounding text `parseLqlDateTime` admits: it trims blanks): the
text of any valid instant in any format of the LQL list, padded with any number of blanks on either side, denotes the fields the
format carries -/
theorem C20_lql_padded (k : Nat) (hk : k < lqlFmts.length) (i : XInst) (hi : ValidX i) (now : Now) (a b : Nat) :
    ∃ ck txt c j', lqlFmts[k]? = some ck ∧ renderLayout ck.layout i = some txt ∧ projectX ck.layout i = .ok c ∧ j' ≤ k ∧
      parseLql gcfg lqlFmts now (List.replicate a 32 ++ txt ++ List.replicate b 32) = .abs j' (adjAll gadj ck now c) := by
  obtain ⟨ck, txt, c, j', hck, ht, hc, hj, hp⟩ := C20_lql k hk i hi now
  have hck' : ck = lqlFmts[k] := by
    rw [List.getElem?_eq_getElem hk] at hck; exact (Option.some.inj hck).symm
  subst hck'
  have hside := List.all_eq_true.mp lql_formats_own_ok _ (List.getElem_mem hk)
  simp only [Bool.and_eq_true] at hside
  obtain ⟨sh, hsh, hs⟩ := renderLayout_shape lqlFmts[k].layout i hi txt ht
  obtain ⟨⟨c0, hc0, h32, _⟩, ⟨c1, hc1, hl32⟩, _⟩ := lqlShape_ends hs (List.all_eq_true.mp hside.2 sh hsh)
  refine ⟨_, txt, c, j', hck, ht, hc, hj, ?_⟩
  rw [parseLql_padded gcfg lql_trims_blanks lqlFmts now a b txt (by rintro rfl; cases hc0)
    (by rw [hc1]; exact fun e => hl32 (Option.some.inj e)) (by rw [hc0]; exact fun e => h32 (Option.some.inj e))]
  exact hp

/-- unit and number text of a relative answer -/
def relHead : LqlRes → Option (UInt8 × Bytes)
  | .rel u num _ => some (u, num)
  | _ => none

/-- **`2019-03-11T12:00:00Z` as an LQL literal denotes noon UTC** (fixed finding F19a, /repo ab30677): the format list sees
the literal as written, `YYYY-MM-DDTHH:mm:ssZ` (format 39) claims it. Evaluated with the regenerated switches, so a
return of the lower-casing (`lqlFormatsSeeLowerCased = true`) breaks this obligation. -/
theorem lql_T_literal_is_noon :
    parseLql gcfg lqlFmts now0 [50, 48, 49, 57, 45, 48, 51, 45, 49, 49, 84, 49, 50, 58, 48, 48, 58, 48, 48, 90]
      = .abs 39 ⟨2019, 3, 11, 12, 0, 0, 0, .dflt⟩ :=
  tables_lql.2.1.2.1

/-- the format list is handed the literal as written: the switch the extractor reads from `parseLqlDateTime` now -/
theorem lql_formats_see_literal_as_written : C20.lqlFormatsSeeLowerCased = false := by decide

/-- what the defect was (kept as a statement about the model with the switch turned back on): lower-casing turns `T` into
`t`, the ISO formats no longer match, and `YYYY-MM-DD` (looked up by its text; format 52 today) claims the date part — midnight instead of noon. -/
theorem lowercasing_would_give_midnight :
    parseLql { gcfg with fmtLower := true } lqlFmts now0 [50, 48, 49, 57, 45, 48, 51, 45, 49, 49, 84, 49, 50, 58, 48, 48, 58, 48, 48, 90]
      = .abs (C20.lqlFormats.idxOf [89, 89, 89, 89, 45, 77, 77, 45, 68, 68]) ⟨2019, 3, 11, 0, 0, 0, 0, .dflt⟩ :=
  tables_lql.2.1.2.2

/-- upper-case relative literals and constants are still accepted (the lower-cased text is kept for them): `-90M`, `WEEK` -/
theorem relative_and_constants_case_insensitive :
    relHead (parseLql gcfg lqlFmts now0 [45, 57, 48, 77]) = some (109, [57, 48]) ∧
    parseLql gcfg lqlFmts now0 [87, 69, 69, 75] = .const 3 := by decide +kernel

/-- `2019/01/01` handed to the collector is claimed by its own format `YYYY/MM/DD` (33): 2019-01-01 (fixed finding F19s, /repo
6279a73: before, the earlier unanchored `DD/MM/YY` claimed `19/01/01` out of the middle of the year — 2001-01-19) -/
theorem slash_date_own_format :
    parseFirst gadj colFmts now0 [50, 48, 49, 57, 47, 48, 49, 47, 48, 49] = .ok 33 ⟨2019, 1, 1, 0, 0, 0, 0, .dflt⟩ :=
  tables_c20.2.2.1

/-- **the UnixDate text `Mon Mar 11 13:14:15 UTC 2019` is claimed by format 2 and gives the year 2019**, in the collector
list and as an LQL literal (fixed finding F19m, /repo bf37a58: format 2 names its zone with the term `ZZZ`; before, its
literal `MST` was rewritten to `1ST` by the sequential term replacement and a year-less format claimed the text with the
current year). Evaluated on the regenerated lists and terms. -/
theorem unixdate_claimed_by_format_2 :
    parseFirst gadj colFmts now0 [77, 111, 110, 32, 77, 97, 114, 32, 49, 49, 32, 49, 51, 58, 49, 52, 58, 49, 53, 32, 85, 84, 67, 32, 50, 48, 49, 57] = .ok 2 ⟨2019, 3, 11, 13, 14, 15, 0, .utc⟩ ∧
    parseLql gcfg lqlFmts now0 [77, 111, 110, 32, 77, 97, 114, 32, 49, 49, 32, 49, 51, 58, 49, 52, 58, 49, 53, 32, 85, 84, 67, 32, 50, 48, 49, 57] = .abs 2 ⟨2019, 3, 11, 13, 14, 15, 0, .utc⟩ := by decide +kernel

/-- Go's own `time.UnixDate` reference text `Mon Jan  2 15:04:05 MST 2006` (blank-padded day, zone abbreviation MST) is
claimed by format 2 as well: 2006, fabricated zone `MST` of offset 0 -/
theorem unixdate_reference_text :
    parseFirst gadj colFmts now0 [77, 111, 110, 32, 74, 97, 110, 32, 32, 50, 32, 49, 53, 58, 48, 52, 58, 48, 53, 32, 77, 83, 84, 32, 50, 48, 48, 54] = .ok 2 ⟨2006, 1, 2, 15, 4, 5, 0, .named [77, 83, 84] 0⟩ := by decide +kernel

/-- the layout the code derives for format 2 is Go's UnixDate layout, intact: `Mon Jan _2 15:04:05 MST 2006` -/
theorem unixdate_layout_intact :
    C20.collectorFormats[2]? = some [68, 68, 68, 32, 77, 77, 77, 32, 95, 68, 32, 72, 72, 58, 109, 109, 58, 115, 115, 32, 90, 90, 90, 32, 89, 89, 89, 89] ∧ C20.lqlFormats[2]? = some [68, 68, 68, 32, 77, 77, 77, 32, 95, 68, 32, 72, 72, 58, 109, 109, 58, 115, 115, 32, 90, 90, 90, 32, 89, 89, 89, 89] ∧
    dateMap gterms [68, 68, 68, 32, 77, 77, 77, 32, 95, 68, 32, 72, 72, 58, 109, 109, 58, 115, 115, 32, 90, 90, 90, 32, 89, 89, 89, 89] = [77, 111, 110, 32, 74, 97, 110, 32, 95, 50, 32, 49, 53, 58, 48, 52, 58, 48, 53, 32, 77, 83, 84, 32, 50, 48, 48, 54] := by decide +kernel

/-- **a Wednesday in `DDDD, YY-MMM-DD HH:mm:ss ZZZ` (format 4) is accepted and denotes its instant** (fixed finding F19d,
/repo 65e6bcc: `DDDD` is `[A-Z][a-z]{5,8}`; with `{5,7}` the eight lower-case letters of `Wednesday` could not match).
Text: `Wednesday, 19-Apr-03 13:14:15 UTC`, collector list and LQL literal. -/
theorem wednesday_accepted :
    parseFirst gadj colFmts now0 [87, 101, 100, 110, 101, 115, 100, 97, 121, 44, 32, 49, 57, 45, 65, 112, 114, 45, 48, 51, 32, 49, 51, 58, 49, 52, 58, 49, 53, 32, 85, 84, 67] = .ok 4 ⟨2019, 4, 3, 13, 14, 15, 0, .utc⟩ ∧
    parseLql gcfg lqlFmts now0 [87, 101, 100, 110, 101, 115, 100, 97, 121, 44, 32, 49, 57, 45, 65, 112, 114, 45, 48, 51, 32, 49, 51, 58, 49, 52, 58, 49, 53, 32, 85, 84, 67] = .abs 4 ⟨2019, 4, 3, 13, 14, 15, 0, .utc⟩ := by decide +kernel

/-- `11/3/2019 12:05 AM` handed to the collector is five past midnight: the AM/PM format `D/M/YYYY hh:mm P` (17) comes before the
24-hour formats it extends (fixed finding F19s: before, `D/M/YYYY HH:mm` claimed the prefix — 12:05) -/
theorem am_text_is_midnight :
    parseFirst gadj colFmts now0 [49, 49, 47, 51, 47, 50, 48, 49, 57, 32, 49, 50, 58, 48, 53, 32, 65, 77]
      = .ok 17 ⟨2019, 3, 11, 0, 5, 0, 0, .dflt⟩ :=
  tables_c20.2.2.2

end Logrange.Props.C20

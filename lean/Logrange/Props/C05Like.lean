import Logrange.Props.C05
import Logrange.Proofs.PathMatchGreedy
import Logrange.Proofs.PathMatchGreedyImpl
/-!
# C05 — LIKE with `*`: what `path.Match` means, and exactly when that is the documented pattern language

`Props/C05.lean` proves `path.Match` (model) = the documented pattern language for patterns without `*`, and gives two
counterexamples with `*`. Here the gap is closed from both sides:

* `pathMatch_is_leftmost_commit` — for every well-formed pattern whose `*` bytes are all star terms (`plainStars`: no `\*`,
  no `*` inside a class) and every name (any bytes), Go's algorithm **is** the *leftmost-commit* reading of `*`
  (`PathSpec.greedyMatch`, written on the pattern's terms only: the pattern is cut at its stars into star-free segments; a
  segment after a star is tried at offsets 0, 1, 2 … of the name, never stepping over `/`; the first offset where it
  matches is final — except for the last segment, which must also reach the end of the name and is tried at every
  offset). This is the declarative meaning of LIKE with `*` in logrange.
* `pathMatch_eq_spec_starSafe` — leftmost-commit = the documented (existential) language for **every name** when every
  segment *between two stars* consists of literal bytes other than `/` (`starSafe`, decidable; the segments before the
  first and after the last star are unrestricted: `?`, classes, `/`, escapes).
* `pathMatch_eq_spec_starSafe_ascii` — and for every **ASCII name** when the segments between stars consist of one-byte
  terms that cannot match `/`: literals other than `/`, `?`, non-negated classes whose ranges exclude `/`
  (`starSafeAscii`).
* the counterexamples of `Props/C05.lean` lie in the complement, one per excluded class (`cex_outside_*`).
-/
namespace Logrange.Props.C05Like
open Go Logrange Logrange.Where Logrange.PathSpec

/-- **`path.Match` is the leftmost-commit reading of `*`** on every well-formed pattern with plain stars, every name. -/
theorem pathMatch_is_leftmost_commit (p n : Bytes) (its : List Item) (hp : items? p = some its)
    (hs : plainStars p its = true) : PathMatch.pathMatch p n = some (greedyMatch its n) :=
  pathMatch_eq_greedy p n its hp hs

/-- **…which is the documented pattern language when the segments between stars are literal (no `/`)** — every name,
valid UTF-8 or not. In the form of `pathMatch_correct_noStar`: the answer is `some b` with `b ↔ Matches p n`. -/
theorem pathMatch_eq_spec_starSafe (p n : Bytes) (its : List Item) (hp : items? p = some its)
    (hs : plainStars p its = true) (h : starSafe its = true) :
    PathMatch.pathMatch p n = specMatch p n ∧ PathMatch.pathMatch p n = some (matchItems its n) ∧
    (PathMatch.pathMatch p n = some true ↔ Matches p n) := by
  have e : PathMatch.pathMatch p n = some (matchItems its n) := by
    rw [pathMatch_eq_greedy p n its hp hs, greedy_eq_spec its n h]
  refine ⟨by rw [e]; simp [specMatch, hp], e, ?_⟩
  rw [e]
  constructor
  · intro hm; exact ⟨its, hp, by simpa using hm⟩
  · rintro ⟨its', hp', hm⟩
    rw [hp] at hp'; cases hp'; rw [hm]

/-- **…and on ASCII names when the segments between stars are one-byte terms that cannot match `/`** -/
theorem pathMatch_eq_spec_starSafe_ascii (p n : Bytes) (its : List Item) (hp : items? p = some its)
    (hs : plainStars p its = true) (hn : n.all (fun c => decide (c.toNat < 128)) = true) (h : starSafeAscii its = true) :
    PathMatch.pathMatch p n = specMatch p n ∧ PathMatch.pathMatch p n = some (matchItems its n) := by
  have e : PathMatch.pathMatch p n = some (matchItems its n) := by
    rw [pathMatch_eq_greedy p n its hp hs, greedy_eq_spec_ascii its n hn h]
  exact ⟨by rw [e]; simp [specMatch, hp], e⟩

/-- **The LIKE clause of the reference meaning, declaratively**: for a star-safe pattern `v` the operator of `evalRef`
(`evalStrOp .like`, defined through the model of the algorithm) is membership in the documented language. -/
theorem like_is_documented_language (v s : Bytes) (its : List Item) (hp : items? v = some its)
    (hs : plainStars v its = true) (h : starSafe its = true) :
    evalStrOp .like s v = matchItems its s := by
  simp only [evalStrOp, (pathMatch_eq_spec_starSafe v s its hp hs h).2.1]
  cases matchItems its s <;> rfl

/-- a star-safe well-formed pattern passes the builder's pre-test (so such a LIKE condition is accepted) -/
theorem starSafe_pattern_accepted (v : Bytes) (its : List Item) (hp : items? v = some its)
    (hs : plainStars v its = true) : patternOk v = true := by
  simp [patternOk, pathMatch_eq_greedy v sProbe its hp hs]

/-- **The complement is not empty, class by class.** `**[^a]*` (a class between stars) is in neither class and differs on
the ASCII name `*x*]/`; `*?*\\xAC` (`?` between stars) is outside `starSafe`, inside `starSafeAscii`, and differs on the
non-ASCII name `€` — so the ASCII hypothesis of `pathMatch_eq_spec_starSafe_ascii` cannot be dropped; both are
well-formed with plain stars, so `pathMatch_is_leftmost_commit` covers them: the difference is exactly leftmost-commit
versus existential. -/
theorem cex_outside_starSafe :
    ((items? [42, 42, 91, 94, 97, 93, 42]).map (fun its => (starSafe its, starSafeAscii its, plainStars [42, 42, 91, 94, 97, 93, 42] its)))
      = some (false, false, true) ∧
    ((items? [42, 63, 42, 0xAC]).map (fun its => (starSafe its, starSafeAscii its, plainStars [42, 63, 42, 0xAC] its)))
      = some (false, true, true) ∧
    ([0xE2, 0x82, 0xAC] : Bytes).all (fun c => decide (c.toNat < 128)) = false := by decide

/-- a literal `/` between stars is excluded by both conditions although Go and the documentation happen to agree there
(the conditions are sufficient, not necessary): `*a/b*` -/
example : ((items? [42, 97, 47, 98, 42]).map (fun its => (starSafe its, starSafeAscii its))) = some (false, false) := by decide +kernel

/-! ### non-vacuity -/

/-- `a*b*c`, `*.log`, `x?*ab*[a-c]/` are star-safe (any name); `*[a-c]?x*` only for ASCII names -/
example : ((items? (Go.ofAscii "a*b*c")).map (fun its => (starSafe its, plainStars (Go.ofAscii "a*b*c") its))) = some (true, true) ∧
    ((items? (Go.ofAscii "*.log")).map starSafe) = some true ∧
    ((items? (Go.ofAscii "x?*ab*[a-c]/")).map starSafe) = some true ∧
    ((items? (Go.ofAscii "*[a-c]?x*")).map (fun its => (starSafe its, starSafeAscii its))) = some (false, true) := by
  decide +kernel
example : PathMatch.pathMatch (Go.ofAscii "a*b*c") (Go.ofAscii "aXbbYc") = some true ∧
    PathMatch.pathMatch (Go.ofAscii "a*b*c") (Go.ofAscii "aXb/Yc") = some false := by decide +kernel

end Logrange.Props.C05Like

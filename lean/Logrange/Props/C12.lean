import Logrange.Proofs.LqlInt
import Logrange.Proofs.LqlLexNP
import Logrange.Proofs.LqlEngineAll
import Logrange.Proofs.LqlFuel
import Logrange.Proofs.LqlQuoteRT
/-!
# C12 — LQL statements keep their meaning through print and re-parse

Property theorems only (lemmas: `Logrange/Proofs/Lql.lean`; model: `Logrange/Model/Lql*.lean`; the grammar the engine
interprets: `Logrange/Generated/C12.lean`, regenerated from the struct tags of pkg/lql/parser.go on every run).

* token level, **proved for every nesting depth**: the direct parser inverts `tokensOf` on the parser's image
  (`WF…`, decidable) for identifiers with functions, conditions, expressions and sources;
* character level, proved **under the explicit hypothesis** `Lexable` (`lex (print a) = tokensOf a`; evaluated by the
  harness on every accepted expression / source): `print_parse_partial`, `create_pipe_equiv_partial`;
* the full statement over all statement kinds is `C12_full`; it is **false** today (`not_C12_full`) and each open
  finding class has its counterexample theorem, evaluated on the model (lexer + engine on the regenerated grammar +
  printers).
-/
namespace Logrange.Props.C12
open Logrange.Lql

/-! ## the parser model for whole statements -/

def grammar := Logrange.Generated.C12.grammar

/-- `lql.ParseLql`: lexer, participle engine on the regenerated grammar (root `Lql`), typed application of captures,
post-check (a Range without a time point is rejected).
`dp` is the opaque date parser (`parseLqlDateTime`, property C20). -/
def parseLql (dp : Bytes → Option Int) (text : Bytes) : Option Lql :=
  match lex text with
  | none => none
  | some ts =>
    match runEngine grammar "Lql" ts with
    | none => none
    | some v => toLqlChecked dp (8 * ts.length + 50) v

/-- `lql.ParseExpr` / `lql.ParseSource` on tokens with explicit fuel -/
def parseExprToks (f : Nat) (ts : List Tok) : Option Expr :=
  match dExpr f ts with | some (e, []) => some e | _ => none
def parseSourceToks (f : Nat) (ts : List Tok) : Option Source :=
  match dSource f ts with | some (s, []) => some s | _ => none
def parseExprText (f : Nat) (text : Bytes) : Option Expr := (lex text).bind (parseExprToks f)
def parseSourceText (f : Nat) (text : Bytes) : Option Source := (lex text).bind (parseSourceToks f)

def srcFuel : Source → Nat
  | .tags _ => 0
  | .expr e => szExpr e

/-! ## token level round trip (any depth) -/

/-- identifiers with (nested) function parameters -/
theorem token_roundtrip_ident (i : Ident) (f : Nat) (hf : szIdent i ≤ f) :
    dIdent f (toksIdent i) = some (i, []) := by
  have := dIdent_toks i f [] hf (by simp [headNot])
  simpa using this

/-- conditions `ident op value` -/
theorem token_roundtrip_cond (c : Cond) (f : Nat) (hf : szIdent c.ident ≤ f) (hw : wfCond c = true) :
    dCond f (toksCond c) = some (c, []) := by
  have := dCond_toks c f [] hf hw
  simpa using this

/-- **`parseTokens (tokensOf e) = ok e`** for every expression in the parser's image, any nesting depth -/
theorem token_roundtrip_expr (e : Expr) (f : Nat) (hf : szExpr e ≤ f) (hw : wfExpr e = true) :
    parseExprToks f (toksExpr e) = some e := by
  have := dExpr_toks e f [] hf hw (by simp [headNot]) (by simp [headNot])
  simp only [List.append_nil] at this
  simp [parseExprToks, this]

/-- sources: a `{…}` tag set (under C08's round trip for that set, part of `wfSource`) or an expression -/
theorem token_roundtrip_source (s : Source) (f : Nat) (hf : srcFuel s ≤ f) (hw : wfSource s = true) :
    parseSourceToks f (toksSource s) = some s := by
  have := dSource_toks s f (by cases s <;> simpa [srcFuel] using hf) hw
  simp [parseSourceToks, this]

/-! ## character level, under `Lexable` -/

/-- the printed text lexes to `tokensOf` (strings quoted by `strconv.Quote` give one String token with the same
value, operands / operators / parentheses are separated as printed, no Tags token swallows a later `}`) -/
def LexableExpr (e : Expr) : Prop := lex (printExpr e) = some (toksExpr e)
def LexableSource (s : Source) : Prop := lex (printSource s) = some (toksSource s)

instance (e : Expr) : Decidable (LexableExpr e) := by unfold LexableExpr; exact inferInstance
instance (s : Source) : Decidable (LexableSource s) := by unfold LexableSource; exact inferInstance

/-- **print then parse gives the same expression back** (so the same filter truth values) -/
theorem print_parse_partial (e : Expr) (hw : wfExpr e = true) (hl : LexableExpr e) :
    parseExprText (szExpr e) (printExpr e) = some e := by
  unfold parseExprText
  rw [hl]
  exact token_roundtrip_expr e _ (Nat.le_refl _) hw

theorem print_parse_source_partial (s : Source) (hw : wfSource s = true) (hl : LexableSource s) :
    parseSourceText (srcFuel s) (printSource s) = some s := by
  unfold parseSourceText
  rw [hl]
  exact token_roundtrip_source s _ (Nat.le_refl _) hw

/-- what `cmdCreatePipe` stores for `CREATE PIPE p FROM S WHERE F` (pkg/backend/admin.go) -/
def createPipeStores (p : Pipe) : Bytes × Bytes × Bytes := (p.name, sourceString p.from_, exprString p.where_)

/-- **`CREATE PIPE p FROM S WHERE F` ≡ the pipe defined directly by S and F**: the stored texts are `print S`,
`print F`, and `newPPipe` (which parses the stored texts with `ParseSource` / `ParseExpr`) gets S and F back —
hence the same `srcF` and `fltF` — under the hypotheses of `print_parse_partial`. -/
theorem create_pipe_equiv_partial (name : Bytes) (S : Source) (F : Expr)
    (hS : wfSource S = true) (hF : wfExpr F = true) (lS : LexableSource S) (lF : LexableExpr F) :
    let st := createPipeStores ⟨name, some S, some F⟩
    st.1 = name ∧ parseSourceText (srcFuel S) st.2.1 = some S ∧ parseExprText (szExpr F) st.2.2 = some F := by
  refine ⟨rfl, ?_, ?_⟩
  · exact print_parse_source_partial S hS lS
  · exact print_parse_partial F hF lF

/-! ## the full statement, and why it does not hold today -/

/-- meaning-preserving normal form: `Select.Format` nil ≡ "" (it is only ever printed), `Pipes.Void` is never used -/
def normalize (l : Lql) : Lql :=
  { l with
    select := l.select.map (fun s => { s with format := match s.format with | some [] => none | x => x }),
    show_ := l.show_.map (fun s => { s with pipes := s.pipes.map (fun p => { p with void := none }) }) }

/-- **C12 at full strength**: every accepted statement prints as an accepted text with the same (normalised) AST, for
every date parser `dp` and date printer `rd` that invert each other on the instants the statement prints. -/
def C12_full : Prop :=
  ∀ (dp : Bytes → Option Int) (rd : Int → Bytes) (text : Bytes) (l : Lql), parseLql dp text = some l →
    (∀ v ∈ printedDates l, dp (rd v) = some v) →
    ∃ l', parseLql dp (printLql rd l) = some l' ∧ canonLql (normalize l') = canonLql (normalize l)

/-! ### counterexamples (evaluated on the model by the kernel) -/

def dp0 : Bytes → Option Int := fun _ => none
def rd0 : Int → Bytes := fun _ => []
def txt (s : String) : Bytes := Go.ofAscii s

/-- F12a: `SELECT FROM {a=b} WHERE msg CONTAINS "\x7d"` is accepted and prints `… CONTAINS "}"`, which the lexer
rejects (the greedy Tags token runs to the last `}` of the line and leaves a lone `"`) -/
theorem cex_brace_after_tags :
    Logrange.Generated.C12.tagsQuoteAware = true ∨
    ((parseLql dp0 (txt "SELECT FROM {a=b} WHERE msg CONTAINS \"\\x7d\"")).map (printLql rd0)
      = some (txt "SELECT FROM {a=b} WHERE msg CONTAINS \"}\"")
    ∧ lex (txt "SELECT FROM {a=b} WHERE msg CONTAINS \"}\"") = none
    ∧ (parseLql dp0 (txt "SELECT FROM {a=b} WHERE msg CONTAINS \"\\x7d\"")).map (classBraceAfterTags rd0) = some true) := by
  decide +kernel

/-- … and with the quote-aware Tags pattern of proposed-fixes/F12a.diff (regenerated fact `tagsQuoteAware`) the same
statements — a `}` in a WHERE value, in a position, after nested braces — print as texts that parse back to the same AST
(kernel evaluation of lexer + engine + printers on the witnesses of the class; not a ∀-theorem about the pattern) -/
theorem brace_after_tags_roundtrips :
    Logrange.Generated.C12.tagsQuoteAware = false ∨
    (((parseLql dp0 (txt "SELECT FROM {a=b} WHERE msg CONTAINS \"\\x7d\"")).bind (fun l => parseLql dp0 (printLql rd0 l))).map canonLql
        = (parseLql dp0 (txt "SELECT FROM {a=b} WHERE msg CONTAINS \"\\x7d\"")).map canonLql
    ∧ (parseLql dp0 (txt "SELECT FROM {a=b} WHERE msg CONTAINS \"\\x7d\"")).isSome = true
    ∧ ((parseLql dp0 (txt "select from {{a=\"x}y\",b=c}} position \"\\x7d\" limit 5")).bind (fun l => parseLql dp0 (printLql rd0 l))).map canonLql
        = (parseLql dp0 (txt "select from {{a=\"x}y\",b=c}} position \"\\x7d\" limit 5")).map canonLql
    ∧ (parseLql dp0 (txt "select from {{a=\"x}y\",b=c}} position \"\\x7d\" limit 5")).isSome = true
    ∧ lex (txt "{a=b} WHERE msg CONTAINS \"}\"") = some [⟨.tags, txt "{a=b}"⟩, ⟨.keyword, txt "WHERE"⟩, ⟨.ident, txt "msg"⟩, ⟨.keyword, txt "CONTAINS"⟩, ⟨.string, txt "}"⟩]) := by
  decide +kernel

/-- F12b: `select from {a="}"}` prints `SELECT FROM {a=}}`, which `tag.Parse` rejects -/
theorem cex_tags_value_brace :
    (parseLql dp0 (txt "select from {a=\"}\"}")).map (printLql rd0) = some (txt "SELECT FROM {a=}}")
    ∧ (parseLql dp0 (txt "SELECT FROM {a=}}")).isNone = true
    ∧ (parseLql dp0 (txt "select from {a=\"}\"}")).map classUnsafeTags = some true := by
  decide +kernel

/-! (F12c, F12d, F12f were repaired in /repo — 846d74c, 166caa8, 0c67e9a; their counterexamples are replaced by the
positive theorems of the section "TRUNCATE" below.) -/

/-- F12e: bare `SELECT` is accepted with every field nil and prints the empty text, which is rejected -/
theorem cex_bare_select :
    (parseLql dp0 (txt "SELECT")).map (printLql rd0) = some []
    ∧ (parseLql dp0 []).isNone = true
    ∧ (parseLql dp0 (txt "SELECT")).map classBareKeyword = some true
    ∧ (parseLql dp0 (txt "SELECT")).map printedDates = some [] := by
  decide +kernel

/-! (F12g was repaired in /repo — 2681434: `ParseLql` rejects a Range without a time point; its counterexample is replaced
by the positive theorems `parsed_range_has_time_point` / `range_prints_nonempty` below.) -/

/-- the full statement is false for the code as it is (witness: bare `SELECT`) -/
theorem not_C12_full : ¬ C12_full := by
  intro h
  obtain ⟨h1, h2, _, h4⟩ := cex_bare_select
  cases hp : parseLql dp0 (txt "SELECT") with
  | none => rw [hp] at h1; cases h1
  | some l =>
    rw [hp] at h1 h4
    simp only [Option.map_some, Option.some.injEq] at h1 h4
    obtain ⟨l', hl', _⟩ := h dp0 rd0 (txt "SELECT") l hp (by intro v hv; rw [h4] at hv; cases hv)
    rw [h1] at hl'
    rw [hl'] at h2
    cases h2

/-! ### non-vacuity: the hypotheses of the round-trip theorems hold for a nested expression and both source kinds -/

/-- `a = "1" AND NOT ( b like "x}" OR f(c,d) PREFIX "5" )` -/
def exE : Expr :=
  .mk (.cons (.mk (.cons (.cond false ⟨.mk [97] .nil, [61], [49]⟩)
      (.cons (.paren true (.mk (.cons (.mk (.cons (.cond false ⟨.mk [98] .nil, txt "like", txt "x}"⟩) .nil))
        (.cons (.mk (.cons (.cond false ⟨.mk [102] (.cons (.mk [99] .nil) (.cons (.mk [100] .nil) .nil)), txt "PREFIX", [53]⟩) .nil)) .nil)))) .nil))) .nil)

/-- evaluated once; the examples below that need the hypotheses of the round-trip theorems for `exE` take them from here -/
theorem _root_.Logrange.Lql.exE_wf_la : wfExpr exE = true ∧ laExpr exE = true := by decide +kernel

theorem _root_.Logrange.Lql.exE_wf_lexable : wfExpr exE = true ∧ LexableExpr exE :=
  ⟨exE_wf_la.1, lex_printExpr exE exE_wf_la.2⟩

example : wfExpr exE = true ∧ LexableExpr exE := exE_wf_lexable
example : parseExprText (szExpr exE) (printExpr exE) = some exE :=
  print_parse_partial exE exE_wf_lexable.1 exE_wf_lexable.2
example : wfSource (.tags [([97], [98]), ([99], txt "x,y")]) = true ∧ LexableSource (.tags [([97], [98]), ([99], txt "x,y")]) ∧
    (parseLql dp0 (txt "select from {c=\"x,y\", a=b}")).map (fun l => l.select.map (fun s => s.source.map wfSource)) = some (some (some true)) := by
  unfold LexableSource; decide +kernel
/-- the F12b witness is excluded by `wfSource`, the F12a shape by `Lexable` -/
example : wfSource (.tags [([97], [125])]) = false := by decide +kernel

/-! ## TRUNCATE — the repaired printer (0c67e9a, 166caa8, 846d74c): positive theorems replacing the retired
counterexamples of F12c / F12d / F12f -/

/-- the printer shapes these theorems are about are the ones /repo has **now** (regenerated facts): sizes unsigned,
MAXDBSIZE printed, BEFORE quoted once, instants through `Format` with the fixed nine-digit layout -/
theorem truncate_printer_shapes :
    Logrange.Generated.C12.truncateSizesUnsigned = true ∧ Logrange.Generated.C12.truncateDbSizeUnsigned = true
    ∧ Logrange.Generated.C12.truncatePrintsMaxDbSize = true
    ∧ Logrange.Generated.C12.beforeQuotedOnce = true ∧ Logrange.Generated.C12.dateUsesFormat = true
    ∧ Logrange.Generated.C12.dateLayout = txt "2006-01-02 15:04:05.000000000 -0700 MST" := by
  decide +kernel

/-- with those shapes every clause is printed, each size as its unsigned decimal text (no `int64` wrap-around for
sizes ≥ 2^63) and the instant quoted once -/
theorem truncate_prints_every_clause (rd : Int → Bytes) (t : Truncate) :
    printTruncate rd t = bs "TRUNCATE" ++ (if t.dryRun then bs " DRYRUN" else []) ++ printOptSource t.source
      ++ (sizeClause true "MINSIZE" t.minSize ++ sizeClause true "MAXSIZE" t.maxSize
          ++ (match t.before with | none => [] | some v => bs " BEFORE " ++ GoLib.quote (rd v))
          ++ sizeClause true "MAXDBSIZE" t.maxDbSize) := by
  obtain ⟨h1, h1', h2, h3, _, _⟩ := truncate_printer_shapes
  unfold printTruncate truncateTail truncateTailWith
  rw [h1, h1', h2, h3]
  cases t.before <;> simp [beforeClause, printDate]

/-- **TRUNCATE round trip at token level**, all clauses (DRYRUN, source, MINSIZE, MAXSIZE, BEFORE, MAXDBSIZE), every
size with `sizeOK` (decidable: its decimal text is read back to it — see the examples at 2^63 and at the largest
float64 below 2^64), any source in the parser's image at any depth, **given the date contract** for the BEFORE instant
(`dp (rd v) = some v`: the date parser reads the printed text of the instant back to the instant — C20's side of the
boundary; the harness exercises it on every run, section `datecontract`). -/
theorem token_roundtrip_truncate (dp : Bytes → Option Int) (rd : Int → Bytes) (t : Truncate) (f : Nat)
    (hf : (match t.source with | some (.expr e) => szExpr e | _ => 0) ≤ f)
    (hw : wfTruncate rd t = true) (hd : DateContract dp rd t) :
    directTruncateFuel dp f (toksTruncate rd t) = some t :=
  dTruncate_toks dp rd t f hf hw hd

def LexableTruncate (rd : Int → Bytes) (t : Truncate) : Prop := lex (printTruncate rd t) = some (toksTruncate rd t)
instance (rd : Int → Bytes) (t : Truncate) : Decidable (LexableTruncate rd t) := by unfold LexableTruncate; exact inferInstance

/-- **print then parse gives the same TRUNCATE statement back** — same partitions selected, same sizes incl. MAXDBSIZE,
same BEFORE instant, same DRYRUN — under `Lexable` and the date contract -/
theorem print_parse_truncate_partial (dp : Bytes → Option Int) (rd : Int → Bytes) (t : Truncate) (f : Nat)
    (hf : (match t.source with | some (.expr e) => szExpr e | _ => 0) ≤ f)
    (hw : wfTruncate rd t = true) (hd : DateContract dp rd t) (hl : LexableTruncate rd t) :
    (lex (printTruncate rd t)).bind (directTruncateFuel dp f) = some t := by
  rw [hl]; exact token_roundtrip_truncate dp rd t f hf hw hd

/-- the date part in isolation: whatever instant the statement carries, what comes back through the BEFORE clause is
that instant, exactly when the date functions satisfy the contract on it -/
theorem before_instant_preserved (dp : Bytes → Option Int) (rd : Int → Bytes) (v : Int) (rest : List Tok)
    (h : dp (rd v) = some v) :
    dDateClause dp kwBEFORE (beforeToks rd (some v) ++ rest) = some (some v, rest) :=
  dDateClause_toks dp rd (some v) rest (by intro w hw; cases hw; exact h) (by intro hn; cases hn)

/-- sizes the old printer wrapped around are fine now: 2^63, the largest float64 below 2^64, 10000P -/
example : sizeOK (2^63) = true ∧ sizeOK 18446744073709549568 = true ∧ sizeOK 10000000000000000000 = true
    ∧ sizeOK 0 = true ∧ sizeOK 5000000000 = true := by decide +kernel
/-- … and a uint64 that is not a float64 value is not in the parser's image (`ParseBytes` rounds it) -/
example : sizeOK (2^53 + 1) = false := by decide +kernel

def rdEx : Int → Bytes := fun _ => txt "2019-01-02 12:34:55.500000000 +0000 UTC"
def dpEx : Bytes → Option Int := fun b => if b == txt "2019-01-02 12:34:55.500000000 +0000 UTC" then some 1546432495500000000 else none
/-- `TRUNCATE DRYRUN a = "1" … MINSIZE 2^63 MAXSIZE 18446744073709549568 BEFORE "…55.5…" MAXDBSIZE 5000000000` -/
def exT : Truncate :=
  { dryRun := true, source := some (.expr exE), minSize := some (2^63), maxSize := some 18446744073709549568,
    before := some 1546432495500000000, maxDbSize := some 5000000000 }

theorem _root_.Logrange.Lql.exT_wf_lexable :
    wfTruncate rdEx exT = true ∧ LexableTruncate rdEx exT ∧ dpEx (rdEx 1546432495500000000) = some 1546432495500000000 := by
  unfold LexableTruncate; decide +kernel

example : wfTruncate rdEx exT = true ∧ LexableTruncate rdEx exT ∧ dpEx (rdEx 1546432495500000000) = some 1546432495500000000 :=
  exT_wf_lexable
/-- the old F12c/F12d/F12f witnesses, through the whole model (lexer + engine on the regenerated grammar + printer) -/
example :
    (parseLql dpEx (txt "TRUNCATE MAXDBSIZE 5G")).map (printLql rdEx) = some (txt "TRUNCATE MAXDBSIZE 5000000000")
    ∧ (parseLql dpEx (txt "TRUNCATE MINSIZE 9223372036854775808")).map (printLql rdEx) = some (txt "TRUNCATE MINSIZE 9223372036854775808")
    ∧ ((parseLql dpEx (txt "TRUNCATE MINSIZE 9223372036854775808")).bind (fun l => parseLql dpEx (printLql rdEx l))).map
        (fun l => l.truncate.map (·.minSize)) = some (some (some (2^63))) := by
  decide +kernel

/-! ## RANGE — the repaired parser (2681434): positive theorems replacing the retired counterexample of F12g -/

/-- **every accepted SELECT with a RANGE clause names at least one time point** (the post-check the extractor finds in
`ParseLql` now: fact `parseLqlRejectsEmptyRange`) -/
theorem parsed_range_has_time_point (dp : Bytes → Option Int) (text : Bytes) (l : Lql) (s : Select) (r : Range)
    (hp : parseLql dp text = some l) (hs : l.select = some s) (hr : s.range = some r) :
    r.p1.isSome = true ∨ r.p2.isSome = true := by
  have hfact : Logrange.Generated.C12.parseLqlRejectsEmptyRange = true := by decide
  revert hp
  fun_cases parseLql dp text
  case case3 ts _ v _ =>
    intro hp
    simp only [toLqlChecked, Option.bind_eq_some_iff, postCheck, hfact, Bool.true_and] at hp
    obtain ⟨l0, _, h⟩ := hp
    split at h
    · cases h
    · rename_i hne
      cases h
      simp only [hasEmptyRange, hs, hr, Bool.and_eq_true, Option.isNone_iff_eq_none] at hne
      cases h1 : r.p1 with
      | some _ => exact .inl rfl
      | none =>
        cases h2 : r.p2 with
        | some _ => exact .inr rfl
        | none => exact absurd ⟨h1, h2⟩ hne
  all_goals exact fun h => nomatch h
/-- … so `Range.makeString` never prints the bare blank that made `SELECT RANGE [` unparsable: at least the blank and
a quoted instant -/
theorem range_prints_nonempty (rd : Int → Bytes) (r : Range) (h : r.p1.isSome = true ∨ r.p2.isSome = true) :
    3 ≤ (printRange rd r).length := by
  cases h2 : r.p2 with
  | some v2 => simp [printRange, h2, printDate, GoLib.quote, bs, Go.ofAscii] <;> omega
  | none =>
    cases h1 : r.p1 with
    | some v1 => simp [printRange, h2, h1, printDate, GoLib.quote] <;> omega
    | none => simp [h1, h2] at h

/-- the old witness is rejected by the model as it is by the code; the bracketed spellings with a time point are not -/
example : (parseLql dp0 (txt "SELECT RANGE [")).isNone = true ∧ (parseLql dp0 (txt "select from a=b range [ limit 5")).isNone = true
    ∧ (parseLql dpEx (txt "select range [\"2019-01-02 12:34:55.500000000 +0000 UTC\"")).map hasEmptyRange = some false := by
  decide +kernel

/-! ## every statement kind at token level -/

/-- **C12_wf: for every statement in the parser's image minus the open classes — SELECT (format, source, RANGE, WHERE,
POSITION, OFFSET, LIMIT), SHOW PARTITIONS / PIPES, DESCRIBE PARTITION / PIPE, TRUNCATE, CREATE PIPE, DELETE PIPE — at
any nesting depth, the direct statement parser returns exactly the statement from `tokensOf` of it**, given the date
contract for the instants it prints and any fuel ≥ the size of its expressions. `wfLql` is decidable and is evaluated
on every accepted statement of every run (it held on all outside F12b / F12e). -/
theorem C12_wf (dp : Bytes → Option Int) (rd : Int → Bytes) (l : Lql) (f : Nat) (hf : lqlSz l ≤ f)
    (hw : wfLql rd l = true) (hc : LqlContract dp rd l) : directLqlFuel dp f (toksLql rd l) = some l :=
  directLql_toks dp rd l f hf hw hc

def LexableLql (rd : Int → Bytes) (l : Lql) : Prop := lex (printLql rd l) = some (toksLql rd l)
instance (rd : Int → Bytes) (l : Lql) : Decidable (LexableLql rd l) := by unfold LexableLql; exact inferInstance

/-- print then parse gives the same statement back, every statement kind, under `Lexable` and the date contract -/
theorem print_parse_lql_partial (dp : Bytes → Option Int) (rd : Int → Bytes) (l : Lql) (f : Nat) (hf : lqlSz l ≤ f)
    (hw : wfLql rd l = true) (hc : LqlContract dp rd l) (hl : LexableLql rd l) :
    (lex (printLql rd l)).bind (directLqlFuel dp f) = some l := by
  rw [hl]; exact C12_wf dp rd l f hf hw hc

/-- `SELECT "{msg}" FROM <exE> RANGE ["…55.5…":"…55.5…"] WHERE <exE> POSITION "tail" OFFSET -5 LIMIT 10` -/
def exS : Select :=
  { format := some (txt "{msg}"), source := some (.expr exE), range := some ⟨some 1546432495500000000, some 1546432495500000000⟩,
    where_ := some exE, position := some (txt "tail"), offset := some (-5), limit := some 10 }

theorem _root_.Logrange.Lql.exS_wf_lexable :
    wfLql rdEx { select := some exS } = true ∧ LexableLql rdEx { select := some exS } := by
  unfold LexableLql; decide +kernel

example : wfLql rdEx { select := some exS } = true ∧ LexableLql rdEx { select := some exS } := exS_wf_lexable
example : wfLql rdEx { show_ := some { partitions := some { source := some (.tags [([97], [98])]), offset := some 0, limit := some 7 } } } = true
    ∧ wfLql rdEx { create := some { pipe := some { name := txt "p1", from_ := some (.expr exE), where_ := some exE } } } = true
    ∧ wfLql rdEx { describe := some { pipe := some (txt "a:b/c") } } = true ∧ wfLql rdEx { delete := some { pipeName := some (txt "p") } } = true
    ∧ wfLql rdEx { truncate := some exT } = true := by
  decide +kernel
/-- the open classes are outside `wfLql`: bare keyword (F12e), `SELECT ""` (F12e), unsafe tag value (F12b) -/
example : wfLql rdEx {} = false ∧ wfLql rdEx { select := some { format := some [] } } = false
    ∧ wfLql rdEx { select := some { source := some (.tags [([97], [125])]) } } = false := by
  decide +kernel

/-! ## character level WITHOUT the `Lexable` hypothesis (expressions, expression sources, CREATE PIPE over them) -/

/-- **`lex (print e) = tokensOf e`, proved from the lexer model** (maximal munch over the seven token groups, ties to the
earlier group, blanks skipped, participle's unquote) for every expression with lexable atoms, any nesting depth.
`laExpr` (decidable): operands identifier-shaped (`[a-zA-Z_][a-z./\-A-Z0-9_:]*`; this covers every letter keyword used
as an operand), operators one of the six symbols or an identifier-shaped keyword, every value `strAtomOK` — its
`strconv.Quote` text has the shape the String pattern consumes whole and participle's unquote reads it back (a decidable
per-value condition; `strconv.Quote` gives the shape for every byte string and the unquote half holds for valid UTF-8 —
that general fact about Quote is NOT proved here, it is evaluated per value). -/
theorem lexable_expr (e : Expr) (h : laExpr e = true) : LexableExpr e := lex_printExpr e h

/-- **print then parse is the identity on expressions**, no `Lexable` hypothesis -/
theorem print_parse_expr (e : Expr) (hw : wfExpr e = true) (hl : laExpr e = true) :
    parseExprText (szExpr e) (printExpr e) = some e :=
  print_parse_partial e hw (lexable_expr e hl)

/-- the same for a source condition given as an expression (a `{…}` source still needs `LexableSource`: F12a/F12b live there) -/
theorem print_parse_source_expr (s : Expr) (hw : wfExpr s = true) (hl : laExpr s = true) :
    parseSourceText (szExpr s) (printSource (.expr s)) = some (.expr s) :=
  print_parse_source_partial (.expr s) (by simpa [wfSource] using hw)
    (by unfold LexableSource; simpa [printSource, toksSource] using lex_printExpr s hl)

/-- **`CREATE PIPE p FROM S WHERE F` ≡ the pipe defined directly by S and F, without the `Lexable` hypothesis**, for
S an expression source: the stored texts `print S`, `print F` parse back to S and F -/
theorem create_pipe_equiv (name : Bytes) (S F : Expr) (hS : wfExpr S = true) (hF : wfExpr F = true)
    (lS : laExpr S = true) (lF : laExpr F = true) :
    let st := createPipeStores ⟨name, some (.expr S), some F⟩
    st.1 = name ∧ parseSourceText (szExpr S) st.2.1 = some (.expr S) ∧ parseExprText (szExpr F) st.2.2 = some F :=
  ⟨rfl, print_parse_source_expr S hS lS, print_parse_expr F hF lF⟩

example : laExpr exE = true := exE_wf_la.2
example : parseExprText (szExpr exE) (printExpr exE) = some exE := print_parse_expr exE exE_wf_la.1 exE_wf_la.2

/-! ## integers: the `intOK` hypothesis of `wfLql` holds for every int64 -/

/-- **`strconv.ParseInt(fmt.Sprintf("%d", i), 0, 64) = i` for every int64** (models `decInt`, `parseInt0`: decimal digits
without a leading zero are never read as octal), and the text is never mistaken for an operator or a parenthesis: OFFSET /
LIMIT values need no per-value hypothesis in `C12_wf` -/
theorem intOK_every_int64 (i : Int) (h1 : -(2 ^ 63) ≤ i) (h2 : i < 2 ^ 63) : intOK i = true := intOK_all i h1 h2

theorem offset_limit_text_roundtrip (i : Int) (h1 : -(2 ^ 63) ≤ i) (h2 : i < 2 ^ 63) : parseInt0 (decInt i) = some i :=
  parseInt0_decInt i h1 h2

/-! ## the participle engine on the REGENERATED grammar = the direct parsers (expressions, sources): proved

`Proofs/LqlEngine*.lean`: one-step equations of the interpreter (`parseSeq`/`parseDisj`/`parseRep`/optional group), then per
struct of the regenerated grammar (`grammar "Identifier" = some identBody` … by `rfl` against `Generated/C12.lean`) a
simulation lemma between the interpreter on that struct's node tree and the direct parser function, for EVERY token list, cursor
and nesting depth (induction on the remaining tokens; the `{"," @@}`, `{"AND" @@}`, `{"OR" @@}` loops by their own induction;
swallowed soft errors, the one-token `Stop` rule and nil-vs-empty values are followed exactly). Hypothesis `OperandNotParen`:
no Ident/Keyword token is spelled `(` (decidable; true of every token list the lexer produces — the direct parser commits to
"condition" on an operand token, the engine would still try the parenthesis). Fuels: the engine's `60·n+200` and the direct
parser's `directFuel = 4·n+16` are the ones the models use (both proved sufficient); the conversion fuel must be ≥ `cvExpr e`. -/

instance (toks : List Tok) : Decidable (OperandNotParen toks) := by unfold OperandNotParen; exact inferInstance

/-- **engine = direct parser, root `Expression`** (`lql.ParseExpr` after lexing): same acceptance, same AST -/
theorem engine_eq_direct_expr (toks : List Tok) (hH : OperandNotParen toks) (ft : Nat)
    (hft : ∀ e, directExpr toks = some e → cvExpr e ≤ ft) :
    (runEngine Logrange.Generated.C12.grammar "Expression" toks).bind (toExpr ft) = directExpr toks := by
  have h := engine_direct_expr toks hH
  cases hd : directExpr toks with
  | none => rw [hd] at h; rw [h]; rfl
  | some e =>
    rw [hd] at h
    obtain ⟨v, hv, _, hc⟩ := h
    rw [hv]; simp [hc ft (hft e hd)]

/-- **engine = direct parser, root `Source`** (`lql.ParseSource` after lexing) -/
theorem engine_eq_direct_source (toks : List Tok) (hH : OperandNotParen toks) (ft : Nat)
    (hft : ∀ s, directSource toks = some s → cvSource s ≤ ft) :
    (runEngine Logrange.Generated.C12.grammar "Source" toks).bind (toSource ft) = directSource toks := by
  have h := engine_direct_source toks hH
  cases hd : directSource toks with
  | none =>
    rw [hd] at h
    rcases h with h | ⟨v, hv, hn⟩
    · rw [h]; rfl
    · rw [hv]; simp [hn ft]
  | some s =>
    rw [hd] at h
    obtain ⟨v, hv, hc⟩ := h
    rw [hv]; simp [hc ft (hft s hd)]

/-- acceptance alone needs no fuel hypothesis at all: the engine accepts an expression exactly when the direct parser does -/
theorem engine_accepts_iff_direct_expr (toks : List Tok) (hH : OperandNotParen toks) :
    (runEngine Logrange.Generated.C12.grammar "Expression" toks).isSome = (directExpr toks).isSome := by
  have h := engine_direct_expr toks hH
  cases hd : directExpr toks with
  | none => rw [hd] at h; rw [h]; rfl
  | some e => rw [hd] at h; obtain ⟨v, hv, _, _⟩ := h; rw [hv]; rfl

/-- non-vacuity: the tokens of the nested example satisfy the hypothesis, are accepted, and a mis-spelled operand token is
what the hypothesis excludes (there the two parsers really differ: the engine reads a parenthesis, the direct parser fails) -/
theorem _root_.Logrange.Lql.exE_notParen_cv : OperandNotParen (toksExpr exE) ∧ cvExpr exE = 30 := by decide +kernel

example : OperandNotParen (toksExpr exE) ∧ (directExpr (toksExpr exE)).map canonExpr = some (canonExpr exE)
    ∧ cvExpr exE = 30 :=
  ⟨exE_notParen_cv.1, by rw [directExpr_toksExpr exE exE_wf_lexable.1]; rfl, exE_notParen_cv.2⟩
example : (runEngine Logrange.Generated.C12.grammar "Expression" (toksExpr exE)).bind (toExpr 30) = directExpr (toksExpr exE) :=
  engine_eq_direct_expr _ exE_notParen_cv.1 30 (by
    intro e he
    rw [directExpr_toksExpr exE exE_wf_lexable.1] at he
    cases he; exact Nat.le_of_eq exE_notParen_cv.2)
example : ¬ OperandNotParen [⟨.ident, [40]⟩, ⟨.ident, [97]⟩, ⟨.operator, [61]⟩, ⟨.string, [49]⟩, ⟨.operator, [41]⟩]
    ∧ (runEngine Logrange.Generated.C12.grammar "Expression" [⟨.ident, [40]⟩, ⟨.ident, [97]⟩, ⟨.operator, [61]⟩, ⟨.string, [49]⟩, ⟨.operator, [41]⟩]).isSome = true
    ∧ (directExpr [⟨.ident, [40]⟩, ⟨.ident, [97]⟩, ⟨.operator, [61]⟩, ⟨.string, [49]⟩, ⟨.operator, [41]⟩]).isNone = true := by
  decide +kernel

/-- **the lexer only produces token lists that satisfy the hypothesis** (no Ident/Keyword token is spelled `(`) -/
theorem lexed_tokens_operand_not_paren (text : Bytes) (ts : List Tok) (h : lex text = some ts) : OperandNotParen ts :=
  lex_operandNotParen text ts h

/-- **`lql.ParseExpr` through the engine on the regenerated grammar = through the direct parser, on every text** -/
theorem engine_eq_direct_expr_lexed (text : Bytes) (ts : List Tok) (h : lex text = some ts) (ft : Nat)
    (hft : ∀ e, directExpr ts = some e → cvExpr e ≤ ft) :
    (runEngine Logrange.Generated.C12.grammar "Expression" ts).bind (toExpr ft) = directExpr ts :=
  engine_eq_direct_expr ts (lex_operandNotParen text ts h) ft hft

/-- … and `lql.ParseSource` likewise -/
theorem engine_eq_direct_source_lexed (text : Bytes) (ts : List Tok) (h : lex text = some ts) (ft : Nat)
    (hft : ∀ s, directSource ts = some s → cvSource s ≤ ft) :
    (runEngine Logrange.Generated.C12.grammar "Source" ts).bind (toSource ft) = directSource ts :=
  engine_eq_direct_source ts (lex_operandNotParen text ts h) ft hft

example : (lex (txt "a = \"1\" AND NOT ( b like \"x\" OR f(c,d) PREFIX \"5\" )")).isSome = true := by decide +kernel

/-! ## fuels: `directFuel` always suffices; the conversion fuel `8·n+50` always suffices (`Proofs/LqlFuel.lean`) -/

/-- **the direct expression parser does not depend on its fuel once it is ≥ `directFuel toks = 4·n+16`** -/
theorem direct_fuel_suffices_expr (toks : List Tok) (f f' : Nat) (h : directFuel toks ≤ f) (h' : directFuel toks ≤ f') :
    dExpr f toks = dExpr f' toks := dExpr_fuel_indep toks f f' h h'

theorem direct_fuel_suffices_source (toks : List Tok) (f f' : Nat) (h : directFuel toks ≤ f) (h' : directFuel toks ≤ f') :
    dSource f toks = dSource f' toks := dSource_fuel_indep toks f f' h h'

/-- … and so does the direct statement parser (every statement kind) -/
theorem direct_fuel_suffices_lql (dp : Bytes → Option Int) (toks : List Tok) (f f' : Nat) (h : directFuel toks ≤ f)
    (h' : directFuel toks ≤ f') : directLqlFuel dp f toks = directLqlFuel dp f' toks := directLqlFuel_indep dp toks f f' h h'

/-- **`C12_wf` with the parser's own fuel: no fuel hypothesis left** — `directLql` (fuel `directFuel`) returns exactly the
statement from `tokensOf` of it, every statement kind, any depth -/
theorem C12_wf_canonical_fuel (dp : Bytes → Option Int) (rd : Int → Bytes) (l : Lql) (hw : wfLql rd l = true)
    (hc : LqlContract dp rd l) : directLql dp (toksLql rd l) = some l := directLql_toksLql dp rd l hw hc

theorem token_roundtrip_expr_canonical_fuel (e : Expr) (hw : wfExpr e = true) : directExpr (toksExpr e) = some e :=
  directExpr_toksExpr e hw

/-- **engine = direct parser with the models' own three fuels** (`runEngine`: `60·n+200`, conversion: `8·n+50` as in
`parseLql` and the driver, direct: `directFuel`): the conversion fuel hypothesis of `engine_eq_direct_expr` is discharged
(`cvExpr e ≤ 3·n` for every AST the direct parser returns) -/
theorem engine_eq_direct_expr_canonical (toks : List Tok) (hH : OperandNotParen toks) :
    (runEngine Logrange.Generated.C12.grammar "Expression" toks).bind (toExpr (8 * toks.length + 50)) = directExpr toks :=
  engine_eq_direct_expr toks hH _ (fun e he => directExpr_cv toks e he)

theorem engine_eq_direct_source_canonical (toks : List Tok) (hH : OperandNotParen toks) :
    (runEngine Logrange.Generated.C12.grammar "Source" toks).bind (toSource (8 * toks.length + 50)) = directSource toks :=
  engine_eq_direct_source toks hH _ (fun s hs => directSource_cv toks s hs)

/-- **`lql.ParseExpr` on a TEXT: the engine route (what the driver's `E=` answer computes) = the direct route (`D=`)**,
no hypothesis at all -/
theorem parse_expr_text_engine_eq_direct (text : Bytes) :
    (lex text).bind (fun ts => (runEngine Logrange.Generated.C12.grammar "Expression" ts).bind (toExpr (8 * ts.length + 50)))
      = (lex text).bind directExpr := by
  cases h : lex text with
  | none => rfl
  | some ts => exact engine_eq_direct_expr_canonical ts (lex_operandNotParen text ts h)

theorem parse_source_text_engine_eq_direct (text : Bytes) :
    (lex text).bind (fun ts => (runEngine Logrange.Generated.C12.grammar "Source" ts).bind (toSource (8 * ts.length + 50)))
      = (lex text).bind directSource := by
  cases h : lex text with
  | none => rfl
  | some ts => exact engine_eq_direct_source_canonical ts (lex_operandNotParen text ts h)

/-! ## `strAtomOK` for every valid-UTF-8 value (`Proofs/LqlQuoteRT.lean`) -/

/-- the body `strconv.Quote` produces has the shape the String token pattern consumes whole — EVERY byte string -/
theorem quote_body_shape_every_string (v : Bytes) : strOK (GoLib.quoteBody (v.length + 1) v GoLib.DQ) = true :=
  strOK_quoteBody v

/-- **every valid-UTF-8 value is a lexable atom**: quoted by `strconv.Quote`, lexed as one String token, read back by
participle's unquote — the value clause of `laExpr` holds for every valid-UTF-8 value (for other values it is false:
`\xNN` comes back as a two-byte rune) -/
theorem strAtomOK_every_valid_utf8 (v : Bytes) (h : GoLib.isValidUtf8 v = true) : strAtomOK v = true := strAtomOK_of_valid v h

example : strAtomOK [0xff] = false ∧ GoLib.isValidUtf8 [0xff] = false ∧ GoLib.isValidUtf8 [0xc3, 0xa9, 32, 34, 92, 9, 0xe2, 0x82, 0xac] = true := by
  decide +kernel

/-! ## engine = direct parser for EVERY statement kind (`Proofs/LqlEngineStmt/Select/Trunc/Misc/All.lean`) -/

/-- what the statement-level theorem asks of the opaque date parser: it rejects the eleven texts `(`, `<`, `>`, `>=`, `<=`, `!=`,
`=`, `CONTAINS`, `PREFIX`, `SUFFIX`, `LIKE` (they are no dates; C20's side) -/
def DateRejectsOperators (dp : Bytes → Option Int) : Prop := ∀ b ∈ LP :: condOps, dp b = none

/-- **engine = direct parser, root `Lql`**: for every token list the lexer can produce (`OperandNotParen`), the participle-engine
interpreter on the REGENERATED grammar followed by the typed application of the captures and `ParseLql`'s post-check equals
the direct statement parser `directLql` — SELECT (format, FROM, RANGE, WHERE, POSITION, OFFSET, LIMIT), DESCRIBE, TRUNCATE, SHOW
PARTITIONS / PIPES, CREATE PIPE, DELETE PIPE, bare keywords, rejected statements — with the models' own fuels. Every struct body
is pinned by `rfl` against `Generated/C12.lean` (`g_lql`, `g_select`, `g_range`, `g_position`, `g_truncate`, `g_show`, `g_partitions`,
`g_pipes`, `g_describe`, `g_create`, `g_pipe`, `g_delete`, `g_source`, `g_expr`, `g_or`, `g_x`, `g_cond`, `g_ident`). -/
theorem engine_eq_direct_lql (dp : Bytes → Option Int) (hdp : DateRejectsOperators dp) (toks : List Tok) (hH : OperandNotParen toks) :
    (runEngine Logrange.Generated.C12.grammar "Lql" toks).bind (toLqlChecked dp (8 * toks.length + 50)) = directLql dp toks :=
  engine_direct_lql dp hdp toks hH

/-- **the parser model `parseLql` (lexer, engine on the regenerated grammar, captures, post-check) IS the lexer followed by the
direct statement parser**, on every text -/
theorem parse_lql_eq_direct (dp : Bytes → Option Int) (hdp : DateRejectsOperators dp) (text : Bytes) :
    parseLql dp text = (lex text).bind (directLql dp) := by
  unfold parseLql
  cases h : lex text with
  | none => rfl
  | some ts =>
    have := engine_eq_direct_lql dp hdp ts (lex_operandNotParen text ts h)
    simp only [Option.bind_some]
    rw [← this]
    unfold grammar
    cases runEngine Logrange.Generated.C12.grammar "Lql" ts <;> rfl

/-- **print then parse with the full parser model**: for every statement in the parser's image minus F12b / F12e whose printed
text lexes to its tokens (`LexableLql`: excludes F12a), `parseLql` of the printed text is the statement — every statement kind,
any depth, no fuel hypothesis, given the date contract (C20's side) -/
theorem print_parse_lql_model (dp : Bytes → Option Int) (rd : Int → Bytes) (hdp : DateRejectsOperators dp) (l : Lql)
    (hw : wfLql rd l = true) (hc : LqlContract dp rd l) (hl : LexableLql rd l) :
    parseLql dp (printLql rd l) = some l := by
  rw [parse_lql_eq_direct dp hdp, hl]
  exact C12_wf_canonical_fuel dp rd l hw hc

/-- the hypothesis on the date parser is needed: with a date parser that accepts `(` the two parsers differ on
`TRUNCATE BEFORE "(" MAXDBSIZE 10` (kernel-checked in `Proofs/LqlEngineTrunc.lean`), and it is met by the example parsers -/
example : OperandNotParen cexTruncToks ∧
    ((runEngine Logrange.Generated.C12.grammar "Lql" cexTruncToks).bind (toLqlChecked (fun _ => some 0) 1000)).isSome = false ∧
    (dTruncateRest (fun _ => some 0) (directFuel cexTruncToks) cexTruncToks.tail).isSome = true := cex_truncate_dp
theorem _root_.Logrange.Lql.dateRejectsOperators_ex : DateRejectsOperators dp0 ∧ DateRejectsOperators dpEx := by
  constructor <;> (intro b hb; revert b; decide +kernel)

example : DateRejectsOperators dp0 ∧ DateRejectsOperators dpEx := dateRejectsOperators_ex
example : parseLql dpEx (printLql rdEx { select := some exS }) = some { select := some exS } :=
  print_parse_lql_model dpEx rdEx dateRejectsOperators_ex.2 _ exS_wf_lexable.1
    ⟨fun s hs => by
        cases hs
        intro r hr; cases hr
        exact ⟨fun v hv => by cases hv; exact exT_wf_lexable.2.2, fun v hv => by cases hv; exact exT_wf_lexable.2.2⟩,
      fun t ht => by cases ht⟩ exS_wf_lexable.2

/-! ## the printed form of an instant and the LQL date format list -/

/-- **the date format list still has the formats the printed layout needs in every local zone**: `DateTime.String()` prints
`2006-01-02 15:04:05.000000000 -0700 MST`; where the zone abbreviation is alphabetic (UTC, CET, PST) the text is read by
`… ss.SSS ZZZZ ZZZ`, where it is numeric (`+04`, `-03`: Asia/Dubai, America/Sao_Paulo …) by `… ss.SSS ZZZZ` — without the
latter the fraction-only format matches and the instant is read as UTC: the RANGE bound / BEFORE instant shifts by the zone
offset although print and parse both succeed (seeded change C12-15). The list is a regenerated fact (`lqlDateFormats`); the
semantics of the formats stays C20's side (`DateContract`), exercised per zone by the harness section `datecontract`. -/
theorem printed_instant_formats_present :
    Logrange.Generated.C12.dateLayout = txt "2006-01-02 15:04:05.000000000 -0700 MST" →
    (Logrange.Generated.C12.lqlDateFormats.contains (txt "YYYY-MM-DD HH:mm:ss.SSS ZZZZ ZZZ") = true
     ∧ Logrange.Generated.C12.lqlDateFormats.contains (txt "YYYY-MM-DD HH:mm:ss.SSS ZZZZ") = true) := by
  decide +kernel

/-! ## the parser and the filter builder are functions of their text -/

/-- **pkg/lql keeps no mutable package-level state** (regenerated fact: no package-level variable that the package's own code
writes — assignment, increment, `Store`/`LoadOrStore`/`Delete`/`Lock` … — or whose type is a map / channel / `sync.*` container).
This is what the model assumes when it reads `ParseLql`, `ParseExpr`, `ParseSource`, `BuildWhereExpFunc`, `BuildTagsExpFunc` as
functions of the text alone (`parseLql dp text`, the evaluators of C05/C06): with a process-wide memo keyed by a normalised text
(seeded change C12-17: blanks collapsed, also inside string literals) the pipe created by `CREATE PIPE p … WHERE msg CONTAINS "a  b"`
would filter with the function built earlier for `"a b"`. The behaviour itself is compared by the harness (section pipes, filter
pairs built back to back in one process). -/
theorem filter_builder_is_function_of_text : Logrange.Generated.C12.lqlMutablePackageVars = 0 := by decide

end Logrange.Props.C12

import Logrange.Proofs.RdMergeNJournal
import Logrange.Proofs.RdOffsetBwd
/-!
# C16 — the forward offset law on a merged cursor of ANY number of partitions

On C04's mixer-tree model (`Logrange.Mixer.It`, `build` = `newCursor`'s reduction; read-only import) over the journal
iterator leaves of C03/C16 (`JSrc` library iterator, `RSrc` ranged iterator). `offsetFwdT k` is the positive branch of
`crsr.Offset` as a call sequence: `Get` (settle), then `k` times `Next; Get`, stopping at the first EOF. The backward
laws on merged cursors (`Mixer.SetBackward` with its inverted comparison, `iterateToPos`) stay as stated in
`Props/C16.lean` (`offset_laws_fixed_order_stmt`, instance, tests).
-/
namespace Logrange.Props.C16Merged
open Logrange.Mixer Logrange.MixTree Logrange.MergeN Logrange.Rd LawfulSource

variable {σ : Type} [Source σ] [LawfulSource σ]

/-- `Offset(+k)`: `Get`, then (`Next`, `Get`) `k` times or until EOF -/
def offsetFwdT (k : Nat) (t : It σ) : It σ := (afterK k t).get.1

/-- from ANY well-formed forward state of a mixer tree over lawful leaves: after `Offset(+k)` a read of `n` events delivers
the old stream without its first `k` events -/
theorem offset_forward_n (t : It σ) (h : t.WF) (k n : Nat) :
    (offsetFwdT k t).drain n = (t.view.drop k).take n := by
  obtain ⟨_, r2, r3, _, _, _⟩ := page_read (fun _ : σ => True) (fun _ _ => trivial) (fun _ _ => trivial)
    (fun _ _ => trivial) k t h
  obtain ⟨_, gv, gw, _, _⟩ := It.get_spec (afterK k t) r2
  obtain ⟨d1, _⟩ := page_read (fun _ : σ => True) (fun _ _ => trivial) (fun _ _ => trivial)
    (fun _ _ => trivial) n (afterK k t).get.1 gw
  unfold offsetFwdT
  rw [d1, gv, r3]

def GoodJournal (j : Journal) : Prop := Sorted j ∧ PosIds j ∧ bw_ChunkBound j

/-- **head_plus_k on a merged cursor of n partitions** (un-ranged, unfiltered): `head` with offset +k skips exactly the first
k events of the merged stream, which is a permutation of all stored events with every partition in stored order -/
theorem head_plus_k_n_partitions (srcs : List JSrc) (hne : srcs ≠ []) (hg : ∀ s ∈ srcs, GoodJournal s.j ∧ s.it = {})
    (k n : Nat) :
    ∃ t, build srcs = some t ∧ (offsetFwdT k t).drain n = (t.view.drop k).take n ∧
      t.view.Perm (srcs.flatMap JSrc.all) ∧ (∀ s ∈ srcs, s.all.Sublist t.view) := by
  obtain ⟨t, ht, hinv, hperm, hsub⟩ := built_J srcs hne hg
  exact ⟨t, ht, offset_forward_n t hinv.1 k n, hperm, hsub⟩

/-! ### the backward laws on NESTED mixers (three and four partitions), evaluated by the kernel on the array interpreter

`Model/RdCursor.lean` (the faithful interpreter: per-node mixer state, `SetBackward` with release and inverted comparison,
`iterateToPos`): partitions with timestamp ties across and inside them, several chunks, an empty chunk. All k. -/

def rq (l : Nat) (t : Int) : Rd.Rec := { lbl := l, ts := t }
def jA : Journal := [⟨10, [rq 0 10, rq 1 12], 0, maxU32⟩, ⟨20, [], 0, maxU32⟩, ⟨30, [rq 2 12, rq 3 15], 0, maxU32⟩]
def jB : Journal := [⟨10, [rq 100 11, rq 101 12, rq 102 12], 0, maxU32⟩]
def jC : Journal := [⟨10, [rq 200 9], 0, maxU32⟩, ⟨20, [rq 201 12, rq 202 16], 0, maxU32⟩]
def jD : Journal := [⟨10, [rq 300 12, rq 301 13], 0, maxU32⟩]
def curN (np : Nat) : Cur :=
  mkCur (([(0, jA), (1, jB), (2, jC), (3, jD)].take np).map (fun x => { name := x.1, jrnl := x.2 })) false none none false
def fwdN (np : Nat) : List Rd.Rec := readN 20 (applyCorner (curN np) false)

theorem offset_laws_nested_instance : ∀ np ∈ ([3, 4] : List Nat), ∀ k ∈ List.range 13,
    readN 20 (offset (applyCorner (curN np) false) (k : Nat)) = (fwdN np).drop k ∧
    readN 20 (offset (applyCorner (curN np) true) (-(k : Int))) = (fwdN np).drop ((fwdN np).length - k) := by
  decide +kernel

theorem plus_minus_nested_instance : ∀ np ∈ ([3, 4] : List Nat), ∀ m ∈ ([0, 1, 4, 7] : List Nat), ∀ k ∈ ([1, 2, 3] : List Nat),
    readN 20 (offset (offset (readLoop m (applyCorner (curN np) false) []).1 (k : Int)) (-(k : Int))) =
      readN 20 (readLoop m (applyCorner (curN np) false) []).1 := by
  decide +kernel

end Logrange.Props.C16Merged

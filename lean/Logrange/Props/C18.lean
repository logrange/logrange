import Logrange.Proofs.ForwarderSplit
import Logrange.Generated.C18
import Logrange.Model.StateFile
/-!
# C18 — Forwarder: in-order at-least-once delivery; saved position never ahead

Property theorems only. Model: `Model/Forwarder.lean` (worker loop, persist, stop/crash/restart as a labelled
transition system over every sequence of query faults, sink rejections, persist ticks, growth and restarts);
lemmas: `Proofs/Forwarder.lean`. The order of `OnEvent` / `setPosition` / request replacement in the loop is
regenerated from `/repo` (`Generated.C18`).
-/
namespace Logrange.Props.C18
open Logrange.Forwarder

/-- the loop configuration as the extractor reads it from `/repo` now -/
def genCfg : Cfg :=
  { setAfterAccept := Generated.C18.setPositionAfterAccept,
    retryRejected := Generated.C18.requestReplacedOnlyAfterAccept && Generated.C18.failuresRetry }

theorem genCfg_eq : genCfg = codeCfg := by decide

/-- the remaining code facts the model rests on -/
theorem code_facts :
    Generated.C18.firstRequestFromDescPosition = true ∧ Generated.C18.persistCopiesPosition = true ∧
    Generated.C18.finalPersistAfterLoop = true ∧ 0 < Generated.C18.pageLimit := by decide

/-- **`delivered_prefix`** For every sequence of query transport errors, server errors, empty results, pages of
any size, sink accept/reject decisions, persist ticks, growth of the partition, graceful stops and crashes:
what the sink accepted in the current session is exactly the run of consecutive events
`sessionStart, sessionStart+1, …, pos-1` in stored order — no gap, no duplicate, nothing delivered after a
rejected batch or failed query before that batch itself — and it lies inside the partition. -/
theorem delivered_prefix (n start : Nat) (hs : start ≤ n) (tr : List L) :
    let s := run genCfg (init n start) tr
    s.sess = List.range' s.sessionStart (s.pos - s.sessionStart) ∧ s.sessionStart ≤ s.pos ∧ s.pos ≤ s.n := by
  rw [genCfg_eq]
  intro s
  have h : FInv s := finv_reach n start hs tr
  exact ⟨h.sessEq, h.startLe, h.posLe⟩

/-- **`position_never_ahead`** The persisted position is never beyond the position after the last batch the sink
accepted in this session (`desc = pos = sessionStart + number of accepted events`), and every event before it —
from the very first start on — has been accepted by the sink at least once. -/
theorem position_never_ahead (n start : Nat) (hs : start ≤ n) (tr : List L) :
    let s := run genCfg (init n start) tr
    s.persisted ≤ s.desc ∧ s.desc = s.pos ∧ s.pos = s.sessionStart + s.sess.length ∧
    (∀ i, start ≤ i → i < s.persisted → i ∈ s.all) := by
  rw [genCfg_eq]
  intro s
  have h : FInv s := finv_reach n start hs tr
  have hst : s.start0 = start := run_start0 codeCfg tr (init n start)
  refine ⟨by rw [h.descPos]; exact h.perLe, h.descPos, ?_, ?_⟩
  · rw [h.sessEq]; simp; have := h.startLe; omega
  · intro i h1 h2
    apply h.cover i (by rw [hst]; exact h1)
    have := h.perLe; have := h.posHigh; omega

/-- **`restart_redelivers_tail`** A restart (after a graceful stop or a crash at any moment) begins at the persisted
position: it is not behind the very first start, not beyond anything accepted (`≤ high`), so re-delivery is
confined to events at or after the persisted position, and nothing is skipped: every event below the
high-water mark has been accepted at least once, at all times. After a *graceful* stop the new session starts
exactly where the old one ended (no re-delivery at all). -/
theorem restart_redelivers_tail (n start : Nat) (hs : start ≤ n) (tr : List L) :
    let s := run genCfg (init n start) tr
    (∀ i ∈ s.sess, s.sessionStart ≤ i) ∧ start ≤ s.sessionStart ∧ s.sessionStart ≤ s.high ∧
    (∀ i, start ≤ i → i < s.high → i ∈ s.all) ∧ (∀ i ∈ s.all, start ≤ i ∧ i < s.high) ∧ s.high ≤ s.n ∧
    (step genCfg s .crash).sessionStart = s.persisted ∧ (step genCfg s .graceful).sessionStart = s.pos ∧
    (step genCfg s .stop).sessionStart = s.pos := by
  rw [genCfg_eq]
  intro s
  have h : FInv s := finv_reach n start hs tr
  have hst : s.start0 = start := run_start0 codeCfg tr (init n start)
  refine ⟨?_, by rw [← hst]; exact h.s0Sess, by have := h.startLe; have := h.posHigh; omega, ?_, ?_, h.highLe, rfl, ?_, ?_⟩
  · intro i hi; rw [h.sessEq] at hi; simp only [List.mem_range'_1] at hi; exact hi.1
  · intro i h1 h2; exact h.cover i (by rw [hst]; exact h1) h2
  · intro i hi; have := h.allLt i hi; rw [hst] at this; exact this
  · simp only [step, restart]; exact h.descPos
  · simp only [step, restart]; exact h.descPos

/-- **`restart_redelivery_bounded`** (explicit bound for `restart_redelivers_tail`). At every moment the worker's
position is the persisted position plus the number of events accepted since the last persist (or restart). So a
crash re-delivers exactly the events of the batches accepted since the last persist — `[persisted, pos)`,
`accSince` of them; and a crash between the sink's accept and `setPosition` (one batch in flight) re-delivers
those plus that one batch: `[persisted, pos + k')`, `k' = min k (n - pos)`. Nothing else is ever delivered twice:
the new session starts exactly at `persisted`. -/
theorem restart_redelivery_bounded (n start : Nat) (hs : start ≤ n) (tr : List L) (k : Nat) :
    let s := run genCfg (init n start) tr
    s.pos = s.persisted + s.accSince ∧
    (step genCfg s .crash).sessionStart = s.persisted ∧ (step genCfg s .crash).all = s.all ∧
    (step genCfg s (.crashAfterAccept k)).sessionStart = s.persisted ∧
    (step genCfg s (.crashAfterAccept k)).all = s.all ++ List.range' s.pos (min k (s.n - s.pos)) := by
  rw [genCfg_eq]
  intro s
  have h : FInv s := finv_reach n start hs tr
  exact ⟨h.accEq, rfl, rfl, rfl, rfl⟩

/-- **`drains_when_quiet`** (eventual completeness, bounded form). From any reachable state, if from now on every
query answers a page of up to `k ≥ 1` events (the page limit) and the sink accepts — no faults, no growth, no stop —
then after `m` iterations with `m · k ≥ n - pos` (e.g. `m = ⌈(n - pos)/k⌉`) the worker's position is the end of
the partition, every event of the partition from the first start on has been accepted by the sink at least once,
and the next persist stores the end position. -/
theorem drains_when_quiet (n start : Nat) (hs : start ≤ n) (tr : List L) (k m : Nat) :
    let s := run genCfg (init n start) tr
    s.n - s.pos ≤ m * k →
    let s' := run genCfg s (List.replicate m (.page k true))
    s'.pos = s.n ∧ s'.n = s.n ∧ (∀ i, start ≤ i → i < s.n → i ∈ s'.all) ∧
    (step genCfg s' .persist).persisted = s.n := by
  rw [genCfg_eq]
  intro s hm s'
  have h : FInv s := finv_reach n start hs tr
  have hp := run_pages codeCfg k m s h.posLe
  have hpos : s'.pos = s.n := by
    show (run codeCfg s (List.replicate m (.page k true))).pos = s.n
    rw [hp.1]; have := h.posLe; rw [Nat.min_def]; split <;> omega
  have h' : FInv s' := finv_run _ _ h
  have hn : s'.n = s.n := hp.2
  have hst : s'.start0 = start := by
    show (run codeCfg (run codeCfg (init n start) tr) _).start0 = start
    rw [run_start0, run_start0]; rfl
  refine ⟨hpos, hn, ?_, ?_⟩
  · intro i h1 h2
    apply h'.cover i (by rw [hst]; exact h1)
    have := h'.posHigh; omega
  · show s'.desc = s.n
    rw [h'.descPos, hpos]

/-! ### worker start and the state file (the code after fixes b3f8b31, 1b7795d, 23be637, e59ee79) -/

/-- the start configuration as the extractor reads it from `/repo` now -/
def genStartCfg : StartCfg :=
  { reportsFailure := Generated.C18.ensurePipeReportsFailure,
    marksStopped := Generated.C18.workerMarksStoppedOnStartError }

/-- a failed query of any kind — also an answer that could not be decoded — reaches the worker as a failed query -/
theorem start_facts : genStartCfg = ⟨true, true⟩ ∧ Generated.C18.queryReturnsDecodeError = true := by decide

/-- **`failed_ensure_is_retried`** For every sequence of `EnsurePipe` successes and transport failures and sync ticks:
the worker is never lost (`dead`: ended without saying so) and never blind (polling an empty destination); whatever
happened before, one sync tick and one successful `EnsurePipe` later it runs its poll loop — from where
`drains_when_quiet` forwards every event of the pipe's partition. -/
theorem failed_ensure_is_retried (tr : List StartL) :
    let s := startRun genStartCfg .ensuring tr
    s ≠ .dead ∧ s ≠ .blind ∧ startRun genStartCfg s [.syncTick, .ensureOk] = .running := by
  rw [start_facts.1]
  intro s
  obtain ⟨h1, h2⟩ := startRun_alive tr .ensuring (by decide) (by decide)
  exact ⟨h1, h2, alive_recovers _ h1 h2⟩

/-- the two start orders the code no longer uses: a swallowed failure leaves the worker blind for ever (F80), a
reported failure without the stopped mark leaves it dead for ever (F81) — no sync tick or later success helps -/
theorem cex_ensure_failure_old (tr : List StartL) :
    startRun ⟨false, true⟩ .ensuring (.ensureFail :: tr) = .blind ∧
    startRun ⟨true, false⟩ .ensuring (.ensureFail :: tr) = .dead := by
  exact ⟨startRun_stuck _ .blind (fun l => by cases l <;> rfl) tr, startRun_stuck _ .dead (fun l => by cases l <;> rfl) tr⟩

/-- **`state_file_old_or_new`** (fix e59ee79) At every crash cut of a save, `forwarder.json` holds the old or the new
complete content — so the position a restart loads is one that was persisted (`position_never_ahead`,
`restart_redelivery_bounded` apply to it). -/
theorem state_file_old_or_new (old new c : Bytes)
    (h : c ∈ StateFile.crashCuts Generated.C18.stateFileReplacedAtomically old new) : c = old ∨ c = new := by
  have hf : Generated.C18.stateFileReplacedAtomically = true := by decide
  simpa [StateFile.crashCuts, hf] using h

/-- the in-place write passes through the empty file (F83 / F60) -/
theorem cex_state_file_in_place : ([] : Bytes) ∈ StateFile.crashCuts false [1, 2] [3, 4] := by decide

/-! ### what the theorems exclude (the two orders the code does not use) -/

/-- position set before the sink accepted: a rejected batch followed by a stop leaves a position ahead of what was
delivered — the next session skips the batch -/
theorem cex_set_before_accept :
    let s := run { setAfterAccept := false, retryRejected := true } (init 5 0) [.page 2 false, .graceful]
    s.sessionStart = 2 ∧ s.all = [] := by decide

/-- a rejected batch that is not retried is lost -/
theorem cex_no_retry :
    let s := run { setAfterAccept := true, retryRejected := false } (init 5 0) [.page 2 false, .page 2 true]
    s.all = [2, 3] := by decide

/-! ### non-vacuity -/

/-- faults, a rejected page, a persist, a crash and a re-delivery: events 0,1 accepted, persisted at 2, 2,3
accepted, crash ⇒ the new session starts at 2 and delivers 2,3 again; nothing is skipped -/
example :
    let s := run genCfg (init 6 0) [.qTransport, .page 2 false, .page 2 true, .persist, .qServer, .page 2 true,
      .crash, .qEmpty, .page 3 true]
    s.all = [0, 1, 2, 3, 2, 3, 4] ∧ s.sess = [2, 3, 4] ∧ s.persisted = 2 ∧ s.pos = 5 := by decide

example : (run genCfg (init 3 0) [.page 1000 true, .grow 2, .page 1000 true, .graceful]).sessionStart = 5 := by decide

/-- 2 500 events, page limit 1 000: after a fault and a rejection, three quiet iterations reach the end -/
example :
    let s := run genCfg (init 2500 0) [.qTransport, .page 1000 false]
    (run genCfg s (List.replicate 3 (.page 1000 true))).pos = 2500 := by decide

/-- a crash with one batch in flight after a persist at 2: events 2,3 (accepted since the persist) and 4,5 (in
flight) are at risk of re-delivery; the new session starts at 2 -/
example :
    let s := run genCfg (init 9 0) [.page 2 true, .persist, .page 2 true]
    s.accSince = 2 ∧ (step genCfg s (.crashAfterAccept 2)).sessionStart = 2 ∧
    (step genCfg s (.crashAfterAccept 2)).all = [0, 1, 2, 3, 4, 5] := by decide

end Logrange.Props.C18

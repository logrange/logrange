import Logrange.Proofs.PipeLts
import Logrange.Generated.C10
/-!
# C10 — Pipes copy exactly the matching events, once, in order, with provenance

Property theorems only (model: `Logrange/Model/PipeLts.lean`, lemmas: `Logrange/Proofs/PipeLts.lean`).
The model's configuration is what the extractor reads from `/repo` now (`Generated.C10`).
-/
namespace Logrange.Props.C10
open Logrange.PipeLts

/-- the pipe LTS configured by the facts regenerated from the source -/
def cfgNow : Cfg :=
  { chanCap := Generated.C10.weChanCap
    dropOnCreate := Generated.C10.createDropsCache
    dropOnDelete := Generated.C10.deleteDropsCache
    applyFilter := Generated.C10.filterAppliedBySourceIterator
    rearm := Generated.C10.workerDoneRearms
    saveOnCreate := Generated.C10.createSavesRegistry
    saveOnDelete := Generated.C10.deleteSavesRegistry
    saveOnShutdown := Generated.C10.shutdownSavesRegistry
    startChecksPipe := Generated.C10.startWorkerChecksPipeAlive }

/-- structural facts the shape of the model relies on (each is re-read from the source on every run) -/
theorem model_shape_facts :
    Generated.C10.workerSavesAfterWrite = true ∧ Generated.C10.writePublishesAfterLoop = true ∧
    Generated.C10.startWorkerCondition = true ∧ Generated.C10.saveStatePersists = true ∧
    Generated.C10.deleteCancelsWorkers = true ∧ Generated.C10.provenanceFromSourceTags = true ∧
    Generated.C10.saveStateWritesFileUnderLock = true := by decide

/-- **Copy invariant** (all interleavings of writes, notifications in any order, worker steps, creation, deletion,
shutdown and restart; any number of sources, batch sizes and steps): the events of the pipe partition that were copied
from source `s` are exactly the stored records of `s` from the descriptor's start position up to the worker's cursor
— each once, in stored order — passed through `siterator` (provenance appended), and nothing of `s` is in the pipe
partition while the pipe has no descriptor for it. -/
theorem pipe_copy_inv (n : Nat) (l : Nat → Bool) (p : Nat → Bytes) (f : Ev → Bool) (o : Bool) (ls : List Label) (s : Nat) :
    let st := run cfgNow (init n l p f o) ls
    ((st.srcs s).desc = none → proj s st.dest = []) ∧
    (∀ d, (st.srcs s).desc = some d →
      d.start ≤ d.pos ∧ d.pos ≤ curOf (st.srcs s) d ∧ curOf (st.srcs s) d ≤ (st.srcs s).log.length ∧
      proj s st.dest = (sel cfgNow st.flt (slice (st.srcs s).log d.start (curOf (st.srcs s) d))).map (addProv (st.srcs s).prov)) := by
  intro st
  have _facts := model_shape_facts
  have hg : GInv cfgNow st := run_ginv cfgNow _ ls (ginv_init cfgNow n l p f o)
  constructor
  · intro hd; exact ((hg.1 s).1 hd).1
  · intro d hd
    obtain ⟨a1, a2, a3, _, _, a6, _, _⟩ := (hg.1 s).2 d hd
    exact ⟨a1, a2, a3, a6⟩

/-- what `siterator` does to an event: timestamp and message unchanged, the source's tags appended as fields -/
theorem provenance_only_appends (prov : Bytes) (e : Ev) :
    (addProv prov e).ts = e.ts ∧ (addProv prov e).msg = e.msg ∧ (addProv prov e).fields = e.fields ++ prov := by
  simp [addProv]

/-- the copy invariant in the words of the property for the code as it is now (the pipe's source iterator applies
the filter — repair f08ebbf of finding F09) and a worker that is not between its write and its `saveState`: the pipe
holds, of source `s`, exactly the records of `[start, Pos)` **for which the filter is true**, once, in stored order. -/
theorem pipe_copy_exactly_once_in_order (n : Nat) (l : Nat → Bool) (p : Nat → Bytes) (f : Ev → Bool) (o : Bool)
    (ls : List Label) (s : Nat) (d : Desc) :
    let st := run cfgNow (init n l p f o) ls
    (st.srcs s).desc = some d → (∀ c, (st.srcs s).wk ≠ .written c) →
    proj s st.dest = ((slice (st.srcs s).log d.start d.pos).filter st.flt).map (addProv (st.srcs s).prov) := by
  intro st hd hw
  have h := ((pipe_copy_inv n l p f o ls s).2 d hd).2.2.2
  have hf : cfgNow.applyFilter = true := by decide
  rw [curOf_of_not_written hw] at h
  simpa [sel, hf] using h

/-- **Only accepted events are copied** (F09 repaired): every event the pipe partition holds of source `s` is a
stored event of `s` that satisfies the filter, with the provenance appended. -/
theorem pipe_copies_only_accepted (n : Nat) (l : Nat → Bool) (p : Nat → Bytes) (f : Ev → Bool) (o : Bool)
    (ls : List Label) (s : Nat) (e : Ev) :
    let st := run cfgNow (init n l p f o) ls
    e ∈ proj s st.dest → ∃ e0, e0 ∈ (st.srcs s).log ∧ st.flt e0 = true ∧ e = addProv (st.srcs s).prov e0 := by
  intro st he
  have hf : cfgNow.applyFilter = true := by decide
  cases hd : (st.srcs s).desc with
  | none =>
    have := (pipe_copy_inv n l p f o ls s).1 hd
    rw [this] at he; cases he
  | some d =>
    have h := ((pipe_copy_inv n l p f o ls s).2 d hd).2.2.2
    rw [h] at he
    simp only [sel, hf, if_true, List.mem_map, List.mem_filter] at he
    obtain ⟨e0, ⟨hm, hflt⟩, rfl⟩ := he
    refine ⟨e0, ?_, hflt, rfl⟩
    unfold slice at hm
    exact List.mem_of_mem_drop (List.mem_of_mem_take hm)

/-- **The saved position passes rejected events**: a copy step moves the worker's cursor over everything it saw —
`min (c + k) (stored)` — whatever the filter let through, and the following `saveState` stores that position. So a run
of rejected events at the end of a source is read once, not again at every wake-up or after a restart. -/
theorem position_passes_rejected (st : State) (s k c : Nat) (hwk : (st.srcs s).wk = .opened c)
    (hlive : st.pipe = .live) (hcl : st.closed = false) :
    ∃ st', step cfgNow st (.wcopy s k) = some st' ∧ (st'.srcs s).wk = .written (min (c + k) (st.srcs s).log.length) := by
  have hs : step cfgNow st (.wcopy s k) = some
      { st with dest := st.dest ++ (sel cfgNow st.flt (slice (st.srcs s).log c (min (c + k) (st.srcs s).log.length))).map
                  (fun e => (s, addProv (st.srcs s).prov e)),
                srcs := upd st.srcs s { st.srcs s with wk := .written (min (c + k) (st.srcs s).log.length) } } := by
    simp [step, hwk, hlive, hcl]
  exact ⟨_, hs, by simp⟩

/-- **No stranded data** (also the pipe clause of C11): after every step, a descriptor whose `Pos` is behind
`LastKnwnPos` has a charged worker — unless the service is shutting down, the pipe is deleted (since 69cc67a `startWorker`
tests the pipe's own context: a deleted pipe starts no worker, see `deleted_pipe_starts_no_worker`), or the descriptor
was loaded by a restart from a stop that was not quiescent (`stale`) and has not been notified since. -/
theorem no_stranded_data (n : Nat) (l : Nat → Bool) (p : Nat → Bytes) (f : Ev → Bool) (o : Bool) (ls : List Label)
    (s : Nat) (d : Desc) :
    let st := run cfgNow (init n l p f o) ls
    (st.srcs s).desc = some d →
    st.closed = true ∨ st.pipe = .deleted ∨ d.charged = true ∨ ¬ d.pos < d.lastKnown ∨ d.stale = true := by
  intro st hd
  have hre : cfgNow.rearm = true := by decide
  have h0 : NS cfgNow (init n l p f o) := by intro s d h; simp [init] at h
  have h := run_ns cfgNow hre _ ls (ginv_init cfgNow n l p f o) h0 s d hd
  rcases h with h | h
  · simp only [noStart, Bool.or_eq_true, Bool.and_eq_true, beq_iff_eq] at h
    rcases h with h | h
    · exact Or.inl h
    · exact Or.inr (Or.inl h.2)
  · exact Or.inr (Or.inr h)

/-- the same for a live pipe, in the words of the property: data behind `LastKnwnPos` has a worker -/
theorem no_stranded_data_live (n : Nat) (l : Nat → Bool) (p : Nat → Bytes) (f : Ev → Bool) (o : Bool) (ls : List Label)
    (s : Nat) (d : Desc) :
    let st := run cfgNow (init n l p f o) ls
    (st.srcs s).desc = some d → st.pipe = .live →
    st.closed = true ∨ d.charged = true ∨ ¬ d.pos < d.lastKnown ∨ d.stale = true := by
  intro st hd hl
  rcases no_stranded_data n l p f o ls s d hd with h | h | h
  · exact Or.inl h
  · rw [hl] at h; cases h
  · exact Or.inr h

/-- a charged descriptor has a live worker goroutine, and only a charged one has -/
theorem charged_iff_worker (n : Nat) (l : Nat → Bool) (p : Nat → Bytes) (f : Ev → Bool) (o : Bool) (ls : List Label)
    (s : Nat) (d : Desc) :
    let st := run cfgNow (init n l p f o) ls
    (st.srcs s).desc = some d → (d.charged = false ↔ (st.srcs s).wk = .none) := by
  intro st hd
  have hg : GInv cfgNow st := run_ginv cfgNow _ ls (ginv_init cfgNow n l p f o)
  exact ((hg.1 s).2 d hd).2.2.2.1

/-- **Deleting the pipe stops the copying**: once the pipe is deleted (and, as `DeletePipe` saves the registry, gone from
`pipes.dat`) no step changes its partition, and it stays deleted — also across shutdown and restart. -/
theorem delete_stops (st st' : State) (lb : Label) (hdel : st.pipe = .deleted) (hreg : st.reg = false)
    (hs : step cfgNow st lb = some st') :
    st'.dest = st.dest ∧ st'.pipe = .deleted ∧ st'.reg = false := by
  have _fact : Generated.C10.deleteCancelsWorkers = true := by decide
  cases Step.of_step hs with
  | wcopy s k c hwk hcl hlive => rw [hdel] at hlive; cases hlive
  | create hup hp => rw [hdel] at hp; cases hp
  | delete hup hp => rw [hdel] at hp; cases hp
  | halt hcl hup hidle => exact ⟨rfl, hdel, by simp [hdel, hreg]⟩
  | restart hdn => exact ⟨rfl, by simp [hreg, hdel], hreg⟩
  | _ => exact ⟨rfl, hdel, hreg⟩

/-- the same along a whole trace -/
theorem delete_stops_forever (st : State) (ls : List Label) (hdel : st.pipe = .deleted) (hreg : st.reg = false) :
    (run cfgNow st ls).dest = st.dest :=
  (run_inv (P := fun s => s.dest = st.dest ∧ s.pipe = .deleted ∧ s.reg = false)
    (fun s _ s' h hs => by
      obtain ⟨h1, h2, h3⟩ := delete_stops s s' _ h.2.1 h.2.2 hs.to_step
      exact ⟨h1.trans h.1, h2, h3⟩) st ls ⟨rfl, hdel, hreg⟩).1

/-! ### the registry file -/

/-- **The registry file agrees with the registry** (repairs 9273e4f: `CreatePipe` and `DeletePipe` save it; `Shutdown`
saves it too): in every reachable state `pipes.dat` lists the pipe iff it is live. -/
theorem registry_file_matches (n : Nat) (l : Nat → Bool) (p : Nat → Bytes) (f : Ev → Bool) (o : Bool) (ls : List Label) :
    let st := run cfgNow (init n l p f o) ls
    st.reg = (st.pipe == .live) := by
  intro st
  have hc : cfgNow.saveOnCreate = true := by decide
  have hd : cfgNow.saveOnDelete = true := by decide
  have hsd : cfgNow.saveOnShutdown = true := by decide
  refine run_inv (P := fun st => st.reg = (st.pipe == .live)) ?_ _ ls (by simp [init])
  intro st0 lb st1 h0 hs
  cases hs with
  | create hup hp => simp [hc]
  | delete hup hp => simp [hd]
  | halt hcl hup hidle => simp [hsd]
  | restart hdn =>
    simp only []
    cases hp : st0.pipe <;> simp [h0, hp]
  | _ => exact h0

/-- **The registry survives every restart**: a restart step never changes which pipe exists — a live pipe stays live,
a deleted one stays deleted (it does not come back and copy again), an absent one stays absent. -/
theorem registry_survives_restart (n : Nat) (l : Nat → Bool) (p : Nat → Bytes) (f : Ev → Bool) (o : Bool) (ls : List Label)
    (st' : State) :
    let st := run cfgNow (init n l p f o) ls
    step cfgNow st .restart = some st' → st'.pipe = st.pipe ∧ st'.reg = st.reg := by
  intro st hs
  have h0 : st.reg = (st.pipe == .live) := registry_file_matches n l p f o ls
  cases Step.of_step hs with
  | restart hdn =>
    refine ⟨?_, rfl⟩
    simp only []
    cases hp : st.pipe <;> simp [h0, hp]

/-! ### against the property's specification -/

/-- The property at full strength: in every reachable quiescent state of a running service, the pipe partition
holds for every source exactly the events written to it after the pipe's creation that satisfy `S` and `F`,
provenance appended, once, in stored order. **False for the code as it is** — see the counterexamples (racing first writes, F10; a notification lost at shutdown); the filter clause holds since the repair of F09. -/
def C10_full : Prop :=
  ∀ (n : Nat) (l : Nat → Bool) (p : Nat → Bytes) (f : Ev → Bool) (o : Bool) (ls : List Label) (s : Nat),
    let st := run cfgNow (init n l p f o) ls
    quiescent st = true → st.closed = false → st.pipe = .live → proj s st.dest = specProj st s

/-- **Partial**: the specification — *including the filter* — holds for a source under two explicit hypotheses: the
descriptor started at the pipe's creation point (class of F10: the first *notified* batch defines the start) and the last
processed notification is that of the last write (notifications not overtaken; no restart from a non-quiescent stop).
The hypothesis "F is true on the source" of the earlier version is gone with the repair of F09. -/
theorem pipe_spec_partial (n : Nat) (l : Nat → Bool) (p : Nat → Bytes) (f : Ev → Bool) (o : Bool) (ls : List Label)
    (s : Nat) (d : Desc) :
    let st := run cfgNow (init n l p f o) ls
    quiescent st = true → st.closed = false → st.pipe = .live → s < st.n →
    (st.srcs s).desc = some d → (st.srcs s).listens = true →
    d.start = (st.srcs s).createdAt →
    d.lastKnown = (st.srcs s).log.length → d.stale = false →
    proj s st.dest = specProj st s := by
  intro st hq hcl hlive hsn hd hl hstart hlk hst
  have hg : GInv cfgNow st := run_ginv cfgNow _ ls (ginv_init cfgNow n l p f o)
  obtain ⟨a1, a2, a3, a4, _, _, _, _⟩ := (hg.1 s).2 d hd
  have hidle : (st.srcs s).wk = .none := by
    simp only [quiescent, Bool.and_eq_true] at hq
    exact allIdle_spec st hq.2 s hsn
  have hch : d.charged = false := a4.mpr hidle
  have hns := no_stranded_data_live n l p f o ls s d hd hlive
  have hpos : d.pos = (st.srcs s).log.length := by
    simp only [curOf, hidle] at a2 a3
    rcases hns with h | h | h | h
    · rw [hcl] at h; cases h
    · rw [hch] at h; cases h
    · omega
    · rw [hst] at h; cases h
  have hcopy := pipe_copy_exactly_once_in_order n l p f o ls s d hd (by intro c hc; rw [hidle] at hc; cases hc)
  rw [hcopy]
  unfold specProj
  simp only [hl, if_true]
  have hsl : slice (st.srcs s).log d.start d.pos = (st.srcs s).log.drop (st.srcs s).createdAt := by
    unfold slice; rw [hstart, hpos]
    apply List.take_of_length_le; simp
  rw [hsl]

/-! ### counterexamples (kernel-evaluated runs of the model configured as the code is now) -/

def evA : Ev := ⟨1, [97], []⟩
def evB : Ev := ⟨2, [98], []⟩
/-- `where msg != "a"` -/
def fltNotA : Ev → Bool := fun e => e.msg != [97]
def prov0 : Bytes := [1, 120, 1, 49]

/-- the whole life of one batch: write, publish, notify, worker opens, copies, saves, times out, is done -/
def copyCycle : List Label := [.wopen 0, .wcopy 0 100, .wsave 0, .wtimeout 0, .wdone 0]

/-- **F09 repaired** (regression witness, formerly `cex_filter_ignored`): a pipe with filter `msg != "a"`; the source
receives an event with message `a` and one with `b` after the creation. The run ends quiescent and the pipe partition
holds exactly what the specification demands — the event the filter accepts; the saved position is past both. -/
theorem filter_applied_witness :
    let st := run cfgNow (init 1 (fun _ => true) (fun _ => prov0) fltNotA false)
      ([.create, .write 0 [evA, evB], .enqueue 0, .notify] ++ copyCycle)
    quiescent st = true ∧ proj 0 st.dest = [addProv prov0 evB] ∧ specProj st 0 = [addProv prov0 evB] ∧
      (st.srcs 0).desc.map (·.pos) = some 2 := by
  decide +kernel

/-- a run of rejected events at the end of the source, a clean restart, more rejected events, then an accepted one:
nothing is copied until the accepted event, which arrives once; the position follows the stored count throughout. -/
theorem rejected_tail_witness :
    let st1 := run cfgNow (init 1 (fun _ => true) (fun _ => prov0) fltNotA false)
      ([.create, .write 0 [evA, evA, evA], .enqueue 0, .notify] ++ copyCycle)
    let st2 := run cfgNow st1 ([.shutdown, .halt, .restart, .write 0 [evA, evA], .enqueue 0, .notify] ++ copyCycle)
    let st3 := run cfgNow st2 ([.write 0 [evB], .enqueue 0, .notify] ++ copyCycle)
    (st1.dest = [] ∧ (st1.srcs 0).desc.map (·.pos) = some 3) ∧
    (st2.dest = [] ∧ (st2.srcs 0).desc.map (·.pos) = some 5) ∧
    (st3.dest = [(0, addProv prov0 evB)] ∧ (st3.srcs 0).desc.map (·.pos) = some 6 ∧ proj 0 st3.dest = specProj st3 0) := by
  decide +kernel

/-- **F10**: two writers' first batches to a new source; the second writer's notification is published first.
The descriptor starts at the second batch, the first batch is never copied although everything is quiescent. -/
theorem cex_first_notification_reordered :
    let st := run cfgNow (init 1 (fun _ => true) (fun _ => prov0) (fun _ => true) false)
      ([.create, .write 0 [evA], .write 0 [evB], .enqueue 1, .enqueue 0, .notify, .notify] ++ copyCycle)
    quiescent st = true ∧ proj 0 st.dest = [addProv prov0 evB] ∧ specProj st 0 = [addProv prov0 evA, addProv prov0 evB] := by
  decide +kernel

/-- a first-ever batch whose notification is still queued at a clean shutdown is never copied after the restart
(only a later write re-creates the descriptor, starting at *that* write) -/
theorem cex_notification_lost_at_shutdown :
    let st := run cfgNow (init 1 (fun _ => true) (fun _ => prov0) (fun _ => true) false)
      ([.create, .write 0 [evA], .enqueue 0, .shutdown, .halt, .restart, .write 0 [evB], .enqueue 0, .notify] ++ copyCycle)
    quiescent st = true ∧ proj 0 st.dest = [addProv prov0 evB] := by
  decide +kernel

/-- **F79**: a clean stop while the pipe is behind. The second batch is stored and notified, the worker is cancelled by
the shutdown before it copies it, `workerDone`, the stop completes; after the restart the state is quiescent and running, the
descriptor stands at `Pos = 1` behind two stored events, nobody is charged (`newPPipe` starts no worker) — the pipe
partition lacks the event until some later write to that source arrives (which then makes a worker copy everything). -/
theorem cex_restart_strands_data :
    let st := run cfgNow (init 1 (fun _ => true) (fun _ => prov0) (fun _ => true) false)
      [.create, .write 0 [evA], .enqueue 0, .notify, .wopen 0, .wcopy 0 9, .wsave 0, .write 0 [evB], .enqueue 0, .notify,
       .shutdown, .wtimeout 0, .wdone 0, .halt, .restart]
    let st' := run cfgNow st ([.write 0 [evA], .enqueue 0, .notify] ++ copyCycle)
    (quiescent st = true ∧ st.closed = false ∧ st.down = false ∧ st.pipe = .live ∧
      (st.srcs 0).desc.map (fun d => (d.pos, d.charged)) = some (1, false) ∧ (st.srcs 0).log.length = 2 ∧
      proj 0 st.dest = [addProv prov0 evA] ∧ specProj st 0 = [addProv prov0 evA, addProv prov0 evB]) ∧
    (proj 0 st'.dest = specProj st' 0 ∧ (proj 0 st'.dest).length = 3) := by
  decide +kernel

theorem c10_full_false : ¬ C10_full := by
  intro h
  have h1 := h 1 (fun _ => true) (fun _ => prov0) (fun _ => true) false
    ([.create, .write 0 [evA], .write 0 [evB], .enqueue 1, .enqueue 0, .notify, .notify] ++ copyCycle) 0
  obtain ⟨c1, c2, c3⟩ := cex_first_notification_reordered
  have := h1 c1 (by decide) (by decide)
  rw [c2, c3] at this
  exact absurd this (by decide)

/-- **A graceful stop never duplicates and never loses a position — quiescent or not.** `Shutdown` waits for the workers
(`wwg.Wait()`): `halt` is enabled only when every worker has run `workerDone`, and a worker always calls `saveState` after
its `Journals.Write` returned (no context check in between). So for *any* reachable state in which the stop completes —
notifications may still be queued, descriptors may be behind `LastKnwnPos` — and the restart that follows:
the pipe partition is untouched; what it holds of a source is exactly the accepted records of `[start, Pos)`; a descriptor
that has copied anything comes back with the same `Pos` and the same start (so copying resumes exactly there: no
duplicate, no loss); a descriptor that does not come back (never saved) had copied nothing. What a non-quiescent stop
*can* cost is outside this statement: queued notifications are gone and data behind `LastKnwnPos` waits for the next
write (`cex_notification_lost_at_shutdown`, ghost `stale`). -/
theorem restart_no_dup_no_loss (n : Nat) (l : Nat → Bool) (p : Nat → Bytes) (f : Ev → Bool) (o : Bool)
    (ls : List Label) (st1 st2 : State) (s : Nat) :
    let st := run cfgNow (init n l p f o) ls
    step cfgNow st .halt = some st1 → step cfgNow st1 .restart = some st2 →
    st2.dest = st.dest ∧
    (∀ d, (st.srcs s).desc = some d →
      proj s st.dest = ((slice (st.srcs s).log d.start d.pos).filter st.flt).map (addProv (st.srcs s).prov) ∧
      (d.start < d.pos → ∃ d', (st2.srcs s).desc = some d' ∧ d'.pos = d.pos ∧ d'.start = d.start) ∧
      ((st2.srcs s).desc = none → d.pos = d.start ∧ proj s st.dest = [])) := by
  intro st hh hr
  have hg : GInv cfgNow st := run_ginv cfgNow _ ls (ginv_init cfgNow n l p f o)
  cases Step.of_step hh with
  | halt hcl hup hidle =>
    cases Step.of_step hr
    refine ⟨rfl, ?_⟩
    intro d hd
    have hwk : (st.srcs s).wk = .none := by
      by_cases e : s < st.n
      · exact allIdle_spec st hidle s e
      · have := hg.2.2.1 s (by omega); rw [hd] at this; cases this
    have hcopy := pipe_copy_exactly_once_in_order n l p f o ls s d hd (by intro c hc; rw [hwk] at hc; cases hc)
    obtain ⟨_, _, _, _, _, _, a7, a8⟩ := (hg.1 s).2 d hd
    refine ⟨hcopy, ?_, ?_⟩
    · intro hlt
      cases hsv : (st.srcs s).saved with
      | none => have := a8 hsv; omega
      | some sv =>
        obtain ⟨c1, c2⟩ := a7 sv hsv
        refine ⟨{ sv with charged := false, stale := decide (sv.pos < sv.lastKnown) }, ?_, c1, c2⟩
        simp [hsv]
    · intro hnone
      cases hsv : (st.srcs s).saved with
      | none =>
        have hps := a8 hsv
        refine ⟨hps, ?_⟩
        rw [hcopy, hps, slice_self]; rfl
      | some sv => simp [hsv] at hnone

/-- what a **crash** (not part of the LTS: the process dies at an arbitrary reachable state) leaves for the next start:
descriptors come back from the positions file, nothing else survives -/
def crashRestart (st : State) : State :=
  { st with
    down := false
    closed := false
    chan := []
    pend := []
    cache := (fun _ => none)
    srcs := (fun s =>
      { st.srcs s with
        wk := Wk.none
        desc := (st.srcs s).saved.map (fun d => { d with charged := false, stale := decide (d.pos < d.lastKnown) }) }) }

/-- **The duplicate window, exactly**: at any reachable state the position a crash would restore for a source (the saved
`Pos`; a descriptor never saved has `Pos = start`) is the descriptor's `Pos`, the pipe partition holds the accepted
records of `[start, c)` with `Pos ≤ c`, and `c ≠ Pos` only while the source's worker is between the return of its
`Journals.Write` and its `saveState` (`wk = written c`). So a crash **loses nothing** and duplicates **at most the one
batch** `[Pos, c)` of each worker that was in that window; outside the window (`c = Pos`) nothing is duplicated. A graceful
stop is never in the window (`restart_no_dup_no_loss`). -/
theorem crash_duplicates_at_most_one_batch (n : Nat) (l : Nat → Bool) (p : Nat → Bytes) (f : Ev → Bool) (o : Bool)
    (ls : List Label) (s : Nat) (d : Desc) :
    let st := run cfgNow (init n l p f o) ls
    (st.srcs s).desc = some d →
    ∃ c, d.pos ≤ c ∧ c ≤ (st.srcs s).log.length ∧
      proj s st.dest = ((slice (st.srcs s).log d.start c).filter st.flt).map (addProv (st.srcs s).prov) ∧
      (c ≠ d.pos → (st.srcs s).wk = .written c) ∧
      (∀ d', ((crashRestart st).srcs s).desc = some d' → d'.pos = d.pos ∧ d'.start = d.start) ∧
      (((crashRestart st).srcs s).desc = none → d.pos = d.start) := by
  intro st hd
  have hg : GInv cfgNow st := run_ginv cfgNow _ ls (ginv_init cfgNow n l p f o)
  have hf : cfgNow.applyFilter = true := by decide
  obtain ⟨_, a2, a3, _, _, a6, a7, a8⟩ := (hg.1 s).2 d hd
  refine ⟨curOf (st.srcs s) d, a2, a3, by simpa [sel, hf] using a6, ?_, ?_, ?_⟩
  · intro hne
    cases hw : (st.srcs s).wk with
    | written c => simp [curOf, hw]
    | _ => simp [curOf, hw] at hne
  · intro d' hd'
    simp only [crashRestart] at hd'
    cases hsv : (st.srcs s).saved with
    | none => simp [hsv] at hd'
    | some sv =>
      simp only [hsv, Option.map_some, Option.some.injEq] at hd'; subst hd'
      exact a7 sv hsv
  · intro hnone
    simp only [crashRestart] at hnone
    cases hsv : (st.srcs s).saved with
    | none => exact a8 hsv
    | some sv => simp [hsv] at hnone

/-! ### a deleted pipe starts no worker (finding F49, repaired by 69cc67a) -/

/-- `startWorker` with its first conjunct false starts nothing -/
theorem startWorker_noStart (σ : SrcSt) (d : Desc) : startWorker true σ d = { σ with desc := some d } := by
  simp [startWorker]

/-- **After `DeletePipe` no worker is started for the pipe** (`startWorker` tests `pp.clsCtx`, fact
`startWorkerChecksPipeAlive`): in a state with the pipe deleted, no step puts a source's worker into `starting` — neither a
late notification through a stale cache entry nor `workerDone` with data behind `LastKnwnPos`. A worker that was running
leaves (`wtimeout`), runs `workerDone`, and that was the last of it: the busy loop of finding F49 is gone. -/
theorem deleted_pipe_starts_no_worker (st st' : State) (lb : Label) (s : Nat) (hdel : st.pipe = .deleted)
    (hs : step cfgNow st lb = some st') (hw : (st'.srcs s).wk = .starting) : (st.srcs s).wk = .starting := by
  have hns : noStart cfgNow st = true := by
    have hc : cfgNow.startChecksPipe = true := by decide
    simp [noStart, hc, hdel]
  have key : ∀ (σ' : SrcSt) (t : Nat), σ'.wk ≠ .starting ∨ σ'.wk = (st.srcs t).wk →
      (upd st.srcs t σ' s).wk = .starting → (st.srcs s).wk = .starting := by
    intro σ' t h hh
    by_cases e : s = t
    · subst e; simp only [upd_self] at hh
      rcases h with h | h
      · exact absurd hh h
      · rw [← h]; exact hh
    · rw [upd_ne _ _ _ _ e] at hh; exact hh
  cases Step.of_step hs with
  | write t b hup hlt => exact key { st.srcs t with log := (st.srcs t).log ++ b } t (Or.inr rfl) hw
  | notifyHit we rest hup hcl hch hit =>
    refine key _ we.src (Or.inr ?_) hw
    rw [hns]; unfold onWriteEvent
    cases (st.srcs we.src).desc <;> simp [startWorker_noStart]
  | wopen t d hwk hd => exact key _ t (Or.inl (by simp)) hw
  | wcopy t k c hwk hcl hlive => rw [hdel] at hlive; cases hlive
  | wsave t c d hwk hd => exact key _ t (Or.inl (by simp)) hw
  | wtimeout t hwk => exact key _ t (Or.inl (by simp)) hw
  | wdone t d hwk hd =>
    refine key _ t (Or.inl ?_) hw
    rw [hns]; split <;> simp [startWorker_noStart]
  | create hup hp => rw [hdel] at hp; cases hp
  | delete hup hp => rw [hdel] at hp; cases hp
  | _ => exact hw

/-- **F49 repaired** (regression witness, formerly `cex_deleted_pipe_respawns_workers`): the pipe is deleted while its
descriptor is behind `LastKnwnPos` and a worker runs; the worker leaves, `workerDone` clears `wCharged` and starts nobody;
the respawn round is not enabled any more and nothing was copied. -/
theorem deleted_pipe_quiesces_witness :
    let st0 := run cfgNow (init 1 (fun _ => true) (fun _ => prov0) (fun _ => true) false)
      [.create, .write 0 [evA], .enqueue 0, .notify, .wopen 0, .delete]
    let st1 := run cfgNow st0 [.wtimeout 0, .wdone 0]
    (st0.srcs 0).desc.map (fun d => (d.pos, d.lastKnown, d.charged)) = some (0, 1, true) ∧
    (st1.srcs 0).wk = .none ∧ (st1.srcs 0).desc.map (fun d => (d.pos, d.lastKnown, d.charged)) = some (0, 1, false) ∧
    (step cfgNow st1 (.wopen 0)).isNone = true ∧ (step cfgNow st1 (.wtimeout 0)).isNone = true ∧
    (step cfgNow st1 (.wdone 0)).isNone = true ∧ allIdle st1 = true ∧ st1.dest = [] := by
  decide +kernel

/-! ### deletion and re-creation under one name (finding F74) -/

/-- **F74 repaired** (84f34ca): `DeletePipe` runs the deleted pipe's clean-up (cancel, removal of the positions file) itself,
before it acknowledges, and `saveState` refuses for a deleted pipe — so once `DeletePipe` has returned the positions file is
gone for good and a pipe created under the same name afterwards starts from nothing. The LTS has one incarnation per name;
this obligation pins the two regenerated facts (one-sided: it breaks if either is lost); the behaviour is the harness' section
`lifecycle` (parked, free-running, escaped names, churn). -/
theorem f74_window_closed :
    Generated.C10.deleteCleansUpBeforeAcknowledging = true ∧ Generated.C10.saveStateRefusesDeletedPipe = true := by
  decide +kernel

/-! ### record sizes (finding F52) -/

theorem varintLen_mono (a b : Nat) (h : a ≤ b) : varintLen a ≤ varintLen b := by
  -- four nested thresholds, each monotone over the next
  unfold varintLen
  refine ite_lt_mono h (le_ite (by decide) (le_ite (by decide) (le_ite (by decide) (by decide)))) ?_
  refine ite_lt_mono h (le_ite (by decide) (le_ite (by decide) (by decide))) ?_
  refine ite_lt_mono h (le_ite (by decide) (by decide)) ?_
  exact ite_lt_mono h (by decide) (Nat.le_refl _)

/-- **The copy is longer than the source record**: with a non-empty provenance the journal record of the copied event
has the source record's size plus the provenance bytes, plus the length prefix of the field list when the source event
had no fields of its own (and possibly a longer prefix otherwise). -/
theorem copy_record_grows (prov : Bytes) (e : Ev) (hp : prov ≠ []) :
    recSize e + prov.length ≤ recSize (addProv prov e) := by
  have hne : (e.fields ++ prov).isEmpty = false := by
    cases h : e.fields <;> cases hq : prov <;> simp_all
  simp only [recSize, addProv, hne, List.length_append]
  have hm := varintLen_mono e.fields.length (e.fields.length + prov.length) (by omega)
  split <;> simp_all <;> omega

/-- exact size of the copy -/
theorem copy_record_size (prov : Bytes) (e : Ev) (hp : prov ≠ []) :
    recSize (addProv prov e) =
      1 + 8 + varintLen e.msg.length + e.msg.length +
        (varintLen (e.fields.length + prov.length) + (e.fields.length + prov.length)) := by
  have hne : (e.fields ++ prov).isEmpty = false := by
    cases h : e.fields <;> cases hq : prov <;> simp_all
  simp [recSize, addProv, hne, List.length_append]

/-- a source event whose record has 297 bytes (message of 286 bytes, no fields) and the provenance of `{app=a1,grp=g1}`
(14 bytes of binary fields) -/
def evBig : Ev := ⟨2, List.replicate 286 120, []⟩
def prov14 : Bytes := [3, 97, 112, 112, 2, 97, 49, 3, 103, 114, 112, 2, 103, 49]

/-- **F52**: nothing in the copy path looks at the record size (the LTS copies every accepted event: `pipe_copy_inv`). A
source record that fits `MaxRecordSize = 300` (297 bytes) is copied into a record of 312 bytes: the run ends quiescent with
that record in the pipe partition — which the journal's readers cannot serve. -/
theorem cex_copy_exceeds_max_record_size :
    let st := run cfgNow (init 1 (fun _ => true) (fun _ => prov14) (fun _ => true) false)
      ([.create, .write 0 [evA, evBig, evB], .enqueue 0, .notify] ++ copyCycle)
    quiescent st = true ∧ recSize evBig = 297 ∧ (proj 0 st.dest).map recSize = [26, 312, 26] ∧
      (proj 0 st.dest) = specProj st 0 := by
  decide +kernel

/-! ### non-vacuity -/

/-- a run with two sources, interleaved workers and a restart, ending with both sources fully copied -/
example :
    let st := run cfgNow (init 2 (fun _ => true) (fun s => [s.toUInt8]) (fun _ => true) false)
      [.create, .write 0 [evA], .write 1 [evB], .enqueue 0, .enqueue 0, .notify, .notify, .wopen 1, .wopen 0, .wcopy 1 5,
       .wcopy 0 5, .wsave 0, .wsave 1, .write 0 [evB], .enqueue 0, .notify, .wcopy 0 1, .wsave 0, .wtimeout 0, .wtimeout 1,
       .wdone 0, .wdone 1, .shutdown, .halt, .restart]
    st.dest = [(1, addProv [1] evB), (0, addProv [0] evA), (0, addProv [0] evB)] ∧ quiescent st = true ∧
      ((st.srcs 0).desc.map (·.pos)) = some 2 := by
  decide +kernel

/-- a NON-quiescent graceful stop: a second batch is stored and notified, the worker is cancelled before it copies it
(`wtimeout` = its context ended), `workerDone`, the stop completes with a third batch's notification still queued; after
the restart the descriptor is back at `Pos = 1`, the pipe partition still holds exactly the first event, and the next
notification makes a worker copy everything that is stored: nothing twice, nothing lost -/
example :
    let st := run cfgNow (init 1 (fun _ => true) (fun _ => prov0) (fun _ => true) false)
      [.create, .write 0 [evA], .enqueue 0, .notify, .wopen 0, .wcopy 0 9, .wsave 0, .write 0 [evB], .enqueue 0, .notify,
       .write 0 [evA], .enqueue 0, .shutdown, .wtimeout 0, .wdone 0, .halt, .restart]
    let st' := run cfgNow st ([.write 0 [evB], .enqueue 0, .notify] ++ copyCycle)
    (st.dest = [(0, addProv prov0 evA)] ∧ (st.srcs 0).desc.map (fun d => (d.pos, d.start, d.stale)) = some (1, 0, false)) ∧
    (proj 0 st'.dest = [evA, evB, evA, evB].map (addProv prov0) ∧ proj 0 st'.dest = specProj st' 0) := by
  decide +kernel

/-- the duplicate window: a crash between `Journals.Write` and `saveState` restores `Pos = 0` although the pipe partition
already holds the batch `[0, 2)` — exactly that batch will be copied again -/
example :
    let st := run cfgNow (init 1 (fun _ => true) (fun _ => prov0) (fun _ => true) false)
      [.create, .write 0 [evA, evB], .enqueue 0, .notify, .wopen 0, .wcopy 0 9]
    (st.srcs 0).wk = .written 2 ∧ st.dest.length = 2 ∧ ((crashRestart st).srcs 0).desc = none ∧
      (st.srcs 0).desc.map (·.pos) = some 0 := by
  decide +kernel

/-- the registry through create, restart, delete, restart -/
example :
    let st := run cfgNow (init 1 (fun _ => true) (fun _ => prov0) (fun _ => true) false)
      [.create, .shutdown, .halt, .restart, .delete, .shutdown, .halt, .restart, .write 0 [evA], .enqueue 0, .notify]
    st.pipe = .deleted ∧ st.reg = false ∧ st.dest = [] := by
  decide +kernel

/-- the hypotheses of `pipe_spec_partial` are met by a run that copies two batches -/
example :
    let st := run cfgNow (init 1 (fun _ => true) (fun _ => prov0) (fun _ => true) false)
      ([.write 0 [evB], .enqueue 0, .notify, .create, .write 0 [evA], .enqueue 0, .notify] ++ copyCycle)
    quiescent st = true ∧ (st.srcs 0).desc = some ⟨2, 2, false, 1, false⟩ ∧ (st.srcs 0).createdAt = 1 ∧
      proj 0 st.dest = specProj st 0 := by
  decide +kernel

/-- a deleted pipe with a worker still charged: no step copies any more -/
example :
    let st := run cfgNow (init 1 (fun _ => true) (fun _ => prov0) (fun _ => true) false)
      [.create, .write 0 [evA], .enqueue 0, .notify, .wopen 0, .delete, .wcopy 0 5, .write 0 [evB], .enqueue 0, .notify]
    st.pipe = .deleted ∧ st.dest = [] := by
  decide +kernel

end Logrange.Props.C10

import Logrange.Props.C05
import Logrange.Model.WhereCallers
/-!
# C05, rejection clause for every caller of the builder

`where_rejects` says the *builder* errs exactly on the expressions without a meaning. Here: that error reaches the
client on every path, and nothing — no cursor, no pipe — is created with a partial filter.
-/
namespace Logrange.Props.C05Callers
open Go Logrange Logrange.Where Logrange.WhereCallers Logrange.Props.C05

/-- **The error tests of all callers have the shape the model assumes** (regenerated from /repo on every run by
`tools/extract/c05_callers.go`, matched by structure: any name for the error variable, statements before the return
inside the guard ignored, zero values of any spelling). -/
theorem callers_as_modelled :
    Generated.C05.guardBuildWhereText = "return(zero,err)" ∧ Generated.C05.buildWhereTextTailCallsBuilder = true ∧
    Generated.C05.guardNewFIterator = "return(zero,err)" ∧ Generated.C05.guardNewCursor = "return(zero,err)" ∧
    Generated.C05.guardGetOrCreate = "skip-eq(1);return(zero,err)" ∧
    Generated.C05.guardBackendQuery = "return(zero,err)" ∧ Generated.C05.guardRpcQuery = "reply(err);return" ∧
    Generated.C05.guardNewPPipe = "return(zero,err)" ∧ Generated.C05.guardCreatePipe = "return(zero,err)" ∧
    Generated.C05.createPipeRegistersAfterGuard = true ∧ Generated.C05.guardPipeInit = "return(err)" ∧
    Generated.C05.guardCmdCreatePipe = "return(zero,err)" ∧ Generated.C05.guardRpcEnsurePipe = "reply(err);return" ∧
    Generated.C05.ensurePipeSuccessOnlyFromGet = true ∧ Generated.C05.guardPipeWorker = "return()" := by decide +kernel

/-- **A SELECT whose WHERE has no meaning never gets a cursor that delivers anything**: over matching partitions the
client receives the builder's error; over no partition the empty cursor (nothing is delivered, so nothing is "treated
as true"). -/
theorem query_rejects_unsupported (env : Env) (e : Expr) (r hs : Bool) (h : supported env e = false) :
    (hs = true → ∃ err, query env ⟨some e, r⟩ hs = .error (.build err)) ∧
    (hs = false → query env ⟨some e, r⟩ hs = .page .empty) := by
  obtain ⟨err, he⟩ := (where_rejects env e).mpr h
  constructor
  · intro hh; subst hh
    exact ⟨err, by simp [query, getOrCreate, newCursor, newFIterator, he]⟩
  · intro hh; subst hh
    simp [query, getOrCreate, newCursor]

/-- the query path in closed form -/
theorem query_eq (env : Env) (sel : Select) (hs : Bool) :
    query env sel hs =
      if hs = false then .page .empty
      else if sel.where_.isSome || sel.hasRange then
        (match buildWhere env sel.where_ with
         | .error e => .error (.build e)
         | .ok f => .page (.real (some f)))
      else .page (.real none) := by
  cases hs
  · simp [query, getOrCreate, newCursor]
  · by_cases hc : (sel.where_.isSome || sel.hasRange) = true
    · cases hb : buildWhere env sel.where_ <;> simp [query, getOrCreate, newCursor, newFIterator, hc, hb]
    · simp [query, getOrCreate, newCursor, hc]

/-- **No partial filter**: the filter of the cursor a query is served from is the builder's filter of the *whole*
WHERE expression — hence (by `where_correct`) its reference meaning. -/
theorem query_filter_is_builders (env : Env) (sel : Select) (hs : Bool) (f : Pred)
    (h : query env sel hs = .page (.real (some f))) : buildWhere env sel.where_ = .ok f := by
  rw [query_eq] at h
  split at h
  · cases h
  · split at h
    · split at h
      · cases h
      · rename_i g hb; cases h; exact hb
    · cases h

/-- and a query served without any filter had neither WHERE nor RANGE -/
theorem query_unfiltered_only_without_where (env : Env) (sel : Select) (hs : Bool)
    (h : query env sel hs = .page (.real none)) : sel.where_ = none ∧ sel.hasRange = false := by
  rw [query_eq] at h
  split at h
  · cases h
  · split at h
    · split at h <;> cases h
    · rename_i hc
      simp only [Bool.or_eq_true, not_or, Bool.not_eq_true, Option.isSome_eq_false_iff, Option.isNone_iff_eq_none] at hc
      exact hc

/-- **The request text a held cursor is compared with cannot change under it**: the rpc query handler either decodes the
request into strings of its own or never hands the request buffer to a pool, and `ApplyState` refuses another query
(regenerated; a `defer sc.Collect(reqBody)` beside the weak decoding flips the first fact). -/
theorem held_query_text_is_stable :
    (Generated.C05.rpcQueryRequestLifetime = "weak;kept" ∨ Generated.C05.rpcQueryRequestLifetime = "copied;kept" ∨
      Generated.C05.rpcQueryRequestLifetime = "copied;released") ∧
    Generated.C05.applyStateRefusesOtherQuery = true := by decide +kernel

/-- **A request that names a held cursor's id but carries another query is answered from its own query**: the cursor it
is served from carries the builder's filter of the request's own WHERE (or the request is rejected / served empty as
any fresh request would be) — never the held cursor's filter. -/
theorem held_id_other_query_uses_own_filter (env : Env) (held : Held) (qtext : Bytes) (sel : Select) (hs : Bool)
    (hne : held.query ≠ qtext) :
    getOrCreateHeld env held qtext sel hs = getOrCreate env sel hs ∧
    (∀ f, getOrCreateHeld env held qtext sel hs = .ok (.real (some f)) → buildWhere env sel.where_ = .ok f) := by
  have e : getOrCreateHeld env held qtext sel hs = getOrCreate env sel hs := by
    simp [getOrCreateHeld, hne]
  refine ⟨e, fun f h => ?_⟩
  rw [e] at h
  apply query_filter_is_builders env sel hs f
  simp [WhereCallers.query, h]

/-- the same id with the same query text is served from the held cursor (paging) -/
example (env : Env) (held : Held) (sel : Select) (hs : Bool) :
    getOrCreateHeld env held held.query sel hs = .ok (.real held.flt) := by simp [getOrCreateHeld]

/-- **CREATE PIPE / CreatePipe with a filter text that does not parse or has no meaning is rejected and the registry is
unchanged** -/
theorem create_pipe_rejects (env : Env) (parse : Bytes → Option (Option Expr)) (reg : Registry) (name flt : Bytes)
    (h : parse flt = none ∨ ∃ e, parse flt = some (some e) ∧ supported env e = false) :
    (∃ err, (createPipe env parse reg name flt).1 = .error err) ∧ (createPipe env parse reg name flt).2 = reg := by
  unfold createPipe
  by_cases hx : reg.has name = true
  · simp [hx]
  · have hbw : ∃ err, buildWhereText env parse flt = .error err := by
      rcases h with h | ⟨e, hp, hsup⟩
      · exact ⟨.parse, by simp [buildWhereText, h]⟩
      · obtain ⟨err, he⟩ := (where_rejects env e).mpr hsup
        exact ⟨.build err, by simp [buildWhereText, hp, he]⟩
    obtain ⟨err, he⟩ := hbw
    simp [hx, he]

/-- a pipe that is registered carries the builder's filter of its whole filter text -/
theorem create_pipe_registers_builders_filter (env : Env) (parse : Bytes → Option (Option Expr)) (reg : Registry)
    (name flt : Bytes) (h : (createPipe env parse reg name flt).1 = .ok ()) :
    ∃ f, buildWhereText env parse flt = .ok f ∧ (createPipe env parse reg name flt).2 = reg ++ [(name, flt, f)] := by
  unfold createPipe at h ⊢
  by_cases hx : reg.has name = true
  · simp [hx] at h
  · cases hb : buildWhereText env parse flt with
    | error e => simp [hx, hb] at h
    | ok f => exact ⟨f, rfl, by simp [hx]⟩

/-- **EnsurePipe (API) with such a filter for a new name fails and creates nothing**, however many rounds -/
theorem ensure_pipe_rejects (env : Env) (parse : Bytes → Option (Option Expr)) (k : Nat) (reg : Registry) (name flt : Bytes)
    (hn : reg.has name = false)
    (h : parse flt = none ∨ ∃ e, parse flt = some (some e) ∧ supported env e = false) :
    (∃ err, (ensurePipe env parse k reg name flt).1 = .error err) ∧ (ensurePipe env parse k reg name flt).2 = reg := by
  have hf : reg.find? (fun p => p.1 == name) = none := by
    simp only [Registry.has, List.any_eq_false] at hn
    simpa [List.find?_eq_none] using hn
  induction k with
  | zero => exact ⟨⟨.gaveUp, rfl⟩, rfl⟩
  | succ k ih =>
    simp only [ensurePipe, hf, (create_pipe_rejects env parse reg name flt h).2]
    exact ih

/-! ### non-vacuity -/

/-- `fields:a ~ "x"`: an operator without a meaning -/
def eBad : Expr := .cons (.cons (.cond false ⟨idOf [102, 105, 101, 108, 100, 115, 58, 97], [126], [120]⟩) .nil) .nil
example : supported env0 eBad = false := by decide +kernel
example : (match query env0 ⟨some eBad, false⟩ true with | .error (.build _) => true | _ => false) = true := by decide +kernel
example : (match query env0 ⟨some e0, false⟩ true with | .page (.real (some _)) => true | _ => false) = true := by decide +kernel
example : (match (createPipe env0 (fun _ => some (some eBad)) [] [112] [120]) with | (.error _, []) => true | _ => false) = true := by
  decide +kernel
example : (match (createPipe env0 (fun _ => some (some e0)) [] [112] [120]) with | (.ok (), [_]) => true | _ => false) = true := by
  decide +kernel

end Logrange.Props.C05Callers

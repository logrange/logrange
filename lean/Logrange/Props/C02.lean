import Logrange.Proofs.Points
import Logrange.Proofs.WriteLoopHull
import Logrange.Proofs.ChunkHist
import Logrange.Proofs.PointsMerge
import Logrange.Proofs.PartScan
import Logrange.Proofs.RebuildHist
import Logrange.Proofs.ITree
import Logrange.Proofs.PartHist
import Logrange.Proofs.Relight
import Logrange.Proofs.FitRange
/-!
# C02 — Time-range queries return exactly the events whose timestamp is in range

Property theorems only (lemmas: `Logrange/Proofs/Points.lean`; models: `Logrange/Model/{Points,IdxTree,CIndex,WriteLoop,
Selector,RangedIter}.lean`). The theorems are about the abstract sparse index `Points` of one chunk — the list of
level-0 records of the chunk's block tree — and about the window `chkSelector.updatePoss` derives from it; the block tree
(`IdxTree`) and the whole pipeline are tied to `Points` and to the code by the correspondence harness (`cmd/c02`).
Every theorem here is an obligation of the C02 check; the audit lists their axioms.

Regenerated facts the statements depend on (`Logrange.Generated.C02`): `lowerAskMinusOne` (the lower bound handed to
the index is `MinTs − 1`, fix 94ffdf8), `fitLower/UpperInclusive` (`fitInRange` uses `>=` / `<=`),
`rangeDefaultLower` (MinInt64 since fix f2a8db2), `iwrapperMin/MaxZeroSentinel`, `iwrapperSeenFlag` (flag instead of the 0
sentinel since fix 6624754), `rebuildSegmentMaxInit` (MinInt64 since fix db44772).
-/
namespace Logrange.Props.C02
open Logrange Logrange.Points

/-! ## soundness of the two index look-ups -/

/-- `less` answers an upper position bound: every position beyond it (inside the chunk) has a timestamp above `t`. -/
theorem less_is_upper_bound {tsOf : Nat → Int} {n : Nat} {pts : List Pt} (hs : IndexSound tsOf n pts) (t : Int) (m : Nat)
    (hm : lessPos pts t = some m) (q : Nat) (hq : m < q) (hqn : q < n) : t < tsOf q :=
  Points.less_is_upper_bound hs t m hm q hq hqn

/-- `grEq` as the code has it (the LAST point with `ts ≤ t`): every position before the answer has `ts ≤ t`. -/
theorem grEq_below {tsOf : Nat → Int} {n : Nat} {pts : List Pt} (hs : IndexSound tsOf n pts) (t : Int) (q : Nat)
    (hq : q < grEqPos pts t) : tsOf q ≤ t :=
  Points.grEq_below hs t q hq

/-- what fix 94ffdf8 establishes: asked for `t − 1`, the answer is at or before every record with `ts ≥ t`
(including the records whose timestamp EQUALS the bound). -/
theorem grEq_minus_one_is_lower_bound {tsOf : Nat → Int} {n : Nat} {pts : List Pt} (hs : IndexSound tsOf n pts) (t : Int)
    (q : Nat) (hq : t ≤ tsOf q) : grEqPos pts (t - 1) ≤ q :=
  Points.grEq_minus_one_is_lower_bound hs t q hq

/-! ## the fixed finding #1 as a counterexample for the un-fixed call -/

def cexPts : List Pt := [⟨100, 0⟩, ⟨200, 299⟩, ⟨200, 599⟩, ⟨300, 899⟩]
def cexTs (q : Nat) : Int := if q = 0 then 100 else if q ≤ 599 then 200 else 300

theorem cexPts_sound : IndexSound cexTs 900 cexPts := by
  refine ⟨by decide, by simp [cexPts, SortedTs], by simp [cexPts, SortedIdx], ?_, by simp [cexPts, HeadOk, cexTs], ?_, by decide⟩
  · simp only [cexPts, Claims, cexTs, and_true]
    refine ⟨?_, ?_, ?_⟩ <;> intro q h1 h2 <;> (repeat' split) <;> omega
  · intro _ q h1 h2
    simp [cexPts, lastD] at h1
    omega

/-- asked for the bound itself the index answers 599 although record 400 carries the bound's timestamp;
asked for `bound − 1` it answers 0 -/
theorem cex_equal_bound : cexTs 400 = 200 ∧ grEqPos cexPts 200 = 599 ∧ ¬ (grEqPos cexPts 200 ≤ 400) ∧ grEqPos cexPts (200 - 1) ≤ 400 := by
  decide +kernel

/-- the window of the un-fixed `updatePoss` hides position 400 for `RANGE [200:250]`; the current one keeps it -/
theorem cex_window_unfixed :
    inRange ⟨200, 250⟩ (cexTs 400) ∧ ¬ inWindow (windowUnfixed ⟨100, 300⟩ (some cexPts) ⟨200, 250⟩) 400 ∧
    inWindow (window ⟨100, 300⟩ (some cexPts) ⟨200, 250⟩) 400 := by
  decide +kernel

/-! ## the index may only skip events outside the range -/

/-- **window_complete**: with a sound hull and a sound (or missing: `idx = none`) index, every position whose timestamp
is in the range lies inside the window `updatePoss` computes — for every range, including bounds equal to stored
timestamps and the int64 extremes. -/
theorem window_complete {tsOf : Nat → Int} {n : Nat} (h : Hull) (idx : Option (List Pt)) (r : TmRange)
    (hh : HullSound h tsOf n) (hi : ∀ pts, idx = some pts → IndexSound tsOf n pts) (hn : n ≤ maxU32)
    (hmin : minI64 ≤ h.minTs) (p : Nat) (hp : p < n) (hr : inRange r (tsOf p)) : inWindow (window h idx r) p :=
  Points.window_complete h idx r hh hi hn hmin p hp hr

theorem cexHull_sound : HullSound ⟨100, 300⟩ cexTs 900 := by
  intro p _; unfold cexTs; constructor <;> (repeat' split) <;> simp

example : inWindow (window ⟨100, 300⟩ (some cexPts) ⟨200, 200⟩) 150 :=
  window_complete (tsOf := cexTs) (n := 900) ⟨100, 300⟩ (some cexPts) ⟨200, 200⟩ cexHull_sound
    (by intro pts h; cases h; exact cexPts_sound) (by decide) (by decide) 150 (by decide) (by decide)

/-! ## the range re-check of `fiterator` -/

/-- `fiterator.Get`/`Next` over a stream of timestamps: events failing `fitInRange` are skipped -/
def fiterAll (rmin rmax : Int) : List Int → List Int
  | [] => []
  | t :: rest => if RangedIter.fitInRange rmin rmax t then t :: fiterAll rmin rmax rest else fiterAll rmin rmax rest

/-- **fiter_refines_filter**: the filtering iterator delivers exactly the events with `rmin ≤ ts ≤ rmax`, in order
(both comparisons inclusive — regenerated facts `fitLowerInclusive`, `fitUpperInclusive`). -/
theorem fiter_refines_filter (rmin rmax : Int) (l : List Int) :
    fiterAll rmin rmax l = l.filter (fun t => decide (inRange ⟨rmin, rmax⟩ t)) := by
  induction l with
  | nil => rfl
  | cons t rest ih =>
    simp only [fiterAll, List.filter, ih, RangedIter.fitInRange_eq]
    cases decide (inRange ⟨rmin, rmax⟩ t) <;> rfl

/-! ## one chunk: ranged read = filtered full read -/

/-- the positions a ranged read of one chunk visits (those inside the window), then the `fitInRange` re-check -/
def chunkRangedRead (h : Hull) (idx : Option (List Pt)) (r : TmRange) (tsOf : Nat → Int) (n : Nat) : List Nat :=
  ((List.range n).filter (fun p => decide (inWindow (window h idx r) p))).filter
    (fun p => RangedIter.fitInRange r.minTs r.maxTs (tsOf p))

/-- **range_eq_filter (one chunk)**: with a sound hull and a sound or missing index the ranged read of a chunk is
exactly the filter of the full read. -/
theorem range_eq_filter_chunk {tsOf : Nat → Int} {n : Nat} (h : Hull) (idx : Option (List Pt)) (r : TmRange)
    (hh : HullSound h tsOf n) (hi : ∀ pts, idx = some pts → IndexSound tsOf n pts) (hn : n ≤ maxU32)
    (hmin : minI64 ≤ h.minTs) :
    chunkRangedRead h idx r tsOf n = (List.range n).filter (fun p => decide (inRange r (tsOf p))) :=
  PartScan.chunk_eq_of_complete ⟨n, h, idx⟩ r (fun r p hp hr => window_complete h idx r hh hi hn hmin p hp hr)

/-! ## the write side keeps the index sound -/

/-- **addInterval_preserves (append case and first interval)**: what `onWrite` does whenever the new batch does not
start below an indexed timestamp — always the case on monotone streams (`append_case_of_monotone`). -/
theorem addInterval_preserves_append {tsOf : Nat → Int} {n n' : Nat} {pts : List Pt} (it : Iv) (hs : IndexSound tsOf n pts)
    (hcase : cntLE pts it.p0.ts = pts.length)
    (hn : it.p0.idx = n) (hle : it.p0.idx ≤ it.p1.idx) (hn' : n' = it.p1.idx + 1) (hb : BatchIn it tsOf)
    (hg : GapCovered pts it tsOf) (he : pts = [] → it.p0.idx = 0) : IndexSound tsOf n' (add pts it) :=
  Points.add_preserves_append it hs hcase hn hle hn' hb hg he

/-- **addInterval_preserves** — the full statement, all three cases of `block.addInterval` at level 0: append, merge into
the covering interval (records after it dropped, `p1.ts := max p1.ts last.ts`), collapse (`p0 := reduce p0 first`). The
only hypotheses are the honest ones: the interval covers its batch (`BatchIn`) and the skipped positions before it lie
below its upper timestamp (`GapCovered` — what fails for jittered streams, finding #4). -/
theorem addInterval_preserves {tsOf : Nat → Int} {n n' : Nat} {pts : List Pt} (it : Iv) (hs : IndexSound tsOf n pts)
    (hn : it.p0.idx = n) (hle : it.p0.idx ≤ it.p1.idx) (hn' : n' = it.p1.idx + 1) (hb : BatchIn it tsOf)
    (hg : GapCovered pts it tsOf) (he : pts = [] → it.p0.idx = 0) : IndexSound tsOf n' (add pts it) :=
  Points.add_preserves it hs hn hle hn' hb hg he

/-- a write the sparse index skips keeps the index sound when the new records are not below the last point -/
theorem skip_preserves {tsOf : Nat → Int} {n n' : Nat} {pts : List Pt} (hs : IndexSound tsOf n pts) (hnn : n ≤ n')
    (hnew : ∀ q, n ≤ q → q < n' → (lastD pts).ts ≤ tsOf q) : IndexSound tsOf n' pts :=
  Points.skip_preserves hs hnn hnew

/-- `GapCovered` — the hypothesis the proof forces — follows from monotonicity -/
theorem gapCovered_of_monotone {tsOf : Nat → Int} {n' : Nat} (pts : List Pt) (it : Iv) (hm : Monotone tsOf n')
    (hb : BatchIn it tsOf) (hle : it.p0.idx ≤ it.p1.idx) (hl : it.p1.idx < n') : GapCovered pts it tsOf :=
  Points.gapCovered_of_monotone pts it hm hb hle hl

/-- on a monotone stream every indexed batch takes the append case -/
theorem append_case_of_monotone {tsOf : Nat → Int} {n : Nat} {pts : List Pt} (it : Iv) (hs : IndexSound tsOf n pts)
    (hm : Monotone tsOf (it.p0.idx + 1)) (hn : it.p0.idx = n) (hexact : it.p0.ts = tsOf it.p0.idx)
    (hatt : ∀ p ∈ pts, ∃ q, q < n ∧ p.ts ≤ tsOf q) : cntLE pts it.p0.ts = pts.length :=
  Points.append_case_of_monotone it hs hm hn hexact hatt

example : add cexPts ⟨⟨300, 900⟩, ⟨310, 1199⟩⟩ = cexPts ++ [⟨310, 1199⟩] := by decide          -- append
example : add cexPts ⟨⟨250, 900⟩, ⟨260, 1199⟩⟩ = [⟨100, 0⟩, ⟨200, 299⟩, ⟨200, 599⟩, ⟨300, 1199⟩] := by decide  -- merge
example : add cexPts ⟨⟨50, 900⟩, ⟨60, 1199⟩⟩ = [⟨50, 0⟩, ⟨300, 1199⟩] := by decide               -- collapse

/-! ## the three repaired defects (#2, #3, #45) as positive theorems -/

/-- **iwrapper_hull_exact** (fix 6624754, was finding #2): the hull `Service.Write` reports for a batch is the true
minimum and maximum of the batch's timestamps — for EVERY batch, including timestamps 0 and negative ones. Depends on the
regenerated facts that `iwrapper.Get` no longer compares with 0 and keeps a seen-flag. -/
theorem iwrapper_hull_exact (t : Int) (rest : List Int) :
    let iw := (t :: rest).foldl WriteLoop.IW.see {}
    (∀ x ∈ t :: rest, iw.minTs ≤ x ∧ x ≤ iw.maxTs) ∧ iw.minTs ∈ t :: rest ∧ iw.maxTs ∈ t :: rest := by
  have f1 : Generated.C02.iwrapperMinZeroSentinel = false := by decide
  have f2 : Generated.C02.iwrapperMaxZeroSentinel = false := by decide
  have f3 : Generated.C02.iwrapperSeenFlag = true := by decide
  exact WriteLoop.hull_exact_of_flags {} f1 f2 rfl t rest

/-- the former witness of #2: the batch 5, 0, 7 now gets the hull [0, 7] and `RANGE [0:6]` keeps position 0 -/
example : ((([5, 0, 7] : List Int).foldl WriteLoop.IW.see {}).minTs, (([5, 0, 7] : List Int).foldl WriteLoop.IW.see {}).maxTs) = (0, 7) ∧
    inWindow (window ⟨0, 7⟩ none ⟨0, 6⟩) 0 := by decide

/-- **open_lower_bound_complete** (fix f2a8db2, was finding #3): a missing lower bound is the smallest int64, so the
range re-check of `RANGE [:h]` keeps exactly the events with `ts ≤ h` — negative timestamps included — and
`window_complete` (whose range is `rangeOf none (some h)`) covers them. -/
theorem open_lower_bound_complete (h t : Int) (ht : minI64 ≤ t) :
    RangedIter.fitInRange (RangedIter.rangeOf none (some h)).1 (RangedIter.rangeOf none (some h)).2 t = decide (t ≤ h) ∧
    (t ≤ h → inRange ⟨(RangedIter.rangeOf none (some h)).1, (RangedIter.rangeOf none (some h)).2⟩ t) := by
  have f1 : Generated.C02.rangeDefaultLower = minI64 := by decide
  simp only [RangedIter.rangeOf, Option.getD_none, Option.getD_some, f1, RangedIter.fitInRange_eq, inRange]
  exact ⟨by simp [ht], fun a => ⟨ht, a⟩⟩

example : RangedIter.fitInRange (RangedIter.rangeOf none (some 6)).1 (RangedIter.rangeOf none (some 6)).2 (-5) = true := by decide

/-- **rebuild_segment_max_exact** (fix db44772, was finding #45): `rebuildIndexInt` starts a segment's maximum at the
smallest int64, so the maximum recorded for a segment is the true maximum of its (int64) timestamps — negative ones
included; the index point written for the segment is attained by a record of the segment. -/
theorem rebuild_segment_max_exact (t : Int) (rest : List Int) (hlow : ∀ x ∈ t :: rest, minI64 ≤ x) :
    let m := (t :: rest).foldl max Generated.C02.rebuildSegmentMaxInit
    (∀ x ∈ t :: rest, x ≤ m) ∧ m ∈ t :: rest := by
  have f1 : Generated.C02.rebuildSegmentMaxInit = minI64 := by decide
  have gen : ∀ (l : List Int) (a : Int), (∀ x ∈ l, x ≤ l.foldl max a) ∧ a ≤ l.foldl max a ∧ (l.foldl max a = a ∨ l.foldl max a ∈ l) := by
    intro l
    induction l with
    | nil => intro a; simp
    | cons y ys ih =>
      intro a
      obtain ⟨i1, i2, i3⟩ := ih (max a y)
      simp only [List.foldl_cons]
      refine ⟨?_, by omega, ?_⟩
      · intro x hx
        cases hx with
        | head => omega
        | tail _ hx' => exact i1 x hx'
      · rcases i3 with i3 | i3
        · by_cases hay : y ≤ a
          · left; rw [i3]; omega
          · right; rw [i3]; simp; left; omega
        · right; exact List.mem_cons_of_mem _ i3
  obtain ⟨g1, g2, g3⟩ := gen (t :: rest) Generated.C02.rebuildSegmentMaxInit
  refine ⟨g1, ?_⟩
  rcases g3 with g3 | g3
  · -- the maximum stayed at the initial value: then t = minI64 is that value
    have ht := g1 t List.mem_cons_self
    have hl := hlow t List.mem_cons_self
    rw [g3, f1] at ht
    have : t = minI64 := by omega
    rw [g3, f1, ← this]; exact List.mem_cons_self
  · exact g3

example : ([-30, -20, -10] : List Int).foldl max Generated.C02.rebuildSegmentMaxInit = -10 := by decide

/-! ## end to end on monotone histories (Points level) -/

/-- the hull `Service.Write`'s `iwrapper` reports for the records `t :: rest` written at positions `a …` is their
`ExactHull` — the hypothesis of the history theorems below is what the write loop delivers (single-chunk `Write` call). -/
theorem exactHull_of_iwrapper (tsOf : Nat → Int) (a : Nat) (t : Int) (rest : List Int)
    (hl : ∀ i (h : i < (t :: rest).length), tsOf (a + i) = (t :: rest)[i]) :
    ChunkHist.ExactHull tsOf a (t :: rest).length (((t :: rest).foldl WriteLoop.IW.see {}).minTs)
      (((t :: rest).foldl WriteLoop.IW.see {}).maxTs) := by
  obtain ⟨h1, h2, h3⟩ := iwrapper_hull_exact t rest
  refine ⟨?_, ?_, ?_⟩
  · intro q hq1 hq2
    have hi : q - a < (t :: rest).length := by omega
    have := hl (q - a) hi
    have e : a + (q - a) = q := by omega
    rw [e] at this
    rw [this]
    exact h1 _ (List.getElem_mem hi)
  · obtain ⟨i, hi, e⟩ := List.getElem_of_mem h3
    exact ⟨a + i, by omega, by omega, by rw [hl i hi, e]⟩
  · obtain ⟨i, hi, e⟩ := List.getElem_of_mem h2
    exact ⟨a + i, by omega, by omega, by rw [hl i hi, e]⟩

/-- **monotone_history_sound**: over ANY history of `OnWrite` notifications of a chunk (skip / big-gap corruption /
append decisions as `cindex.onWrite` takes them, any sparsity constants) whose timestamps are monotone non-decreasing in
stored order and whose batches carry their exact hulls, the chunk's hull and index stay sound. -/
theorem monotone_history_sound {tsOf : Nat → Int} (sparse bigGap : Nat) (bs : List ChunkHist.Batch)
    (hm : Monotone tsOf (ChunkHist.total bs)) (he : ChunkHist.BatchesExact tsOf 0 bs) :
    ChunkHist.Sound tsOf (ChunkHist.run sparse bigGap bs) ∧ (ChunkHist.run sparse bigGap bs).n = ChunkHist.total bs :=
  ChunkHist.run_sound sparse bigGap bs hm he

/-- the window of any range over the index such a history leaves contains every in-range position -/
theorem window_complete_monotone {tsOf : Nat → Int} (sparse bigGap : Nat) (bs : List ChunkHist.Batch)
    (hm : Monotone tsOf (ChunkHist.total bs)) (he : ChunkHist.BatchesExact tsOf 0 bs) (hn : ChunkHist.total bs ≤ maxU32)
    (hlow : ∀ q, q < ChunkHist.total bs → minI64 ≤ tsOf q) (r : TmRange) (p : Nat) (hp : p < ChunkHist.total bs)
    (hr : inRange r (tsOf p)) :
    ∃ h, (ChunkHist.run sparse bigGap bs).hull = some h ∧
      inWindow (window h (ChunkHist.idxOf (ChunkHist.run sparse bigGap bs)) r) p :=
  ChunkHist.window_complete_monotone sparse bigGap bs hm he hn hlow r p hp hr

/-- **range_eq_filter_monotone** — the core of C02 for one chunk, end to end at the Points level: after any monotone
write history (write loop's exact hulls → `onWrite`'s skip/append decisions → `updatePoss` window → `fitInRange` re-check)
the ranged read of the chunk is EXACTLY the filter of its full read, for every range. -/
theorem range_eq_filter_monotone {tsOf : Nat → Int} (sparse bigGap : Nat) (bs : List ChunkHist.Batch)
    (hm : Monotone tsOf (ChunkHist.total bs)) (he : ChunkHist.BatchesExact tsOf 0 bs) (hn : ChunkHist.total bs ≤ maxU32)
    (hlow : ∀ q, q < ChunkHist.total bs → minI64 ≤ tsOf q) (hpos : 0 < ChunkHist.total bs) (r : TmRange) :
    ∃ h, (ChunkHist.run sparse bigGap bs).hull = some h ∧
      chunkRangedRead h (ChunkHist.idxOf (ChunkHist.run sparse bigGap bs)) r tsOf (ChunkHist.total bs) =
        (List.range (ChunkHist.total bs)).filter (fun p => decide (inRange r (tsOf p))) := by
  obtain ⟨hs, hnn⟩ := ChunkHist.run_sound sparse bigGap bs hm he
  obtain ⟨h, hh, hsound, q, hq, hqe⟩ := hs.hull (by omega)
  rw [hnn] at hsound hq
  refine ⟨h, hh, ?_⟩
  apply range_eq_filter_chunk h _ r hsound _ hn (by rw [hqe]; exact hlow q hq)
  intro pts hpts
  unfold ChunkHist.idxOf at hpts
  by_cases hc : (ChunkHist.run sparse bigGap bs).corrupted = true
  · simp [hc] at hpts
  · have hc' : (ChunkHist.run sparse bigGap bs).corrupted = false := by simpa using hc
    simp [hc'] at hpts
    subst hpts
    have := hs.index hc'
    rw [hnn] at this
    exact this

example : (ChunkHist.run 250 5000 [⟨300, 100, 200⟩, ⟨10, 200, 205⟩, ⟨300, 205, 300⟩]).pts = [⟨100, 0⟩, ⟨200, 299⟩, ⟨300, 609⟩] := by decide

/-! ## the whole partition: selector stepping as a fold over chunks -/

/-- **scan_is_fold_over_chunks**: `getPosForward` (first chunk whose status accepts the entry index, `checkPosOrAdvance`),
`Get` (deliver while below the count), `Next` (leave the chunk when the next position is outside the window) and
`advanceChunk` together deliver, chunk after chunk, exactly the positions inside each chunk's window. -/
theorem scan_is_fold_over_chunks (cs : List Selector.ChkSt) : PartScan.scanAll cs = PartScan.journalPositions cs 0 :=
  PartScan.scanAll_eq cs

/-- **range_eq_filter_partition**: for a journal of chunks whose windows are complete (every in-range position of a
chunk lies inside the window `updatePoss` computes for it), the ranged read over the WHOLE partition equals the filter
of the unbounded read — same events, same order. -/
theorem range_eq_filter_partition (ts : Nat → Nat → Int) (cs : List PartScan.ChunkMeta) (r : TmRange)
    (hall : PartScan.AllComplete ts cs 0) :
    PartScan.rangedRead ts cs r = (PartScan.fullPositions cs 0).filter (fun kp => decide (inRange r (ts kp.1 kp.2))) :=
  PartScan.partition_read_eq_filter ts cs r hall

/-- a sound hull and a sound (or missing) index make a chunk's windows complete -/
theorem windowComplete_of_sound {tsOf : Nat → Int} (c : PartScan.ChunkMeta) (hh : HullSound c.hull tsOf c.n)
    (hi : ∀ pts, c.idx = some pts → IndexSound tsOf c.n pts) (hn : c.n ≤ maxU32) (hmin : minI64 ≤ c.hull.minTs) :
    PartScan.WindowComplete tsOf c :=
  fun r p hp hr => window_complete c.hull c.idx r hh hi hn hmin p hp hr

/-- the index state of chunk `k` after its notification history, as the selector sees it -/
def metaOfRun (sparse bigGap : Nat) (bs : List ChunkHist.Batch) : PartScan.ChunkMeta :=
  { n := ChunkHist.total bs, hull := (ChunkHist.run sparse bigGap bs).hull.getD ⟨0, 0⟩,
    idx := ChunkHist.idxOf (ChunkHist.run sparse bigGap bs) }

/-- every chunk `k, k+1, …` of the partition was written by a non-empty monotone history with exact batch hulls -/
def MonotoneChunks (ts : Nat → Nat → Int) : List (List ChunkHist.Batch) → Nat → Prop
  | [], _ => True
  | bs :: rest, k =>
    (Monotone (ts k) (ChunkHist.total bs) ∧ ChunkHist.BatchesExact (ts k) 0 bs ∧ ChunkHist.total bs ≤ maxU32 ∧
      (∀ q, q < ChunkHist.total bs → minI64 ≤ ts k q)) ∧ MonotoneChunks ts rest (k + 1)

theorem allComplete_of_monotoneChunks (sparse bigGap : Nat) (ts : Nat → Nat → Int) :
    ∀ (bss : List (List ChunkHist.Batch)) (k : Nat), MonotoneChunks ts bss k →
      PartScan.AllComplete ts (bss.map (metaOfRun sparse bigGap)) k := by
  intro bss
  induction bss with
  | nil => intro k _; trivial
  | cons bs rest ih =>
    intro k h
    obtain ⟨⟨hm, he, hn, hlow⟩, hrest⟩ := h
    refine ⟨?_, ih (k + 1) hrest⟩
    intro r p hp hr
    obtain ⟨h, hh, hw⟩ := window_complete_monotone sparse bigGap bs hm he hn hlow r p hp hr
    simp only [metaOfRun, hh, Option.getD_some]
    exact hw

/-- **range_eq_filter_partition_monotone**: a partition whose chunks were each written by a monotone history of OnWrite
notifications with exact batch hulls (any batch sizes, any sparsity constants, skip / big-gap / append decisions as in
`cindex.onWrite`): for EVERY range the ranged read over the whole partition — per-chunk windows from hull and index,
selector/iterator stepping chunk by chunk, range re-check — equals the filter of the unbounded read. -/
theorem range_eq_filter_partition_monotone (sparse bigGap : Nat) (ts : Nat → Nat → Int) (bss : List (List ChunkHist.Batch))
    (h : MonotoneChunks ts bss 0) (r : TmRange) :
    PartScan.rangedRead ts (bss.map (metaOfRun sparse bigGap)) r =
      (PartScan.fullPositions (bss.map (metaOfRun sparse bigGap)) 0).filter (fun kp => decide (inRange r (ts kp.1 kp.2))) :=
  range_eq_filter_partition ts _ r (allComplete_of_monotoneChunks sparse bigGap ts bss 0 h)

example : PartScan.scanAll [⟨2, 4, 10⟩, ⟨4294967295, 4294967295, 5⟩, ⟨0, 4294967295, 3⟩] =
    [(0, 2), (0, 3), (0, 4), (2, 0), (2, 1), (2, 2)] := by decide

/-! ## rebuilds: the exclusive-end index, stated in the form it satisfies -/

/-- what the two look-ups need — every index point separates the chunk's positions by its timestamp — follows from
`IndexSound` … -/
theorem lookupSound_of_indexSound {tsOf : Nat → Int} {n : Nat} {pts : List Pt} (hs : IndexSound tsOf n pts) :
    RebuildHist.LookupSound tsOf n pts :=
  RebuildHist.lookupSound_of_indexSound hs

/-- … and suffices for the completeness of every window -/
theorem window_complete_of_lookup {tsOf : Nat → Int} {n : Nat} (h : Hull) (idx : Option (List Pt)) (r : TmRange)
    (hh : HullSound h tsOf n) (hi : ∀ pts, idx = some pts → RebuildHist.LookupSound tsOf n pts) (hn : n ≤ maxU32)
    (hmin : minI64 ≤ h.minTs) (p : Nat) (hp : p < n) (hr : inRange r (tsOf p)) : inWindow (window h idx r) p :=
  RebuildHist.window_complete_of_lookup h idx r hh hi hn hmin p hp hr

/-- **rebuild_sound**: the index `rebuildIndexInt` builds from the first `m` CONFIRMED records of a chunk holding `n`
monotone int64 records (segments of `sparseSpace` records, each recorded at its EXCLUSIVE end position with its maximum,
segment maximum starting at the regenerated `rebuildSegmentMaxInit` = MinInt64) is `LookupSound` over all `n` records.
It does not satisfy `IndexSound`'s closed-right claim (see the example in `Proofs/RebuildHist.lean`). -/
theorem rebuild_sound {tsOf : Nat → Int} {n m : Nat} (hmono : Monotone tsOf n) (hmn : m ≤ n)
    (hlow : ∀ q, q < n → minI64 ≤ tsOf q) (hhi : ∀ q, q < n → tsOf q ≤ RebuildHist.maxI64) :
    RebuildHist.LookupSound tsOf n
      (RebuildHist.rebuildPts Generated.C02.sparseSpace Generated.C02.rebuildSegmentMaxInit ((List.range m).map tsOf)) := by
  have f : Generated.C02.rebuildSegmentMaxInit = minI64 := by decide
  exact RebuildHist.rebuild_sound _ hmono hmn (by rw [f]; exact hlow) hhi

/-- **window_complete_with_rebuilds**: one chunk, any history of OnWrite notifications (hulls as the write loop reports
them, `RollHull`: exact, or with the call's over-wide minimum on the first notification of a chunk) AND index rebuilds of
any confirmed prefix, on monotone int64 data, with the constants of the code: every window is complete. -/
theorem window_complete_with_rebuilds {tsOf : Nat → Int} (ops : List RebuildHist.Op)
    (hm : Monotone tsOf (RebuildHist.totalOps ops)) (he : RebuildHist.OpsExact tsOf 0 ops)
    (hn : RebuildHist.totalOps ops ≤ maxU32) (hlow : ∀ q, q < RebuildHist.totalOps ops → minI64 ≤ tsOf q)
    (hhi : ∀ q, q < RebuildHist.totalOps ops → tsOf q ≤ RebuildHist.maxI64) (r : TmRange) (p : Nat)
    (hp : p < RebuildHist.totalOps ops) (hr : inRange r (tsOf p)) :
    ∃ h, (RebuildHist.runOps Generated.C02.sparseSpace (Generated.C02.sparseSpace * Generated.C02.bigGapFactor)
          Generated.C02.rebuildSegmentMaxInit tsOf ops).hull = some h ∧
      inWindow (window h (ChunkHist.idxOf (RebuildHist.runOps Generated.C02.sparseSpace
        (Generated.C02.sparseSpace * Generated.C02.bigGapFactor) Generated.C02.rebuildSegmentMaxInit tsOf ops)) r) p :=
  RebuildHist.window_complete_with_rebuilds_code ops hm he hn hlow hhi r p hp hr

/-- the index state of a chunk after its history of writes and rebuilds, as the selector sees it -/
def metaOfOps (tsOf : Nat → Int) (ops : List RebuildHist.Op) : PartScan.ChunkMeta :=
  let c := RebuildHist.runOps Generated.C02.sparseSpace (Generated.C02.sparseSpace * Generated.C02.bigGapFactor)
    Generated.C02.rebuildSegmentMaxInit tsOf ops
  { n := RebuildHist.totalOps ops, hull := c.hull.getD ⟨0, 0⟩, idx := ChunkHist.idxOf c }

/-- the chunks `k, k+1, …` of the partition: each written and rebuilt by a history over monotone int64 data -/
def MonotoneChunkOps (ts : Nat → Nat → Int) : List (List RebuildHist.Op) → Nat → Prop
  | [], _ => True
  | ops :: rest, k =>
    (Monotone (ts k) (RebuildHist.totalOps ops) ∧ RebuildHist.OpsExact (ts k) 0 ops ∧ RebuildHist.totalOps ops ≤ maxU32 ∧
      (∀ q, q < RebuildHist.totalOps ops → minI64 ≤ ts k q) ∧
      (∀ q, q < RebuildHist.totalOps ops → ts k q ≤ RebuildHist.maxI64)) ∧ MonotoneChunkOps ts rest (k + 1)

/-- the chunk metas of a partition whose chunk `k + i` has the history `opss[i]` -/
def metasOfOps (ts : Nat → Nat → Int) : List (List RebuildHist.Op) → Nat → List PartScan.ChunkMeta
  | [], _ => []
  | ops :: rest, k => metaOfOps (ts k) ops :: metasOfOps ts rest (k + 1)

theorem allComplete_of_monotoneChunkOps (ts : Nat → Nat → Int) : ∀ (opss : List (List RebuildHist.Op)) (k : Nat),
    MonotoneChunkOps ts opss k → PartScan.AllComplete ts (metasOfOps ts opss k) k := by
  intro opss
  induction opss with
  | nil => intro k _; trivial
  | cons ops rest ih =>
    intro k h
    obtain ⟨⟨hm, he, hn, hlow, hhi⟩, hrest⟩ := h
    refine ⟨?_, ih (k + 1) hrest⟩
    intro r p hp hr
    obtain ⟨h, hh, hw⟩ := window_complete_with_rebuilds ops hm he hn hlow hhi r p hp hr
    simp only [metaOfOps, hh, Option.getD_some]
    exact hw

/-- **range_eq_filter_partition_with_rebuilds**: whole partition, every chunk with any history of writes and rebuilds
over monotone int64 data: ranged read = filter of the unbounded read, for every range. -/
theorem range_eq_filter_partition_with_rebuilds (ts : Nat → Nat → Int) (opss : List (List RebuildHist.Op))
    (h : MonotoneChunkOps ts opss 0) (r : TmRange) :
    PartScan.rangedRead ts (metasOfOps ts opss 0) r =
      (PartScan.fullPositions (metasOfOps ts opss 0) 0).filter (fun kp => decide (inRange r (ts kp.1 kp.2))) :=
  range_eq_filter_partition ts _ r (allComplete_of_monotoneChunkOps ts opss 0 h)

/-! ## index entries older than their chunk (snapshot entries after a crash: fixes a2ca477 + 7ea0278) -/

/-- **stale_entry_relight_sound**: when `syncChunks` finds a chunk with `m` confirmed records but an index entry READ
FROM THE SNAPSHOT FILE that accounts for fewer (the snapshot was written before a crash; since fix 7ea0278 entries of a
running server are never dropped — regenerated fact `staleDropOnlyForSnapshotEntries`), it drops the entry and
`lightFill` re-derives it from the first and last confirmed record. On monotone int64 data the re-derived entry is sound for all `m` records, whatever the old entry was. -/
theorem stale_entry_relight_sound {tsOf : Nat → Int} {c : ChunkHist.ChunkIdx} (m : Nat) (hs : RebuildHist.SoundL tsOf c)
    (hm : Monotone tsOf m) (hlow : ∀ q, q < m → minI64 ≤ tsOf q) :
    RebuildHist.SoundL tsOf (RebuildHist.relight tsOf m c) :=
  RebuildHist.relight_sound m hs hm hlow

/-- **stale_snapshot_entry_window_complete**: after the re-derivation every range gets a complete window over all `m`
confirmed records: no readable in-range event is hidden behind a hull taken before the crash (C07's F06, seen from the
ranged read). It does NOT apply to finding #46: there the entry is live, not loaded, and is kept. -/
theorem stale_snapshot_entry_window_complete {tsOf : Nat → Int} {c : ChunkHist.ChunkIdx} (m : Nat)
    (hs : RebuildHist.SoundL tsOf c) (hstale : c.n < m) (hm : Monotone tsOf m) (hlow : ∀ q, q < m → minI64 ≤ tsOf q)
    (hn : m ≤ maxU32) (r : TmRange) (p : Nat) (hp : p < m) (hr : inRange r (tsOf p)) :
    ∃ h, (RebuildHist.relight tsOf m c).hull = some h ∧
      inWindow (window h (ChunkHist.idxOf (RebuildHist.relight tsOf m c)) r) p := by
  have hsl := RebuildHist.relight_sound m hs hm hlow
  have hnn : (RebuildHist.relight tsOf m c).n = m := by rw [RebuildHist.relight_n]; omega
  obtain ⟨h, hh, hsound, hmin⟩ := hsl.hull_pos (by omega)
  rw [hnn] at hsound
  refine ⟨h, hh, ?_⟩
  apply window_complete_of_lookup h _ r hsound ?_ hn hmin p hp hr
  intro pts hpts
  have hc : (RebuildHist.relight tsOf m c).corrupted = false := by
    unfold RebuildHist.relight; rw [if_neg (by omega)]
  unfold ChunkHist.idxOf at hpts
  rw [hc] at hpts
  simp only [Bool.false_eq_true, if_false, Option.some.injEq] at hpts
  rw [← hpts]
  have := hsl.lookup hc
  rw [hnn] at this
  exact this

/-- **late_notification_sound**: a notification for positions the tree-less entry already accounts for (`a ≤ n`: after a
re-derivation or after a rebuild that saw nothing) leaves a sound entry; every later write / rebuild then preserves soundness
(`RebuildHist.runOpsFrom_sound`). -/
theorem late_notification_sound {tsOf : Nat → Int} {c : ChunkHist.ChunkIdx} (bigGap a k : Nat) (mn mx : Int)
    (hs : RebuildHist.SoundL tsOf c) (hk : 0 < k) (ha : a ≤ c.n) (hm : Monotone tsOf (max c.n (a + k)))
    (he : RebuildHist.RollHull tsOf a k mn mx) :
    RebuildHist.SoundL tsOf (RebuildHist.lateNotify bigGap c a k mn mx) :=
  RebuildHist.lateNotify_sound bigGap a k mn mx hs hk ha hm he

/-- 10 records accounted for by the snapshot entry, 20 confirmed in the chunk: the entry is re-derived as hull [100, 119]
without a tree; a notification for positions 10…19 then starts a tree at position 10 -/
example : (RebuildHist.relight (fun q => 100 + q) 20
      (RebuildHist.runOps 250 5000 minI64 (fun q => 100 + q) [.write 10 100 109])).hull = some ⟨100, 119⟩ ∧
    (RebuildHist.lateNotify 5000 (RebuildHist.relight (fun q => 100 + q) 20
      (RebuildHist.runOps 250 5000 minI64 (fun q => 100 + q) [.write 10 100 109])) 10 10 110 119).pts = [⟨110, 10⟩, ⟨119, 19⟩] := by
  decide +kernel

/-! ## the repaired findings #46 and #53 as obligations on the regenerated facts -/

/-- **unknown_tail_window_open** (fix a7caf30, was finding #46): when the journal has confirmed more records of a chunk
than the time index has been told about (`count > Recs`), `updatePoss` leaves the WHOLE chunk open — whatever hull and
index say — so no readable record can be hidden behind a hull or an index that does not account for it yet, for any data
(monotone or not) and for held cursors as well (the cached status is a superset). -/
theorem unknown_tail_window_open (s : RangedIter.St) (cid : Nat) (st : Selector.ChkSt) (c : CIndex.Chk)
    (hc : CIndex.findChk s.cidx (cid / 10) = some c) (hu : st.count > c.recs) (p : Nat) (hp : p ≤ maxU32) :
    inWindow ((RangedIter.updatePoss s cid st).1.minPos, (RangedIter.updatePoss s cid st).1.maxPos) p := by
  have f : Generated.C02.updatePossOpensUnknownTail = true := by decide
  simp only [RangedIter.updatePoss, hc, f, Bool.true_and, decide_eq_true hu, if_true]
  exact ⟨Nat.zero_le _, hp⟩

/-- (fix d4bea54, was finding #53) `syncChunks` keeps a chunk that was created after the caller's chunk list was taken:
the reachable state "the newest chunk's entry forgotten, re-created from one batch" of the forget-race schedule no longer
exists (driver op `rw.forgetchunk` is the identity; regression schedule `runForgetRace`). -/
theorem syncChunks_keeps_newer_chunks : Generated.C02.syncChunksKeepsNewerChunks = true := by decide

/-- (fix 008ef8e) at the end of the last chunk the ranged iterator's position is where its chunk iterator stopped -/
theorem advanceChunk_keeps_iterator_position : Generated.C02.advanceChunkKeepsIteratorPos = true := by decide

/-! ## the repaired findings #85 and #86 -/

/-- the four notifications of `cex_reordered_notification` — A = 0…299, C = 600…899, then B = 300…599 LATE, then
D = 900…1199, ts = 1000 + position — through the chunk-index model `CIndex.onWrite` -/
def reorderRun : CIndex.St :=
  let w (s : CIndex.St) (a b : Nat) : CIndex.St := (CIndex.onWrite s a b 1 (1000 + a) (1000 + b)).1
  w (w (w (w {} 0 299) 600 899) 300 599) 900 1199

/-- **late_notification_is_skipped** (fix f6d29cf, was finding #85): obligations on the regenerated facts — `onWrite` never
lowers `Recs` and leaves the tree alone for a notification whose last record is not beyond the last indexed one — and the
former counterexample on the other branch: the late notification of B changes nothing (`Recs` stays 900, the tree's last
point stays C's (1899, 899)), after D the index is the one of the history "A, C, D with B skipped", and
`RANGE [1600:1610]` gets a window that contains 600…610. -/
theorem late_notification_is_skipped :
    Generated.C02.onWriteSkipsLateNotification = true ∧ Generated.C02.onWriteRecsNeverDecrease = true ∧
    CIndex.points reorderRun 1 = "1000:0,1299:299,1899:899,2199:1199" ∧
    (CIndex.findChk reorderRun 1).map (fun c => (c.recs, c.lastRec, c.minTs, c.maxTs)) = some (1200, 1199, 1000, 2199) ∧
    window ⟨1000, 2199⟩ (some [⟨1000, 0⟩, ⟨1299, 299⟩, ⟨1899, 899⟩, ⟨2199, 1199⟩]) ⟨1600, 1610⟩ = (299, 899) := by
  refine ⟨by decide +kernel, by decide +kernel, by decide +kernel, by decide +kernel, by decide +kernel⟩

/-- **late_notification_skip_sound** — why ignoring the late notification is right, for every monotone stream: the index
that was sound for the `a` records in front of a batch whose notification is still on the way (positions `a … it.p0.idx − 1`,
stored but not announced) and then receives the NEXT batch `it`, is sound for every stored record up to `it.p1.idx` — the
unannounced batch is covered like a batch the sparse index skipped. The repaired `onWrite` keeps exactly this index when the
late notification arrives, so `window_complete` applies to it. -/
theorem late_notification_skip_sound {tsOf : Nat → Int} {a : Nat} {pts : List Pt} (it : Iv) (hs : IndexSound tsOf a pts)
    (hab : a ≤ it.p0.idx) (hle : it.p0.idx ≤ it.p1.idx) (hm : Monotone tsOf (it.p1.idx + 1)) (hb : BatchIn it tsOf)
    (hlast : ∀ q, a ≤ q → q < it.p0.idx → (lastD pts).ts ≤ tsOf q) (he : pts = [] → it.p0.idx = 0) :
    IndexSound tsOf (it.p1.idx + 1) (add pts it) :=
  addInterval_preserves it (skip_preserves hs hab hlast) rfl hle rfl hb
    (gapCovered_of_monotone pts it hm hb hle (Nat.lt_succ_self _)) he

/-- a journal of one chunk with 5 records (ts = 100 + position) the index knows as "could not be read": hull [MaxInt64, 0],
`Recs = 0` (what a failed `lightFill` — or an empty chunk — leaves) -/
def unfilledSt : RangedIter.St :=
  { cks := #[⟨10, 5⟩], tss := #[#[100, 101, 102, 103, 104]],
    cidx := { chunks := [{ id := 1, minTs := CIndex.maxI64, maxTs := 0 }] } }

/-- **unfilled_entry_is_refilled** (fix 719d554, was finding #86): obligation on the regenerated fact, and the former
damage on the other branch: the next `syncChunks` gives the known-but-unfilled entry the hull of the chunk's first and last
record and `Recs = count` (the entry `stale_entry_relight_sound` is about: sound on monotone data); a write that follows
EXTENDS that hull instead of replacing it by the batch's own (fourth conjunct: what the write did to the unfilled entry).
An entry that accounts for records (`Recs > 0`) is untouched. -/
theorem unfilled_entry_is_refilled :
    Generated.C02.syncChunksRefillsUnfilledEntries = true ∧
    ((RangedIter.syncChunks unfilledSt).cidx.chunks.map (fun c => (c.id, c.minTs, c.maxTs, c.recs))) = [(1, 100, 104, 5)] ∧
    ((CIndex.onWrite (RangedIter.syncChunks unfilledSt).cidx 5 9 1 2000 2004).1.chunks.map
        (fun c => (c.minTs, c.maxTs, c.recs))) = [(100, 2004, 10)] ∧
    ((CIndex.onWrite unfilledSt.cidx 5 9 1 2000 2004).1.chunks.map
        (fun c => (c.minTs, c.maxTs, c.recs))) = [(2000, 2004, 10)] ∧
    ((RangedIter.syncChunks { unfilledSt with cidx := { chunks := [{ id := 1, minTs := -5, maxTs := -1, recs := 5 }] } }).cidx.chunks.map
        (fun c => (c.minTs, c.maxTs, c.recs))) = [(-5, -1, 5)] := by
  refine ⟨by decide +kernel, by decide +kernel, by decide +kernel, by decide +kernel, by decide +kernel⟩

/-! ## the headline: every monotone history of Write calls, whole partition -/

/-- **range_eq_filter_calls** — C02 on monotone data, end to end at the Points level. For EVERY history of
`Service.Write` calls on an empty partition — any batch sizes, any split of a call over chunks (roll-over: one
notification per chunk with the hull `iwrapper` accumulated over the call so far; the over-wide minimum of later chunks
included), any sparsity constants — whose records are monotone non-decreasing int64 timestamps in stored order:
the ranged read over the whole partition (per-chunk windows from hull and index, selector/iterator stepping chunk by
chunk, `fitInRange` re-check) equals the filter of the unbounded read, for every range `r`. -/
theorem range_eq_filter_calls (sparse bigGap : Nat) (calls : List (List PartHist.Piece))
    (hok : PartHist.CallsOK sparse bigGap [] calls) (hsorted : (PartHist.allTs calls).Pairwise (· ≤ ·))
    (hlow : ∀ t ∈ PartHist.allTs calls, minI64 ≤ t)
    (hsize : ∀ c ∈ PartHist.runCalls sparse bigGap calls, c.tss.length ≤ maxU32) (r : TmRange) :
    PartScan.rangedRead (PartHist.partTs (PartHist.runCalls sparse bigGap calls))
        ((PartHist.runCalls sparse bigGap calls).map PartHist.metaOf) r =
      (PartScan.fullPositions ((PartHist.runCalls sparse bigGap calls).map PartHist.metaOf) 0).filter
        (fun kp => decide (inRange r (PartHist.partTs (PartHist.runCalls sparse bigGap calls) kp.1 kp.2))) :=
  PartHist.range_eq_filter_calls sparse bigGap calls hok hsorted hlow hsize r

/-- nothing is lost or reordered by the write side: the chunks hold the history's records in order -/
theorem calls_stored_in_order (sparse bigGap : Nat) (calls : List (List PartHist.Piece))
    (hok : PartHist.CallsOK sparse bigGap [] calls) (hsorted : (PartHist.allTs calls).Pairwise (· ≤ ·))
    (hlow : ∀ t ∈ PartHist.allTs calls, minI64 ≤ t) :
    ((PartHist.runCalls sparse bigGap calls).map (·.tss)).flatten = PartHist.allTs calls :=
  PartHist.allTs_eq sparse bigGap calls hok hsorted hlow

/-! ## the block tree answers like the flat point list -/

/-- **tree_eq_points_level0**: one level-0 block. `block.addInterval` (all three cases) is `Points.add` on the block's
records — or `errFullBlock`, exactly when the block holds `maxRecs` records and the append case applies — and
`grEq`/`less` are `Points.grEqPos`/`Points.lessPos` (incl. the `errAllMatches` answers). -/
theorem tree_eq_points_level0 (maxRecs d : Nat) (recs : List Pt) (it : Iv) (hlen : recs.length ≠ 1) :
    (ITree.blockAdd maxRecs (d+1) (.leaf recs) it =
      if recs.length = maxRecs ∧ Points.cntLE recs it.p0.ts = recs.length then (.leaf recs, Points.lastD recs, some .full)
      else (.leaf (Points.add recs it), Points.lastD (Points.add recs it), none)) ∧
    (∀ t, (recs ≠ [] → (ITree.grEq (.leaf recs) t = none ↔ Points.cntLE recs t = 0)) ∧
          (∀ r, ITree.grEq (.leaf recs) t = some r → r.idx = Points.grEqPos recs t) ∧
          (ITree.less (.leaf recs) t).map (·.idx) = Points.lessPos recs t ∧
          (ITree.less (.leaf recs) t = none ↔ Points.cntLE recs t = recs.length)) :=
  ITree.tree_eq_points_level0 maxRecs d recs it hlen

/-- **tree_append_refines**: at ANY depth, for a well-formed tree and an interval that starts at or above every indexed
timestamp (what monotone streams produce, `append_case_of_monotone`), `ckindex.addInterval` never fails, keeps the tree
well-formed and extends its level-0 point list exactly like `Points.add` (new leaves start with the last record of the
full leaf: one new point). `maxRecs` is the code's records-per-block (41, regenerated). -/
theorem tree_append_refines (t : ITree.T) (it : Iv) (hwf : ITree.WF ITree.maxRecs t) (hao : ITree.AppendOnly t it)
    (h01 : it.p0.ts ≤ it.p1.ts) :
    ∃ t', ITree.add ITree.maxRecs t it = some t' ∧ ITree.WF ITree.maxRecs t' ∧
      ITree.points t' = Points.add (ITree.points t) it :=
  ITree.tree_append_refines_add ITree.maxRecs (by decide) t it hwf hao h01

/-- whole append-only streams from the empty tree: the tree's points are the flat fold -/
theorem tree_append_stream (its : List Iv) (hs : ITree.Stream [] its) :
    ∃ t', ITree.addAll ITree.maxRecs (.leaf []) its = some t' ∧ ITree.WF ITree.maxRecs t' ∧
      ITree.points t' = its.foldl Points.add [] := by
  have e : ITree.points (.leaf []) = [] := by decide
  have := ITree.tree_append_stream ITree.maxRecs (by decide) its (.leaf []) (Or.inl rfl) (by rw [e]; exact hs)
  rw [e] at this
  exact this

/-- **tree_lookup_eq_points**: on a well-formed tree of any depth `grEq`/`less` descend to exactly the answers of the
flat list (the LAST point with `ts ≤ t` / the FIRST with `ts > t`), equal timestamps across leaf boundaries included. -/
theorem tree_lookup_eq_points (t : ITree.T) (ts : Int) (hwf : ITree.WF ITree.maxRecs t) :
    (t ≠ .leaf [] → (ITree.grEq t ts = none ↔ Points.cntLE (ITree.points t) ts = 0)) ∧
    (∀ r, ITree.grEq t ts = some r → r.idx = Points.grEqPos (ITree.points t) ts) ∧
    (ITree.less t ts).map (·.idx) = Points.lessPos (ITree.points t) ts ∧
    (ITree.less t ts = none ↔ Points.cntLE (ITree.points t) ts = (ITree.points t).length) :=
  ITree.tree_lookup_eq_points ITree.maxRecs t ts hwf

/-! ## counterexample for the open finding #4 -/

/-- #4 — a batch the sparse index skipped lies below the indexed interval: points (100,0),(200,299) for records 0…299,
records 300…309 carry 50…59; `RANGE [55:55]` gets the window [0, 0] and position 305 (ts 55) is hidden.
`GapCovered`'s counterpart for skipped writes (`skip_preserves`' hypothesis) fails here. -/
def cexSkipPts : List Pt := [⟨100, 0⟩, ⟨200, 299⟩]
def cexSkipTs (q : Nat) : Int := if q < 100 then 100 + q else if q < 300 then 200 else 50 + (q - 300)
theorem cex_skipped_batch_below :
    cexSkipTs 305 = 55 ∧ window ⟨50, 200⟩ (some cexSkipPts) ⟨55, 55⟩ = (0, 0) ∧
    ¬ inWindow (window ⟨50, 200⟩ (some cexSkipPts) ⟨55, 55⟩) 305 ∧ ¬ ((lastD cexSkipPts).ts ≤ cexSkipTs 305) := by
  decide +kernel

/-- Finding #85 (fixed by f6d29cf — `late_notification_is_skipped`; this is what `add` makes of a late interval, which the
repaired `onWrite` no longer hands to it): MONOTONE data, but the index notifications of two batches arrive in the other order
than the batches were stored (concurrent writers; `Service.Write` notifies after the chunk's write lock is gone). Batch A =
records 0…299 (ts 1000 + q), batch B = 300…599, batch C = 600…899, D = 900…1199 — all with ts = 1000 + q. Notifications
arrive A, C, B, D: B's interval is merged behind C's point and the last point becomes (C's maximum, B's LAST RECORD);
`RANGE [1600:1610]` (records 600…610 of batch C) then gets a window that ends at position 599. With the notifications in
stored order the same range gets a window that contains 600…610 (`window_complete` applies: the index is sound). -/
def cexReorderTs (q : Nat) : Int := 1000 + q
def cexReorderIv (a b : Nat) : Iv := ⟨⟨cexReorderTs a, a⟩, ⟨cexReorderTs b, b⟩⟩
def cexReorderLate : List Pt :=
  add (add (add (add [] (cexReorderIv 0 299)) (cexReorderIv 600 899)) (cexReorderIv 300 599)) (cexReorderIv 900 1199)
def cexReorderInOrder : List Pt :=
  add (add (add (add [] (cexReorderIv 0 299)) (cexReorderIv 300 599)) (cexReorderIv 600 899)) (cexReorderIv 900 1199)
theorem cex_reordered_notification :
    add (add (add [] (cexReorderIv 0 299)) (cexReorderIv 600 899)) (cexReorderIv 300 599) = [⟨1000, 0⟩, ⟨1299, 299⟩, ⟨1899, 599⟩] ∧
    cexReorderLate = [⟨1000, 0⟩, ⟨1299, 299⟩, ⟨1899, 599⟩, ⟨2199, 1199⟩] ∧
    window ⟨1000, 2199⟩ (some cexReorderLate) ⟨1600, 1610⟩ = (299, 599) ∧
    (∀ q, 600 ≤ q → q ≤ 610 → ¬ inWindow (window ⟨1000, 2199⟩ (some cexReorderLate) ⟨1600, 1610⟩) q) ∧
    inWindow (window ⟨1000, 2199⟩ (some cexReorderInOrder) ⟨1600, 1610⟩) 600 ∧
    inWindow (window ⟨1000, 2199⟩ (some cexReorderInOrder) ⟨1600, 1610⟩) 610 := by
  have hw : window ⟨1000, 2199⟩ (some cexReorderLate) ⟨1600, 1610⟩ = (299, 599) := by decide +kernel
  refine ⟨by decide +kernel, by decide +kernel, hw, ?_, by decide +kernel, by decide +kernel⟩
  intro q h1 _ h
  rw [hw] at h
  have := h.2
  simp only at this
  omega

/-! ## full statements that are only partly proved -/

/-- Top level, full strength: for EVERY history of writes and rebuilds the ranged read of a partition equals the
filtered full read. False as it stands (findings #4, #24, #46); proved per chunk under `HullSound`/`IndexSound`
(`range_eq_filter_chunk`), and end to end for monotone histories at the Points level (`range_eq_filter_monotone`). What
remains tested only (IMPL = MODEL = SPEC on every monotone history): that the block tree answers like the flat point list,
the chunk roll-over of the write loop (one `OnWrite` per chunk with the exact hull of the call so far), index rebuilds,
and the stepping of `JIterator`/`chkSelector` inside the windows. -/
def range_eq_filter_full : Prop :=
  ∀ (maxChunk : Nat) (batches : List (List Int)) (lo hi : Option Int),
    let (wj, cidx) := batches.foldl (fun (acc : WriteLoop.J × CIndex.St) b =>
        let (j, c, _, _) := RangedIter.write acc.1 acc.2 (b.map (fun t => (⟨t, 16⟩ : WriteLoop.Rec)))
        (j, c)) (({ maxSize := maxChunk } : WriteLoop.J), ({} : CIndex.St))
    let all := batches.flatten
    let (mn, mx) := RangedIter.rangeOf lo hi
    let tss := (wj.chunks.foldl (fun (acc : Array (Array Int) × Nat) c => (acc.1.push ((all.toArray).extract acc.2 (acc.2 + c.cnt)), acc.2 + c.cnt)) (#[], 0)).1
    let st : RangedIter.St := { cks := (wj.chunks.map (fun c => (⟨c.id * 10, c.cnt⟩ : Selector.JChunk))).toArray, cidx := cidx, tss := tss, rmin := mn, rmax := mx }
    ((RangedIter.scan st 0 (all.length + 2)).2.toList.map (RangedIter.tsAt st)) =
      all.filter (fun t => (match lo with | some l => decide (l ≤ t) | none => true) && (match hi with | some h => decide (t ≤ h) | none => true))

end Logrange.Props.C02

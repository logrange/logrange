import Logrange.Props.C15
import Logrange.Proofs.ProviderRing
import Logrange.Proofs.ProviderSweep
import Logrange.Proofs.ProviderTouch
/-!
# C15, second part — the rings at pointer level, and the sweeper in bounded form

Every theorem of this namespace is an obligation of `./check C15`.

**Pointer level.** `Model/RingPtr.lean` is `container.CLElement` as it is in `pkg/container/clist.go`: two pointer fields per
cell in a heap, `Append` / `TearOff` / `Len` / `Prev` / `Next` statement by statement (the writes alias when cells
coincide, e.g. singleton rings; `Next()` returns `prev`). `ring_primitives_refine`: each primitive refines the list-level
ring of `Model/Ring.lean` (the one the provider proof uses) — for all rings. `ring_ops_refine`: for ALL sequences of the
ring manipulations provider.go performs, each under its side condition, the pointer-level run is simulated by the
list-level run. `ring_pointer_level`: every reachable state of the provider model (any well-formed trace) has a
pointer-level twin — the side conditions always hold in the provider — in which `Prev()`/`Next()`/`Len()` agree.

**Sweeper.** `sweepByTime` steps over the element before a removed one (`Next()` returns `prev`), passes live busy holders,
stops at a live idle holder, and its counter lets it go round the ring again: one sweep does NOT close every expired
idle cursor. What holds: `sweep_exact` (what one sweep removes and closes, exactly), `sweep_closes_oldest` (the holder
touched longest ago, if expired and idle, is always closed by the next sweep), `sweep_halves` (a sweep at least halves the
number of expired holders in a ring ordered by last touch), `sorted_reachable` (the ring IS ordered by last touch in every
reachable state whose clock does not run backwards), `sweeper_bound` (with the regenerated `maxCurs` fewer than `2^16` holders
exist after `sweepBySize`, so 16 sweeps leave no expired holder and every expired idle cursor is closed).
`provider.Shutdown` closes nothing (regenerated fact `shutdownClosesCursors = false`; the process exits): not a theorem.
-/
namespace Logrange.Props.C15Live
open Logrange.Provider Logrange.Ring Logrange.RingPtr Logrange.Props.C15

/-! ## the rings at pointer level -/

/-- **Each primitive of `clist.go` refines the list-level ring**, for all rings (also empty and singleton ones):
`NewCLElement`, `Append` of two disjoint rings, `TearOff` of a member (the removed cell is a singleton ring again),
`Prev()`, `Next()` (= prev), `Len()`. -/
theorem ring_primitives_refine (h : Heap) :
    (∀ e, Repr (newElem h e) [e]) ∧
    (∀ r1 r2, Repr h r1 → Repr h r2 → (∀ x, x ∈ r1 → x ∉ r2) →
      (RingPtr.append h (ptr r1) (ptr r2)).2 = ptr (Ring.append r1 r2) ∧
      Repr (RingPtr.append h (ptr r1) (ptr r2)).1 (Ring.append r1 r2)) ∧
    (∀ r e, Repr h r → e ∈ r →
      (RingPtr.tearOff h (ptr r) (some e)).2 = ptr (Ring.tearOff r (some e)) ∧
      Repr (RingPtr.tearOff h (ptr r) (some e)).1 (Ring.tearOff r (some e)) ∧
      Repr (RingPtr.tearOff h (ptr r) (some e)).1 [e]) ∧
    (∀ r e, Repr h r → e ∈ r → prevM h e = Ring.prev r e ∧ nextM h e = Ring.next r e) ∧
    (∀ r fuel, Repr h r → r.length ≤ fuel → RingPtr.len h (ptr r) fuel = Ring.len r) :=
  ⟨fun e => repr_new h e, fun r1 r2 h1 h2 hd => append_refines h r1 r2 h1 h2 hd,
   fun r e h1 he => tearOff_refines h r e h1 he,
   fun r e h1 he => ⟨prev_refines h r e h1 he, next_refines h r e h1 he⟩,
   fun r fuel h1 hf => len_refines h r fuel h1 hf⟩

/-- **For all operation sequences**: from any simulated pair of states, every sequence of the provider's ring
manipulations (`toHead`, `insertNew`, `insertFree`, `evict`) whose side conditions hold along the list-level run keeps the
pointer-level state simulated: one heap holds both rings, disjoint, both pointer chains of each describe the same cycle,
`p.busy`/`p.free` point at the heads. -/
theorem ring_ops_refine (ops : List Op) (p : PSt) (l : LSt) (hs : Sim p l) (ok : OkRun l ops) :
    Sim (prun p ops) (lrun l ops) := sim_run ops hs ok

/-- **Every reachable provider state has a pointer-level twin**: the side conditions hold at every ring manipulation
the provider performs (the element moved to the head is in the busy ring, a new element is in neither ring, the evicted
element is in the busy ring, the free ring is not empty when an element is taken from it) — so executing the real pointer
manipulations yields a heap that represents the model's two rings, and `Prev()`, `Next()`, `Len()` read from the heap
are what the list-level model says. -/
theorem ring_pointer_level {s : St} (h : Reachable s) :
    ∃ ops, OkRun LSt.init ops ∧ Sim (prun PSt.init ops) ⟨s.ring, s.free⟩ ∧
      (∀ e, e ∈ s.ring → prevM (prun PSt.init ops).heap e = Ring.prev s.ring e ∧
                          nextM (prun PSt.init ops).heap e = Ring.next s.ring e) ∧
      (∀ fuel, s.ring.length ≤ fuel → RingPtr.len (prun PSt.init ops).heap (prun PSt.init ops).busy fuel = Ring.len s.ring) := by
  obtain ⟨m, i, b, tr, wf, rfl⟩ := h
  rw [code_shape.1, code_shape.2]
  obtain ⟨ops, ok, sim⟩ := pointer_twin m i b tr wf
  exact ⟨ops, ok, sim, (sim_prev sim).1, fun fuel hf => (sim_len sim fuel).1 hf⟩

/-- non-vacuity: three cursors cached, the first touched again, the second evicted into the free pool and re-used -/
example : OkRun LSt.init [.insertNew 1, .insertNew 2, .insertNew 3, .toHead 1, .evict 2 true, .insertFree] ∧
    lrun LSt.init [.insertNew 1, .insertNew 2, .insertNew 3, .toHead 1, .evict 2 true, .insertFree] = ⟨[2, 1, 3], []⟩ := by
  decide +kernel

/-! ## the sweeper, bounded form -/

/-- **What one `sweepByTime` does, exactly**: the ring afterwards is the old ring (order kept) without `removed s` — the
removals of the cyclic walk `cwalk` evaluated on the holders as they were; every removed holder was expired; the cursor of a
removed idle holder has given its partitions back; cursors not cached by a removed holder and holders not removed are
untouched. -/
theorem sweep_exact {s : St} (h : Reachable s) :
    (sweepByTime s).ring = s.ring.filter (fun y => decide (y ∉ removed s)) ∧
    (∀ e ∈ removed s, e ∈ s.ring ∧ (s.holders e).exp < s.now) ∧
    (∀ e ∈ removed s, (s.holders e).busy = false → ∀ c, (s.holders e).cur = some c →
        ((sweepByTime s).cursors c).closed = 1 ∧ ((sweepByTime s).cursors c).acquired = 1) ∧
    (∀ c, (∀ e ∈ removed s, (s.holders e).cur ≠ some c) → (sweepByTime s).cursors c = s.cursors c) ∧
    (∀ e, e ∉ removed s → (sweepByTime s).holders e = s.holders e) :=
  sweepByTime_removes (reachable_K h)

/-- **The oldest cursor is always reached**: the tail of the busy ring (the holder touched longest ago), if expired and
idle, is unlinked by the next sweep and its cursor's partitions are given back. -/
theorem sweep_closes_oldest {s : St} (h : Reachable s) {e c : Nat} (hl : s.ring.getLast? = some e)
    (hexp : (s.holders e).exp < s.now) (hidle : (s.holders e).busy = false) (hc : (s.holders e).cur = some c) :
    e ∉ (sweepByTime s).ring ∧ ((sweepByTime s).cursors c).closed = 1 ∧ ((sweepByTime s).cursors c).acquired = 1 :=
  Logrange.Provider.sweep_closes_oldest (reachable_K h) hl hexp hidle hc

/-- **A sweep at least halves the expired holders** of a ring that is ordered by last touch (`Sorted`: nothing expired
lies beyond a live idle holder in examination order). -/
theorem sweep_halves {s : St} (h : Reachable s) (hs : Sorted s) :
    ((sweepByTime s).ring.filter (expd s)).length ≤ (s.ring.filter (expd s)).length / 2 :=
  Logrange.Provider.sweep_halves (reachable_K h) hs

/-- the ring order follows from the touch order when `idleTo ≤ busyTo` (the regenerated constants: `knobs_sane`) -/
theorem sorted_of_touch_order {s : St} (hto : s.idleTo ≤ s.busyTo)
    (hord : s.ring.Pairwise (fun x y => touch s y ≤ touch s x)) : Sorted s :=
  Sorted_of_touch_order hto hord

/-- reachable states of the code as it is, with a clock that does not run backwards (`.age d` with `0 ≤ d`) and
`idleTo ≤ busyTo` (true of `NewProvider`'s constants: `knobs_sane`) -/
def ReachableClock (s : St) : Prop :=
  ∃ (maxCurs : Nat) (idleTo busyTo : Int) (tr : List Label), idleTo ≤ busyTo ∧ WF (init maxCurs idleTo busyTo) tr ∧
    ClockOK tr ∧
    s = run Logrange.Generated.C15.insertChecksExisting Logrange.Generated.C15.releaseLooksUpById
          (init maxCurs idleTo busyTo) tr

theorem ReachableClock.reachable {s : St} (h : ReachableClock s) : Reachable s := by
  obtain ⟨m, i, b, tr, _, wf, _, e⟩ := h; exact ⟨m, i, b, tr, wf, e⟩

/-- **The busy ring is ordered by last touch in every reachable state** (every get/release moves its holder to the head
and stamps it `now + busyTo` / `now + idleTo`; sweeps only unlink; the clock does not run backwards) — so nothing expired
lies beyond a live idle holder, and the early `return` of `sweepByTime` never leaves an expired holder unexamined behind it. -/
theorem sorted_reachable {s : St} (h : ReachableClock s) : Sorted s := by
  obtain ⟨m, i, b, tr, hib, wf, hc, rfl⟩ := h
  rw [code_shape.1, code_shape.2]
  exact Sorted_reachable m i b hib tr wf hc

/-- **The sweeper's bound with the regenerated constants**: after `sweepBySize` at most `maxCurs` (= 50 000 < 2^16)
holders exist; then 16 sweeps leave no expired holder in the ring, and the cursor of every expired idle holder has given
its partitions back — in every reachable state, no ordering hypothesis. (The sweeper runs every `idleTo / 5`; sweeps are
iterated here at one instant — holders that expire later are the business of later sweeps; that the sweeper goroutine is
scheduled at all is not a statement about this model.) -/
theorem sweeper_bound {s : St} (h : ReachableClock s) (hsz : s.ring.length ≤ Logrange.Generated.C15.maxCurs) :
    (sweepN 16 s).ring.filter (expd s) = [] ∧
    ∀ e ∈ s.ring, (s.holders e).exp < s.now → e ∉ (sweepN 16 s).ring ∧
      ((s.holders e).busy = false → ∀ c, (s.holders e).cur = some c →
        ((sweepN 16 s).cursors c).closed = ((sweepN 16 s).cursors c).acquired) := by
  have hs := sorted_reachable h
  have hr := h.reachable
  have hlt : (s.ring.filter (expd s)).length < 2 ^ 16 := by
    have h1 := List.length_filter_le (expd s) s.ring
    have h2 : Logrange.Generated.C15.maxCurs < 2 ^ 16 := by decide
    omega
  exact ⟨sweeps_finish 16 s (reachable_K hr) hs hlt, sweeps_close 16 s (reachable_K hr) hs hlt⟩

/-- one sweep at least halves the expired holders, in every reachable state -/
theorem sweep_halves_reachable {s : St} (h : ReachableClock s) :
    ((sweepByTime s).ring.filter (expd s)).length ≤ (s.ring.filter (expd s)).length / 2 :=
  Logrange.Provider.sweep_halves (reachable_K h.reachable) (sorted_reachable h)

/-- non-vacuity: a well-formed trace with a forward clock (two cursors used at 0, one at 50, now = 70) -/
example : ReachableClock (run true false (init 50000 60 300)
    [.get 0 7 0 true .ok true 1 11, .release 1 2, .get 0 7 0 true .ok true 2 12, .release 2 2, .age 50,
     .get 0 7 0 true .ok true 3 13, .release 3 2, .age 20]) := by
  refine ⟨50000, 60, 300, _, by decide, ?_, ?_, by rw [code_shape.1, code_shape.2]⟩
  · simp only [WF, wfLabel]; decide +kernel
  · intro l hl; simp only [List.mem_cons, List.not_mem_nil, or_false] at hl
    rcases hl with rfl | rfl | rfl | rfl | rfl | rfl | rfl | rfl <;> simp [clockOKL]

/-- non-vacuity (`exA`: two cursors used at t = 0, one at t = 50, now = 70): the oldest is closed, the second oldest is
expired but stepped over, the sweep stops at the live idle head; a second sweep closes the one stepped over.
(`exB`: three expired idle holders — the counter lets the loop go round again and all three are removed.) -/
example : exA.ring = [2, 1, 0] ∧ removed exA = [0] ∧ (sweepByTime exA).ring = [2, 1] ∧ (sweepN 2 exA).ring = [2] := by
  decide +kernel
example : removed exB = [0, 2, 1] ∨ (sweepByTime exB).ring = [] := by
  right; decide +kernel

end Logrange.Props.C15Live

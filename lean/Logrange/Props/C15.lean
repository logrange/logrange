import Logrange.Proofs.Provider
import Logrange.Generated.C15
/-!
# C15 — server-side query cursors: one user at a time, resources released exactly once

Property theorems about the model of pkg/cursor/provider.go (`Model/Provider.lean`, ring: `Model/Ring.lean`).
Every theorem of this namespace is an obligation of `./check C15`.

Proved here
* `busy_refused`            — a request naming a cursor that is in use is refused and changes nothing;
* `closed_at_most_once`     — along **every** trace (any interleaving of the split steps of any number of requests,
                              any clock advances, any knobs, either shape of `insert`/`Release`) no cursor's
                              partitions are released more often than acquired, and at most once;
* `closed_exactly_once_at_end`, `ring_inv`, `release_never_panics` — for the code as it is now (F16 and F28 repaired),
  every well-formed trace of the split steps, no hypothesis on ids;
* `repaired_f28`, `repaired_f16`: the former findings' witness traces end clean for the regenerated code shape;
  `regression_shape_f28`, `regression_shape_f16`: what the old shape did (documents a revert);
* `unknown_id_continues`    — an unknown/expired id falls through with the same id and the supplied position;
* `release_uncached_closes`, `evict_idle_closes`, `evict_busy_keeps_open` — the single life-cycle steps;
* `lock_discipline`, `knobs_sane` — regenerated facts.

* `never_panics`, `sweeps_never_nil`, `map_size_eq_ring_length`, `close_called_exactly_once` — same reachable states;
* `get_refines_split`, `get_parts_well_formed` — the composite `GetOrCreate` step is the run of its split parts, so
  well-formed traces may mix composite gets with split steps.

Nothing of the safety part of the property is left unproved in the model; not stated here: liveness (that the sweeper
runs and an idle cursor is therefore eventually closed) and `provider.Shutdown` (closes nothing; see design note).
-/
namespace Logrange.Props.C15
open Logrange.Provider Logrange.Ring

/-! ## one user at a time -/

/-- `GetOrCreate`'s first locked section: the map knows the id and the holder is busy ⇒ the request is refused
    and the state is untouched (the cursor is never handed to a second request). -/
theorem busy_refused (s : St) (id e query pos : Nat) (posOk : Bool)
    (hid : id > 0) (hm : s.curs.get id = some e) (hb : (s.holders e).busy = true) :
    lookup s id query pos posOk = (s, .refused, id) := by
  simp [lookup, hid, hm, hb]

/-- …and so is the whole `GetOrCreate`, whatever the other arguments -/
theorem busy_refused_getOrCreate (chk : Bool) (s : St) (id e query pos : Nat) (posOk : Bool) (k : CreateKind)
    (cache : Bool) (c n : Nat) (hid : id > 0) (hm : s.curs.get id = some e) (hb : (s.holders e).busy = true) :
    getOrCreate chk s id query pos posOk k cache c n = (s, .refused) := by
  simp [getOrCreate, busy_refused s id e query pos posOk hid hm hb]

/-- a freshly cached cursor: the next request for its id is refused -/
def sBusy : St := (getOrCreate false (init 3 60 300) 0 0 0 false .ok true 1 7).1
example : sBusy.curs.get 7 = some 0 ∧ (sBusy.holders 0).busy = true ∧
    (getOrCreate false sBusy 7 0 0 true .ok true 2 0).2 = .refused := by decide +kernel

/-! ## released at most once — every trace -/

/-- For all traces of model steps from the empty provider — arbitrary interleavings of `lookup`/`create`/`insert`
    of any number of requests, releases, clock advances, sweeps; any `maxCurs`, timeouts; both shapes of the code —
    every cursor object's partitions are released at most as often as acquired, hence at most once.
    (`closed` mirrors the real `close()`: it releases what `jDescs` holds and forgets it.) -/
theorem closed_at_most_once (chk byId : Bool) (maxCurs : Nat) (idleTo busyTo : Int) (tr : List Label) (c : Nat) :
    let s := run chk byId (init maxCurs idleTo busyTo) tr
    (s.cursors c).closed ≤ (s.cursors c).acquired ∧ (s.cursors c).closed ≤ 1 := by
  have h := curOK_run chk byId tr (curOK_init maxCurs idleTo busyTo) c
  exact ⟨h.1, Nat.le_trans h.1 h.2⟩

/-- non-vacuity: a trace on which a cursor is acquired and closed (idle expiry) -/
def idleExpiryTrace : List Label := [.get 0 0 0 false .ok true 1 7, .release 1 2, .age 61, .sweepT]
example : ((run false true (init 3 60 300) idleExpiryTrace).cursors 1).acquired = 1 ∧
    ((run false true (init 3 60 300) idleExpiryTrace).cursors 1).closed = 1 ∧
    (run false true (init 3 60 300) idleExpiryTrace).ring = [] := by decide +kernel

/-! ## finding F28 — `Release` finds the holder by id, not by cursor (sequential) -/

/-- request 1 gets cursor A (number 1) cached under id 7; it stays busy longer than `busyTo`; the sweeper drops it
    (unclosed, still held); request 2 names id 7, misses and gets cursor B (number 2) cached under id 7;
    request 1 releases A; request 2 releases B. -/
def f28Trace (byId : Bool) : St × RelRes :=
  let s := init 100 60 300
  let s := (getOrCreate false s 0 0 0 false .ok true 1 7).1
  let s := sweepByTime (age s 301)
  let s := (getOrCreate false s 7 0 0 false .ok true 2 0).1
  let s := (release byId s 1).1
  release byId s 2

/-- REGRESSION SHAPE (what a revert of the repair would do): with `Release` looking the holder up by id only,
    `Release(B)` panics and A is never closed although it is neither held nor cached. -/
theorem regression_shape_f28 :
    let r := f28Trace true
    r.2 = .panic ∧ r.1.panicked = true ∧
    (r.1.cursors 1).acquired = 1 ∧ (r.1.cursors 1).closed = 0 ∧ (r.1.cursors 1).held = false ∧
    r.1.ring.all (fun e => (r.1.holders e).cur != some 1) = true := by decide +kernel

/-- the same witness without any expiry: an un-cached cursor A under a client-supplied id 9 is still held when a
    caching request names id 9 and gets B. -/
def f28bTrace (byId : Bool) : St × RelRes :=
  let s := init 100 60 300
  let s := (getOrCreate false s 9 0 0 false .ok false 1 0).1
  let s := (getOrCreate false s 9 0 0 false .ok true 2 0).1
  let s := (release byId s 1).1
  release byId s 2

/-- for the code as it is (`releaseLooksUpById` regenerated): both F28 witness traces end clean — no panic, A closed
    exactly once, B idle in the cache and open -/
theorem repaired_f28 :
    let r := f28Trace Logrange.Generated.C15.releaseLooksUpById
    let r' := f28bTrace Logrange.Generated.C15.releaseLooksUpById
    r.2 = .idle ∧ r.1.panicked = false ∧ (r.1.cursors 1).closed = 1 ∧ (r.1.cursors 1).closeCalls = 1 ∧
    (r.1.cursors 2).closed = 0 ∧
    r'.2 = .idle ∧ r'.1.panicked = false ∧ (r'.1.cursors 1).closed = 1 ∧ (r'.1.cursors 2).closed = 0 := by decide +kernel

/-! ## finding F16 — two in-flight requests with the same uncached id -/

/-- lookup₁ miss, lookup₂ miss, create₁, create₂, insert₁, insert₂, release₁, release₂ (id 9, cursors 1 and 2) -/
def f16Trace (chk : Bool) : (LookupRes × LookupRes) × St × List RelRes :=
  let s := init 100 60 300
  let (s, l1, id1) := lookup s 9 0 0 false
  let (s, l2, id2) := lookup s 9 0 0 false
  let s := (create s id1 0 0 .ok 1 0).1
  let s := (create s id2 0 0 .ok 2 0).1
  let s := (insert chk s 1).1
  let (s, i2) := insert chk s 2
  let (s, r1) := release true s 1
  -- (with the repair the second request was refused and has nothing to release)
  let (s, r2) := if i2 = .cached then release true s 2 else (s, .closed)
  ((l1, l2), s, [r1, r2])

/-- REGRESSION SHAPE (what a revert of the repair would do): with a blind second locked section the second insert
    overwrites the first one's map entry; `Release` of cursor 2 panics; cursor 1 is never closed. -/
theorem regression_shape_f16 :
    let r := f16Trace false
    r.1 = (.miss, .miss) ∧ r.2.2 = [.idle, .panic] ∧ r.2.1.ring.length = 2 ∧ r.2.1.curs.size = 1 ∧
    (let s := sweepByTime (age r.2.1 301)
     (s.cursors 1).closed = 0 ∧ (s.cursors 1).held = false ∧
     s.ring.all (fun e => (s.holders e).cur != some 1) = true) := by decide +kernel

/-- for the code as it is (`insertChecksExisting` regenerated): the F16 witness schedule ends clean — the loser is
    refused late and its cursor closed exactly once, the winner is cached, nothing panics -/
theorem repaired_f16 :
    let r := f16Trace Logrange.Generated.C15.insertChecksExisting
    r.1 = (.miss, .miss) ∧ r.2.2 = [.idle, .closed] ∧ r.2.1.panicked = false ∧
    (r.2.1.cursors 2).closed = 1 ∧ (r.2.1.cursors 2).closeCalls = 1 ∧ (r.2.1.cursors 1).closed = 0 ∧
    r.2.1.ring.length = 1 ∧ r.2.1.curs.size = 1 := by decide +kernel

/-! ## unknown or expired id: transparently continued -/

/-- An id the map does not know (never cached, expired or evicted) is not an error: the first locked section
    changes nothing and the request goes on **with the same id**; the cursor then built carries that id and the
    supplied query and position. -/
theorem unknown_id_continues (s : St) (id query pos : Nat) (posOk : Bool) (newCur newId : Nat)
    (hid : id > 0) (hm : s.curs.get id = none) :
    lookup s id query pos posOk = (s, .miss, id) ∧
    (let r := create s id query pos .ok newCur newId
     r.2 = .cur newCur ∧ (r.1.cursors newCur).id = id ∧ (r.1.cursors newCur).query = query ∧
     (r.1.cursors newCur).pos = pos ∧ (r.1.cursors newCur).held = true ∧ r.1.curs.get = s.curs.get) := by
  have h0 : id ≠ 0 := by omega
  constructor
  · simp [lookup, hid, hm]
  · simp [create, setCur, h0]

example : (init 3 60 300).curs.get 5 = none ∧
    (getOrCreate false (init 3 60 300) 5 1 4 false .ok true 1 0).2 = .new 1 := by decide +kernel

/-! ## the single life-cycle steps -/

/-- normal release of a cursor the map does not know (un-cached, or dropped while busy): it is closed -/
theorem release_uncached_closes (byId : Bool) (s : St) (c cp : Nat) (hm : s.curs.get (s.cursors c).id = none) :
    let r := release byId s c cp
    r.2 = .closed ∧ (r.1.cursors c).closed = (s.cursors c).acquired ∧
    (r.1.cursors c).closeCalls = (s.cursors c).closeCalls + 1 ∧ (r.1.cursors c).held = false := by
  simp [release, setCur, closeCur, hm]

/-- a sweep removing an idle holder closes its cursor (once) and forgets its id -/
theorem evict_idle_closes (s : St) (e c : Nat) (r : Bool) (hc : (s.holders e).cur = some c)
    (hb : (s.holders e).busy = false) :
    let s' := evict s e r
    (s'.cursors c).closed = (s.cursors c).acquired ∧ (s'.cursors c).closeCalls = (s.cursors c).closeCalls + 1 ∧
    s'.curs.get (s.cursors c).id = none ∧ (s'.holders e).cur = none ∧ s'.panicked = s.panicked := by
  rw [evict_some hc]
  simp [hb, closeCur, setCur, IdMap.del]

/-- a sweep removing a busy holder (expired while busy, or evicted by size) does not close the cursor — its user
    still has it — but forgets its id, so that the user's `Release` will close it (`release_uncached_closes`) -/
theorem evict_busy_keeps_open (s : St) (e c : Nat) (r : Bool) (hc : (s.holders e).cur = some c)
    (hb : (s.holders e).busy = true) :
    let s' := evict s e r
    s'.cursors = s.cursors ∧ s'.curs.get (s.cursors c).id = none ∧ (s'.holders e).cur = none := by
  rw [evict_some hc]
  simp [hb, IdMap.del]

/-- life cycle "expiry while busy": dropped unclosed by the sweeper, closed exactly once by its own release -/
example : let s := (getOrCreate false (init 3 60 300) 0 0 0 false .ok true 1 7).1
    let s := sweepByTime (age s 301)
    (s.cursors 1).closed = 0 ∧ s.ring = [] ∧
    (release true s 1).2 = .closed ∧ ((release true s 1).1.cursors 1).closed = 1 ∧
    ((release true s 1).1.cursors 1).closeCalls = 1 := by decide +kernel

/-- life cycle "eviction by size": the least recently used holder goes, idle ⇒ closed -/
example : let s := (getOrCreate false (init 1 60 300) 0 0 0 false .ok true 1 7).1
    let s := (release true s 1).1
    let s := (getOrCreate false s 0 0 0 false .ok true 2 8).1
    let s := sweepBySize s
    (s.cursors 1).closed = 1 ∧ (s.cursors 2).closed = 0 ∧ s.ring.length = 1 ∧ s.curs.size = 1 := by decide +kernel

/-- life cycle "state cannot be applied": the cached cursor stays (idle), a new one is built under a new id -/
example : let s := (getOrCreate false (init 3 60 300) 0 0 0 false .ok true 1 7).1
    let s := (release true s 1).1
    let r := getOrCreate false s 7 1 2 true .ok true 2 8
    r.2 = .new 2 ∧ (r.1.cursors 2).id = 8 ∧ r.1.ring.length = 2 ∧ (r.1.cursors 1).closed = 0 := by decide +kernel

/-! ## regenerated facts -/

/-- every access to `p.curs`, `p.busy`, `p.free`, `p.freePoolSz` in provider.go happens under `p.lock`
    (so the locked sections are the atomic steps of the model) -/
theorem lock_discipline : Logrange.Generated.C15.unlockedAccesses = [] := by decide

/-- NewProvider's knobs: a cache exists, timeouts are positive, a busy request gets at least the idle time,
    the sweeper's period `idleTo / 5` is positive; the model's free-pool cap is the code's -/
theorem knobs_sane :
    0 < Logrange.Generated.C15.maxCurs ∧ 0 < Logrange.Generated.C15.idleToSec ∧
    Logrange.Generated.C15.idleToSec ≤ Logrange.Generated.C15.busyToSec ∧
    0 < Logrange.Generated.C15.idleToSec / Logrange.Generated.C15.sweeperPeriodDivisor ∧
    Logrange.Generated.C15.freePoolCap = freePoolCap := by decide

/-! ## exactly once at the end of life, ring invariant, no panic on release — the code as it is now

All three are consequences of the invariant `Logrange.Provider.J` (Proofs/Provider.lean), proved for the repaired code
shape (`insert` re-checks the map, `Release` compares the cursor object) along **every** well-formed trace of the SPLIT
steps (lookup / create / insert / release / age / sweepByTime / sweepBySize of any number of requests, interleaved
arbitrarily) with **no hypothesis on ids**: ids and new ids are arbitrary, the same id may be in flight many times and
may be re-used while a cursor built under it is still held. Well-formedness (`WF`, `wfLabel`) is only the client
protocol: a created cursor object is fresh, `insert c` follows a `create` of a still held, not yet cached `c`,
`release c` is called for held cursors only; the composite `.get` label needs a fresh cursor object (it is the run
of its split parts, `get_refines_split`).
The shape of the code enters through the regenerated facts, so a regression of either fact breaks these theorems. -/

theorem code_shape : Logrange.Generated.C15.insertChecksExisting = true ∧
    Logrange.Generated.C15.releaseLooksUpById = false := by decide

/-- a cursor is at the end of its life: acquired, not held by a request, not cached in any ring element -/
def Dead (s : St) (c : Nat) : Prop :=
  (s.cursors c).acquired = 1 ∧ (s.cursors c).held = false ∧ ∀ e ∈ s.ring, (s.holders e).cur ≠ some c

/-- reachable states of the code as it is -/
def Reachable (s : St) : Prop :=
  ∃ (maxCurs : Nat) (idleTo busyTo : Int) (tr : List Label), WF (init maxCurs idleTo busyTo) tr ∧
    s = run Logrange.Generated.C15.insertChecksExisting Logrange.Generated.C15.releaseLooksUpById
          (init maxCurs idleTo busyTo) tr

theorem reachable_K {s : St} (h : Reachable s) : K s := by
  obtain ⟨m, i, b, tr, wf, rfl⟩ := h
  rw [code_shape.1, code_shape.2]
  exact K_run tr (K_init m i b) wf

theorem reachable_J {s : St} (h : Reachable s) : J s := (reachable_K h).j

/-- Every cursor whose life has ended had its partitions released exactly once, and a cursor that is still held by
    a request or cached has not been closed (never closed while in use, never pinned after its end). -/
theorem closed_exactly_once_at_end {s : St} (h : Reachable s) (c : Nat) :
    (Dead s c → (s.cursors c).closed = 1) ∧
    ((s.cursors c).acquired = 1 → ((s.cursors c).held = true ∨ ∃ e ∈ s.ring, (s.holders e).cur = some c) →
      (s.cursors c).closed = 0) := by
  have j := (reachable_J h).h c
  constructor
  · rintro ⟨ha, hd⟩; exact (j.2.2.1 ha).2 hd
  · intro ha hlive
    have h1 : ¬ (s.cursors c).closed = 1 := by
      intro k
      have := (j.2.2.1 ha).1 k
      rcases hlive with hh | ⟨e, he, hc⟩
      · rw [this.1] at hh; cases hh
      · exact this.2 e he hc
    have := j.2.2.2; omega

/-- The busy ring and the map hold the same holders; the free ring is disjoint from it. -/
theorem ring_inv {s : St} (h : Reachable s) :
    s.ring.Nodup ∧ s.free.Nodup ∧ (∀ e ∈ s.ring, e ∉ s.free) ∧
    (∀ e ∈ s.ring, ∃ c, (s.holders e).cur = some c ∧ s.curs.get (s.cursors c).id = some e) ∧
    (∀ id e, s.curs.get id = some e → e ∈ s.ring ∧ ∃ c, (s.holders e).cur = some c ∧ (s.cursors c).id = id) := by
  have j := reachable_J h
  refine ⟨j.a, j.b1, j.b2, ?_, j.f⟩
  intro e he; obtain ⟨c, k1, k2, _⟩ := j.e e he; exact ⟨c, k1, k2⟩

/-- In a reachable state, releasing a held cursor never panics. -/
theorem release_never_panics {s : St} (h : Reachable s) (c cp : Nat) (hheld : (s.cursors c).held = true) :
    (release Logrange.Generated.C15.releaseLooksUpById s c cp).2 ≠ .panic := by
  rw [code_shape.2]
  exact (K_release c cp (reachable_K h) hheld).2

/-- non-vacuity: the F16 schedule (same uncached id twice in flight) followed by the F28 pattern (id re-used while
    held) is a well-formed trace; it ends with every dead cursor closed once -/
def mixedTrace : List Label :=
  [.lookup 9 0 0 false, .lookup 9 0 0 false, .create 9 0 0 .ok 1 0, .create 9 0 0 .ok 2 0, .insert 1, .insert 2,
   .age 301, .sweepT, .lookup 9 0 0 false, .create 9 0 0 .ok 3 0, .insert 3, .release 1 2, .release 3 2,
   .age 61, .sweepT]
example : WF (init 3 60 300) mixedTrace := by
  simp only [mixedTrace, WF, wfLabel]; decide +kernel
example : let s := run true false (init 3 60 300) mixedTrace
    (s.cursors 1).closed = 1 ∧ (s.cursors 2).closed = 1 ∧ (s.cursors 3).closed = 1 ∧ s.ring = [] ∧ s.panicked = false := by
  decide +kernel

/-! ## nothing panics; `close()` is called exactly once -/

/-- No reachable state has panicked: `Release` of a held cursor never hits "releasing cursor, which is not busy", and
    neither sweep nor the first locked section ever dereferences a nil cursor or an empty ring (the model's
    `panicked` flag is set exactly in those branches). Rests on the map and the ring having the same size, on
    `Prev()` staying inside the ring, and on the walk of `sweepByTime` (with the `Next()`-returns-prev quirk) making
    at most `len(p.curs)` rounds. -/
theorem never_panics {s : St} (h : Reachable s) : s.panicked = false := (reachable_K h).r.np

/-- the id map and the busy ring have the same number of entries -/
theorem map_size_eq_ring_length {s : St} (h : Reachable s) : s.curs.size = s.ring.length := (reachable_K h).r.sz

/-- in particular one more pass of either sweep from a reachable state does not panic -/
theorem sweeps_never_nil {s : St} (h : Reachable s) :
    (sweepByTime s).panicked = false ∧ (sweepBySize s).panicked = false :=
  ⟨(K_sweepByTime (reachable_K h)).r.np, (K_sweepBySizeLoop _ (reachable_K h)).r.np⟩

/-- `close()` is called at most once on every cursor object; exactly once on a cursor that was handed to a request
    and whose life has ended; not at all on a cursor that is still held or cached. (`handed = false` marks the record
    of a failed `newCursor`, whose journals `releaseJournals` gives back without there ever being a cursor.) -/
theorem close_called_exactly_once {s : St} (h : Reachable s) (c : Nat) :
    (s.cursors c).closeCalls ≤ 1 ∧
    (Dead s c → (s.cursors c).handed = true → (s.cursors c).closeCalls = 1) ∧
    ((s.cursors c).acquired = 1 → ((s.cursors c).held = true ∨ ∃ e ∈ s.ring, (s.holders e).cur = some c) →
      (s.cursors c).closeCalls = 0) := by
  have k := reachable_K h
  have m := k.r.m c
  have ce := closed_exactly_once_at_end h c
  refine ⟨m.1, ?_, ?_⟩
  · intro hd hh; exact m.2.2 hh (ce.1 hd)
  · intro ha hl; exact closeCalls0 k.r.m (ce.2 ha hl)

/-! ## the composite `GetOrCreate` is the sequence of its three parts -/

/-- For all arguments and both code shapes, the composite `get` step equals the run of its split parts
    (`[lookup]`, `[lookup, create]` or `[lookup, create, insert]`, see `getParts`). -/
theorem get_refines_split (chk byId : Bool) (s : St) (id q p : Nat) (ok : Bool) (k : CreateKind) (cache : Bool) (c n : Nat) :
    run chk byId s (getParts s id q p ok k cache c n) = stepL chk byId s (.get id q p ok k cache c n) :=
  Logrange.Provider.get_refines_split chk byId s id q p ok k cache c n

/-- …and the parts of a well-formed `get` (fresh cursor object) in a reachable state are a well-formed trace of
    split steps — so every `Reachable`-based theorem covers traces that mix composite gets with split steps. -/
theorem get_parts_well_formed {s : St} (h : Reachable s) (id q p : Nat) (ok : Bool) (k : CreateKind) (cache : Bool)
    (c n : Nat) (hfresh : (s.cursors c).acquired = 0) :
    WF s (getParts s id q p ok k cache c n) ∧ ∀ l ∈ getParts s id q p ok k cache c n, l.isSplit = true :=
  ⟨get_parts_wf (reachable_J h) id q p ok k cache c n hfresh, getParts_split s id q p ok k cache c n⟩

/-- non-vacuity: composite gets mixed with split steps; `maxCurs = 1`, so `sweepBySize` evicts first a busy cursor
    (1, later closed by its own release) and then an idle one (2, closed by the sweep); a position error; a refused get;
    a hit; an idle expiry. Every dead handed cursor ends with `closed = 1`, `closeCalls = 1`; nothing panics. -/
def sizeTrace : List Label :=
  [.get 0 0 0 false .ok true 1 7, .get 0 0 0 false .ok true 2 8, .sweepS, .release 2 2,
   .get 0 0 0 false .ok true 3 9, .sweepS, .release 1 2, .get 0 0 1 false .posErr true 4 10,
   .lookup 8 0 0 false, .get 9 0 0 true .ok true 5 0, .release 3 2, .lookup 9 0 2 true, .release 3 2, .age 61, .sweepT]
example : WF (init 1 60 300) sizeTrace := by
  simp only [sizeTrace, WF, wfLabel]; decide +kernel
example : let s := run true false (init 1 60 300) sizeTrace
    ((s.cursors 1).closed, (s.cursors 1).closeCalls) = (1, 1) ∧ ((s.cursors 2).closed, (s.cursors 2).closeCalls) = (1, 1) ∧
    ((s.cursors 3).closed, (s.cursors 3).closeCalls) = (1, 1) ∧ ((s.cursors 4).closed, (s.cursors 4).closeCalls) = (1, 0) ∧
    (s.cursors 4).handed = false ∧ (s.cursors 5).acquired = 0 ∧ s.ring = [] ∧ s.curs.size = 0 ∧ s.panicked = false := by
  decide +kernel

end Logrange.Props.C15

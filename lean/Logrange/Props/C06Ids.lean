import Logrange.Model.IdGen
/-!
# C06 — fresh partition ids across restarts, and FROM through a held cursor (wave-5 seeds C06-13, C06-14)

"Writes with different tag sets never share a partition" rests on `getOrCreateJournal` giving a NEW partition an id no stored
partition has. Inside one process the counter only grows; across restarts it is re-seeded from the clock. `id_seed_pinned` pins
how (regenerated from `pkg/utils/simpleid.go`, `pkg/tindex/idgen.go`), `ids_disjoint_across_lives` is the contract under which
no id is issued twice, `cex_seconds_seed` shows the contract is lost when the seed counts seconds.

**Residual (honest statement).** The ids are time-seeded. They can still repeat when (a) the wall clock is set back between two
process starts by more than the gap, (b) a process issues more than one id per 65 536 ns averaged over its life and is restarted
immediately (≈ 15 258 ids/s), (c) two processes share a host id and a data directory at the same time. None of these is excluded
by the code; the harness section `idgen` runs the contract on the real generator with child processes.
-/
namespace Logrange.Props.C06Ids
open Logrange.IdGen

/-- the counter is seeded from the nanosecond clock, masked to ticks of 2^16 ns, and advances one tick per id; the source id
spells the counter -/
theorem id_seed_pinned : Logrange.Generated.C06.idSeedClock = "UnixNano" ∧
    Logrange.Generated.C06.idSeedMask = 0xFFFFFFFFFFFF0000 ∧ Logrange.Generated.C06.idSeedShift = 0 ∧
    Logrange.Generated.C06.idIncrement = tick ∧ Logrange.Generated.C06.newSrcFormat = "%X%02X" := by decide

/-- within one process the ids grow strictly -/
theorem ids_increase_within_life (t h k k' : Nat) (hk : k < k') : idN t h k < idN t h k' := by
  unfold idN
  have : k * tick < k' * tick := Nat.mul_lt_mul_of_pos_right hk (by decide)
  omega

/-- **No id is issued twice across a restart**: a process that started at `t1` and issued `n1` ids, followed by a process (same
host id) that starts at `t2 ≥ t1 + n1` ticks — every id of the second is larger than every id of the first -/
theorem ids_disjoint_across_lives (t1 t2 h n1 : Nat) (hgap : t1 + n1 * tick ≤ t2) (i j : Nat) (hi : i ≤ n1) (hj : 1 ≤ j) :
    idN t1 h i < idN t2 h j := by
  -- in ticks: the id is `(t / tick + k) * tick + h`, and the second life starts at least `n1` ticks after the first
  have hid : ∀ t k, idN t h k = (t / tick + k) * tick + h := fun t k => by
    unfold idN seedN; rw [Nat.add_mul, Nat.add_right_comm]
  have hd : t1 / tick + n1 ≤ t2 / tick := by
    rw [← Nat.add_mul_div_right _ _ (by decide : 0 < tick)]
    exact Nat.div_le_div_right hgap
  rw [hid, hid]
  exact Nat.add_lt_add_right (Nat.mul_lt_mul_of_pos_right (by omega) (by decide)) h

/-- … hence a partition created after the restart never gets the id of a partition stored before it -/
theorem new_id_not_stored (t1 t2 h n1 : Nat) (hgap : t1 + n1 * tick ≤ t2) (stored : List Nat)
    (hs : ∀ x ∈ stored, ∃ i, 1 ≤ i ∧ i ≤ n1 ∧ x = idN t1 h i) (j : Nat) (hj : 1 ≤ j) : idN t2 h j ∉ stored := by
  intro hm
  obtain ⟨i, _, hi, e⟩ := hs _ hm
  have := ids_disjoint_across_lives t1 t2 h n1 hgap i j hi hj
  omega

/-- the contract is lost when the seed counts SECONDS (`Unix() << 16`, seeded change C06-14): two processes started one second
apart, the first issuing two ids — the second id of the first is the first id of the second -/
theorem cex_seconds_seed : idS 1000 7 2 = idS 1001 7 1 := by decide

/-- non-vacuity: 3000 ids, restart 0.2 s (196 608 000 ns) later -/
example : idN 1000000000 0 3000 < idN (1000000000 + 3000 * tick) 0 1 :=
  ids_disjoint_across_lives _ _ 0 3000 (Nat.le_refl _) 3000 1 (Nat.le_refl _) (Nat.le_refl _)

/-- **the raw-text fast path of `getOrCreateJournal` reads `tmap` only** (regenerated: the maps indexed with a key built from
the raw text parameter). `fast_path_sound`, `tindex_map_inv` and the roll-back / `Delete` reasoning assume that a raw text can
reach a descriptor through `tmap` alone; a second map keyed by the client's spelling (seeded change C06-18: `amap`) is state the
model does not have — `Delete` leaves it pointing to a dropped, exclusively locked descriptor and the spelling hangs. -/
theorem fast_path_reads_only_tmap : Logrange.Generated.C06.fastPathMaps = ["tmap"] := by decide

/-! ## FROM through a held cursor -/

/-- `crsr.ApplyState` refuses a state that carries another query text (regenerated from `pkg/cursor/cursor.go`) -/
theorem held_cursor_refuses_other_query : Logrange.Generated.C06.applyStateChecksQuery = true := by decide

/-- **the cursor that serves a request was built from the request's own query text** — whatever the cache holds, whatever ReqId
the request names; so the FROM that selects the partitions (`Props.C06Utf8.from_selects_exactly_or_fails`) is the FROM that was sent -/
theorem serving_query_is_request (cache : List Held) (rid : Nat) (q : List UInt8) :
    servingQuery true cache rid q = q := by
  unfold servingQuery
  cases h : cache.find? (fun h => h.id == rid) with
  | none => rfl
  | some hd =>
    by_cases e : hd.query = q
    · simp [e]
    · simp [e]

/-- without the comparison (seeded change C06-13) a request is served from the cached cursor of ANOTHER query -/
theorem cex_no_query_check : servingQuery false [⟨7, [97]⟩] 7 [98] = [97] := by decide

end Logrange.Props.C06Ids

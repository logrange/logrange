import Logrange.Proofs.Wire
import Logrange.Proofs.EscapeJson
import Logrange.Proofs.PosStr
import Logrange.Proofs.WireFields
import Logrange.Proofs.C13KV
import Logrange.Proofs.Format
import Logrange.Model.Where
import Logrange.Model.Nesting
import Logrange.Model.ShowPartitions
/-!
# C13 — No request content can crash the server-side decoders and evaluators

Property theorems only; every theorem in this namespace is an obligation of the C13 check (axioms audited).
Models: `Logrange/Model/{Outcome,Wire,WireFields,EscapeJson,PosStr,Nesting}.lean`; lemmas: `Logrange/Proofs/{Outcome,Wire,WireFields,C13KV,EscapeJson,Format,PosStr}.lean`.

State after the repairs 72eac47 (F44), dbbc1a7 (F13), 8131efe (F25) and c6bbc14 (`wpIterator.init` validates the whole
packet — fact `wpInitValidates`; the decoder theorems hold for either value of that fact):

* the api/rpc decoders (`wpIterator.init/Get/Next`, `unmarshalQueryRequest`, `unmarshalLogEvent`, client-side
  `unmarshalQueryResult`) are **total for all byte strings** (`decode_total`): their string reads go through the length
  guard, regenerated as the fact `Generated.C13.rpcStringLengthGuard`;
* what a Write stores is well-formed **unconditionally** (`fromKV_WF`, `stored_fields_WF`): the length is tested again after
  `strconv.Unquote` (facts `fieldLenTestedAfterUnquote`, `fieldMaxLenAfterUnquote`);
* `model.LogEvent.Unmarshal` (pkg/model) keeps the direct library call. It is applied only to records the server read from
  its own journal (`pkg/model/iterator.go: LogEventIterator.Get`, `pkg/tmindex/cindex.go` rebuild), i.e. to bytes produced by
  `LogEvent.Marshal` in `partition.iwrapper` — no request path hands client bytes to it. `record_decode_total_partial` and
  `cex_record_varint` describe it: a remark (an on-disk corruption concern of C07), not a finding of C13;
* LQL nesting: the guard of commit 8131efe counts on the lexer's tokens since 6345cd4 (facts `lqlGuardKind = 2`, `lqlMaxNesting`):
  `answers_every_request`; `cex_guard_hole` remains as the statement about the byte-scan branch (repaired finding F25b) and the
  unguarded branch (F25);
* admin statements: `SHOW PARTITIONS` refuses a negative OFFSET or LIMIT since commit c80057f (fact
  `showPartitionsRejectsNegative`): `show_partitions_total`; `cex_show_partitions_negative` remains as the statement about the
  unguarded arithmetic (repaired finding F55). No open finding: `C13_full` is a theorem (`C13_holds`).
-/
namespace Logrange.Props.C13
open Go Logrange Logrange.Wire Logrange.Outcome

/-! ## request decoders (api/rpc) -/

/-- the regenerated fact the decoder theorems rest on: api/rpc reads every length-prefixed string through the guard -/
theorem rpc_guard_in_place : Generated.C13.rpcStringLengthGuard = true := by decide +kernel

/-- **Request decoders are total, for ALL byte strings** and every field-text parser `kv`: whatever bytes arrive as the body
of a Write or Query request (or — client side — as a query result), `wpIterator.init`, every `Get`/`Next` of the drain (any
fuel), the whole Write decoding, `unmarshalQueryRequest`, `unmarshalLogEvent` and `unmarshalQueryResult` return a value or
an error: no slice or index expression of the mirrored code fails its bounds check. The only hypothesis, `IsGoSlice buf`
(`len(buf) < 2⁶³`), is no condition on the content: the length of a Go slice is an `int`. -/
theorem decode_total (kv : Bytes → Option Bytes) (buf : Bytes) (h : IsGoSlice buf) :
    (wpInit kv buf).isPanic = false ∧
    (∀ it, wpInit kv buf = .ok it → ∀ fuel acc, (wpDrain kv fuel it acc).isPanic = false) ∧
    (wpDecode kv buf).isPanic = false ∧
    (unmarshalQueryRequest buf).isPanic = false ∧
    (unmarshalLogEvent buf).isPanic = false ∧
    (unmarshalQueryResult buf).isPanic = false := by
  have hg := rpc_guard_in_place
  exact ⟨wpInit_noPanic hg kv buf h, fun it hit fuel acc => wpDrain_noPanic hg kv fuel it acc (wpInit_inv kv buf h it hit),
    wpDecode_noPanic hg kv buf h, (good_queryRequest hg buf h).1, (good_logEvent hg buf h).1, (good_queryResult hg buf h).1⟩

/-- **Never reads outside the request buffer**: the number of bytes a decoder reports as consumed, and the iterator's
position, never exceed the buffer (every intermediate `buf[nn:]` is a checked slice in the model, so this also holds for
every prefix of the decoding). -/
theorem never_reads_outside (buf : Bytes) (h : IsGoSlice buf) :
    (∀ n q, unmarshalQueryRequest buf = .ok (n, q) → n ≤ buf.length) ∧
    (∀ n e, unmarshalLogEvent buf = .ok (n, e) → n ≤ buf.length) ∧
    (∀ n r, unmarshalQueryResult buf = .ok (n, r) → n ≤ buf.length) ∧
    (∀ kv it, wpInit kv buf = .ok it → it.pos ≤ buf.length) := by
  have hg := rpc_guard_in_place
  exact ⟨(good_queryRequest hg buf h).2, (good_logEvent hg buf h).2, (good_queryResult hg buf h).2,
    fun kv it hit => (wpInit_ok hit).2.1⟩

/-- **The drain loop terminates, with a bound in terms of the buffer**: whatever the (client-controlled, up to 2³²−1) count
field says, a consumer that calls `Get`, stops at `io.EOF`, and calls `Next`, is done within `(bytes left) + 2` iterations —
every event that is not served from the cache consumed at least the 8 bytes of its timestamp (`unmarshalLogEvent_ge`: there
are no zero-byte events, the loop cannot spin). Also within `(count − cur) + 2` iterations (every uncached `Get` increments
`cur`), which is the fuel the model's `wpDecode` uses; so the whole Write decoding never runs out of fuel. For every `kv`
and every buffer (no hypothesis on the content). -/
theorem wpDrain_terminates (kv : Bytes → Option Bytes) (it : WpIter) (acc : List Wire.Event) (fuel : Nat) :
    (it.pos ≤ it.buf.length → it.buf.length - it.pos + 2 ≤ fuel → (wpDrain kv fuel it acc).isOutOfFuel = false) ∧
    (it.recs - it.cur + 2 ≤ fuel → (wpDrain kv fuel it acc).isOutOfFuel = false) ∧
    (∀ buf, (wpDecode kv buf).isOutOfFuel = false) := by
  refine ⟨fun hp hf => wpDrain_ends kv fuel it acc (.inl ⟨hp, ?_⟩), fun hf => wpDrain_ends kv fuel it acc (.inr ?_),
    wpDecode_noFuel kv⟩
  all_goals split <;> omega

/-- non-vacuity: a fresh iterator over a 24-byte body that announces 2³²−1 events is drained with fuel 26 -/
def hostileIter : WpIter := ⟨[], [], List.replicate 24 0, false, 0, 4294967295, 0, default⟩
example (kv : Bytes → Option Bytes) (acc : List Wire.Event) : (wpDrain kv 26 hostileIter acc).isOutOfFuel = false :=
  (wpDrain_terminates kv hostileIter acc 26).1 (by decide +kernel) (by decide +kernel)

/-- the former F13 witness: a Write body whose first field (the tags) announces the length 2⁶⁴−1 -/
def f13Witness : Bytes := [0xff, 0xff, 0xff, 0xff, 0xff, 0xff, 0xff, 0xff, 0xff, 0x01]

/-- non-vacuity / regression for the repaired finding F13 (commit dbbc1a7): the witness is an ordinary Go slice, the guarded
decoder answers it with an error — and the decoder without the guard (the code before the commit) panics on it -/
theorem f13_witness_rejected :
    IsGoSlice f13Witness ∧ rpcStringG true f13Witness = .err ∧
    rpcStringG false f13Witness = .panic "slice bounds out of range" := by
  have h1 : IsGoSlice f13Witness := by unfold IsGoSlice; decide
  have h2 : rpcStringG true f13Witness = .err := by decide +kernel
  have h3 : rpcStringG false f13Witness = .panic "slice bounds out of range" := by decide +kernel
  exact ⟨h1, h2, h3⟩

/-! ## stored records (pkg/model) — a remark -/

/-- `lensSafe` (what the driver evaluates) implies `Safe` -/
theorem lensSafe_sound (buf : Bytes) (h : lensSafe buf = true) : Safe buf := by
  intro k idx v hu
  unfold lensSafe at h
  rw [List.all_eq_true] at h
  by_cases hk : k < buf.length + 1
  · have := h k (List.mem_range.mpr hk)
    rw [hu] at this
    simpa using this
  · have hnil : buf.drop k = [] := List.drop_eq_nil_of_le (by omega)
    rw [hnil] at hu
    simp [unmarshalUint, uvarintGo] at hu

/-- `model.LogEvent.Unmarshal` still calls `xbinary.UnmarshalBytes` directly: it is total on every record **without a
length varint of the class `≥ 2⁶³ − size`** (`Safe`, decidable form `lensSafe`), and reports at most the record's length.
It only ever sees records the server marshalled itself (see the file header). -/
theorem record_decode_total_partial (buf : Bytes) (h : Safe buf) :
    (Event.unmarshal buf).isPanic = false ∧ ∀ n e, Event.unmarshal buf = .ok (n, e) → n ≤ buf.length :=
  good_event buf h

/-- the regenerated fact behind "it only ever sees records the server marshalled itself": outside tests and verif-tagged
exports, `LogEvent.Unmarshal(buf, bool)` is called from exactly these files — the journal-record iterator and the index
rebuild. A new caller (for instance a request path) changes the list and breaks this obligation. -/
theorem record_decoder_callers :
    Generated.C13.logEventUnmarshalCallers = ["pkg/model/iterator.go", "pkg/tmindex/cindex.go"] := by decide +kernel

/-- non-vacuity: a real stored record (`ts = 1`, message `m`, fields `01 'c' 01 'd'`) meets the hypothesis -/
def validRecord : Bytes := [0x21, 0, 0, 0, 0, 0, 0, 0, 1, 1, 109, 4, 1, 99, 1, 100]
set_option maxRecDepth 100000 in
example : Safe validRecord := lensSafe_sound _ (by decide +kernel)

/-- … and the excluded class is real for this decoder (kernel-evaluated): a record whose message length is 2⁶⁴−1. Not
reachable from request content; it would take a corrupted chunk file. -/
theorem cex_record_varint :
    (Event.unmarshal ([0x20, 0, 0, 0, 0, 0, 0, 0, 1] ++ f13Witness)).isPanic = true ∧
    lensSafe ([0x20, 0, 0, 0, 0, 0, 0, 0, 1] ++ f13Witness) = false := by
  constructor <;> decide +kernel

/-! ## stored field lists -/

open Logrange.WireFields in
/-- **The readers are total on well-formed field lists**: `Fields.Value` (any name) and the walk of `Fields.AsKVString`
pass every bounds check and end within `|f| + 1` iterations; `AsKVString` visits exactly the items. -/
theorem value_total (f name : Bytes) (h : WF f) :
    (value f name).isPanic = false ∧ (value f name).isOutOfFuel = false ∧ (∃ its, items f = .ok its) ∧ check f = true := by
  obtain ⟨its, h1, h2, rfl⟩ := h
  have hv := valueGo_encode name its _ h1 h2 (Nat.lt_succ_self _)
  exact ⟨hv.1, hv.2, ⟨its, itemsGo_encode its _ h1 (Nat.lt_succ_self _)⟩, checkGo_encode its _ h1 (Nat.lt_succ_self _)⟩

/-- non-vacuity: `a=b` as a binary list is well-formed, `Value("a")` is `b` -/
example : WireFields.WF [1, 97, 1, 98] := ⟨[[97], [98]], by decide, rfl, rfl⟩
example : WireFields.value [1, 97, 1, 98] [97] = .ok [98] := by decide +kernel

/-- on arbitrary bytes `Fields.Value` can fail its bounds check (`f = 01 'a'`, name `a`: the key matches and the
value's length byte is missing). Not reachable from the API as long as only well-formed lists are stored — a remark. -/
theorem cex_value_oob : (WireFields.value [1, 97] [97]).isPanic = true := by decide +kernel

/-- `NewFieldsFromKVString`'s builder loop only produces well-formed lists — **for every** result of `SplitString`, every
`TrimSpaces` that does not lengthen, every `Unquote`: the length of an unquoted item is tested again (commit 72eac47; the
regenerated facts `fieldLenTestedAfterUnquote = true`, `fieldMaxLenAfterUnquote = 255`, `fieldMaxLen = 255`). -/
theorem fromKV_WF (split : Bytes → Option (List Bytes)) (trim : Bytes → Bytes) (unq : Bytes → Option Bytes)
    (htrim : ∀ v, (trim v).length ≤ v.length) (s f : Bytes)
    (h : WireFields.fromKV split trim unq s = some f) : WireFields.WF f :=
  WireFields.fromKV_WF split trim unq htrim (by decide +kernel) (Or.inl ⟨by decide +kernel, by decide +kernel⟩) s f h

/-- **What a Write stores is readable**: every event the server-side iterator hands to the partition has a well-formed
field list (write-level fields concatenated with the event's own) — for all request bytes and all behaviours of the
split / trim / unquote functions (trim must not lengthen); hence `value_total` applies to everything stored. -/
theorem stored_fields_WF (split : Bytes → Option (List Bytes)) (trim : Bytes → Bytes) (unq : Bytes → Option Bytes)
    (htrim : ∀ v, (trim v).length ≤ v.length)
    (buf : Bytes) (tags : Bytes) (evs : List Wire.Event)
    (h : wpDecode (WireFields.fromKV split trim unq) buf = .ok (tags, evs)) :
    ∀ e ∈ evs, WireFields.WF e.fields :=
  WireFields.wpDecode_WF (fun s f hs => fromKV_WF split trim unq htrim s f hs) h

/-- what `strconv.Unquote` does to a double-quoted string without backslashes or inner quotes: the quotes go, every
byte ≥ 0x80 that is not part of a valid sequence becomes U+FFFD (`EF BF BD`); enough for the witness (only 0xff bytes) -/
def unqWitness (v : Bytes) : Option Bytes :=
  some ((v.drop 1).dropLast.flatMap fun b => if b = 0xff then [0xEF, 0xBF, 0xBD] else [b])

/-- the former F44 witness: `f="<86 × 0xff>"` — 88 bytes quoted (passes the first `len(v) > 255`), 258 bytes unquoted -/
def f44Parts : List Bytes := [[102], [34] ++ List.replicate 86 0xff ++ [34]]

/-- non-vacuity / regression for the repaired finding F44: the builder now refuses the witness (the event's own field text
is then dropped by `field.Parse`, nothing malformed is stored), while a quoted value that stays within 255 bytes is built -/
theorem f44_witness_rejected :
    WireFields.build id unqWitness f44Parts = none ∧
    WireFields.build id unqWitness [[107], [34, 118, 0xff, 34]] = some [1, 107, 4, 118, 0xEF, 0xBF, 0xBD] := by
  constructor <;> decide +kernel

/-! ## the text parsers of kvstring / tag / field (C08's model) -/

/-- **`kv_total`.** C08's models of `RemoveCurlyBraces`, `SplitString`, `TrimSpaces`, `ToMap`, `tag.Parse` and
`NewFieldsFromKVString` are total functions by structural recursion over the input (no index arithmetic, no panic outcome):
every byte string gets a value or an error. For such models "never reads outside its input" means that what they return is
made of the input's bytes in place — `TrimSpaces` and `RemoveCurlyBraces` return a contiguous piece of their argument — and
that the field builder on top of them only yields well-formed lists. That the *code* (which does index: `str[idx]`,
`str[i:j+1]`, `endIdx`) agrees with these models, also where an index slip would panic, is the differential correspondence
of C08's harness and of C13's `robust` section (under `recover`; corpus case `""""\`). -/
theorem kv_total (s : Bytes) :
    KV.trimSpaces s <:+: s ∧
    (∀ t, KV.removeCurlyBraces s = some t → t <:+: s) ∧
    (∀ f, FieldsKV.fromKV s = some f → WireFields.WF f) ∧
    ((KV.splitString s).isSome ∨ KV.splitString s = none) ∧ ((KV.toMap s).isSome ∨ KV.toMap s = none) ∧
    ((Tags.parse s).isSome ∨ Tags.parse s = none) := by
  refine ⟨C13KV.trimSpaces_infix s, C13KV.removeCurlyBraces_infix s,
    C13KV.fromKV_WF (by decide +kernel) (by decide +kernel) (by decide +kernel) s, ?_, ?_, ?_⟩
  · cases KV.splitString s <;> simp
  · cases KV.toMap s <;> simp
  · cases Tags.parse s <;> simp

/-- **The whole server-side decoding of a Write request with the modelled `NewFieldsFromKVString`** (C08's `FieldsKV.fromKV`
in the place of the parameter `kv`): for every request body it ends, without a panic, and every event it hands to the
partition has a well-formed field list. -/
theorem write_decode_total_kv (buf : Bytes) (h : IsGoSlice buf) :
    (wpDecode FieldsKV.fromKV buf).isPanic = false ∧ (wpDecode FieldsKV.fromKV buf).isOutOfFuel = false ∧
    ∀ tags evs, wpDecode FieldsKV.fromKV buf = .ok (tags, evs) → ∀ e ∈ evs, WireFields.WF e.fields :=
  ⟨wpDecode_noPanic rpc_guard_in_place _ buf h, wpDecode_noFuel _ buf,
    fun _ _ hd => WireFields.wpDecode_WF (fun s f hs => (kv_total s).2.2.1 f hs) hd⟩

/-! ## format strings and filters -/

/-- **`format_total`.** `model.NewFormatParser` passes every bounds check for all format strings and every behaviour of
`strings.ToLower` (which may change the length of the text between the braces); and the two places where
`FormatParser.FormatStr` indexes into an event — `Fields.Value` for `{vars:name}` and `Fields.AsKVString` for `{vars}` — are
total on every stored (well-formed) field list. (`time.Format` and `tag.Parse` are total library / C08 functions;
`{msg.json()}` is `escapeJson_terminates`.) -/
theorem format_total (lower : Bytes → Bytes) (fstr : Bytes) :
    (Format.parse lower fstr).isPanic = false ∧
    ∀ f name, WireFields.WF f → (WireFields.value f name).isPanic = false ∧ ∃ its, WireFields.items f = .ok its := by
  refine ⟨Format.parse_noPanic lower fstr, ?_⟩
  intro f name hf
  have := value_total f name hf
  exact ⟨this.1, this.2.2.1⟩

example : Format.parse id [123, 109, 115, 103, 125, 32, 123, 118, 97, 114, 115, 58, 97, 125]
    = .ok [.msg [], .const [32], .var [97]] := by decide +kernel          -- "{msg} {vars:a}"
example : Format.parse id [123, 116, 115, 46, 102, 111, 114, 109, 97, 116, 40, 41, 125] = .ok [.ts []] := by decide +kernel   -- "{ts.format()}": accepted, empty layout
example : Format.parse id [123, 109, 115, 103] = .err := by decide +kernel                                                      -- "{msg": no closing brace

/-- **`eval_total`.** In C05's model of the WHERE evaluator an accepted filter is a total function `Event → Bool` built from
total string functions; the one place where the Go closure indexes into the event is `Fields.Value`, which C05 models with
its panic visible (`Fields.valueP … = none`) and then masks (`Fields.value`). On every stored event — well-formed fields —
no look-up an evaluation can make (any field name) is that panic, so the masked function *is* the code's behaviour: every
accepted filter answers on every stored event. -/
theorem eval_total (env : Where.Env) (e : Option Where.Expr) (flt : Where.Pred) (_hb : Where.buildWhere env e = .ok flt)
    (ev : Where.Event) (h : WireFields.WF ev.fields) (name : Bytes) :
    Fields.valueP ev.fields name = some (Fields.value ev.fields name) ∧ (flt ev = true ∨ flt ev = false) := by
  have hw := C13KV.WF_bridge ev.fields h
  obtain ⟨ps, hp⟩ := hw
  refine ⟨?_, by cases flt ev <;> simp⟩
  rw [Fields.valueP_wf ev.fields name ps hp]
  simp [Fields.value, Fields.valueP_wf ev.fields name ps hp]

/-! ## recursion depth (findings F25, F25b) -/

/-- the regenerated facts: the parser entry points of pkg/lql have a nesting guard with the limit 1000 (commit 8131efe) that
counts on the tokens of the parser's own lexer (kind 2, commit 6345cd4) -/
theorem nesting_guard_in_place :
    Generated.C13.lqlNestingGuard = true ∧ Generated.C13.lqlMaxNesting = 1000 ∧ Generated.C13.lqlGuardKind = 2 := by decide +kernel

/-- **With a guard that counts on the parser's own tokens, every text is answered**: if the stack holds `lqlMaxNesting` frames,
no text exhausts it — whatever it contains (string literals, `{…}` tags, lexer errors), because guard and parser see the same
lazily lexed token stream (`tscan_mono`). (1 000 levels cost about 5 MB of the 1 000 MB a goroutine may use.) -/
theorem answers_every_request_guarded (hk : Generated.C13.lqlGuardKind = 2) (budget : Nat)
    (hb : Generated.C13.lqlMaxNesting ≤ budget) (s : Bytes) : (Nesting.parseNow budget s).isPanic = false := by
  unfold Nesting.parseNow
  rw [hk]
  exact Nesting.parseG_token_guarded _ budget hb s

/-- the text `{a='}((((a=1))))` -/
def holeText : Bytes := [123, 97, 61, 39, 125, 40, 40, 40, 40, 97, 61, 49, 41, 41, 41, 41]

/-- **The byte-scan branch (the code between commits 8131efe and 6345cd4, repaired finding F25b)**, on a small instance of the guards (limit 3, stack of 3 frames): the byte scan of
commit 8131efe takes the `'` inside the tags token `{a='}` for the start of a string literal, skips the rest of the text and lets
it pass, although its four nested parentheses exceed the limit — the parser then exhausts the stack; a guard that counts on
the tokens refuses the same text with an error; and without any guard four parentheses exhaust three frames (F25). Evaluated
by the kernel through C12's lexer model. -/
theorem cex_guard_hole :
    Nesting.holeClass 3 holeText = true ∧ (Nesting.parseG 1 3 3 holeText).isPanic = true ∧
    Nesting.parseG 2 3 3 holeText = .err ∧ (Nesting.parseG 0 0 3 [40, 40, 40, 40]).isPanic = true ∧
    Nesting.parseG 1 3 3 [40, 40, 40, 40] = .err ∧ Nesting.parseG 1 3 3 [40, 40, 40, 97, 61, 49, 41, 41, 41] = .ok 3 := by
  decide +kernel

/-! ## position strings -/

/-- **Positions**: `journal.ParsePos` and `crsr.applyStatePos` answer with a value or an error for all strings. -/
theorem pos_total (s : Bytes) :
    (PosStr.parsePos s).isPanic = false ∧ (PosStr.applyStatePos s).isPanic = false :=
  ⟨PosStr.parsePos_noPanic s, PosStr.applyParts_noPanic _ _⟩

/-! ## EscapeJsonStr -/

/-- **`EscapeJsonStr` terminates and passes its bounds checks**, for all byte strings, within `|s| + 1` iterations
of its loop — for the rune test the extractor finds in `/repo` now. -/
theorem escapeJson_terminates (s : Bytes) :
    (EscapeJson.escapeJson Generated.C13.escapeJsonSkipsValidRunes s).isOutOfFuel = false ∧
    (EscapeJson.escapeJson Generated.C13.escapeJsonSkipsValidRunes s).isPanic = false := by
  have hfact : Generated.C13.escapeJsonSkipsValidRunes = true := by decide +kernel
  rw [hfact]
  exact (EscapeJson.loop_returns s (s.length + 1) 0 0 [34] (Nat.zero_le _) (by omega)).ends.symm

example : EscapeJson.escapeJson true [97, 10, 0xff, 34] = .ok [34, 97, 92, 110, 92, 117, 102, 102, 102, 100, 92, 34, 34] := by decide +kernel
example : PosStr.applyStatePos [106, 61] = .ok [([106], (0, 0))] := by decide +kernel   -- "j=" : the empty position is the zero position

/-- regression for the repaired finding F14 (commit d161ff4): the well-formed U+FFFD is copied and the loop ends -/
theorem escapeJson_fffd_regression :
    EscapeJson.escapeJson true [0xEF, 0xBF, 0xBD] = .ok [34, 0xEF, 0xBF, 0xBD, 34] := by decide +kernel

/-- … and with the rune test of the code before that commit no amount of fuel is enough -/
theorem cex_escapeJson_fffd_before_fix (fuel i start : Nat) (e : Bytes) (hi : i = 0) :
    EscapeJson.loop false [0xEF, 0xBF, 0xBD] fuel i start e = .outOfFuel := by
  subst hi
  induction fuel with
  | zero => rfl
  | succ n ih =>
    unfold EscapeJson.loop
    -- the body evaluates to the same call with less fuel: `decodeRune` answers (RuneError, 3), which passes neither rune test
    exact ih

/-! ## admin statements: SHOW PARTITIONS paging (finding F55) -/

open Logrange.ShowPartitions in
/-- **`SHOW PARTITIONS … OFFSET o LIMIT l` answers for every non-negative OFFSET and LIMIT** (absent ones take their
defaults), any number of partitions, and whichever way `/repo` treats negative arguments: the paging arithmetic of
`partition.Service.Partitions` indexes neither `parts` nor the result page outside their bounds. -/
theorem show_partitions_total_partial (n : Nat) (hn : (n : Int) < 9223372036854775808) (offset limit : Option Int)
    (h : negativeArg offset limit = false) : (showPartitionsNow n offset limit).isPanic = false := by
  unfold showPartitionsNow showPartitions
  simp only []
  unfold negativeArg at h
  simp only [Bool.or_eq_false_iff, decide_eq_false_iff_not] at h
  split
  · rfl
  · exact partitions_nonneg n hn _ _ (by omega) (by omega)

/-- **The unguarded arithmetic (the code before commit c80057f, repaired finding F55)**, evaluated by the kernel: `show partitions offset -1` (no partition needed:
`parts[-1]`, index out of range) and, with at least one partition, `show partitions limit -1` (`make([]…, -1)`: makeslice: len
out of range) and `offset -9223372036854775808` (the subtraction wraps); with a guard the same statements get an error. With no
partition `limit -1` is answered (early return). -/
theorem cex_show_partitions_negative :
    (ShowPartitions.showPartitions false 0 (some (-1)) none).isPanic = true ∧
    (ShowPartitions.showPartitions false 1 none (some (-1))).isPanic = true ∧
    (ShowPartitions.showPartitions false 1 (some (-9223372036854775808)) none).isPanic = true ∧
    ShowPartitions.showPartitions false 0 none (some (-1)) = .ok [] ∧
    ShowPartitions.showPartitions true 1 none (some (-1)) = .err ∧
    ShowPartitions.showPartitions false 3 (some 1) (some 5) = .ok [1, 2] := by decide +kernel

/-- **With the guard, every SHOW PARTITIONS statement is answered** — any OFFSET and LIMIT the parser can deliver. -/
theorem show_partitions_total_guarded (hg : Generated.C13.showPartitionsRejectsNegative = true) (n : Nat)
    (hn : (n : Int) < 9223372036854775808) (offset limit : Option Int) :
    (ShowPartitions.showPartitionsNow n offset limit).isPanic = false := by
  unfold ShowPartitions.showPartitionsNow ShowPartitions.showPartitions
  rw [hg]
  refine ite_of NoPanic (fun _ => rfl) fun hc => ?_
  have hc : ¬(offset.getD 0 < 0 ∨ limit.getD 4294967295 < 0) := fun h => hc ⟨rfl, h⟩
  exact ShowPartitions.partitions_nonneg n hn _ _ (by omega) (by omega)

/-! ## the full statement -/

/-- **C13 at full strength**: every request body is answered with a result or an error by the decoders, within a bounded number
of steps; every position string by the position parser; the escaper returns; whatever a Write stores is readable; format
strings are total; and no LQL text exhausts the stack (for the parser entry points as `/repo` has them now). -/
def C13_full : Prop :=
  (∀ (kv : Bytes → Option Bytes) (buf : Bytes), IsGoSlice buf →
    (wpDecode kv buf).isPanic = false ∧ (wpDecode kv buf).isOutOfFuel = false ∧ (unmarshalQueryRequest buf).isPanic = false) ∧
  (∀ s, (PosStr.applyStatePos s).isPanic = false) ∧
  (∀ s, (EscapeJson.escapeJson Generated.C13.escapeJsonSkipsValidRunes s).isPanic = false ∧
        (EscapeJson.escapeJson Generated.C13.escapeJsonSkipsValidRunes s).isOutOfFuel = false) ∧
  (∀ split (trim : Bytes → Bytes) unq s f, (∀ v, (trim v).length ≤ v.length) →
      WireFields.fromKV split trim unq s = some f → WireFields.WF f) ∧
  (∀ lower fstr, (Format.parse lower fstr).isPanic = false) ∧
  (∃ budget, ∀ s, (Nesting.parseNow budget s).isPanic = false) ∧
  (∀ (n : Nat) offset limit, (n : Int) < 9223372036854775808 → (ShowPartitions.showPartitionsNow n offset limit).isPanic = false)

/-- **Where C13 stands**: every clause but the last two is proved above unconditionally; the nesting clause through the token
guard (`lqlGuardKind = 2`, in place: `nesting_guard_in_place`); the last one holds as soon as SHOW PARTITIONS refuses a negative
OFFSET / LIMIT (`showPartitionsRejectsNegative`, commit c80057f). Before that commit the fact was `false`:
`cex_show_partitions_negative`, repaired finding F55. -/
theorem C13_holds_with_guards (hk : Generated.C13.lqlGuardKind = 2) (hg : Generated.C13.showPartitionsRejectsNegative = true) :
    C13_full := by
  refine ⟨?_, fun s => (pos_total s).2, fun s => ⟨(escapeJson_terminates s).2, (escapeJson_terminates s).1⟩, ?_,
    fun lower fstr => (format_total lower fstr).1, ⟨Generated.C13.lqlMaxNesting, fun s =>
      answers_every_request_guarded hk _ (Nat.le_refl _) s⟩, fun n o l hn => show_partitions_total_guarded hg n hn o l⟩
  · intro kv buf hb
    exact ⟨(decode_total kv buf hb).2.2.1, wpDecode_noFuel kv buf, (decode_total kv buf hb).2.2.2.1⟩
  · intro split trim unq s f ht hs
    exact fromKV_WF split trim unq ht s f hs

/-- **Every LQL text is answered by the parser** on the tree as it is now: with a stack of 1000 frames (or more) no text
exhausts it — the positive statement that replaces the counterexamples of F25 and F25b. -/
theorem answers_every_request (budget : Nat) (hb : 1000 ≤ budget) (s : Bytes) : (Nesting.parseNow budget s).isPanic = false :=
  answers_every_request_guarded nesting_guard_in_place.2.2 budget (by rw [nesting_guard_in_place.2.1]; exact hb) s

set_option maxRecDepth 100000 in
/-- regression for F25b on the current guard kind with a small limit: the hole text is refused, three levels are parsed -/
example : Nesting.parseG Generated.C13.lqlGuardKind 3 3 holeText = .err ∧
    Nesting.parseG Generated.C13.lqlGuardKind 3 3 [40, 40, 40, 97, 61, 49, 41, 41, 41] = .ok 3 := by
  rw [nesting_guard_in_place.2.2]
  exact ⟨cex_guard_hole.2.2.1, by decide +kernel⟩

/-- on the tree before c80057f only the SHOW PARTITIONS guard was missing -/
theorem C13_holds_with_show_guard (hg : Generated.C13.showPartitionsRejectsNegative = true) : C13_full :=
  C13_holds_with_guards nesting_guard_in_place.2.2 hg

/-- the regenerated fact: a negative OFFSET or LIMIT of SHOW PARTITIONS is refused with an error (commit c80057f) -/
theorem show_partitions_guard_in_place : Generated.C13.showPartitionsRejectsNegative = true := by decide +kernel

/-- **Every SHOW PARTITIONS statement is answered** on the tree as it is now: any OFFSET and LIMIT the parser can deliver, any
number of partitions — the positive statement that replaces the counterexample of F55. -/
theorem show_partitions_total (n : Nat) (hn : (n : Int) < 9223372036854775808) (offset limit : Option Int) :
    (ShowPartitions.showPartitionsNow n offset limit).isPanic = false :=
  show_partitions_total_guarded show_partitions_guard_in_place n hn offset limit

/-- regression for F55 on the current fact: the three witnesses get an error, an ordinary page is served -/
example : ShowPartitions.showPartitionsNow 0 (some (-1)) none = .err ∧ ShowPartitions.showPartitionsNow 1 none (some (-1)) = .err ∧
    ShowPartitions.showPartitionsNow 1 (some (-9223372036854775808)) none = .err ∧
    ShowPartitions.showPartitionsNow 3 (some 1) (some 5) = .ok [1, 2] := by decide +kernel

/-- **C13 holds at full strength** on the tree as it is now (no open finding). -/
theorem C13_holds : C13_full := C13_holds_with_show_guard show_partitions_guard_in_place

end Logrange.Props.C13

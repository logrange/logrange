import Logrange.Proofs.RdRngFwd
import Logrange.Proofs.RdRngBwd
import Logrange.Proofs.RdRngWin
import Logrange.Proofs.RdRngPaging
import Logrange.Proofs.RdRngQueryLift
import Logrange.Proofs.RdRngGrow
import Logrange.Generated.C03
/-!
# C03 with RANGE — the ranged journal iterator (`partition.JIterator` + `chkSelector`) and paging over it

Property theorems only. Model: `Model/RdSelector.lean` (`rGet/rNext/rSetPos/rAdvance/rEnsure`, `getPosForward/Backward`,
`getChunkStatus` with its status cache, `checkPosOrAdvance/Reduce`), function by function. The time index is NOT part of
this model: each chunk value carries the window `[minPos, maxPos]` that `updatePoss` answers for it, and the theorems take
**window soundness** as their input contract — `WinSound j lo hi`: every record of a chunk whose timestamp lies in the range
has its index inside the chunk's window (windows may be wider than the range; that is what C02 proves about the index, and
what the harness checks on the real selector's windows on every run). The re-check of every delivered event against the
range (`fiterator.fitInRange`) is part of the cursor model (`passes`), so wider windows are harmless.

`wflat j` = the records the windows admit, in stored order; `wIdx j s` = the iterator's index into it.
`RWF j s` holds for every state reachable from a fresh iterator by `SetPos` (no chunk open), `SetBackward`, `Get`, `Next`,
`Release` over the fixed journal `j`.
-/
namespace Logrange.Props.C03Ranged
open Logrange.Rd

/-- the code shapes the ranged model and its theorems rest on, regenerated from /repo on every run: `fiterator.Get`
re-checks every event against both range bounds (so windows wider than the range are harmless — `passR` in `paging_ranged`),
and `JIterator.Next` leaves a chunk when its chunk iterator steps outside `[minPos, maxPos]` (`rNext`) -/
theorem code_shape_facts_ranged :
    Logrange.Generated.C03.fiteratorRechecksRange = true ∧
    Logrange.Generated.C03.nextLeavesChunkOutsideWindow = true ∧
    Logrange.Generated.C03.fwdEndPosFromDecisionCount = true ∧
    Logrange.Generated.C03.advanceKeepsIteratorPos = true := by decide

/-- what the model driver prints for `it.spec` on a ranged iterator (`rSpecDrain`, compared with a drain of the real
`partition.JIterator` in its current direction on every run) is what the model iterator delivers, whenever its executable
well-formedness test `rwfB` holds — forward, and backward under `PosIds` / `bw_ChunkBound` -/
theorem ranged_drain_is_spec (j : Journal) (s : RIt) (n : Nat) (hs : Sorted j) (h : rwfB j s = true)
    (hn : (wflat j).length ≤ n) :
    RWF j s ∧ (s.bkwd = false → rDrain j n s = rSpecDrain j s) ∧
    (s.bkwd = true → PosIds j → bw_ChunkBound j → rDrain j n s = rSpecDrain j s) :=
  have hd := fun hdir => (rDrain_view j s n hs hdir (rf_rwfB_sound h)).trans
    (List.take_of_length_le (Nat.le_trans (rSpecDrain_length_le j s) hn))
  ⟨rf_rwfB_sound h, fun hb => hd (fun h' => by rw [hb] at h'; cases h'), fun _ hp hcb => hd (fun _ => ⟨hp, hcb⟩)⟩

/-- `Get` of the ranged iterator returns the admitted record at its index (EOF = none left) and keeps the index -/
theorem ranged_get_forward (j : Journal) (s : RIt) (hs : Sorted j) (hw : RWF j s) (hb : s.bkwd = false) :
    (rGet j s).2 = (wflat j)[wIdx j s]? ∧ wIdx j (rGet j s).1 = wIdx j s ∧ RWF j (rGet j s).1 :=
  let h := rGetFwd j s hs hw hb; ⟨h.1, h.2.2.2.1, h.2.1⟩

/-- `Next` advances the index by exactly one admitted record (it stays at the end) -/
theorem ranged_next_forward (j : Journal) (s : RIt) (hs : Sorted j) (hw : RWF j s) (hb : s.bkwd = false) :
    wIdx j (rNext j s) = min (wIdx j s + 1) (wflat j).length ∧ RWF j (rNext j s) :=
  let h := rNextFwd j s hs hw hb; ⟨h.2.2.2, h.1⟩

/-- from ANY well-formed state, with any fuel: the first `n` admitted records from the iterator's index on -/
theorem ranged_drain_take (j : Journal) (s : RIt) (n : Nat) (hs : Sorted j) (hw : RWF j s) (hb : s.bkwd = false) :
    rDrain j n s = ((wflat j).drop (wIdx j s)).take n := rf_drain_eq j s n hs hw hb

/-- after `k` rounds of `Get; Next` the iterator stands `k` admitted records further (or at the end) -/
theorem ranged_pos_after (j : Journal) (s : RIt) (k : Nat) (hs : Sorted j) (hw : RWF j s) (hb : s.bkwd = false) :
    wIdx j (rStepK j k s) = min (wIdx j s + k) (wflat j).length :=
  (rf_pos_after j s k hs hw hb).1

/-- **ranged_iter_enumerates** (forward): for ALL sorted journals, chunk layouts (empty chunks, empty windows), windows
that are sound for the range, and ALL positions: draining the ranged iterator from the position and re-checking the range
(as `fiterator.Get` does) yields exactly the stored records from that position on whose timestamp is in the range, in
stored order — the filter of what the un-ranged iterator yields (`C03.iter_enumerates`). -/
theorem ranged_iter_enumerates (j : Journal) (p : Pos) (n : Nat) (lo hi : Option Int) (hs : Sorted j)
    (hw : WinSound j lo hi) (hn : (flat j).length ≤ n) :
    (rDrain j n (rSetPos j {} p)).filter (inRange lo hi) = (recordsFrom j p).filter (inRange lo hi) ∧
    (rDrain j n (rSetPos j {} p)).filter (inRange lo hi) = (drain j n (setPos j {} p)).filter (inRange lo hi) := by
  have e1 : (rDrain j n (rSetPos j {} p)).filter (inRange lo hi) = (recordsFrom j p).filter (inRange lo hi) := by
    rw [rf_drain_fresh j p n hs hn, rwn_filter_from hs (hw.toF (f := inRange lo hi) (fun _ h => h)) p]; rfl
  refine ⟨e1, ?_⟩
  obtain ⟨g1, g2, g3⟩ := setPos_fresh j p
  have hwl : WF j (setPos j {} p) := by unfold WF; rw [g1]; trivial
  have := Logrange.Rd.iter_enumerates j (setPos j {} p) n hs hwl g3 hn
  rw [e1, this]; unfold effPos; rw [g1]; simp [g2]

/-! ### backward (hypotheses as for the library iterator: `PosIds` — no chunk id 0 —, `bw_ChunkBound` — ≤ 2^32 records per chunk) -/

/-- backward `Get` returns the admitted record just before the iterator's count (EOF at 0) and keeps the count -/
theorem ranged_get_backward (j : Journal) (s : RIt) (hs : Sorted j) (hp : PosIds j) (hcb : bw_ChunkBound j)
    (hw : RWF j s) (hb : s.bkwd = true) :
    (rGet j s).2 = (if wbCount j s = 0 then none else (wflat j)[wbCount j s - 1]?) ∧
    wbCount j (rGet j s).1 = wbCount j s ∧ RWF j (rGet j s).1 :=
  let h := rGetBwd j s hs hp hcb hw hb; ⟨h.1, h.2.2.2.1, h.2.1⟩

/-- backward `Next` steps back over exactly one admitted record -/
theorem ranged_next_backward (j : Journal) (s : RIt) (hs : Sorted j) (hp : PosIds j) (hcb : bw_ChunkBound j)
    (hw : RWF j s) (hb : s.bkwd = true) :
    wbCount j (rNext j s) = wbCount j s - 1 ∧ RWF j (rNext j s) :=
  let h := rNextBwd j s hs hp hcb hw hb; ⟨h.2.2, h.1⟩

/-- **ranged_iter_enumerates, backward**: from ANY position, switched backward and drained, with the range re-check: exactly
the stored records at or before that position whose timestamp is in the range, in REVERSED stored order. -/
theorem ranged_iter_enumerates_backward (j : Journal) (p : Pos) (n : Nat) (lo hi : Option Int) (hs : Sorted j)
    (hp : PosIds j) (hcb : bw_ChunkBound j) (hw : WinSound j lo hi) (hn : (flat j).length ≤ n) :
    (rDrain j n (rSetBackward (rSetPos j {} p) true)).filter (inRange lo hi) =
      (((flat j).take (flatIdx j ⟨p.cid, p.idx + 1⟩)).filter (inRange lo hi)).reverse := by
  obtain ⟨h1, h2, h3, h4⟩ := rw_setPos_fresh j p
  have hci : (rSetBackward (rSetPos j {} p) true).ci = none := h1
  have hwf : RWF j (rSetBackward (rSetPos j {} p) true) := by unfold RWF; rw [hci]; exact Or.inl h4
  have hcnt : wbCount j (rSetBackward (rSetPos j {} p) true) = wflatIdx j ⟨p.cid, p.idx + 1⟩ := by
    unfold wbCount; rw [hci]
    have e1 : (rSetPos j {} p).cid = p.cid := congrArg Pos.cid h2
    have e2 : (rSetPos j {} p).idx = p.idx := congrArg Pos.idx h2
    show wflatIdx j ⟨(rSetPos j {} p).cid, (rSetPos j {} p).idx + 1⟩ = _
    rw [e1, e2]
  rw [rb_drain_eq j _ n hs hp hcb hwf rfl, hcnt, List.take_of_length_le (by
      have := rp_wflat_length_le j
      simp only [List.length_reverse, List.length_take]; omega),
    List.filter_reverse, rwn_filter_upto hs (hw.toF (f := inRange lo hi) (fun _ h => h))]

/-- **paging with RANGE** (one partition, ± WHERE), for ALL sorted journals, windows sound for the range, limit lists and
per-page environment choices (the held cursor object continues | a new cursor is built from the position text): the
concatenated pages are the first Σ limits of the stored events that match (range re-check and WHERE), in stored order.
`pagesR` = `newCursor` over the ranged iterator under the `fiterator`, first page from `head`, page = read loop + `commit`. -/
theorem paging_ranged (name : Nat) (w : Bool) (lo hi : Option Int) (j : Journal) (l0 : Nat) (steps : List PStep)
    (hs : Sorted j) (hw : WinSound j lo hi) (hfix : ∀ st ∈ steps, st.jrnl = j) :
    (pagesR lo hi name w j l0 steps).flatten =
      ((flat j).filter (passR lo hi w)).take (l0 + (steps.map (·.limit)).sum) := by
  rw [rp_paging lo hi rGetFwd rNextFwd hs l0 steps hfix,
    rwn_filter_wflat (hw.toPassR w)]

/-- **paging with RANGE at the request level** (`Querier.Query` + provider: limit clamp by the regenerated `QueryMaxLimit`,
cache flag, held cursor found by id + `ApplyState`, new cursor otherwise, ids zeroed for un-held cursors; client modes
follow / evicted / id zeroed / position only), one partition, ± WHERE, fixed store -/
theorem paging_query_level_ranged (j : Journal) (w : Bool) (lo hi : Option Int) (l0 : Nat) (steps : List Step)
    (hs : Sorted j) (hw : WinSound j lo hi) (hall : ∀ s ∈ steps, s.store' = none) :
    (pages Logrange.Generated.C03.queryMaxLimit { store := [(0, j)] }
        { query := some (qRng lo hi w), limit := l0, wait := true } steps).flatten
      = ((flat j).filter (passR lo hi w)).take
          ((l0 :: steps.map (·.limit)).map (fun l => min l Logrange.Generated.C03.queryMaxLimit)).sum := by
  rw [rq_pages lo hi rGetFwd rNextFwd hs _ l0 true steps hall,
    rwn_filter_wflat (hw.toPassR w)]

/-! ### appends between pages under RANGE: the contract needed from the index side (C02) — stated, not used yet -/

/-- **window monotonicity under appends** (request to C02's owner): when a partition grows (`Grows j j'`: appends only),
the window the selector computes for the grown journal still admits everything the old window admitted that is in range,
never re-opens below the old lower end of a chunk that was already partly read, and every in-range record of `j'` is
admitted (`WinSound j'`). With this, a settled position keeps its admitted-index (`wflatIdx j' p = wflatIdx j p` restricted to
in-range records) and `appends_between_pages` carries over to RANGE as `position_survives_appends` did for the library
iterator. Formally, per chunk id: the in-range records of the old chunk value sit at the same indices, inside both windows. -/
def WinMonotone (j j' : Journal) (lo hi : Option Int) : Prop :=
  Grows j j' ∧ WinSound j lo hi ∧ WinSound j' lo hi ∧
  ∀ c ∈ j, ∀ c' ∈ j', c.id = c'.id →
    (∀ (k : Nat) (r : Rec), c.recs[k]? = some r → inRange lo hi r = true → c'.minPos ≤ k ∧ k ≤ c'.maxPos) ∧
    (∀ (k : Nat) (r : Rec), c'.recs[k]? = some r → c'.minPos ≤ k → k < c.minPos → k < c.cnt → inRange lo hi r = false)

/-- **appends_between_pages with RANGE**: when the journal grows between pages (`GrowsChainR`: appends only, every journal
value sorted and with windows SOUND for the range — which for the real time index is `Props/C02Win.lean`:
`rd_window_sound_pipeline`, `win_monotone_of_win_sound`/`win_monotone_pipeline` being the body of `WinMonotone` above —, pages
after a change served by a new cursor built from the position text, a held cursor only while the journal is unchanged), the
concatenated pages are a prefix of the matching events of the FINAL journal in stored order — nothing twice, nothing foreign,
later appends later — and if the last page came back shorter than its limit they are all of them. -/
theorem appends_between_pages_ranged (name : Nat) (w : Bool) (lo hi : Option Int) (j0 : Journal) (l0 : Nat)
    (steps : List PStep) (hne : j0 ≠ []) (hs : Sorted j0) (hw : WinSound j0 lo hi) (hch : GrowsChainR lo hi j0 steps) :
    ∃ R, (flat (lastJ j0 steps)).filter (passR lo hi w) = (pagesR lo hi name w j0 l0 steps).flatten ++ R ∧
      (∀ st evs, steps.getLast? = some st → (pagesR lo hi name w j0 l0 steps).getLast? = some evs →
        evs.length < st.limit → R = []) :=
  rg_pages_grow lo hi j0 l0 steps hne hs hw hch

/-! ### non-vacuity and the boundary of `RWF`, evaluated by the kernel -/

def rr (l : Nat) (t : Int) (k : Bool := true) : Rec := { lbl := l, ts := t, keep := k }
/-- three chunks: window narrower than the chunk but WIDER than the range; an empty chunk; a chunk wholly outside -/
def jw : Journal :=
  [⟨10, [rr 0 10, rr 1 11, rr 2 12 false, rr 3 12, rr 4 13, rr 5 14], 1, 4⟩, ⟨20, [], 0, maxU32⟩,
   ⟨30, [rr 6 14, rr 7 15], maxU32, maxU32⟩, ⟨40, [rr 8 12, rr 9 13, rr 10 20], 0, 1⟩]

example : Sorted jw ∧ WinSound jw (some 12) (some 13) := by
  refine ⟨by unfold Sorted jw; decide, ?_⟩
  intro c hc k r hr hin
  simp only [jw, List.mem_cons, List.mem_nil_iff, or_false] at hc
  rcases hc with rfl | rfl | rfl | rfl
  · match k, hr with
    | 0, hr | 1, hr | 5, hr => simp at hr; subst hr; simp [inRange, rr] at hin
    | 2, _ | 3, _ | 4, _ => simp
    | k + 6, hr => simp at hr
  · simp at hr
  · match k, hr with
    | 0, hr | 1, hr => simp at hr; subst hr; simp [inRange, rr] at hin
    | k + 2, hr => simp at hr
  · match k, hr with
    | 0, _ | 1, _ => simp
    | 2, hr => simp at hr; subst hr; simp [inRange, rr] at hin
    | k + 3, hr => simp at hr

/-- the chain of `paging_ranged` on `jw` with WHERE: a fresh cursor, then the same one -/
example : (pagesR (some 12) (some 13) 0 true jw 1 [⟨.fresh, 1, jw⟩, ⟨.same, 5, jw⟩]).flatten
    = [rr 3 12, rr 4 13, rr 8 12, rr 9 13] := by decide +kernel

/-- the request-level chain on `jw` with WHERE: follow, then position only -/
example : (pages Logrange.Generated.C03.queryMaxLimit { store := [(0, jw)] }
      { query := some (qRng (some 12) (some 13) true), limit := 1, wait := true }
      [{ resume := .follow, limit := 1, wait := true }, { resume := .posOnly, limit := 7 }]).flatten
    = [rr 3 12, rr 4 13, rr 8 12, rr 9 13] := by decide +kernel

/-- `ranged_iter_enumerates` on `jw` for positions before/inside/between/after the chunks and `tail` -/
theorem ranged_iter_enumerates_jw :
    ∀ cid ∈ [0, 9, 10, 11, 20, 25, 30, 40, 41, tailCid], ∀ idx ∈ [0, 1, 2, 3, 5, 6, maxU32],
      (rDrain jw 12 (rSetPos jw {} ⟨cid, idx⟩)).filter (inRange (some 12) (some 13))
        = (recordsFrom jw ⟨cid, idx⟩).filter (inRange (some 12) (some 13)) := by decide +kernel

/-- why `RWF` excludes a chunk iterator standing BEFORE its window: `SetPos` into the open chunk is not window-checked by
the code (`JIterator.SetPos` only moves the chunk iterator), and `Next` then leaves the chunk as soon as the next index is
outside the window — the admitted records 2..4 of chunk 10 are skipped. Positions the system hands out are never before
a sound window (they are positions of matching events or end positions), so paging is not affected. -/
theorem cex_setpos_into_open_chunk_before_window :
    let jx : Journal := [⟨10, [rr 0 10, rr 1 11, rr 2 12, rr 3 12, rr 4 13, rr 5 14], 2, 4⟩,
                         ⟨40, [rr 8 12, rr 9 13, rr 10 20], 0, 1⟩]
    let s := (rGet jx {}).1                       -- chunk 10 open at index 2
    (rDrain jx 12 (rSetPos jx s ⟨10, 0⟩)).map (·.lbl) = [0, 8, 9] ∧
    (rDrain jx 12 (rSetPos jx {} ⟨10, 0⟩)).map (·.lbl) = [2, 3, 4, 8, 9] := by decide +kernel

/-- non-vacuity: the chunk grows between two pages (its window with it), the second page is served by a new cursor -/
example :
    let j0 : Journal := [⟨10, [rr 0 10, rr 1 12, rr 2 12], 1, 2⟩]
    let j1 : Journal := [⟨10, [rr 0 10, rr 1 12, rr 2 12, rr 3 13, rr 4 14], 1, 3⟩, ⟨20, [rr 5 12], 0, maxU32⟩]
    (pagesR (some 12) (some 13) 0 false j0 1 [⟨.fresh, 5, j1⟩]).flatten = [rr 1 12, rr 2 12, rr 3 13, rr 5 12] := by
  decide +kernel

end Logrange.Props.C03Ranged

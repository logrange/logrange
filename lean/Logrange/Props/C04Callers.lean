import Logrange.Proofs.MixerErrRun
import Logrange.Proofs.MixTree
import Logrange.Generated.C04
/-!
# C04 — one model for reads and failures; what the callers of the merged cursor make of a failing source; attribution up to
the query result

Property theorems only (model: `Logrange/Model/MixerErr.lean` — the mixer with the non-EOF branch of `selectState`, `crsr.Offset`,
`iterateToPos` and the read loop of the two `Query` functions on top of it; lemmas: `Logrange/Proofs/MixerErrRun.lean`).

Reading guide. A source `σ` has two reads: `Source.get` — the read of the *proved* model (`Props/C04.lean`: what the partition
holds; `none` = `io.EOF`) — and `SourceE.getE`, the real read, which may also answer an error that is not `io.EOF`.
`LawfulSourceE`: when the real read does not fail it is the proved model's read. `It.getE`/`It.nextE` are `Mixer.Get`/`Next` with
the error branch; `Release`/`SetBackward` do not look at errors and are shared by the two models.
`P` is a set of source states in which the record under the iterator cannot be read, persistently (`It.Persistent P`: `Get`
fails and stays; `Release` and a direction switch do not move the source off the record).
-/
namespace Logrange.Props.C04Callers
open Logrange Logrange.Mixer

variable {σ : Type} [SourceE σ]
set_option linter.unusedSectionVars false

/-! ## the regenerated facts about the callers are the ones the model is written for -/

/-- as read from `/repo` on this run: both `Query` read loops stop at the first error of `cur.Get`, emit only when there was none
and answer a page only after `err == nil || err == io.EOF` (else the error and no page); `Offset` is called once before the
loop; the tag line travels with its event through `Mixer`, `LogEventIterator`, the filter iterator, `newCursor`'s `Wrap` and into
`le.Tags` of every result event, and the RPC encoder writes it for every event (third field); `GetJournals` is called only by
`itfactory.GetJournals` ← `getSourcesByState` ← `newCursor` ← `provider.GetOrCreate` ← {the two `Query` functions, the pipe worker
(which reads a single journal by `Src`, never a merge)}, and the merge-limit error — a real error value — is handed on by every one
of them. -/
theorem caller_facts :
    Generated.C04.backendQueryFailsOnError = true ∧ Generated.C04.rpcQueryFailsOnError = true ∧
    Generated.C04.queryCallsOffsetBeforeLoop = true ∧
    Generated.C04.mixerKeepsTagsWithEvent = true ∧ Generated.C04.leafReportsOwnTags = true ∧
    Generated.C04.filterKeepsTagsWithEvent = true ∧ Generated.C04.cursorWrapsJournalWithItsTagLine = true ∧
    Generated.C04.queryResultCarriesTags = true ∧
    Generated.C04.wireEventFieldOrder = ["Timestamp", "Message", "Tags", "Fields"] ∧
    Generated.C04.getJournalsCallers = ["pkg/cursor.getSourcesByState", "pkg/cursor.itfactory.GetJournals"] ∧
    Generated.C04.newCursorCallers = ["pkg/cursor.provider.GetOrCreate"] ∧
    Generated.C04.getOrCreateCallers = ["api/rpc.ServerQuerier.query", "pkg/backend.Querier.Query", "pkg/pipe.worker.run"] ∧
    Generated.C04.limitErrorPropagates = true ∧ Generated.C04.limitErrorConstructor = "errors.Errorf" ∧
    Generated.C04.commitReleasesLast = true ∧ Generated.C04.applyStatePosParsesBeforeMoving = true ∧
    Generated.C04.fieldsCacheRefreshedOnAnyDifference = true :=
  ⟨rfl, rfl, rfl, rfl, rfl, rfl, rfl, rfl, rfl, rfl, rfl, rfl, rfl, rfl, rfl, rfl, rfl⟩

/-! ## ONE model -/

/-- **the error model is the proved model wherever nothing fails — tree level, any nesting, any state.** A `Get` of a tree of
mixers that does not answer an error answers what the proved model's `Get` answers and leaves the tree in the proved model's
state (the sources may well fail elsewhere: only the answers the mixers ask for matter). -/
theorem get_without_error_is_the_proved_get [LawfulSourceE σ] (t : It σ) (h : t.getE.2 ≠ .err) :
    t.getE = (t.get.1, Res.ofOption t.get.2) := It.getE_ok t h

/-- **over sources that never fail the two models are the same functions**: `Get`, `Next` and the read loop (which then never
fails); `Release` and `SetBackward` are shared by definition. Every theorem of `Props/C04.lean` (refinement to the pure merge,
`multi_read`, …) is therefore a theorem about the error model on error-free sources. -/
theorem error_model_is_the_proved_model [LawfulSourceE σ] (hN : ∀ s : σ, (SourceE.getE s).2 ≠ .err) (t : It σ) (n : Nat) :
    t.getE = (t.get.1, Res.ofOption t.get.2) ∧ t.nextE = t.next ∧
    It.pageE n t = ((It.page n t).1, (It.page n t).2, false) :=
  ⟨It.getE_errfree hN t, It.nextE_errfree hN t, It.pageE_errfree hN n t⟩

/-- **the refinement theorem on the error model**: `Mixer.Init(GetEarliest, a, b)` over iterators that never fail, read by the
loop of `Query` with the error branch in place, delivers the pure merge of the two streams and ends with `io.EOF`, not with an
error (`a`, `b`: leaves or mixer trees in any reachable state, running forward). -/
theorem mixer_refines_merge_on_error_model [LawfulSourceE σ] [LawfulSource σ]
    (hN : ∀ s : σ, (SourceE.getE s).2 ≠ .err) (a b : It σ) (wa : a.WF) (wb : b.WF)
    (da : a.dir = false) (db : b.dir = false) (n : Nat) (hn : a.view.length + b.view.length ≤ n) :
    (It.pageE n (It.init a b)).2 = (mergeSpec false a.view b.view, false) := by
  have hw := (It.init_WF a b wa wb da db).1
  obtain ⟨p1, _, _⟩ := It.page_eq_take n _ hw
  rw [It.pageE_errfree hN n]
  simp only [p1, It.init_view]
  rw [List.take_of_length_le]
  rw [(Logrange.Mixer.mergeSpec_perm _ _ _).length_eq, List.length_append]; exact hn

/-! ## a failing source and the callers -/

/-- **a `Get` that fails leaves the merged cursor blocked, and nothing a caller can do un-blocks it.** Failures are persistent
(`hE`: a failing read leaves the source in `P`). After a `Get` of a merge (root a mixer) answered the error, the tree is
`Blocked P`; `Get` (again the error), `Next` (drops the error, advances nothing), `Release`, `SetBackward` keep it so. -/
theorem failed_get_blocks_for_good (P : σ → Prop) (hP : It.Persistent P)
    (hE : ∀ s : σ, (SourceE.getE s).2 = .err → P (SourceE.getE s).1)
    (t : It σ) (hm : t.isMix) (h : t.getE.2 = .err) (ops : List It.Op) :
    let t' := ops.foldl (fun u op => (u.stepE op).1) t.getE.1
    t'.Blocked P ∧ t'.getE.2 = .err := by
  intro t'
  have hb : t.getE.1.Blocked P := It.getE_err_blocked P hE t h
  have hm' : t.getE.1.isMix := It.getE_isMix t hm
  suffices ∀ (ops : List It.Op) (u : It σ), u.isMix → u.Blocked P →
      (ops.foldl (fun u op => (u.stepE op).1) u).Blocked P by
    have hb' := this ops _ hm' hb
    exact ⟨hb', (It.getE_blocked P hP.getE _ hb').1⟩
  intro ops
  induction ops with
  | nil => intro u _ hu; exact hu
  | cons op ops ih =>
    intro u hmu hu
    exact ih _ (It.stepE_isMix u hmu op) (It.blocked_stepE P hP u hmu hu op)

/-- **any caller of the merged cursor** — `Offset` with the errors it drops, `iterateToPos`, `ApplyState`'s switch there and
back, `State`, `WaitNewData`'s `Release`, in any order, deciding from everything it has seen (answers, `CurrentPos`, … : `obs`) —
**drives the error model step by step like the proved model (same decisions, same answers, none of them an error, same final
tree), or ends on a blocked tree.** -/
theorem caller_sees_proved_model_or_blocks [LawfulSourceE σ] {ω : Type} (P : σ → Prop) (hP : It.Persistent P)
    (hE : ∀ s : σ, (SourceE.getE s).2 = .err → P (SourceE.getE s).1)
    (obs : It σ → ω) (c : It.Caller ω) (n : Nat) (t : It σ) (hs : t.Sane) (hm : t.isMix) :
    It.runE obs c n t [] = It.run obs c n t [] ∨ (It.runE obs c n t []).1.Blocked P :=
  It.runE_dich P hP hE obs c n t [] hs hm

/-- **a failing source never leads to a silently incomplete page.** A merged cursor (root a mixer) in any reachable state `t`; any
caller program runs first (`c`, `n` steps: `Offset`, a re-position, … — whatever errors it drops); then the read loop of
`Query` with a limit `lim ≥ 1`. Either the loop ends with the error — the query then answers the error and no page (regenerated
facts `backendQueryFailsOnError`, `rpcQueryFailsOnError`) — or the page is exactly the first `lim` events of the complete merge
that the proved model — in which every record can be read — delivers after the same caller program: nothing of any partition is
left out, whatever failed on the way. -/
theorem failing_source_never_gives_incomplete_page [LawfulSourceE σ] [LawfulSource σ] {ω : Type}
    (P : σ → Prop) (hP : It.Persistent P) (hE : ∀ s : σ, (SourceE.getE s).2 = .err → P (SourceE.getE s).1)
    (obs : It σ → ω) (c : It.Caller ω) (n lim : Nat) (hl : 0 < lim) (t : It σ) (hw : t.WF) (hm : t.isMix)
    (hwB : (It.run obs c n t []).1.WF) :
    (It.pageE lim (It.runE obs c n t []).1).2.2 = true ∨
    ((It.pageE lim (It.runE obs c n t []).1).2.2 = false ∧
     (It.pageE lim (It.runE obs c n t []).1).2.1 = (It.run obs c n t []).1.view.take lim) := by
  rcases It.runE_dich P hP hE obs c n t [] (It.WF_sane t hw) hm with q | q
  · rw [q]
    rcases It.pageE_dich P hP.getE hE lim _ (It.WF_sane _ hwB) with r | ⟨r1, r2, _⟩
    · left; exact r
    · right; exact ⟨r1, by rw [r2, (It.page_eq_take lim _ hwB).1]⟩
  · left
    cases lim with
    | zero => omega
    | succ k => exact It.pageE_of_err k _ (It.getE_blocked P hP.getE _ q).1

/-- the hypotheses are met by in-memory partitions with an unreadable record: every failure of a sticky leaf is persistent -/
theorem sticky_leaf_failures_are_persistent :
    It.Persistent StickyLeaf.OnBad ∧ ∀ s : StickyLeaf, (SourceE.getE s).2 = .err → StickyLeaf.OnBad (SourceE.getE s).1 :=
  ⟨StickyLeaf.persistent, StickyLeaf.err_onBad⟩

-- non-vacuity: a fresh merge of two in-memory partitions, the first record of the second cannot be read: sane, a mixer, and the
-- first `Get` fails
example : ∃ t : It StickyLeaf, t.Sane ∧ t.isMix ∧ t.getE.2 = .err :=
  ⟨It.init (.leaf ⟨{ l := ⟨1, [⟨1, 0⟩], 0, false⟩ }, rfl⟩) (.leaf ⟨{ l := ⟨2, [⟨5, 0⟩], 0, false⟩, bad := [0] }, rfl⟩),
    by simp [It.init, It.Sane], by simp [It.init, It.isMix], by decide +kernel⟩

/-! ## `Offset` drops the error: persistent failures fail the query, a transient one moves the page -/

private def pa (bad : List Nat) (sticky : Bool) : LeafE := { l := ⟨1, [⟨1, 0⟩, ⟨3, 1⟩, ⟨5, 2⟩], 1, false⟩, bad := bad, sticky := sticky }
private def pb : LeafE := { l := ⟨2, [⟨2, 0⟩, ⟨4, 1⟩, ⟨6, 2⟩], 1, false⟩ }

/-- `crsr.Offset` drops every error its `Get`s answer. Partition 1 = `[1, 3, 5]`, partition 2 = `[2, 4, 6]`, the cursor stands
behind `1` and `2`; the query asks for offset −1, limit 10. All records readable: the page is `2 … 6`. Record `3` unreadable for
good: the query fails. Record `3` unreadable **once** (a transient failure — e.g. no file descriptor at that moment): `Offset`'s
first `Get` fails, the position to come back to is unknown, and the query answers the page `3 … 6` *without an error*: one event
short of what was asked for (finding F-C04-901; the page is still the complete merge from where it starts). -/
theorem cex_offset_drops_transient_error :
    (It.init (.leaf (pa [] true)) (.leaf pb)).queryE 20 true (-1) 10 =
      some [⟨2, 0, 2⟩, ⟨3, 1, 1⟩, ⟨4, 1, 2⟩, ⟨5, 2, 1⟩, ⟨6, 2, 2⟩] ∧
    (It.init (.leaf (pa [1] true)) (.leaf pb)).queryE 20 true (-1) 10 = none ∧
    (It.init (.leaf (pa [1] false)) (.leaf pb)).queryE 20 true (-1) 10 =
      some [⟨3, 1, 1⟩, ⟨4, 1, 2⟩, ⟨5, 2, 1⟩, ⟨6, 2, 2⟩] := by
  decide +kernel

/-! ## attribution up to the query result -/

/-- `api.LogEvent` as the two `Query` functions fill it from what `cur.Get` hands out: `le.Tags = string(tags)` for every event
(regenerated fact `queryResultCarriesTags`; nothing is elided when consecutive events have the same tag line — the RPC encoder
writes `ev.Tags` for every event: `writeLogEvent`, fact `wireEventFieldOrder`) -/
structure ApiEv where
  ts : Int
  msg : Nat
  tagsText : Nat
deriving DecidableEq, Repr

/-- the events of the query result, in order -/
def resultEvents (page : List Ev) : List ApiEv :=
  if Generated.C04.queryResultCarriesTags then page.map (fun e => ⟨e.ts, e.msg, e.tags⟩) else page.map (fun e => ⟨e.ts, e.msg, 0⟩)

/-- **every event of a query result carries the tag line of the partition it is stored in.** The merged cursor (any reachable
state, any caller program before, failing sources or not); `tagOf s` the tag line `newCursor` wrapped source `s` with (fact
`cursorWrapsJournalWithItsTagLine`), and every source reports its records under it (`hleaf`: `leaf_attribution`,
`multi_read_journals`). If the query answers a page, the `i`-th event of the result is the `i`-th event of the complete merge, and
its `Tags` text is the tag line of a source of the cursor that holds this very event. -/
theorem query_result_attribution [LawfulSourceE σ] [LawfulSource σ] {ω : Type}
    (P : σ → Prop) (hP : It.Persistent P) (hE : ∀ s : σ, (SourceE.getE s).2 = .err → P (SourceE.getE s).1)
    (obs : It σ → ω) (c : It.Caller ω) (n lim : Nat) (hl : 0 < lim) (t : It σ) (hw : t.WF) (hm : t.isMix)
    (hwB : (It.run obs c n t []).1.WF)
    (tagOf : σ → Nat) (hleaf : ∀ s ∈ (It.run obs c n t []).1.leaves, ∀ e ∈ LawfulSource.view s, e.tags = tagOf s)
    (hok : (It.pageE lim (It.runE obs c n t []).1).2.2 = false) :
    let res := resultEvents (It.pageE lim (It.runE obs c n t []).1).2.1
    res = ((It.run obs c n t []).1.view.take lim).map (fun e => ⟨e.ts, e.msg, e.tags⟩) ∧
    ∀ a ∈ res, ∃ s ∈ (It.run obs c n t []).1.leaves, ∃ e ∈ LawfulSource.view s,
      a = ⟨e.ts, e.msg, e.tags⟩ ∧ a.tagsText = tagOf s := by
  intro res
  have hf : Generated.C04.queryResultCarriesTags = true := by decide
  have hp : (It.pageE lim (It.runE obs c n t []).1).2.1 = (It.run obs c n t []).1.view.take lim := by
    rcases failing_source_never_gives_incomplete_page P hP hE obs c n lim hl t hw hm hwB with r | ⟨_, r⟩
    · rw [hok] at r; exact absurd r (by simp)
    · exact r
  have e1 : res = ((It.run obs c n t []).1.view.take lim).map (fun e => ⟨e.ts, e.msg, e.tags⟩) := by
    show resultEvents _ = _
    unfold resultEvents
    rw [hf, hp]; rfl
  refine ⟨e1, ?_⟩
  intro a ha
  rw [e1] at ha
  obtain ⟨e, he, rfl⟩ := List.mem_map.mp ha
  have hv : e ∈ (It.run obs c n t []).1.view := List.mem_of_mem_take he
  have := (It.view_perm_leaves _).mem_iff.mp hv
  obtain ⟨s, hs, hes⟩ := List.mem_flatMap.mp this
  exact ⟨s, hs, e, hes, rfl, hleaf s hs e hes⟩

/-! ## the fields text of the result events (the one-entry cache of both read loops) -/

/-- a result event with the text of its fields -/
structure ApiEvF where
  ts : Int
  msg : Nat
  tagsText : Nat
  fieldsText : Nat
deriving DecidableEq, Repr

/-- the loop body of both `Query` functions as far as the fields go, **as the code is now**: `fld e` = the fields stored with record
`e` (`0` = none; reading the partition alone returns exactly these), `cf` = the cached fields (`flds`), `ct` = the text made of them
(`kvsFields`). `if lge.Fields != flds { kvsFields = lge.Fields.AsKVString(); flds = lge.Fields.MakeCopy() }` when the regenerated
fact `fieldsCacheRefreshedOnAnyDifference` holds; otherwise the narrower refresh that skips events without fields. -/
def buildResultF (fld : Ev → Nat) : Nat → Nat → List Ev → List ApiEvF
  | _, _, [] => []
  | cf, ct, e :: es =>
    let refresh := if Generated.C04.fieldsCacheRefreshedOnAnyDifference then fld e != cf else (fld e != 0 && fld e != cf)
    let cf' := if refresh then fld e else cf
    let ct' := if refresh then fld e else ct
    ⟨e.ts, e.msg, e.tags, ct'⟩ :: buildResultF fld cf' ct' es

/-- the same with the refresh rule as a parameter (for the counterexample) -/
def buildResultFWith (any : Bool) (fld : Ev → Nat) : Nat → Nat → List Ev → List ApiEvF
  | _, _, [] => []
  | cf, ct, e :: es =>
    let refresh := if any then fld e != cf else (fld e != 0 && fld e != cf)
    let cf' := if refresh then fld e else cf
    let ct' := if refresh then fld e else ct
    ⟨e.ts, e.msg, e.tags, ct'⟩ :: buildResultFWith any fld cf' ct' es

theorem buildResultF_spec (fld : Ev → Nat) (page : List Ev) : ∀ c : Nat,
    buildResultF fld c c page = page.map (fun e => ⟨e.ts, e.msg, e.tags, fld e⟩) := by
  have hf : Generated.C04.fieldsCacheRefreshedOnAnyDifference = true := by decide
  induction page with
  | nil => intro c; rfl
  | cons e es ih =>
    intro c
    simp only [buildResultF, hf, if_true, List.map_cons]
    by_cases h : fld e = c
    · subst h; simp [ih]
    · simp [h, ih]

/-- **every event of a query result carries the fields text of its own record** — what reading its partition alone returns —, and
its tag line, whatever events of other partitions (with other fields, or none) stand before it in the merged stream: the loops
start with an empty cache (`flds = ""`, `kvsFields = ""`) and refresh it on every difference (regenerated fact). With
`failing_source_never_gives_incomplete_page`: the result is the first `lim` events of the complete merge, each with its own tag line
and its own fields. -/
theorem query_result_fields (fld : Ev → Nat) (page : List Ev) :
    buildResultF fld 0 0 page = page.map (fun e => ⟨e.ts, e.msg, e.tags, fld e⟩) :=
  buildResultF_spec fld page 0

/-- the narrower refresh (`len(Fields) > 0 && Fields != flds`) sends an event WITHOUT fields with the text of the previous event:
partition 1 written with fields `7`, partition 2 without; merged `[e1 (p1), e2 (p2)]` -/
theorem cex_narrow_refresh_leaks_fields :
    let fld : Ev → Nat := fun e => if e.tags = 1 then 7 else 0
    buildResultFWith false fld 0 0 [⟨10, 0, 1⟩, ⟨11, 0, 2⟩] = [⟨10, 0, 1, 7⟩, ⟨11, 0, 2, 7⟩] ∧
    buildResultFWith true fld 0 0 [⟨10, 0, 1⟩, ⟨11, 0, 2⟩] = [⟨10, 0, 1, 7⟩, ⟨11, 0, 2, 0⟩] := by
  decide

/-! ## what a held cursor keeps between two requests -/

/-- the iterator tree `crsr.commit` leaves in the provider's cache at the end of a request, **as the code is now**: `State` (its
`Get` selects, and may set sticky `eof` flags) and `Release` in the order the regenerated fact `commitReleasesLast` says -/
def commitTree (t : It σ) : It σ :=
  if Generated.C04.commitReleasesLast then t.get.1.release else t.release.get.1

/-- **the tree a held cursor keeps from one page to the next is a released one** — no `eof` flag set, no mixer in the "both ended"
state: exactly the hypothesis under which `appends_between_pages` (Props/C04.lean) shows that records appended between two pages
are read, in order, by the continued cursor. (With the two steps of `commit` swapped the `Get` inside `State` would set the flag of
an exhausted partition again after the reset: `cex_sticky_eof_hides_append` is what happens then.) -/
theorem held_cursor_tree_is_released [LawfulSource σ] (t : It σ) : (commitTree t).Released := by
  have hf : Generated.C04.commitReleasesLast = true := by decide
  unfold commitTree
  rw [hf]
  exact It.release_Released _

/-- `crsr.applyStatePos` on a position string of elements `(journal, parsed position or malformed)`, as the code is now (regenerated
fact `applyStatePosParsesBeforeMoving`): everything is parsed first, and only a string without a malformed element moves iterators;
the alternative — apply each element as soon as it is parsed — moves the iterators named before the first malformed element -/
def applyStatePosModel (els : List (Nat × Option Int)) (pos : Nat → Int) : (Nat → Int) × Bool :=
  if Generated.C04.applyStatePosParsesBeforeMoving then
    (if els.all (fun e => e.2.isSome) then
      (els.foldl (fun p e => fun j => if j = e.1 then e.2.getD 0 else p j) pos, true) else (pos, false))
  else
    els.foldl (fun (acc : (Nat → Int) × Bool) e =>
      if acc.2 then (match e.2 with
        | some v => (fun j => if j = e.1 then v else acc.1 j, true)
        | none => (acc.1, false)) else acc) (pos, true)

/-- **a refused position moves nothing**: when `ApplyState` answers an error for a held cursor (the provider then keeps the cursor
in its cache with its old `state.Pos`), no journal iterator under the live mixer tree has been moved — so the ordinary
continuation still reads from the position the cursor claims -/
theorem refused_position_moves_nothing (els : List (Nat × Option Int)) (pos : Nat → Int)
    (h : (applyStatePosModel els pos).2 = false) : (applyStatePosModel els pos).1 = pos := by
  have hf : Generated.C04.applyStatePosParsesBeforeMoving = true := by decide
  unfold applyStatePosModel at h ⊢
  rw [hf] at h ⊢
  simp only [if_true] at h ⊢
  split at h
  · simp at h
  · rename_i hc; simp [hc]

-- non-vacuity: a well-formed element (journal 1 to the tail) before a malformed one is refused
example : (applyStatePosModel [(1, some 99), (2, none)] (fun _ => 0)).2 = false := by decide

/-! ## the limit clause up to the client -/

/-- what a query over `matching` partitions gets to merge, as the callers are now: `GetJournals`' answer travels unchanged through
`itfactory.GetJournals`, `getSourcesByState`, `newCursor`, `provider.GetOrCreate` to the `Query` function when the regenerated fact
`limitErrorPropagates` holds (`none` = the query answers the error); if some caller swallowed the error the query would go on
with what it has — the silent subset -/
def queryMergeSet (matching : List MixTree.Part) (rd : MixTree.Readers) : Option (List MixTree.Part) :=
  if Generated.C04.limitErrorPropagates then (MixTree.getJournals Generated.C04.mergeLimit matching rd).2
  else some (matching.take Generated.C04.mergeLimit)

/-- **more partitions match than a query may merge: the query fails** (it does not read a subset), for every caller path there
is: the only callers of `GetJournals` are the chain above (fact `getJournalsCallers` …), each hands the error on; and when fewer
match, all of them are merged. -/
theorem too_many_partitions_fail_the_query (matching : List MixTree.Part) (rd : MixTree.Readers)
    (hnd : (matching.map (·.line)).Nodup) :
    (Generated.C04.mergeLimit ≤ matching.length → queryMergeSet matching rd = none) ∧
    (matching.length < Generated.C04.mergeLimit → queryMergeSet matching rd = some matching) := by
  have hf : Generated.C04.limitErrorPropagates = true := by decide
  unfold queryMergeSet
  rw [hf]
  simp only [if_true]
  constructor
  · intro h
    rw [MixTree.getJournals_limit_fails _ matching rd (by decide) hnd h]
  · intro h
    rw [MixTree.getJournals_under_limit _ matching rd hnd h]

-- non-vacuity: 60 distinct partitions are more than the limit
example : (((List.range 60).map (fun i => (⟨i, i⟩ : MixTree.Part))).map (·.line)).Nodup ∧
    Generated.C04.mergeLimit ≤ ((List.range 60).map (fun i => (⟨i, i⟩ : MixTree.Part))).length := by
  refine ⟨?_, by rw [List.length_map, List.length_range]; decide⟩
  rw [List.map_map, show ((fun p : MixTree.Part => p.line) ∘ fun i => (⟨i, i⟩ : MixTree.Part)) = id from rfl, List.map_id]
  exact List.nodup_range

end Logrange.Props.C04Callers

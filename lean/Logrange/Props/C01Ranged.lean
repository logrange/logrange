import Logrange.Props.C01E2E
import Logrange.Proofs.WriteReadRanged
/-!
# C01 — the end-to-end theorem with a time range, and through `backend.Querier`

Property theorems only (models `Model/WriteReadE2E.lean`, `Model/WriteReadRanged.lean`; lemmas `Proofs/WriteReadRanged.lean`). The
ranged read goes through C03's RANGED iterator model (`partition.JIterator` over `chkSelector`; read-only import of
`Model/RdSelector.lean` and `Proofs/RdRng*.lean`); the time index itself is C02's: window soundness is the named input contract.
-/
namespace Logrange.Props.C01Ranged
open Go Logrange.WireRT Logrange.JournalW Logrange.WriteLoopM Logrange.E2E Logrange.Props.C01E2E

/-- **End to end with RANGE.** For every sequence of acknowledged RPC `Write` bodies to one partition from the empty partition
(hypotheses as in `acknowledged_writes_read_back_end_to_end`), every time range `[lo, hi]` (either bound may be absent), every
assignment `win` of time-index windows to the partition's chunks that is SOUND for the range (`Rd.WinSound`: every record whose
timestamp is in the range lies inside its chunk's window — what C02 proves of the index; windows may be wider): the ranged read —
`partition.JIterator` over `chkSelector` positioned at the head and drained (C03's ranged iterator model), every delivered record
re-checked against the range (`fiterator`), fetched, unmarshalled, sent through the query loop and the result pages — returns
**exactly the acknowledged events whose timestamp lies in the range, each once, in write order**, with message, tag line and printed
fields. In particular no acknowledged event in the range is hidden and nothing outside the range is returned. -/
theorem acknowledged_writes_read_back_in_time_range
    (parseKV : Bytes → Option Bytes) (asKV : Bytes → Bytes) (tagLine next : Bytes) (env : Bytes → Bytes)
    (maxChunk maxRec lim : Nat) (bodies : List Bytes) (j' : Journal) (acked : List (List Event))
    (win : Nat → Nat × Nat) (lo hi : Option Int)
    (hm : 1 ≤ maxChunk) (hr : 0 < maxRec) (hl : 1 ≤ lim) (hl2 : lim < two32) (hkv0 : asKV [] = [])
    (hack : writeAll parseKV maxChunk maxRec [] bodies = some (j', acked))
    (hgo : ∀ es ∈ acked, ∀ e ∈ es, e.WF) (htl : Small tagLine)
    (hkv : ∀ es ∈ acked, ∀ e ∈ es, Small (asKV e.fields))
    (hwin : Rd.WinSound (rdViewW win j') lo hi) :
    readBackRanged win lo hi asKV tagLine maxRec lim next env j'
      = some ((acked.flatten.filter (fun e => tsInRange lo hi (tsInt e.ts))).map (returned asKV tagLine)) := by
  obtain ⟨h1, _⟩ := writeAll_servable parseKV maxChunk maxRec hm hr bodies [] j' [] acked rfl hack hgo
  have hmem : ∀ e ∈ acked.flatten.filter (fun e => tsInRange lo hi (tsInt e.ts)), ∃ es ∈ acked, e ∈ es :=
    fun e he => List.mem_flatten.mp (List.mem_filter.mp he).1
  unfold readBackRanged
  rw [iterLabelsRanged_eq win lo hi j' hwin, fetchDecode_ranged maxRec lo hi (readAll j') acked.flatten h1]
  simp only
  rw [queryLoop_fresh asKV tagLine hkv0]
  exact clientRead_returned asKV tagLine next env lim _ hl hl2
    (fun e he => by obtain ⟨es, hes, hee⟩ := hmem e he; exact hgo es hes e hee) htl
    (fun e he => by obtain ⟨es, hes, hee⟩ := hmem e he; exact hkv es hes e hee)

/-- **End to end through the in-process `backend.Querier`** (the variant of the query loop in `pkg/backend/querier.go`: same
cursor, same fields cache — the regenerated cache facts are read from BOTH loops —, events handed over as Go values in pages of
`lim`): exactly the concatenation of the acknowledged batches, each event once, in order. -/
theorem acknowledged_writes_read_back_through_backend_querier
    (parseKV : Bytes → Option Bytes) (asKV : Bytes → Bytes) (tagLine : Bytes)
    (maxChunk maxRec lim : Nat) (bodies : List Bytes) (j' : Journal) (acked : List (List Event))
    (hm : 1 ≤ maxChunk) (hr : 0 < maxRec) (hl : 1 ≤ lim) (hkv0 : asKV [] = [])
    (hack : writeAll parseKV maxChunk maxRec [] bodies = some (j', acked))
    (hgo : ∀ es ∈ acked, ∀ e ∈ es, e.WF) :
    readBackQuerier asKV tagLine maxRec lim j' = some (acked.flatten.map (returned asKV tagLine)) := by
  obtain ⟨h1, _⟩ := writeAll_servable parseKV maxChunk maxRec hm hr bodies [] j' [] acked rfl hack hgo
  unfold readBackQuerier
  rw [iterLabels_eq, fetchDecode_all, show decodeAll maxRec (readAll j') = some acked.flatten from h1]
  simp only
  rw [queryLoop_fresh asKV tagLine hkv0]
  exact congrArg some (pagesOf_flatten lim hl acked.flatten.length (acked.flatten.map (returned asKV tagLine))
    (Nat.le_of_eq (List.length_map _)))

/-- non-vacuity: the two bodies of `Props/C01E2E.lean`'s example (timestamps 1, 2, 3; chunks of 40 bytes); whole-chunk windows
for the range [2, 3] and a window that cuts chunk 1 down to its second record: the ranged read returns events 2 and 3; the
backend querier returns all three -/
example :
    (match writeAll toyKV 40 64 [] [wpEncode (ofAscii "a=b") (ofAscii "w=1") [⟨1, ofAscii "m1", [], ofAscii "k=v"⟩, ⟨2, ofAscii "m2", [], []⟩],
                                    wpEncode (ofAscii "a=b") [] [⟨3, ofAscii "m3", [], ofAscii "k=v"⟩]] with
     | some (j', _) =>
       decide (readBackRanged (fun k => if k = 0 then (1, 1) else (0, 100)) (some 2) (some 3) id (ofAscii "a=b") 64 2 [9] id j'
           = some [⟨2, ofAscii "m2", ofAscii "a=b", [1, 119, 1, 49]⟩, ⟨3, ofAscii "m3", ofAscii "a=b", [1, 107, 1, 118]⟩] ∧
         readBackRanged (fun _ => (0, 100)) (some 2) none id (ofAscii "a=b") 64 2 [9] id j'
           = some [⟨2, ofAscii "m2", ofAscii "a=b", [1, 119, 1, 49]⟩, ⟨3, ofAscii "m3", ofAscii "a=b", [1, 107, 1, 118]⟩] ∧
         (readBackQuerier id (ofAscii "a=b") 64 2 j').map List.length = some 3)
     | none => false) = true := by decide +kernel

end Logrange.Props.C01Ranged

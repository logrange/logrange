import Logrange.Props.C07
import Logrange.Proofs.PersistInv
/-!
# C07 — consistency of memory and disk is an invariant; restart and crash theorems over every reachable state

`Props/C07.lean` proves the restart theorems for every state that is consistent with its disk (`WF`, a hypothesis). Here the
consistency (`Persist.Inv` = `WF` + "the registry file decodes to the pipe definitions" + "no pipe is called `s`") is
**proved** of the first start (`wf_init`) and preserved by every event of `Model/PersistReach.lean` (`wf_step`): the
operations of a running server under the guards the code has, graceful restart, a crash between two operations, a crash at
any cut inside the file-system steps of a metadata update or of the shutdown saves — each followed by a start, which is
never refused (`start_never_refused`). The restart and crash theorems are then restated over `reach evs`, every state a
history can lead to, with no consistency hypothesis. The only exclusion is finding F33's class, which by
`collision_iff_named_s` is exactly "a pipe event uses the name `s`" (`Ev.ok`; `cex_reachable_pipe_s`).

File-system assumptions (the sequential crash model of `PersistFS`): steps take effect in program order; a rename is atomic
and durable once it returned; a write may be cut at any byte prefix. Not covered: a rename that is lost or overtaken by
later operations after a power failure (none of the three savers calls `fsync`; see `design-notes/C07.md`).
-/
namespace Logrange.Props.C07Reach
open Logrange.Persist Logrange.Generated.C07 Logrange.Props.C07

variable {K : Codecs} {parseOk : TagLine → Bool} {s : Srv}

/-- the invariant contains the hypothesis `WF` of `restart_graceful_partial` -/
theorem wf_of_inv (h : Inv K parseOk s) : WF K parseOk s ∧ nameCollision s.mem.pipes = false := by
  refine ⟨⟨h.tdat, h.parse, h.jrn, h.pos⟩, ?_⟩
  apply List.any_eq_false.mpr
  intro p hp
  have h1 := pipeInfoPath_ne_dat (h.noS p hp)
  have h2 := pipeInfoPath_ne_tmp p.cfg.name
  simp [h1, h2]

/-- **WF init**: the first start on an empty base directory is not refused and gives a consistent server with no
partitions and no pipes -/
theorem wf_init (K : Codecs) (parseOk : TagLine → Bool) :
    recover K parseOk Disk.fresh = .started (initSrv K parseOk) ∧ Inv K parseOk (initSrv K parseOk) ∧
    (initSrv K parseOk).mem = Mem.empty ∧ (initSrv K parseOk).disk.db = [] := init_spec

/-- **A crash inside a metadata update**: the process is killed at any cut of the file-system steps of an operation
(after any step, inside any write at any byte prefix; the journals as before the operation). The start on that disk is
not refused; the started server has the tag index from before or after the operation and the pipe definitions from
before or after the operation, and is consistent with its disk again. -/
theorem crash_in_update (hK : K.Laws) (h : Inv K parseOk s) (o : Op) (c : Cut)
    (hen : enabled parseOk s o = true) (hok : o.pipeName ≠ some pipeNameS) :
    ∃ m ps, (m = s.mem.tmap ∨ m = (step K s o).mem.tmap) ∧
      (ps = s.mem.pipes.map (·.cfg) ∨ ps = (step K s o).mem.pipes.map (·.cfg)) ∧
      recover K parseOk { s.disk with files := diskAt s.disk.files (opSteps K s o) c }
        = .started (recovered K { s.disk with files := diskAt s.disk.files (opSteps K s o) c } m ps) ∧
      Inv K parseOk (recovered K { s.disk with files := diskAt s.disk.files (opSteps K s o) c } m ps) := by
  obtain ⟨m, ps, hr, hi, hm, hps⟩ := start_shape hK h (.crashIn o c) (by simpa [Ev.ok] using hok) _
    (by simp only [startDisk, hen, if_true]; rfl)
  refine ⟨m, ps, ?_, ?_, hr, hi⟩
  · rcases hm with e | ⟨o', c', e, _, e'⟩
    · exact .inl e
    · cases e; exact .inr e'
  · rcases hps with e | ⟨o', c', e, _, e'⟩
    · exact .inl e
    · cases e; exact .inr e'

/-- why `deleteJournal` must refuse a journal with records (`deleteJournalRefusesNonEmpty`, the guard of `Op.dropPartition`): were
the record of a journal that holds data dropped, a crash between the tag-index save and the removal of the directory would
leave a journal without a record, and the start is refused. -/
theorem cex_drop_nonempty_partition_crash (hK : K.Laws) (h : Inv K parseOk s) (src : Src) (hne : src ∈ journalsOnDisk s.disk.db) :
    deleteJournalRefusesNonEmpty = true ∧ enabled parseOk s (.dropPartition src) = false ∧
    recover K parseOk { s.disk with files := (step K s (.dropPartition src)).disk.files } = .refusedTIndex := by
  have hf : deleteJournalRefusesNonEmpty = true := by decide
  refine ⟨hf, by simp [enabled, hf, hne], ?_⟩
  have ht : (step K s (.dropPartition src)).disk.files .tindexDat
      = some (K.tidx.enc (s.mem.tmap.filter (fun e => !(e.2 == src)))) := tindexSave_dat K _ _
  have hp : (s.mem.tmap.filter (fun e => !(e.2 == src))).all (fun e => parseOk e.1) = true := by
    apply List.all_eq_true.mpr
    intro e he
    exact List.all_eq_true.mp h.parse e (List.mem_filter.mp he).1
  have hj : (journalsOnDisk s.disk.db).all (tmapHasSrc (s.mem.tmap.filter (fun e => !(e.2 == src)))) = false := by
    apply List.all_eq_false.mpr
    refine ⟨src, hne, ?_⟩
    simp [tmapHasSrc]
  simp [recover, checkConsistency, loadState, ht, hK.tidx.rt, hp, hj]

/-- **A crash inside the saves of a graceful shutdown** (registry through its temp file, then the time-index snapshot in
place): the start is not refused and the started server has the tag index, the pipe definitions and the pipe positions
of the stopped one (the snapshot may be the old one, torn — then empty — or the new one). -/
theorem crash_in_stop (hK : K.Laws) (h : Inv K parseOk s) (c : Cut) :
    recover K parseOk { s.disk with files := diskAt s.disk.files (shutdownSteps K s.mem) c }
      = .started (recovered K { s.disk with files := diskAt s.disk.files (shutdownSteps K s.mem) c } s.mem.tmap (s.mem.pipes.map (·.cfg))) ∧
    Inv K parseOk (recovered K { s.disk with files := diskAt s.disk.files (shutdownSteps K s.mem) c } s.mem.tmap (s.mem.pipes.map (·.cfg))) ∧
    (recovered K { s.disk with files := diskAt s.disk.files (shutdownSteps K s.mem) c } s.mem.tmap (s.mem.pipes.map (·.cfg))).mem.pipes
      = s.mem.pipes := by
  obtain ⟨m, ps, hr, hi, hm, hps⟩ := start_shape hK h (.crashInStop c) rfl _ rfl
  obtain rfl : m = s.mem.tmap := hm.elim id fun ⟨_, _, e, _⟩ => nomatch e
  obtain rfl : ps = s.mem.pipes.map (·.cfg) := hps.elim id fun ⟨_, _, e, _⟩ => nomatch e
  refine ⟨hr, hi, map_cfg_poss _ _ fun p hp => ?_⟩
  rw [← h.pos p hp]
  exact loadPipeInfo_congr _ _ _ _ (diskAt_frame _ _ _ _
    (shutdownSteps_touch _ _ (pipeInfoPath_ne_dat (h.noS p hp)) (pipeInfoPath_ne_tmp _) (by simp [pipeInfoPath])))

/-- **No start of a reachable history is refused**: whatever event ends a process (graceful stop, kill between two
operations, kill inside a metadata update or inside the shutdown saves, at any cut), the start on the disk it leaves
succeeds, and the started server is consistent with its disk. -/
theorem start_never_refused (hK : K.Laws) (h : Inv K parseOk s) (ev : Ev) (hok : ev.ok = true) (d : Disk)
    (hd : startDisk K parseOk s ev = some d) :
    ∃ s', recover K parseOk d = .started s' ∧ stepEv K parseOk s ev = s' ∧ Inv K parseOk s' := by
  obtain ⟨m, ps, hr, hi, _⟩ := start_shape hK h ev hok d hd
  refine ⟨_, hr, ?_, hi⟩
  cases ev with
  | op o => cases hd
  | ensurePipe p => cases hd
  | _ => simp only [stepEv, hd, afterStart, hr]

/-- **WF s → WF (step s ev)**: consistency of memory and disk is preserved by every event — every operation of a running
server under the guard the code has, a graceful restart, a crash between or inside operations followed by a start.
`Ev.ok` excludes pipe events with the name `s` (finding F33, `cex_reachable_pipe_s`). -/
theorem wf_step (hK : K.Laws) (h : Inv K parseOk s) (ev : Ev) (hok : ev.ok = true) : Inv K parseOk (stepEv K parseOk s ev) := by
  cases hd : startDisk K parseOk s ev with
  | some d =>
    obtain ⟨s', _, he, hi⟩ := start_never_refused hK h ev hok d hd
    rw [he]; exact hi
  | none =>
    cases ev with
    | op o => exact inv_gstep hK h o (by simpa [Ev.ok] using hok)
    | ensurePipe p =>
      simp only [stepEv]
      split
      · exact h
      · exact inv_gstep hK h (.createPipe p) (by simpa [Ev.ok, Op.pipeName] using hok)
    | restart => simp [startDisk] at hd
    | crash => simp [startDisk] at hd
    | crashIn o c => simp only [startDisk] at hd; split at hd <;> cases hd
    | crashInStop c => simp [startDisk] at hd

theorem wf_run (hK : K.Laws) : ∀ (evs : List Ev) (s : Srv), Inv K parseOk s → evs.all Ev.ok = true →
    Inv K parseOk (runEv K parseOk s evs)
  | [], _, h, _ => h
  | ev :: evs, s, h, hok => by
    simp only [List.all_cons, Bool.and_eq_true] at hok
    exact wf_run hK evs _ (wf_step hK h ev hok.1) hok.2

/-- **Every reachable state is consistent with its disk**: after any history of events from the first start on an empty
directory (no pipe called `s`) -/
theorem wf_reachable (hK : K.Laws) (parseOk : TagLine → Bool) (evs : List Ev) (hok : evs.all Ev.ok = true) :
    Inv K parseOk (reach K parseOk evs) :=
  wf_run hK evs _ (wf_init K parseOk).2.1 hok

/-! ## the restart and crash theorems, over every reachable state — no `WF` hypothesis -/

/-- **After any history, shutdown then start gives the same observable state**: tag index, chunk hulls and roots, pipe
definitions and positions, journals. -/
theorem restart_graceful_reachable (hK : K.Laws) (parseOk : TagLine → Bool) (evs : List Ev) (hok : evs.all Ev.ok = true) :
    ∃ s', recover K parseOk (shutdown K (reach K parseOk evs)).disk = .started s' ∧
      s'.mem = (reach K parseOk evs).mem ∧ s'.disk.db = (reach K parseOk evs).disk.db := by
  have hr := restart_spec (parseOk := parseOk) hK (wf_reachable hK parseOk evs hok)
  exact ⟨_, hr.1, hr.2.1, hr.2.2.1⟩

/-- … and every RANGE query sees the same hulls -/
theorem hulls_survive_graceful_reachable (hK : K.Laws) (parseOk : TagLine → Bool) (evs : List Ev) (hok : evs.all Ev.ok = true) :
    ∃ s', recover K parseOk (shutdown K (reach K parseOk evs)).disk = .started s' ∧
      ∀ src lo hi, rangeVisible (hullView s'.mem.cidx src ((alookup s'.disk.db src).getD [])) ((alookup s'.disk.db src).getD []) lo hi
        = rangeVisible (hullView (reach K parseOk evs).mem.cidx src ((alookup (reach K parseOk evs).disk.db src).getD []))
            ((alookup (reach K parseOk evs).disk.db src).getD []) lo hi := by
  obtain ⟨s', h1, h2, h3⟩ := restart_graceful_reachable hK parseOk evs hok
  exact ⟨s', h1, by intro src lo hi; rw [h2, h3]⟩

/-- **After any history, a crash between two operations then a start**: not refused; tag index, pipe definitions, pipe
positions and journals are those of the killed server; the time index is the snapshot the disk holds (of the last graceful
stop; what a RANGE query makes of a stale one: `no_event_hidden_after_recovery_from_stale_snapshot`). -/
theorem crash_recover_reachable (hK : K.Laws) (parseOk : TagLine → Bool) (evs : List Ev) (hok : evs.all Ev.ok = true) :
    ∃ s', recover K parseOk (reach K parseOk evs).disk = .started s' ∧
      s'.mem.tmap = (reach K parseOk evs).mem.tmap ∧ s'.mem.pipes = (reach K parseOk evs).mem.pipes ∧
      s'.mem.cidx = cindexLoad K.cidx (reach K parseOk evs).disk.files ∧ s'.disk.db = (reach K parseOk evs).disk.db := by
  have hr := crash_spec (parseOk := parseOk) hK (wf_reachable hK parseOk evs hok)
  refine ⟨_, hr.1, ?_, ?_, ?_, hr.2.2.1⟩ <;> rw [hr.2.1]

/-- **After any history cut at any crash point of a metadata update, the start succeeds** with the tag index from before
or after the update and the pipe definitions from before or after the update; the journals are untouched. -/
theorem crash_in_update_reachable (hK : K.Laws) (parseOk : TagLine → Bool) (evs : List Ev) (hok : evs.all Ev.ok = true)
    (o : Op) (c : Cut) (hen : enabled parseOk (reach K parseOk evs) o = true) (hno : o.pipeName ≠ some pipeNameS) :
    ∃ s', recover K parseOk { (reach K parseOk evs).disk with files := diskAt (reach K parseOk evs).disk.files (opSteps K (reach K parseOk evs) o) c }
        = .started s' ∧
      (s'.mem.tmap = (reach K parseOk evs).mem.tmap ∨ s'.mem.tmap = (step K (reach K parseOk evs) o).mem.tmap) ∧
      (s'.mem.pipes.map (·.cfg) = (reach K parseOk evs).mem.pipes.map (·.cfg) ∨
        s'.mem.pipes.map (·.cfg) = (step K (reach K parseOk evs) o).mem.pipes.map (·.cfg)) ∧
      s'.disk.db = (reach K parseOk evs).disk.db := by
  obtain ⟨m, ps, hm, hps, hr, _⟩ := crash_in_update hK (wf_reachable hK parseOk evs hok) o c hen hno
  refine ⟨_, hr, hm, ?_, rfl⟩
  have : (recovered K { (reach K parseOk evs).disk with files := diskAt (reach K parseOk evs).disk.files (opSteps K (reach K parseOk evs) o) c } m ps).mem.pipes.map (·.cfg) = ps := by
    simp [recovered, List.map_map, Function.comp_def]
  rw [this]; exact hps

/-- **After any history cut at any crash point of the shutdown saves, the start succeeds** with the same tag index, pipe
definitions and pipe positions. -/
theorem crash_in_stop_reachable (hK : K.Laws) (parseOk : TagLine → Bool) (evs : List Ev) (hok : evs.all Ev.ok = true) (c : Cut) :
    ∃ s', recover K parseOk { (reach K parseOk evs).disk with files := diskAt (reach K parseOk evs).disk.files (shutdownSteps K (reach K parseOk evs).mem) c }
        = .started s' ∧
      s'.mem.tmap = (reach K parseOk evs).mem.tmap ∧ s'.mem.pipes = (reach K parseOk evs).mem.pipes ∧
      s'.disk.db = (reach K parseOk evs).disk.db := by
  have hr := crash_in_stop (parseOk := parseOk) hK (wf_reachable hK parseOk evs hok) c
  exact ⟨_, hr.1, rfl, hr.2.2, rfl⟩

/-- **Graceful restart including the last acknowledged write, after any history**: records of an acknowledged write to a
known partition that are still in a chunk writer's buffer at the stop are in the restarted server's journal. -/
theorem restart_graceful_with_pending_reachable (hK : K.Laws) (parseOk : TagLine → Bool) (evs : List Ev)
    (hok : evs.all Ev.ok = true) (src : Src) (pending : List (Nat × List Int))
    (hsrc : tmapHasSrc (reach K parseOk evs).mem.tmap src = true) :
    ∃ s', recover K parseOk (shutdown K { (reach K parseOk evs) with
          disk := { (reach K parseOk evs).disk with db := shutdownDb (reach K parseOk evs).disk.db src pending } }).disk = .started s' ∧
      s'.mem = (reach K parseOk evs).mem ∧ s'.disk.db = flushPending (reach K parseOk evs).disk.db src pending := by
  have h := wf_reachable hK parseOk evs hok
  have he := (acked_events_survive_graceful_stop (reach K parseOk evs).disk.db src pending).2.1
  rw [he]
  have h' := inv_of_db h (reach K parseOk evs).mem.cidx (flushPending (reach K parseOk evs).disk.db src pending) (by
    intro j hj
    rcases journalsOnDisk_aset _ _ _ _ hj with ⟨rfl, _⟩ | h1
    · exact hsrc
    · exact List.all_eq_true.mp h.jrn _ h1)
  have hr := restart_spec (parseOk := parseOk) hK h'
  exact ⟨_, hr.1, hr.2.1, hr.2.2.1⟩

/-! ## the excluded class: a pipe called `s` (finding F33) -/

/-- **F33 on a reachable state**: the history "first start, CREATE PIPE `s`, one position save of it" — only the name
violates `Ev.ok` — leaves a registry file that does not decode; the memory is no longer consistent with the disk and a
start on the crash image is refused. -/
theorem cex_reachable_pipe_s (hK : K.Laws) (parseOk : TagLine → Bool) (pm : PosMap) :
    ([Ev.op (.createPipe ⟨pipeNameS, [], []⟩), Ev.op (.savePipeInfo pipeNameS pm)].all Ev.ok = false) ∧
    loadPipes K.pipes (reach K parseOk [Ev.op (.createPipe ⟨pipeNameS, [], []⟩), Ev.op (.savePipeInfo pipeNameS pm)]).disk.files = none ∧
    ¬ Inv K parseOk (reach K parseOk [Ev.op (.createPipe ⟨pipeNameS, [], []⟩), Ev.op (.savePipeInfo pipeNameS pm)]) ∧
    recover K parseOk (reach K parseOk [Ev.op (.createPipe ⟨pipeNameS, [], []⟩), Ev.op (.savePipeInfo pipeNameS pm)]).disk = .refusedPipes := by
  have hi := (wf_init K parseOk).2.1
  have hm := (wf_init K parseOk).2.2.1
  generalize hS : reach K parseOk [Ev.op (.createPipe ⟨pipeNameS, [], []⟩), Ev.op (.savePipeInfo pipeNameS pm)] = S
  have hSe : S = step K (step K (initSrv K parseOk) (.createPipe ⟨pipeNameS, [], []⟩)) (.savePipeInfo pipeNameS pm) := by
    have hc : changedByJson pipeNameS = false := by decide +kernel
    have hc0 : changedByJson [] = false := by decide +kernel
    rw [← hS]; simp [reach, runEv, stepEv, gstep, enabled, hc, hc0]
  obtain ⟨hfile, hti, hdb⟩ := pipe_s_overwrites_registry K (initSrv K parseOk) pm
  rw [← hSe, hi.tdat, hm] at hti
  rw [← hSe] at hfile hdb
  rw [(wf_init K parseOk).2.2.2] at hdb
  have hl : loadPipes K.pipes S.disk.files = none := by simp [loadPipes, hfile, hK.crossPipes]
  refine ⟨by simp [Ev.ok, Op.pipeName], hl, ?_, ?_⟩
  · intro hinv; have := hinv.reg; rw [hl] at this; cases this
  · exact recover_refusedPipes K hK parseOk S.disk [] hti rfl (by simp [hdb, journalsOnDisk]) hl

/-- **A position save follows every finished copy** — the code shape behind the event `savePipeInfo` of the histories above: in
`worker.run` nothing but an error path leaves the loop between a copy that succeeded and `saveState`, also while the service
is closing (regenerated fact; the schedule "graceful stop while a worker is inside its copy" is a hook replay in the harness,
section conc). A change of the shape breaks this obligation. -/
theorem position_saved_after_every_copy : workerSavesPositionAfterEveryCopy = true := by decide

/-- **Position files reach the disk in the order their snapshots are taken**: `ppipe.saveState` writes the file inside the
critical section of the pipe's lock in which it changed and serialised the position map (regenerated fact), which is what makes
the event `savePipeInfo` of the histories above ONE step (memory and file change together; `inv_savePipeInfo`). Written after
the unlock, two workers of one pipe could store the older snapshot last, and the pipe would re-copy a batch after a graceful
restart. A change of the shape breaks this obligation. -/
theorem positions_file_written_under_lock : positionsFileWrittenUnderPipeLock = true := by decide

/-! ## non-vacuity -/

/-- a history with every kind of event that satisfies the only hypothesis of the `…_reachable` theorems -/
example : [Ev.op (.newPartition [97, 61, 49] [49]), Ev.op (.write [49] [(1, [10, 11])]), Ev.ensurePipe ⟨[116], [97, 61, 49], []⟩,
    Ev.op (.savePipeInfo [116] [([49], ⟨1, 2⟩)]), Ev.restart, Ev.crashIn (.createPipe ⟨[117], [], []⟩) ⟨1, 3⟩, Ev.crash,
    Ev.op (.dropChunks [49] 1), Ev.op (.dropPartition [49]), Ev.crashInStop ⟨4, 2⟩, Ev.op (.deletePipe [116])].all Ev.ok = true := by
  decide
example : (Ev.op (.createPipe ⟨[115], [], []⟩)).ok = false := by decide
example : pipeInfoPath [115, 115] ≠ pipesDat := pipeInfoPath_ne_dat (by decide)

end Logrange.Props.C07Reach

import Logrange.Props.C04Journal
import Logrange.Proofs.RdRngSource
/-!
# C04 on RANGE queries: the multi-partition read over the ranged journal iterator

`RSrc` (`Proofs/RdRngSource.lean`, property C03/C16's file, imported read-only) is `LogEventIterator` over `partition.JIterator`
— the iterator `newCursor` makes for every partition when the query has a RANGE — on the model of C03/C16
(`Model/RdSelector.lean`), proved there to meet the mixer's leaf contract (`instLawfulRSrc`; property theorem
`Logrange.Props.C03Merged.ranged_iterator_lawful`, both directions, hypotheses `GoodJournal` and `RWF`). So the theorems of
`Props/C04.lean` apply to merged cursors of RANGE queries as well. `s.all` = the records of the partition that the chunk windows of
the time index ADMIT (`Rd.wflat`), in stored order, as events under the partition's tag line: what a ranged read of that partition
alone delivers below the filter. (The exact comparison with the range bounds is made once more above the mixer tree, by the filter
iterator, event by event — it drops events and relabels nothing.)
-/
namespace Logrange.Props.C04Ranged
open Logrange.Mixer Logrange.MixTree LawfulSource Logrange.Props.C04 Logrange.Props.C04Journal

/-- **a cursor over n RANGE-read partitions, forward from the head**: for every `n ≥ 1`, every order of the partitions, every
content and chunking, every set of chunk windows, with `Release` calls anywhere: the read is a permutation of the concatenated
single ranged reads (every admitted record exactly once, under its partition's tag line), each partition's stored order is kept,
and it is ascending in time whenever every single ranged read is. -/
theorem multi_read_journals_ranged (srcs : List RSrc) (hne : srcs ≠ [])
    (hg : ∀ s ∈ srcs, GoodJournal s.j ∧ s.it = {})
    (rel : Nat → Bool × Bool) (f : Nat) (hf : (srcs.flatMap RSrc.all).length < f) :
    ∃ t, build srcs = some t ∧
      let read := t.drainRel rel f 0
      read.Perm (srcs.flatMap RSrc.all) ∧
      (∀ s ∈ srcs, s.all.Sublist read) ∧
      ((∀ s ∈ srcs, Ascending s.all) → Ascending read) ∧
      (∀ e ∈ read, ∃ s ∈ srcs, e ∈ s.all ∧ e.tags = s.tags) := by
  refine multi_read_as RSrc.all RSrc.tags srcs hne (fun s hs => ?_) (fun s hs => ?_) (fun s _ e he => ?_) rel f hf
  · obtain ⟨⟨h1, h2, h3⟩, hi⟩ := hg s hs
    exact ⟨⟨h1, h2, h3, by rw [hi]; simp [Rd.RWF, Rd.RStats]⟩, by show s.it.bkwd = false; rw [hi]⟩
  · obtain ⟨_, hi⟩ := hg s hs
    obtain ⟨tags, j, it⟩ := s
    simp only at hi; subst hi
    exact RSrc.view_head tags j
  · obtain ⟨r, _, rfl⟩ := List.mem_map.mp he; rfl

/-- **the same cursor placed at the tail and walked backward** (a RANGE query with `POSITION tail` and a negative offset): every
ranged iterator stands behind all chunks of its journal, the cursor is switched backward and read: a permutation of the
concatenated single ranged reads, each partition in *reversed* stored order, descending in time whenever every single ranged
read is ascending. -/
theorem multi_read_journals_ranged_backward (srcs : List RSrc) (hne : srcs ≠ [])
    (hg : ∀ s ∈ srcs, GoodJournal s.j ∧ ∃ cid idx, s.it = { cid := cid, idx := idx } ∧ ∀ c ∈ s.j, c.id < cid)
    (rel : Nat → Bool × Bool) (f : Nat) (hf : (srcs.flatMap RSrc.all).length < f) :
    ∃ t, build srcs = some t ∧
      let read := (t.setBackward true).drainRel rel f 0
      read.Perm (srcs.flatMap (fun s => s.all.reverse)) ∧
      (∀ s ∈ srcs, s.all.reverse.Sublist read) ∧
      ((∀ s ∈ srcs, Ascending s.all) → Descending read) ∧
      (∀ e ∈ read, ∃ s ∈ srcs, e ∈ s.all ∧ e.tags = s.tags) := by
  refine multi_read_backward_as RSrc.all RSrc.tags srcs hne (fun s hs => ?_) (fun s hs => ?_) (fun s _ e he => ?_) rel f hf
  · obtain ⟨⟨h1, h2, h3⟩, cid, idx, hi, _⟩ := hg s hs
    exact ⟨⟨h1, h2, h3, by rw [hi]; simp [Rd.RWF, Rd.RStats]⟩, by show s.it.bkwd = false; rw [hi]⟩
  · obtain ⟨_, cid, idx, hi, hc⟩ := hg s hs
    obtain ⟨tags, j, it⟩ := s
    simp only at hi hc; subst hi
    exact RSrc.view_tail_backward tags j cid idx hc
  · obtain ⟨r, _, rfl⟩ := List.mem_map.mp he; rfl

/-- **from any reachable state**: a merged cursor over ranged iterators in any well-formed states (after pages, re-positions,
direction switches), read on with `Release` calls anywhere, delivers the attributed, ordered union of what its ranged iterators
deliver alone from where they stand -/
theorem read_any_state_ranged (t : It RSrc) (h : t.WF) (rel : Nat → Bool × Bool) (f : Nat) (hf : t.view.length < f) :
    let read := t.drainRel rel f 0
    read.Perm (t.leaves.flatMap view) ∧ (∀ s ∈ t.leaves, (view s).Sublist read) ∧
    ((∀ s ∈ t.leaves, (view s).Pairwise (ord t.dir)) → read.Pairwise (ord t.dir)) ∧
    (∀ e ∈ read, ∃ s ∈ t.leaves, e ∈ view s ∧ e.tags = s.tags) := by
  intro read
  obtain ⟨r1, r2, r3, r4⟩ := read_any_state t h rel f hf
  refine ⟨r1, r2, r3, ?_⟩
  intro e he
  obtain ⟨s, hs, hes⟩ := r4 e he
  refine ⟨s, hs, hes, ?_⟩
  have hes' : e ∈ RSrc.view s := hes
  unfold RSrc.view at hes'
  split at hes' <;> (simp only [List.mem_map] at hes'; obtain ⟨r, _, rfl⟩ := hes'; rfl)

-- non-vacuity: two partitions whose chunk windows admit only part of what is stored (first chunk of partition 1: records 1..2 of
-- three; partition 2: record 0 of two), a tie across the partitions among the admitted records
example : ∃ srcs : List RSrc, srcs.length = 2 ∧ (∀ s ∈ srcs, GoodJournal s.j ∧ s.it = {}) ∧
    (∀ s ∈ srcs, Ascending s.all) ∧ (srcs.flatMap RSrc.all).length = 3 :=
  ⟨[⟨1, [⟨10, [⟨0, 1, true⟩, ⟨1, 2, true⟩, ⟨2, 3, true⟩], 1, 2⟩], {}⟩,
    ⟨2, [⟨7, [⟨0, 2, true⟩, ⟨1, 9, true⟩], 0, 0⟩], {}⟩], rfl,
    by simp [GoodJournal, Rd.Sorted, Rd.PosIds, Rd.bw_ChunkBound, Rd.Chunk.cnt, Rd.maxU32],
    by decide +kernel, by decide +kernel⟩

end Logrange.Props.C04Ranged

import Logrange.Model.Ring
/-!
# C15, third part — algebra of the list-level ring (`container.CLElement` as `pkg/cursor/provider.go` uses it)

Every theorem of this namespace is an obligation of `./check C15`.

The provider keeps its holders in two rings and moves a holder between them with `TearOff` followed by `Append` of the
single-element ring. "Released exactly once" and "never pins partitions forever" need the rings to neither lose nor
duplicate a holder under these moves. The theorems below state that for **all** rings and elements at the list level
(`Model/Ring.lean`, which `Props/C15Live.lean` proves to be refined by the pointer-level model, and which the harness
section `ring` compares with the real cells):

* `len_append` — `Append` keeps every cell: lengths add up;
* `mem_append` — membership after `Append` is the union (nothing lost, nothing invented);
* `nodup_append` — two disjoint duplicate-free rings give a duplicate-free ring (a holder is never twice in a ring);
* `len_tearOff_mem` / `len_tearOff_not_mem` — `TearOff` of a member removes exactly one cell, of a stranger none;
* `mem_tearOff` — in a duplicate-free ring `TearOff e` removes `e` and only `e`;
* `tearOff_push` — pushing a fresh holder in front and tearing it off again gives the ring back (a touch that is undone);
* `move_preserves_members` — the provider's move (tear off from one ring, push in front of the other) keeps the union of
  the two rings' members and the total count;
* `nodup_tearOff` / `nodup_push` / `move_preserves_nodup` — the move keeps both rings duplicate-free and disjoint;
* `prev_mem` — `Prev()`/`Next()` of a member is a member (the sweeper never leaves the ring);
* `prev_nextField` — one step along the `next` fields and one step back along `prev` is the identity: the two pointer chains
  describe the same cycle (list level); `nextField_prev` — the converse, so `Prev()` is a bijection of the ring.
-/
namespace Logrange.Props.C15Ring
open Logrange.Ring

theorem len_append (cle chain : Ring) : len (append cle chain) = len cle + len chain := by
  unfold len append
  cases chain with
  | nil => simp
  | cons c cs =>
    cases cle with
    | nil => simp
    | cons h t => simp; omega

theorem mem_append (cle chain : Ring) (x : Nat) : x ∈ append cle chain ↔ x ∈ cle ∨ x ∈ chain := by
  cases chain <;> cases cle <;> simp [append, or_assoc, or_left_comm, or_comm]

theorem nodup_append (cle chain : Ring) (h1 : cle.Nodup) (h2 : chain.Nodup)
    (hd : ∀ x, x ∈ cle → x ∉ chain) : (append cle chain).Nodup := by
  unfold append
  cases chain with
  | nil => simpa using h1
  | cons c cs =>
    cases cle with
    | nil => simpa using h2
    | cons h t =>
      have hh : h ∉ t := (List.nodup_cons.mp h1).1
      have ht : t.Nodup := (List.nodup_cons.mp h1).2
      have hhc : h ∉ c :: cs := hd h (by simp)
      refine List.nodup_cons.mpr ⟨?_, ?_⟩
      · intro hm
        rcases List.mem_append.mp hm with hm | hm
        · exact hhc hm
        · exact hh hm
      · refine List.nodup_append.mpr ⟨h2, ht, ?_⟩
        intro a ha b hb hab
        subst hab
        exact hd a (by simp [hb]) ha

theorem len_tearOff_mem (r : Ring) (e : Nat) (he : e ∈ r) : len (tearOff r (some e)) + 1 = len r := by
  unfold len tearOff
  simp only
  rw [List.length_erase_of_mem he]
  have : 0 < r.length := List.length_pos_of_mem he
  omega

theorem len_tearOff_not_mem (r : Ring) (e : Nat) (he : e ∉ r) : tearOff r (some e) = r := by
  unfold tearOff
  simp only
  exact List.erase_of_not_mem he

theorem tearOff_nil (r : Ring) : tearOff r none = r := rfl

theorem mem_tearOff (r : Ring) (hr : r.Nodup) (e x : Nat) : x ∈ tearOff r (some e) ↔ x ∈ r ∧ x ≠ e := by
  unfold tearOff
  simp only
  rw [hr.mem_erase_iff]
  exact And.comm

theorem tearOff_push (r : Ring) (e : Nat) : tearOff (append [e] r) (some e) = r := by
  unfold tearOff append
  cases r with
  | nil => simp
  | cons c cs => simp

/-- The provider's move of a holder `e` from ring `a` to the front of ring `b`: the members of the two rings together are
the same before and after, and so is their number. -/
theorem move_preserves_members (a b : Ring) (ha : a.Nodup) (e : Nat) (he : e ∈ a) (x : Nat) :
    (x ∈ tearOff a (some e) ∨ x ∈ append [e] b) ↔ (x ∈ a ∨ x ∈ b) := by
  rw [mem_tearOff a ha, mem_append, List.mem_singleton]
  by_cases hx : x = e <;> simp [hx, he]

theorem move_preserves_count (a b : Ring) (e : Nat) (he : e ∈ a) :
    len (tearOff a (some e)) + len (append [e] b) = len a + len b := by
  have h1 := len_tearOff_mem a e he
  have h2 := len_append [e] b
  simp only [len] at *
  simp at h2
  omega

theorem prevAux_mem (last : Nat) : ∀ (l : List Nat) (e : Nat), e ∈ l → prevAux last l e = last ∨ prevAux last l e ∈ l
  | [], e, h => by simp at h
  | x :: xs, e, h => by
    unfold prevAux
    by_cases hx : x = e
    · simp [hx]
    · simp only [hx, if_false]
      have he : e ∈ xs := by
        rcases List.mem_cons.mp h with h | h
        · exact absurd h.symm hx
        · exact h
      rcases prevAux_mem x xs e he with h | h
      · right; rw [h]; simp
      · right; exact List.mem_cons_of_mem _ h

theorem prev_mem (r : Ring) (e : Nat) (he : e ∈ r) : prev r e ∈ r := by
  unfold prev
  cases hl : r.getLast? with
  | none =>
    have : r = [] := List.getLast?_eq_none_iff.mp hl
    subst this; simp at he
  | some l =>
    simp only
    have hlm : l ∈ r := List.mem_of_getLast? hl
    rcases prevAux_mem l r e he with h | h
    · rw [h]; exact hlm
    · exact h

theorem next_mem (r : Ring) (e : Nat) (he : e ∈ r) : next r e ∈ r := prev_mem r e he

theorem nodup_tearOff (r : Ring) (hr : r.Nodup) (e : Option Nat) : (tearOff r e).Nodup := by
  cases e with
  | none => exact hr
  | some e => exact hr.erase e

theorem nodup_push (r : Ring) (hr : r.Nodup) (e : Nat) (he : e ∉ r) : (append [e] r).Nodup := by
  refine nodup_append [e] r (by simp) hr ?_
  intro x hx
  have : x = e := by simpa using hx
  subst this
  exact he

/-- The provider's move keeps the ring invariant: both rings stay duplicate-free and disjoint (no holder is ever in two
rings or twice in one). -/
theorem move_preserves_nodup (a b : Ring) (ha : a.Nodup) (hb : b.Nodup) (hd : ∀ x, x ∈ a → x ∉ b) (e : Nat) (he : e ∈ a) :
    (tearOff a (some e)).Nodup ∧ (append [e] b).Nodup ∧ ∀ x, x ∈ tearOff a (some e) → x ∉ append [e] b := by
  refine ⟨nodup_tearOff a ha (some e), nodup_push b hb e (hd e he), ?_⟩
  intro x hx hx2
  rw [mem_tearOff a ha] at hx
  rw [mem_append] at hx2
  rcases hx2 with h | h
  · have : x = e := by simpa using h
    exact hx.2 this
  · exact hd x hx.1 h

/-! ## the `next` chain and the `prev` chain describe the same cycle

`nextField r e` is the cell the `next` *field* of `e` refers to, `prev r e` what `Prev()` (and, by the quirk, `Next()`) returns.
`prev_nextField`: in every duplicate-free ring, going one cell along the `next` fields and one back along `prev` returns to the
start — for all rings (singletons and the wrap-around at the last cell included). -/

theorem go_mid (e h : Nat) (l2 : List Nat) : ∀ (l1 : List Nat), e ∉ l1 → nextField.go e h (l1 ++ e :: l2) = l2.headD h
  | [], _ => by cases l2 <;> simp [nextField.go]
  | a :: l1, hn => by
    have hae : a ≠ e := fun k => hn (k ▸ List.mem_cons_self ..)
    obtain ⟨b, m, hb⟩ : ∃ b m, l1 ++ e :: l2 = b :: m := by cases l1 <;> exact ⟨_, _, rfl⟩
    rw [List.cons_append, hb]
    show (if a = e then b else nextField.go e h (b :: m)) = _
    rw [if_neg hae, ← hb]
    exact go_mid e h l2 l1 (fun k => hn (List.mem_cons_of_mem _ k))
theorem go_last (e h : Nat) (l1 : List Nat) (hn : e ∉ l1) : nextField.go e h (l1 ++ [e]) = h := go_mid e h [] l1 hn
theorem prevAux_mid (y : Nat) (l2 : List Nat) : ∀ (l1 : List Nat) (last : Nat), y ∉ l1 →
    prevAux last (l1 ++ y :: l2) y = l1.getLastD last
  | [], _, _ => by simp [prevAux]
  | a :: l1, _, hn => by
    have hay : a ≠ y := fun k => hn (k ▸ List.mem_cons_self ..)
    simp only [List.cons_append, prevAux, hay, if_false, List.getLastD_cons]
    exact prevAux_mid y l2 l1 a (fun k => hn (List.mem_cons_of_mem _ k))

theorem nextField_eq_go (r : Ring) (e : Nat) : nextField r e = nextField.go e (r.headD e) r := by
  cases r <;> rfl

theorem prev_head_eq_last (e : Nat) (t : List Nat) (z : Nat) : prev (e :: (t ++ [z])) e = z := by
  have hl : (e :: (t ++ [z])).getLast? = some z := by
    rw [← List.cons_append]; exact List.getLast?_concat
  simp [prev, prevAux, hl]

theorem prev_nextField (r : Ring) (hr : r.Nodup) (e : Nat) (he : e ∈ r) : prev r (nextField r e) = e := by
  obtain ⟨l1, l2, rfl⟩ := List.append_of_mem he
  have hnd := List.nodup_append.mp hr
  have hn1 : e ∉ l1 := fun h => hnd.2.2 e h e (by simp) rfl
  rw [nextField_eq_go, go_mid _ _ l2 l1 hn1]
  cases l2 with
  | nil =>
    cases l1 with
    | nil => simp [prev, prevAux]
    | cons a l1' => exact prev_head_eq_last a l1' e
  | cons y l2' =>
    have hy1 : y ∉ l1 ++ [e] := by
      intro h
      rcases List.mem_append.1 h with h | h
      · exact hnd.2.2 y h y (by simp) rfl
      · exact (List.nodup_cons.mp hnd.2.1).1 (by simp at h; simp [h])
    unfold prev
    cases hl : (l1 ++ e :: y :: l2').getLast? with
    | none => simp at hl
    | some l =>
      have := prevAux_mid y l2' (l1 ++ [e]) l hy1
      simpa using this

/-! the converse: one step back along `prev`, one forward along the `next` fields — so `Prev()` is a bijection of the ring
with inverse `nextField` (a walk by `Prev()`/`Next()` visits distinct cells until it is back at its start). -/

theorem snoc_cases (l : List Nat) : l = [] ∨ ∃ l' b, l = l' ++ [b] := by
  rcases List.eq_nil_or_concat l with h | ⟨L, b, h⟩
  · exact Or.inl h
  · exact Or.inr ⟨L, b, by rw [h, List.concat_eq_append]⟩

theorem nextField_prev (r : Ring) (hr : r.Nodup) (e : Nat) (he : e ∈ r) : nextField r (prev r e) = e := by
  obtain ⟨l1, l2, rfl⟩ := List.append_of_mem he
  have hnd := List.nodup_append.mp hr
  have hn1 : e ∉ l1 := fun h => hnd.2.2 e h e (by simp) rfl
  rcases snoc_cases l1 with rfl | ⟨l1', p, rfl⟩
  · rcases snoc_cases l2 with rfl | ⟨t, z, rfl⟩
    · simp [prev, prevAux, nextField, nextField.go]
    · have hz : z ∉ e :: t := by
        have h2 : ((e :: t) ++ [z]).Nodup := hnd.2.1
        exact fun hm => (List.nodup_append.mp h2).2.2 z hm z (by simp) rfl
      rw [List.nil_append, prev_head_eq_last, nextField_eq_go]
      exact go_last z e (e :: t) hz
  · have hp1 : p ∉ l1' := fun hm => (List.nodup_append.mp hnd.1).2.2 p hm p (by simp) rfl
    have hprev : prev (l1' ++ [p] ++ e :: l2) e = p := by
      unfold prev
      cases hl : (l1' ++ [p] ++ e :: l2).getLast? with
      | none => simp at hl
      | some l => exact (prevAux_mid e l2 (l1' ++ [p]) l hn1).trans (by simp)
    rw [hprev, nextField_eq_go, List.append_assoc]
    exact go_mid p _ (e :: l2) l1' hp1

/-- non-vacuity: a concrete move between two rings -/
example : tearOff [1, 2, 3] (some 2) = [1, 3] ∧ append [2] [7, 8] = [2, 7, 8] ∧ prev [1, 2, 3] 1 = 3 := by decide +kernel

end Logrange.Props.C15Ring

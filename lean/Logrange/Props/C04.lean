import Logrange.Proofs.Mixer
import Logrange.Proofs.MixerGrow
import Logrange.Proofs.MixTree
import Logrange.Proofs.MixerErr
import Logrange.Generated.C04
/-!
# C04 — Multi-partition reads are the complete, correctly attributed, time-ordered merge

Property theorems only (model: `Logrange/Model/Mixer.lean`, `Logrange/Model/MixTree.lean`; lemmas:
`Logrange/Proofs/Mixer.lean`, `Logrange/Proofs/MixTree.lean`). Every theorem here is an obligation of the C04
check; the audit lists their axioms.

Reading guide. `σ` is any leaf iterator meeting the `model.Iterator` contract (`LawfulSource`: `view s` is what
reading `s` alone delivers from where it stands, in its direction `dir s`); `Leaf` — `LogEventIterator` over the
code's in-memory `records.Iterator` — is one (instance in `Proofs/Mixer.lean`, used in the examples). An event
`Ev` carries the tag line it is *reported under* (`tags`), so "the union of the single reads" is also the statement
about attribution: a leaf reports its events under its own tag line and the merge hands events on unchanged.
`It.WF` is the invariant every reachable mixer state satisfies (fresh trees: `newCursor_tree_WF`; preserved by
`Get`/`Next`/`Release`/`SetBackward`: `ops_preserve_WF`).
-/
namespace Logrange.Props.C04
open Logrange.Mixer Logrange.MixTree LawfulSource

variable {σ : Type} [Source σ] [LawfulSource σ]
set_option linter.unusedSectionVars false

/-- forward time order / backward time order of a stream -/
abbrev Ascending (l : List Ev) : Prop := l.Pairwise (fun x y => x.ts ≤ y.ts)
abbrev Descending (l : List Ev) : Prop := l.Pairwise (fun x y => y.ts ≤ x.ts)

/-! ## the regenerated facts are the ones the model is written for -/

/-- `GetJournals` compares `len(res) == maxLimit`, `GetEarliest` is `<=`, `testFunc` negates when backward,
`newCursor` mixes with `GetEarliest` — as read from `/repo` by the extractor on this run. -/
theorem facts :
    Generated.C04.limitCheckOp = "==" ∧ Generated.C04.getEarliestOp = "<=" ∧
    Generated.C04.testFuncNegatesBackward = true ∧ Generated.C04.newCursorUsesGetEarliest = true ∧
    1 ≤ Generated.C04.mergeLimit ∧ Generated.C04.newCursorSortsSources = true ∧
    Generated.C04.applyStateResyncs = true := ⟨rfl, rfl, rfl, rfl, by decide, rfl, rfl⟩

/-! ## the pure merge -/

/-- the merge delivers every event of both inputs exactly once -/
theorem mergeSpec_perm (bk : Bool) (a b : List Ev) : (mergeSpec bk a b).Perm (a ++ b) :=
  Logrange.Mixer.mergeSpec_perm bk a b

/-- each input keeps its order -/
theorem mergeSpec_sublists (bk : Bool) (a b : List Ev) :
    a.Sublist (mergeSpec bk a b) ∧ b.Sublist (mergeSpec bk a b) :=
  ⟨mergeSpec_sublist_left bk a b, mergeSpec_sublist_right bk a b⟩

/-- time-ordered inputs give a time-ordered output (forward: ascending) -/
theorem mergeSpec_sorted (a b : List Ev) (ha : Ascending a) (hb : Ascending b) : Ascending (mergeSpec false a b) :=
  Logrange.Mixer.mergeSpec_sorted false a b ha hb

/-- … and backward: descending -/
theorem mergeSpec_sorted_backward (a b : List Ev) (ha : Descending a) (hb : Descending b) :
    Descending (mergeSpec true a b) :=
  Logrange.Mixer.mergeSpec_sorted true a b ha hb

/-- attribution: the merge invents nothing and relabels nothing — an event of the output *is* an event of one of the
inputs, tag line included -/
theorem mergeSpec_tags (bk : Bool) (a b : List Ev) (e : Ev) : e ∈ mergeSpec bk a b ↔ e ∈ a ∨ e ∈ b :=
  mem_mergeSpec bk a b e

example : mergeSpec false [⟨1, 0, 7⟩, ⟨3, 1, 7⟩] [⟨1, 0, 8⟩, ⟨2, 1, 8⟩] = [⟨1, 0, 7⟩, ⟨1, 0, 8⟩, ⟨2, 1, 8⟩, ⟨3, 1, 7⟩] := by
  simp [mergeSpec, pick]
example : mergeSpec true [⟨3, 1, 7⟩, ⟨1, 0, 7⟩] [⟨2, 1, 8⟩, ⟨1, 0, 8⟩] = [⟨3, 1, 7⟩, ⟨2, 1, 8⟩, ⟨1, 0, 8⟩, ⟨1, 0, 7⟩] := by
  simp [mergeSpec, pick]

/-! ## the stateful mixer refines the pure merge -/

/-- **`Mixer.Init(GetEarliest, a, b)` read to the end is the merge of `a` read to the end and `b` read to the end**
(forward; `a`, `b` any iterators — leaves or mixer trees in any reachable state — running forward; `f` any bound
above the number of events). -/
theorem mixer_refines_merge (a b : It σ) (wa : a.WF) (wb : b.WF) (da : a.dir = false) (db : b.dir = false)
    (f : Nat) (hf : a.view.length + b.view.length < f) :
    (It.init a b).drain f = mergeSpec false (a.drain f) (b.drain f) := by
  have hw := (It.init_WF a b wa wb da db).1
  have hl : (It.init a b).view.length = a.view.length + b.view.length := by
    rw [It.init_view, (Logrange.Mixer.mergeSpec_perm _ _ _).length_eq, List.length_append]
  rw [It.drain_eq_view f _ hw (by omega), It.drain_eq_view f a wa (by omega), It.drain_eq_view f b wb (by omega)]
  rfl

/-- **the mirrored statement backward**: a mixer (in any reachable state) switched to the other direction and read to
the end delivers the merge — with the comparison inverted when the new direction is backward — of its two sources
switched and read to the end. -/
theorem mixer_refines_merge_backward (bk : Bool) (m : MixSt) (a b : It σ) (h : (It.mix m a b).WF) (hb : m.bkwd ≠ bk)
    (f : Nat) (hf : (a.setBackward bk).view.length + (b.setBackward bk).view.length < f) :
    ((It.mix m a b).setBackward bk).drain f =
      mergeSpec bk ((a.setBackward bk).drain f) ((b.setBackward bk).drain f) := by
  have hv := It.setBackward_view bk m a b h hb
  have hw := (It.setBackward_spec bk _ h).1
  obtain ⟨wa, wb, _⟩ := h
  have hl : ((It.mix m a b).setBackward bk).view.length =
      (a.setBackward bk).view.length + (b.setBackward bk).view.length := by
    rw [hv, (Logrange.Mixer.mergeSpec_perm _ _ _).length_eq, List.length_append]
  rw [It.drain_eq_view f _ hw (by omega), It.drain_eq_view f _ (It.setBackward_spec bk a wa).1 (by omega),
    It.drain_eq_view f _ (It.setBackward_spec bk b wb).1 (by omega), hv]

/-- every operation keeps the mixer invariant (so every state a cursor can reach satisfies it) -/
theorem ops_preserve_WF (it : It σ) (h : it.WF) (bk : Bool) :
    it.get.1.WF ∧ it.get.1.next.WF ∧ it.release.WF ∧ (it.setBackward bk).WF ∧ (it.setBackward bk).dir = bk := by
  obtain ⟨_, _, gw, _, gs⟩ := It.get_spec it h
  exact ⟨gw, (It.next_spec _ gw gs).2.1, (It.release_spec it h).2.1, It.setBackward_spec bk it h⟩

/-- `Get` shows the head of the remaining stream without consuming it, the following `Next` consumes exactly it, and
`Release` (which resets the `eof` flags and turns `st = 3` into `0`) changes nothing that will be read -/
theorem get_next_release (it : It σ) (h : it.WF) :
    it.get.2 = it.view.head? ∧ it.get.1.view = it.view ∧ it.get.1.next.view = it.view.tail ∧
    it.release.view = it.view := by
  obtain ⟨g2, gv, gw, _, gs⟩ := It.get_spec it h
  exact ⟨g2, gv, by rw [(It.next_spec _ gw gs).1, gv], (It.release_spec it h).1⟩

-- non-vacuity: a fresh mixer over two in-memory leaves (with a tie) satisfies the hypotheses
example : ∃ a b : It Leaf, a.WF ∧ b.WF ∧ a.dir = false ∧ b.dir = false ∧
    (It.init a b).view = [⟨1, 0, 7⟩, ⟨1, 0, 8⟩, ⟨2, 1, 8⟩, ⟨3, 1, 7⟩] :=
  ⟨.leaf ⟨7, [⟨1, 0⟩, ⟨3, 1⟩], 0, false⟩, .leaf ⟨8, [⟨1, 0⟩, ⟨2, 1⟩], 0, false⟩,
    by simp [It.WF, LawfulSource.wf, Leaf.wf], by simp [It.WF, LawfulSource.wf, Leaf.wf], rfl, rfl,
    by simp [It.init, It.view, LawfulSource.view, Leaf.view, Leaf.ev, mergeSpec, pick]⟩

/-! ## the tree `newCursor` builds -/

/-- **every source exactly once**, for every number `n ≥ 1` of sources (odd, even, beyond any limit) and every order
in which Go's map iteration hands them to `newCursor`: the leaves of the built tree, left to right, are the
sources in that order (in particular a permutation of them). -/
theorem mixTree_leaves [Inhabited σ] (srcs : List σ) (hne : srcs ≠ []) :
    ∃ t, build srcs = some t ∧ t.leaves = srcs ∧ t.leaves.Perm srcs := by
  obtain ⟨t, h1, h2⟩ := build_leaves srcs hne
  exact ⟨t, h1, h2, h2 ▸ List.Perm.refl _⟩

/-- no sources: `errNoSources` -/
theorem mixTree_none [Inhabited σ] : build ([] : List σ) = none := build_none

/-- the tree built from sources that stand ready to be read forward satisfies the mixer invariant -/
theorem newCursor_tree_WF [Inhabited σ] (srcs : List σ) (hw : ∀ s ∈ srcs, wf s ∧ dir s = false)
    (t : It σ) (ht : build srcs = some t) : t.WF ∧ t.dir = false := by
  refine build_all (fun t => t.WF ∧ t.dir = false) ?_ srcs ?_ t ht
  · intro a b ha hb; exact It.init_WF a b ha.1 hb.1 ha.2 hb.2
  · intro s hs; exact hw s hs

/-- **a read over a tree of mixers in any reachable state and either direction** — with `Release` calls wherever a
paged reader or `WaitNewData` puts them — is the union of what its sources deliver alone: a permutation of the
concatenated single reads (complete, nothing twice, tag lines untouched), each source's order kept, and in time
order of the reading direction whenever every source is. -/
theorem read_any_state (it : It σ) (h : it.WF) (rel : Nat → Bool × Bool) (f : Nat) (hf : it.view.length < f) :
    let read := it.drainRel rel f 0
    read.Perm (it.leaves.flatMap view) ∧
    (∀ s ∈ it.leaves, (view s).Sublist read) ∧
    ((∀ s ∈ it.leaves, (view s).Pairwise (ord it.dir)) → read.Pairwise (ord it.dir)) ∧
    (∀ e ∈ read, ∃ s ∈ it.leaves, e ∈ view s) := by
  intro read
  have hr : read = it.view := It.drainRel_eq_view rel f 0 it h hf
  rw [hr]
  refine ⟨It.view_perm_leaves it, It.view_sublist_leaf it, It.view_sorted it h, ?_⟩
  intro e he
  have := (It.view_perm_leaves it).mem_iff.mp he
  simpa [List.mem_flatMap] using this

/-- **C04, forward**: for every `n ≥ 1`, every order of the sources, every content: the cursor's read is a
permutation of the concatenation of the single reads, keeps each source's order, is ascending in time when every
source is, and every event is one a source delivers under its own tag line. -/
theorem multi_read [Inhabited σ] (srcs : List σ) (hne : srcs ≠ []) (hw : ∀ s ∈ srcs, wf s ∧ dir s = false)
    (rel : Nat → Bool × Bool) (f : Nat) (hf : (srcs.flatMap view).length < f) :
    ∃ t, build srcs = some t ∧
      let read := t.drainRel rel f 0
      read.Perm (srcs.flatMap view) ∧
      (∀ s ∈ srcs, (view s).Sublist read) ∧
      ((∀ s ∈ srcs, Ascending (view s)) → Ascending read) ∧
      (∀ e ∈ read, ∃ s ∈ srcs, e ∈ view s) := by
  obtain ⟨t, ht, hl, _⟩ := mixTree_leaves srcs hne
  obtain ⟨tw, td⟩ := newCursor_tree_WF srcs hw t ht
  have hlen : t.view.length < f := by
    rw [(It.view_perm_leaves t).length_eq, hl]; exact hf
  have R := read_any_state t tw rel f hlen
  simp only [hl, td] at R
  exact ⟨t, ht, R⟩

/-- **C04, backward**: the same cursor switched to the other direction at any moment (from any reachable state):
the read is the union of what the switched sources deliver alone, each source's order kept, descending in time when
every source is. (`(t.setBackward true).leaves` are `t`'s sources after `SetBackward(true)` and `Release`.) -/
theorem multi_read_backward (t : It σ) (h : t.WF) (rel : Nat → Bool × Bool) (f : Nat)
    (hf : (t.setBackward true).view.length < f) :
    let t' := t.setBackward true
    let read := t'.drainRel rel f 0
    read.Perm (t'.leaves.flatMap view) ∧
    (∀ s ∈ t'.leaves, (view s).Sublist read) ∧
    ((∀ s ∈ t'.leaves, Descending (view s)) → Descending read) ∧
    (∀ e ∈ read, ∃ s ∈ t'.leaves, e ∈ view s) := by
  intro t' read
  obtain ⟨tw, td⟩ := It.setBackward_spec true t h
  have R := read_any_state t' tw rel f hf
  simp only [show t'.dir = true from td] at R
  exact R

/-- **the read after a direction switch, in terms of the sources before the switch**: a tree in any reachable state running
in direction `¬bk`, switched to `bk` and read (with `Release` calls anywhere): a permutation of what its sources, each switched
to `bk`, deliver alone; each source's order kept; in time order of direction `bk` when every switched source is. -/
theorem read_after_switch (bk : Bool) (t : It σ) (h : t.WF) (hd : t.dir ≠ bk) (rel : Nat → Bool × Bool) (f : Nat)
    (hf : (t.setBackward bk).view.length < f) :
    let sw := fun s => view (Source.setBackward bk s)
    let read := (t.setBackward bk).drainRel rel f 0
    read.Perm (t.leaves.flatMap sw) ∧
    (∀ s ∈ t.leaves, (sw s).Sublist read) ∧
    ((∀ s ∈ t.leaves, (sw s).Pairwise (ord bk)) → read.Pairwise (ord bk)) ∧
    (∀ e ∈ read, ∃ s ∈ t.leaves, e ∈ sw s) := by
  intro sw read
  obtain ⟨tw, td⟩ := It.setBackward_spec bk t h
  have R := read_any_state (t.setBackward bk) tw rel f hf
  have hv := It.setBackward_leaves_views bk t h hd
  simp only [td] at R
  obtain ⟨r1, r2, r3, r4⟩ := R
  have fm := flatMap_eq_of_map_eq hv
  refine ⟨fm ▸ r1, (forall_mem_map_congr hv (·.Sublist read)).mp r2,
    fun hs => r3 ((forall_mem_map_congr hv (·.Pairwise (ord bk))).mpr hs), fun e he => ?_⟩
  have := r1.mem_iff.mp he
  rw [fm] at this
  simpa [List.mem_flatMap] using this

/-! ## appends between two pages of one read -/

/-- **records appended behind a page boundary are read, in order, by the same cursor.** A cursor in any reachable state, running
forward, is `Release`d (the end of a page: `crsr.commit`, `WaitNewData`); then the partitions grow: every source `s` becomes
`f s`, where a stream that still had something keeps its head and what shows up in a stream that had ended is later than
everything still undelivered (`It.GrowsTo`; an append of a late record to the in-memory source is one: `Leaf.append_growsTo`).
The mixers are not told. Then the continued read (with further `Release` calls anywhere) is the attributed union of what the
*grown* sources deliver alone: permutation, per-source order, ascending when every grown source is. This is what the reset of the
`eof` flags in `Mixer.Release` is for (`cex_sticky_eof_hides_append`). -/
theorem appends_between_pages (t : It σ) (h : t.WF) (hd : t.dir = false) (f : σ → σ)
    (hf : ∀ s ∈ t.release.leaves, It.GrowsTo t.release.view s (f s))
    (rel : Nat → Bool × Bool) (n : Nat) (hn : ((t.release.mapLeaves f).view).length < n) :
    let t' := t.release.mapLeaves f
    let read := t'.drainRel rel n 0
    t'.WF ∧ t'.leaves = t.release.leaves.map f ∧
    read.Perm (t'.leaves.flatMap view) ∧
    (∀ s ∈ t'.leaves, (view s).Sublist read) ∧
    ((∀ s ∈ t'.leaves, Ascending (view s)) → Ascending read) ∧
    (∀ e ∈ read, ∃ s ∈ t'.leaves, e ∈ view s) := by
  intro t' read
  obtain ⟨_, rw', rd, _⟩ := It.release_spec t h
  obtain ⟨gw, gd, _, _, _⟩ := It.mapLeaves_grow f t.release.view t.release rw' (It.release_Released t)
    (rd.trans hd) (fun x hx => hx) hf
  have R := read_any_state t' gw rel n hn
  simp only [show t'.dir = false from gd] at R
  exact ⟨gw, It.mapLeaves_leaves f _, R⟩

/-- every mixer a `Release` leaves behind has no `eof` flag set and is not in the "both ended" state -/
theorem release_resets (t : It σ) : t.release.Released := It.release_Released t

/-- why `Release` resets the flags: partition 1 = `[1]`, partition 2 = `[5, 6]`; the first page read `1` and peeked (`eof1` is now
set, source 2 selected). If the flag survived the page boundary (the first tree below: the state before `Release`), a record
`7` appended to partition 1 is not delivered by the continued read; after `Release` (the second tree) it is. -/
theorem cex_sticky_eof_hides_append :
    let a : Leaf := ⟨1, [⟨1, 0⟩], 1, false⟩
    let b : Leaf := ⟨2, [⟨5, 0⟩, ⟨6, 1⟩], 0, false⟩
    let m : MixSt := { st := 2, eof1 := true, le2 := ⟨5, 0, 2⟩ }
    let sticky : It Leaf := (It.mix m (.leaf a) (.leaf b)).modifyLeaf (Leaf.append ⟨7, 1⟩) 0
    let released : It Leaf := (It.mix m (.leaf a) (.leaf b)).release.modifyLeaf (Leaf.append ⟨7, 1⟩) 0
    (It.mix m (.leaf a) (.leaf b)).WF ∧
    sticky.drain 5 = [⟨5, 0, 2⟩, ⟨6, 1, 2⟩] ∧
    released.drain 5 = [⟨5, 0, 2⟩, ⟨6, 1, 2⟩, ⟨7, 1, 1⟩] := by
  refine ⟨by simp [It.WF, It.view, It.dir, It.settled, LawfulSource.wf, LawfulSource.view, LawfulSource.dir,
    LawfulSource.settled, Leaf.wf, Leaf.view, Leaf.settled, Leaf.ev, sel], by decide +kernel, by decide +kernel⟩

/-! ## appends at arbitrary `Get`/`Next` boundaries -/

/-- **appends to partitions the cursor has not exhausted are read in order, whenever they happen.** A cursor in any reachable
state, either direction, at any point between two calls — no `Release` needed —; the partitions grow: every source `s` becomes
`f s`, where a stream that still has something keeps its head (it is extended at its end) and a stream that has ended stays ended
(`It.GrowsLive`; an append to an in-memory partition with undelivered records is one: `Leaf.append_growsLive`; a source that does
not change is one: `It.GrowsLive.refl`). The mixers are not told, and need not be: the invariant holds for the grown tree as it
stands, what `Get` showed before the append is still the head, and the continued read (with `Release` calls anywhere) is the
attributed union of what the *grown* sources deliver alone — permutation, per-source order, time order. -/
theorem appends_at_any_boundary (t : It σ) (h : t.WF) (f : σ → σ)
    (hf : ∀ s ∈ t.leaves, It.GrowsLive s (f s))
    (rel : Nat → Bool × Bool) (n : Nat) (hn : ((t.mapLeaves f).view).length < n) :
    let t' := t.mapLeaves f
    let read := t'.drainRel rel n 0
    t'.WF ∧ t'.leaves = t.leaves.map f ∧ (∀ x, t.view.head? = some x → t'.view.head? = some x) ∧
    read.Perm (t'.leaves.flatMap view) ∧
    (∀ s ∈ t'.leaves, (view s).Sublist read) ∧
    ((∀ s ∈ t'.leaves, (view s).Pairwise (ord t.dir)) → read.Pairwise (ord t.dir)) ∧
    (∀ e ∈ read, ∃ s ∈ t'.leaves, e ∈ view s) := by
  intro t' read
  obtain ⟨gw, gd, _, gh, _⟩ := It.mapLeaves_grow_live f t h hf
  have R := read_any_state t' gw rel n hn
  simp only [show t'.dir = t.dir from gd] at R
  exact ⟨gw, It.mapLeaves_leaves f _, gh, R.1, R.2.1, R.2.2.1, R.2.2.2⟩

/-- **… and that is all the code gives in the middle of a page: a record appended to a partition the cursor HAS exhausted is not
read in order before the next `Release`.** Partition 1 = `[1]`, partition 2 = `[5, 6, 8]`; the reader has taken `1` and been shown
`5` (partition 1 was asked, answered `io.EOF`, its flag is set). Now `7` is appended to partition 1 — later than everything
delivered and than the head shown. Read on without a `Release`: `5, 6, 8` and the end; the `7` comes only after the next `Release`,
behind the `8`: the whole read is out of time order. Had the append happened behind a `Release` (`appends_between_pages`) the
read would be `5, 6, 7, 8`; an append to the partition that has NOT ended (`9` to partition 2) is read in order at once. -/
theorem cex_midpage_append_to_exhausted_partition :
    let a : Leaf := ⟨1, [⟨1, 0⟩], 0, false⟩
    let b : Leaf := ⟨2, [⟨5, 0⟩, ⟨6, 1⟩, ⟨8, 2⟩], 0, false⟩
    let t1 : It Leaf := (It.init (.leaf a) (.leaf b)).get.1.next.get.1
    let mid : It Leaf := t1.modifyLeaf (Leaf.append ⟨7, 1⟩) 0
    t1.get.2 = some ⟨5, 0, 2⟩ ∧
    mid.drain 9 = [⟨5, 0, 2⟩, ⟨6, 1, 2⟩, ⟨8, 2, 2⟩] ∧
    mid.drainRel (fun k => (k == 3, false)) 9 0 = [⟨5, 0, 2⟩, ⟨6, 1, 2⟩, ⟨8, 2, 2⟩, ⟨7, 1, 1⟩] ∧
    (t1.release.modifyLeaf (Leaf.append ⟨7, 1⟩) 0).drain 9 = [⟨5, 0, 2⟩, ⟨6, 1, 2⟩, ⟨7, 1, 1⟩, ⟨8, 2, 2⟩] ∧
    (t1.modifyLeaf (Leaf.append ⟨9, 3⟩) 1).drain 9 = [⟨5, 0, 2⟩, ⟨6, 1, 2⟩, ⟨8, 2, 2⟩, ⟨9, 3, 2⟩] := by
  decide +kernel

-- non-vacuity of `appends_at_any_boundary`: the tree above (a selection pending, an `eof` flag set), `9` appended to the live
-- partition 2, partition 1 untouched
example : ∃ (t : It Leaf) (f : Leaf → Leaf), t.WF ∧ (∀ s ∈ t.leaves, It.GrowsLive s (f s)) ∧
    (t.mapLeaves f).view = [⟨5, 0, 2⟩, ⟨6, 1, 2⟩, ⟨8, 2, 2⟩, ⟨9, 3, 2⟩] := by
  refine ⟨It.mix { st := 2, eof1 := true, le2 := ⟨5, 0, 2⟩ } (.leaf ⟨1, [⟨1, 0⟩], 1, false⟩)
      (.leaf ⟨2, [⟨5, 0⟩, ⟨6, 1⟩, ⟨8, 2⟩], 0, false⟩),
    fun l => if l.tags = 2 then l.append ⟨9, 3⟩ else l, ?_, ?_, ?_⟩
  · simp [It.WF, It.view, It.dir, It.settled, LawfulSource.wf, LawfulSource.view, LawfulSource.dir,
      LawfulSource.settled, Leaf.wf, Leaf.view, Leaf.settled, Leaf.ev, sel]
  · intro s hs
    simp only [It.leaves, List.cons_append, List.nil_append, List.mem_cons, List.not_mem_nil, or_false] at hs
    rcases hs with rfl | rfl
    · simp only [show ¬ ((1 : Nat) = 2) by decide, if_false]
      exact It.GrowsLive.refl _ (by simp [LawfulSource.wf, Leaf.wf])
    · simp only [if_true]
      exact Leaf.append_growsLive _ _ (by simp [LawfulSource.wf, Leaf.wf]) rfl
        (by simp [LawfulSource.view, Leaf.view])
  · simp [It.mapLeaves, It.view, LawfulSource.view, Leaf.view, Leaf.append, Leaf.ev, mergeSpec]

/-! ## re-positioning a held cursor (`crsr.ApplyState`) -/

/-- what `ApplyState` does to the iterator tree when the requested position differs, **as the code is now** (regenerated fact
`applyStateResyncs`): the journal iterators are moved (`g`: `SetPos` on every source, behind the mixers' back), then — if the
code does it unconditionally — the whole tree is switched backward and forward again -/
def applyStatePos (g : σ → σ) (t : It σ) : It σ :=
  if Generated.C04.applyStateResyncs then ((t.mapLeaves g).setBackward true).setBackward false else t.mapLeaves g

/-- **a re-positioned merged cursor serves the merge from the new position.** A cursor in *any* reachable forward state (a
selection pending, `eof` flags set, buffered heads of the old position) whose sources are moved to arbitrary new positions
(`g s` well formed, forward) is, after `ApplyState`, a well-formed tree over the moved sources: its read is a permutation of
what the moved sources deliver alone, keeps each source's order, is ascending when each is — nothing of the old position is
served. Sources: a direction switch there and back does not change what a source will deliver (`hround`), nor does a `Release`
in between (`hrel`); both hold for the in-memory iterator (`leaf_reposition_laws`) — the journal iterators only set a flag. -/
theorem repositioned_cursor_serves_new_position (t : It σ) (h : t.WF) (hd : t.dir = false) (g : σ → σ)
    (hg : ∀ s ∈ t.leaves, wf (g s) ∧ dir (g s) = false)
    (hrel : ∀ s : σ, wf s → view (Source.setBackward false (Source.release s)) = view (Source.setBackward false s))
    (hround : ∀ s : σ, wf s → dir s = false → view (Source.setBackward false (Source.setBackward true s)) = view s)
    (rel : Nat → Bool × Bool) (n : Nat) (hn : (applyStatePos g t).view.length < n) :
    let t' := applyStatePos g t
    let read := t'.drainRel rel n 0
    t'.WF ∧ t'.dir = false ∧ t'.leaves.map view = t.leaves.map (fun s => view (g s)) ∧
    read.Perm (t.leaves.flatMap (fun s => view (g s))) ∧
    (∀ s ∈ t.leaves, (view (g s)).Sublist read) ∧
    ((∀ s ∈ t.leaves, Ascending (view (g s))) → Ascending read) := by
  intro t' read
  have hf : Generated.C04.applyStateResyncs = true := facts.2.2.2.2.2.2
  have et : t' = ((t.mapLeaves g).setBackward true).setBackward false := by
    show applyStatePos g t = _
    unfold applyStatePos; rw [hf]; rfl
  have d0 := It.WF_DirOK t h
  rw [hd] at d0
  have d1 := It.mapLeaves_DirOK g false t d0 hg
  obtain ⟨w2, dir2⟩ := It.setBackward_of_DirOK true false _ d1 (by decide)
  obtain ⟨w3, dir3⟩ := It.setBackward_spec false _ w2
  -- the streams of the sources, through the two switches
  have v3 := It.setBackward_leaves_views false _ w2 (by rw [dir2]; decide)
  have v2 := It.setBackward_leaves_map (fun s => view (Source.setBackward false s)) hrel true false _ d1 (by decide)
  have hv : t'.leaves.map view = t.leaves.map (fun s => view (g s)) := by
    rw [et, v3, v2, It.mapLeaves_leaves, List.map_map]
    apply List.map_congr_left
    intro s hs
    exact hround (g s) (hg s hs).1 (hg s hs).2
  have w' : t'.WF := et ▸ w3
  have dd : t'.dir = false := et ▸ dir3
  have R := read_any_state t' w' rel n hn
  simp only [dd] at R
  obtain ⟨r1, r2, r3, _⟩ := R
  exact ⟨w', dd, hv, flatMap_eq_of_map_eq hv ▸ r1, (forall_mem_map_congr hv (·.Sublist read)).mp r2,
    fun hs => r3 ((forall_mem_map_congr hv (·.Pairwise (ord false))).mpr hs)⟩

/-- the in-memory iterator meets the two source hypotheses of `repositioned_cursor_serves_new_position` -/
theorem leaf_reposition_laws (l : Leaf) (hb : l.bkwd = false) :
    view (Source.setBackward false (Source.release l)) = view (Source.setBackward false l) ∧
    view (Source.setBackward false (Source.setBackward true l)) = view l := by
  refine ⟨rfl, ?_⟩
  show (Leaf.setBackward false (Leaf.setBackward true l)).view = l.view
  simp only [Leaf.setBackward, Leaf.view, Bool.false_eq_true, if_false, hb]
  rfl

/-- `Release` is not enough for a re-position: partition 1 = `[1, 3]`, partition 2 = `[2, 4]`; the cursor has read `1` and `2`,
peeked `3` (selected, buffered) and is released; both iterators are moved back to their first record. Without the switch the
read starts with the stale head `3` and `1` comes after it; with `ApplyState`'s switch there and back it is `1, 2, 3, 4`. -/
theorem cex_release_does_not_forget :
    let a : Leaf := ⟨1, [⟨1, 0⟩, ⟨3, 1⟩], 1, false⟩
    let b : Leaf := ⟨2, [⟨2, 0⟩, ⟨4, 1⟩], 1, false⟩
    let m : MixSt := { st := 1, le1 := ⟨3, 1, 1⟩, le2 := ⟨4, 1, 2⟩ }
    let back : Leaf → Leaf := fun l => { l with idx := 0 }
    (It.mix m (.leaf a) (.leaf b)).WF ∧
    (((It.mix m (.leaf a) (.leaf b)).release.mapLeaves back).drain 6).head? = some ⟨3, 1, 1⟩ ∧
    (applyStatePos back (It.mix m (.leaf a) (.leaf b))).drain 6 = [⟨1, 0, 1⟩, ⟨2, 0, 2⟩, ⟨3, 1, 1⟩, ⟨4, 1, 2⟩] := by
  refine ⟨by simp [It.WF, It.view, It.dir, It.settled, LawfulSource.wf, LawfulSource.view, LawfulSource.dir,
    LawfulSource.settled, Leaf.wf, Leaf.view, Leaf.settled, Leaf.ev, sel, pick], by decide +kernel, by decide +kernel⟩

/-! ## a source that fails is not a source that has ended -/

/-- the error model is the proved model when nothing fails: on answers that are events or `io.EOF`, `selectStateE` is
`selectState` and reports no error -/
theorem error_model_extends {α : Type} (m : MixSt) (a b a' b' : α) (oa ob : Option Ev) :
    m.selectStateE a b (a', Res.ofOption oa) (b', Res.ofOption ob) =
      ((m.selectState a b (a', oa) (b', ob)).1, (m.selectState a b (a', oa) (b', ob)).2.1,
       (m.selectState a b (a', oa) (b', ob)).2.2, false) :=
  selectStateE_noerr m a b a' b' oa ob

/-- **an erroring source is never treated as ended**: when a source that is asked answers an error that is not `io.EOF`,
`selectState` returns the error, keeps `st = 0` and does not set that source's `eof` flag (first source: the second is not even
asked; second source: the first one's flag is set only if it really answered `io.EOF`) -/
theorem error_is_not_eof {α : Type} (m : MixSt) (a b : α) (ga gb : α × Res) (h0 : m.st = 0) :
    (m.eof1 = false → ga.2 = .err →
      (m.selectStateE a b ga gb).2.2.2 = true ∧ (m.selectStateE a b ga gb).1.st = 0 ∧
      (m.selectStateE a b ga gb).1.eof1 = false ∧ (m.selectStateE a b ga gb).1.eof2 = m.eof2) ∧
    ((m.eof1 = true ∨ ga.2 ≠ .err) → m.eof2 = false → gb.2 = .err →
      (m.selectStateE a b ga gb).2.2.2 = true ∧ (m.selectStateE a b ga gb).1.st = 0 ∧
      (m.selectStateE a b ga gb).1.eof2 = false ∧
      ((m.selectStateE a b ga gb).1.eof1 = true → m.eof1 = true ∨ ga.2 = .eof)) := by
  constructor
  · intro he hg
    obtain ⟨e1, e2, e3, e4, _⟩ := selectStateE_err1 m a b ga gb h0 he hg
    exact ⟨e1, e2, e3, e4⟩
  · intro h1 he hg
    obtain ⟨e1, e2, e3, _, _, e6⟩ := selectStateE_err2 m a b ga gb h0 h1 he hg
    exact ⟨e1, e2, e3, e6⟩

/-- **the query fails instead of silently reading a subset**: while a source the mixers would ask keeps failing (`P`: states in
which its `Get` answers a non-EOF error and stays there — a record that cannot be read), every `Get` of the tree answers the
error, and afterwards that source would still be asked: the tree never goes on to deliver the merge of the other sources. -/
theorem failing_source_blocks_read {τ : Type} [SourceE τ] (P : τ → Prop)
    (hP : ∀ s, P s → (SourceE.getE s).2 = .err ∧ P (SourceE.getE s).1)
    (t : It τ) (h : t.Blocked P) : t.getE.2 = .err ∧ t.getE.1.Blocked P ∧ t.getE.1.getE.2 = .err := by
  obtain ⟨h1, h2⟩ := It.getE_blocked P hP t h
  exact ⟨h1, h2, (It.getE_blocked P hP _ h2).1⟩

-- non-vacuity: a fresh mixer over an in-memory source whose first record cannot be read, and a healthy one
example : ∃ t : It LeafE, t.Blocked LeafE.Stuck ∧ (∀ s, LeafE.Stuck s → (SourceE.getE s).2 = .err ∧ LeafE.Stuck (SourceE.getE s).1) :=
  ⟨It.init (.leaf { l := ⟨1, [⟨5, 0⟩], 0, false⟩, bad := [0] }) (.leaf { l := ⟨2, [⟨1, 0⟩], 0, false⟩ }),
    by simp [It.init, It.Blocked, LeafE.Stuck, Leaf.clamp], LeafE.stuck_getE⟩

/-- the in-memory leaf reports every event under its own tag line (with `multi_read`: every event of a merged read
carries the tag line of the partition it is stored in) -/
theorem leaf_attribution (l : Leaf) (e : Ev) (h : e ∈ view l) : e.tags = l.tags := by
  simp only [LawfulSource.view, Leaf.view] at h
  split at h <;> (simp only [List.mem_map] at h; obtain ⟨r, _, rfl⟩ := h; rfl)

-- non-vacuity: three in-memory partitions (one empty, a tie across partitions) meet the hypotheses of `multi_read`
example : ∃ srcs : List Leaf, srcs ≠ [] ∧ srcs.length = 3 ∧ (∀ s ∈ srcs, wf s ∧ dir s = false) ∧
    (∀ s ∈ srcs, Ascending (view s)) :=
  ⟨[⟨1, [⟨1, 0⟩, ⟨2, 1⟩], 0, false⟩, ⟨2, [], 0, false⟩, ⟨3, [⟨1, 0⟩, ⟨9, 1⟩], 0, false⟩], by simp, rfl,
    by simp [LawfulSource.wf, LawfulSource.dir, Leaf.wf],
    by simp [LawfulSource.view, Leaf.view, Leaf.ev]⟩

/-! ## the order of the sources is the tag-line order (repair of finding #23) -/

/-- the iterator `newCursor` builds **as the code is now** (with the regenerated fact whether it sorts the tag lines) for a map
`srcs` that Go happens to iterate in `mapOrder` -/
def cursorTree [Inhabited σ] (mapOrder : List (Bytes × σ)) : Option (It σ) :=
  buildFromMap Generated.C04.newCursorSortsSources mapOrder

/-- **two cursor incarnations over the same partition set build the same tree**: whatever two orders Go's map iteration
produces (`o1`, `o2`: permutations of one another, keys distinct as map keys are), the tree — shape, leaf order, everything —
is the same, hence so is every answer of every operation sequence, in particular the order among equal timestamps of
different partitions. -/
theorem merged_order_deterministic [Inhabited σ] (o1 o2 : List (Bytes × σ)) (hp : o1.Perm o2)
    (hn : (o1.map (·.1)).Nodup) : cursorTree o1 = cursorTree o2 := by
  have hf : Generated.C04.newCursorSortsSources = true := facts.2.2.2.2.2.1
  unfold cursorTree buildFromMap sourceOrder
  rw [hf]
  simp only [if_true]
  rw [sortLines_order_independent o1 o2 hp hn]

/-- … and the priority is the tag-line order: the leaves of the tree, left to right, are the sources in ascending Go string
order of their tag lines (each exactly once) -/
theorem source_priority_is_tag_line_order [Inhabited σ] (mapOrder : List (Bytes × σ)) (hne : mapOrder ≠ []) :
    ∃ (t : It σ) (sorted : List (Bytes × σ)), cursorTree mapOrder = some t ∧ t.leaves = sorted.map (·.2) ∧ sorted.Perm mapOrder ∧
      sorted.Pairwise (fun a b => Go.bytesLe a.1 b.1 = true) := by
  have hf : Generated.C04.newCursorSortsSources = true := facts.2.2.2.2.2.1
  have hne' : (sortLines mapOrder).map (·.2) ≠ [] := by
    intro h
    have := (sortLines_perm mapOrder).length_eq
    have h0 : ((sortLines mapOrder).map (·.2)).length = 0 := by rw [h]; rfl
    rw [List.length_map] at h0
    cases mapOrder with
    | nil => exact hne rfl
    | cons x xs => simp at this; omega
  obtain ⟨t, h1, h2⟩ := build_leaves _ hne'
  refine ⟨t, sortLines mapOrder, ?_, h2, sortLines_perm _, sortLines_sorted _⟩
  unfold cursorTree buildFromMap sourceOrder
  rw [hf]; exact h1

/-- how ties are broken: among equal timestamps the left source (the smaller tag line) goes first forward, the right one
(the greater tag line) first backward — one total order `(ts, tag-line rank, stored position)` walked in both directions -/
theorem tie_priority (x y : Ev) (xs ys : List Ev) (h : x.ts = y.ts) :
    mergeSpec false (x :: xs) (y :: ys) = x :: mergeSpec false xs (y :: ys) ∧
    mergeSpec true (x :: xs) (y :: ys) = y :: mergeSpec true (x :: xs) ys := by
  constructor <;> rw [mergeSpec_cons_cons] <;> simp [pick, h]

/-- the same map in two iteration orders; the *old* code (no sorting: `buildFromMap false`) built two different trees, with the
tie between the two partitions broken differently — what finding #23 was -/
theorem cex_unsorted_order_dependent :
    let a : Leaf := ⟨1, [⟨5, 0⟩], 0, false⟩
    let b : Leaf := ⟨2, [⟨5, 0⟩], 0, false⟩
    (buildFromMap false [([97], a), ([98], b)]).map It.view = some [⟨5, 0, 1⟩, ⟨5, 0, 2⟩] ∧
    (buildFromMap false [([98], b), ([97], a)]).map It.view = some [⟨5, 0, 2⟩, ⟨5, 0, 1⟩] ∧
    (cursorTree [([98], b), ([97], a)]).map It.view = some [⟨5, 0, 1⟩, ⟨5, 0, 2⟩] := by
  decide +kernel

-- non-vacuity: three map entries in two different iteration orders
example : ([([98], (0 : Nat)), ([97], 1), ([99], 2)] : List (Bytes × Nat)).Perm [([99], 2), ([98], 0), ([97], 1)] ∧
    (([([98], (0 : Nat)), ([97], 1), ([99], 2)] : List (Bytes × Nat)).map (·.1)).Nodup := by
  refine ⟨?_, by decide⟩
  exact List.perm_iff_count.mpr (by intro x; simp only [List.count_cons, List.count_nil]; omega)

/-! ## the merge limit -/

/-- **too many matching partitions: the query fails and nothing stays acquired.** `GetJournals` with the limit
`newCursor` passes (regenerated: 50) over `matching` (the partitions `tindex.Visit` walks, any order) fails as soon
as the count *reaches* the limit — so certainly for more than the limit, which is what the property demands — and
hands back the reader counts exactly as it found them. -/
theorem limit_fails (matching : List Part) (rd : Readers) (hnd : (matching.map (·.line)).Nodup)
    (hlim : Generated.C04.mergeLimit ≤ matching.length) :
    getJournals Generated.C04.mergeLimit matching rd = (rd, none) :=
  getJournals_limit_fails _ matching rd facts.2.2.2.2.1 hnd hlim

/-- below the limit every matching partition is acquired exactly once and returned: no silent subset -/
theorem under_limit_all (matching : List Part) (rd : Readers) (hnd : (matching.map (·.line)).Nodup)
    (hlim : matching.length < Generated.C04.mergeLimit) :
    getJournals Generated.C04.mergeLimit matching rd =
      (matching.foldl (fun r p => acquire r p.src) rd, some matching) :=
  getJournals_under_limit _ matching rd hnd hlim

/-- remark (not a finding): exactly `limit` partitions already fail, although the property only demands failure for
more than the limit -/
theorem remark_fails_at_exactly_the_limit :
    (getJournals 2 [⟨0, 0⟩, ⟨1, 1⟩] (fun _ => 0)).2 = none ∧ (getJournals 2 [⟨0, 0⟩] (fun _ => 0)).2 = some [⟨0, 0⟩] := by
  simp [getJournals, visitLoop, mapPut]

end Logrange.Props.C04

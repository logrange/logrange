import Logrange.Proofs.RdRngOffset
import Logrange.Proofs.RdRngFwd
import Logrange.Proofs.RdRngWin
import Logrange.Proofs.RdOffsetBwd
import Logrange.Proofs.RdRngOffsetBwd
/-!
# C16 with RANGE — the forward offset law over the ranged journal iterator

"These hold with RANGE and WHERE applied": `head` with offset +k over a cursor whose leaf is `partition.JIterator` under the
`fiterator` (range re-check + WHERE), and the backward laws `tail − k`, `+k −k` on the same cursor. Input contract as in
`Props/C03Ranged.lean`: `WinSound j lo hi` (every in-range record lies inside its chunk's window; windows may be wider).
Hypotheses of the backward laws as for the un-ranged ones: no chunk id 0 (`PosIds`), at most 2^32 records per chunk
(`bw_ChunkBound`), ids below the `tail` id (`IdsBelowTail`). All on the faithful `crsr.Offset` model (negative branch with the
EOF special case, step loop, direction switches, fiterator cache reset) over the ranged iterator model.
-/
namespace Logrange.Props.C16Ranged
open Logrange.Rd

def fwdAllR (j : Journal) (w : Bool) (lo hi : Option Int) : List Rec := (flat j).filter (passR lo hi w)

/-- from ANY forward state of the ranged one-source cursor standing at index `i` of the admitted records,
`Offset(+k)` leaves exactly the old remaining output without its first `k` matching events -/
theorem offset_forward_ranged (name : Nat) (j : Journal) (w sy : Bool) (lo hi : Option Int) (c : Cur) (i k : Nat)
    (hs : Sorted j) (h : AbsR lo hi name j w sy c i) :
    ∃ i', AbsR lo hi name j w sy (offset c (k : Int)) i' ∧ FLR lo hi j w i' = (FLR lo hi j w i).drop k :=
  ro_offset_pos lo hi rGetFwd rNextFwd hs k h

/-- **head_plus_k with RANGE (and WHERE)**: `head` with offset +k skips exactly the first k matching events — for ALL sorted
journals, chunk layouts, windows sound for the range, k and read lengths. -/
theorem head_plus_k_ranged (name : Nat) (j : Journal) (w : Bool) (lo hi : Option Int) (k n : Nat) (hs : Sorted j)
    (hw : WinSound j lo hi) :
    readN n (offset (applyCorner (mkR lo hi name j w) false) (k : Int)) = ((fwdAllR j w lo hi).drop k).take n := by
  obtain ⟨i', a', f'⟩ := ro_offset_pos lo hi rGetFwd rNextFwd hs k (rp_head_abs lo hi name j w)
  rw [rob_readN lo hi rGetFwd rNextFwd hs n a', f', rp_FLR_zero]
  exact congrArg (fun l => (l.drop k).take n) (rwn_filter_wflat (hw.toPassR w))

theorem fwdAllR_eq (j : Journal) (w : Bool) (lo hi : Option Int) (hw : WinSound j lo hi) :
    (wflat j).filter (passR lo hi w) = fwdAllR j w lo hi :=
  rwn_filter_wflat (hw.toPassR w)

/-- from ANY forward state, `Offset(−k)` moves back over `k` matching events (or to the start) -/
theorem offset_backward_ranged (name : Nat) (j : Journal) (w : Bool) (lo hi : Option Int) (c : Cur) (i k : Nat)
    (hs : Sorted j) (hp : PosIds j) (hcb : bw_ChunkBound j) (h : AbsR lo hi name j w false c i) :
    ∃ i', AbsR lo hi name j w false (offset c (-(k : Int))) i' ∧
      FLR lo hi j w i' = (FLR lo hi j w 0).drop (((FLR lo hi j w 0).length - (FLR lo hi j w i).length) - k) :=
  rob_offset_neg lo hi rGetFwd rNextFwd rGetBwd rNextBwd hs hp hcb k h

def tail_minus_k_ranged_stmt : Prop :=
  ∀ (name : Nat) (j : Journal) (w : Bool) (lo hi : Option Int) (k n : Nat), Sorted j → PosIds j → bw_ChunkBound j →
    IdsBelowTail j → WinSound j lo hi →
    readN n (offset (applyCorner (mkR lo hi name j w) true) (-(k : Int))) =
      ((fwdAllR j w lo hi).drop ((fwdAllR j w lo hi).length - k)).take n

/-- **tail_minus_k with RANGE (and WHERE)**: `tail` with offset −k followed by a forward read returns exactly the last k
events of the forward result (all of it if shorter). -/
theorem tail_minus_k_ranged : tail_minus_k_ranged_stmt := by
  intro name j w lo hi k n hs hp hcb ht hw
  rw [rob_tail_minus_k lo hi rGetFwd rNextFwd rGetBwd rNextBwd name j w k n hs hp hcb ht, fwdAllR_eq j w lo hi hw]

def plus_minus_k_ranged_stmt : Prop :=
  ∀ (name : Nat) (j : Journal) (w : Bool) (lo hi : Option Int) (m k n : Nat), Sorted j → PosIds j → bw_ChunkBound j →
    WinSound j lo hi → m + k ≤ (fwdAllR j w lo hi).length →
    readN n (offset (offset (readLoop m (applyCorner (mkR lo hi name j w) false) []).1 (k : Int)) (-(k : Int))) =
      readN n (readLoop m (applyCorner (mkR lo hi name j w) false) []).1

/-- **plus_minus_k with RANGE (and WHERE)**: after any `m` delivered events, `+k` then `−k` (both inside the result) changes
nothing. -/
theorem plus_minus_k_ranged : plus_minus_k_ranged_stmt := by
  intro name j w lo hi m k n hs hp hcb hw hk
  exact rob_plus_minus_k lo hi rGetFwd rNextFwd rGetBwd rNextBwd name j w m k n hs hp hcb
    (by rw [fwdAllR_eq j w lo hi hw]; exact hk)

/-! ### instances evaluated by the kernel -/

def rr (l : Nat) (t : Int) (k : Bool := true) : Rec := { lbl := l, ts := t, keep := k }
/-- windows narrower than the chunks and wider than the range `[12,13]`, an empty chunk, a chunk wholly outside -/
def jw : Journal :=
  [⟨10, [rr 0 10, rr 1 11, rr 2 12 false, rr 3 12, rr 4 13, rr 5 14], 1, 4⟩, ⟨20, [], 0, maxU32⟩,
   ⟨30, [rr 6 14, rr 7 15], maxU32, maxU32⟩, ⟨40, [rr 8 12, rr 9 13, rr 10 20], 0, 1⟩]

theorem head_plus_k_ranged_jw : ∀ w ∈ [false, true], ∀ k ∈ ([0, 1, 2, 3, 4, 5, 6] : List Nat), ∀ n ∈ [1, 3, 9],
    readN n (offset (applyCorner (mkR (some 12) (some 13) 0 jw w) false) (k : Int))
      = ((fwdAllR jw w (some 12) (some 13)).drop k).take n := by decide +kernel

theorem tail_minus_k_ranged_jw : ∀ w ∈ [false, true], ∀ k ∈ ([0, 1, 2, 3, 4, 5, 6] : List Nat), ∀ n ∈ [1, 3, 9],
    readN n (offset (applyCorner (mkR (some 12) (some 13) 0 jw w) true) (-(k : Int)))
      = ((fwdAllR jw w (some 12) (some 13)).drop ((fwdAllR jw w (some 12) (some 13)).length - k)).take n := by
  decide +kernel

theorem plus_minus_k_ranged_jw : ∀ w ∈ [false, true], ∀ m ∈ ([0, 1, 2] : List Nat), ∀ k ∈ ([0, 1, 2] : List Nat), ∀ n ∈ [1, 9],
    readN n (offset (offset (readLoop m (applyCorner (mkR (some 12) (some 13) 0 jw w) false) []).1 (k : Int)) (-(k : Int)))
      = readN n (readLoop m (applyCorner (mkR (some 12) (some 13) 0 jw w) false) []).1 := by decide +kernel

end Logrange.Props.C16Ranged

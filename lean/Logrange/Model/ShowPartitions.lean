import Logrange.Model.Outcome
import Logrange.Generated.C13
/-!
# `SHOW PARTITIONS … OFFSET o LIMIT l` (C13, finding F55)

`backend.Admin.cmdShowPartitions` (pkg/backend/admin.go) takes OFFSET and LIMIT as the parser read them (`*int`: any int64, also
negative; default offset 0, default limit `math.MaxUint32`) and hands them to `partition.Service.Partitions`
(pkg/partition/partition.go), whose paging arithmetic over the sorted list `parts` (length `n`) is mirrored here as a total
function with a panic value:

```go
if limit > 1000 { limit = 1000 }
if offset >= len(parts) { return &PartitionsInfo{Count: len(parts), …}, nil }
sz := len(parts) - offset                      // int arithmetic: wraps for offset near MinInt64
if limit > sz { limit = sz }
res.Partitions = make([]*PartitionInfo, limit) // panics for limit < 0: "makeslice: len out of range"
for i := offset; limit > 0; i++ { res.Partitions[i-offset] = parts[i]; limit-- }   // parts[i] with i < 0 panics
```

`pageGo` is the copying loop (checked `parts[i]` and `res[i-offset]`); the result is the list of indices into `parts` that are
returned. `guard` is the regenerated fact `Generated.C13.showPartitionsRejectsNegative`: a negative OFFSET or LIMIT is refused
with an error before the arithmetic (the proposed repair of F55; `false` on the tree without it).
-/
namespace Logrange.ShowPartitions
open Logrange

def wrap64 (x : Int) : Int :=
  let m := x % 18446744073709551616
  if m < 9223372036854775808 then m else m - 18446744073709551616

/-- the copying loop: `left` = the remaining `limit`, `i` = index into `parts`, `size` = `len(res.Partitions)` -/
def pageGo (n : Nat) (offset : Int) (size : Nat) : Nat → Int → List Nat → Outcome (List Nat)
  | 0, _, acc => .ok acc.reverse
  | left + 1, i, acc =>
    if i < 0 ∨ (n : Int) ≤ i then .panic "index out of range"                       -- parts[i]
    else if i - offset < 0 ∨ (size : Int) ≤ i - offset then .panic "index out of range"   -- res.Partitions[i-offset]
    else pageGo n offset size left (i + 1) (i.toNat :: acc)

/-- `Service.Partitions` as far as paging goes: the indices of `parts` that are returned -/
def partitions (n : Nat) (offset limit : Int) : Outcome (List Nat) :=
  let limit := if limit > 1000 then 1000 else limit
  if (n : Int) ≤ offset then .ok []
  else
    let sz := wrap64 ((n : Int) - offset)
    let limit := if limit > sz then sz else limit
    if limit < 0 then .panic "makeslice: len out of range"
    else pageGo n offset limit.toNat limit.toNat offset []

/-- `cmdShowPartitions`: defaults (`offset` 0, `limit` MaxUint32), the guard when `/repo` has one, then `Partitions` -/
def showPartitions (guard : Bool) (n : Nat) (offset limit : Option Int) : Outcome (List Nat) :=
  let o := offset.getD 0
  let l := limit.getD 4294967295
  if guard = true ∧ (o < 0 ∨ l < 0) then .err else partitions n o l

def showPartitionsNow (n : Nat) (offset limit : Option Int) : Outcome (List Nat) :=
  showPartitions Generated.C13.showPartitionsRejectsNegative n offset limit

/-- the class of finding F55: a negative OFFSET or LIMIT -/
def negativeArg (offset limit : Option Int) : Bool := decide (offset.getD 0 < 0) || decide (limit.getD 4294967295 < 0)

/-- the loop on non-negative arguments: `left` more indices from `i` on all exist -/
theorem pageGo_ok (n : Nat) (offset : Int) (size : Nat) (ho : 0 ≤ offset) : ∀ (left : Nat) (i : Int) (acc : List Nat),
    offset ≤ i → i + left ≤ n → i + left ≤ offset + size → (pageGo n offset size left i acc).isPanic = false
  | 0, _, _, _, _, _ => rfl
  | left + 1, i, acc, h1, h2, h3 => by
    unfold pageGo
    rw [if_neg (by omega), if_neg (by omega)]
    exact pageGo_ok n offset size ho left (i + 1) _ (by omega) (by omega) (by omega)

theorem wrap64_small {x : Int} (h0 : 0 ≤ x) (h1 : x < 9223372036854775808) : wrap64 x = x := by
  unfold wrap64
  have : x % 18446744073709551616 = x := Int.emod_eq_of_lt h0 (by omega)
  simp only [this]
  split <;> omega

/-- **non-negative OFFSET and LIMIT never panic**, for any number of partitions a Go slice can hold -/
theorem partitions_nonneg (n : Nat) (hn : (n : Int) < 9223372036854775808) (offset limit : Int) (ho : 0 ≤ offset) (hl : 0 ≤ limit) :
    (partitions n offset limit).isPanic = false := by
  unfold partitions
  simp only []
  split
  · rfl
  · rw [wrap64_small (by omega) (by omega)]
    have cap : ∀ L s : Int, 0 ≤ L → 0 ≤ s → 0 ≤ (if L > s then s else L) ∧ (if L > s then s else L) ≤ s :=
      fun L s _ _ => by split <;> omega
    have hm := cap _ ((n : Int) - offset) (cap limit 1000 hl (by decide)).1 (by omega)
    rw [if_neg (by omega)]
    exact pageGo_ok n offset _ ho _ offset [] (Int.le_refl _) (by omega) (by omega)

end Logrange.ShowPartitions

import Logrange.Go.Basic
/-!
# Outcomes with explicit panics, and checked slicing / indexing (C13)

Go code that decodes request bytes can end in four ways that matter for C13: it returns a value, it returns an
error, it **panics** (slice or index out of range — fatal for the server, the RPC layer has no `recover`), or it
does not return at all. The models of the decoders return an `Outcome`; every `s[i:j]`, `s[i:]` and `s[i]` of the
Go code is a *checked* operation here (`Go.slice`, `Go.sliceFrom`, `Go.index`) that yields `.panic` exactly when
Go's bounds check would fail. "Never reads outside the request buffer" is therefore not a separate statement: a
model function that does not return `.panic` has passed every bounds check of the code it mirrors.
Loops that are not structurally recursive take fuel and return `.outOfFuel` when it is exhausted; a theorem with
an explicit fuel bound says that the loop terminates.
-/
namespace Logrange

inductive Outcome (α : Type) where
  | ok (a : α)
  | err
  | panic (why : String)
  | outOfFuel
  deriving Repr, DecidableEq

namespace Outcome

def isPanic : Outcome α → Bool
  | .panic _ => true
  | _ => false

def isOk : Outcome α → Bool
  | .ok _ => true
  | _ => false

def isOutOfFuel : Outcome α → Bool
  | .outOfFuel => true
  | _ => false

/-- sequencing: `x, err := …; if err != nil { return err }` -/
def bind (x : Outcome α) (f : α → Outcome β) : Outcome β :=
  match x with
  | .ok a => f a
  | .err => .err
  | .panic w => .panic w
  | .outOfFuel => .outOfFuel

def map (f : α → β) (x : Outcome α) : Outcome β := x.bind (fun a => .ok (f a))

theorem bind_ok (a : α) (f : α → Outcome β) : (Outcome.ok a).bind f = f a := rfl
theorem bind_err (f : α → Outcome β) : (Outcome.err : Outcome α).bind f = .err := rfl
theorem bind_panic (w : String) (f : α → Outcome β) : (Outcome.panic w : Outcome α).bind f = .panic w := rfl
theorem bind_outOfFuel (f : α → Outcome β) : (Outcome.outOfFuel : Outcome α).bind f = .outOfFuel := rfl

theorem bind_isPanic_false {x : Outcome α} {f : α → Outcome β}
    (hx : x.isPanic = false) (hf : ∀ a, x = .ok a → (f a).isPanic = false) : (x.bind f).isPanic = false := by
  cases x with
  | ok a => exact hf a rfl
  | panic w => cases hx
  | _ => rfl

theorem bind_eq_ok {x : Outcome α} {f : α → Outcome β} {b : β} (h : x.bind f = .ok b) :
    ∃ a, x = .ok a ∧ f a = .ok b := by
  cases x with
  | ok a => exact ⟨a, rfl, h⟩
  | _ => cases h

theorem isPanic_false_of_ne {x : Outcome α} (h : ∀ w, x ≠ .panic w) : x.isPanic = false := by
  cases x with
  | panic w => exact absurd rfl (h w)
  | _ => rfl

theorem ne_panic_of_isPanic_false {x : Outcome α} (h : x.isPanic = false) (w : String) : x ≠ .panic w := by
  intro e; subst e; cases h

end Outcome
end Logrange

namespace Go
open Logrange

/-- `b[i:j]` with Go's bounds check `0 ≤ i ≤ j ≤ len(b)` (for a slice whose capacity equals its length, which is
how request buffers and strings arrive). Bounds are `Int` because the reachable failure is a *negative* or
wrapped-around bound. -/
def slice (b : Bytes) (i j : Int) : Outcome Bytes :=
  if 0 ≤ i ∧ i ≤ j ∧ j ≤ (b.length : Int) then .ok ((b.drop i.toNat).take (j.toNat - i.toNat))
  else .panic "slice bounds out of range"

/-- `b[i:]` -/
def sliceFrom (b : Bytes) (i : Nat) : Outcome Bytes :=
  if i ≤ b.length then .ok (b.drop i) else .panic "slice bounds out of range"

/-- `b[i]` -/
def index (b : List α) (i : Nat) : Outcome α :=
  match b[i]? with
  | some x => .ok x
  | none => .panic "index out of range"

theorem slice_ok_of {b : Bytes} {i j : Int} (h : 0 ≤ i ∧ i ≤ j ∧ j ≤ (b.length : Int)) :
    slice b i j = .ok ((b.drop i.toNat).take (j.toNat - i.toNat)) :=
  if_pos h

theorem sliceFrom_ok_of {b : Bytes} {i : Nat} (h : i ≤ b.length) : sliceFrom b i = .ok (b.drop i) :=
  if_pos h

end Go

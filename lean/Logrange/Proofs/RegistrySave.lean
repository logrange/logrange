import Logrange.Model.Registry
/-! Invariant of the concurrent create + save transition system in its serialized shape. -/
namespace Logrange.Registry
open Go

/-- what must hold for one caller, by program counter -/
def SOk (s : SState) (a : Nat) : Pipe × SPc → Prop
  | (p, .snap) => p ∈ s.reg
  | (p, .write sn) => s.saver = some a ∧ p ∈ sn ∧ (∀ q ∈ s.disk, q ∈ sn) ∧ (∀ q ∈ sn, q ∈ s.reg)
  | (p, .done true) => p ∈ s.disk
  | _ => True

def SInv (s : SState) : Prop :=
  (∀ q ∈ s.disk, q ∈ s.reg) ∧
  (∀ (a : Nat) (x : Pipe × SPc), s.pcs[a]? = some x → SOk s a x) ∧
  (∀ a, s.saver = some a → ∃ p sn, s.pcs[a]? = some (p, SPc.write sn))

theorem getElem?_set_cases {α} (l : List α) (a b : Nat) (y x : α) (halt : a < l.length)
    (h : (l.set a y)[b]? = some x) : (b = a ∧ x = y) ∨ (b ≠ a ∧ l[b]? = some x) := by
  by_cases e : b = a
  · subst e; rw [List.getElem?_set_self halt] at h; left; exact ⟨rfl, (Option.some.inj h).symm⟩
  · rw [List.getElem?_set_ne (Ne.symm e)] at h; right; exact ⟨e, h⟩

/-- what a step must leave alone for the obligations of the callers it does not move -/
theorem SOk.mono {s s' : SState} {b : Nat} {x : Pipe × SPc} (h : SOk s b x) (hreg : ∀ q ∈ s.reg, q ∈ s'.reg)
    (hdisk : ∀ q ∈ s.disk, q ∈ s'.disk) (hw : s.saver = some b → s'.saver = s.saver ∧ s'.disk = s.disk) : SOk s' b x := by
  obtain ⟨p, pc⟩ := x
  cases pc with
  | start => trivial
  | checked => trivial
  | snap => exact hreg _ h
  | write sn =>
    obtain ⟨h1, h2, h3, h4⟩ := h
    obtain ⟨e1, e2⟩ := hw h1
    exact ⟨e1.trans h1, h2, e2 ▸ h3, fun q hq => hreg q (h4 q hq)⟩
  | done ok => cases ok; trivial; exact hdisk _ h

theorem sstep_inv (s s' : SState) (a : Nat) (h : SInv s) (hs : sstep true s a = some s') : SInv s' := by
  unfold sstep at hs
  obtain ⟨hdr, hok, hsv⟩ := h
  cases hpa : s.pcs[a]? with
  | none => simp [hpa] at hs
  | some pp =>
    obtain ⟨p, pc⟩ := pp
    have halt : a < s.pcs.length := (List.getElem?_eq_some_iff.mp hpa).1
    have hself := hok a (p, pc) hpa
    -- a caller that is not writing does not hold the mutex, so the holder's entry stays where it is
    have keepSaver : (∀ sn, pc ≠ SPc.write sn) → ∀ (y : Pipe × SPc) (b : Nat), s.saver = some b →
        ∃ p' sn, (s.pcs.set a y)[b]? = some (p', SPc.write sn) := by
      intro hne y b hsb
      obtain ⟨p', sn, hw⟩ := hsv b hsb
      have hba : b ≠ a := by
        rintro rfl
        rw [hpa] at hw
        exact hne sn (Prod.mk.inj (Option.some.inj hw)).2
      exact ⟨p', sn, by rw [List.getElem?_set_ne (Ne.symm hba)]; exact hw⟩
    -- moving `a` to a counter without obligations, nothing else changing
    have trivial_move : ∀ (pc' : SPc), (∀ sn, pc ≠ SPc.write sn) → SOk s a (p, pc') →
        SInv { s with pcs := s.pcs.set a (p, pc') } := by
      intro pc' hne hnew
      refine ⟨hdr, fun b x hb => ?_, keepSaver hne _⟩
      rcases getElem?_set_cases _ a b _ x halt hb with ⟨rfl, rfl⟩ | ⟨_, hb'⟩
      · exact hnew
      · exact hok b x hb'
    cases pc with
    | start =>
      simp only [hpa] at hs
      cases hf : s.reg.find p.name <;> simp only [hf, Option.some.injEq] at hs <;> subst hs <;>
        exact trivial_move _ (by intro sn; simp) trivial
    | checked =>
      simp only [hpa] at hs
      cases hf : s.reg.find p.name with
      | some q => simp only [hf, Option.some.injEq] at hs; subst hs
                  exact trivial_move _ (by intro sn; simp) trivial
      | none =>
        simp only [hf, Option.some.injEq] at hs; subst hs
        refine ⟨fun q hq => List.mem_cons_of_mem _ (hdr q hq), fun b x hb => ?_, keepSaver (by intro sn; simp) _⟩
        rcases getElem?_set_cases _ a b _ x halt hb with ⟨rfl, rfl⟩ | ⟨_, hb'⟩
        · exact List.mem_cons_self ..
        · exact (hok b x hb').mono (fun q hq => List.mem_cons_of_mem _ hq) (fun q hq => hq) (fun _ => ⟨rfl, rfl⟩)
    | snap =>
      simp only [hpa, if_true] at hs
      cases hsav : s.saver with
      | some c => simp [hsav] at hs
      | none =>
        simp only [hsav, Option.some.injEq] at hs; subst hs
        refine ⟨hdr, fun b x hb => ?_, fun b hsb => ?_⟩
        · rcases getElem?_set_cases _ a b _ x halt hb with ⟨rfl, rfl⟩ | ⟨hba, hb'⟩
          · exact ⟨rfl, hself, hdr, fun q hq => hq⟩
          · exact (hok b x hb').mono (fun q hq => hq) (fun q hq => hq) (fun hs => by rw [hsav] at hs; cases hs)
        · cases hsb
          exact ⟨p, s.reg, List.getElem?_set_self halt⟩
    | write sn =>
      simp only [hpa, if_true, Option.some.injEq] at hs; subst hs
      obtain ⟨hsa, hpsn, hdsn, hsnr⟩ := hself
      refine ⟨hsnr, fun b x hb => ?_, fun b hsb => nomatch hsb⟩
      rcases getElem?_set_cases _ a b _ x halt hb with ⟨rfl, rfl⟩ | ⟨hba, hb'⟩
      · exact hpsn
      · exact (hok b x hb').mono (fun q hq => hq) hdsn
          (fun hs => absurd (Option.some.inj (hsa.symm.trans hs)).symm hba)
    | done ok => simp [hpa] at hs

theorem srun_inv (s : SState) (sched : List Nat) (h : SInv s) : SInv (srun true s sched) := by
  induction sched generalizing s with
  | nil => simpa [srun] using h
  | cons a as ih =>
    simp only [srun]
    cases hs : sstep true s a with
    | none => exact ih s h
    | some s' => exact ih s' (sstep_inv s s' a h hs)

end Logrange.Registry

import Logrange.Proofs.LqlEngineStmt
/-!
# C12: engine = direct parser, statement `SELECT`

`tail_step` is the generic step "one guarded optional clause `("KW" @…)?` in front of a list of such clauses" against
`dKwClause`; the typed conversion of the captures is carried along (`good`), so that the failure classes of the engine
("reached the end of input, but a capture does not convert") and of the direct parser coincide. `sim_list` iterates it over a list
of clause records (`Clause`: keyword, field, body node, direct body reader, conversion); `selSpecs` are the six clauses of `Select`.
-/
namespace Logrange.Lql
open Logrange.Generated.C12

/-! ## generic pieces -/

/-- what `parseSeq` returns at the end of the element list -/
def finR (vals : List Val) (caps : Caps) (cur : Nat) : Res := if vals.isEmpty then .noMatch else .ok vals caps cur

def clauseList (l : List (Bytes × String × Node)) : List Node := l.map (fun x => optG (kwSeq x.1 x.2.1 x.2.2))

def selKws : List Bytes := [kwFROM, kwRANGE, kwWHERE, kwPOSITION, kwOFFSET, kwLIMIT]

/-- a token is there and it is none of the clause keywords of `Select` -/
def StuckAt (c : Ctx) (cur : Nat) : Prop := ∃ q, c.toks[cur]? = some q ∧ ∀ kw ∈ selKws, litMatch q kw = false

/-- "skip the rest": clauses whose keyword is not at the cursor leave everything unchanged -/
theorem skip_rest (c : Ctx) (cur : Nat) :
    ∀ (l : List (Bytes × String × Node)) (f : Nat), l.length + 6 ≤ f →
      (∀ q, c.toks[cur]? = some q → ∀ x ∈ l, litMatch q x.1 = false) →
      ∀ (first : Bool) (vals : List Val) (caps : Caps), parseSeq c f (clauseList l) cur first vals caps = finR vals caps cur
  | [], f, hf, _, first, vals, caps => by
    obtain ⟨g, rfl⟩ := Nat.exists_eq_add_of_le' (show 1 ≤ f by omega)
    simp [clauseList, parseSeq_nil, finR]
  | x :: l, f, hf, hq, first, vals, caps => by
    obtain ⟨g, rfl⟩ := Nat.exists_eq_add_of_le' (show 6 ≤ f by simp at hf; omega)
    have ih := skip_rest c cur l (g+5) (by simp at hf; omega) (fun q h y hy => hq q h y (List.mem_cons_of_mem _ hy))
    have e : parse c (g+5) (optG (kwSeq x.1 x.2.1 x.2.2)) cur = .ok [] [] cur := by
      cases hn : c.toks[cur]? with
      | none => exact clause_none c _ _ _ g cur hn
      | some q => exact clause_nolit c _ _ _ g cur q hn (hq q hn x (List.mem_cons_self))
    simp only [clauseList, List.map_cons] at ih ⊢
    rw [parseSeq_cons, e]
    simp only [List.append_nil]
    exact ih false vals caps

/-- the body of a clause at `cur1` against the direct body parser, with the conversion `cv` of the captured value -/
def BodySim {α : Type} (c : Ctx) (cur1 : Nat) (rb : Res) (d : Option (α × List Tok)) (cv : Val → Option α) : Prop :=
  match d with
  | some (a, rest) => ∃ v cur', rb = .ok [v] [] cur' ∧ cv v = some a ∧ rest = c.toks.drop cur' ∧ cur1 ≤ cur' ∧ cur' ≤ c.toks.length
  | none => rb = .noMatch ∨ (∃ k hv, rb = .err k hv ∧ cur1 ≤ k) ∨ (∃ v cur', rb = .ok [v] [] cur' ∧ cur1 ≤ cur' ∧ StuckAt c cur')
      ∨ (∃ v cur', rb = .ok [v] [] cur' ∧ cur1 ≤ cur' ∧ cur' ≤ c.toks.length ∧ cv v = none)

/-- the rest of the clause list from `cur` on, against the direct chain `D`; `good` converts the new captures -/
def TailSim {β : Type} (c : Ctx) (cur : Nat) (vals : List Val) (caps : Caps) (R : Res) (D : Option β)
    (good : Caps → Option β) (names : List String) (em : β → Bool) : Prop :=
  (∃ nv nc, R = finR (vals ++ nv) (caps ++ nc) c.toks.length ∧ (∀ p ∈ nc, p.1 ∈ names) ∧ good nc = D
      ∧ (nv = [] → cur = c.toks.length) ∧ (∀ x, D = some x → (em x = true ↔ nv = [])))
  ∨ (D = none ∧ ((∃ k hv, R = .err k hv ∧ cur + 2 ≤ k)
      ∨ (∃ vals' caps' cur', R = finR vals' caps' cur' ∧ cur ≤ cur' ∧ cur' < c.toks.length)))

def chain {α β : Type} (kw : Bytes) (b : List Tok → Option (α × List Tok)) (next : List Tok → Option β) (toks : List Tok) :
    Option (Option α × β) :=
  match dKwClause kw b toks with
  | none => none
  | some (o, t) => (next t).map (fun x => (o, x))

def goodC {α β : Type} (field : Caps → Option (Option α)) (goodN : Caps → Option β) (nc : Caps) : Option (Option α × β) :=
  (field nc).bind (fun a => (goodN nc).map (fun x => (a, x)))

def emC {α β : Type} (em : β → Bool) (x : Option α × β) : Bool := x.1.isNone && em x.2

/-- **one guarded optional clause in front of a list of such clauses** -/
theorem tail_step {α β : Type} (c : Ctx) (kw : Bytes) (fl : String) (n : Node) (l : List (Bytes × String × Node))
    (b : List Tok → Option (α × List Tok)) (cv : Val → Option α) (field : Caps → Option (Option α))
    (next : List Tok → Option β) (goodN : Caps → Option β) (names : List String) (em : β → Bool)
    (hl : ∀ x ∈ l, x.1 ∈ selKws)
    (hexcl : ∀ q, litMatch q kw = true → ∀ x ∈ l, litMatch q x.1 = false)
    (hfl : fl ∉ names)
    (hf_nil : ∀ nc, fieldVals nc fl = [] → field nc = some none)
    (hf_hit : ∀ v nc, fieldVals nc fl = [] → field ((fl, [v]) :: nc) = (cv v).map some)
    (hg_skip : ∀ v nc, goodN ((fl, v) :: nc) = goodN nc)
    (f cur : Nat) (hcl : cur ≤ c.toks.length) (hlf : l.length + 6 ≤ f)
    (hbody : cur < c.toks.length → BodySim c (cur+1) (parse c (f+1) n (cur+1)) (b (c.toks.drop (cur+1))) cv)
    (hnext : ∀ cur' vals' caps', cur ≤ cur' → cur' ≤ c.toks.length →
        TailSim c cur' vals' caps' (parseSeq c (f+7) (clauseList l) cur' false vals' caps') (next (c.toks.drop cur')) goodN names em)
    (first : Bool) (vals : List Val) (caps : Caps) :
    TailSim c cur vals caps (parseSeq c (f+8) (optG (kwSeq kw fl n) :: clauseList l) cur first vals caps)
      (chain kw b next (c.toks.drop cur)) (goodC field goodN) (fl :: names) (emC em) := by
  -- the clause is skipped: same as the rest
  have hskip : ∀ (D0 : Option β), parse c (f+7) (optG (kwSeq kw fl n)) cur = .ok [] [] cur →
      chain kw b next (c.toks.drop cur) = (next (c.toks.drop cur)).map (fun x => (none, x)) →
      TailSim c cur vals caps (parseSeq c (f+8) (optG (kwSeq kw fl n) :: clauseList l) cur first vals caps)
        (chain kw b next (c.toks.drop cur)) (goodC field goodN) (fl :: names) (emC em) := by
    intro _ he hch
    rw [parseSeq_cons, he, hch]
    simp only [List.append_nil]
    rcases hnext cur vals caps (Nat.le_refl _) hcl with ⟨nv, nc, hR, hnm, hgd, hnv, hem⟩ | ⟨hD, hbad⟩
    · left
      refine ⟨nv, nc, hR, fun p hp => List.mem_cons_of_mem _ (hnm p hp), ?_, hnv, ?_⟩
      · simp only [goodC, hf_nil nc (fieldVals_names fl names hfl nc hnm), Option.bind_some, hgd]
      · intro x hx
        cases hN : next (c.toks.drop cur) with
        | none => rw [hN] at hx; simp at hx
        | some y =>
          rw [hN] at hx
          simp only [Option.map_some, Option.some.injEq] at hx
          subst hx
          simpa [emC] using hem y hN
    · right
      exact ⟨by rw [hD]; rfl, hbad⟩
  cases hn : c.toks[cur]? with
  | none =>
    refine hskip none ?_ ?_
    · exact clause_none c kw fl n (f+2) cur hn
    · rw [drop_of_none hn]; simp [chain, dKwClause]
  | some t =>
    have hlt := lt_of_get hn
    cases hc : litMatch t kw with
    | false =>
      refine hskip none ?_ ?_
      · exact clause_nolit c kw fl n (f+2) cur t hn hc
      · rw [drop_of_get hn]; simp [chain, dKwClause, hc]
    | true =>
      have hb := hbody hlt
      have hsk : ∀ (q : Tok) (cur' : Nat), c.toks[cur']? = some q → (∀ x ∈ l, litMatch q x.1 = false) → ∀ vals' caps',
          parseSeq c (f+7) (clauseList l) cur' false vals' caps' = finR vals' caps' cur' := by
        intro q cur' hq hqx vals' caps'
        exact skip_rest c cur' l (f+7) (by omega) (fun q' h' => by rw [hq] at h'; cases h'; exact hqx) false vals' caps'
      have hch : chain kw b next (c.toks.drop cur) =
          (match b (c.toks.drop (cur+1)) with
           | some (a, r') => (next r').map (fun x => (some a, x))
           | none => none) := by
        rw [drop_of_get hn]
        simp only [chain, dKwClause, hc, if_true]
        cases b (c.toks.drop (cur+1)) with
        | none => rfl
        | some pr => obtain ⟨a, r'⟩ := pr; rfl
      rw [parseSeq_cons, clause_lit c kw fl n f cur t hn hc, hch]
      generalize parse c (f+1) n (cur+1) = rb at hb
      cases hd : b (c.toks.drop (cur+1)) with
      | some pr =>
        obtain ⟨a, rest⟩ := pr
        rw [hd] at hb
        obtain ⟨v, cur', rfl, hcv, rfl, h1, h2⟩ := hb
        simp only []
        rcases hnext cur' (vals ++ [.str t.v, .str []]) (caps ++ ([] ++ [(fl, [v])])) (by omega) h2 with
          ⟨nv, nc, hR, hnm, hgd, hnv, hem⟩ | ⟨hD, hbad⟩
        · left
          refine ⟨[.str t.v, .str []] ++ nv, (fl, [v]) :: nc, by rw [hR]; simp, ?_, ?_, by simp, ?_⟩
          · intro p hp
            rcases List.mem_cons.mp hp with rfl | hp
            · exact List.mem_cons_self
            · exact List.mem_cons_of_mem _ (hnm p hp)
          · simp only [goodC, hf_hit v nc (fieldVals_names fl names hfl nc hnm), hcv, Option.map_some, Option.bind_some,
              hg_skip, hgd]
          · intro x hx
            cases hN : next (c.toks.drop cur') with
            | none => rw [hN] at hx; simp at hx
            | some y =>
              rw [hN] at hx
              simp only [Option.map_some, Option.some.injEq] at hx
              subst hx
              simp [emC]
        · right
          refine ⟨by rw [hD]; rfl, ?_⟩
          rcases hbad with ⟨k, hv, hR, hk⟩ | ⟨vals', caps', cur2, hR, h3, h4⟩
          · left; exact ⟨k, hv, hR, by omega⟩
          · right; exact ⟨vals', caps', cur2, hR, by omega, h4⟩
      | none =>
        rw [hd] at hb
        simp only []
        have hsoft : parseSeq c (f+7) (clauseList l) cur false (vals ++ [.str []]) (caps ++ []) = finR (vals ++ [.str []]) (caps ++ []) cur :=
          hsk t cur hn (hexcl t hc) _ _
        rcases hb with rfl | ⟨k, hv, rfl, hk⟩ | ⟨v, cur', rfl, h1, q, hq, hqs⟩ | ⟨v, cur', rfl, h1, h2, hcv⟩
        · right; refine ⟨rfl, ?_⟩; right
          exact ⟨vals ++ [.str []], caps ++ [], cur, hsoft, Nat.le_refl _, hlt⟩
        · right; refine ⟨rfl, ?_⟩
          by_cases hgt : k > cur + lookahead
          · left
            refine ⟨k, true || !vals.isEmpty, ?_, ?_⟩
            · simp only [hgt, if_true]
            · simp only [lookahead] at hgt; omega
          · right
            refine ⟨vals ++ [.str []], caps ++ [], cur, ?_, Nat.le_refl _, hlt⟩
            simp only [hgt, if_false]
            exact hsoft
        · right; refine ⟨rfl, ?_⟩; right
          refine ⟨vals ++ [.str t.v, .str []], caps ++ ([] ++ [(fl, [v])]), cur', ?_, by omega, lt_of_get hq⟩
          exact hsk q cur' hq (fun x hx => hqs _ (hl x hx)) _ _
        · -- the capture does not convert: whatever the rest does, the conversion of the whole fails
          rcases hnext cur' (vals ++ [.str t.v, .str []]) (caps ++ ([] ++ [(fl, [v])])) (by omega) h2 with
            ⟨nv, nc, hR, hnm, hgd, hnv, hem⟩ | ⟨hD, hbad⟩
          · left
            refine ⟨[.str t.v, .str []] ++ nv, (fl, [v]) :: nc, by simp only []; rw [hR]; simp, ?_, ?_, by simp, by simp⟩
            · intro p hp
              rcases List.mem_cons.mp hp with rfl | hp
              · exact List.mem_cons_self
              · exact List.mem_cons_of_mem _ (hnm p hp)
            · simp only [goodC, hf_hit v nc (fieldVals_names fl names hfl nc hnm), hcv, Option.map_none, Option.bind_none]
          · right
            refine ⟨rfl, ?_⟩
            rcases hbad with ⟨k, hv, hR, hk⟩ | ⟨vals', caps', cur2, hR, h3, h4⟩
            · left; exact ⟨k, hv, hR, by omega⟩
            · right; exact ⟨vals', caps', cur2, hR, by omega, h4⟩

/-! ## the clause bodies -/

theorem stuck_of_lit (c : Ctx) (cur : Nat) (s : Bytes) (h : litAt c cur s)
    (hs : ∀ kw ∈ selKws, (s == kw) = false ∧ eqFold s kw = false) : StuckAt c cur := by
  obtain ⟨q, hq, hm⟩ := h
  exact ⟨q, hq, fun kw hkw => litMatch_excl q s kw (hs kw hkw).1 (hs kw hkw).2 hm⟩

theorem stuck_AND (c : Ctx) (cur : Nat) (h : litAt c cur kwAND) : StuckAt c cur :=
  stuck_of_lit c cur _ h (by decide)
theorem stuck_OR (c : Ctx) (cur : Nat) (h : litAt c cur kwOR) : StuckAt c cur :=
  stuck_of_lit c cur _ h (by decide)

def cvNum (v : Val) : Option Int := parseInt0 (strs [v])

theorem body_num (c : Ctx) (f cur1 : Nat) :
    BodySim c cur1 (parse c (f+1) (.ref .number) cur1) (dIntTok (c.toks.drop cur1)) cvNum := by
  rw [parse_ref]
  simp only [peek]
  cases hn : c.toks[cur1]? with
  | none => rw [drop_of_none hn]; simp [dIntTok, BodySim]
  | some t =>
    have hlt := lt_of_get hn
    rw [drop_of_get hn]
    by_cases ht : t.t = TT.number
    · cases hp : parseInt0 t.v with
      | none =>
        simp only [dIntTok, ht, beq_self_eq_true, if_true, hp, BodySim]
        right; right; right
        exact ⟨.str t.v, cur1+1, rfl, by omega, by omega, by simp [cvNum, strs, hp]⟩
      | some i =>
        simp only [dIntTok, ht, beq_self_eq_true, if_true, hp, BodySim]
        exact ⟨.str t.v, cur1+1, rfl, by simp [cvNum, strs, hp], rfl, by omega, by omega⟩
    · have ht' : (t.t == TT.number) = false := by simpa using ht
      simp [dIntTok, ht', BodySim]

def positionBody : Node := .group (.disj [(.capture "PosId" (.lit kwTAIL)), (.capture "PosId" (.lit kwHEAD)), (.capture "PosId" (.ref .string)), (.capture "PosId" (.ref .ident))]) .once
theorem g_position : grammar "Position" = some positionBody := by rw [grammar]; rfl

theorem body_position (c : Ctx) (hg : c.grammar = grammar) (f cur1 : Nat) :
    BodySim c cur1 (parse c (f+10) (.strct "Position") cur1) (dPosTok (c.toks.drop cur1)) cvPos := by
  have hns : ∀ n ∈ [Node.lit kwTAIL, .lit kwHEAD, .ref .string, .ref .ident], (∃ t, n = .ref t) ∨ ∃ s, n = .lit s := by
    simp
  have hb : positionBody = .group (.disj ([Node.lit kwTAIL, .lit kwHEAD, .ref .string, .ref .ident].map (.capture "PosId"))) .once := rfl
  rw [parse_strct c _ "Position" positionBody cur1 (hg ▸ g_position), hb, parse_once, parse_disj]
  cases hn : c.toks[cur1]? with
  | none =>
    rw [drop_of_none hn, disj_caps_none c "PosId" cur1 hn _ hns (f+7) (by simp)]
    exact Or.inl rfl
  | some t =>
    have hlt := lt_of_get hn
    rw [drop_of_get hn, disj_caps c "PosId" cur1 t hn _ hns (f+7) (by simp)]
    have ht : [Node.lit kwTAIL, .lit kwHEAD, .ref .string, .ref .ident].any (tokTest · t)
        = (litMatch t kwTAIL || litMatch t kwHEAD || t.t == .string || t.t == .ident) := by
      simp [tokTest, Bool.or_assoc]
    rw [ht, dPosTok]
    cases litMatch t kwTAIL || litMatch t kwHEAD || t.t == .string || t.t == .ident with
    | false => exact Or.inl rfl
    | true => exact ⟨_, cur1+1, rfl, by simp [cvPos, fv, fieldVals, strs], rfl, by omega, by omega⟩

theorem body_expr (c : Ctx) (hg : c.grammar = grammar) (hH : OperandNotParen c.toks) (ft : Nat) (hft : 8 * c.toks.length + 8 ≤ ft)
    (cur1 : Nat) (hcl : cur1 ≤ c.toks.length) (fe fd : Nat) (hfe : 60 * (c.toks.length - cur1) + 58 ≤ fe)
    (hfd : 4 * (c.toks.length - cur1) + 5 ≤ fd) :
    BodySim c cur1 (parse c fe (.strct "Expression") cur1) (dExpr fd (c.toks.drop cur1)) (toExpr ft) := by
  have he := simExpr c hg hH _ cur1 (Nat.le_refl _) hcl fe fd hfe hfd
  generalize parse c fe (.strct "Expression") cur1 = r at he ⊢
  cases hd : dExpr fd (c.toks.drop cur1) with
  | none =>
    rw [hd] at he
    simp only [SimExpr] at he
    simp only [BodySim]
    rcases he with ⟨k, h, hk⟩ | ⟨v, cur', h, hlt, hst⟩
    · right; left; exact ⟨k, true, h, hk⟩
    · right; right; left
      exact ⟨v, cur', h, by omega, hst.elim (stuck_AND c cur') (stuck_OR c cur')⟩
  | some res =>
    obtain ⟨e, rest⟩ := res
    rw [hd] at he
    obtain ⟨v, cur', h, hrel, hrest, h1, h2⟩ := he
    have hcv := dExpr_cv hd
    simp only [List.length_drop] at hcv
    simp only [BodySim]
    exact ⟨v, cur', h, convExpr e v ft hrel (by omega), hrest, by omega, h2⟩

theorem body_source (c : Ctx) (hg : c.grammar = grammar) (hH : OperandNotParen c.toks) (ft : Nat) (hft : 8 * c.toks.length + 8 ≤ ft)
    (cur1 : Nat) (hcl : cur1 ≤ c.toks.length) (fe fd : Nat) (hfe : 60 * (c.toks.length - cur1) + 63 ≤ fe)
    (hfd : 4 * (c.toks.length - cur1) + 5 ≤ fd) :
    BodySim c cur1 (parse c fe (.strct "Source") cur1) (dSource fd (c.toks.drop cur1)) (toSource ft) := by
  have he := simSource c hg hH cur1 hcl fe fd hfe hfd
  generalize parse c fe (.strct "Source") cur1 = r at he ⊢
  cases hd : dSource fd (c.toks.drop cur1) with
  | none =>
    rw [hd] at he
    simp only [SimSource] at he
    simp only [BodySim]
    rcases he with ⟨k, h, hk⟩ | ⟨v, cur', h, hlt, hst⟩ | ⟨v, h, hlt, hno⟩
    · right; left; exact ⟨k, true, h, hk⟩
    · right; right; left
      exact ⟨v, cur', h, by omega, hst.elim (stuck_AND c cur') (stuck_OR c cur')⟩
    · right; right; right
      exact ⟨v, cur1+1, h, by omega, by omega, hno ft⟩
  | some res =>
    obtain ⟨e, rest⟩ := res
    rw [hd] at he
    obtain ⟨v, cur', h, hrel, hrest, h1, h2⟩ := he
    have hcv := dSource_cvM hd
    simp only [List.length_drop] at hcv
    simp only [BodySim]
    exact ⟨v, cur', h, convSource e v ft hrel (by omega), hrest, by omega, h2⟩

/-! ## struct `Range` -/
def rangeTailNode : Node := .seq [(.lit kwCOLON), (.capture "TmPoint2" (.ref .string)), (.lit kwRBR)]
def rangeBody : Node := .seq [optG (.lit kwLBR), optG (.capture "TmPoint1" (.ref .string)), optG rangeTailNode]
theorem g_range : grammar "Range" = some rangeBody := by rw [grammar]; rfl

/-- `(@String)?` -/
theorem optcap_eq (c : Ctx) (fl : String) (fe cur : Nat) (hfe : 4 ≤ fe) :
    parse c fe (optG (.capture fl (.ref .string))) cur =
      (match c.toks[cur]? with
       | some s => if s.t == .string then .ok [.str []] [(fl, [.str s.v])] (cur+1) else .ok [] [] cur
       | none => .ok [] [] cur) := by
  obtain ⟨f, rfl⟩ := Nat.exists_eq_add_of_le' (show 4 ≤ fe by omega)
  simp only [parse_optG, parse_capture, parse_ref, peek]
  cases c.toks[cur]? with
  | none => rfl
  | some s => by_cases h : (s.t == TT.string) = true <;> simp [h]

theorem range_e1 (c : Ctx) (fe cur : Nat) (hfe : 3 ≤ fe) (hcl : cur ≤ c.toks.length) :
    ∃ v1 cur1, parse c fe (optG (.lit kwLBR)) cur = .ok v1 [] cur1 ∧ (dOptLit kwLBR (c.toks.drop cur)).2 = c.toks.drop cur1
      ∧ v1.isEmpty = !(dOptLit kwLBR (c.toks.drop cur)).1 ∧ cur ≤ cur1 ∧ cur1 ≤ c.toks.length ∧ (v1 = [] → cur1 = cur) := by
  obtain ⟨f, rfl⟩ := Nat.exists_eq_add_of_le' (show 3 ≤ fe by omega)
  simp only [parse_optG, parse_lit, peek]
  cases hn : c.toks[cur]? with
  | none =>
    rw [drop_of_none hn]
    exact ⟨[], cur, rfl, by simp [dOptLit, drop_of_none hn], by simp [dOptLit], Nat.le_refl _, hcl, fun _ => rfl⟩
  | some q =>
    have hlt := lt_of_get hn
    rw [drop_of_get hn]
    by_cases h : litMatch q kwLBR = true
    · exact ⟨[.str q.v], cur+1, by simp [h], by simp [dOptLit, h], by simp [dOptLit, h], by omega, by omega, by simp⟩
    · exact ⟨[], cur, by simp [h], by simp [dOptLit, h, drop_of_get hn], by simp [dOptLit, h], Nat.le_refl _, hcl, fun _ => rfl⟩

theorem range_e2 (c : Ctx) (dp : Bytes → Option Int) (fe cur : Nat) (hfe : 4 ≤ fe) (hcl : cur ≤ c.toks.length) :
    ∃ o1 v2 cur2, parse c fe (optG (.capture "TmPoint1" (.ref .string))) cur = .ok v2 (obCaps "TmPoint1" o1) cur2 ∧
      v2.isEmpty = o1.isNone ∧ dOptDate dp (c.toks.drop cur) = (cvo dp o1).map (fun p => (p, c.toks.drop cur2)) ∧
      cur ≤ cur2 ∧ cur2 ≤ c.toks.length := by
  rw [optcap_eq c _ fe cur hfe]
  cases hn : c.toks[cur]? with
  | none => exact ⟨none, [], cur, rfl, rfl, by rw [drop_of_none hn]; rfl, Nat.le_refl _, hcl⟩
  | some q =>
    have hlt := lt_of_get hn
    rw [drop_of_get hn]
    by_cases h : (q.t == TT.string) = true
    · refine ⟨some q.v, [.str []], cur+1, by simp [h, obCaps], rfl, ?_, by omega, by omega⟩
      simp only [dOptDate, h, if_true, cvo]
      cases dp q.v <;> rfl
    · exact ⟨none, [], cur, by simp [h, obCaps], rfl, by simp [dOptDate, h, cvo, drop_of_get hn], Nat.le_refl _, hcl⟩

/-- when the colon is there and what follows is not `@String "]"`: a soft failure one token in, which leaves the cursor at the
colon, or a hard one two tokens in -/
theorem range_e3 (c : Ctx) (dp : Bytes → Option Int) (fe cur : Nat) (hfe : 8 ≤ fe) (hcl : cur ≤ c.toks.length) :
    (∃ o2 v3 cur3, parse c fe (optG rangeTailNode) cur = .ok v3 (obCaps "TmPoint2" o2) cur3 ∧ v3.isEmpty = o2.isNone ∧
        dRangeTail dp (c.toks.drop cur) = (cvo dp o2).map (fun p => (p, c.toks.drop cur3)) ∧ cur ≤ cur3 ∧ cur3 ≤ c.toks.length)
    ∨ (parse c fe (optG rangeTailNode) cur = .ok [.str []] [] cur ∧ dRangeTail dp (c.toks.drop cur) = none ∧ litAt c cur kwCOLON)
    ∨ (parse c fe (optG rangeTailNode) cur = .err (cur+2) true ∧ dRangeTail dp (c.toks.drop cur) = none) := by
  obtain ⟨f, rfl⟩ := Nat.exists_eq_add_of_le' (show 8 ≤ fe by omega)
  simp only [rangeTailNode, parse_optG, parse_seq, parseSeq_cons, parse_lit, parse_capture, parse_ref, peek]
  cases hn : c.toks[cur]? with
  | none => exact Or.inl ⟨none, [], cur, rfl, rfl, by rw [drop_of_none hn]; rfl, Nat.le_refl _, hcl⟩
  | some q =>
    rw [drop_of_get hn]
    by_cases hc : litMatch q kwCOLON = true
    · cases hn1 : c.toks[cur+1]? with
      | none =>
        rw [drop_of_none hn1]
        exact Or.inr (Or.inl ⟨by simp [hc, hn1, lookahead], by simp [dRangeTail, hc], q, hn, hc⟩)
      | some s =>
        rw [drop_of_get hn1]
        by_cases hs : (s.t == TT.string) = true
        · cases hn2 : c.toks[cur+1+1]? with
          | none =>
            rw [drop_of_none hn2]
            exact Or.inr (Or.inr ⟨by simp [hc, hn1, hs, hn2, lookahead], by simp [dRangeTail, hc]⟩)
          | some z =>
            rw [drop_of_get hn2]
            have hlt := lt_of_get hn2
            by_cases hz : litMatch z kwRBR = true
            · refine Or.inl ⟨some s.v, [.str q.v, .str [], .str z.v], cur+3, by simp [hc, hn1, hs, hn2, hz, parseSeq_nil, obCaps], rfl,
                ?_, by omega, by omega⟩
              simp only [dRangeTail, hc, hs, hz, if_true, Bool.and_self, cvo]
              cases dp s.v <;> rfl
            · exact Or.inr (Or.inr ⟨by simp [hc, hn1, hs, hn2, hz, lookahead], by simp [dRangeTail, hc, hs, hz]⟩)
        · refine Or.inr (Or.inl ⟨by simp [hc, hn1, hs, lookahead], ?_, q, hn, hc⟩)
          cases hd : c.toks.drop (cur+1+1) with
          | nil => simp [dRangeTail, hc]
          | cons z r' => simp [dRangeTail, hc, hs]
    · exact Or.inl ⟨none, [], cur, by simp [hc, obCaps], rfl, by simp [hc, dRangeTail, cvo, drop_of_get hn], Nat.le_refl _, hcl⟩

def chkR (r : Range) : Option Range := if parseLqlRejectsEmptyRange && r.p1.isNone && r.p2.isNone then none else some r
def cvRange (dp : Bytes → Option Int) (v : Val) : Option Range := (convR0 dp v).bind chkR

theorem stuck_COLON (c : Ctx) (cur : Nat) (h : litAt c cur kwCOLON) : StuckAt c cur :=
  stuck_of_lit c cur _ h (by decide)

theorem cvRange_caps (dp : Bytes → Option Int) (o1 o2 : Option Bytes) :
    cvRange dp (.node "Range" (obCaps "TmPoint1" o1 ++ obCaps "TmPoint2" o2)) =
      (cvo dp o1).bind fun p1 => (cvo dp o2).bind fun p2 => chkR ⟨p1, p2⟩ := by
  have h1 : fieldVals (obCaps "TmPoint1" o1 ++ obCaps "TmPoint2" o2) "TmPoint1" = obVals o1 := by
    simp only [fieldVals_append, fieldVals_obCaps, String.reduceEq, ↓reduceIte, List.append_nil]
  have h2 : fieldVals (obCaps "TmPoint1" o1 ++ obCaps "TmPoint2" o2) "TmPoint2" = obVals o2 := by
    simp only [fieldVals_append, fieldVals_obCaps, String.reduceEq, ↓reduceIte, List.nil_append]
  simp only [cvRange, convR0, optConv_ob _ _ _ _ o1 h1, optConv_ob _ _ _ _ o2 h2, Option.bind_eq_bind, Option.pure_def,
    Option.bind_assoc, Option.bind_some]

theorem isEmpty_append' {α : Type} (a b : List α) : (a ++ b).isEmpty = (a.isEmpty && b.isEmpty) := by cases a <;> rfl

theorem cvo_isNone {α : Type} {conv : Bytes → Option α} {o : Option Bytes} {p : Option α} (h : cvo conv o = some p) :
    p.isNone = o.isNone := by
  cases o with
  | none => cases h; rfl
  | some b => simp only [cvo] at h; cases hb : conv b <;> rw [hb] at h <;> cases h; rfl

theorem body_range (c : Ctx) (hg : c.grammar = grammar) (dp : Bytes → Option Int) (f cur1 : Nat) (hcl : cur1 ≤ c.toks.length) :
    BodySim c cur1 (parse c (f+13) (.strct "Range") cur1) (dRangeBody dp (c.toks.drop cur1)) (cvRange dp) := by
  rw [parse_strct c _ "Range" rangeBody cur1 (hg ▸ g_range)]
  simp only [rangeBody, parse_seq, parseSeq_cons]
  obtain ⟨v1, cu1, h1, hd1, hv1, hle1, hle1', _⟩ := range_e1 c (f+10) cur1 (by omega) hcl
  obtain ⟨o1, v2, cu2, h2, hv2, hd2, hle2, hle2'⟩ := range_e2 c dp (f+9) cu1 (by omega) hle1'
  rw [h1]
  simp only [dRangeBody, hd1]
  rw [h2]
  simp only [hd2]
  generalize (dOptLit kwLBR (c.toks.drop cur1)).1 = lb at hv1 ⊢
  -- whatever the tail does, a first time point that does not convert fails both sides' conversion
  rcases range_e3 c dp (f+8) cu2 (by omega) hle2' with ⟨o2, v3, cu3, h3, hv3, hd3, hle3, hle3'⟩ | ⟨h3, hd3, hst⟩ | ⟨h3, hd3⟩
  · rw [h3]
    simp only [parseSeq_nil, List.nil_append]
    have hcv := cvRange_caps dp o1 o2
    by_cases hemp : (v1 ++ v2 ++ v3).isEmpty = true
    · simp only [hemp, if_true, BodySim]
      simp only [isEmpty_append', Bool.and_eq_true, hv1, hv2, hv3, Bool.not_eq_true'] at hemp
      obtain ⟨⟨hlb, ho1⟩, ho2⟩ := hemp
      cases o1 <;> cases o2 <;> simp_all [cvo]
    · have hne : (v1 ++ v2 ++ v3).isEmpty = false := by simpa using hemp
      simp only [hne, Bool.false_eq_true, if_false]
      cases hp1 : cvo dp o1 with
      | none => exact Or.inr (Or.inr (Or.inr ⟨_, cu3, rfl, by omega, hle3', by rw [hcv, hp1]; rfl⟩))
      | some p1 =>
        simp only [Option.map_some, hd3]
        cases hp2 : cvo dp o2 with
        | none => exact Or.inr (Or.inr (Or.inr ⟨_, cu3, rfl, by omega, hle3', by rw [hcv, hp1, hp2]; rfl⟩))
        | some p2 =>
          have hnl : (!lb && p1.isNone && p2.isNone) = false := by
            rw [cvo_isNone hp1, cvo_isNone hp2, ← hv1, ← hv2, ← hv3]
            simpa [isEmpty_append', Bool.and_assoc] using hne
          have hcv' : cvRange dp (.node "Range" (obCaps "TmPoint1" o1 ++ obCaps "TmPoint2" o2)) = chkR ⟨p1, p2⟩ := by
            rw [hcv, hp1, hp2]; rfl
          simp only [Option.map_some, hnl, Bool.false_eq_true, if_false]
          by_cases hk : (parseLqlRejectsEmptyRange && p1.isNone && p2.isNone) = true
          · simp only [hk, if_true]
            exact Or.inr (Or.inr (Or.inr ⟨_, cu3, rfl, by omega, hle3', by rw [hcv', chkR, if_pos hk]⟩))
          · simp only [hk, if_false]
            exact ⟨_, cu3, rfl, by rw [hcv', chkR, if_neg hk], rfl, by omega, hle3'⟩
  · rw [h3]
    have hne : ([] ++ v1 ++ v2 ++ [Val.str []]).isEmpty = false := by simp
    simp only [parseSeq_nil, hne, Bool.false_eq_true, if_false]
    cases hp1 : cvo dp o1 with
    | none => exact Or.inr (Or.inr (Or.inl ⟨_, cu2, rfl, by omega, stuck_COLON c cu2 hst⟩))
    | some p1 =>
      simp only [Option.map_some, hd3]
      exact Or.inr (Or.inr (Or.inl ⟨_, cu2, rfl, by omega, stuck_COLON c cu2 hst⟩))
  · rw [h3]
    cases hp1 : cvo dp o1 with
    | none => exact Or.inr (Or.inl ⟨cu2+2, true, by simp, by omega⟩)
    | some p1 =>
      simp only [Option.map_some, hd3]
      exact Or.inr (Or.inl ⟨cu2+2, true, by simp, by omega⟩)

/-! ## the clause list of `Select`, from the last clause backwards -/
def dEnd : List Tok → Option Unit
  | [] => some ()
  | _ :: _ => none
def goodEnd (_ : Caps) : Option Unit := some ()
def emEnd (_ : Unit) : Bool := true

theorem sim_end (c : Ctx) (f cur : Nat) (hcl : cur ≤ c.toks.length) (first : Bool) (vals : List Val) (caps : Caps) :
    TailSim c cur vals caps (parseSeq c (f+1) (clauseList []) cur first vals caps) (dEnd (c.toks.drop cur)) goodEnd [] emEnd := by
  simp only [clauseList, List.map_nil, parseSeq_nil]
  by_cases h : cur = c.toks.length
  · left
    refine ⟨[], [], by simp [finR, h], by simp, ?_, fun _ => h, ?_⟩
    · subst h; simp [goodEnd, dEnd]
    · intro x _; simp [emEnd]
  · right
    have hlt : cur < c.toks.length := by omega
    refine ⟨?_, Or.inr ⟨vals, caps, cur, rfl, Nat.le_refl _, hlt⟩⟩
    cases hn : c.toks[cur]? with
    | none => simp at hn; omega
    | some q => rw [drop_of_get hn]; rfl

/-- one guarded clause `("KW" @n)?` of a struct: the direct reader `b` of its body, the conversion `cv` of the captured value,
and what the typed application of the captures makes of the values of field `fl` (`F`) -/
structure Clause where
  α : Type
  kw : Bytes
  fl : String
  n : Node
  b : List Tok → Option (α × List Tok)
  cv : Val → Option α
  F : List Val → Option (Option α)

def Clause.node (s : Clause) : Bytes × String × Node := (s.kw, s.fl, s.n)
def Clause.field (s : Clause) (nc : Caps) : Option (Option s.α) := s.F (fieldVals nc s.fl)

@[reducible] def Tup : List Clause → Type
  | [] => Unit
  | s :: l => Option s.α × Tup l
def chainL : (l : List Clause) → List Tok → Option (Tup l)
  | [] => dEnd
  | s :: l => chain s.kw s.b (chainL l)
def goodL : (l : List Clause) → Caps → Option (Tup l)
  | [] => goodEnd
  | s :: l => goodC s.field (goodL l)
def emL : (l : List Clause) → Tup l → Bool
  | [] => emEnd
  | _ :: l => emC (emL l)

structure Clause.OK (c : Ctx) (s : Clause) : Prop where
  kw : s.kw ∈ selKws
  nil : s.F [] = some none
  one : ∀ v, s.F [v] = (s.cv v).map some
  body : ∀ cur1 fe, cur1 ≤ c.toks.length → 60 * (c.toks.length - cur1) + 63 ≤ fe →
    BodySim c cur1 (parse c fe s.n cur1) (s.b (c.toks.drop cur1)) s.cv

theorem goodL_skip (g : String) (v : List Val) (nc : Caps) : ∀ (l : List Clause), g ∉ l.map (·.fl) → goodL l ((g, v) :: nc) = goodL l nc
  | [], _ => rfl
  | s :: l, h => by
    rw [List.map_cons, List.mem_cons, not_or] at h
    simp only [goodL, goodC, Clause.field]
    rw [fieldVals_cons_ne s.fl g v nc (by simpa using h.1), goodL_skip g v nc l h.2]

theorem sim_list (c : Ctx) : ∀ (l : List Clause), (∀ s ∈ l, s.OK c) →
    (l.map (·.kw)).Pairwise (fun a b => (a == b) = false ∧ eqFold a b = false) → (l.map (·.fl)).Nodup →
    ∀ (fe cur : Nat), cur ≤ c.toks.length → 60 * (c.toks.length - cur) + l.length + 14 ≤ fe →
    ∀ (first : Bool) (vals : List Val) (caps : Caps),
      TailSim c cur vals caps (parseSeq c fe (clauseList (l.map Clause.node)) cur first vals caps) (chainL l (c.toks.drop cur))
        (goodL l) (l.map (·.fl)) (emL l)
  | [], _, _, _, fe, cur, hcl, hfe, first, vals, caps => by
    obtain ⟨f, rfl⟩ := Nat.exists_eq_add_of_le' (show 1 ≤ fe by omega)
    exact sim_end c f cur hcl first vals caps
  | s :: l, hok, hex, hnd, fe, cur, hcl, hfe, first, vals, caps => by
    obtain ⟨f, rfl⟩ := Nat.exists_eq_add_of_le' (show 8 ≤ fe by simp at hfe; omega)
    rw [List.map_cons, List.pairwise_cons] at hex
    rw [List.map_cons, List.nodup_cons] at hnd
    have hs := hok s List.mem_cons_self
    have hl : ∀ x ∈ l.map Clause.node, ∃ s' ∈ l, x.1 = s'.kw := fun x hx => by
      obtain ⟨s', hs', rfl⟩ := List.mem_map.mp hx; exact ⟨s', hs', rfl⟩
    exact tail_step c s.kw s.fl s.n (l.map Clause.node) s.b s.cv s.field (chainL l) (goodL l) (l.map (·.fl)) (emL l)
      (fun x hx => by obtain ⟨s', hs', e⟩ := hl x hx; rw [e]; exact (hok s' (List.mem_cons_of_mem _ hs')).kw)
      (fun q hq x hx => by
        obtain ⟨s', hs', e⟩ := hl x hx
        have := hex.1 s'.kw (List.mem_map_of_mem hs')
        rw [e]; exact litMatch_excl q _ _ this.1 this.2 hq)
      hnd.1 (fun nc h => by rw [Clause.field, h, hs.nil])
      (fun v nc h => by rw [Clause.field, fieldVals_cons_eq, h, List.append_nil, hs.one])
      (fun v nc => goodL_skip s.fl v nc l hnd.1)
      f cur hcl (by simp at hfe ⊢; omega) (fun hlt => hs.body (cur+1) (f+1) (by omega) (by simp at hfe; omega))
      (fun cur' vals' caps' h1 h2 => sim_list c l (fun s' hs' => hok s' (List.mem_cons_of_mem _ hs')) hex.2 hnd.2 (f+7) cur' h2
        (by simp at hfe ⊢; omega) false vals' caps') first vals caps

/-- a field that holds at most one value (`optSource`, `optExpr`, `optNode`) -/
def oneOf {α : Type} (cv : Val → Option α) : List Val → Option (Option α)
  | [] => some none
  | [v] => (cv v).map some
  | _ => none
/-- a scalar field: the texts of all its values together (`optConv`) -/
def allOf {α : Type} (conv : Bytes → Option α) : List Val → Option (Option α)
  | [] => some none
  | vs => (conv (strs vs)).map some
/-- the post-check of `ParseLql` as part of the conversion of the `Range` field -/
def rngChk : Option Range → Option (Option Range)
  | some r => (chkR r).map some
  | none => some none

@[reducible] def selSpecs (dp : Bytes → Option Int) (fd ft : Nat) : List Clause :=
  [⟨Source, kwFROM, "Source", .strct "Source", dSource fd, toSource ft, oneOf (toSource ft)⟩,
   ⟨Range, kwRANGE, "Range", .strct "Range", dRangeBody dp, cvRange dp, fun vs => (oneOf (convR0 dp) vs).bind rngChk⟩,
   ⟨Expr, kwWHERE, "Where", .strct "Expression", dExpr fd, toExpr ft, oneOf (toExpr ft)⟩,
   ⟨Bytes, kwPOSITION, "Position", .strct "Position", dPosTok, cvPos, oneOf cvPos⟩,
   ⟨Int, kwOFFSET, "Offset", .ref .number, dIntTok, cvNum, allOf parseInt0⟩,
   ⟨Int, kwLIMIT, "Limit", .ref .number, dIntTok, cvNum, allOf parseInt0⟩]
def selNames : List String := ["Source", "Range", "Where", "Position", "Offset", "Limit"]

theorem selSpecs_ok (c : Ctx) (hg : c.grammar = grammar) (hH : OperandNotParen c.toks) (dp : Bytes → Option Int) (fd ft : Nat)
    (hft : 8 * c.toks.length + 8 ≤ ft) (hfd : 4 * c.toks.length + 5 ≤ fd) : ∀ s ∈ selSpecs dp fd ft, s.OK c := by
  intro s hs
  simp only [selSpecs, List.mem_cons, List.not_mem_nil, or_false] at hs
  rcases hs with rfl | rfl | rfl | rfl | rfl | rfl
  · exact ⟨(by decide : kwFROM ∈ selKws), rfl, fun _ => rfl, fun cur1 fe h1 h2 => body_source c hg hH ft hft cur1 h1 fe fd h2 (by omega)⟩
  · refine ⟨(by decide : kwRANGE ∈ selKws), rfl, fun v => ?_, fun cur1 fe h1 h2 => ?_⟩
    · show ((convR0 dp v).map some).bind rngChk = ((convR0 dp v).bind chkR).map some
      cases convR0 dp v <;> rfl
    · obtain ⟨f, rfl⟩ := Nat.exists_eq_add_of_le' (show 13 ≤ fe by omega)
      exact body_range c hg dp f cur1 h1
  · exact ⟨(by decide : kwWHERE ∈ selKws), rfl, fun _ => rfl, fun cur1 fe h1 h2 => body_expr c hg hH ft hft cur1 h1 fe fd (by omega) (by omega)⟩
  · refine ⟨(by decide : kwPOSITION ∈ selKws), rfl, fun _ => rfl, fun cur1 fe h1 h2 => ?_⟩
    obtain ⟨f, rfl⟩ := Nat.exists_eq_add_of_le' (show 10 ≤ fe by omega)
    exact body_position c hg f cur1
  · refine ⟨(by decide : kwOFFSET ∈ selKws), rfl, fun _ => rfl, fun cur1 fe h1 h2 => ?_⟩
    obtain ⟨f, rfl⟩ := Nat.exists_eq_add_of_le' (show 1 ≤ fe by omega)
    exact body_num c f cur1
  · refine ⟨(by decide : kwLIMIT ∈ selKws), rfl, fun _ => rfl, fun cur1 fe h1 h2 => ?_⟩
    obtain ⟨f, rfl⟩ := Nat.exists_eq_add_of_le' (show 1 ≤ fe by omega)
    exact body_num c f cur1

def sv (nc : Caps) : Val := .node "Select" nc

/-! ## the direct parser as the chain, and the typed application of the captures -/
abbrev SelTuple := Option Source × Option Range × Option Expr × Option Bytes × Option Int × Option Int × Unit

def buildSel (fmt : Option Bytes) (x : SelTuple) : Select :=
  { format := fmt, source := x.1, range := x.2.1, where_ := x.2.2.1, position := x.2.2.2.1, offset := x.2.2.2.2.1, limit := x.2.2.2.2.2.1 }

theorem dSelectBody_eq (dp : Bytes → Option Int) (fd ft : Nat) (toks : List Tok) :
    dSelectBody dp fd toks = (chainL (selSpecs dp fd ft) (dOptFormat toks).2).map (buildSel (dOptFormat toks).1) := by
  simp only [dSelectBody, selSpecs, chainL, chain]
  cases dKwClause kwFROM (dSource fd) (dOptFormat toks).2 with
  | none => rfl
  | some p1 =>
    obtain ⟨src, t1⟩ := p1
    simp only []
    cases dKwClause kwRANGE (dRangeBody dp) t1 with
    | none => rfl
    | some p2 =>
      obtain ⟨rng, t2⟩ := p2
      simp only []
      cases dKwClause kwWHERE (dExpr fd) t2 with
      | none => rfl
      | some p3 =>
        obtain ⟨wh, t3⟩ := p3
        simp only []
        cases dKwClause kwPOSITION dPosTok t3 with
        | none => rfl
        | some p4 =>
          obtain ⟨pos, t4⟩ := p4
          simp only []
          cases dKwClause kwOFFSET dIntTok t4 with
          | none => rfl
          | some p5 =>
            obtain ⟨off, t5⟩ := p5
            simp only []
            cases dKwClause kwLIMIT dIntTok t5 with
            | none => rfl
            | some p6 =>
              obtain ⟨lim, t6⟩ := p6
              cases t6 with
              | nil => simp [dEnd, buildSel]
              | cons a b => simp [dEnd]

theorem isEmpty_buildSel (dp : Bytes → Option Int) (fd ft : Nat) (fmt : Option Bytes) (x : SelTuple) :
    isEmptySelect (buildSel fmt x) = (fmt.isNone && emL (selSpecs dp fd ft) x) := by
  simp [isEmptySelect, buildSel, emL, selSpecs, emC, emEnd, Bool.and_assoc]

/-- `convSelect` on a `Select` node, the format given apart -/
def selConvF (dp : Bytes → Option Int) (ft : Nat) (fmt : Option Bytes) (nc : Caps) : Option Select := do
  let src ← oneOf (toSource ft) (fieldVals nc "Source")
  let rng ← oneOf (convR0 dp) (fieldVals nc "Range")
  let wh ← oneOf (toExpr ft) (fieldVals nc "Where")
  let pos ← oneOf cvPos (fieldVals nc "Position")
  let off ← allOf parseInt0 (fieldVals nc "Offset")
  let lim ← allOf parseInt0 (fieldVals nc "Limit")
  pure ({ format := fmt, source := src, range := rng, where_ := wh, position := pos, offset := off, limit := lim } : Select)

theorem selConv_core (dp : Bytes → Option Int) (fd ft : Nat) (fmt : Option Bytes) (nc : Caps) :
    (selConvF dp ft fmt nc).bind (fun s => postCheck ({ select := some s } : Lql)) =
      (goodL (selSpecs dp fd ft) nc).map (fun x => ({ select := some (buildSel fmt x) } : Lql)) := by
  simp only [selConvF, goodL, goodC, Clause.field, goodEnd, Option.bind_eq_bind, Option.pure_def, Option.map_bind, Option.bind_assoc,
    Function.comp_def, Option.map_some, Option.bind_some, buildSel]
  generalize oneOf (toSource ft) (fieldVals nc "Source") = A
  generalize oneOf (convR0 dp) (fieldVals nc "Range") = B
  rcases A with _ | a
  · rfl
  rcases B with _ | _ | r
  · rfl
  · simp [postCheck, hasEmptyRange, rngChk]
  · by_cases hk : parseLqlRejectsEmptyRange = true ∧ r.p1 = none ∧ r.p2 = none <;>
      simp [postCheck, hasEmptyRange, rngChk, chkR, hk, and_assoc]

theorem selConvF_fmt (dp : Bytes → Option Int) (ft : Nat) (b : Bytes) (nc : Caps) (hF : fieldVals nc "Format" = []) :
    selConvF dp ft (optStr (sv (("Format", [.str b]) :: nc)) "Format") (("Format", [.str b]) :: nc) = selConvF dp ft (some b) nc := by
  have : optStr (sv (("Format", [.str b]) :: nc)) "Format" = some b := by simp [optStr, sv, fv, fieldVals_cons_eq, hF, strs]
  rw [this]
  simp only [selConvF, fieldVals_cons_ne "Source" "Format" _ nc (by decide), fieldVals_cons_ne "Range" "Format" _ nc (by decide),
    fieldVals_cons_ne "Where" "Format" _ nc (by decide), fieldVals_cons_ne "Position" "Format" _ nc (by decide),
    fieldVals_cons_ne "Offset" "Format" _ nc (by decide), fieldVals_cons_ne "Limit" "Format" _ nc (by decide)]

theorem checked_select_caps (dp : Bytes → Option Int) (ft : Nat) (caps : Caps) :
    toLqlChecked dp ft (.node "Lql" [("Select", [.node "Select" caps])]) =
      (selConvF dp ft (optStr (sv caps) "Format") caps).bind (fun s => postCheck ({ select := some s } : Lql)) :=
  checked_select dp ft _

/-! ## struct `Select` -/
def selectBody : Node := .seq [optG (.capture "Format" (.ref .string)), optG (kwSeq kwFROM "Source" (.strct "Source")),
  optG (kwSeq kwRANGE "Range" (.strct "Range")), optG (kwSeq kwWHERE "Where" (.strct "Expression")),
  optG (kwSeq kwPOSITION "Position" (.strct "Position")), optG (kwSeq kwOFFSET "Offset" (.ref .number)), optG (kwSeq kwLIMIT "Limit" (.ref .number))]
theorem g_select : grammar "Select" = some selectBody := rfl
theorem selectBody_eq (dp : Bytes → Option Int) (fd ft : Nat) :
    selectBody = .seq (optG (.capture "Format" (.ref .string)) :: clauseList ((selSpecs dp fd ft).map Clause.node)) := rfl

/-- the three outcomes of the engine on struct `Select` that matter at the top level -/
def SelOut (c : Ctx) (dp : Bytes → Option Int) (ft : Nat) (cur : Nat) (R : Res) (d : Option Select) : Prop :=
  (R = .noMatch ∧ (cur = c.toks.length ∨ (cur < c.toks.length ∧ d = none)))
  ∨ (∃ caps, R = .ok [.node "Select" caps] [] c.toks.length
      ∧ toLqlChecked dp ft (.node "Lql" [("Select", [.node "Select" caps])]) = d.map (fun s => ({ select := some s } : Lql))
      ∧ ∀ s, d = some s → isEmptySelect s = false)
  ∨ (d = none ∧ ((∃ k, R = .err k true ∧ cur + 2 ≤ k) ∨ (∃ v cur', R = .ok v [] cur' ∧ cur ≤ cur' ∧ cur' < c.toks.length)))

theorem selOut_of_tail (c : Ctx) (dp : Bytes → Option Int) (ft fd : Nat) (cur cur' : Nat) (hcc : cur ≤ cur')
    (v0 : List Val) (c0 : Caps) (fmt : Option Bytes) (Rs : Res)
    (hv0 : (v0 = [] ↔ fmt = none)) (hcur : v0 = [] → cur' = cur)
    (hconv : ∀ nc, fieldVals nc "Format" = [] →
      selConvF dp ft (optStr (sv (c0 ++ nc)) "Format") (c0 ++ nc) = selConvF dp ft fmt nc)
    (ht : TailSim c cur' v0 c0 Rs (chainL (selSpecs dp fd ft) (c.toks.drop cur')) (goodL (selSpecs dp fd ft)) selNames
      (emL (selSpecs dp fd ft))) :
    SelOut c dp ft cur (strctRes "Select" Rs)
      ((chainL (selSpecs dp fd ft) (c.toks.drop cur')).map (buildSel fmt)) := by
  rcases ht with ⟨nv, nc, hR, hnm, hgd, hnv, hem⟩ | ⟨hD, hbad⟩
  · by_cases he : (v0 ++ nv) = []
    · have h1 : v0 = [] := (List.append_eq_nil_iff.mp he).1
      have h2 : nv = [] := (List.append_eq_nil_iff.mp he).2
      left
      refine ⟨by rw [hR]; simp [finR, he, strctRes], Or.inl ?_⟩
      rw [← hcur h1]; exact hnv h2
    · right; left
      have hne : (v0 ++ nv).isEmpty = false := isEmpty_false_of_ne he
      refine ⟨c0 ++ nc, by rw [hR]; simp [finR, hne, strctRes], ?_, ?_⟩
      · rw [checked_select_caps, hconv nc (fieldVals_names "Format" selNames (by decide) nc hnm), selConv_core dp fd, hgd]
        cases chainL (selSpecs dp fd ft) (c.toks.drop cur') <;> rfl
      · intro s hs
        cases hx : chainL (selSpecs dp fd ft) (c.toks.drop cur') with
        | none => rw [hx] at hs; cases hs
        | some x =>
          rw [hx] at hs
          cases hs
          rw [isEmpty_buildSel dp fd ft]
          cases fmt with
          | some b => rfl
          | none =>
            have h1 : v0 = [] := hv0.mpr rfl
            have h2 : nv ≠ [] := fun h => he (by rw [h1, h]; rfl)
            have := hem x hx
            cases hb : emL (selSpecs dp fd ft) x with
            | false => rfl
            | true => exact absurd (this.mp hb) h2
  · have hd : (chainL (selSpecs dp fd ft) (c.toks.drop cur')).map (buildSel fmt) = none := by rw [hD]; rfl
    rcases hbad with ⟨k, hv, hR, hk⟩ | ⟨vals', caps', cur2, hR, h3, h4⟩
    · right; right; exact ⟨hd, Or.inl ⟨k, by rw [hR]; rfl, by omega⟩⟩
    · by_cases he : vals'.isEmpty = true
      · left; exact ⟨by rw [hR]; simp [finR, he, strctRes], Or.inr ⟨by omega, hd⟩⟩
      · right; right
        exact ⟨hd, Or.inr ⟨[.node "Select" caps'], cur2, by rw [hR]; simp [finR, he, strctRes], by omega, h4⟩⟩

theorem select_struct (c : Ctx) (hg : c.grammar = grammar) (hH : OperandNotParen c.toks) (dp : Bytes → Option Int) (ft : Nat)
    (hft : 8 * c.toks.length + 8 ≤ ft) (fd : Nat) (hfd : 4 * c.toks.length + 5 ≤ fd) (cur : Nat) (hcl : cur ≤ c.toks.length)
    (fe : Nat) (hfe : 60 * (c.toks.length - cur) + 80 ≤ fe) :
    SelOut c dp ft cur (parse c fe (.strct "Select") cur) (dSelectBody dp fd (c.toks.drop cur)) := by
  obtain ⟨f, rfl⟩ := Nat.exists_eq_add_of_le' (show 3 ≤ fe by omega)
  rw [parse_strct c _ "Select" selectBody cur (hg ▸ g_select), selectBody_eq dp fd ft, parse_seq, parseSeq_cons,
    optcap_eq c "Format" f cur (by omega), dSelectBody_eq dp fd ft]
  have ht := fun cur' (h1 : cur ≤ cur') h2 => sim_list c _ (selSpecs_ok c hg hH dp fd ft hft hfd) (show selKws.Pairwise _ from by decide)
    (show selNames.Nodup from by decide) f cur' h2 (by simp [selSpecs]; omega) false
  have hno : dOptFormat (c.toks.drop cur) = (none, c.toks.drop cur) →
      SelOut c dp ft cur (strctRes "Select" (parseSeq c f (clauseList ((selSpecs dp fd ft).map Clause.node)) cur false ([] ++ []) ([] ++ [])))
        ((chainL (selSpecs dp fd ft) (dOptFormat (c.toks.drop cur)).2).map (buildSel (dOptFormat (c.toks.drop cur)).1)) := fun hfmt => by
    rw [hfmt]
    exact selOut_of_tail c dp ft fd cur cur (Nat.le_refl _) [] [] none _ (by simp) (fun _ => rfl)
      (fun nc h => by simp [optStr, sv, fv, h]) (ht cur (Nat.le_refl _) hcl [] [])
  cases hn : c.toks[cur]? with
  | none => exact hno (by rw [drop_of_none hn]; rfl)
  | some q =>
    have hlt := lt_of_get hn
    by_cases hs : (q.t == TT.string) = true
    · have hfmt : dOptFormat (c.toks.drop cur) = (some q.v, c.toks.drop (cur+1)) := by
        rw [drop_of_get hn]; simp [dOptFormat, hs]
      rw [hfmt]
      simp only [hs, if_true]
      exact selOut_of_tail c dp ft fd cur (cur+1) (by omega) [.str []] [("Format", [.str q.v])] (some q.v) _ (by simp)
        (fun h => by cases h) (fun nc h => by simpa using selConvF_fmt dp ft q.v nc h) (ht (cur+1) (by omega) (by omega) _ _)
    · simp only [hs]
      exact hno (by rw [drop_of_get hn]; simp [dOptFormat, hs])

/-! ## top level -/
/-- **engine = direct parser on `SELECT` statements** -/
theorem engine_direct_select (dp : Bytes → Option Int) (ft : Nat) (t : Tok) (r : List Tok)
    (hH : OperandNotParen (t :: r)) (hft : 8 * (t :: r).length + 50 ≤ ft)
    (h1 : litMatch t kwSELECT = true) :
    (runEngine grammar "Lql" (t :: r)).bind (toLqlChecked dp ft) = dSelectRest dp (directFuel (t :: r)) r := by
  rw [run_lql]
  obtain ⟨g, hg⟩ : ∃ g, 60 * (t :: r).length + 200 = (g + 19) + 5 + 3 + 0 + 3 := ⟨60 * (t :: r).length + 170, rfl⟩
  rw [hg, lql_hit t r [] _ kwSELECT "Select" "Select" rfl (fun _ h => nomatch h) h1 0 rfl]
  have hs := select_struct ⟨t :: r, grammar⟩ rfl hH dp ft (by simp only [List.length_cons] at hft ⊢; omega)
    (directFuel (t :: r)) (by simp only [directFuel, List.length_cons]; omega) 1 (by simp) (g+19+1)
    (by simp only [List.length_cons] at hg ⊢; omega)
  have hdrop : (⟨t :: r, grammar⟩ : Ctx).toks.drop 1 = r := rfl
  have hlen : (⟨t :: r, grammar⟩ : Ctx).toks.length = r.length + 1 := rfl
  rw [hdrop] at hs
  generalize parse ⟨t :: r, grammar⟩ (g+19+1) (.strct "Select") 1 = R at hs ⊢
  unfold dSelectRest
  rcases hs with ⟨rfl, hcase⟩ | ⟨caps, rfl, hconv, hne⟩ | ⟨hd, hbad⟩
  · rcases hcase with hl | ⟨hlt, hd⟩
    · have : r = [] := by
        cases r with
        | nil => rfl
        | cons a b => rw [hlen] at hl; simp at hl
      subst this
      simp [altRes, topRes, checked_nil, dSelectBody, dOptFormat, dKwClause, isEmptySelect]
    · rw [hd, hlen] at *
      simp [altRes, topRes]
      intro h; subst h; simp at hlt
  · rw [hlen]
    cases hd : dSelectBody dp (directFuel (t :: r)) r with
    | none =>
      rw [hd] at hconv
      simp only [altRes, topRes, List.length_cons, beq_self_eq_true, if_true, Option.bind_some, List.nil_append]
      exact hconv
    | some s =>
      rw [hd] at hconv
      simp only [altRes, topRes, List.length_cons, beq_self_eq_true, if_true, Option.bind_some, List.nil_append, hne s hd]
      exact hconv
  · rw [hd]
    rcases hbad with ⟨k, rfl, hk⟩ | ⟨v, cur', rfl, h2, h3⟩
    · have hgt : k > 0 + 1 + lookahead := by simp only [lookahead]; omega
      simp [altRes, topRes, hgt]
    · rw [hlen] at h3
      simp [altRes, topRes]
      intro h; omega

end Logrange.Lql

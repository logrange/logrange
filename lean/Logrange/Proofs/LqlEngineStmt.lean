import Logrange.Proofs.LqlLexNP
import Logrange.Proofs.LqlFuel
import Logrange.Proofs.LqlEngineConv
/-!
# C12: engine = direct parser at statement level — shared pieces

The guarded optional clause `("KW" @…)?`, a dispatcher struct as a list of alternatives `"KW" (@@)?` (the structs `Lql` and
`Show`), and the worked example DELETE. The other statement kinds are in `LqlEngineSelect.lean`, `LqlEngineTrunc.lean`,
`LqlEngineMisc.lean`; the typed application of the captures is in `LqlEngineConv.lean`.
-/
namespace Logrange.Lql
open Logrange.Generated.C12

/-! ## generic pieces of the statement-level structs -/

/-- `( … )?` as grammar.go builds it from `[ … ]` / `( … )?`: an optional group around a once-group -/
def optG (n : Node) : Node := .group (.group n .once) .zeroOrOne

theorem parse_optG (c : Ctx) (f : Nat) (n : Node) (cur : Nat) : parse c (f+2) (optG n) cur =
    (match parse c f n cur with
     | .ok vals caps cur' => .ok vals caps cur'
     | .noMatch => .ok [] [] cur
     | .err k hv => if k > cur + lookahead then .err k hv else .ok (if hv then [.str []] else []) [] cur) := by
  simp only [optG, parse_opt, parse_once]; rfl

/-- `"KW" @…` -/
def kwSeq (kw : Bytes) (fl : String) (n : Node) : Node := .seq [(.lit kw), (.capture fl n)]

theorem kwSeq_none (c : Ctx) (kw : Bytes) (fl : String) (n : Node) (f cur : Nat) (hn : c.toks[cur]? = none) :
    parse c (f+3) (kwSeq kw fl n) cur = .noMatch := by
  simp only [kwSeq, parse_seq, parseSeq_cons, parse_lit, peek, hn, if_true]
theorem kwSeq_nolit (c : Ctx) (kw : Bytes) (fl : String) (n : Node) (f cur : Nat) (t : Tok) (hn : c.toks[cur]? = some t)
    (hc : litMatch t kw = false) : parse c (f+3) (kwSeq kw fl n) cur = .noMatch := by
  simp only [kwSeq, parse_seq, parseSeq_cons, parse_lit, peek, hn, hc, if_true, Bool.false_eq_true, if_false]
theorem kwSeq_lit (c : Ctx) (kw : Bytes) (fl : String) (n : Node) (f cur : Nat) (t : Tok) (hn : c.toks[cur]? = some t)
    (hc : litMatch t kw = true) :
    parse c (f+5) (kwSeq kw fl n) cur =
      (match parse c (f+1) n (cur+1) with
       | .ok v cp cur' => .ok [.str t.v, .str []] (cp ++ [(fl, v)]) cur'
       | .noMatch => .err (cur+1) true
       | .err k _ => .err k true) := by
  simp only [kwSeq, parse_seq, parseSeq_cons, parse_lit, parse_capture, peek, hn, hc, if_true]
  cases parse c (f+1) n (cur+1) <;> simp [parseSeq_nil]

/-- a guarded optional clause `("KW" @…)?`: skipped when the keyword is not there; once the keyword matched a soft failure
of the body is swallowed (the cursor stays in front of the keyword), a hard one propagates -/
theorem clause_none (c : Ctx) (kw : Bytes) (fl : String) (n : Node) (f cur : Nat) (hn : c.toks[cur]? = none) :
    parse c (f+5) (optG (kwSeq kw fl n)) cur = .ok [] [] cur := by
  rw [parse_optG, kwSeq_none c kw fl n f cur hn]
theorem clause_nolit (c : Ctx) (kw : Bytes) (fl : String) (n : Node) (f cur : Nat) (t : Tok) (hn : c.toks[cur]? = some t)
    (hc : litMatch t kw = false) : parse c (f+5) (optG (kwSeq kw fl n)) cur = .ok [] [] cur := by
  rw [parse_optG, kwSeq_nolit c kw fl n f cur t hn hc]
theorem clause_lit (c : Ctx) (kw : Bytes) (fl : String) (n : Node) (f cur : Nat) (t : Tok) (hn : c.toks[cur]? = some t)
    (hc : litMatch t kw = true) :
    parse c (f+7) (optG (kwSeq kw fl n)) cur =
      (match parse c (f+1) n (cur+1) with
       | .ok v cp cur' => .ok [.str t.v, .str []] (cp ++ [(fl, v)]) cur'
       | .noMatch => .ok [.str []] [] cur
       | .err k _ => if k > cur + lookahead then .err k true else .ok [.str []] [] cur) := by
  rw [parse_optG, kwSeq_lit c kw fl n f cur t hn hc]
  cases parse c (f+1) n (cur+1) <;> simp [lookahead]

/-- one alternative of `Lql`: `"KW" (@@)?` -/
def kwAlt (kw : Bytes) (fl S : String) : Node := .seq [(.lit kw), optG (.capture fl (.strct S))]

theorem kwAlt_miss (c : Ctx) (kw : Bytes) (fl S : String) (f cur : Nat) (h : ∀ t, c.toks[cur]? = some t → litMatch t kw = false) :
    parse c (f+3) (kwAlt kw fl S) cur = .noMatch := by
  cases hn : c.toks[cur]? with
  | none => simp only [kwAlt, parse_seq, parseSeq_cons, parse_lit, peek, hn, if_true]
  | some t => simp only [kwAlt, parse_seq, parseSeq_cons, parse_lit, peek, hn, h t hn, if_true, Bool.false_eq_true, if_false]
theorem kwAlt_lit (c : Ctx) (kw : Bytes) (fl S : String) (f cur : Nat) (t : Tok) (hn : c.toks[cur]? = some t)
    (hc : litMatch t kw = true) :
    parse c (f+7) (kwAlt kw fl S) cur =
      (match parse c (f+1) (.strct S) (cur+1) with
       | .ok v cp cur' => .ok [.str t.v, .str []] (cp ++ [(fl, v)]) cur'
       | .noMatch => .ok [.str t.v] [] (cur+1)
       | .err k _ => if k > cur + 1 + lookahead then .err k true else .ok [.str t.v, .str []] [] (cur+1)) := by
  simp only [kwAlt, parse_seq, parseSeq_cons, parse_lit, peek, hn, hc, if_true, parse_optG, parse_capture]
  cases parse c (f+1) (.strct S) (cur+1) with
  | ok v cp cur' => simp [parseSeq_nil]
  | noMatch => simp [parseSeq_nil]
  | err k hv => by_cases hk : k > cur + 1 + lookahead <;> simp [hk, parseSeq_nil]


abbrev Alt := Bytes × String × String
def altNode (x : Alt) : Node := kwAlt x.1 x.2.1 x.2.2

theorem disj_skip (c : Ctx) (cur : Nat) (t : Tok) (hn : c.toks[cur]? = some t) (kw : Bytes) (fl S : String) (rest : List Node)
    (f : Nat) (d : Option (Nat × Bool)) (hc : litMatch t kw = false) :
    parseDisj c (f+4) (kwAlt kw fl S :: rest) cur d = parseDisj c (f+3) rest cur d := by
  rw [parseDisj_cons, kwAlt_miss c kw fl S f cur (fun t' h => by rw [hn] at h; cases h; exact hc)]

/-- an alternative whose keyword is not at the cursor costs one unit of fuel -/
theorem disj_skips (c : Ctx) (cur : Nat) (rest : List Node) (f : Nat) (d : Option (Nat × Bool)) :
    ∀ (pre : List Alt), (∀ t, c.toks[cur]? = some t → ∀ x ∈ pre, litMatch t x.1 = false) →
      parseDisj c (f + 3 + pre.length) (pre.map altNode ++ rest) cur d = parseDisj c (f + 3) rest cur d
  | [], _ => rfl
  | x :: pre, h => by
    rw [List.map_cons, List.cons_append, List.length_cons, ← Nat.add_assoc, parseDisj_cons, Nat.add_right_comm f 3, altNode,
      kwAlt_miss c _ _ _ _ cur (fun t ht => h t ht x List.mem_cons_self), Nat.add_right_comm f _ 3]
    exact disj_skips c cur rest f d pre (fun t ht y hy => h t ht y (List.mem_cons_of_mem _ hy))

/-- what the struct wrapper makes of the body's result -/
def strctRes (name : String) (r : Res) : Res :=
  match r with
  | .ok _ caps cur' => .ok [.node name caps] [] cur'
  | .noMatch => .noMatch
  | .err k _ => .err k true

theorem parse_strct' (c : Ctx) (f : Nat) (name : String) (body : Node) (cur : Nat) (h : c.grammar name = some body) :
    parse c (f+1) (.strct name) cur = strctRes name (parse c f body cur) := by
  rw [parse_strct c f name body cur h]; rfl

/-- what the matching alternative `"KW" (@@)?` of a dispatcher struct makes of the body struct's result -/
def altRes (name fl : String) (cur : Nat) (r : Res) : Res :=
  match r with
  | .ok v cp cur' => .ok [.node name (cp ++ [(fl, v)])] [] cur'
  | .noMatch => .ok [.node name []] [] (cur+1)
  | .err k _ => if k > cur + 1 + lookahead then .err k true else .ok [.node name []] [] (cur+1)

theorem disj_hit (name : String) (c : Ctx) (cur : Nat) (t : Tok) (hn : c.toks[cur]? = some t) (kw : Bytes) (fl S : String)
    (rest : List Node) (f : Nat) (hc : litMatch t kw = true) :
    strctRes name (parseDisj c (f+8) (kwAlt kw fl S :: rest) cur none) = altRes name fl cur (parse c (f+1) (.strct S) (cur+1)) := by
  rw [parseDisj_cons, kwAlt_lit c kw fl S f cur t hn hc]
  cases parse c (f+1) (.strct S) (cur+1) with
  | ok v cp cur' => simp [altRes, strctRes]
  | noMatch => simp [altRes, strctRes]
  | err k hv =>
    by_cases hk : k > cur + 1 + lookahead
    · have hk2 : k > cur + lookahead := by omega
      simp [altRes, strctRes, hk, hk2]
    · simp [altRes, strctRes, hk]

theorem alts_hit (c : Ctx) (name : String) (alts : List Alt) (hgr : c.grammar name = some (.group (.disj (alts.map altNode)) .once))
    (cur : Nat) (t : Tok) (hn : c.toks[cur]? = some t) (pre post : List Alt) (kw : Bytes) (fl S : String)
    (ha : alts = pre ++ (kw, fl, S) :: post) (hpre : ∀ x ∈ pre, litMatch t x.1 = false) (hc : litMatch t kw = true)
    (n : Nat) (hlen : pre.length = n) (g : Nat) :
    parse c (g + 5 + 3 + n + 3) (.strct name) cur = altRes name fl cur (parse c (g+1) (.strct S) (cur+1)) := by
  subst ha hlen
  rw [parse_strct' c _ name _ cur hgr, parse_once, parse_disj, List.map_append,
    disj_skips c cur _ (g+5) none pre (fun t' h => by rw [hn] at h; cases h; exact hpre)]
  exact disj_hit name c cur t hn kw fl S _ g hc

theorem alts_miss (c : Ctx) (name : String) (alts : List Alt) (hgr : c.grammar name = some (.group (.disj (alts.map altNode)) .once))
    (cur : Nat) (h : ∀ t, c.toks[cur]? = some t → ∀ x ∈ alts, litMatch t x.1 = false) (n : Nat) (hlen : alts.length = n) (g : Nat) :
    parse c (g + 3 + n + 3) (.strct name) cur = .noMatch := by
  subst hlen
  rw [parse_strct' c _ name _ cur hgr, parse_once, parse_disj]
  have := disj_skips c cur [] g none alts h
  rw [List.append_nil] at this
  rw [this, parseDisj_nil]; rfl


/-! ## the statement dispatcher `Lql` -/
def lqlAlts : List Alt := [(kwSELECT, "Select", "Select"), (kwDESCRIBE, "Describe", "Describe"), (kwTRUNCATE, "Truncate", "Truncate"),
  (kwSHOW, "Show", "Show"), (kwCREATE, "Create", "Create"), (kwDELETE, "Delete", "Delete")]
def lqlBody : Node := .group (.disj [kwAlt kwSELECT "Select" "Select", kwAlt kwDESCRIBE "Describe" "Describe",
  kwAlt kwTRUNCATE "Truncate" "Truncate", kwAlt kwSHOW "Show" "Show", kwAlt kwCREATE "Create" "Create",
  kwAlt kwDELETE "Delete" "Delete"]) .once
theorem g_lql : grammar "Lql" = some lqlBody := rfl

def topRes (toks : List Tok) (r : Res) : Option Val :=
  match r with
  | .ok [v] _ cur => if cur == toks.length then some v else none
  | _ => none

theorem run_lql (toks : List Tok) : runEngine grammar "Lql" toks = topRes toks (parse ⟨toks, grammar⟩ (60 * toks.length + 200) (.strct "Lql") 0) := by
  unfold runEngine topRes
  rfl

theorem lql_hit (t : Tok) (r : List Tok) (pre post : List Alt) (kw : Bytes) (fl S : String)
    (ha : lqlAlts = pre ++ (kw, fl, S) :: post) (hpre : ∀ x ∈ pre, litMatch t x.1 = false) (hc : litMatch t kw = true)
    (n : Nat) (hlen : pre.length = n) (g : Nat) :
    parse ⟨t :: r, grammar⟩ (g + 5 + 3 + n + 3) (.strct "Lql") 0 = altRes "Lql" fl 0 (parse ⟨t :: r, grammar⟩ (g+1) (.strct S) 1) :=
  alts_hit ⟨t :: r, grammar⟩ "Lql" lqlAlts g_lql 0 t rfl pre post kw fl S ha hpre hc n hlen g


/-! ## DELETE -/
def deleteBody : Node := optG (kwSeq kwPIPE "PipeName" (.ref .ident))
theorem g_delete : grammar "Delete" = some deleteBody := rfl

theorem engine_direct_delete (dp : Bytes → Option Int) (ft : Nat) (t : Tok) (r : List Tok)
    (h1 : litMatch t kwSELECT = false) (h2 : litMatch t kwDESCRIBE = false) (h3 : litMatch t kwTRUNCATE = false)
    (h4 : litMatch t kwSHOW = false) (h5 : litMatch t kwCREATE = false) (h6 : litMatch t kwDELETE = true) :
    (runEngine grammar "Lql" (t :: r)).bind (toLqlChecked dp ft) = dDeleteRest r := by
  rw [run_lql]
  obtain ⟨g, hg⟩ : ∃ g, 60 * (t :: r).length + 200 = (g + 7) + 5 + 3 + 5 + 3 := ⟨60 * (t :: r).length + 177, rfl⟩
  rw [hg, lql_hit t r (lqlAlts.take 5) [] kwDELETE "Delete" "Delete" rfl (by simp [lqlAlts, h1, h2, h3, h4, h5]) h6 5 rfl,
    parse_strct _ _ "Delete" deleteBody 1 g_delete, deleteBody]
  cases r with
  | nil =>
    have hn : (⟨[t], grammar⟩ : Ctx).toks[1]? = none := rfl
    rw [clause_none _ _ _ _ (g+2) 1 hn]
    simp [altRes, topRes, dDeleteRest, checked_delete, optStr, fv, fieldVals]
  | cons p r1 =>
    have hn : (⟨t :: p :: r1, grammar⟩ : Ctx).toks[1]? = some p := rfl
    cases hp : litMatch p kwPIPE with
    | false =>
      rw [clause_nolit _ _ _ _ (g+2) 1 p hn hp]
      cases r1 with
      | nil => simp [altRes, topRes, dDeleteRest]
      | cons n r2 => cases r2 <;> simp [altRes, topRes, dDeleteRest, hp]
    | true =>
      rw [clause_lit _ _ _ _ g 1 p hn hp, parse_ref]
      cases r1 with
      | nil => simp [altRes, topRes, dDeleteRest, peek, lookahead]
      | cons n r2 =>
        have hn2 : (⟨t :: p :: n :: r2, grammar⟩ : Ctx).toks[1+1]? = some n := rfl
        simp only [peek, hn2]
        by_cases hi : n.t = TT.ident
        · cases r2 with
          | nil => simp [hi, altRes, topRes, dDeleteRest, hp, checked_delete, optStr, fv, fieldVals, strs]
          | cons x r3 => simp [hi, altRes, topRes, dDeleteRest, hp]
        · cases r2 with
          | nil => simp [hi, altRes, topRes, dDeleteRest, hp, lookahead]
          | cons x r3 => simp [hi, altRes, topRes, dDeleteRest, hp, lookahead]


theorem dSource_cvM {f : Nat} {toks r : List Tok} {s : Source} (h : dSource f toks = some (s, r)) :
    cvSource s + 8 * r.length ≤ 8 * toks.length + 8 := by
  cases toks with
  | nil => simp [dSource] at h
  | cons t r0 =>
    simp only [dSource] at h
    split at h
    · cases hp : KV.tagParse t.v with
      | none => simp [hp] at h
      | some m =>
        simp [hp] at h
        obtain ⟨rfl, rfl⟩ := h
        simp [cvSource]; omega
    · cases hd : dExpr f (t :: r0) with
      | none => simp [hd] at h
      | some res =>
        obtain ⟨e, r1⟩ := res
        simp [hd] at h
        obtain ⟨rfl, rfl⟩ := h
        simpa [cvSource] using dExpr_cv hd

end Logrange.Lql

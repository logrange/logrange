import Logrange.Proofs.RdRngPaging
import Logrange.Proofs.RdQueryLift
/-! Lift of the cursor-level RANGED paging theorem (`RdRngPaging.lean`) to `Logrange.Rd.query` / `pages` (request ids, held
cursors, `ApplyState`, limit clamp). Same structure as `RdQueryLift.lean`. -/
set_option linter.unusedSectionVars false
set_option linter.unusedVariables false
namespace Logrange.Rd

/-- a query with a RANGE (and WHERE when `w`) over every partition -/
def qRng (lo hi : Option Int) (w : Bool) : Qry := { text := 1, where_ := w, minTs := lo, maxTs := hi, ranged := true }

theorem rq_newCur (lo hi : Option Int) (j : Journal) (w : Bool) (p : PosText) :
    newCur [(0, j)] (qRng lo hi w) p = some (applyPosText (mkR lo hi 0 j w) p) := by
  simp [newCur, sortSrcs, insertSrc, resolve, qRng, mkR]

/-- the request is ready to be served from flat index `i` -/
def ReadyR (lo hi : Option Int) (j : Journal) (w : Bool) (srv : Server) (req : Req) (i : Nat) : Prop :=
  req.query = some (qRng lo hi w) ∧ req.offset = 0 ∧ srv.store = [(0, j)] ∧
  ((req.pos = .empty ∧ i = 0) ∨ ∃ p, req.pos = .map [(0, p)] ∧ wflatIdx j p = i) ∧
  (∀ h, req.id > 0 → srv.held.find? (·.id == req.id) = some h →
      h.qtext = 1 ∧ h.pos = req.pos ∧ ∃ p, PCR lo hi 0 j w h.cur i p)

section lift
variable (lo hi : Option Int) (HG : RGetFwdSpec) (HN : RNextFwdSpec)
include HG HN

theorem rq_page {j : Journal} {w : Bool} (hs : Sorted j) (M : Nat) (srv : Server) (req : Req) (i : Nat)
    (hr : ReadyR lo hi j w srv req i) :
    ∃ i', (query M srv req).2.events = (FLR lo hi j w i).take (limOf M req) ∧
      FLR lo hi j w i' = (FLR lo hi j w i).drop (limOf M req) ∧
      ReadyR lo hi j w (query M srv req).1 (query M srv req).2.next i' := by
  obtain ⟨hq, hoff, hstore, hpos, hheld⟩ := hr
  have hq1 : (qRng lo hi w).text = 1 := rfl
  by_cases hfound : req.id > 0 ∧ ∃ h0, srv.held.find? (·.id == req.id) = some h0
  · obtain ⟨hid, h0, hf⟩ := hfound
    obtain ⟨e1, e2, p, hpc⟩ := hheld h0 hid hf
    have ha : applyState h0 (qRng lo hi w).text req.pos = some h0 := by
      simp [applyState, hq1, e1, e2]
    rw [ql_query_held M srv req (qRng lo hi w) h0 h0 hq hid hf ha]
    simp only [hoff, hstore]
    have hcur : offset (setJournals h0.cur [(0, j)]) 0 = h0.cur := by
      obtain ⟨it, v, l, m, e, _⟩ := hpc
      rw [e, rp_setJournals]; simp [offset]
    rw [hcur]
    have habs : AbsR lo hi 0 j w true h0.cur i := by
      obtain ⟨it, v, l, m, e, st, _⟩ := hpc; exact ⟨it, v, l, m, e, st⟩
    obtain ⟨ev, i', p', pc', f', pm', fi'⟩ := rp_pageOn_abs lo hi HG HN hs (limOf M req) habs
    -- the page as a variable: what follows needs only the facts just obtained about it
    generalize pageOn (limOf M req) h0.cur = pg at ev pc' pm' ⊢
    refine ⟨i', ev, f', rfl, rfl, rfl, Or.inr ⟨p', by rw [pm'], fi'⟩, ?_⟩
    intro h _ hfind
    simp only [List.find?_cons, beq_self_eq_true] at hfind
    cases hfind
    exact ⟨rfl, rfl, p', pc'⟩
  · have hnf : (if req.id > 0 then srv.held.find? (·.id == req.id) else none) = none := by
      by_cases hid : req.id > 0
      · simp only [hid, if_true]
        cases hfd : srv.held.find? (·.id == req.id) with
        | none => rfl
        | some h0 => exact absurd ⟨hid, h0, hfd⟩ hfound
      · simp [hid]
    have hc : newCur srv.store (qRng lo hi w) req.pos = some (applyPosText (mkR lo hi 0 j w) req.pos) := by
      rw [hstore]; exact rq_newCur lo hi j w req.pos
    have habs : AbsR lo hi 0 j w true (offset (applyPosText (mkR lo hi 0 j w) req.pos) req.offset) i := by
      rw [hoff]
      have : ∀ c, offset c 0 = c := by intro c; simp [offset]
      rw [this]
      rcases hpos with ⟨hp, hix⟩ | ⟨p, hp, hix⟩
      · rw [hp, hix]; exact rp_head_abs lo hi 0 j w
      · rw [hp, ← hix]; exact rp_fresh_abs lo hi 0 j w true p
    obtain ⟨ev, i', p', pc', f', pm', fi'⟩ := rp_pageOn_abs lo hi HG HN hs (limOf M req) habs
    have hmain := ql_query_new M srv req (qRng lo hi w) _ hq hnf hc
    simp only at hmain
    rw [hmain]
    generalize pageOn (limOf M req) (offset (applyPosText (mkR lo hi 0 j w) req.pos) req.offset) = pg at ev pc' pm' ⊢
    by_cases hcache : (req.wait || decide (limOf M req ≠ req.limit)) = true
    · rw [if_pos hcache]
      refine ⟨i', ev, f', rfl, rfl, ?_, Or.inr ⟨p', by rw [pm'], fi'⟩, ?_⟩
      · by_cases h0 : req.id = 0 <;> simp [h0, hstore]
      · intro h _ hfind
        simp only [List.find?_cons, beq_self_eq_true] at hfind
        cases hfind
        exact ⟨rfl, rfl, p', pc'⟩
    · rw [if_neg hcache]
      refine ⟨i', ev, f', rfl, rfl, ?_, Or.inr ⟨p', by rw [pm'], fi'⟩, ?_⟩
      · by_cases h0 : req.id = 0 <;> simp [h0, hstore]
      · intro h hid _; simp at hid

theorem rq_pagesFrom {j : Journal} {w : Bool} (hs : Sorted j) (M : Nat) (orig : Req) (ho : orig.query = some (qRng lo hi w)) :
    ∀ (steps : List Step) (srv : Server) (prev : Page) (i : Nat), ReadyR lo hi j w srv prev.next i →
    (∀ s ∈ steps, s.store' = none) →
    (pagesFrom M orig srv prev steps).flatten = (FLR lo hi j w i).take ((steps.map (fun s => min s.limit M)).sum) := by
  intro steps
  induction steps with
  | nil => intro srv prev i _ _; simp [pagesFrom]
  | cons st rest ih =>
    intro srv prev i hr hall
    have hst := hall st (List.mem_cons_self ..)
    obtain ⟨hq, hoff, hstore, hpos, hheld⟩ := hr
    -- the request the client builds is ready, whatever it chose
    have hready : ReadyR lo hi j w (if st.resume = .evicted then { srv with held := [] } else srv) (nextReq orig prev st) i := by
      cases hres : st.resume with
      | follow =>
        simp only [nextReq, hres]
        refine ⟨hq, hoff, by simpa using hstore, hpos, ?_⟩
        intro h hid hf; exact hheld h hid (by simpa using hf)
      | evicted =>
        simp only [nextReq, hres]
        refine ⟨hq, hoff, by simpa using hstore, hpos, ?_⟩
        intro h _ hf; simp at hf
      | zeroId =>
        simp only [nextReq, hres]
        refine ⟨hq, hoff, by simpa using hstore, hpos, ?_⟩
        intro h hid _; simp at hid
      | posOnly =>
        simp only [nextReq, hres]
        refine ⟨ho, rfl, by simpa using hstore, hpos, ?_⟩
        intro h hid _; simp at hid
    have hlim : (nextReq orig prev st).limit = st.limit := by
      cases hres : st.resume <;> simp [nextReq, hres]
    obtain ⟨i', ev, f', hr'⟩ := rq_page lo hi HG HN hs M _ _ i hready
    rw [pagesFrom]
    simp only [hst]
    rw [List.flatten_cons, ih _ _ i' hr' (fun s hs' => hall s (List.mem_cons_of_mem _ hs')), ev, f',
      ql_limOf, hlim]
    simp only [List.map_cons, List.sum_cons]
    rw [List.take_add]

/-- **paging at the request level** (`Querier.Query` + provider): one partition, every limit list, every resume mode -/
theorem rq_pages {j : Journal} {w : Bool} (hs : Sorted j) (M : Nat) (l0 : Nat) (wait : Bool) (steps : List Step)
    (hall : ∀ s ∈ steps, s.store' = none) :
    (pages M { store := [(0, j)] } { query := some (qRng lo hi w), limit := l0, wait := wait } steps).flatten =
      ((wflat j).filter (passR lo hi w)).take (((l0 :: steps.map (·.limit)).map (fun l => min l M)).sum) := by
  have hr0 : ReadyR lo hi j w ({ store := [(0, j)] } : Server) { query := some (qRng lo hi w), limit := l0, wait := wait } 0 := by
    refine ⟨rfl, rfl, rfl, Or.inl ⟨rfl, rfl⟩, ?_⟩
    intro h hid _; simp at hid
  obtain ⟨i', ev, f', hr'⟩ := rq_page lo hi HG HN hs M _ _ 0 hr0
  rw [pages]
  simp only []
  rw [List.flatten_cons, rq_pagesFrom lo hi HG HN hs M _ rfl steps _ _ i' hr' hall, ev, f', ql_limOf]
  simp only [List.map_cons, List.sum_cons, List.map_map]
  rw [List.take_add]
  simp [FLR, Function.comp_def]

end lift
end Logrange.Rd

import Logrange.Translated.Kvstring
import Logrange.Model.KV
import Logrange.Proofs.TrKvTrim
import Logrange.Proofs.KV
/-!
# The translated `kvstring.RemoveCurlyBraces` computes the hand-written model `KV.removeCurlyBraces`

`Kvstring.RemoveCurlyBraces` is generated from the Go source; `KV.removeCurlyBraces` is the model the C08/C13
properties are stated over. The translated function never panics and never runs out of fuel.
-/
set_option linter.unusedSimpArgs false
namespace Logrange.Proofs.TrKvBraces
open Go Go.Sem Logrange Logrange.Translated Logrange.Proofs.TrKvTrim Logrange.Proofs.TrField Logrange.Proofs.KV

/-! ## first loop -/

/-- a byte that equals `a` does not equal a different `b` (used to give every byte test of a loop body a value, whatever
order the source tests them in) -/
theorem beq_other {x a b : UInt8} (h : (x == a) = true) (hab : a ≠ b) : (x == b) = false := by
  have : x = a := by simpa using h
  subst this
  simpa using hab

theorem loop1_eq (str : Bytes) : ∀ (fuel i c : Nat), i ≤ str.length → str.length - i < fuel →
    Kvstring.RemoveCurlyBraces_loop1 str fuel (i : Int) (c : Int) =
      Kvstring.RemoveCurlyBraces_after1 str
        ((str.length - (KV.leadScan (str.drop i) c).1.length : Nat) : Int)
        ((KV.leadScan (str.drop i) c).2 : Int) := by
  intro fuel
  induction fuel with
  | zero => intro i c _ h; omega
  | succ fuel ih =>
    intro i c hi hf
    rw [Kvstring.RemoveCurlyBraces_loop1]
    cases h : str.drop i with
    | nil =>
      have he : i = str.length := Nat.le_antisymm hi (List.drop_eq_nil_iff.mp h)
      rw [if_neg (by simp [len, he]), he]
      simp [KV.leadScan]
    | cons x rest =>
      have hl := length_of_drop_cons h
      have hr : str.drop (i + 1) = rest := drop_step h 0
      rw [if_pos (decide_eq_true (Int.ofNat_lt.mpr (lt_of_drop_cons h))), index_drop, h]
      show (if (x == (32 : UInt8)) = true then _ else if (x == (123 : UInt8)) = true then _ else _) = _
      unfold KV.leadScan
      by_cases h1 : (x == (32 : UInt8)) = true
      · rw [if_pos h1, if_pos (show (x == KV.SP) = true from h1), ← hr]
        exact ih (i + 1) c (by omega) (by omega)
      · rw [if_neg h1, if_neg (show ¬ (x == KV.SP) = true from h1)]
        by_cases h2 : (x == (123 : UInt8)) = true
        · rw [if_pos h2, if_pos (show (x == KV.LB) = true from h2), ← hr]
          exact ih (i + 1) (c + 1) (by omega) (by omega)
        · rw [if_neg h2, if_neg (show ¬ (x == KV.LB) = true from h2), List.length_cons]
          congr 2; omega

/-! ## second loop -/

theorem loop2_eq (str : Bytes) (idx : Nat) : ∀ (m fuel : Nat) (cnt : Int),
    (m ≠ 0 → idx + m < str.length) → m < fuel →
    Kvstring.RemoveCurlyBraces_loop2 str (idx : Int) fuel cnt ((idx : Int) + (m : Int)) =
      Kvstring.RemoveCurlyBraces_after2 str (idx : Int)
        (KV.trailScan ((str.drop (idx + 1)).take m).reverse cnt).2
        ((idx : Int) + ((KV.trailScan ((str.drop (idx + 1)).take m).reverse cnt).1.length : Int)) := by
  intro m
  induction m with
  | zero =>
    intro fuel cnt _ hf
    obtain ⟨fuel, rfl⟩ : ∃ f, fuel = f + 1 := ⟨fuel - 1, by omega⟩
    unfold Kvstring.RemoveCurlyBraces_loop2
    simp [KV.trailScan]
  | succ m ih =>
    intro fuel cnt hb hf
    obtain ⟨fuel, rfl⟩ : ∃ f, fuel = f + 1 := ⟨fuel - 1, by omega⟩
    have hb' : idx + (m + 1) < str.length := hb (by omega)
    have hlt : idx + 1 + m < str.length := by omega
    have hrev : ((str.drop (idx + 1)).take (m + 1)).reverse
        = str[idx + 1 + m] :: ((str.drop (idx + 1)).take m).reverse := by
      rw [List.take_add_one, List.getElem?_drop, List.getElem?_eq_getElem hlt]
      simp
    have et : (idx : Int) + ((m + 1 : Nat) : Int) = ((idx + 1 + m : Nat) : Int) := by omega
    have et' : ((idx + 1 + m : Nat) : Int) - 1 = (idx : Int) + (m : Int) := by omega
    rw [hrev]
    unfold Kvstring.RemoveCurlyBraces_loop2
    unfold KV.trailScan
    rw [et]
    have hgt : ((idx + 1 + m : Nat) : Int) > (idx : Int) := by omega
    by_cases h0 : cnt ≥ 0
    · simp only [hgt, h0, decide_true, Bool.and_self, if_true, index_ok str _ hlt, Go.Sem.bind]
      by_cases h1 : (str[idx + 1 + m] == (32 : UInt8)) = true
      · have h1' : (str[idx + 1 + m] == KV.SP) = true := h1
        have h2f : (str[idx + 1 + m] == (125 : UInt8)) = false := beq_other h1 (by decide)
        simp only [h1, h1', h2f, bne, Bool.not_true, Bool.not_false, ↓reduceIte, Bool.false_eq_true]
        rw [et']
        exact ih fuel cnt (by omega) (by omega)
      · have h1' : ¬ (str[idx + 1 + m] == KV.SP) = true := h1
        have h1f : (str[idx + 1 + m] == (32 : UInt8)) = false := by simpa using h1
        by_cases h2 : (str[idx + 1 + m] == (125 : UInt8)) = true
        · have h2' : (str[idx + 1 + m] == KV.RB) = true := h2
          simp only [h1f, h1', h2, h2', bne, Bool.not_true, Bool.not_false, ↓reduceIte, Bool.false_eq_true]
          rw [et']
          exact ih fuel (cnt - 1) (by omega) (by omega)
        · have h2' : ¬ (str[idx + 1 + m] == KV.RB) = true := h2
          have h2f : (str[idx + 1 + m] == (125 : UInt8)) = false := by simpa using h2
          simp only [h1f, h1', h2f, h2', bne, Bool.not_true, Bool.not_false, ↓reduceIte, Bool.false_eq_true]
          congr 1
          simp [List.length_take, List.length_drop]
          omega
    · simp only [hgt, h0, decide_true, decide_false, Bool.and_false, if_false, Bool.false_eq_true]
      congr 1
      simp [List.length_take, List.length_drop]
      omega

/-! ## the whole function -/

theorem removeCurlyBraces_eq (str : Bytes) :
    Kvstring.RemoveCurlyBraces str =
      .ok (match KV.removeCurlyBraces str with | some r => (r, false) | none => (str, true)) := by
  have h1 := loop1_eq str (dist 0 (len str)) 0 0 (by omega) (by simp only [dist, len]; omega)
  simp only [Int.natCast_zero, List.drop_zero] at h1
  simp only [Kvstring.RemoveCurlyBraces, h1]
  clear h1
  obtain ⟨pre, hpre⟩ := leadScan_suffix str 0
  unfold KV.removeCurlyBraces
  generalize KV.leadScan str 0 = ls at hpre
  obtain ⟨rest, cnt0⟩ := ls
  simp only at hpre ⊢
  subst hpre
  have hidx : (pre ++ rest).length - rest.length = pre.length := by
    simp only [List.length_append]; omega
  rw [hidx]
  simp only [Kvstring.RemoveCurlyBraces_after1]
  cases rest with
  | nil =>
    simp only [List.append_nil]
    obtain ⟨hfuel, hg, hne, hsl⟩ := at_end pre
    rw [hfuel]
    unfold Kvstring.RemoveCurlyBraces_loop2
    simp only [hg, decide_false, Bool.false_and, Bool.false_eq_true, ↓reduceIte]
    unfold Kvstring.RemoveCurlyBraces_after2
    rw [hsl]
    by_cases hc : cnt0 = 0
    · subst hc
      simp [hne]
    · simp [hne, hc]
  | cons c tl =>
    obtain ⟨hfuel, htidx⟩ := dist_last pre c tl
    have hdrop : ((pre ++ c :: tl).drop (pre.length + 1)).take tl.length = tl := by
      simp
    have h2 := loop2_eq (pre ++ c :: tl) pre.length tl.length (tl.length + 1) (cnt0 : Int)
      (by intro _; simp only [List.length_append, List.length_cons]; omega) (by omega)
    rw [hdrop] at h2
    rw [hfuel, htidx, h2]
    clear h2
    obtain ⟨pre2, hpre2⟩ := trailScan_suffix tl.reverse (cnt0 : Int)
    simp only []
    generalize KV.trailScan tl.reverse (cnt0 : Int) = ts at hpre2
    obtain ⟨rem, cnt⟩ := ts
    simp only at hpre2 ⊢
    have htl : tl = rem.reverse ++ pre2.reverse := by
      have := congrArg List.reverse hpre2
      simpa using this.symm
    unfold Kvstring.RemoveCurlyBraces_after2
    by_cases hrem : rem = []
    · subst hrem
      simp
    · have hlen : rem.length ≠ 0 := by
        intro h; exact hrem (List.eq_nil_of_length_eq_zero h)
      have hne : ¬ ((pre.length : Int) + (rem.length : Int) = (pre.length : Int)) := by omega
      have hemp : rem.isEmpty = false := by
        cases rem with
        | nil => exact absurd rfl hrem
        | cons _ _ => rfl
      subst htl
      rw [slice_mid]
      by_cases hc : cnt = 0
      · subst hc
        simp [hne, hemp]
      · simp [hne, hemp, hc]

end Logrange.Proofs.TrKvBraces

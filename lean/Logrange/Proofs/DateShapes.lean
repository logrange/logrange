import Logrange.Proofs.Date
import Logrange.Model.DateText
/-!
# Shapes: soundness of the two matchers on shapes, and the shapes of rendered texts

* `msS_sound` / `find_none_of_findS`: if the may-matcher finds nothing in a shape, the real search finds nothing in any
  text of that shape.
* `msD_sound` / `find_whole_of_ownMatchD`: where the exact matcher is defined, the real matcher's remainders are, in
  priority order, exactly of the computed shapes; so if the first computed remainder is empty, the unanchored search on a
  text of that shape returns the whole text.
* `renderLayout_shape`: the text of every valid instant in a layout has one of the layout's shapes.
-/
namespace Logrange.Date

/-! ## byte sets -/

theorem inCls_of_within {x rg : BSet} {c : UInt8} (hw : within x rg = true) (hc : inCls x c = true) : inCls rg c = true := by
  simp only [inCls, List.any_eq_true, Bool.and_eq_true, decide_eq_true_eq] at hc ⊢
  simp only [within, List.all_eq_true, List.any_eq_true, Bool.and_eq_true, decide_eq_true_eq] at hw
  obtain ⟨p, hp, h1, h2⟩ := hc
  obtain ⟨q, hq, h3, h4⟩ := hw p hp
  exact ⟨q, hq, UInt8.le_trans h3 h1, UInt8.le_trans h2 h4⟩

theorem meets_of_inCls {x rg : BSet} {c : UInt8} (hx : inCls x c = true) (hr : inCls rg c = true) : meets rg x = true := by
  simp only [inCls, List.any_eq_true, Bool.and_eq_true, decide_eq_true_eq] at hx hr
  simp only [meets, List.any_eq_true, Bool.and_eq_true, decide_eq_true_eq]
  obtain ⟨p, hp, h1, h2⟩ := hx
  obtain ⟨q, hq, h3, h4⟩ := hr
  exact ⟨q, hq, p, hp, UInt8.le_trans h3 h2, UInt8.le_trans h1 h4⟩

theorem decides_sound {rg x : BSet} {c : UInt8} {b : Bool} (hx : inCls x c = true) (hd : decides rg x = some b) :
    inCls rg c = b := by
  simp only [decides] at hd
  split at hd
  · rename_i hw; cases hd; exact inCls_of_within hw hx
  · split at hd
    · rename_i hm; cases hd
      cases h : inCls rg c with
      | false => rfl
      | true => rw [meets_of_inCls hx h] at hm; simp at hm
    · cases hd

theorem inCls_bS (c x : UInt8) : inCls (bS c) x = (x == c) := by
  simp only [inCls, bS, List.any_cons, List.any_nil, Bool.or_false]
  cases h : x == c with
  | true => have : x = c := by simpa using h
            subst this; simp
  | false =>
    have hne : x ≠ c := by simpa using h
    cases h2 : (decide (c ≤ x) && decide (x ≤ c)) with
    | false => rfl
    | true =>
      simp only [Bool.and_eq_true, decide_eq_true_eq] at h2
      exact absurd (UInt8.le_antisymm h2.2 h2.1) hne

theorem inCls_bS_self (x : UInt8) : inCls (bS x) x = true := by rw [inCls_bS]; exact beq_self_eq_true x

theorem inCls_notNL (x : UInt8) : inCls [(0, 9), (11, 255)] x = (x != 10) := by
  have hlt := UInt8.toNat_lt x
  simp only [inCls, List.any_cons, List.any_nil, Bool.or_false, UInt8.le_iff_toNat_le]
  have e0 : (0 : UInt8).toNat = 0 := rfl
  have e9 : (9 : UInt8).toNat = 9 := rfl
  have e11 : (11 : UInt8).toNat = 11 := rfl
  have e255 : (255 : UInt8).toNat = 255 := rfl
  rw [e0, e9, e11, e255]
  cases h : x != 10 with
  | true =>
    have : x ≠ 10 := by simpa using h
    have hn : x.toNat ≠ 10 := fun e => this (UInt8.toNat_inj.mp (by simpa using e))
    simp; omega
  | false =>
    have : x = 10 := by simpa using h
    subst this; decide

/-! ## texts of a shape -/

theorem hasShape_append : ∀ (a : Bytes) (sa : List BSet) {b : Bytes} {sb : List BSet}, hasShape a sa → hasShape b sb →
    hasShape (a ++ b) (sa ++ sb)
  | [], [], _, _, _, h => by simpa using h
  | [], _ :: _, _, _, h, _ => by simp [hasShape] at h
  | _ :: _, [], _, _, h, _ => by simp [hasShape] at h
  | c :: a, x :: sa, b, sb, h, h2 => by
    simp only [hasShape, List.cons_append] at h ⊢
    exact ⟨h.1, hasShape_append a sa h.2 h2⟩

/-- a list of texts has, element by element, the listed shapes -/
def allShapes : List Bytes → List (List BSet) → Prop
  | [], [] => True
  | t :: ts, s :: ss => hasShape t s ∧ allShapes ts ss
  | _, _ => False

theorem allShapes_append : ∀ (a : List Bytes) (sa : List (List BSet)) {b : List Bytes} {sb : List (List BSet)},
    allShapes a sa → allShapes b sb → allShapes (a ++ b) (sa ++ sb)
  | [], [], _, _, _, h => by simpa using h
  | [], _ :: _, _, _, h, _ => by simp [allShapes] at h
  | _ :: _, [], _, _, h, _ => by simp [allShapes] at h
  | c :: a, x :: sa, b, sb, h, h2 => by
    simp only [allShapes, List.cons_append] at h ⊢
    exact ⟨h.1, allShapes_append a sa h.2 h2⟩

theorem allShapes_single {t : Bytes} {s : List BSet} (h : hasShape t s) : allShapes [t] [s] := ⟨h, trivial⟩

theorem hasShape_lit : ∀ (pre : Bytes), hasShape pre (pre.map bS)
  | [] => trivial
  | c :: p => by
    simp only [List.map, hasShape]
    exact ⟨inCls_bS_self c, hasShape_lit p⟩

theorem hasShape_length : ∀ {a : Bytes} {sa : List BSet}, hasShape a sa → a.length = sa.length
  | [], [], _ => rfl
  | [], _ :: _, h => by simp [hasShape] at h
  | _ :: _, [], h => by simp [hasShape] at h
  | _ :: a, _ :: sa, h => by simp only [hasShape] at h; simp [hasShape_length h.2]

theorem hasShape_nil_right {a : Bytes} (h : hasShape a []) : a = [] := by
  cases a with
  | nil => rfl
  | cons _ _ => simp [hasShape] at h

/-! ## the may-matcher -/

theorem starRemS_sound (rg : BSet) : ∀ (txt : Bytes) (sh : List BSet), hasShape txt sh →
    ∀ rem ∈ starRem rg txt, ∃ rs ∈ starRemS rg sh, hasShape rem rs
  | [], [], _, rem, hr => by
    simp [starRem] at hr; subst hr; exact ⟨[], by simp [starRemS], trivial⟩
  | [], _ :: _, h, _, _ => by simp [hasShape] at h
  | _ :: _, [], h, _, _ => by simp [hasShape] at h
  | c :: t, x :: bs, h, rem, hr => by
    simp only [hasShape] at h
    simp only [starRem] at hr
    split at hr
    · rename_i hin
      have hm : meets rg x = true := meets_of_inCls h.1 hin
      rcases List.mem_append.mp hr with hr | hr
      · obtain ⟨rs, hrs, hs⟩ := starRemS_sound rg t bs h.2 rem hr
        exact ⟨rs, by simp [starRemS, hm, hrs], hs⟩
      · simp at hr; subst hr
        exact ⟨x :: bs, by simp [starRemS, hm], by simp [hasShape, h]⟩
    · simp at hr; subst hr
      refine ⟨x :: bs, ?_, by simp [hasShape, h]⟩
      simp only [starRemS]; split <;> simp

theorem byteS_sound {p : UInt8 → Bool} {q : BSet → Bool} (hpq : ∀ {x b}, inCls b x = true → p x = true → q b = true)
    (txt : Bytes) (sh : List BSet) (h : hasShape txt sh) (rem : Bytes)
    (hr : rem ∈ (match txt with | x :: s' => if p x then [s'] else [] | [] => [])) :
    ∃ rs ∈ (match sh with | x :: s' => if q x then [s'] else [] | [] => []), hasShape rem rs := by
  match txt, sh, h with
  | [], [], _ => cases hr
  | x :: t, b :: bs, h =>
    by_cases hx : p x = true
    · simp only [hx, if_true, List.mem_singleton] at hr
      subst hr
      exact ⟨bs, by simp only [hpq h.1 hx, if_true, List.mem_singleton], h.2⟩
    · simp only [hx, Bool.false_eq_true, if_false] at hr; cases hr

theorem msS_sound : ∀ (r : Rx) (txt : Bytes) (sh : List BSet), hasShape txt sh →
    ∀ rem ∈ ms r txt, ∃ rs ∈ msS r sh, hasShape rem rs
  | .eps, txt, sh, h, rem, hr => by
    simp [ms] at hr; subst hr; exact ⟨sh, by simp [msS], h⟩
  | .chr c, txt, sh, h, rem, hr =>
    byteS_sound (p := (· == c)) (fun hb hx => meets_of_inCls hb (by rw [inCls_bS]; exact hx)) txt sh h rem hr
  | .any, txt, sh, h, rem, hr => byteS_sound (p := (· != 10)) (q := fun _ => true) (fun _ _ => rfl) txt sh h rem hr
  | .cls rg, txt, sh, h, rem, hr => byteS_sound (p := inCls rg) (fun hb hx => meets_of_inCls hb hx) txt sh h rem hr
  | .seq a b, txt, sh, h, rem, hr => by
    simp only [ms, List.mem_flatMap] at hr
    obtain ⟨m, hm, hr⟩ := hr
    obtain ⟨ms1, hms1, hs1⟩ := msS_sound a txt sh h m hm
    obtain ⟨rs, hrs, hs⟩ := msS_sound b m ms1 hs1 rem hr
    exact ⟨rs, by simp only [msS, List.mem_flatMap]; exact ⟨ms1, hms1, hrs⟩, hs⟩
  | .alt a b, txt, sh, h, rem, hr => by
    simp only [ms, List.mem_append] at hr
    rcases hr with hr | hr
    · obtain ⟨rs, hrs, hs⟩ := msS_sound a txt sh h rem hr
      exact ⟨rs, by simp [msS, hrs], hs⟩
    · obtain ⟨rs, hrs, hs⟩ := msS_sound b txt sh h rem hr
      exact ⟨rs, by simp [msS, hrs], hs⟩
  | .star rg, txt, sh, h, rem, hr => by
    simp only [ms] at hr
    obtain ⟨rs, hrs, hs⟩ := starRemS_sound rg txt sh h rem hr
    exact ⟨rs, by simpa [msS] using hrs, hs⟩

theorem ms_nil_of_msS {r : Rx} {txt : Bytes} {sh : List BSet} (h : hasShape txt sh) (hn : msS r sh = []) : ms r txt = [] := by
  cases hm : ms r txt with
  | nil => rfl
  | cons x xs =>
    obtain ⟨rs, hrs, _⟩ := msS_sound r txt sh h x (by simp [hm])
    simp [hn] at hrs

/-- the may-search under the left guard: a start position is skipped only when the byte before it is certainly a digit -/
def findSG (g : Bool) (r : Rx) : Bool → List BSet → Bool
  | pd, [] => !(g && pd) && !(msS r []).isEmpty
  | pd, x :: s => (!(g && pd) && !(msS r (x :: s)).isEmpty) || findSG g r (within x dS) s

theorem findFrom_none_of_findSG (g : Bool) (r : Rx) : ∀ (txt : Bytes) (sh : List BSet) (pd pd' : Bool), hasShape txt sh →
    (pd' = true → pd = true) → findSG g r pd' sh = false → findFrom g r pd txt = none
  | [], [], pd, pd', h, hpd, hf => by
    simp only [findSG, Bool.and_eq_false_iff, Bool.not_eq_false', Bool.and_eq_true, List.isEmpty_iff] at hf
    simp only [findFrom]
    rcases hf with hf | hf
    · have : (g && pd) = true := by simp [hf.1, hpd hf.2]
      simp [this]
    · split
      · rfl
      · simp [matchAt, ms_nil_of_msS h hf]
  | [], _ :: _, _, _, h, _, _ => by simp [hasShape] at h
  | _ :: _, [], _, _, h, _, _ => by simp [hasShape] at h
  | c :: t, x :: bs, pd, pd', h, hpd, hf => by
    have h' := h
    simp only [hasShape] at h'
    simp only [findSG, Bool.or_eq_false_iff, Bool.and_eq_false_iff, Bool.not_eq_false', Bool.and_eq_true, List.isEmpty_iff] at hf
    have hnext : within x dS = true → (decide (48 ≤ c) && decide (c ≤ 57)) = true := by
      intro hw
      have := inCls_of_within hw h'.1
      simpa [inCls, dS] using this
    have ih := findFrom_none_of_findSG g r t bs (decide (48 ≤ c) && decide (c ≤ 57)) (within x dS) h'.2 hnext hf.2
    simp only [findFrom]
    rcases hf.1 with hf1 | hf1
    · have : (g && pd) = true := by simp [hf1.1, hpd hf1.2]
      simp [this, ih]
    · split
      · rename_i m hm
        split at hm
        · cases hm
        · simp [matchAt, ms_nil_of_msS h hf1] at hm
      · exact ih

theorem findSG_false (r : Rx) : ∀ (sh : List BSet) (pd : Bool), findSG false r pd sh = findS r sh
  | [], _ => by simp only [findSG, findS, Bool.false_and, Bool.not_false, Bool.true_and]
  | x :: s, _ => by simp only [findSG, findS, Bool.false_and, Bool.not_false, Bool.true_and, findSG_false r s]

theorem find_none_of_findS (r : Rx) : ∀ (txt : Bytes) (sh : List BSet), hasShape txt sh → findS r sh = false → find r txt = none :=
  fun txt sh h hf => by
    rw [← findFrom_false r txt false]
    exact findFrom_none_of_findSG false r txt sh false false h id (by rwa [findSG_false])

/-! ## the exact matcher -/

theorem starRemD_sound (rg : BSet) : ∀ (txt : Bytes) (sh : List BSet) (rs : List (List BSet)), hasShape txt sh →
    starRemD rg sh = some rs → allShapes (starRem rg txt) rs
  | [], [], rs, _, hd => by
    simp [starRemD] at hd; subst hd; simp [starRem, allShapes, hasShape]
  | [], _ :: _, _, h, _ => by simp [hasShape] at h
  | _ :: _, [], _, h, _ => by simp [hasShape] at h
  | c :: t, x :: bs, rs, h, hd => by
    have h' := h
    simp only [hasShape] at h'
    simp only [starRemD] at hd
    split at hd
    · rename_i hdec
      have hin := decides_sound h'.1 hdec
      cases hrs' : starRemD rg bs with
      | none => rw [hrs'] at hd; simp at hd
      | some rs' =>
        rw [hrs'] at hd
        simp at hd; subst hd
        have ih := starRemD_sound rg t bs rs' h'.2 hrs'
        simp only [starRem, hin, if_true]
        exact allShapes_append _ _ ih (allShapes_single h)
    · rename_i hdec
      have hin := decides_sound h'.1 hdec
      cases hd
      simp only [starRem, hin]
      exact allShapes_single h
    · cases hd

theorem flatMapD_sound {b : Rx} (ihb : ∀ (txt : Bytes) (sh : List BSet) (rs : List (List BSet)), hasShape txt sh →
      msD b sh = some rs → allShapes (ms b txt) rs) :
    ∀ (l : List Bytes) (ra rs : List (List BSet)), allShapes l ra → flatMapD (msD b) ra = some rs →
      allShapes (l.flatMap (ms b)) rs
  | [], [], rs, _, hd => by simp [flatMapD] at hd; subst hd; simp [allShapes]
  | [], _ :: _, _, h, _ => by simp [allShapes] at h
  | _ :: _, [], _, h, _ => by simp [allShapes] at h
  | m :: l, sm :: ra, rs, h, hd => by
    simp only [allShapes] at h
    simp only [flatMapD] at hd
    split at hd
    · rename_i x y hx hy
      cases hd
      have h1 := ihb m sm x h.1 hx
      have h2 := flatMapD_sound ihb l ra y h.2 hy
      simp only [List.flatMap_cons]
      exact allShapes_append _ _ h1 h2
    · cases hd

theorem byteD_sound {p : UInt8 → Bool} {rg : BSet} (hp : ∀ x, inCls rg x = p x) (txt : Bytes) (sh : List BSet)
    (rs : List (List BSet))
    (hd : (match sh with
      | x :: s' => (decides rg x).map (fun b => if b then [s'] else [])
      | [] => some []) = some rs) (h : hasShape txt sh) :
    allShapes (match (generalizing := false) txt with | x :: s' => if p x then [s'] else [] | [] => []) rs := by
  match txt, sh, h with
  | [], [], _ => cases hd; trivial
  | x :: t, b :: bs, h =>
    simp only [Option.map_eq_some_iff] at hd
    obtain ⟨bb, hdec, rfl⟩ := hd
    have hin := decides_sound h.1 hdec
    rw [hp] at hin
    simp only [hin]
    cases bb
    · trivial
    · exact ⟨h.2, trivial⟩

theorem msD_sound : ∀ (r : Rx) (txt : Bytes) (sh : List BSet) (rs : List (List BSet)), hasShape txt sh →
    msD r sh = some rs → allShapes (ms r txt) rs
  | .eps, txt, sh, rs, h, hd => by
    simp [msD] at hd; subst hd; simp [ms, allShapes, h]
  | .chr c, txt, sh, rs, h, hd => byteD_sound (inCls_bS c) txt sh rs hd h
  | .any, txt, sh, rs, h, hd => byteD_sound inCls_notNL txt sh rs hd h
  | .cls rg, txt, sh, rs, h, hd => byteD_sound (fun _ => rfl) txt sh rs hd h
  | .seq a b, txt, sh, rs, h, hd => by
    simp only [msD, Option.bind_eq_some_iff] at hd
    obtain ⟨ra, hra, hfm⟩ := hd
    have h1 := msD_sound a txt sh ra h hra
    simp only [ms]
    exact flatMapD_sound (msD_sound b) (ms a txt) ra rs h1 hfm
  | .alt a b, txt, sh, rs, h, hd => by
    simp only [msD] at hd
    split at hd
    · rename_i x y hx hy
      cases hd
      simp only [ms]
      exact allShapes_append _ _ (msD_sound a txt sh x h hx) (msD_sound b txt sh y h hy)
    · cases hd
  | .star rg, txt, sh, rs, h, hd => by
    simp only [msD] at hd
    simp only [ms]
    exact starRemD_sound rg txt sh rs h hd

/-- the first match in priority order at the start of the text consumes the whole text -/
theorem matchAt_whole_of_ownMatchD {r : Rx} {txt : Bytes} {sh : List BSet} (h : hasShape txt sh) (ho : ownMatchD r sh = true) :
    matchAt r txt = some txt := by
  simp only [ownMatchD] at ho
  split at ho
  · rename_i rem rest hd
    have hrem : rem = [] := by simpa using ho
    subst hrem
    have hs := msD_sound r txt sh _ h hd
    cases hm : ms r txt with
    | nil => rw [hm] at hs; simp [allShapes] at hs
    | cons m ms' =>
      rw [hm] at hs
      simp only [allShapes] at hs
      have : m = [] := hasShape_nil_right hs.1
      subst this
      simp [matchAt, hm]
  · cases ho

/-- the first match in priority order consumes the whole text ⇒ the unanchored search returns the whole text -/
theorem find_whole_of_ownMatchD {r : Rx} {txt : Bytes} {sh : List BSet} (h : hasShape txt sh) (ho : ownMatchD r sh = true) :
    find r txt = some txt := by
  have hm := matchAt_whole_of_ownMatchD h ho
  cases txt <;> simp only [find, hm]

/-! ## the shapes of rendered texts -/

def hasShapeB : Bytes → List BSet → Bool
  | [], [] => true
  | c :: s, b :: bs => inCls b c && hasShapeB s bs
  | _, _ => false

theorem hasShape_of_B : ∀ {t : Bytes} {sh : List BSet}, hasShapeB t sh = true → hasShape t sh
  | [], [], _ => trivial
  | [], _ :: _, h => by simp [hasShapeB] at h
  | _ :: _, [], h => by simp [hasShapeB] at h
  | c :: t, b :: bs, h => by
    simp only [hasShapeB, Bool.and_eq_true] at h
    exact ⟨h.1, hasShape_of_B h.2⟩

theorem inCls_dS (c : UInt8) : inCls dS c = isDig c := by simp [inCls, dS, isDig]
theorem inCls_uS (c : UInt8) : inCls uS c = isUpperB c := by simp [inCls, uS, isUpperB]

theorem shape_dig (n : Nat) : inCls dS (dig n) = true := by rw [inCls_dS]; exact isDig_dig n

theorem shape_pad2 (n : Nat) : hasShape (pad2 n) [dS, dS] := ⟨shape_dig _, shape_dig _, trivial⟩

theorem shape_padN : ∀ (k n : Nat), hasShape (padN k n) (List.replicate k dS)
  | 0, _ => trivial
  | k + 1, n => by
    rw [padN, List.replicate_succ']
    exact hasShape_append _ _ (shape_padN k (n / 10)) ⟨shape_dig n, trivial⟩

theorem inCls_dig {a b : UInt8} {lo hi : Nat} (ha : a.toNat = 48 + lo) (hb : b.toNat = 48 + hi) {n : Nat}
    (h1 : lo ≤ n % 10) (h2 : n % 10 ≤ hi) : inCls [(a, b)] (dig n) = true := by
  simp only [inCls, List.any_cons, List.any_nil, Bool.or_false, Bool.and_eq_true, decide_eq_true_eq, UInt8.le_iff_toNat_le,
    ha, hb, dig_toNat]
  omega

theorem shape_num12 (n : Nat) : ∃ sh ∈ [[dS], [dS, dS]], hasShape (num12 n) sh := by
  simp only [num12]; split
  · exact ⟨_, .head _, shape_dig _, trivial⟩
  · exact ⟨_, .tail _ (.head _), shape_pad2 n⟩

theorem shape_num12_tens {b : UInt8} {hi : Nat} (hb : b.toNat = 48 + hi) {n : Nat} (hn : n < (hi + 1) * 10) (h9 : hi ≤ 9) :
    ∃ sh ∈ [[dS], [[(49, b)], dS]], hasShape (num12 n) sh := by
  simp only [num12]; split
  · exact ⟨_, .head _, shape_dig _, trivial⟩
  · exact ⟨_, .tail _ (.head _), inCls_dig (lo := 1) rfl hb (by omega) (by omega), shape_dig _, trivial⟩

theorem shape_num12_le12 {n : Nat} (hn : n ≤ 12) : ∃ sh ∈ [[dS], [[(49, 49)], [(48, 50)]]], hasShape (num12 n) sh := by
  simp only [num12]; split
  · exact ⟨_, .head _, shape_dig _, trivial⟩
  · exact ⟨_, .tail _ (.head _), inCls_dig (lo := 1) (hi := 1) rfl rfl (by omega) (by omega),
      inCls_dig (lo := 0) (hi := 2) rfl rfl (by omega) (by omega), trivial⟩

theorem names_shapes :
    shortMonths.all (fun t => hasShapeB t [uS, lS, lS]) = true ∧ shortDays.all (fun t => hasShapeB t [uS, lS, lS]) = true ∧
    longMonths.all (fun t => (symStd .longMonth).any (hasShapeB t)) = true ∧
    longDays.all (fun t => (symStd .longWeekDay).any (hasShapeB t)) = true := by decide +kernel

theorem shape_name {tab : List Bytes} {shs : List (List BSet)} (h : tab.all (fun t => shs.any (hasShapeB t)) = true)
    {k : Nat} {t : Bytes} (ht : tab[k]? = some t) : ∃ sh ∈ shs, hasShape t sh := by
  obtain ⟨sh, hsh, hb⟩ := List.any_eq_true.mp (List.all_eq_true.mp h t (List.mem_of_getElem? ht))
  exact ⟨sh, hsh, hasShape_of_B hb⟩

theorem day_le_31 {i : XInst} (hi : ValidX i) : i.day ≤ 31 := by
  have := hi.2.2.2.2.2.1
  have := (daysIn_bounds i.month i.year).2.1
  omega

/-- the text of one element has one of the element's shapes -/
theorem renderStd_shape (s : Std) (i : XInst) (hi : ValidX i) (t : Bytes) (ht : renderStd s i = some t) :
    ∃ sh ∈ symStd s, hasShape t sh := by
  have one {sh : List BSet} (h : hasShape t sh) : ∃ sh' ∈ [sh], hasShape t sh' := ⟨sh, .head _, h⟩
  cases s <;> try cases ht
  case year | zeroDay | hour | zeroHour12 | zeroMinute | zeroSecond => exact one (shape_pad2 _)
  case longYear =>
    have h1 : 1000 ≤ i.year := hi.1
    have h2 : i.year ≤ 2999 := hi.2.1
    exact one ⟨inCls_dig (lo := 1) (hi := 2) rfl rfl (by omega) (by omega), shape_dig _, shape_dig _, shape_dig _, trivial⟩
  case zeroMonth =>
    have h12 : i.month ≤ 12 := hi.2.2.2.1
    exact one ⟨inCls_dig (lo := 0) (hi := 1) rfl rfl (by omega) (by omega), shape_dig _, trivial⟩
  case month => exact shape_name (shs := [_]) names_shapes.1 ht
  case weekDay => exact shape_name (shs := [_]) names_shapes.2.1 ht
  case longMonth => exact shape_name names_shapes.2.2.1 ht
  case longWeekDay => exact shape_name names_shapes.2.2.2 ht
  case numMonth => exact shape_num12_le12 hi.2.2.2.1
  case hour12 => exact shape_num12_le12 (hour12Of_le i.hour).2
  case day => exact shape_num12_tens (hi := 3) rfl (by have := day_le_31 hi; omega) (by omega)
  case minute | second => exact shape_num12 _
  case underDay =>
    have hd := day_le_31 hi
    split
    · exact ⟨_, .head _, inCls_bS_self _, shape_dig _, trivial⟩
    · exact ⟨_, .tail _ (.head _), inCls_dig (lo := 1) (hi := 3) rfl rfl (by omega) (by omega),
        shape_dig _, trivial⟩
  case pm | pmLower =>
    split
    · exact ⟨_, .tail _ (.head _), inCls_bS_self _, inCls_bS_self _, trivial⟩
    · exact ⟨_, .head _, inCls_bS_self _, inCls_bS_self _, trivial⟩
  case numTZ =>
    split
    · exact ⟨_, .tail _ (.head _), inCls_bS_self _, shape_dig _, shape_dig _, shape_dig _, shape_dig _, trivial⟩
    · exact ⟨_, .head _, inCls_bS_self _, shape_dig _, shape_dig _, shape_dig _, shape_dig _, trivial⟩
  case numColonTZ =>
    split
    · exact ⟨_, .tail _ (.head _), inCls_bS_self _, shape_dig _, shape_dig _, inCls_bS_self _, shape_dig _, shape_dig _, trivial⟩
    · exact ⟨_, .head _, inCls_bS_self _, shape_dig _, shape_dig _, inCls_bS_self _, shape_dig _, shape_dig _, trivial⟩
  case tz =>
    obtain ⟨a, b, c, hz, ha, hb, hc⟩ := hi.2.2.2.2.2.2.2.2.2.2.2.2.2.2.2
    rw [hz]
    exact ⟨_, .head _, (inCls_uS a).trans ha, (inCls_uS b).trans hb, (inCls_uS c).trans hc, trivial⟩
  case frac9 n =>
    have h3 : 3 ≤ i.fracDigits := hi.2.2.2.2.2.2.2.2.2.2.1
    have h9 : i.fracDigits ≤ 9 := hi.2.2.2.2.2.2.2.2.2.2.2.1
    refine ⟨bS 46 :: List.replicate i.fracDigits dS, ?_, inCls_bS_self _, shape_padN _ _⟩
    simp only [symStd, List.mem_map, List.mem_range]
    exact ⟨i.fracDigits - 3, by omega, by congr 2; omega⟩

theorem renderItems_cons_some {pre : Bytes} {s : Std} {rest : List (Bytes × Std)} {i : XInst} {t : Bytes}
    (h : renderItems ((pre, s) :: rest) i = some t) :
    ∃ a b, renderStd s i = some a ∧ renderItems rest i = some b ∧ t = pre ++ a ++ b := by
  simp only [renderItems] at h
  split at h <;> cases h
  exact ⟨_, _, ‹_›, ‹_›, rfl⟩

theorem renderItems_shape (i : XInst) (hi : ValidX i) : ∀ (items : List (Bytes × Std)) (t : Bytes), renderItems items i = some t →
    ∃ sh ∈ symItems items, hasShape t sh
  | [], t, ht => by simp [renderItems] at ht; subst ht; exact ⟨[], by simp [symItems], trivial⟩
  | (pre, s) :: rest, t, ht => by
    obtain ⟨a, b, ha, hb, rfl⟩ := renderItems_cons_some ht
    obtain ⟨sa, hsa, h1⟩ := renderStd_shape s i hi a ha
    obtain ⟨sb, hsb, h2⟩ := renderItems_shape i hi rest b hb
    refine ⟨pre.map bS ++ sa ++ sb, ?_, hasShape_append _ _ (hasShape_append _ _ (hasShape_lit pre) h1) h2⟩
    simp only [symItems, List.mem_flatMap, List.mem_map]
    exact ⟨sa, hsa, sb, hsb, rfl⟩

/-- **the text of every valid instant in a layout has one of the layout's shapes** -/
theorem renderLayout_shape (L : Layout) (i : XInst) (hi : ValidX i) (t : Bytes) (ht : renderLayout L i = some t) :
    ∃ sh ∈ symLayout L, hasShape t sh := by
  simp only [renderLayout, Option.map_eq_some_iff] at ht
  obtain ⟨b, hb, rfl⟩ := ht
  obtain ⟨sb, hsb, h⟩ := renderItems_shape i hi L.items b hb
  refine ⟨sb ++ L.tail.map bS, ?_, hasShape_append _ _ h (hasShape_lit _)⟩
  simp only [symLayout, List.mem_map]
  exact ⟨sb, hsb, rfl⟩

end Logrange.Date

import Logrange.Model.RestartModel
/-! Lemmas for C07 (`Logrange/Props/C07.lean`). -/
namespace Logrange.Persist
open Logrange.Generated.C07

@[simp] theorem Files.set_same (f : Files) (p : Path) (v : Option Bytes) : (f.set p v) p = v := by
  simp [Files.set]

theorem Files.set_other (f : Files) (p q : Path) (v : Option Bytes) (h : q ≠ p) : (f.set p v) q = f q := by
  simp [Files.set, h]

theorem runSteps_nil (f : Files) : runSteps f [] = f := rfl
theorem runSteps_cons (f : Files) (s : Step) (r : List Step) : runSteps f (s :: r) = runSteps (applyStep f s) r := rfl
theorem runSteps_append (f : Files) (a b : List Step) : runSteps f (a ++ b) = runSteps (runSteps f a) b := by
  simp [runSteps, List.foldl_append]

/-- `ioutil.WriteFile` replaces the content -/
theorem runSteps_writeFile (f : Files) (p : Path) (d : Bytes) : runSteps f (writeFile p d) = f.set p (some d) := by
  funext q
  simp only [writeFile, runSteps, List.foldl, applyStep]
  by_cases h : q = p
  · subst h; simp [Files.set]
  · simp [Files.set, h]

theorem writeFile_at (f : Files) (p q : Path) (d : Bytes) :
    runSteps f (writeFile p d) q = if q = p then some d else f q := by
  rw [runSteps_writeFile]; simp [Files.set]

/-- a step only changes the paths it names -/
def Step.touches : Step → Path → Prop
  | .rename a b, q => q = a ∨ q = b
  | .truncate p, q => q = p
  | .append p _, q => q = p
  | .remove p, q => q = p
  | .link _ b, q => q = b

theorem applyStep_frame (f : Files) (s : Step) (q : Path) (h : ¬ s.touches q) : applyStep f s q = f q := by
  cases s with
  | rename a b =>
    simp only [Step.touches, not_or] at h
    simp only [applyStep]
    cases f a with
    | none => rfl
    | some v => simp [Files.set, h.1, h.2]
  | truncate p => simp only [Step.touches] at h; simp [applyStep, Files.set, h]
  | append p bs => simp only [Step.touches] at h; simp [applyStep, Files.set, h]
  | remove p => simp only [Step.touches] at h; simp [applyStep, Files.set, h]
  | link a b =>
    simp only [Step.touches] at h
    simp only [applyStep]
    cases f a <;> cases f b <;> simp [Files.set, h]

theorem runSteps_frame (steps : List Step) (f : Files) (q : Path) (h : ∀ s ∈ steps, ¬ s.touches q) :
    runSteps f steps q = f q := by
  induction steps generalizing f with
  | nil => rfl
  | cons s r ih =>
    rw [runSteps_cons, ih _ (fun s' hs' => h s' (List.mem_cons_of_mem _ hs'))]
    exact applyStep_frame f s q (h s (List.mem_cons_self ..))

theorem writeFile_touch (p q : Path) (d : Bytes) (h : q ≠ p) : ∀ st ∈ writeFile p d, ¬ st.touches q := by
  intro st hst
  simp only [writeFile, List.mem_cons, List.mem_nil_iff, or_false] at hst
  rcases hst with e | e <;> subst e <;> exact h

/-- the tag-index save touches only the three files of the tindex directory, whatever the generated call list is -/
def tindexPath : Path → Prop
  | .tindexDat => True
  | .tindexBak => True
  | .tindexTmp => True
  | _ => False

theorem tindexCallSteps_touch (ex : Bool) (data : Bytes) (c : FsCall) (q : Path) (hq : ¬ tindexPath q) :
    ∀ s ∈ tindexCallSteps ex data c, ¬ s.touches q := by
  intro s hs
  have h1 : q ≠ .tindexDat := by intro h; subst h; simp [tindexPath] at hq
  have h2 : q ≠ .tindexBak := by intro h; subst h; simp [tindexPath] at hq
  have h3 : q ≠ .tindexTmp := by intro h; subst h; simp [tindexPath] at hq
  cases c <;> cases ex <;> simp only [tindexCallSteps, writeFile, if_true, if_false, Bool.false_eq_true,
      List.mem_cons, List.mem_nil_iff, List.not_mem_nil, or_false] at hs <;>
    first
      | exact hs.elim
      | (rcases hs with hs | hs <;> subst hs <;> simp [Step.touches, h1, h2, h3])
      | (subst hs; simp [Step.touches, h1, h2, h3])

theorem tindexSave_frame (calls : List FsCall) (ex : Bool) (data : Bytes) (f : Files) (q : Path) (hq : ¬ tindexPath q) :
    runSteps f (tindexSaveStepsOf calls ex data) q = f q := by
  apply runSteps_frame
  intro s hs
  simp only [tindexSaveStepsOf, List.mem_flatMap] at hs
  obtain ⟨c, _, hc⟩ := hs
  exact tindexCallSteps_touch ex data c q hq s hc

theorem map_cfg_poss (l : List PPipe) (g : Bytes → PosMap) (h : ∀ p ∈ l, g p.cfg.name = p.poss) :
    (l.map (·.cfg)).map (fun p => (⟨p, g p.name⟩ : PPipe)) = l := by
  induction l with
  | nil => rfl
  | cons a r ih =>
    simp only [List.map_cons, List.cons.injEq]
    refine ⟨?_, ih (fun p hp => h p (List.mem_cons_of_mem _ hp))⟩
    have := h a (List.mem_cons_self ..)
    cases a; simp_all

/-! ## the registry file -/

theorem pipesDat_ne_tmp : pipesDat ≠ pipesTmp := by decide

theorem savePipesSteps_eq (c : Codec (List Pipe)) (ps : List Pipe) :
    savePipesSteps c ps = [.truncate pipesTmp, .append pipesTmp (c.enc ps), .rename pipesTmp pipesDat] := by
  have : savePipesViaTmpRename = true := by decide
  simp [savePipesSteps, this, writeFile]

/-- the registry file after a completed `savePipes` -/
theorem savePipes_at (c : Codec (List Pipe)) (ps : List Pipe) (f : Files) (q : Path) :
    runSteps f (savePipesSteps c ps) q = if q = pipesDat then some (c.enc ps) else if q = pipesTmp then none else f q := by
  rw [savePipesSteps_eq]
  have hne := pipesDat_ne_tmp
  by_cases h1 : q = pipesDat
  · subst h1; simp [runSteps, applyStep, Files.set, hne]
  · by_cases h2 : q = pipesTmp
    · subst h2; simp [runSteps, applyStep, Files.set, h1]
    · simp [runSteps, applyStep, Files.set, h1, h2]

/-! ## lightFill hulls of monotone chunks -/

theorem head_le_of_pairwise : ∀ (l : List Int) (a : Int), l.Pairwise (· ≤ ·) → l.head? = some a → ∀ t ∈ l, a ≤ t
  | [], _, _, h, _, _ => by simp at h
  | x :: r, a, hp, h, t, ht => by
    simp at h; subst h
    rcases List.mem_cons.mp ht with e | e
    · subst e; exact Int.le_refl _
    · exact (List.pairwise_cons.mp hp).1 t e

theorem le_last_of_pairwise : ∀ (l : List Int) (b : Int), l.Pairwise (· ≤ ·) → l.getLast? = some b → ∀ t ∈ l, t ≤ b
  | [], _, _, h, _, _ => by simp at h
  | [x], b, _, h, t, ht => by simp at h ht; subst h; subst ht; exact Int.le_refl _
  | x :: y :: r, b, hp, h, t, ht => by
    have h' : (y :: r).getLast? = some b := by simpa [List.getLast?_cons_cons] using h
    have hp' := (List.pairwise_cons.mp hp)
    rcases List.mem_cons.mp ht with e | e
    · subst e
      have hy : y ≤ b := le_last_of_pairwise (y :: r) b hp'.2 h' y (List.mem_cons_self ..)
      exact Int.le_trans (hp'.1 y (List.mem_cons_self ..)) hy
    · exact le_last_of_pairwise (y :: r) b hp'.2 h' t e

/-! ## chunks of a journal -/

theorem mem_appendToChunk (cks : List Chunk) (cid : Nat) (tss : List Int) (t : Int)
    (h : (∃ c ∈ cks, t ∈ c.recs) ∨ t ∈ tss) : ∃ c ∈ appendToChunk cks cid tss, t ∈ c.recs := by
  unfold appendToChunk
  by_cases hany : cks.any (fun c => c.id == cid) = true
  · rw [if_pos hany]
    rcases h with ⟨c, hc, ht⟩ | ht
    · by_cases hid : (c.id == cid) = true
      · exact ⟨{ c with recs := c.recs ++ tss }, List.mem_map.mpr ⟨c, hc, by simp [hid]⟩, by simp [ht]⟩
      · exact ⟨c, List.mem_map.mpr ⟨c, hc, by simp [hid]⟩, ht⟩
    · obtain ⟨c, hc, hcid⟩ := List.any_eq_true.mp hany
      exact ⟨{ c with recs := c.recs ++ tss }, List.mem_map.mpr ⟨c, hc, by simp [hcid]⟩, by simp [ht]⟩
  · rw [if_neg hany]
    rcases h with ⟨c, hc, ht⟩ | ht
    · exact ⟨c, List.mem_append_left _ hc, ht⟩
    · exact ⟨⟨cid, tss⟩, by simp, ht⟩

/-! ## RANGE answers at hull granularity -/

theorem rangeVisible_cons (h : ChkInfo) (ck : Chunk) (hs : List ChkInfo) (cks : List Chunk) (lo hi : Int)
    (hsound : ∀ t ∈ ck.recs, h.minTs ≤ t ∧ t ≤ h.maxTs) :
    rangeVisible (h :: hs) (ck :: cks) lo hi = ck.recs.filter (inRange lo hi) ++ rangeVisible hs cks lo hi := by
  rw [rangeVisible]
  congr 1
  split
  · rfl
  · next hc =>
    -- the hull misses the range, so no record is in it
    have hh : h.minTs ≤ hi → h.maxTs < lo := by
      have := hc; simp only [hullHits, Bool.or_eq_true, not_or] at this; simpa using this.2
    symm
    apply List.filter_eq_nil_iff.mpr
    intro t ht
    have := hsound t ht
    simp only [inRange, Bool.and_eq_true, decide_eq_true_eq]
    omega

theorem rangeVisible_map_sound (g : Chunk → ChkInfo) (lo hi : Int) : ∀ (cks : List Chunk),
    (∀ ck ∈ cks, ∀ t ∈ ck.recs, (g ck).minTs ≤ t ∧ t ≤ (g ck).maxTs) → rangeVisible (cks.map g) cks lo hi = rangeSpec cks lo hi
  | [], _ => rfl
  | ck :: cks, h => by
    rw [List.map_cons, rangeVisible_cons _ _ _ _ _ _ (h ck (List.mem_cons_self ..)),
      rangeVisible_map_sound g lo hi cks fun c hc => h c (List.mem_cons_of_mem _ hc)]
    rfl

end Logrange.Persist

import Logrange.Proofs.Tags
/-!
# Every name (and every raw piece) `tag.Parse` produces is readable again

`split_pieces_inert`: every piece of a successful `SplitString` is inert (`scan p false = some false`).
`inert_trimSpaces`: `TrimSpaces` preserves inertness. `parsed_names_readable`: the names of a parsed set are
non-empty, trimmed and inert, so the only `safeKey` defect reachable through `tag.Parse` is a leading `{`
(`parsed_names_safeKey`).
-/
namespace Logrange.Proofs.ParsedKeys
open Go Logrange.Quote Logrange.KV Logrange.Tags Logrange.Proofs.KV Logrange.Proofs.Tags

/-! ## 1. the pieces of a successful split are inert -/

theorem scan_cons (c : UInt8) (rest : Bytes) (b : Bool) :
    scan (c :: rest) b =
      if c == DQ then scan rest (!b)
      else if c == BS && b then
        match rest with
        | [] => none
        | _ :: rest' => scan rest' b
      else if (c == EQ || c == CM) && !b then none
      else scan rest b := by
  rw [scan.eq_def]; rfl

/-- invariant of `splitGo`: the current piece, scanned from outside a string, agrees with the in-string flag, and
every closed piece is inert -/
theorem splitGo_pieces_inert (rest : Bytes) (s : SS) :
    scan s.cur.reverse false = some s.inStr → (∀ p ∈ s.out, scan p false = some false) →
    ∀ ps, splitGo rest s = some ps → ∀ p ∈ ps, scan p false = some false := by
  fun_induction splitGo rest s with
  | case1 s hi => intro _ _ ps h; cases h
  | case2 s hi =>
    intro hc ho ps h
    cases h
    intro p hp
    rcases List.mem_cons.mp (List.mem_reverse.mp hp) with rfl | hp
    · rw [hc, Bool.eq_false_iff.mpr hi]
    · exact ho p hp
  | case3 c rest s hq ih =>
    intro hc ho ps h
    refine ih ?_ ho ps h
    rw [List.reverse_cons, scan_append _ _ _ _ hc, scan_cons, if_pos hq]; rfl
  | case4 c s hq hb => intro _ _ ps h; cases h
  | case5 c s hq hb d rest ih =>
    intro hc ho ps h
    refine ih ?_ ho ps h
    rw [List.reverse_cons, List.reverse_cons, List.append_assoc, scan_append _ _ _ _ hc]
    show scan (c :: [d]) s.inStr = _
    rw [scan_cons, if_neg hq, if_pos hb]; rfl
  | case6 c rest s hq hb hs hx => intro _ _ ps h; cases h
  | case7 c rest s hq hb hs hx ih =>
    intro hc ho ps h
    have hi : s.inStr = false := by
      rw [Bool.and_eq_true, Bool.not_eq_true'] at hs; exact hs.2
    refine ih (by rw [hi]; rfl) ?_ ps h
    intro p hp
    rcases List.mem_cons.mp hp with rfl | hp
    · rw [hc, hi]
    · exact ho p hp
  | case8 c rest s hq hb hs ih =>
    intro hc ho ps h
    refine ih ?_ ho ps h
    rw [List.reverse_cons, scan_append _ _ _ _ hc, scan_cons, if_neg hq, if_neg hb, if_neg hs]; rfl

/-- **Every piece a successful split returns is inert** -/
theorem split_pieces_inert (s : Bytes) (ps : List Bytes) (h : splitString s = some ps) :
    ∀ p ∈ ps, scan p false = some false :=
  splitGo_pieces_inert s {} rfl (fun _ hp => nomatch hp) ps h

/-! ## 2. `TrimSpaces` preserves inertness -/

theorem scan_SP_cons (r : Bytes) (b : Bool) : scan (SP :: r) b = scan r b := by
  rw [scan_cons]; cases b <;> rfl

theorem scan_dropWhile_SP (p : Bytes) (b : Bool) : scan (p.dropWhile (· == SP)) b = scan p b := by
  induction p with
  | nil => rfl
  | cons c r ih =>
    by_cases hc : c = SP
    · subst hc
      rw [scan_SP_cons]
      simpa using ih
    · simp [hc]

/-- a blank at the end of a piece that ends outside a string was scanned outside a string (it is not the byte
skipped by a backslash: after that byte the flag is still `true`) -/
theorem scan_snoc_SP (p : Bytes) (b : Bool) : scan (p ++ [SP]) b = some false → scan p b = some false := by
  fun_induction scan p b with
  | case1 b => rw [List.nil_append, scan_SP_cons]; exact id
  | case2 c rest b hq ih => rw [List.cons_append, scan_cons, if_pos hq]; exact ih
  | case3 c b hq hb =>
    intro h
    rw [List.cons_append, scan_cons, if_neg hq, if_pos hb] at h
    rw [Bool.and_eq_true] at hb
    rw [hb.2] at h
    cases h
  | case4 c b hq hb d rest ih => rw [List.cons_append, List.cons_append, scan_cons, if_neg hq, if_pos hb]; exact ih
  | case5 c rest b hq hb hs => intro h; rw [List.cons_append, scan_cons, if_neg hq, if_neg hb, if_pos hs] at h; cases h
  | case6 c rest b hq hb hs ih => rw [List.cons_append, scan_cons, if_neg hq, if_neg hb, if_neg hs]; exact ih

theorem scan_reverse_dropWhile_SP (q : Bytes) (h : scan q.reverse false = some false) :
    scan (q.dropWhile (· == SP)).reverse false = some false := by
  induction q with
  | nil => exact h
  | cons c r ih =>
    by_cases hc : c = SP
    · subst hc
      rw [List.reverse_cons] at h
      simpa using ih (scan_snoc_SP r.reverse false h)
    · simpa [hc] using h

/-- **Trimming blanks preserves inertness** -/
theorem inert_trimSpaces (p : Bytes) (h : scan p false = some false) :
    scan (trimSpaces p) false = some false := by
  unfold trimSpaces
  apply scan_reverse_dropWhile_SP
  rw [List.reverse_reverse, scan_dropWhile_SP]
  exact h

/-! ## 3. the names of a parsed set -/

theorem head?_dropWhile_SP (l : Bytes) : (l.dropWhile (· == SP)).head? ≠ some SP := by
  induction l with
  | nil => simp
  | cons c r ih =>
    by_cases hc : c = SP
    · subst hc; simpa using ih
    · simp [hc]

theorem getLast?_dropWhile_SP (l : Bytes) (x : UInt8) (h : (l.dropWhile (· == SP)).getLast? = some x) :
    l.getLast? = some x := by
  obtain ⟨t, ht⟩ := List.dropWhile_suffix (l := l) (· == SP)
  rw [← ht, List.getLast?_append, h]
  rfl

theorem trimmed_trimSpaces (p : Bytes) : trimmed (trimSpaces p) = true := by
  unfold trimmed trimSpaces
  simp only [Bool.and_eq_true, bne_iff_ne, ne_eq]
  refine ⟨?_, ?_⟩
  · rw [List.head?_reverse]
    intro h
    have := getLast?_dropWhile_SP _ _ h
    rw [List.getLast?_reverse] at this
    exact head?_dropWhile_SP p this
  · rw [List.getLast?_reverse]
    exact head?_dropWhile_SP _

/-- what `ToMap`'s loop makes of inert pieces: every name is non-empty, trimmed and inert -/
theorem toPairs_names (parts : List Bytes) : ∀ ps, toPairs parts = some ps →
    (∀ p ∈ parts, scan p false = some false) →
    ∀ q ∈ ps, q.1 ≠ [] ∧ trimmed q.1 = true ∧ inert q.1 = true := by
  fun_induction toPairs parts with
  | case1 => intro ps h; cases h; exact fun _ _ hq => nomatch hq
  | case6 k v rest _ _ hk _ _ r hr ih =>
    intro ps h hin
    cases h
    intro q hq
    rcases List.mem_cons.mp hq with rfl | hq
    · refine ⟨fun e => hk (List.isEmpty_iff.mpr e), trimmed_trimSpaces k, ?_⟩
      unfold inert
      rw [inert_trimSpaces k (hin k List.mem_cons_self)]
      rfl
    · exact ih r hr (fun p hp => hin p (List.mem_cons_of_mem _ (List.mem_cons_of_mem _ hp))) q hq
  | case2 | case3 | case4 | case5 => intro ps h; cases h

theorem foldl_insert_mem (P : Bytes × Bytes → Prop) (ps : List (Bytes × Bytes)) : ∀ (acc : Map),
    (∀ q ∈ acc, P q) → (∀ q ∈ ps, P q) →
    ∀ q ∈ ps.foldl (fun m p => Map.insert p.1 p.2 m) acc, P q := by
  induction ps with
  | nil => intro acc ha _ q hq; exact ha q hq
  | cons p ps ih =>
    intro acc ha hp
    simp only [List.foldl_cons]
    refine ih _ ?_ (fun q hq => hp q (List.mem_cons_of_mem _ hq))
    intro q hq
    rcases mem_insert p.1 p.2 acc q hq with hq | hq
    · rw [hq]; exact hp p List.mem_cons_self
    · exact ha q hq

/-- every entry of `Map.ofPairs ps` is an element of `ps` -/
theorem mem_ofPairs (ps : List (Bytes × Bytes)) (q : Bytes × Bytes) (h : q ∈ Map.ofPairs ps) : q ∈ ps :=
  foldl_insert_mem (· ∈ ps) ps [] (by intro q hq; cases hq) (fun _ hq => hq) q h

theorem toMap_names_readable (t : Bytes) (m : Map) (h : toMap t = some m) :
    ∀ p ∈ m, p.1 ≠ [] ∧ trimmed p.1 = true ∧ inert p.1 = true := by
  obtain ⟨fine, _, ⟨_, rfl⟩ | ⟨_, parts, ps, hsplit, hpairs, rfl⟩⟩ := toMap_some t m h
  · exact fun _ hp => nomatch hp
  · exact fun p hp => toPairs_names parts ps hpairs (split_pieces_inert _ parts hsplit) p (mem_ofPairs ps p hp)

/-- **The names of a parsed set are non-empty, trimmed and inert** -/
theorem parsed_names_readable (t : Bytes) (m : Map) (h : parse t = some m) :
    ∀ p ∈ m, p.1 ≠ [] ∧ trimmed p.1 = true ∧ inert p.1 = true := by
  unfold parse at h
  split at h
  · cases h; intro p hp; cases hp
  · exact toMap_names_readable t m h

/-- **The only name defect reachable through `tag.Parse` is a leading `{`** -/
theorem parsed_names_safeKey (t : Bytes) (m : Map) (h : parse t = some m) :
    ∀ p ∈ m, safeKey p.1 = true ∨ p.1.head? = some LB := by
  intro p hp
  obtain ⟨h1, h2, h3⟩ := parsed_names_readable t m h p hp
  by_cases hl : p.1.head? = some LB
  · exact Or.inr hl
  · left
    unfold safeKey
    have h0 : p.1.isEmpty = false := by
      cases hk : p.1 with
      | nil => exact absurd hk h1
      | cons _ _ => rfl
    simp [h0, h2, h3, hl]

end Logrange.Proofs.ParsedKeys

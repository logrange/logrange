import Logrange.Model.RingPtr
import Logrange.Model.Ring
import Logrange.Props.C15Ring
/-!
# The pointer-level `CLElement` model refines the list-level ring model

`Logrange.RingPtr` (Model/RingPtr.lean) executes the field reads/writes of pkg/container/clist.go on a heap;
`Logrange.Ring` (Model/Ring.lean) describes a ring as the list of its elements, head first in `next` order.

Abstraction relation. `Seg h a l b` ("segment"): walking from `a` over the cells of `l` to `b`, every
step `u → v` is linked in **both** directions, `h.next u = v ∧ h.prev v = u`.
`Repr h (x :: xs) := (x :: xs).Nodup ∧ Seg h x xs x`: the list has no duplicates and the walk
`x → xs[0] → … → xs.last → x` closes the cycle — i.e. for `r = [x0,…,x(n-1)]`, `h.next x_i = x_((i+1) mod n)` and
`h.prev x_((i+1) mod n) = x_i`: the `next` chain and the `prev` chain describe the same cycle.
`Repr h [] := True` (the nil pointer represents the empty ring in every heap). `ptr r := r.head?`.

Proved (all for arbitrary heaps, no fuel/size bound):
`repr_new`, `newElem_frame`, `append_refines` (all `r1 r2`: empty, singleton, long), `append_frame`,
`tearOff_refines`, `tearOff_frame`, `tearOff_nil`, `prev_refines`, `next_refines`, `len_refines`, and for the
provider's two-ring state machine `sim_step`, `sim_run`, `sim_run_init`, `sim_prev`, `sim_len`.
-/
namespace Logrange.RingPtr

/-! ## read after write -/

@[simp] theorem setNext_next (h : Heap) (x v y : Nat) :
    (setNext h x v).next y = if y = x then v else h.next y := rfl
@[simp] theorem setNext_prev (h : Heap) (x v y : Nat) : (setNext h x v).prev y = h.prev y := rfl
@[simp] theorem setPrev_prev (h : Heap) (x v y : Nat) :
    (setPrev h x v).prev y = if y = x then v else h.prev y := rfl
@[simp] theorem setPrev_next (h : Heap) (x v y : Nat) : (setPrev h x v).next y = h.next y := rfl

theorem newElem_next (h : Heap) (e y : Nat) :
    (newElem h e).next y = if y = e then e else h.next y := rfl
theorem newElem_prev (h : Heap) (e y : Nat) :
    (newElem h e).prev y = if y = e then e else h.prev y := rfl

/-- the net effect of the four writes of `Append` on the `next` fields -/
theorem append_next (h : Heap) (a c y : Nat) :
    (append h (some a) (some c)).1.next y =
      if y = h.prev c then h.next a else if y = a then c else h.next y := rfl
/-- … and on the `prev` fields -/
theorem append_prev (h : Heap) (a c y : Nat) :
    (append h (some a) (some c)).1.prev y =
      if y = c then a else if y = h.next a then h.prev c else h.prev y := rfl

theorem unlink_next (h : Heap) (e y : Nat) :
    (unlink h e).next y = if y = e then e else if y = h.prev e then h.next e else h.next y := rfl
theorem unlink_prev (h : Heap) (e y : Nat) :
    (unlink h e).prev y = if y = e then e else if y = h.next e then h.prev e else h.prev y := by
  simp [unlink]

/-! ## the abstraction relation -/

/-- `a → l[0] → … → l.last → b`, every step linked in both directions -/
def Seg (h : Heap) : Nat → List Nat → Nat → Prop
  | a, [], b => h.next a = b ∧ h.prev b = a
  | a, x :: xs, b => h.next a = x ∧ h.prev x = a ∧ Seg h x xs b

/-- heap `h` holds the ring `r` (head first, `next` order) -/
def Repr (h : Heap) : List Nat → Prop
  | [] => True
  | x :: xs => (x :: xs).Nodup ∧ Seg h x xs x

/-- the pointer that stands for the ring `r` -/
def ptr (r : List Nat) : Ptr := r.head?

@[simp] theorem ptr_nil : ptr [] = none := rfl
@[simp] theorem ptr_cons (x : Nat) (xs : List Nat) : ptr (x :: xs) = some x := rfl

instance segDec (h : Heap) : ∀ (l : List Nat) (a b : Nat), Decidable (Seg h a l b)
  | [], a, b => inferInstanceAs (Decidable (h.next a = b ∧ h.prev b = a))
  | x :: xs, a, b =>
    have := segDec h xs x b
    inferInstanceAs (Decidable (h.next a = x ∧ h.prev x = a ∧ Seg h x xs b))

instance reprDec (h : Heap) : ∀ r : List Nat, Decidable (Repr h r)
  | [] => inferInstanceAs (Decidable True)
  | x :: xs => inferInstanceAs (Decidable ((x :: xs).Nodup ∧ Seg h x xs x))

theorem seg_nil {h : Heap} {a b : Nat} : Seg h a [] b ↔ (h.next a = b ∧ h.prev b = a) := Iff.rfl
theorem seg_cons {h : Heap} {a x b : Nat} {xs : List Nat} :
    Seg h a (x :: xs) b ↔ (h.next a = x ∧ h.prev x = a ∧ Seg h x xs b) := Iff.rfl
@[simp] theorem repr_nil (h : Heap) : Repr h [] := trivial
theorem repr_cons {h : Heap} {x : Nat} {xs : List Nat} :
    Repr h (x :: xs) ↔ ((x :: xs).Nodup ∧ Seg h x xs x) := Iff.rfl

theorem seg_append {h : Heap} : ∀ (l1 : List Nat) (a m : Nat) (l2 : List Nat) (b : Nat),
    Seg h a (l1 ++ m :: l2) b ↔ (Seg h a l1 m ∧ Seg h m l2 b)
  | [], a, m, l2, b => by simp only [List.nil_append, seg_cons, seg_nil, and_assoc]
  | x :: xs, a, m, l2, b => by
    simp only [List.cons_append, seg_cons, seg_append xs, and_assoc]

/-! `Seg` stated for a plain list (`Chain`): a ring can be cut at any cell, and a list taken apart at its last cell as
well as at its first — which is where `Append` and `TearOff` write (`chain.prev`, `cle.next`). -/

def Link (h : Heap) (u v : Nat) : Prop := h.next u = v ∧ h.prev v = u

def Chain (h : Heap) : List Nat → Prop
  | x :: y :: l => Link h x y ∧ Chain h (y :: l)
  | _ => True

theorem chain_cons_cons {h : Heap} {x y : Nat} {l : List Nat} :
    Chain h (x :: y :: l) ↔ (Link h x y ∧ Chain h (y :: l)) := Iff.rfl

theorem seg_iff_chain {h : Heap} : ∀ {l : List Nat} {a b : Nat}, Seg h a l b ↔ Chain h (a :: (l ++ [b]))
  | [], _, _ => ⟨fun hs => ⟨hs, trivial⟩, And.left⟩
  | _ :: xs, _, _ => by rw [seg_cons, seg_iff_chain (l := xs), ← and_assoc]; rfl

theorem chain_append {h : Heap} : ∀ (l1 : List Nat) (m : Nat) (l2 : List Nat),
    Chain h (l1 ++ m :: l2) ↔ (Chain h (l1 ++ [m]) ∧ Chain h (m :: l2))
  | [], _, _ => ⟨fun hc => ⟨trivial, hc⟩, And.right⟩
  | [_], _, _ => by simp only [List.cons_append, List.nil_append, chain_cons_cons, Chain, and_true]
  | x :: y :: l1, m, l2 => by
    simp only [List.cons_append, chain_cons_cons, and_assoc]
    rw [← List.cons_append, chain_append (y :: l1) m l2]; rfl

theorem chain_frame {h h' : Heap} : ∀ {l : List Nat}, Chain h l →
    (∀ y, y ∈ l.dropLast → h'.next y = h.next y) → (∀ z, z ∈ l.tail → h'.prev z = h.prev z) → Chain h' l
  | [], _, _, _ => trivial
  | [_], _, _, _ => trivial
  | x :: y :: l, hc, hn, hp => by
    refine ⟨⟨?_, ?_⟩, chain_frame hc.2 (fun z hz => hn z ?_) (fun z hz => hp z (List.mem_cons_of_mem _ hz))⟩
    · rw [hn x (by rw [List.dropLast_cons_cons]; exact List.mem_cons_self ..)]; exact hc.1.1
    · rw [hp y (List.mem_cons_self ..)]; exact hc.1.2
    · rw [List.dropLast_cons_cons]; exact List.mem_cons_of_mem _ hz

theorem exists_snoc (x : Nat) (l : List Nat) : ∃ init p, x :: l = init ++ [p] :=
  (Props.C15Ring.snoc_cases (x :: l)).resolve_left (List.cons_ne_nil _ _)

theorem not_mem_init {init : List Nat} {p : Nat} (hn : (init ++ [p]).Nodup) : p ∉ init :=
  fun hm => (List.nodup_append.1 hn).2.2 p hm p (List.mem_singleton_self p) rfl

theorem seg_next_mem {h : Heap} : ∀ {l : List Nat} {a b x : Nat}, Seg h a l b → x ∈ a :: l →
    h.next x ∈ l ++ [b]
  | [], a, b, x, hs, hx => by
    rw [seg_nil] at hs
    have : x = a := by simpa using hx
    subst this; simp [hs.1]
  | y :: ys, a, b, x, hs, hx => by
    rw [seg_cons] at hs
    rcases List.mem_cons.1 hx with e | hx'
    · subst e; simp [hs.1]
    · exact List.mem_cons_of_mem _ (seg_next_mem hs.2.2 hx')

theorem seg_prev_mem {h : Heap} : ∀ {l : List Nat} {a b x : Nat}, Seg h a l b → x ∈ l ++ [b] →
    h.prev x ∈ a :: l
  | [], a, b, x, hs, hx => by
    rw [seg_nil] at hs
    have : x = b := by simpa using hx
    subst this; simp [hs.2]
  | y :: ys, a, b, x, hs, hx => by
    rw [seg_cons] at hs
    rcases List.mem_cons.1 hx with e | hx'
    · subst e; simp [hs.2.1]
    · exact List.mem_cons_of_mem _ (seg_prev_mem hs.2.2 hx')

theorem mem_snoc_iff {x a : Nat} {l : List Nat} : x ∈ l ++ [a] ↔ x ∈ a :: l := by
  simp [or_comm]

theorem repr_nodup {h : Heap} : ∀ {r : List Nat}, Repr h r → r.Nodup
  | [], _ => List.nodup_nil
  | _ :: _, hr => hr.1

theorem repr_next_mem {h : Heap} {r : List Nat} {x : Nat} (hr : Repr h r) (hx : x ∈ r) :
    h.next x ∈ r := by
  cases r with
  | nil => cases hx
  | cons a t =>
    exact mem_snoc_iff.1 (seg_next_mem hr.2 hx)

theorem repr_prev_mem {h : Heap} {r : List Nat} {x : Nat} (hr : Repr h r) (hx : x ∈ r) :
    h.prev x ∈ r := by
  cases r with
  | nil => cases hx
  | cons a t =>
    exact seg_prev_mem hr.2 (mem_snoc_iff.2 hx)

/-- a heap that agrees with `h` on the cells of `r` holds the same ring -/
theorem repr_frame {h h' : Heap} {r : List Nat} (hr : Repr h r)
    (hn : ∀ x, x ∈ r → h'.next x = h.next x) (hp : ∀ x, x ∈ r → h'.prev x = h.prev x) :
    Repr h' r := by
  cases r with
  | nil => trivial
  | cons a t =>
    refine ⟨hr.1, seg_iff_chain.2 (chain_frame (seg_iff_chain.1 hr.2) (fun y hy => hn y ?_)
      (fun z hz => hp z (mem_snoc_iff.1 hz)))⟩
    rw [← List.cons_append, List.dropLast_concat] at hy; exact hy

/-- the same ring read from its second cell -/
theorem repr_rotate {h : Heap} {a : Nat} {t : List Nat} (hr : Repr h (a :: t)) :
    Repr h (t ++ [a]) := by
  cases t with
  | nil => exact hr
  | cons n t' =>
    obtain ⟨nd, hs⟩ := hr
    rw [seg_cons] at hs
    rw [List.cons_append, repr_cons]
    exact ⟨(List.perm_append_singleton a (n :: t')).nodup_iff.2 nd, (seg_append t' n a [] n).2 ⟨hs.2.2, hs.1, hs.2.1⟩⟩

/-! ## 1. `NewCLElement` -/

theorem repr_new (h : Heap) (e : Nat) : Repr (newElem h e) [e] := by
  refine ⟨by simp, ?_⟩
  rw [seg_nil, newElem_next, newElem_prev]; simp

theorem newElem_frame (h : Heap) (e : Nat) (r : List Nat) (hr : Repr h r) (he : e ∉ r) :
    Repr (newElem h e) r := by
  refine repr_frame hr (fun x hx => ?_) (fun x hx => ?_)
  · rw [newElem_next, if_neg]; intro e'; subst e'; exact he hx
  · rw [newElem_prev, if_neg]; intro e'; subst e'; exact he hx

/-! ## 2. `Append` -/

/-- the core of `append_refines`: two non-empty disjoint rings. The first ring is cut behind its head `a` (`x` is
    `cle.next`), the second before its last cell `p` (`chain.prev`). -/
theorem append_seg (h : Heap) (a c : Nat) (t u : List Nat)
    (n1 : (a :: t).Nodup) (s1 : Seg h a t a) (n2 : (c :: u).Nodup) (s2 : Seg h c u c)
    (hd : ∀ x, x ∈ a :: t → x ∉ c :: u) :
    Seg (append h (some a) (some c)).1 a (c :: u ++ t) a := by
  obtain ⟨x, rest, hx⟩ : ∃ x rest, t ++ [a] = x :: rest := by cases t <;> exact ⟨_, _, rfl⟩
  obtain ⟨init, p, hp⟩ := exists_snoc c u
  rw [seg_iff_chain] at s1 s2 ⊢
  rw [hx] at s1
  have e2 : c :: (u ++ [c]) = init ++ p :: [c] := by rw [← List.cons_append, hp, List.append_assoc]; rfl
  rw [e2, chain_append, ← hp] at s2
  obtain ⟨⟨hax, _⟩, s1⟩ := s1
  obtain ⟨s2, ⟨_, hcp⟩, _⟩ := s2
  have hn : ∀ y, (append h (some a) (some c)).1.next y = if y = p then x else if y = a then c else h.next y :=
    fun y => by rw [append_next, hcp, hax]
  have hv : ∀ y, (append h (some a) (some c)).1.prev y = if y = c then a else if y = x then p else h.prev y :=
    fun y => by rw [append_prev, hcp, hax]
  have mt : ∀ z, z ∈ x :: rest → z ∈ a :: t := fun z hz => mem_snoc_iff.1 (hx ▸ hz)
  have mp : p ∈ c :: u := hp ▸ List.mem_append_right _ (List.mem_singleton_self p)
  have ndx : (x :: rest).Nodup := by
    rw [← hx]; exact List.nodup_append.2 ⟨(List.nodup_cons.1 n1).2, List.pairwise_singleton _ a,
      fun y hy z hz e => (List.nodup_cons.1 n1).1 (by rw [← List.mem_singleton.1 hz, ← e]; exact hy)⟩
  have ne1 : ∀ y, y ∈ a :: t → ∀ z, z ∈ c :: u → y ≠ z := fun y hy z hz e => hd y hy (e ▸ hz)
  have e : a :: (c :: u ++ t ++ [a]) = (a :: init) ++ p :: x :: rest := by
    rw [List.append_assoc, hx, hp, List.cons_append, List.append_assoc]; rfl
  rw [e, chain_append, List.cons_append, ← hp, chain_cons_cons, chain_cons_cons]
  refine ⟨⟨⟨?_, ?_⟩, chain_frame s2 (fun y hy => ?_) (fun z hz => ?_)⟩, ⟨?_, ?_⟩,
    chain_frame s1 (fun y hy => ?_) (fun z hz => ?_)⟩
  · rw [hn, if_neg (ne1 a (List.mem_cons_self ..) p mp), if_pos rfl]
  · rw [hv, if_pos rfl]
  · have hy' : y ∈ init := by rw [hp, List.dropLast_concat] at hy; exact hy
    have hyu : y ∈ c :: u := hp ▸ List.mem_append_left _ hy'
    rw [hn, if_neg (fun e : y = p => not_mem_init (hp ▸ n2) (e ▸ hy')), if_neg (fun e : y = a => ne1 a (List.mem_cons_self ..) y hyu e.symm)]
  · rw [hv, if_neg (fun e : z = c => (List.nodup_cons.1 n2).1 (e ▸ hz)),
      if_neg (fun e : z = x => ne1 x (mt x (List.mem_cons_self ..)) z (List.mem_cons_of_mem _ hz) e.symm)]
  · rw [hn, if_pos rfl]
  · rw [hv, if_neg (ne1 x (mt x (List.mem_cons_self ..)) c (List.mem_cons_self ..)), if_pos rfl]
  · have hy' : y ∈ t := by rw [← hx, List.dropLast_concat] at hy; exact hy
    rw [hn, if_neg (ne1 y (List.mem_cons_of_mem _ hy') p mp), if_neg (fun e : y = a => (List.nodup_cons.1 n1).1 (e ▸ hy'))]
  · rw [hv, if_neg (ne1 z (mt z (List.mem_cons_of_mem _ hz)) c (List.mem_cons_self ..)),
      if_neg (fun e : z = x => (List.nodup_cons.1 ndx).1 (e ▸ hz))]

theorem append_refines (h : Heap) (r1 r2 : List Nat) (h1 : Repr h r1) (h2 : Repr h r2)
    (hd : ∀ x, x ∈ r1 → x ∉ r2) :
    (append h (ptr r1) (ptr r2)).2 = ptr (Ring.append r1 r2) ∧
    Repr (append h (ptr r1) (ptr r2)).1 (Ring.append r1 r2) := by
  cases r2 with
  | nil => cases r1 <;> simp [append, Ring.append, h1]
  | cons c u =>
    cases r1 with
    | nil => simp [append, Ring.append, h2]
    | cons a t =>
      refine ⟨rfl, ?_⟩
      show Repr (append h (some a) (some c)).1 (a :: (c :: u ++ t))
      refine ⟨?_, append_seg h a c t u h1.1 h1.2 h2.1 h2.2 hd⟩
      exact Props.C15Ring.nodup_append (a :: t) (c :: u) h1.1 h2.1 hd

/-- `Append` leaves every other ring alone -/
theorem append_frame (h : Heap) (r1 r2 r3 : List Nat) (h1 : Repr h r1) (h2 : Repr h r2)
    (h3 : Repr h r3) (d1 : ∀ x, x ∈ r3 → x ∉ r1) (d2 : ∀ x, x ∈ r3 → x ∉ r2) :
    Repr (append h (ptr r1) (ptr r2)).1 r3 := by
  cases r2 with
  | nil => exact h3
  | cons c u =>
    cases r1 with
    | nil => exact h3
    | cons a t =>
      have m1 : h.next a ∈ a :: t := repr_next_mem h1 (by simp)
      have m2 : h.prev c ∈ c :: u := repr_prev_mem h2 (by simp)
      refine repr_frame h3 (fun x hx => ?_) (fun x hx => ?_)
      · show (append h (some a) (some c)).1.next x = _
        have x1 : x ≠ h.prev c := fun e => d2 x hx (e ▸ m2)
        have x2 : x ≠ a := fun e => d1 x hx (by simp [e])
        rw [append_next, if_neg x1, if_neg x2]
      · show (append h (some a) (some c)).1.prev x = _
        have x1 : x ≠ h.next a := fun e => d1 x hx (e ▸ m1)
        have x2 : x ≠ c := fun e => d2 x hx (by simp [e])
        rw [append_prev, if_neg x2, if_neg x1]

/-! ## 3. `TearOff` -/

theorem tearOff_nil (h : Heap) (p : Ptr) : tearOff h p none = (h, p) := rfl

theorem erase_mid (e : Nat) (l1 l2 : List Nat) (h : e ∉ l1) :
    (l1 ++ e :: l2).erase e = l1 ++ l2 := by
  induction l1 with
  | nil => simp
  | cons x xs ih =>
    simp only [List.mem_cons, not_or] at h
    simp [ih h.2, Ne.symm h.1]

/-- the unlinked cell is a singleton ring again -/
theorem unlink_self (h : Heap) (e : Nat) : Repr (unlink h e) [e] := by
  refine ⟨by simp, ?_⟩
  rw [seg_nil, unlink_next, unlink_prev]; simp

theorem repr_rot {h : Heap} : ∀ (l1 l2 : List Nat), Repr h (l1 ++ l2) → Repr h (l2 ++ l1)
  | [], l2, hr => by rwa [List.append_nil]
  | a :: l1, l2, hr => by
    have := repr_rot l1 (l2 ++ [a]) (by rw [← List.append_assoc]; exact repr_rotate hr)
    rwa [List.append_assoc] at this

theorem unlink_second (h : Heap) (p e : Nat) (m : List Nat) (hr : Repr h (p :: e :: m)) :
    Repr (unlink h e) (p :: m) := by
  obtain ⟨nd, hs⟩ := hr
  obtain ⟨n, rest, hn⟩ : ∃ n rest, m ++ [p] = n :: rest := by cases m <;> exact ⟨_, _, rfl⟩
  obtain ⟨hpem, nem⟩ := List.nodup_cons.1 nd
  obtain ⟨hem, nm⟩ := List.nodup_cons.1 nem
  have hpe : p ≠ e := fun k => hpem (k ▸ List.mem_cons_self ..)
  have hpm : p ∉ m := fun k => hpem (List.mem_cons_of_mem _ k)
  refine ⟨List.nodup_cons.2 ⟨hpm, nm⟩, ?_⟩
  rw [seg_iff_chain] at hs ⊢
  rw [List.cons_append, hn] at hs
  rw [hn]
  obtain ⟨⟨_, hep⟩, ⟨hen, _⟩, s2⟩ := hs
  have hnx : ∀ y, (unlink h e).next y = if y = e then e else if y = p then n else h.next y :=
    fun y => by rw [unlink_next, hep, hen]
  have hv : ∀ y, (unlink h e).prev y = if y = e then e else if y = n then p else h.prev y :=
    fun y => by rw [unlink_prev, hep, hen]
  have he : ∀ z, z ∈ n :: rest → z ≠ e := fun z hz k => by
    rw [← hn, k] at hz
    rcases List.mem_append.1 hz with hz | hz
    · exact hem hz
    · exact hpe (List.mem_singleton.1 hz).symm
  have ndn : (n :: rest).Nodup := by
    rw [← hn]; exact List.nodup_append.2 ⟨nm, List.pairwise_singleton _ p,
      fun y hy z hz k => hpm (by rw [← List.mem_singleton.1 hz, ← k]; exact hy)⟩
  refine ⟨⟨?_, ?_⟩, chain_frame s2 (fun y hy => ?_) (fun z hz => ?_)⟩
  · rw [hnx, if_neg hpe, if_pos rfl]
  · rw [hv, if_neg (he n (List.mem_cons_self ..)), if_pos rfl]
  · have hym : y ∈ m := by rw [← hn, List.dropLast_concat] at hy; exact hy
    rw [hnx, if_neg (fun k : y = e => hem (k ▸ hym)), if_neg (fun k : y = p => hpm (k ▸ hym))]
  · rw [hv, if_neg (he z (List.mem_cons_of_mem _ hz)), if_neg (fun k : z = n => (List.nodup_cons.1 ndn).1 (k ▸ hz))]

/-- unlinking a non-head cell: read the ring from the cell before `e`, unlink, read it from its head again -/
theorem unlink_mid (h : Heap) (x e : Nat) (l1 l2 : List Nat)
    (hr : Repr h (x :: (l1 ++ e :: l2))) : Repr (unlink h e) (x :: (l1 ++ l2)) := by
  obtain ⟨A, p, hp⟩ := exists_snoc x l1
  have e1 : x :: (l1 ++ e :: l2) = A ++ (p :: e :: l2) := by rw [← List.cons_append, hp, List.append_assoc]; rfl
  have e2 : x :: (l1 ++ l2) = A ++ (p :: l2) := by rw [← List.cons_append, hp, List.append_assoc]; rfl
  rw [e1] at hr
  rw [e2]
  exact repr_rot (p :: l2) A (unlink_second h p e (l2 ++ A) (repr_rot A _ hr))

theorem tearOff_refines (h : Heap) (r : List Nat) (e : Nat) (h1 : Repr h r) (he : e ∈ r) :
    (tearOff h (ptr r) (some e)).2 = ptr (Ring.tearOff r (some e)) ∧
    Repr (tearOff h (ptr r) (some e)).1 (Ring.tearOff r (some e)) ∧
    Repr (tearOff h (ptr r) (some e)).1 [e] := by
  cases r with
  | nil => cases he
  | cons a t =>
    by_cases hea : e = a
    · subst hea
      cases t with
      | nil =>
        have hn : h.next e = e := h1.2.1
        simp [tearOff, Ring.tearOff, hn, h1]
      | cons n t' =>
        have hn : h.next e = n := h1.2.1
        have hne : n ≠ e := by
          have := h1.1
          intro e'; subst e'; simp at this
        have hu : Repr (unlink h e) (n :: t') := by
          have := unlink_mid h n e t' [] (repr_rotate h1)
          simpa using this
        simp [tearOff, Ring.tearOff, hn, hne, hu, unlink_self]
    · have het : e ∈ t := by
        rcases List.mem_cons.1 he with e' | e'
        · exact absurd e' hea
        · exact e'
      obtain ⟨l1, l2, rfl⟩ := List.append_of_mem het
      have nd := h1.1
      have hl1 : e ∉ l1 := fun hm =>
        (List.nodup_append.1 (List.nodup_cons.1 nd).2).2.2 e hm e (List.mem_cons_self ..) rfl
      have her : (a :: (l1 ++ e :: l2)).erase e = a :: (l1 ++ l2) := by
        rw [List.erase_cons, erase_mid e l1 l2 hl1]
        simp [Ne.symm hea]
      have hu := unlink_mid h a e l1 l2 h1
      have hae : ¬ a = e := Ne.symm hea
      simp [tearOff, Ring.tearOff, her, hea, hae, hu, unlink_self]

/-- `TearOff` leaves every other ring alone -/
theorem tearOff_frame (h : Heap) (r r3 : List Nat) (e : Nat) (h1 : Repr h r) (he : e ∈ r)
    (h3 : Repr h r3) (d : ∀ x, x ∈ r3 → x ∉ r) :
    Repr (tearOff h (ptr r) (some e)).1 r3 := by
  have hu : Repr (unlink h e) r3 := by
    have m1 := repr_next_mem h1 he
    have m2 := repr_prev_mem h1 he
    refine repr_frame h3 (fun x hx => ?_) (fun x hx => ?_)
    · have x1 : x ≠ e := fun e' => d x hx (e' ▸ he)
      have x2 : x ≠ h.prev e := fun e' => d x hx (e' ▸ m2)
      rw [unlink_next, if_neg x1, if_neg x2]
    · have x1 : x ≠ e := fun e' => d x hx (e' ▸ he)
      have x2 : x ≠ h.next e := fun e' => d x hx (e' ▸ m1)
      rw [unlink_prev, if_neg x1, if_neg x2]
  cases r with
  | nil => cases he
  | cons a t =>
    simp only [tearOff, ptr_cons]
    by_cases hc : (decide (e = a) && decide (h.next a = a)) = true
    · simp only [hc, ↓reduceIte]; exact h3
    · simp only [hc]; exact hu

/-! ## 4. `Prev` / `Next` -/

theorem seg_prevAux {h : Heap} : ∀ {l : List Nat} {a b e : Nat}, Seg h a l b → e ∈ l ++ [b] →
    h.prev e = Ring.prevAux a (l ++ [b]) e
  | [], a, b, e, hs, he => by
    rw [seg_nil] at hs
    have : e = b := by simpa using he
    subst this
    simp [Ring.prevAux, hs.2]
  | x :: xs, a, b, e, hs, he => by
    rw [seg_cons] at hs
    by_cases hx : x = e
    · subst hx; simp [Ring.prevAux, hs.2.1]
    · have he' : e ∈ xs ++ [b] := by
        rcases List.mem_cons.1 he with e' | e'
        · exact absurd e'.symm hx
        · exact e'
      simp only [List.cons_append, Ring.prevAux, if_neg hx]
      exact seg_prevAux hs.2.2 he'

theorem prev_refines (h : Heap) (r : List Nat) (e : Nat) (h1 : Repr h r) (he : e ∈ r) :
    prevM h e = Ring.prev r e := by
  cases r with
  | nil => cases he
  | cons x xs =>
    obtain ⟨_, hs⟩ := h1
    show h.prev e = Ring.prev (x :: xs) e
    rcases Props.C15Ring.snoc_cases xs with rfl | ⟨ys, l, rfl⟩
    · have : e = x := by simpa using he
      subst this
      rw [seg_nil] at hs
      simp [Ring.prev, Ring.prevAux, hs.2]
    · rw [seg_append ys x l [] x, seg_nil] at hs
      obtain ⟨s, _, e2⟩ := hs
      have hl : (x :: (ys ++ [l])).getLast? = some l := by
        rw [← List.cons_append, List.getLast?_concat]
      simp only [Ring.prev, hl, Ring.prevAux]
      by_cases hx : x = e
      · subst hx; simp [e2]
      · rw [if_neg hx]
        refine seg_prevAux s ?_
        rcases List.mem_cons.1 he with e' | e'
        · exact absurd e'.symm hx
        · exact e'

theorem next_refines (h : Heap) (r : List Nat) (e : Nat) (h1 : Repr h r) (he : e ∈ r) :
    nextM h e = Ring.next r e := prev_refines h r e h1 he

/-! ## 5. `Len` -/

theorem seg_len {h : Heap} : ∀ (l : List Nat) (a b f cnt : Nat), Seg h a l b → b ∉ l →
    l.length ≤ f → lenLoop h b f (h.next a) cnt = cnt + l.length
  | [], a, b, f, cnt, hs, _, _ => by
    rw [seg_nil] at hs
    cases f with
    | zero => simp [lenLoop]
    | succ f => simp [lenLoop, hs.1]
  | x :: xs, a, b, f, cnt, hs, hb, hf => by
    rw [seg_cons] at hs
    cases f with
    | zero => simp at hf
    | succ f =>
      have hxb : x ≠ b := by intro e; subst e; simp at hb
      have hb' : b ∉ xs := fun hm => hb (List.mem_cons_of_mem _ hm)
      have hf' : xs.length ≤ f := by simpa using hf
      rw [hs.1]
      simp only [lenLoop, if_neg hxb]
      rw [seg_len xs x b f (cnt + 1) hs.2.2 hb' hf']
      simp only [List.length_cons]; omega

theorem len_refines (h : Heap) (r : List Nat) (fuel : Nat) (h1 : Repr h r)
    (hf : r.length ≤ fuel) : len h (ptr r) fuel = Ring.len r := by
  cases r with
  | nil => rfl
  | cons a t =>
    obtain ⟨nd, hs⟩ := h1
    have ha : a ∉ t := (List.nodup_cons.1 nd).1
    have hf' : t.length ≤ fuel := by simp only [List.length_cons] at hf; omega
    show lenLoop h a fuel (h.next a) 1 = Ring.len (a :: t)
    rw [seg_len t a a fuel 1 hs ha hf']
    simp only [Ring.len, List.length_cons]; omega

/-! ## 6. every operation sequence of the provider's two rings -/

/-- the side conditions under which provider.go performs the operation -/
def okOp (l : LSt) : Op → Prop
  | .toHead e => e ∈ l.busy
  | .insertNew e => e ∉ l.busy ∧ e ∉ l.free
  | .insertFree => l.free ≠ []
  | .evict e _ => e ∈ l.busy

/-- the side conditions hold along the list-level run -/
def OkRun : LSt → List Op → Prop
  | _, [] => True
  | l, op :: ops => okOp l op ∧ OkRun (lstep l op) ops

instance okOpDec (l : LSt) : ∀ op : Op, Decidable (okOp l op)
  | .toHead e => inferInstanceAs (Decidable (e ∈ l.busy))
  | .insertNew e => inferInstanceAs (Decidable (e ∉ l.busy ∧ e ∉ l.free))
  | .insertFree => inferInstanceAs (Decidable (l.free ≠ []))
  | .evict e _ => inferInstanceAs (Decidable (e ∈ l.busy))

instance okRunDec : ∀ (l : LSt) (ops : List Op), Decidable (OkRun l ops)
  | _, [] => inferInstanceAs (Decidable True)
  | l, op :: ops =>
    have := okRunDec (lstep l op) ops
    inferInstanceAs (Decidable (okOp l op ∧ OkRun (lstep l op) ops))

/-- simulation relation: both rings are held by the one heap, they are disjoint, and the two
    pointers are the heads -/
def Sim (p : PSt) (l : LSt) : Prop :=
  Repr p.heap l.busy ∧ Repr p.heap l.free ∧ (∀ x, x ∈ l.busy → x ∉ l.free) ∧
  p.busy = ptr l.busy ∧ p.free = ptr l.free

/-- `e.Append(ring)` for a detached singleton `e`, with a third ring `f` in the same heap -/
theorem push_refines (h : Heap) (e : Nat) (r f : List Nat) (he : Repr h [e]) (hr : Repr h r)
    (hf : Repr h f) (er : e ∉ r) (ef : e ∉ f) (d : ∀ x, x ∈ r → x ∉ f) :
    (append h (some e) (ptr r)).2 = ptr (Ring.append [e] r) ∧
    Repr (append h (some e) (ptr r)).1 (Ring.append [e] r) ∧
    Repr (append h (some e) (ptr r)).1 f ∧
    (∀ x, x ∈ Ring.append [e] r → x ∉ f) ∧ (∀ x, x ∈ f → x ∉ Ring.append [e] r) := by
  -- the fifth fact is the fourth read the other way: `evict` pushes onto the free ring
  have dj : ∀ x, x ∈ Ring.append [e] r → x ∉ f := fun x hx => by
    rcases (Props.C15Ring.mem_append _ _ _).1 hx with hx | hx
    · rw [List.mem_singleton.1 hx]; exact ef
    · exact d x hx
  have a := append_refines h [e] r he hr (fun x hx => List.mem_singleton.1 hx ▸ er)
  have fr := append_frame h [e] r f he hr hf (fun x hx hx' => ef (List.mem_singleton.1 hx' ▸ hx))
    (fun x hx hx' => d x hx' hx)
  rw [ptr_cons] at a fr
  exact ⟨a.1, a.2, fr, dj, fun x hx hx' => dj x hx' hx⟩

theorem sim_step {p : PSt} {l : LSt} {op : Op} (hs : Sim p l) (ok : okOp l op) :
    Sim (pstep p op) (lstep l op) := by
  obtain ⟨hb, hf, hd, pb, pf⟩ := hs
  cases op with
  | toHead e =>
    have he : e ∈ l.busy := ok
    obtain ⟨t1, t2, t3⟩ := tearOff_refines p.heap l.busy e hb he
    have tf := tearOff_frame p.heap l.busy l.free e hb he hf (fun x hx hx' => hd x hx' hx)
    have nd := repr_nodup hb
    have er : e ∉ Ring.tearOff l.busy (some e) := fun hm => ((Props.C15Ring.mem_tearOff _ nd e e).1 hm).2 rfl
    have d' : ∀ x, x ∈ Ring.tearOff l.busy (some e) → x ∉ l.free := by
      intro x hx; exact hd x (List.mem_of_mem_erase hx)
    obtain ⟨a1, a2, a3, a4, _⟩ := push_refines _ e _ l.free t3 t2 tf er (hd e he) d'
    rw [← t1] at a1 a2 a3
    simp only [pstep, lstep, Sim]
    rw [pb]
    exact ⟨a2, a3, a4, a1, pf⟩
  | insertNew e =>
    obtain ⟨eb, ef⟩ : e ∉ l.busy ∧ e ∉ l.free := ok
    have n1 := repr_new p.heap e
    have n2 := newElem_frame p.heap e l.busy hb eb
    have n3 := newElem_frame p.heap e l.free hf ef
    obtain ⟨a1, a2, a3, a4, _⟩ := push_refines _ e _ l.free n1 n2 n3 eb ef hd
    simp only [pstep, lstep, Sim]
    rw [pb]
    exact ⟨a2, a3, a4, a1, pf⟩
  | insertFree =>
    have hne : l.free ≠ [] := ok
    cases hfr : l.free with
    | nil => exact absurd hfr hne
    | cons e fs =>
      rw [hfr] at hf hd pf
      have he : e ∈ e :: fs := by simp
      obtain ⟨t1, t2, t3⟩ := tearOff_refines p.heap (e :: fs) e hf he
      have tf := tearOff_frame p.heap (e :: fs) l.busy e hf he hb hd
      have nd := repr_nodup hf
      have er : e ∉ Ring.tearOff (e :: fs) (some e) := fun hm => ((Props.C15Ring.mem_tearOff _ nd e e).1 hm).2 rfl
      have d' : ∀ x, x ∈ l.busy → x ∉ Ring.tearOff (e :: fs) (some e) := by
        intro x hx hx'; exact hd x hx (List.mem_of_mem_erase hx')
      have eb : e ∉ l.busy := fun hm => hd e hm he
      obtain ⟨a1, a2, a3, a4, _⟩ := push_refines _ e _ _ t3 tf t2 eb er d'
      rw [ptr_cons] at t1 t2 t3 tf a1 a2 a3
      simp only [pstep, lstep, Sim, hfr, List.head?_cons]
      rw [pb, pf]
      exact ⟨a2, a3, a4, a1, t1⟩
  | evict e rc =>
    have he : e ∈ l.busy := ok
    obtain ⟨t1, t2, t3⟩ := tearOff_refines p.heap l.busy e hb he
    have tf := tearOff_frame p.heap l.busy l.free e hb he hf (fun x hx hx' => hd x hx' hx)
    have d' : ∀ x, x ∈ Ring.tearOff l.busy (some e) → x ∉ l.free := by
      intro x hx; exact hd x (List.mem_of_mem_erase hx)
    cases rc with
    | false =>
      simp only [pstep, lstep, Sim]
      rw [pb]
      exact ⟨t2, tf, d', t1, pf⟩
    | true =>
      have nd := repr_nodup hb
      have er : e ∉ Ring.tearOff l.busy (some e) := fun hm => ((Props.C15Ring.mem_tearOff _ nd e e).1 hm).2 rfl
      obtain ⟨a1, a2, a3, _, a5⟩ := push_refines _ e l.free _ t3 tf t2 (hd e he) er
        (fun x hx hx' => d' x hx' hx)
      rw [← pf] at a1 a2 a3
      simp only [pstep, lstep, Sim, ↓reduceIte]
      rw [pb]
      exact ⟨a3, a2, a5, t1, a1⟩

theorem sim_init : Sim PSt.init LSt.init := by
  refine ⟨repr_nil _, repr_nil _, ?_, rfl, rfl⟩
  intro x hx; cases hx

/-- for all operation sequences: the pointer-level run is simulated by the list-level run -/
theorem sim_run : ∀ (ops : List Op) {p : PSt} {l : LSt}, Sim p l → OkRun l ops →
    Sim (prun p ops) (lrun l ops)
  | [], _, _, hs, _ => hs
  | _ :: ops, _, _, hs, ok => sim_run ops (sim_step hs ok.1) ok.2

theorem sim_run_init (ops : List Op) (ok : OkRun LSt.init ops) :
    Sim (prun PSt.init ops) (lrun LSt.init ops) := sim_run ops sim_init ok

/-- observations agree in simulated states: `e.Prev()` (and `e.Next()`, the same field) -/
theorem sim_prev {p : PSt} {l : LSt} (hs : Sim p l) :
    (∀ e, e ∈ l.busy → prevM p.heap e = Ring.prev l.busy e ∧ nextM p.heap e = Ring.next l.busy e) ∧
    (∀ e, e ∈ l.free → prevM p.heap e = Ring.prev l.free e ∧ nextM p.heap e = Ring.next l.free e) :=
  ⟨fun e he => ⟨prev_refines _ _ e hs.1 he, next_refines _ _ e hs.1 he⟩,
   fun e he => ⟨prev_refines _ _ e hs.2.1 he, next_refines _ _ e hs.2.1 he⟩⟩

/-- … and `Len()` with enough fuel -/
theorem sim_len {p : PSt} {l : LSt} (hs : Sim p l) (fuel : Nat) :
    (l.busy.length ≤ fuel → len p.heap p.busy fuel = Ring.len l.busy) ∧
    (l.free.length ≤ fuel → len p.heap p.free fuel = Ring.len l.free) := by
  obtain ⟨hb, hf, _, pb, pf⟩ := hs
  rw [pb, pf]
  exact ⟨len_refines _ _ _ hb, len_refines _ _ _ hf⟩

/-! ## non-vacuity: concrete rings -/

/-- three fresh cells, `2.Append(3)`, `1.Append(that)`: the heap holds the ring `[1,2,3]`, as the
    list model says -/
example :
    Repr (append (append (newElem (newElem (newElem Heap.init 1) 2) 3) (some 2) (some 3)).1
      (some 1) (some 2)).1 [1, 2, 3] ∧
    Ring.append [1] (Ring.append [2] [3]) = [1, 2, 3] := by decide +kernel

/-- tearing the head off `[1,2,3]`: new head `2`, ring `[2,3]`, and `1` is a singleton again -/
example :
    (tearOff (append (append (newElem (newElem (newElem Heap.init 1) 2) 3) (some 2) (some 3)).1
      (some 1) (some 2)).1 (some 1) (some 1)).2 = some 2 ∧
    Repr (tearOff (append (append (newElem (newElem (newElem Heap.init 1) 2) 3) (some 2) (some 3)).1
      (some 1) (some 2)).1 (some 1) (some 1)).1 [2, 3] ∧
    Repr (tearOff (append (append (newElem (newElem (newElem Heap.init 1) 2) 3) (some 2) (some 3)).1
      (some 1) (some 2)).1 (some 1) (some 1)).1 [1] ∧
    len (append (append (newElem (newElem (newElem Heap.init 1) 2) 3) (some 2) (some 3)).1
      (some 1) (some 2)).1 (some 1) 3 = 3 := by decide +kernel

/-- a provider run: three inserts, a hit, an eviction with recycling, an insert from the free pool -/
example :
    OkRun LSt.init [.insertNew 1, .insertNew 2, .insertNew 3, .toHead 1, .evict 2 true, .insertFree] ∧
    lrun LSt.init [.insertNew 1, .insertNew 2, .insertNew 3, .toHead 1, .evict 2 true, .insertFree]
      = { busy := [2, 1, 3], free := [] } := by decide +kernel

end Logrange.RingPtr

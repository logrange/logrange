import Logrange.Proofs.DateFirstMatch
/-!
# Second stage of first-match: earlier formats that CAN match a text

For a text of format `k` and an earlier format `j` of the list, one of three decidable certificates (`pairOK`):

* **clean** — `j`'s expression matches nowhere in any shape of `k`'s texts (first stage, `findSG`);
* **dotted** — `j` is `MM.DD.YYYY` / `MM.DD.YY` (its unescaped `.` matches any byte, e.g. a `:`): its layout accepts only a
  text that begins `dd.dd.` (`dotted_inversion`), and no shape of `k`'s texts contains that factor — `Format.Parse` of `j` fails;
* **twin** — `j` and `k` have the same literals and their elements differ only in digit width (`DD`/`D`, `MM`/`M`, `hh`/`h`,
  `_D`/`DD`): on each shape of `k`'s texts `j`'s expression either matches nowhere or its first match is the whole text
  (exact matcher `ownMatchD`), and then `j`'s layout reads either nothing or exactly the fields `k`'s layout carries
  (`parseItems_twin`) — `Format.Parse` of `j` fails or gives the same answer.

So the list's answer for the text of any valid instant is the fields format `k` carries, whoever claims it (`first_match_agree`).
-/
namespace Logrange.Date

def twinElem (eB eA : Std) : Bool :=
  eB == eA || (eB == .zeroDay && eA == .day) || (eB == .day && eA == .zeroDay) || (eB == .zeroMonth && eA == .numMonth) ||
  (eB == .zeroHour12 && eA == .hour12) || (eB == .underDay && eA == .zeroDay) || (eB == .zeroDay && eA == .underDay)

/-- the items of `j` against the items of `k`: same literals, twin elements, and nothing that may follow an element in `k`'s
text can be mistaken for part of it — by `j`'s element or by `k`'s -/
def twinItems : List (Bytes × Std) → List (Bytes × Std) → Bytes → Bool
  | [], [], _ => true
  | (pB, eB) :: rB, (pA, eA) :: rA, tail =>
    pB == pA && twinElem eB eA && inScope eB && inScope eA &&
    !meets (badSet eB (rB.head?.map (·.2))) (firstSet rA tail) &&
    !meets (badSet eA (rA.head?.map (·.2))) (firstSet rA tail) && twinItems rB rA tail
  | _, _, _ => false

def dottedLayout (L : Layout) : Bool :=
  match L.items with
  | ([], .zeroMonth) :: ([46], .zeroDay) :: (46 :: _, _) :: _ => true
  | _ => false

/-- `\d\d\.\d\d\.` -/
def rxDotted : Rx := .seq rxD (.seq rxD (.seq (.chr 46) (.seq rxD (.seq rxD (.chr 46)))))

def pairOK (cj ck : CFormat) : Bool :=
  match cj.rx with
  | none => false
  | some r =>
    (symLayout ck.layout).all (fun sh => !findSG cj.guard r false sh) ||
    (dottedLayout cj.layout && cj.layout.supported && (symLayout ck.layout).all (fun sh => !findS rxDotted sh)) ||
    (cj.noDate == ck.noDate && cj.hasYear == ck.hasYear && cj.layout.tail == ck.layout.tail && cj.layout.supported &&
      twinItems cj.layout.items ck.layout.items ck.layout.tail &&
      (symLayout ck.layout).all (fun sh => !findSG cj.guard r false sh || ownMatchD r sh))

def idxOK (fmts : List CFormat) (k : Nat) : Bool :=
  match fmts[k]? with
  | none => false
  | some ck => (List.range k).all (fun j => match fmts[j]? with | none => true | some cj => pairOK cj ck)

/-! ## twins: one element of `j` on the text of the twin element of `k` -/

theorem getnum_one_fixed (n : Nat) (R : Bytes) (hR : R = [] ∨ ∃ c t, R = c :: t ∧ isDig c = false) :
    getnum (dig n :: R) true = none := by
  rcases hR with h | ⟨c, t, h, hc⟩
  · subst h; simp [getnum, isDig_dig]
  · subst h; simp [getnum, isDig_dig, hc]

theorem parseStd_none_of_getnum {eB : Std} (hB : eB = .zeroDay ∨ eB = .zeroMonth ∨ eB = .zeroHour12) {next : Option Std}
    {v : Bytes} {f : F} (h : getnum v true = none) : parseStd eB next v f = none := by
  rcases hB with rfl | rfl | rfl
  · show (getnum v true).map _ = none
    rw [h]; rfl
  · show (getnum v true).bind _ = none
    rw [h]; rfl
  · show (getnum v true).bind _ = none
    rw [h]; rfl

/-- what `j`'s element reads from the text `k`'s twin element wrote: nothing, or the same field -/
def TwinOK (eB eA : Std) (i : XInst) (nextB : Option Std) (R : Bytes) (f : F) (txt : Bytes) : Prop :=
  ∀ val, (val = txt ++ R ∨ val = cutspace (txt ++ R)) →
    (parseStd eB nextB val f = none ∨ parseStd eB nextB val f = some (setStdX eA i f, R))

/-- **a fixed-width reader (`DD`, `MM`, `hh`) on a `D` / `M` / `h` text**: it refuses the single digit (`n < 10`, no digit
follows), and the two digits are its own text of the same number -/
theorem twin_fixed {eB eA : Std} (hB : eB = .zeroDay ∨ eB = .zeroMonth ∨ eB = .zeroHour12) {i : XInst} {nextB : Option Std}
    {R : Bytes} {f : F} (n : Nat) (hR : R = [] ∨ ∃ c t, R = c :: t ∧ isDig c = false)
    (hown : parseStd eB nextB (pad2 n ++ R) f = some (setStdX eA i f, R)) : TwinOK eB eA i nextB R f (num12 n) := by
  intro val hv
  rw [plain_vals (num12_ne_nil n) (num12_head n) hv, num12]
  split
  · exact Or.inl (parseStd_none_of_getnum hB (getnum_one_fixed n R hR))
  · exact Or.inr hown

theorem parseStd_day_pad2 (next : Option Std) {n : Nat} (hn : n < 100) (R : Bytes) (f : F) :
    parseStd .day next (pad2 n ++ R) f = some ({ f with day := n }, R) := by
  simp only [parseStd, beq_day, beq_dayu, Bool.false_and, Bool.false_eq_true, if_false, getnum_pad2 n hn, Option.map_some]

theorem elem_twin (eB eA : Std) (htw : twinElem eB eA = true) (hsB : inScope eB = true) (i : XInst) (hi : ValidX i)
    (nextB nextA : Option Std) (R : Bytes) (f : F) (hfB : FollowOK eB nextB R) (hfA : FollowOK eA nextA R)
    (txt : Bytes) (ht : renderStd eA i = some txt) : TwinOK eB eA i nextB R f txt := by
  have hd : i.day < 100 := Nat.lt_of_le_of_lt (day_le_31 hi) (by decide)
  simp only [twinElem, Bool.or_eq_true, Bool.and_eq_true, beq_iff_eq] at htw
  rcases htw with (((((rfl | ⟨rfl, rfl⟩) | ⟨rfl, rfl⟩) | ⟨rfl, rfl⟩) | ⟨rfl, rfl⟩) | ⟨rfl, rfl⟩) | ⟨rfl, rfl⟩
  · -- the same element
    exact fun val hv => Or.inr ((elemOK_of_render hsB hi f hfB ht).2.2 val hv)
  · -- DD on the text of D
    cases ht
    exact twin_fixed (Or.inl rfl) i.day (follow_digit rfl hfA) (parseStd_zeroDay nextB R f i.day hd)
  · -- D on the text of DD
    cases ht
    exact fun val hv => Or.inr (by rw [plain_vals (pad2_ne_nil _) (pad2_head _) hv]; exact parseStd_day_pad2 nextB hd R f)
  · -- MM on the text of M
    cases ht
    exact twin_fixed (Or.inr (Or.inl rfl)) i.month (follow_digit rfl hfA) (parseStd_zeroMonth nextB R f i.month hi.2.2.1 hi.2.2.2.1)
  · -- hh on the text of h
    cases ht
    exact twin_fixed (Or.inr (Or.inr rfl)) _ (follow_digit rfl hfA) (parseStd_zeroHour12 nextB R f _ (hour12Of_le i.hour).2)
  · -- _D on the text of DD
    cases ht
    exact fun val hv => Or.inr (by
      rw [plain_vals (pad2_ne_nil _) (pad2_head _) hv,
        parseStd_underDay_plain nextB f (v := pad2 i.day ++ R) (fun e => dig_ne_blank _ (Option.some.inj e))]
      exact parseStd_day_pad2 nextB hd R f)
  · -- DD on the text of _D: a blank or a single digit is refused, two digits are DD's own text
    cases ht
    intro val hv
    by_cases h10 : i.day < 10
    · rw [if_pos h10] at hv
      refine Or.inl (parseStd_none_of_getnum (Or.inl rfl) ?_)
      rcases hv with rfl | rfl
      · rfl
      · show getnum (cutspace (dig i.day :: R)) true = none
        rw [cutspace_of_head (l := dig i.day :: R) (fun e => dig_ne_blank _ (Option.some.inj e))]
        exact getnum_one_fixed i.day R (follow_digit (s := .underDay) (next := nextA) rfl hfA)
    · rw [if_neg h10] at hv
      rw [plain_vals (pad2_ne_nil _) (pad2_head _) hv]
      exact Or.inr (parseStd_zeroDay nextB R f i.day hd)

/-! ## twins: the whole layout -/

theorem parseItems_cons_twin {tail pre : Bytes} {s : Std} {rest : List (Bytes × Std)} {txt R : Bytes} {f f' : F}
    (h : ∀ val, (val = txt ++ R ∨ val = cutspace (txt ++ R)) →
      parseStd s (rest.head?.map (·.2)) val f = none ∨ parseStd s (rest.head?.map (·.2)) val f = some (f', R)) :
    parseItems tail ((pre, s) :: rest) (pre ++ (txt ++ R)) f = none ∨
      parseItems tail ((pre, s) :: rest) (pre ++ (txt ++ R)) f = parseItems tail rest R f' := by
  rcases h (if pre.getLast? = some 32 then cutspace (txt ++ R) else txt ++ R) (by split <;> simp) with hv | hv
  · exact Or.inl (by simp only [parseItems, skipLit_gen, hv])
  · exact Or.inr (by simp only [parseItems, skipLit_gen, hv])

theorem parseItems_twin (tail : Bytes) (i : XInst) (hi : ValidX i) :
    ∀ (itemsB itemsA : List (Bytes × Std)), twinItems itemsB itemsA tail = true →
      ∃ body, renderItems itemsA i = some body ∧
        ∀ f, parseItems tail itemsB (body ++ tail) f = none ∨ parseItems tail itemsB (body ++ tail) f = some (projectFX itemsA i f) := by
  intro itemsB
  induction itemsB with
  | nil =>
    intro itemsA h
    cases itemsA with
    | nil => exact ⟨[], rfl, fun f => Or.inr (parseItems_nil_tail tail f)⟩
    | cons _ _ => cases h
  | cons itB rB ih =>
    intro itemsA h
    cases itemsA with
    | nil => cases h
    | cons itA rA =>
      obtain ⟨pB, eB⟩ := itB
      obtain ⟨pA, eA⟩ := itA
      simp only [twinItems, Bool.and_eq_true, beq_iff_eq, Bool.not_eq_true'] at h
      obtain ⟨⟨⟨⟨⟨⟨rfl, htw⟩, hsB⟩, hsA⟩, hmB⟩, hmA⟩, hrest⟩ := h
      obtain ⟨body', hb', hparse'⟩ := ih rA hrest
      have hfB := follow_of_static hi hb' hmB
      have hfA := follow_of_static hi hb' hmA
      obtain ⟨txt, hr, _⟩ := parseStd_render eA hsA i hi (rA.head?.map (·.2)) (body' ++ tail) {} hfA
      refine ⟨pB ++ txt ++ body', by simp only [renderItems, hr, hb'], fun f => ?_⟩
      rw [show pB ++ txt ++ body' ++ tail = pB ++ (txt ++ (body' ++ tail)) by simp only [List.append_assoc]]
      rcases parseItems_cons_twin (tail := tail) (pre := pB)
        (elem_twin eB eA htw hsB i hi _ _ (body' ++ tail) f hfB hfA txt hr) with h1 | h1
      · exact Or.inl h1
      · rw [h1]; exact hparse' _

/-! ## dotted layouts: what they can parse -/

theorem getnum_fixed_some {m : Bytes} {n : Int} {r : Bytes} (h : getnum m true = some (n, r)) :
    ∃ a b, m = a :: b :: r ∧ isDig a = true ∧ isDig b = true := by
  cases m with
  | nil => simp [getnum] at h
  | cons a t =>
    cases t with
    | nil => simp only [getnum] at h; split at h <;> simp at h
    | cons b r' =>
      simp only [getnum] at h
      by_cases ha : isDig a = true
      · by_cases hb : isDig b = true
        · simp only [ha, hb, if_true, Option.some.injEq, Prod.mk.injEq] at h
          exact ⟨a, b, by rw [h.2], ha, hb⟩
        · simp [ha, hb] at h
      · simp [ha] at h

theorem skipLit_dot {v rest : Bytes} {p : Bytes} (h : skipLit v (46 :: p) = some rest) : ∃ v', v = 46 :: v' := by
  cases v with
  | nil => simp [skipLit, skip] at h
  | cons x t =>
    by_cases hx : x = 46
    · exact ⟨t, by rw [hx]⟩
    · have : (x == 46) = false := beq_false_of_ne hx
      simp [skipLit, skip, this] at h

theorem digits_of_fixed {s : Std} (hs : s = .zeroMonth ∨ s = .zeroDay) {next : Option Std} {m : Bytes} {f f1 : F} {r1 : Bytes}
    (h : parseStd s next m f = some (f1, r1)) : ∃ a b, m = a :: b :: r1 ∧ isDig a = true ∧ isDig b = true := by
  cases hg : getnum m true with
  | none =>
    rw [parseStd_none_of_getnum (hs.elim (fun e => Or.inr (Or.inl e)) Or.inl) hg] at h; cases h
  | some q =>
    obtain ⟨n, r⟩ := q
    have hr : r = r1 := by
      rcases hs with rfl | rfl
      · change (getnum m true).bind _ = _ at h
        rw [hg] at h
        change (if _ then none else some (_, r)) = some (f1, r1) at h
        split at h
        · cases h
        · exact (Prod.mk.inj (Option.some.inj h)).2
      · change (getnum m true).map _ = _ at h
        rw [hg] at h
        exact (Prod.mk.inj (Option.some.inj h)).2
    subst hr
    exact getnum_fixed_some hg

theorem parseItems_cons_some {tail pre : Bytes} {s : Std} {rest : List (Bytes × Std)} {m : Bytes} {f f' : F}
    (h : parseItems tail ((pre, s) :: rest) m f = some f') :
    ∃ v f1 r1, skipLit m pre = some v ∧ parseStd s (rest.head?.map (·.2)) v f = some (f1, r1) ∧
      parseItems tail rest r1 f1 = some f' := by
  rw [parseItems] at h
  split at h
  · cases h
  · rename_i v hv
    split at h
    · cases h
    · rename_i f1 r1 hp
      exact ⟨v, f1, r1, hv, hp, h⟩

/-- a layout that starts `01.02.` accepts only a text that starts `dd.dd.` -/
theorem dotted_inversion {tail : Bytes} {p3 : Bytes} {s3 : Std} {rest : List (Bytes × Std)} {m : Bytes} {f f' : F}
    (h : parseItems tail (([], .zeroMonth) :: ([46], .zeroDay) :: (46 :: p3, s3) :: rest) m f = some f') :
    ∃ a b c d r, m = a :: b :: 46 :: c :: d :: 46 :: r ∧ isDig a = true ∧ isDig b = true ∧ isDig c = true ∧ isDig d = true := by
  obtain ⟨_, _, r1, hs0, h1, hrest1⟩ := parseItems_cons_some h
  cases hs0
  obtain ⟨a, b, rfl, ha, hb⟩ := digits_of_fixed (Or.inl rfl) h1
  obtain ⟨_, _, r2, hs1, h2, hrest2⟩ := parseItems_cons_some hrest1
  obtain ⟨r1', rfl⟩ := skipLit_dot hs1
  cases hs1
  obtain ⟨c, d, rfl, hc, hd⟩ := digits_of_fixed (Or.inr rfl) h2
  obtain ⟨_, _, _, hs2, _, _⟩ := parseItems_cons_some hrest2
  obtain ⟨r3', rfl⟩ := skipLit_dot hs2
  exact ⟨a, b, c, d, r3', rfl, ha, hb, hc, hd⟩

theorem find_ne_none_of_suffix (r : Rx) : ∀ (p s : Bytes), matchAt r s ≠ none → find r (p ++ s) ≠ none
  | [], s, h => by
    cases s with
    | nil => simpa [find] using h
    | cons x t =>
      simp only [List.nil_append, find]
      cases hm : matchAt r (x :: t) with
      | none => exact absurd hm h
      | some m => simp
  | x :: p, s, h => by
    simp only [List.cons_append, find]
    cases hm : matchAt r (x :: (p ++ s)) with
    | none => exact find_ne_none_of_suffix r p s h
    | some m => simp

theorem ms_seq_cls {rg : List (UInt8 × UInt8)} {x : UInt8} (h : inCls rg x = true) (q : Rx) (s : Bytes) :
    ms (.seq (.cls rg) q) (x :: s) = ms q s := by
  show (if inCls rg x = true then [s] else []).flatMap (ms q) = ms q s
  rw [if_pos h]; exact List.flatMap_singleton ..

theorem ms_seq_chr (x : UInt8) (q : Rx) (s : Bytes) : ms (.seq (.chr x) q) (x :: s) = ms q s := by
  show (if (x == x) = true then [s] else []).flatMap (ms q) = ms q s
  rw [if_pos (beq_self_eq_true x)]; exact List.flatMap_singleton ..

theorem matchAt_dotted {a b c d : UInt8} (ha : isDig a = true) (hb : isDig b = true) (hc : isDig c = true) (hd : isDig d = true)
    (r : Bytes) : matchAt rxDotted (a :: b :: 46 :: c :: d :: 46 :: r) ≠ none := by
  have e : ∀ {x}, isDig x = true → inCls clsDigit x = true := fun h => (inCls_dS _).trans h
  have : ms rxDotted (a :: b :: 46 :: c :: d :: 46 :: r) = [r] := by
    rw [rxDotted, rxD, ms_seq_cls (e ha), ms_seq_cls (e hb), ms_seq_chr, ms_seq_cls (e hc), ms_seq_cls (e hd)]; rfl
  rw [matchAt, this]
  nofun

/-- a dotted format fails on every text none of whose shapes contains the factor `dd.dd.` -/
theorem formatParse_dotted_err {adj : Adjust} {cj : CFormat} {now : Now} {r : Rx} (hr : cj.rx = some r)
    (hdot : dottedLayout cj.layout = true) (hsup : cj.layout.supported = true) {txt : Bytes} {sh : List BSet}
    (hs : hasShape txt sh) (hno : findS rxDotted sh = false) : formatParse adj cj now txt = .err := by
  simp only [formatParse, hr]
  cases hf : findG cj.guard r txt with
  | none => rfl
  | some m =>
    simp only [parseLayout, hsup, Bool.not_true, Bool.false_eq_true, if_false]
    cases hp : parseItems cj.layout.tail cj.layout.items m {} with
    | none => rfl
    | some f' =>
      exfalso
      simp only [dottedLayout] at hdot
      split at hdot
      · rename_i p3 s3 rest hitems
        rw [hitems] at hp
        obtain ⟨a, b, c, d, r', hm, ha, hb, hc, hd⟩ := dotted_inversion hp
        obtain ⟨p, q, e⟩ := findFrom_sub _ r txt _ m hf
        have hfind := find_none_of_findS rxDotted txt sh hs hno
        have : find rxDotted (p ++ (m ++ q)) ≠ none := by
          apply find_ne_none_of_suffix
          rw [hm]; exact matchAt_dotted ha hb hc hd (r' ++ q)
        rw [e, List.append_assoc] at hfind
        exact this hfind
      · cases hdot

/-! ## `Format.Parse`'s defaulting never refuses a projected instant -/

/-- a fabricated zone of a projected instant has display offset 0 (the abbreviation has three letters) -/
def zoneDispZero (c : Civil) : Prop := match c.zone with | .named _ d => d = 0 | _ => True

/-- the zone `finish` resolves -/
def finishZone (f : F) : Zone :=
  if f.zUTC then .utc
  else match f.zoneOffset with
    | some o => .offset o
    | none =>
      match f.zoneName with
      | some n =>
        if n.length > 3 && hasPrefix n bGMT then .named n (((atoi (n.drop 3)).getD 0) * 3600) else .named n 0
      | none => .dflt

theorem PR.ok_of_ite {p : Prop} [Decidable p] {x c : Civil} (h : (if p then PR.err else PR.ok x) = .ok c) : x = c := by
  split at h
  · cases h
  · exact PR.ok.inj h

theorem finish_zone {f : F} {c : Civil} (hc : finish f = .ok c) : c.zone = finishZone f := by
  have := PR.ok_of_ite (show (if _ then PR.err else PR.ok _) = PR.ok c from hc)
  subst this; rfl

theorem setStdX_zoneName (s : Std) (i : XInst) (f : F) :
    (setStdX s i f).zoneName = f.zoneName ∨ (setStdX s i f).zoneName = some i.zname := by
  cases s
  case pm => simp only [setStdX]; split <;> exact Or.inl rfl
  case tz => simp only [setStdX]; split; exact Or.inl rfl; exact Or.inr rfl
  all_goals exact Or.inl rfl

theorem projectFX_zoneName {i : XInst} : ∀ (items : List (Bytes × Std)) {f : F},
    f.zoneName = none ∨ f.zoneName = some i.zname →
    (projectFX items i f).zoneName = none ∨ (projectFX items i f).zoneName = some i.zname
  | [], _, h => h
  | it :: rest, f, h => by
    rw [projectFX, List.foldl_cons]
    refine projectFX_zoneName rest ?_
    rcases setStdX_zoneName it.2 i f with e | e
    · rw [e]; exact h
    · exact Or.inr e

theorem projectX_zone {L : Layout} {i : XInst} (hi : ValidX i) {c : Civil} (h : projectX L i = .ok c) : zoneDispZero c := by
  obtain ⟨a, b, c', hz, _⟩ := hi.2.2.2.2.2.2.2.2.2.2.2.2.2.2.2
  rw [zoneDispZero, finish_zone h, finishZone]
  -- the name, if any, is the instant's three letters: not the `GMT±n` form
  rcases projectFX_zoneName (i := i) L.items (f := {}) (Or.inl rfl) with hn | hn
  · rw [hn]
    cases (projectFX L.items i {}).zUTC <;> cases (projectFX L.items i {}).zoneOffset <;> trivial
  · rw [hn, hz]
    cases (projectFX L.items i {}).zUTC <;> cases (projectFX L.items i {}).zoneOffset <;> trivial

/-- the instant a claimed text denotes after `Format.Parse`'s defaulting: today for a time-only format, the current (or
previous) year for a year-less one -/
def adjAll (adj : Adjust) (cf : CFormat) (now : Now) (c : Civil) : Civil :=
  if cf.noDate then (if adj.date then adjustDate now c else c)
  else if !cf.hasYear then (if adj.year then adjustYear now c else c)
  else c

theorem adjustRes_all {adj : Adjust} {cf : CFormat} {now : Now} {c : Civil} (hz : zoneDispZero c) :
    adjustRes adj cf now c = .ok (adjAll adj cf now c) := by
  unfold zoneDispZero at hz
  unfold adjustRes adjAll
  cases hzc : c.zone with
  | named n d =>
    rw [hzc] at hz
    rw [show d = 0 from hz]
    simp only [bne_self_eq_false, Bool.false_eq_true, if_false, apply_ite FRes.ok]
  | _ => simp only [apply_ite FRes.ok]

theorem adjustRes_congr {adj : Adjust} {cj ck : CFormat} {now : Now} {c : Civil} (h1 : cj.noDate = ck.noDate) (h2 : cj.hasYear = ck.hasYear) :
    adjustRes adj cj now c = adjustRes adj ck now c := by
  simp only [adjustRes, h1, h2]

/-! ## the list -/

theorem parseFrom_agree {adj : Adjust} {now : Now} {buf : Bytes} {c : Civil} :
    ∀ (fmts : List CFormat) (i0 k : Nat) (ck : CFormat), fmts[k]? = some ck →
      (∀ j, j < k → ∀ cj, fmts[j]? = some cj → formatParse adj cj now buf = .err ∨ formatParse adj cj now buf = .ok c) →
      formatParse adj ck now buf = .ok c →
      ∃ j', j' ≤ k ∧ parseFrom adj now buf i0 fmts = .ok (i0 + j') c := by
  intro fmts i0 k ck hk hearlier hok
  obtain ⟨j', cj, hj, hcj, hne, hp⟩ := parseFrom_claimant fmts i0 k ck hk (by rw [hok]; nofun)
  refine ⟨j', hj, ?_⟩
  rcases Nat.lt_or_eq_of_le hj with hlt | rfl
  · rcases hearlier j' hlt cj hcj with h | h
    · exact absurd h hne
    · rw [hp, h]; rfl
  · rw [hk] at hcj; cases hcj; rw [hp, hok]; rfl

theorem formatParse_of_pairOK {adj : Adjust} {now : Now} {cj ck : CFormat} (hpair : pairOK cj ck = true) {i : XInst} (hi : ValidX i)
    {txt : Bytes} {c : Civil} {sh : List BSet} (ht : renderLayout ck.layout i = some txt) (hc : projectX ck.layout i = .ok c)
    (hsh : sh ∈ symLayout ck.layout) (hs : hasShape txt sh) :
    formatParse adj cj now txt = .err ∨ formatParse adj cj now txt = adjustRes adj ck now c := by
  simp only [pairOK] at hpair
  cases hrj : cj.rx with
  | none => rw [hrj] at hpair; cases hpair
  | some rj =>
    rw [hrj] at hpair
    simp only [Bool.or_eq_true] at hpair
    rcases hpair with (hclean | hdot) | htwin
    · -- nothing of `j` matches anywhere
      exact Or.inl (formatParse_err_of_findSG hrj hs (by simpa using List.all_eq_true.mp hclean sh hsh))
    · -- `j` is a dotted format
      simp only [Bool.and_eq_true] at hdot
      exact Or.inl (formatParse_dotted_err hrj hdot.1.1 hdot.1.2 hs (by simpa using List.all_eq_true.mp hdot.2 sh hsh))
    · -- `j` is a twin
      simp only [Bool.and_eq_true, beq_iff_eq] at htwin
      obtain ⟨⟨⟨⟨⟨hnd, hhy⟩, htail⟩, hsup⟩, htw⟩, hsh2⟩ := htwin
      have hone := List.all_eq_true.mp hsh2 sh hsh
      simp only [Bool.or_eq_true, Bool.not_eq_true'] at hone
      rcases hone with hns | hwhole
      · exact Or.inl (formatParse_err_of_findSG hrj hs hns)
      · have hfj : findG cj.guard rj txt = some txt := findG_of_matchAt (matchAt_whole_of_ownMatchD hs hwhole)
        obtain ⟨body, hb, hpt⟩ := parseItems_twin ck.layout.tail i hi cj.layout.items ck.layout.items htw
        rw [renderLayout, hb] at ht
        cases ht
        rcases hpt {} with hnone | hsome
        · have hpl : parseLayout cj.layout (body ++ ck.layout.tail) = .err := by
            simp only [parseLayout, hsup, Bool.not_true, Bool.false_eq_true, if_false, htail, hnone]
          exact Or.inl (by simp only [formatParse, hrj, hfj, hpl])
        · have hpl : parseLayout cj.layout (body ++ ck.layout.tail) = .ok c := by
            simp only [parseLayout, hsup, Bool.not_true, Bool.false_eq_true, if_false, htail, hsome]
            exact hc
          exact Or.inr (by rw [formatParse_of_find hrj hfj hpl, adjustRes_congr hnd hhy])

/-- **first match, in general**: if every earlier format has one of the three certificates against format `k`, the list's
answer for the text of any valid instant in format `k` is exactly the fields format `k` carries — claimed by format `k` or
by an earlier twin that reads the same fields -/
theorem first_match_agree {adj : Adjust} {now : Now} {fmts : List CFormat} {k : Nat} {ck : CFormat} (hk : fmts[k]? = some ck)
    (hidx : idxOK fmts k = true) (hown : ownOK ck = true) (i : XInst) (hi : ValidX i) :
    ∃ txt c j', renderLayout ck.layout i = some txt ∧ projectX ck.layout i = .ok c ∧ j' ≤ k ∧
      parseFirst adj fmts now txt = .ok j' (adjAll adj ck now c) := by
  obtain ⟨txt, c, sh, ht, hc, _, hsh, hs, hfp⟩ := formatParse_own hown i hi
  have hall := adjustRes_all (adj := adj) (cf := ck) (now := now) (projectX_zone hi hc)
  simp only [idxOK, hk, List.all_eq_true, List.mem_range] at hidx
  obtain ⟨j', hj', hpf⟩ := parseFrom_agree (adj := adj) (now := now) (buf := txt) fmts 0 k ck hk
    (fun j hj cj hcj => by
      have hpair := hidx j hj
      rw [hcj] at hpair
      rw [← hall]
      exact formatParse_of_pairOK hpair hi ht hc hsh hs)
    (by rw [hfp, hall])
  exact ⟨txt, c, j', ht, hc, hj', by rw [parseFirst, hpf, Nat.zero_add]⟩

end Logrange.Date

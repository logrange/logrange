import Logrange.Model.WritersLts
/-! # Invariant of the concurrent-writers LTS (`Model/WritersLts.lean`) -/
namespace Logrange.WritersLts

theorem readAll_cons (c : Chunk) (cs : List Chunk) : readAll (c :: cs) = c.recs ++ readAll cs := by simp [readAll]
theorem readAll_nil : readAll [] = [] := rfl
theorem byWriter_append (w : Nat) (a b : List TRec) : byWriter w (a ++ b) = byWriter w a ++ byWriter w b := by
  simp [byWriter]

/-- records of another writer appended to any chunk do not change what writer `v` sees in any suffix of the journal -/
theorem byWriter_drop_upd_other (v : Nat) (new : List TRec) (hn : byWriter v new = []) :
    ∀ (cs : List Chunk) (i k : Nat), byWriter v (readAll ((upd cs i new).drop k)) = byWriter v (readAll (cs.drop k)) := by
  intro cs
  induction cs with
  | nil => intro i k; simp [upd]
  | cons c cs ih =>
    intro i k
    cases i with
    | zero =>
      cases k with
      | zero => simp [upd, readAll_cons, byWriter_append, hn]
      | succ k => simp [upd]
    | succ i =>
      cases k with
      | zero =>
        have := ih i 0
        simp only [List.drop_zero] at this
        simp [upd, readAll_cons, byWriter_append, this]
      | succ k => simpa [upd] using ih i k

theorem readAll_drop_append_empty : ∀ (cs : List Chunk) (k : Nat),
    readAll ((cs ++ [({ recs := [], size := 0 } : Chunk)]).drop k) = readAll (cs.drop k) := by
  intro cs
  induction cs with
  | nil => intro k; cases k <;> simp [readAll]
  | cons c cs ih =>
    intro k
    cases k with
    | zero =>
      have := ih 0
      simp only [List.drop_zero] at this
      simp [readAll_cons, this]
    | succ k => simpa using ih k

theorem byWriter_self (w : Nat) (l : List TRec) (h : ∀ r ∈ l, r.w = w) : byWriter w l = l := by
  simp only [byWriter, List.filter_eq_self]
  intro r hr; simp [h r hr]

theorem byWriter_other (v w : Nat) (l : List TRec) (h : ∀ r ∈ l, r.w = w) (hv : v ≠ w) : byWriter v l = [] := by
  simp only [byWriter, List.filter_eq_nil_iff]
  intro r hr; simp [h r hr]; exact fun e => hv e.symm

theorem byWriter_upd_self (w : Nat) (new : List TRec) (hown : ∀ r ∈ new, r.w = w) : ∀ (cs : List Chunk) (idx : Nat) (c : Chunk),
    cs[idx]? = some c → byWriter w (readAll (cs.drop (idx + 1))) = [] →
    byWriter w (readAll (upd cs idx new)) = byWriter w (readAll cs) ++ new := by
  intro cs
  induction cs with
  | nil => intro idx c h; simp at h
  | cons d ds ih =>
    intro idx c h hheld
    cases idx with
    | zero =>
      rw [List.drop_succ_cons, List.drop_zero] at hheld
      simp only [upd, readAll_cons, byWriter_append, hheld, byWriter_self w new hown, List.append_nil]
    | succ i =>
      simp only [upd, readAll_cons, byWriter_append, ih i c (by simpa using h) (by simpa using hheld), List.append_assoc]

theorem byWriter_upd_other (v w : Nat) (cs : List Chunk) (idx : Nat) (new : List TRec) (hown : ∀ r ∈ new, r.w = w)
    (hv : v ≠ w) : byWriter v (readAll (upd cs idx new)) = byWriter v (readAll cs) :=
  byWriter_drop_upd_other v new (byWriter_other v w new hown hv) cs idx 0

theorem taken_eq_zero (maxSize size : Nat) (l : List TRec) (h : taken maxSize size l = 0) (hsz : ¬ size ≥ maxSize) : l = [] := by
  cases l with
  | nil => rfl
  | cons r rs => simp [taken, hsz] at h

theorem step_chunkWrite (maxSize : Nat) (s s' : State) (w : Nat) (hs : step maxSize s (.chunkWrite w) = some s') :
    ∃ idx c l', (s.loc w).held = some idx ∧ s.chunks[idx]? = some c ∧
      s' = { chunks := upd s.chunks idx ((s.loc w).pending.take (taken maxSize c.size (s.loc w).pending)),
             loc := setLoc s.loc w l' } ∧
      l'.pending = (s.loc w).pending.drop (taken maxSize c.size (s.loc w).pending) ∧
      l'.submitted = (s.loc w).submitted ∧ l'.held = none ∧
      (((s.loc w).active = false → (s.loc w).pending = []) → l'.active = false → l'.pending = []) := by
  simp only [step] at hs
  split at hs
  · exact absurd hs (by simp)
  · rename_i idx hheld
    split at hs
    · exact absurd hs (by simp)
    · rename_i c hc
      refine ⟨idx, c, ?_⟩
      split at hs
      · exact ⟨_, hheld, hc, (Option.some.inj hs).symm, rfl, rfl, rfl, fun _ h => by simpa using h⟩
      · rename_i hn
        have hn0 : taken maxSize c.size (s.loc w).pending = 0 := Nat.eq_zero_of_not_pos hn
        split at hs
        · exact ⟨_, hheld, hc, (Option.some.inj hs).symm, by rw [hn0]; rfl, rfl, rfl, fun h => h⟩
        · rename_i hsz
          have hp := taken_eq_zero maxSize c.size _ hn0 hsz
          exact ⟨_, hheld, hc, (Option.some.inj hs).symm, by rw [hn0]; rfl, rfl, rfl, fun _ _ => hp⟩

/-- the invariant, per writer -/
structure WInv (s : State) (v : Nat) : Prop where
  stored : byWriter v (readAll s.chunks) ++ (s.loc v).pending = (s.loc v).submitted.flatten
  own : ∀ r ∈ (s.loc v).pending, r.w = v
  idle : (s.loc v).active = false → (s.loc v).pending = []
  held : ∀ idx, (s.loc v).held = some idx → byWriter v (readAll (s.chunks.drop (idx + 1))) = []

def SInv (s : State) : Prop := ∀ v, WInv s v

theorem init_inv : SInv {} := by
  intro v
  exact ⟨by simp [readAll, byWriter], by simp, by simp, by simp⟩

theorem setLoc_self (loc : Nat → Local) (w : Nat) (l : Local) : setLoc loc w l w = l := if_pos rfl
theorem setLoc_ne (loc : Nat → Local) (w : Nat) (l : Local) {v : Nat} (hv : v ≠ w) : setLoc loc w l v = loc v := if_neg hv

theorem WInv.other {s s' : State} {v : Nat} (h : WInv s v) (hloc : s'.loc v = s.loc v)
    (hch : ∀ k, byWriter v (readAll (s'.chunks.drop k)) = byWriter v (readAll (s.chunks.drop k))) : WInv s' v := by
  have h0 := hch 0
  simp only [List.drop_zero] at h0
  exact ⟨by rw [hloc, h0]; exact h.stored, by rw [hloc]; exact h.own, by rw [hloc]; exact h.idle,
    fun idx hidx => by rw [hch]; exact h.held idx (hloc ▸ hidx)⟩

theorem WInv.hold {s s' : State} {v : Nat} (h : WInv s v) (l' : Local) (hloc : s'.loc v = l')
    (hp : l'.pending = (s.loc v).pending) (hsub : l'.submitted = (s.loc v).submitted) (ha : l'.active = (s.loc v).active)
    (hch : byWriter v (readAll s'.chunks) = byWriter v (readAll s.chunks))
    (hheld : ∀ idx, l'.held = some idx → byWriter v (readAll (s'.chunks.drop (idx + 1))) = []) : WInv s' v :=
  ⟨by rw [hloc, hp, hsub, hch]; exact h.stored, by rw [hloc, hp]; exact h.own, by rw [hloc, hp, ha]; exact h.idle,
    by rw [hloc]; exact hheld⟩

theorem step_inv (maxSize : Nat) (s s' : State) (l : Label) (hi : SInv s) (hs : step maxSize s l = some s') : SInv s' := by
  cases l with
  | submit w batch =>
    simp only [step] at hs
    split at hs
    · exact absurd hs (by simp)
    · rename_i hact
      obtain rfl := Option.some.inj hs
      intro v
      by_cases hv : v = w
      · subst hv
        have hst := (hi v).stored
        rw [(hi v).idle (by simpa using hact), List.append_nil] at hst
        exact ⟨by simp [setLoc, hst], by simp [setLoc], by simp [setLoc], by simp [setLoc]⟩
      · exact (hi v).other (setLoc_ne _ _ _ hv) (fun _ => rfl)
  | getChunk w =>
    simp only [step] at hs
    split at hs
    · exact absurd hs (by simp)
    · split at hs
      · obtain rfl := Option.some.inj hs
        intro v
        have e0 := readAll_drop_append_empty s.chunks
        by_cases hv : v = w
        · subst hv
          refine (hi v).hold _ (setLoc_self _ _ _) rfl rfl rfl (by have := e0 0; simp only [List.drop_zero] at this; rw [this]) ?_
          intro idx hidx
          obtain rfl := Option.some.inj hidx
          simp [readAll, byWriter]
        · exact (hi v).other (setLoc_ne _ _ _ hv) (fun k => by rw [e0])
      · obtain rfl := Option.some.inj hs
        intro v
        by_cases hv : v = w
        · subst hv
          refine (hi v).hold _ (setLoc_self _ _ _) rfl rfl rfl rfl ?_
          intro idx hidx
          obtain rfl := Option.some.inj hidx
          rw [List.drop_eq_nil_of_le (show s.chunks.length ≤ s.chunks.length - 1 + 1 by omega)]; rfl
        · exact (hi v).other (setLoc_ne _ _ _ hv) (fun _ => rfl)
  | chunkWrite w =>
    obtain ⟨idx, c, l', hheld, hc, rfl, hpend, hsub, hh, hidle⟩ := step_chunkWrite maxSize s s' w hs
    have hw := hi w
    have hown : ∀ r ∈ (s.loc w).pending.take (taken maxSize c.size (s.loc w).pending), r.w = w :=
      fun r hr => hw.own r (List.mem_of_mem_take hr)
    intro v
    by_cases hv : v = w
    · subst hv
      refine ⟨?_, ?_, ?_, ?_⟩
      · simp only [setLoc_self, hpend, hsub, byWriter_upd_self v _ hown s.chunks idx c hc (hw.held idx hheld),
          List.append_assoc, List.take_append_drop]
        exact hw.stored
      · intro r hr
        simp only [setLoc_self, hpend] at hr
        exact hw.own r (List.mem_of_mem_drop hr)
      · simpa only [setLoc_self] using hidle hw.idle
      · intro i hi'
        simp only [setLoc_self, hh] at hi'
        exact absurd hi' (by simp)
    · exact (hi v).other (setLoc_ne _ _ _ hv) (fun k => byWriter_drop_upd_other v _ (byWriter_other v w _ hown hv) s.chunks idx k)

theorem run_inv (maxSize : Nat) : ∀ (sched : List Label) (s : State), SInv s → SInv (run maxSize s sched) := by
  intro sched
  induction sched with
  | nil => intro s h; exact h
  | cons l ls ih =>
    intro s h
    simp only [run]
    cases hs : step maxSize s l with
    | none => simpa using ih s h
    | some s' => simpa using ih s' (step_inv maxSize s s' l h hs)

end Logrange.WritersLts

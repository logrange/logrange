import Logrange.Model.Reorder
import Logrange.Proofs.RebuildHist
/-!
# C02 — the chunk index stays sound for EVERY delivery order of the write notifications (Points level)

`Inv tsOf n ds c`: the entry `c` after the notifications `ds` (a set: only membership is used) of pairwise disjoint batches
of a chunk holding `n` monotone records: every index point lies on the timestamp curve (`OnCurve`) at or before the last
indexed record, which is the last record of a delivered batch; the hull covers every delivered batch; `Recs` is at least
every delivered batch's end. `notify_inv`: one `notify` — whatever the batch's place in the stored order — preserves it
(late → skipped; otherwise the batch lies behind every indexed point and `addInterval` appends). `OnCurve` points are
`LookupSound` for the whole chunk, so both look-ups are sound at every moment, and once every record has been announced
every window is complete.
-/
namespace Logrange.Reorder
open Logrange Logrange.Points Logrange.ChunkHist Logrange.RebuildHist

/-- a point lies on the chunk's timestamp curve (or is the over-wide first point of a rolled-over call) -/
def OnCurve (tsOf : Nat → Int) (p : Pt) : Prop := p.ts = tsOf p.idx ∨ (p.idx = 0 ∧ p.ts ≤ tsOf 0)

/-- a notification of stored records: positions inside the chunk, maximum = last record, minimum = first record (or, for
the chunk's first batch, the over-wide minimum of a call that rolled over), int64 -/
def NoteOk (tsOf : Nat → Int) (n : Nat) (b : Note) : Prop :=
  b.f ≤ b.l ∧ b.l < n ∧ b.mx = tsOf b.l ∧ (b.mn = tsOf b.f ∨ (b.f = 0 ∧ b.mn ≤ tsOf 0)) ∧ minI64 ≤ b.mn

/-- two batches of one chunk occupy disjoint position ranges -/
def Disj (a b : Note) : Prop := a.l < b.f ∨ b.l < a.f

structure Inv (tsOf : Nat → Int) (n : Nat) (ds : List Note) (c : ChunkIdx) : Prop where
  curve : c.corrupted = false → ∀ p ∈ c.pts, OnCurve tsOf p ∧ p.idx ≤ c.lastRec ∧ p.idx < n
  lastIn : c.corrupted = false → c.lastRec > 0 → ∃ b ∈ ds, b.l = c.lastRec
  ptsNe : c.corrupted = false → c.hull ≠ none → c.pts ≠ []
  ptsZero : c.corrupted = false → c.pts ≠ [] → ∃ b ∈ ds, b.f = 0
  hullNone : c.hull = none → ds = []
  hullCov : ∀ b ∈ ds, ∃ h, c.hull = some h ∧ h.minTs ≤ b.mn ∧ b.mx ≤ h.maxTs
  hullLow : ∀ h, c.hull = some h → minI64 ≤ h.minTs
  recsGe : ∀ b ∈ ds, b.l + 1 ≤ c.n
  recsLe : c.n ≤ n
  okAll : ∀ b ∈ ds, b.f ≤ b.l
  nZero : c.hull = none → c.n = 0

theorem inv_init (tsOf : Nat → Int) (n : Nat) : Inv tsOf n [] {} := by
  refine ⟨?_, ?_, ?_, ?_, ?_, ?_, ?_, ?_, ?_, fun b hb => by simp at hb, fun _ => rfl⟩
  · intro _ p hp; simp at hp
  · intro _ h; exact absurd h (by decide)
  · intro _ h; exact absurd rfl h
  · intro _ h; exact absurd rfl h
  · intro _; rfl
  · intro b hb; simp at hb
  · intro h hh; simp at hh
  · intro b hb; simp at hb
  · exact Nat.zero_le _

theorem onCurve_le {tsOf : Nat → Int} {p : Pt} (h : OnCurve tsOf p) : p.ts ≤ tsOf p.idx := by
  rcases h with h | ⟨h1, h2⟩
  · omega
  · rw [h1]; exact h2

theorem newHull_cov (old : Option Hull) (mn mx : Int) :
    (newHull old mn mx).minTs ≤ mn ∧ mx ≤ (newHull old mn mx).maxTs ∧
      ∀ h, old = some h → (newHull old mn mx).minTs ≤ h.minTs ∧ h.maxTs ≤ (newHull old mn mx).maxTs := by
  cases old with
  | none => simp [newHull]
  | some h =>
    simp only [newHull]
    refine ⟨by omega, by omega, ?_⟩
    intro h' e
    simp only [Option.some.injEq] at e
    subst e
    constructor <;> omega

/-- the hull / Recs part of the invariant after any notification -/
theorem inv_hull_step {tsOf : Nat → Int} {n : Nat} {ds : List Note} {c : ChunkIdx} (hi : Inv tsOf n ds c) (b : Note)
    (hb : NoteOk tsOf n b) :
    (∀ a ∈ b :: ds, ∃ h, some (newHull c.hull b.mn b.mx) = some h ∧ h.minTs ≤ a.mn ∧ a.mx ≤ h.maxTs) ∧
    (∀ h, some (newHull c.hull b.mn b.mx) = some h → minI64 ≤ h.minTs) ∧
    (∀ a ∈ b :: ds, a.l + 1 ≤ max c.n (b.l + 1)) ∧ max c.n (b.l + 1) ≤ n := by
  obtain ⟨c1, c2, c3⟩ := newHull_cov c.hull b.mn b.mx
  refine ⟨?_, ?_, ?_, ?_⟩
  · intro a ha
    refine ⟨_, rfl, ?_⟩
    cases ha with
    | head => exact ⟨c1, c2⟩
    | tail _ ha' =>
      obtain ⟨h, e, h1, h2⟩ := hi.hullCov a ha'
      obtain ⟨d1, d2⟩ := c3 h e
      constructor <;> omega
  · intro h e
    simp only [Option.some.injEq] at e
    rw [← e]
    cases hh : c.hull with
    | none => simp only [newHull]; exact hb.2.2.2.2
    | some h0 =>
      have := hi.hullLow h0 hh
      have := hb.2.2.2.2
      simp only [newHull]; omega
  · intro a ha
    cases ha with
    | head => omega
    | tail _ ha' => have := hi.recsGe a ha'; omega
  · have := hi.recsLe; have := hb.2.1; omega

theorem NoteOk.mn_le_mx {tsOf : Nat → Int} {n : Nat} {b : Note} (hb : NoteOk tsOf n b) (hm : Monotone tsOf n) : b.mn ≤ b.mx := by
  obtain ⟨hfl, hln, hmx, hmn, _⟩ := hb
  have h3 := hm b.f b.l hfl hln
  rcases hmn with e | ⟨e1, e2⟩
  · omega
  · have := hm 0 b.l (Nat.zero_le _) hln
    omega

/-- the last indexed record ends a delivered batch, which is disjoint from this one and not behind it -/
theorem inv_front {tsOf : Nat → Int} {n : Nat} (sparse : Nat) {ds : List Note} {c : ChunkIdx} (hi : Inv tsOf n ds c)
    (b : Note) (hd : ∀ a ∈ ds, Disj a b) (hc' : c.corrupted = false)
    (hskip : ¬ (lateByRecs c b ∨ (c.lastRec > 0 ∧ (b.l ≤ c.lastRec ∨ b.l - c.lastRec < sparse)))) :
    ∀ p ∈ c.pts, p.idx < b.f := by
  intro p hp
  obtain ⟨_, hle, _⟩ := hi.curve hc' p hp
  by_cases h0 : c.lastRec > 0
  · obtain ⟨a, ha, e⟩ := hi.lastIn hc' h0
    have hnl : ¬ (b.l ≤ c.lastRec) := fun h => hskip (Or.inr ⟨h0, Or.inl h⟩)
    have := hi.okAll a ha
    rcases hd a ha with h | h <;> omega
  · obtain ⟨a, ha, e⟩ := hi.ptsZero hc' (List.ne_nil_of_mem hp)
    have := hi.okAll a ha
    rcases hd a ha with h | h <;> omega

/-- this is what lets the block tree follow (`tree_append_refines`) -/
theorem inv_append_only {tsOf : Nat → Int} {n : Nat} (sparse : Nat) {ds : List Note} {c : ChunkIdx}
    (hm : Monotone tsOf n) (hi : Inv tsOf n ds c) (b : Note) (hb : NoteOk tsOf n b) (hd : ∀ a ∈ ds, Disj a b)
    (hc' : c.corrupted = false)
    (hskip : ¬ (lateByRecs c b ∨ (c.lastRec > 0 ∧ (b.l ≤ c.lastRec ∨ b.l - c.lastRec < sparse)))) :
    (∀ p ∈ c.pts, p.ts ≤ b.mn) ∧ b.mn ≤ b.mx := by
  refine ⟨fun p hp => ?_, hb.mn_le_mx hm⟩
  obtain ⟨hfl, hln, hmx, hmn, _⟩ := hb
  have h1 := onCurve_le (hi.curve hc' p hp).1
  have h2 := inv_front sparse hi b hd hc' hskip p hp
  have h3 := hm p.idx b.f (by omega) (by omega)
  rcases hmn with e | ⟨e, _⟩ <;> omega

/-- **one notification, whatever its place in the stored order, preserves the invariant** -/
theorem notify_inv {tsOf : Nat → Int} {n : Nat} (sparse bigGap : Nat) {ds : List Note} {c : ChunkIdx}
    (hm : Monotone tsOf n) (hi : Inv tsOf n ds c) (b : Note) (hb : NoteOk tsOf n b) (hd : ∀ a ∈ ds, Disj a b) :
    Inv tsOf n (b :: ds) (notify sparse bigGap c b) := by
  obtain ⟨g1, g2, g3, g4⟩ := inv_hull_step hi b hb
  obtain ⟨hfl, hln, hmx, hmn, hlow⟩ := hb
  have g5 : ∀ a ∈ b :: ds, a.f ≤ a.l := by
    intro a ha
    cases ha with
    | head => exact hfl
    | tail _ ha' => exact hi.okAll a ha'
  have g6 : ∀ (x : Option Hull), x = some (newHull c.hull b.mn b.mx) → x = none → max c.n (b.l + 1) = 0 := by
    intro x e1 e2; rw [e1] at e2; simp at e2
  unfold notify
  simp only []
  by_cases hc : c.corrupted = true
  · -- corrupted already
    rw [if_pos hc]
    refine ⟨?_, ?_, ?_, ?_, ?_, g1, g2, g3, g4, g5, g6 _ rfl⟩ <;> (try (intro h; simp [hc] at h)) <;> (try simp)
  · rw [if_neg hc]
    have hc' : c.corrupted = false := by simpa using hc
    by_cases hnew : c.hull = none ∧ b.f > 0
    · -- first notification of the chunk names firstRec > 0
      rw [if_pos hnew]
      refine ⟨?_, ?_, ?_, ?_, ?_, g1, g2, g3, g4, g5, g6 _ rfl⟩ <;> (try (intro h; simp at h)) <;> (try simp)
    · rw [if_neg hnew]
      by_cases hskip : lateByRecs c b ∨ (c.lastRec > 0 ∧ (b.l ≤ c.lastRec ∨ b.l - c.lastRec < sparse))
      · -- late or sparse: skipped
        rw [if_pos hskip]
        refine ⟨hi.curve, ?_, ?_, ?_, by simp, g1, g2, g3, g4, g5, g6 _ rfl⟩
        · intro h1 h2
          obtain ⟨a, ha, e⟩ := hi.lastIn h1 h2
          exact ⟨a, List.mem_cons_of_mem _ ha, e⟩
        · intro h1 _
          have : c.hull ≠ none := by
            intro e
            rcases hskip with hl | hl
            · have := hi.nZero e
              have := hl.2
              omega
            · have := hi.hullNone e
              subst this
              obtain ⟨a, ha, _⟩ := hi.lastIn hc' hl.1
              simp at ha
          exact hi.ptsNe h1 this
        · intro h1 h2
          obtain ⟨a, ha, e⟩ := hi.ptsZero h1 h2
          exact ⟨a, List.mem_cons_of_mem _ ha, e⟩
      · rw [if_neg hskip]
        by_cases hbig : c.pts = [] ∧ b.l - c.lastRec > bigGap
        · -- big gap
          rw [if_pos hbig]
          refine ⟨?_, ?_, ?_, ?_, ?_, g1, g2, g3, g4, g5, g6 _ rfl⟩ <;> (try (intro h; simp at h)) <;> (try simp)
        · -- addInterval
          rw [if_neg hbig]
          have hfront := inv_front sparse hi b hd hc' hskip
          have hadd := add_of_all_le (it := ⟨⟨b.mn, b.f⟩, ⟨b.mx, b.l⟩⟩)
            (inv_append_only sparse hm hi b ⟨hfl, hln, hmx, hmn, hlow⟩ hd hc' hskip).1
          have hp0 : OnCurve tsOf ⟨b.mn, b.f⟩ := hmn
          have hp1 : OnCurve tsOf ⟨b.mx, b.l⟩ := Or.inl hmx
          refine ⟨?_, ?_, ?_, ?_, by simp, g1, g2, g3, g4, g5, g6 _ rfl⟩
          · intro _ p hp
            rw [hadd] at hp
            split at hp
            · simp at hp
              rcases hp with e | e <;> subst e
              · exact ⟨hp0, hfl, by simp; omega⟩
              · exact ⟨hp1, Nat.le_refl _, hln⟩
            · rw [List.mem_append] at hp
              rcases hp with hp | hp
              · obtain ⟨q1, _, q3⟩ := hi.curve hc' p hp
                have := hfront p hp
                exact ⟨q1, by simp; omega, q3⟩
              · simp at hp; subst hp
                exact ⟨hp1, Nat.le_refl _, hln⟩
          · intro _ _
            exact ⟨b, List.mem_cons_self, rfl⟩
          · intro _ _
            exact add_ne_nil _ _
          · intro _ _
            by_cases hp : c.pts = []
            · -- the chunk's first indexed interval: its first notification named position 0
              by_cases hh : c.hull = none
              · have : ¬ b.f > 0 := fun h => hnew ⟨hh, h⟩
                exact ⟨b, List.mem_cons_self, by omega⟩
              · exact absurd hp (hi.ptsNe hc' hh)
            · obtain ⟨a, ha, e⟩ := hi.ptsZero hc' hp
              exact ⟨a, List.mem_cons_of_mem _ ha, e⟩

/-- points on the curve of monotone data separate the chunk's positions by their timestamp -/
theorem lookupSound_of_curve {tsOf : Nat → Int} {n : Nat} {pts : List Pt} (hm : Monotone tsOf n)
    (h : ∀ p ∈ pts, OnCurve tsOf p ∧ p.idx < n) : LookupSound tsOf n pts := by
  constructor
  · intro p hp q h1 _
    obtain ⟨hc, hlt⟩ := h p hp
    rcases hc with e | ⟨e, _⟩
    · rw [e]; exact hm q p.idx (by omega) hlt
    · omega
  · intro p hp q h1 h2
    obtain ⟨hc, hlt⟩ := h p hp
    have := onCurve_le hc
    have := hm p.idx q (by omega) h2
    omega


/-- a notification in stored order is never late, and with `0 < sparse` "not beyond the last indexed record" is a case of
"fewer than `sparse` records since" -/
theorem notify_inorder {sparse : Nat} (bigGap : Nat) {c : ChunkIdx} {k : Nat} (b : Note) (hs : 0 < sparse) (hk : 0 < k)
    (hf : b.f = c.n) (hl : b.l + 1 = c.n + k) (hh : c.hull ≠ none ∨ c.n = 0) :
    notify sparse bigGap c b = onWrite sparse bigGap c k b.mn b.mx := by
  obtain ⟨f, l, mn, mx⟩ := b
  dsimp only at hf hl ⊢
  have hl' : l = c.n + k - 1 := by omega
  subst hf hl'
  have hn : max c.n (c.n + k - 1 + 1) = c.n + k := by omega
  have hnew : ¬ (c.hull = none ∧ c.n > 0) := fun h => hh.elim (fun h' => h' h.1) (fun h' => by omega)
  have hlate : ¬ lateByRecs c ⟨c.n, c.n + k - 1, mn, mx⟩ := fun h => by have := h.2; dsimp only at this; omega
  have hskip : (c.lastRec > 0 ∧ (c.n + k - 1 ≤ c.lastRec ∨ c.n + k - 1 - c.lastRec < sparse)) ↔
      (c.lastRec > 0 ∧ c.n + k - 1 - c.lastRec < sparse) := by omega
  simp only [notify, onWrite, hn, hnew, hlate, hskip, if_false, false_or]

end Logrange.Reorder

import Logrange.Proofs.RdPaging
/-! Lift of the cursor-level paging theorem to `Logrange.Rd.query` / `pages` (request ids, held cursors, `ApplyState`, limit clamp). -/
set_option linter.unusedSectionVars false
set_option linter.unusedVariables false
namespace Logrange.Rd

def qOne (w : Bool) : Qry := { text := 1, where_ := w }

theorem ql_newCur (j : Journal) (w : Bool) (p : PosText) :
    newCur [(0, j)] (qOne w) p = some (applyPosText (mk1 0 j w) p) := by
  simp [newCur, sortSrcs, insertSrc, resolve, qOne, mk1]

/-- the request is ready to be served from flat index `i` -/
def Ready (j : Journal) (w : Bool) (srv : Server) (req : Req) (i : Nat) : Prop :=
  req.query = some (qOne w) ∧ req.offset = 0 ∧ srv.store = [(0, j)] ∧
  ((req.pos = .empty ∧ i = 0) ∨ ∃ p, req.pos = .map [(0, p)] ∧ flatIdx j p = i) ∧
  (∀ h, req.id > 0 → srv.held.find? (·.id == req.id) = some h →
      h.qtext = 1 ∧ h.pos = req.pos ∧ ∃ p, PC 0 j w h.cur i p)

end Logrange.Rd
namespace Logrange.Rd

def limOf (M : Nat) (req : Req) : Nat := if req.limit > M then M else req.limit

theorem ql_query_held (M : Nat) (srv : Server) (req : Req) (q : Qry) (h0 h : Held)
    (hq : req.query = some q) (hid : req.id > 0) (hf : srv.held.find? (·.id == req.id) = some h0)
    (ha : applyState h0 q.text req.pos = some h) :
    query M srv req =
      let c := offset (setJournals h.cur srv.store) req.offset
      let pg := pageOn (limOf M req) c
      ({ srv with held := { id := h.id, qtext := q.text, pos := .map pg.2.2, cur := pg.1 } :: srv.held.filter (·.id != h.id) },
       { events := pg.2.1, next := { id := h.id, query := some q, pos := .map pg.2.2, limit := limOf M req, wait := req.wait } }) := by
  simp only [query, hq, hid, if_true, hf, Option.bind_some, ha, pageOn, limOf]

theorem ql_query_new (M : Nat) (srv : Server) (req : Req) (q : Qry) (c0 : Cur)
    (hq : req.query = some q)
    (hnf : (if req.id > 0 then srv.held.find? (·.id == req.id) else none) = none)
    (hc : newCur srv.store q req.pos = some c0) :
    let cache := req.wait || limOf M req ≠ req.limit
    let id := if req.id = 0 then srv.nextId else req.id
    let srv1 : Server := if req.id = 0 then { srv with nextId := srv.nextId + 1 } else srv
    let pg := pageOn (limOf M req) (offset c0 req.offset)
    query M srv req =
      if cache then
        ({ srv1 with held := { id := id, qtext := q.text, pos := .map pg.2.2, cur := pg.1 } :: srv1.held.filter (·.id != id) },
         { events := pg.2.1, next := { id := id, query := some q, pos := .map pg.2.2, limit := limOf M req, wait := req.wait } })
      else
        (srv1, { events := pg.2.1, next := { id := 0, query := some q, pos := .map pg.2.2, limit := limOf M req, wait := req.wait } }) := by
  simp only [query, hq, hnf, Option.bind_none, Option.isSome_none, Bool.false_eq_true, if_false, pageOn]
  by_cases h0 : req.id = 0
  · simp only [h0, if_true, hc]
    rfl
  · simp only [h0, if_false, hc]
    rfl
end Logrange.Rd
namespace Logrange.Rd

theorem ql_limOf (M : Nat) (req : Req) : limOf M req = min req.limit M := by
  unfold limOf; split <;> omega

section lift
variable (HG : GetFwdSpec) (HN : NextFwdSpec)
include HG HN

theorem ql_page {j : Journal} {w : Bool} (hs : Sorted j) (M : Nat) (srv : Server) (req : Req) (i : Nat)
    (hr : Ready j w srv req i) :
    ∃ i', (query M srv req).2.events = (FL j w i).take (limOf M req) ∧
      FL j w i' = (FL j w i).drop (limOf M req) ∧
      Ready j w (query M srv req).1 (query M srv req).2.next i' := by
  obtain ⟨hq, hoff, hstore, hpos, hheld⟩ := hr
  have hq1 : (qOne w).text = 1 := rfl
  by_cases hfound : req.id > 0 ∧ ∃ h0, srv.held.find? (·.id == req.id) = some h0
  · obtain ⟨hid, h0, hf⟩ := hfound
    obtain ⟨e1, e2, p, hpc⟩ := hheld h0 hid hf
    have ha : applyState h0 (qOne w).text req.pos = some h0 := by
      simp [applyState, hq1, e1, e2]
    rw [ql_query_held M srv req (qOne w) h0 h0 hq hid hf ha]
    simp only [hoff, hstore]
    have hcur : offset (setJournals h0.cur [(0, j)]) 0 = h0.cur := by
      obtain ⟨it, v, l, m, e, _⟩ := hpc
      rw [e, pg_setJournals]; simp [offset]
    rw [hcur]
    have habs : Abs 0 j w true h0.cur i := by
      obtain ⟨it, v, l, m, e, st, _, _⟩ := hpc; exact ⟨it, v, l, m, e, st⟩
    obtain ⟨ev, i', p', pc', f', pm', fi'⟩ := pg_pageOn_abs HG HN hs (limOf M req) habs
    refine ⟨i', ev, f', rfl, rfl, rfl, Or.inr ⟨p', by rw [pm'], fi'⟩, ?_⟩
    intro h _ hfind
    simp only [List.find?_cons, beq_self_eq_true] at hfind
    cases hfind
    exact ⟨rfl, rfl, p', pc'⟩
  · have hnf : (if req.id > 0 then srv.held.find? (·.id == req.id) else none) = none := by
      by_cases hid : req.id > 0
      · simp only [hid, if_true]
        cases hfd : srv.held.find? (·.id == req.id) with
        | none => rfl
        | some h0 => exact absurd ⟨hid, h0, hfd⟩ hfound
      · simp [hid]
    have hc : newCur srv.store (qOne w) req.pos = some (applyPosText (mk1 0 j w) req.pos) := by
      rw [hstore]; exact ql_newCur j w req.pos
    have habs : Abs 0 j w true (offset (applyPosText (mk1 0 j w) req.pos) req.offset) i := by
      rw [hoff]
      have : ∀ c, offset c 0 = c := by intro c; simp [offset]
      rw [this]
      rcases hpos with ⟨hp, hi⟩ | ⟨p, hp, hi⟩
      · rw [hp, hi]; exact pg_head_abs 0 j w
      · rw [hp, ← hi]; exact pg_fresh_abs 0 j w p
    obtain ⟨ev, i', p', pc', f', pm', fi'⟩ := pg_pageOn_abs HG HN hs (limOf M req) habs
    have hmain := ql_query_new M srv req (qOne w) _ hq hnf hc
    simp only at hmain
    rw [hmain]
    by_cases hcache : (req.wait || decide (limOf M req ≠ req.limit)) = true
    · rw [if_pos hcache]
      refine ⟨i', ev, f', rfl, rfl, ?_, Or.inr ⟨p', by rw [pm'], fi'⟩, ?_⟩
      · by_cases h0 : req.id = 0 <;> simp [h0, hstore]
      · intro h _ hfind
        simp only [List.find?_cons, beq_self_eq_true] at hfind
        cases hfind
        exact ⟨rfl, rfl, p', pc'⟩
    · rw [if_neg hcache]
      refine ⟨i', ev, f', rfl, rfl, ?_, Or.inr ⟨p', by rw [pm'], fi'⟩, ?_⟩
      · by_cases h0 : req.id = 0 <;> simp [h0, hstore]
      · intro h hid _; simp at hid

theorem ql_pagesFrom {j : Journal} {w : Bool} (hs : Sorted j) (M : Nat) (orig : Req) (ho : orig.query = some (qOne w)) :
    ∀ (steps : List Step) (srv : Server) (prev : Page) (i : Nat), Ready j w srv prev.next i →
    (∀ s ∈ steps, s.store' = none) →
    (pagesFrom M orig srv prev steps).flatten = (FL j w i).take ((steps.map (fun s => min s.limit M)).sum) := by
  intro steps
  induction steps with
  | nil => intro srv prev i _ _; simp [pagesFrom]
  | cons st rest ih =>
    intro srv prev i hr hall
    have hst := hall st (List.mem_cons_self ..)
    obtain ⟨hq, hoff, hstore, hpos, hheld⟩ := hr
    -- the request the client builds is ready, whatever it chose
    have hready : Ready j w (if st.resume = .evicted then { srv with held := [] } else srv) (nextReq orig prev st) i := by
      cases hres : st.resume with
      | follow =>
        simp only [nextReq, hres]
        refine ⟨hq, hoff, by simpa using hstore, hpos, ?_⟩
        intro h hid hf; exact hheld h hid (by simpa using hf)
      | evicted =>
        simp only [nextReq, hres]
        refine ⟨hq, hoff, by simpa using hstore, hpos, ?_⟩
        intro h _ hf; simp at hf
      | zeroId =>
        simp only [nextReq, hres]
        refine ⟨hq, hoff, by simpa using hstore, hpos, ?_⟩
        intro h hid _; simp at hid
      | posOnly =>
        simp only [nextReq, hres]
        refine ⟨ho, rfl, by simpa using hstore, hpos, ?_⟩
        intro h hid _; simp at hid
    have hlim : (nextReq orig prev st).limit = st.limit := by
      cases hres : st.resume <;> simp [nextReq, hres]
    obtain ⟨i', ev, f', hr'⟩ := ql_page HG HN hs M _ _ i hready
    rw [pagesFrom]
    simp only [hst]
    rw [List.flatten_cons, ih _ _ i' hr' (fun s hs' => hall s (List.mem_cons_of_mem _ hs')), ev, f',
      ql_limOf, hlim]
    simp only [List.map_cons, List.sum_cons]
    rw [List.take_add]

/-- **paging at the request level** (`Querier.Query` + provider): one partition, every limit list, every resume mode -/
theorem ql_pages {j : Journal} {w : Bool} (hs : Sorted j) (M : Nat) (l0 : Nat) (wait : Bool) (steps : List Step)
    (hall : ∀ s ∈ steps, s.store' = none) :
    (pages M { store := [(0, j)] } { query := some (qOne w), limit := l0, wait := wait } steps).flatten =
      ((flat j).filter (keepW w)).take (((l0 :: steps.map (·.limit)).map (fun l => min l M)).sum) := by
  have hr0 : Ready j w ({ store := [(0, j)] } : Server) { query := some (qOne w), limit := l0, wait := wait } 0 := by
    refine ⟨rfl, rfl, rfl, Or.inl ⟨rfl, rfl⟩, ?_⟩
    intro h hid _; simp at hid
  obtain ⟨i', ev, f', hr'⟩ := ql_page HG HN hs M _ _ 0 hr0
  rw [pages]
  simp only []
  rw [List.flatten_cons, ql_pagesFrom HG HN hs M _ rfl steps _ _ i' hr' hall, ev, f', ql_limOf]
  simp only [List.map_cons, List.sum_cons, List.map_map]
  rw [List.take_add]
  simp [FL, Function.comp_def]

end lift
end Logrange.Rd

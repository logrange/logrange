import Logrange.Model.TIndexSave
import Logrange.Proofs.TIndexRun
/-!
# `getOrCreateJournal` with a failing index save: `tmap` and `smap` stay consistent

Under the roll-back discipline of the code (`GoodFacts`) every sequence of critical sections — with any pattern of failed
saves — keeps `tmap` and `smap` on the same source ids, a refused write leaves no trace, an acknowledged write names a
partition registered in both maps, and the `Visit` that skips unregistered descriptors is the plain filter of `TIndexId`.
-/
namespace Logrange.Proofs.TIndexSave
open Go Logrange.KV Logrange.Tags Logrange.TagsEval Logrange.TIndexId Logrange.TIndexSave Logrange.Proofs.TIndexId
  Logrange.Proofs.TIndexRun

/-- `tmap` and `smap` hold the same source ids -/
def SInv (s : StS) : Prop :=
  (∀ e ∈ s.base.tmap, e.2.src ∈ s.smap) ∧ (∀ i ∈ s.smap, ∃ e ∈ s.base.tmap, e.2.src = i)

/-- the roll-back discipline under which a failed save leaves the two maps consistent: the `tmap` entry is removed, and if
`smap` was written before the save that entry is removed too -/
def GoodFacts (F : Facts) : Prop := F.rollbackTmap = true ∧ (F.smapBeforeSave = true → F.rollbackSmap = true)

theorem codeFacts_good : GoodFacts codeFacts := by
  unfold GoodFacts codeFacts
  decide

theorem sinv_init : SInv {} := by
  refine ⟨?_, ?_⟩
  · intro e he; cases he
  · intro i hi; cases hi

/-- `next` tells whether a descriptor was created -/
theorem getOrCreate_next_iff (s : St) (raw : Bytes) (create : Bool) :
    (getOrCreate s raw create).1.next = s.next ↔ (getOrCreate s raw create).1 = s := by
  constructor
  · intro h
    rcases getOrCreate_cases s raw create with e | ⟨_, _, _, _, _, e⟩
    · exact e
    · rw [e] at h; exact absurd h (Nat.succ_ne_self _)
  · intro h; rw [h]

/-! ## one critical section with the save outcome -/

/-- the three outcomes of a critical section: nothing created; created and saved; created and the save failed -/
theorem getOrCreateS_cases (F : Facts) (s : StS) (raw : Bytes) (create saveOK : Bool) :
    ((getOrCreate s.base raw create).1 = s.base ∧
      getOrCreateS F s raw create saveOK = (s, .res (getOrCreate s.base raw create).2)) ∨
    (∃ tgs, getOrCreate s.base raw create =
        (⟨(line tgs, ⟨s.base.next, tgs⟩) :: s.base.tmap, s.base.next + 1⟩, .ok s.base.next) ∧
      (getOrCreateS F s raw create saveOK =
          (⟨⟨(line tgs, ⟨s.base.next, tgs⟩) :: s.base.tmap, s.base.next + 1⟩, s.base.next :: s.smap⟩,
            .res (.ok s.base.next)) ∨
       getOrCreateS F s raw create saveOK =
          (⟨if F.rollbackTmap then s.base else ⟨(line tgs, ⟨s.base.next, tgs⟩) :: s.base.tmap, s.base.next + 1⟩,
            if F.smapBeforeSave && !F.rollbackSmap then s.base.next :: s.smap else s.smap⟩, .saveFailed))) := by
  unfold getOrCreateS
  rcases getOrCreate_cases s.base raw create with e | ⟨tgs, _, _, _, _, e⟩
  · left
    refine ⟨e, ?_⟩
    revert e
    cases getOrCreate s.base raw create with
    | mk b r => intro e; cases e; exact if_pos rfl
  · right
    refine ⟨tgs, e, ?_⟩
    rw [e]
    have hn : ¬ (s.base.next + 1 = s.base.next) := Nat.succ_ne_self _
    cases saveOK with
    | true => left; simp only [hn, if_false, if_true]
    | false => right; simp only [hn, if_false, Bool.false_eq_true]

/-- with the good roll-back a failed save restores the state -/
theorem good_rollback (F : Facts) (hF : GoodFacts F) (s : StS) (b : St) (i : Nat) :
    (⟨if F.rollbackTmap then s.base else b,
      if F.smapBeforeSave && !F.rollbackSmap then i :: s.smap else s.smap⟩ : StS) = s := by
  obtain ⟨h1, h2⟩ := hF
  have h3 : (F.smapBeforeSave && !F.rollbackSmap) = false := by
    cases hb : F.smapBeforeSave with
    | false => rfl
    | true => rw [h2 hb]; rfl
  rw [h1, h3]
  rfl

theorem getOrCreateS_base (F : Facts) (s : StS) (raw : Bytes) (create saveOK : Bool) :
    (getOrCreateS F s raw create saveOK).1.base = (getOrCreate s.base raw create).1 ∨
    ((getOrCreateS F s raw create saveOK).2 = .saveFailed ∧ F.rollbackTmap = true ∧
      (getOrCreateS F s raw create saveOK).1.base = s.base)
    ∨ ((getOrCreateS F s raw create saveOK).2 = .saveFailed ∧ F.rollbackTmap = false) := by
  rcases getOrCreateS_cases F s raw create saveOK with ⟨e, hS⟩ | ⟨tgs, e, hS | hS⟩
  · left; rw [hS, e]
  · left; rw [hS, e]
  · right
    rw [hS]
    cases hb : F.rollbackTmap with
    | true => left; exact ⟨rfl, rfl, rfl⟩
    | false => right; exact ⟨rfl, rfl⟩

theorem sinv_step (F : Facts) (hF : GoodFacts F) (s : StS) (raw : Bytes) (create saveOK : Bool) (h : SInv s) :
    SInv (getOrCreateS F s raw create saveOK).1 := by
  rcases getOrCreateS_cases F s raw create saveOK with ⟨_, hS⟩ | ⟨tgs, _, hS | hS⟩
  · rw [hS]; exact h
  · rw [hS]
    obtain ⟨h1, h2⟩ := h
    refine ⟨?_, ?_⟩
    · intro x hx
      rcases List.mem_cons.mp hx with hx | hx
      · subst hx; exact List.mem_cons_self
      · exact List.mem_cons_of_mem _ (h1 x hx)
    · intro i hi
      rcases List.mem_cons.mp hi with hi | hi
      · subst hi; exact ⟨_, List.mem_cons_self, rfl⟩
      · obtain ⟨x, hx, hxi⟩ := h2 i hi
        exact ⟨x, List.mem_cons_of_mem _ hx, hxi⟩
  · rw [hS, good_rollback F hF]; exact h

theorem tinv_stepS (F : Facts) (hF : GoodFacts F) (s : StS) (raw : Bytes) (create saveOK : Bool) (h : TInv s.base) :
    TInv (getOrCreateS F s raw create saveOK).1.base := by
  rcases getOrCreateS_cases F s raw create saveOK with ⟨_, hS⟩ | ⟨tgs, e, hS | hS⟩
  · rw [hS]; exact h
  · have := tinv_step s.base raw create h
    rw [e] at this
    rw [hS]; exact this
  · rw [hS, good_rollback F hF]; exact h

theorem inv_runS_from (F : Facts) (hF : GoodFacts F) (ops : List (Bytes × Bool × Bool)) (s : StS)
    (ht : TInv s.base) (hs : SInv s) : TInv (runS F s ops).base ∧ SInv (runS F s ops) := by
  induction ops generalizing s with
  | nil => exact ⟨ht, hs⟩
  | cons op ops ih =>
    obtain ⟨raw, create, ok⟩ := op
    simp only [runS]
    exact ih _ (tinv_stepS F hF s raw create ok ht) (sinv_step F hF s raw create ok hs)

/-- every sequence, including any pattern of failed saves -/
theorem inv_runS (F : Facts) (hF : GoodFacts F) (ops : List (Bytes × Bool × Bool)) :
    TInv (runS F {} ops).base ∧ SInv (runS F {} ops) :=
  inv_runS_from F hF ops {} tinv_init sinv_init

/-- a failed save changes nothing (with the good roll-back): the refused write leaves no trace -/
theorem save_failed_no_trace (F : Facts) (hF : GoodFacts F) (s : StS) (raw : Bytes) (create saveOK : Bool)
    (h : (getOrCreateS F s raw create saveOK).2 = .saveFailed) :
    (getOrCreateS F s raw create saveOK).1.base = s.base ∧ (getOrCreateS F s raw create saveOK).1.smap = s.smap := by
  rcases getOrCreateS_cases F s raw create saveOK with ⟨_, hS⟩ | ⟨tgs, _, hS | hS⟩
  · rw [hS] at h; simp at h
  · rw [hS] at h; simp at h
  · rw [hS, good_rollback F hF]; exact ⟨rfl, rfl⟩

/-- an acknowledged call names a partition that is in both maps -/
theorem acknowledged_registered (F : Facts) (s : StS) (h : SInv s) (raw : Bytes)
    (create saveOK : Bool) (i : Nat) (hr : (getOrCreateS F s raw create saveOK).2 = .res (.ok i)) :
    let s' := (getOrCreateS F s raw create saveOK).1
    (∃ e ∈ s'.base.tmap, e.2.src = i) ∧ i ∈ s'.smap := by
  intro s'
  rcases getOrCreateS_cases F s raw create saveOK with ⟨e, hS⟩ | ⟨tgs, _, hS | hS⟩
  · have hs' : s' = s := by show (getOrCreateS F s raw create saveOK).1 = s; rw [hS]
    rw [hS] at hr
    have hr' : (getOrCreate s.base raw create).2 = .ok i := by simpa using hr
    obtain ⟨x, hx, hxi⟩ := getOrCreate_ok s.base raw create i hr'
    rw [e] at hx
    rw [hs']
    exact ⟨⟨x, hx, hxi⟩, hxi ▸ h.1 x hx⟩
  · have hs' : s' = ⟨⟨(line tgs, ⟨s.base.next, tgs⟩) :: s.base.tmap, s.base.next + 1⟩, s.base.next :: s.smap⟩ := by
      show (getOrCreateS F s raw create saveOK).1 = _; rw [hS]
    rw [hS] at hr
    have hi : s.base.next = i := by simpa using hr
    rw [hs']
    exact ⟨⟨_, List.mem_cons_self, hi⟩, hi ▸ List.mem_cons_self⟩
  · rw [hS] at hr; simp at hr

/-- under `SInv` the `Visit` that skips unregistered descriptors is the plain filter: all the FROM theorems apply -/
theorem visitS_eq_visit (so : StrOps) (s : StS) (h : SInv s) (src : Source) :
    visitS so s src = visit so s.base src := by
  unfold visitS visit
  cases buildSource so src with
  | none => rfl
  | some tef =>
    show some _ = some _
    congr 1
    apply List.filter_congr
    intro d hd
    obtain ⟨e, he, hed⟩ := List.mem_map.mp hd
    have hm : d.src ∈ s.smap := by rw [← hed]; exact h.1 e he
    have hc : s.smap.contains d.src = true := by simpa using hm
    rw [hc, Bool.and_true]

/-- hence every acknowledged partition is selected by an empty FROM -/
theorem acknowledged_selectable (so : StrOps) (F : Facts) (hF : GoodFacts F) (s : StS) (h : SInv s) (raw : Bytes)
    (create saveOK : Bool) (i : Nat) (hr : (getOrCreateS F s raw create saveOK).2 = .res (.ok i)) :
    ∃ ds, visitS so (getOrCreateS F s raw create saveOK).1 .none = some ds ∧ ∃ d ∈ ds, d.src = i := by
  have hs' := sinv_step F hF s raw create saveOK h
  obtain ⟨⟨e, he, hei⟩, _⟩ := acknowledged_registered F s h raw create saveOK i hr
  refine ⟨_, ?_, e.2, List.mem_map_of_mem he, hei⟩
  rw [visitS_eq_visit so _ hs', from_empty]

/-! ## the seeded defect: `smap` registered only after a successful save, no roll-back -/

/-- a failed first write, then the retry is acknowledged with an id that is not in `smap`, and the empty FROM misses it -/
theorem cex_half_registered :
    let F : Facts := ⟨false, false, false⟩
    let s1 := (getOrCreateS F {} [97,61,49] true false)
    let s2 := getOrCreateS F s1.1 [97,61,49] true true
    s1.2 = .saveFailed ∧ s2.2 = .res (.ok 0) ∧ s2.1.smap = [] ∧
    (visitS ⟨id, id, fun _ _ => some false⟩ s2.1 .none).map (fun l => l.map (·.src)) = some [] := by
  decide +kernel

end Logrange.Proofs.TIndexSave

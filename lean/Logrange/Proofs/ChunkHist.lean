import Logrange.Model.ChunkHist
import Logrange.Proofs.Points
/-!
# End-to-end soundness of one chunk's time index over a monotone write history

`Sound` is preserved by every `onWrite` (`onWrite_preserves`) when the timestamps are non-decreasing in stored order and
every notification carries the exact hull of its batch; hence it holds after any such history (`run_sound`), and the
selector's window offers every position whose timestamp lies in the asked range (`window_complete_monotone`).
-/
namespace Logrange.ChunkHist
open Logrange.Points

/-- the invariant of one chunk's index state w.r.t. the records `tsOf 0 … tsOf (c.n - 1)` -/
structure Sound (tsOf : Nat → Int) (c : ChunkIdx) : Prop where
  hullNone : c.n = 0 → c.hull = none
  hull : c.n > 0 → ∃ h, c.hull = some h ∧ HullSound h tsOf c.n ∧ ∃ q, q < c.n ∧ h.minTs = tsOf q
  index : c.corrupted = false → IndexSound tsOf c.n c.pts
  attained : c.corrupted = false → ∀ p ∈ c.pts, ∃ q, q < c.n ∧ p.ts ≤ tsOf q
  emptyStart : c.corrupted = false → c.pts = [] → c.n = 0
  lastRecPts : c.corrupted = false → c.lastRec > 0 → c.pts ≠ []

theorem sound_init (tsOf : Nat → Int) : Sound tsOf {} := by
  refine ⟨fun _ => rfl, ?_, ?_, ?_, fun _ _ => rfl, ?_⟩
  · intro h; exact absurd h (by decide)
  · intro _
    exact ⟨by simp, trivial, trivial, trivial, trivial, fun h => absurd rfl h, fun p hp => by simp at hp⟩
  · intro _ p hp; simp at hp
  · intro _ h; exact absurd h (by decide)

theorem monotone_mono {tsOf : Nat → Int} {m m' : Nat} (hm : Monotone tsOf m) (h : m' ≤ m) : Monotone tsOf m' :=
  fun i j hij hj => hm i j hij (by omega)

theorem add_ne_nil (pts : List Pt) (it : Iv) : add pts it ≠ [] := by
  cases pts with
  | nil => simp [add]
  | cons a r =>
    simp only [add]
    split
    · simp
    · split
      · simp
      · simp

/-- on monotone data every `addInterval` is of this kind -/
theorem add_of_all_le {pts : List Pt} {it : Iv} (h : ∀ p ∈ pts, p.ts ≤ it.p0.ts) :
    add pts it = if pts = [] then [it.p0, it.p1] else pts ++ [it.p1] := by
  cases pts with
  | nil => rfl
  | cons a r => simp only [add, if_pos (cntLE_of_all_le _ _ h), reduceCtorEq, if_false]

theorem mem_add_of_all_le {pts : List Pt} {it : Iv} (h : ∀ p ∈ pts, p.ts ≤ it.p0.ts) {p : Pt}
    (hp : p ∈ add pts it) : p ∈ pts ∨ p = it.p0 ∨ p = it.p1 := by
  rw [add_of_all_le h] at hp
  split at hp
  · exact Or.inr (by simpa using hp)
  · rcases List.mem_append.mp hp with hp | hp
    · exact Or.inl hp
    · exact Or.inr (Or.inr (List.mem_singleton.mp hp))

theorem hullSound_newHull {tsOf : Nat → Int} {old : Option Hull} {n k : Nat} {mn mx : Int}
    (hold : ∀ h, old = some h → HullSound h tsOf n) (hnone : old = none → n = 0)
    (hin : ∀ q, n ≤ q → q < n + k → mn ≤ tsOf q ∧ tsOf q ≤ mx) : HullSound (newHull old mn mx) tsOf (n + k) := by
  intro p hp
  cases old with
  | none => have := hnone rfl; exact hin p (by omega) hp
  | some h =>
    show min h.minTs mn ≤ tsOf p ∧ tsOf p ≤ max h.maxTs mx
    by_cases hpn : p < n
    · have := hold h rfl p hpn
      omega
    · have := hin p (by omega) hp
      omega

/-- the hull part of one step: the widened hull contains all `c.n + k` records and its minimum is attained -/
theorem hull_step {tsOf : Nat → Int} {c : ChunkIdx} {k : Nat} {mn mx : Int} (hs : Sound tsOf c)
    (he : ExactHull tsOf c.n k mn mx) :
    HullSound (newHull c.hull mn mx) tsOf (c.n + k) ∧
      ∃ q, q < c.n + k ∧ (newHull c.hull mn mx).minTs = tsOf q := by
  obtain ⟨hin, _, ⟨qn, hqn1, hqn2, hqn3⟩⟩ := he
  by_cases hn : c.n > 0
  · obtain ⟨h, hh, hsound, q0, hq0, hmin⟩ := hs.hull hn
    refine ⟨hullSound_newHull (fun h' e => by rw [hh, Option.some.injEq] at e; rw [← e]; exact hsound)
      (fun e => by rw [hh] at e; cases e) hin, ?_⟩
    rw [hh]
    show ∃ q, q < c.n + k ∧ min h.minTs mn = tsOf q
    by_cases hle : h.minTs ≤ mn
    · exact ⟨q0, by omega, by omega⟩
    · exact ⟨qn, hqn2, by omega⟩
  · have h0 : c.n = 0 := by omega
    refine ⟨hullSound_newHull (fun h' e => by rw [hs.hullNone h0] at e; cases e) (fun _ => h0) hin, ?_⟩
    rw [hs.hullNone h0]
    exact ⟨qn, hqn2, hqn3.symm⟩

/-- `onWrite`, free of the order of its tests -/
theorem onWrite_cases {sparse bigGap : Nat} {c c' : ChunkIdx} {k : Nat} {mn mx : Int}
    (e : onWrite sparse bigGap c k mn mx = c') :
    c'.n = c.n + k ∧ c'.hull = some (newHull c.hull mn mx) ∧
    (c'.corrupted = true ∨
     (c.corrupted = false ∧ c.lastRec > 0 ∧ c'.corrupted = false ∧ c'.pts = c.pts ∧ c'.lastRec = c.lastRec) ∨
     (c.corrupted = false ∧ c'.corrupted = false ∧ c'.pts = add c.pts ⟨⟨mn, c.n⟩, ⟨mx, c.n + k - 1⟩⟩ ∧
        c'.lastRec = c.n + k - 1)) := by
  subst e
  unfold onWrite
  dsimp only
  split
  · exact ⟨rfl, rfl, Or.inl (by assumption)⟩
  · rename_i hc
    have hc' : c.corrupted = false := by simpa using hc
    split
    · rename_i hskip
      exact ⟨rfl, rfl, Or.inr (Or.inl ⟨hc', hskip.1, hc', rfl, rfl⟩)⟩
    · split
      · exact ⟨rfl, rfl, Or.inl rfl⟩
      · exact ⟨rfl, rfl, Or.inr (Or.inr ⟨hc', hc', rfl, rfl⟩)⟩

theorem onWrite_n (sparse bigGap : Nat) (c : ChunkIdx) (k : Nat) (mn mx : Int) :
    (onWrite sparse bigGap c k mn mx).n = c.n + k :=
  (onWrite_cases rfl).1

/-- **one `onWrite` preserves the invariant** on a monotone stream when the notification carries the exact batch hull -/
theorem onWrite_preserves {tsOf : Nat → Int} {c : ChunkIdx} (sparse bigGap k : Nat) (mn mx : Int) (hs : Sound tsOf c)
    (hk : 0 < k) (hm : Monotone tsOf (c.n + k)) (he : ExactHull tsOf c.n k mn mx) :
    Sound tsOf (onWrite sparse bigGap c k mn mx) := by
  have hh := hull_step hs he
  obtain ⟨hin, ⟨qx, hqx1, hqx2, hqx3⟩, ⟨qn, hqn1, hqn2, hqn3⟩⟩ := he
  generalize e : onWrite sparse bigGap c k mn mx = c'
  obtain ⟨en, eh, hcase⟩ := onWrite_cases e
  have hn0 : c'.n = 0 → c'.hull = none := fun h => by omega
  have hhull : c'.n > 0 → ∃ h, c'.hull = some h ∧ HullSound h tsOf c'.n ∧ ∃ q, q < c'.n ∧ h.minTs = tsOf q :=
    fun _ => ⟨_, eh, by rw [en]; exact hh.1, by rw [en]; exact hh.2⟩
  rcases hcase with hc | ⟨hc, hlast, hc', ep, el⟩ | ⟨hc, hc', ep, el⟩
  · refine ⟨hn0, hhull, ?_, ?_, ?_, ?_⟩
    all_goals (intro h; rw [hc] at h; exact Bool.noConfusion h)
  · have hne : c.pts ≠ [] := hs.lastRecPts hc hlast
    have hlast : ∀ q, c.n ≤ q → q < c.n + k → (lastD c.pts).ts ≤ tsOf q := by
      intro q h1 h2
      obtain ⟨q0, hq0, hle⟩ := hs.attained hc _ (lastD_mem c.pts hne)
      have := hm q0 q (by omega) h2
      omega
    refine ⟨hn0, hhull, ?_, ?_, ?_, ?_⟩
    · intro _; rw [ep, en]
      exact skip_preserves (n' := c.n + k) (hs.index hc) (by omega) hlast
    · intro _ p hp
      rw [ep] at hp
      obtain ⟨q, hq, hle⟩ := hs.attained hc p hp
      exact ⟨q, by omega, hle⟩
    · intro _ h; rw [ep] at h; exact absurd h hne
    · intro _ _; rw [ep]; exact hne
  · have hall : ∀ p ∈ c.pts, p.ts ≤ mn := by
      intro p hp
      obtain ⟨q, hq, hle⟩ := hs.attained hc p hp
      have := hm q qn (by omega) hqn2
      omega
    have hb : BatchIn (Iv.mk ⟨mn, c.n⟩ ⟨mx, c.n + k - 1⟩) tsOf := by
      intro q h1 h2
      dsimp only at h1 h2 ⊢
      exact hin q h1 (by omega)
    have hg : GapCovered c.pts (Iv.mk ⟨mn, c.n⟩ ⟨mx, c.n + k - 1⟩) tsOf := by
      intro q _ h2
      dsimp only at h2 ⊢
      have := hm q qx (by omega) hqx2
      omega
    refine ⟨hn0, hhull, ?_, ?_, ?_, ?_⟩
    · intro _; rw [ep, en]
      exact add_preserves_append (n := c.n) _ (hs.index hc) (cntLE_of_all_le mn c.pts hall) rfl
        (by dsimp only; omega) (by dsimp only; omega) hb hg (fun h => hs.emptyStart hc h)
    · intro _ p hp
      rw [ep] at hp
      rcases mem_add_of_all_le hall hp with hp | hp | hp
      · obtain ⟨q, hq, hle⟩ := hs.attained hc p hp
        exact ⟨q, by omega, hle⟩
      · subst hp; exact ⟨qn, by omega, by dsimp only; omega⟩
      · subst hp; exact ⟨qx, by omega, by dsimp only; omega⟩
    · intro _ h; rw [ep] at h; exact absurd h (add_ne_nil _ _)
    · intro _ _; rw [ep]; exact add_ne_nil _ _

theorem idxOf_eq_some {c : ChunkIdx} {pts : List Pt} (h : idxOf c = some pts) : c.corrupted = false ∧ c.pts = pts := by
  unfold idxOf at h
  cases hc : c.corrupted with
  | true => rw [hc] at h; exact absurd h (by simp)
  | false => rw [hc] at h; exact ⟨rfl, by simpa using h⟩

/-! ## histories -/

theorem total_nil : total [] = 0 := rfl
theorem total_cons (b : Batch) (r : List Batch) : total (b :: r) = b.k + total r := by
  simp [total]

theorem runFrom_sound {tsOf : Nat → Int} (sparse bigGap : Nat) : ∀ (bs : List Batch) (c : ChunkIdx),
    Sound tsOf c → Monotone tsOf (c.n + total bs) → BatchesExact tsOf c.n bs →
    Sound tsOf (runFrom sparse bigGap c bs) ∧ (runFrom sparse bigGap c bs).n = c.n + total bs := by
  intro bs
  induction bs with
  | nil => intro c hs _ _; exact ⟨hs, by simp [runFrom, total_nil]⟩
  | cons b r ih =>
    intro c hs hm he
    obtain ⟨hk, hex, hrest⟩ := he
    rw [total_cons] at hm
    have hstep := onWrite_preserves sparse bigGap b.k b.mn b.mx hs hk (monotone_mono hm (by omega)) hex
    have hn := onWrite_n sparse bigGap c b.k b.mn b.mx
    have := ih (onWrite sparse bigGap c b.k b.mn b.mx) hstep (by rw [hn]; exact monotone_mono hm (by omega))
      (by rw [hn]; exact hrest)
    refine ⟨this.1, ?_⟩
    show (runFrom sparse bigGap (onWrite sparse bigGap c b.k b.mn b.mx) r).n = _
    rw [this.2, hn, total_cons]
    omega

/-- **a monotone history with exact batch hulls leaves a sound chunk index** -/
theorem run_sound {tsOf : Nat → Int} (sparse bigGap : Nat) (bs : List Batch) (hm : Monotone tsOf (total bs))
    (he : BatchesExact tsOf 0 bs) :
    Sound tsOf (run sparse bigGap bs) ∧ (run sparse bigGap bs).n = total bs := by
  have := runFrom_sound (tsOf := tsOf) sparse bigGap bs {} (sound_init tsOf)
    (by show Monotone tsOf (0 + total bs); rw [Nat.zero_add]; exact hm) he
  refine ⟨this.1, ?_⟩
  show (runFrom sparse bigGap {} bs).n = total bs
  rw [this.2]
  show 0 + total bs = total bs
  omega

/-- **the payoff**: after a monotone history the selector's window of the chunk offers every position whose timestamp
lies in the asked range -/
theorem window_complete_monotone {tsOf : Nat → Int} (sparse bigGap : Nat) (bs : List Batch)
    (hm : Monotone tsOf (total bs)) (he : BatchesExact tsOf 0 bs) (hn : total bs ≤ maxU32)
    (hlow : ∀ q, q < total bs → minI64 ≤ tsOf q) (r : TmRange) (p : Nat) (hp : p < total bs)
    (hr : inRange r (tsOf p)) :
    ∃ h, (run sparse bigGap bs).hull = some h ∧ inWindow (window h (idxOf (run sparse bigGap bs)) r) p := by
  obtain ⟨hs, hnn⟩ := run_sound (tsOf := tsOf) sparse bigGap bs hm he
  obtain ⟨h, hh, hsound, q, hq, hmin⟩ := hs.hull (by omega)
  rw [hnn] at hsound hq
  refine ⟨h, hh, ?_⟩
  apply window_complete (tsOf := tsOf) (n := total bs) h _ r hsound ?_ hn ?_ p hp hr
  · intro pts hpts
    obtain ⟨hc, e⟩ := idxOf_eq_some hpts
    rw [← e, ← hnn]; exact hs.index hc
  · rw [hmin]; exact hlow q hq

/-! ## non-vacuity: append, skip, append on a concrete history -/

example : (run 250 5000 [⟨300, 100, 200⟩, ⟨10, 200, 205⟩, ⟨300, 205, 300⟩]).pts =
    [⟨100, 0⟩, ⟨200, 299⟩, ⟨300, 609⟩] := by decide +kernel

example : (run 250 5000 [⟨300, 100, 200⟩, ⟨10, 200, 205⟩]).pts = [⟨100, 0⟩, ⟨200, 299⟩] ∧
    (run 250 5000 [⟨300, 100, 200⟩, ⟨10, 200, 205⟩]).lastRec = 299 ∧
    (run 250 5000 [⟨300, 100, 200⟩, ⟨10, 200, 205⟩]).n = 310 := by decide +kernel

example : (run 250 5000 [⟨300, 100, 200⟩, ⟨10, 200, 205⟩, ⟨300, 205, 300⟩]).lastRec = 609 ∧
    (run 250 5000 [⟨300, 100, 200⟩, ⟨10, 200, 205⟩, ⟨300, 205, 300⟩]).hull = some ⟨100, 300⟩ ∧
    (run 250 5000 [⟨300, 100, 200⟩, ⟨10, 200, 205⟩, ⟨300, 205, 300⟩]).corrupted = false := by decide +kernel

/-- a first notification that arrives more than `bigGap` records late drops the index -/
example : idxOf (run 250 5000 [⟨6000, 1, 2⟩]) = none := by decide +kernel

end Logrange.ChunkHist

import Logrange.Proofs.Mixer
import Logrange.Model.MixerErr
/-!
# Positions in the leaf contract (an ADDED structure: nothing of `LawfulSource` changes)

`LawfulSource` (Proofs/Mixer.lean) speaks about streams of events only. `crsr.Offset`/`iterateToPos` remember `CurrentPos()` of the
merged cursor and walk until it shows up again, so laws about them need to know *which position the cursor reports while it shows
which event*. `LawfulSourcePos` adds that to the contract of a leaf — `pview s`: the positions of the events of `view s`, in stream
order — and this file lifts it to trees of mixers:

* `It.curPosS` — `Mixer.CurrentPos` over plain sources (the selected source's position, `none` = `IteratorPosUnknown`);
* `It.headPos` — SPEC: the position of the head event of the tree's stream (the head of the source the merge selects);
* `It.get_placed` — after a `Get` the tree reports exactly the position of the event it shows (`Placed`), in every reachable state
  (`WFP`: the invariant "a selected child is placed", kept by `Get`, `Next`, `Release`, `SetBackward`).
-/
namespace Logrange.Mixer
open LawfulSource

/-- the added part of the leaf contract. `pview s` = the positions `CurrentPos` reports for the events of `view s`, in order. -/
class LawfulSourcePos (σ : Type) [Source σ] [LawfulSource σ] [SourcePos σ] where
  pview : σ → List (Int × Int)
  pview_length : ∀ s : σ, wf s → (pview s).length = (view s).length
  /-- after a `Get` the source stands on the head event -/
  pos_get : ∀ s : σ, wf s → ∀ p, (pview s).head? = some p → SourcePos.pos (Source.get s).1 = p
  pview_get : ∀ s : σ, wf s → pview (Source.get s).1 = pview s
  pview_next : ∀ s : σ, wf s → settled s → pview (Source.next s) = (pview s).tail
  /-- `Release` gives resources back; it moves nothing and the reported position stays -/
  pview_release : ∀ s : σ, wf s → pview (Source.release s) = pview s ∧ SourcePos.pos (Source.release s) = SourcePos.pos s

namespace It
variable {σ : Type} [Source σ] [LawfulSource σ] [SourcePos σ]

/-- `Mixer.CurrentPos` (and `LogEventIterator.CurrentPos` at a leaf) -/
def curPosS : It σ → Option (Int × Int)
  | .leaf s => some (SourcePos.pos s)
  | .mix m a b => if m.st = 1 then a.curPosS else if m.st = 2 then b.curPosS else none

/-! `headPos`/`WFP` below and their twins of `Proofs/MixerPosS.lean` differ only in where the positions `pv` of a leaf's events come
from and in which leaf states (`sync`) the position law is claimed; this section is generic in both. -/

section Generic
variable (pv : σ → List (Int × Int)) (sync : σ → Prop)

structure PosLaws : Prop where
  pview_length : ∀ s : σ, LawfulSource.wf s → (pv s).length = (LawfulSource.view s).length
  sync_get : ∀ s : σ, LawfulSource.wf s → sync s → sync (Source.get s).1
  sync_next : ∀ s : σ, LawfulSource.wf s → LawfulSource.settled s → sync s → sync (Source.next s)
  sync_release : ∀ s : σ, LawfulSource.wf s → sync s → sync (Source.release s)
  pos_get : ∀ s : σ, LawfulSource.wf s → sync s → ∀ p, (pv s).head? = some p → SourcePos.pos (Source.get s).1 = p
  pview_get : ∀ s : σ, LawfulSource.wf s → pv (Source.get s).1 = pv s
  pview_next : ∀ s : σ, LawfulSource.wf s → LawfulSource.settled s → pv (Source.next s) = (pv s).tail
  pview_release : ∀ s : σ, LawfulSource.wf s → pv (Source.release s) = pv s ∧ SourcePos.pos (Source.release s) = SourcePos.pos s

/-- `hp` is the position of the head event, `W` the invariant "every selected child reports it", `Y` "every source is in a
`sync` state" -/
structure PosSpec (hp : It σ → Option (Int × Int)) (W Y : It σ → Prop) : Prop where
  hp_leaf : ∀ s, hp (.leaf s) = (pv s).head?
  hp_mix : ∀ m a b, hp (.mix m a b) =
    if sel m.bkwd a.view b.view = 1 then hp a else if sel m.bkwd a.view b.view = 2 then hp b else none
  W_leaf : ∀ s, W (.leaf s)
  W_mix : ∀ m a b, W (.mix m a b) ↔ W a ∧ W b ∧ (m.st = 1 → ∀ p, hp a = some p → a.curPosS = some p) ∧
    (m.st = 2 → ∀ p, hp b = some p → b.curPosS = some p)
  Y_leaf : ∀ s, Y (.leaf s) ↔ sync s
  Y_mix : ∀ m a b, Y (.mix m a b) ↔ Y a ∧ Y b

variable {pv sync} {hp : It σ → Option (Int × Int)} {W Y : It σ → Prop} (L : PosLaws pv sync) (S : PosSpec pv sync hp W Y)
include L S

theorem PosSpec.none_of_empty (t : It σ) (h : t.WF) (he : t.view = []) : hp t = none := by
  cases t with
  | leaf s =>
    have := L.pview_length s h
    rw [show LawfulSource.view s = [] from he] at this
    rw [S.hp_leaf, List.eq_nil_of_length_eq_zero this]; rfl
  | mix m a b =>
    obtain ⟨ea, eb⟩ := mergeSpec_eq_nil (show mergeSpec m.bkwd a.view b.view = [] from he)
    rw [S.hp_mix, ea, eb]
    rfl

theorem PosSpec.hp_get (t : It σ) (h : t.WF) : hp t.get.1 = hp t := by
  induction t with
  | leaf s => rw [get, S.hp_leaf, S.hp_leaf, L.pview_get s h]
  | mix m a b iha ihb =>
    have G := get_spec (It.mix m a b) h
    obtain ⟨wa, wb, _⟩ := h
    have ka := m.selectState_fst (P := fun x => x.view = a.view ∧ hp x = hp a) a b a.get b.get ⟨rfl, rfl⟩
      ⟨(get_spec a wa).2.1, iha wa⟩
    have kb := m.selectState_snd (P := fun x => x.view = b.view ∧ hp x = hp b) a b a.get b.get ⟨rfl, rfl⟩
      ⟨(get_spec b wb).2.1, ihb wb⟩
    simp only [get] at G ⊢
    rw [S.hp_mix, S.hp_mix, ka.1, ka.2, kb.1, kb.2, show (m.selectState a b a.get b.get).1.bkwd = m.bkwd from G.2.2.2.1]

omit L in
theorem PosSpec.placed_of_selected (m : MixSt) (a b : It σ) (hs : m.st = sel m.bkwd a.view b.view)
    (p1 : m.st = 1 → ∀ p, hp a = some p → a.curPosS = some p) (p2 : m.st = 2 → ∀ p, hp b = some p → b.curPosS = some p)
    (p : Int × Int) (h : hp (.mix m a b) = some p) : (It.mix m a b).curPosS = some p := by
  rw [S.hp_mix, ← hs] at h
  unfold curPosS
  by_cases c1 : m.st = 1
  · rw [if_pos c1] at h ⊢; exact p1 c1 p h
  · rw [if_neg c1] at h ⊢
    by_cases c2 : m.st = 2
    · rw [if_pos c2] at h ⊢; exact p2 c2 p h
    · rw [if_neg c2] at h; cases h

theorem PosSpec.get_placed (t : It σ) (h : t.WF) (hy : Y t) (hw : W t) :
    W t.get.1 ∧ ∀ p, hp t.get.1 = some p → t.get.1.curPosS = some p := by
  induction t with
  | leaf s =>
    refine ⟨S.W_leaf _, fun p hp' => ?_⟩
    rw [get, S.hp_leaf, L.pview_get s h] at hp'
    rw [get, curPosS, L.pos_get s h ((S.Y_leaf s).mp hy) p hp']
  | mix m a b iha ihb =>
    obtain ⟨ya, yb⟩ := (S.Y_mix m a b).mp hy
    obtain ⟨pa, pb, p1, p2⟩ := (S.W_mix m a b).mp hw
    have G := get_spec (It.mix m a b) h
    obtain ⟨wa, wb, da, db, e1, e2, hst⟩ := h
    by_cases h0 : m.st = 0
    · obtain ⟨_, _, _, _, s5, s6, _, _⟩ :=
        selectState_sound m a b a.get b.get a.view b.view h0 e1 e2 (get_spec a wa).1 (get_spec b wb).1 _ rfl
      have hne := m.selectState_st_ne a b a.get b.get
      have wpa := m.selectState_fst (P := W) a b a.get b.get pa (iha wa ya pa).1
      have wpb := m.selectState_snd (P := W) a b a.get b.get pb (ihb wb yb pb).1
      simp only [get] at G ⊢
      generalize m.selectState a b a.get b.get = r at *
      obtain ⟨m', a', b'⟩ := r
      have pl1 : m'.st = 1 → ∀ p, hp a' = some p → a'.curPosS = some p := fun h1 => by
        rw [show a' = a.get.1 from (s5 h1).2]; exact (iha wa ya pa).2
      have pl2 : m'.st = 2 → ∀ p, hp b' = some p → b'.curPosS = some p := fun h2 => by
        rw [show b' = b.get.1 from (s6 h2).2]; exact (ihb wb yb pb).2
      exact ⟨(S.W_mix _ _ _).mpr ⟨wpa, wpb, pl1, pl2⟩,
        S.placed_of_selected m' a' b' (G.2.2.1.2.2.2.2.2.2.resolve_left hne).1 pl1 pl2⟩
    · rw [get, MixSt.selectState_of_ne _ _ _ _ _ h0]
      exact ⟨hw, S.placed_of_selected m a b (hst.resolve_left h0).1 p1 p2⟩

theorem PosSpec.get_synced (t : It σ) (h : t.WF) (hy : Y t) : Y t.get.1 := by
  induction t with
  | leaf s => exact (S.Y_leaf _).mpr (L.sync_get s h ((S.Y_leaf s).mp hy))
  | mix m a b iha ihb =>
    obtain ⟨ya, yb⟩ := (S.Y_mix m a b).mp hy
    exact (S.Y_mix _ _ _).mpr ⟨m.selectState_fst a b _ _ ya (iha h.1 ya), m.selectState_snd a b _ _ yb (ihb h.2.1 yb)⟩

theorem PosSpec.release_synced (t : It σ) (h : t.WF) (hy : Y t) : Y t.release := by
  induction t with
  | leaf s => exact (S.Y_leaf _).mpr (L.sync_release s h ((S.Y_leaf s).mp hy))
  | mix m a b iha ihb =>
    obtain ⟨ya, yb⟩ := (S.Y_mix m a b).mp hy
    exact (S.Y_mix _ _ _).mpr ⟨iha h.1 ya, ihb h.2.1 yb⟩

omit S in
theorem PosLaws.release_curPosS (t : It σ) (h : t.WF) : t.release.curPosS = t.curPosS := by
  induction t with
  | leaf s => simp only [release, curPosS]; rw [(L.pview_release s h).2]
  | mix m a b iha ihb =>
    obtain ⟨wa, wb, _⟩ := h
    simp only [release, curPosS]
    by_cases c1 : m.st = 1
    · simp [c1, iha wa]
    · by_cases c2 : m.st = 2
      · simp [c2, ihb wb]
      · by_cases c3 : m.st = 3 <;> simp [c1, c2, c3]

theorem PosSpec.release_hp (t : It σ) (h : t.WF) : hp t.release = hp t := by
  induction t with
  | leaf s => rw [release, S.hp_leaf, S.hp_leaf, (L.pview_release s h).1]
  | mix m a b iha ihb =>
    obtain ⟨wa, wb, _⟩ := h
    rw [release, S.hp_mix, S.hp_mix, (release_spec a wa).1, (release_spec b wb).1, iha wa, ihb wb]

theorem PosSpec.release_W (t : It σ) (h : t.WF) (hw : W t) : W t.release := by
  induction t with
  | leaf s => exact S.W_leaf _
  | mix m a b iha ihb =>
    obtain ⟨pa, pb, p1, p2⟩ := (S.W_mix m a b).mp hw
    have wa := h.1
    have wb := h.2.1
    rw [release]
    refine (S.W_mix _ _ _).mpr ⟨iha wa pa, ihb wb pb, fun h1 p hp' => ?_, fun h2 p hp' => ?_⟩
    · have : m.st = 1 := by by_cases c3 : m.st = 3 <;> simp [c3] at h1 <;> exact h1
      rw [S.release_hp L a wa] at hp'
      rw [L.release_curPosS a wa]; exact p1 this p hp'
    · have : m.st = 2 := by by_cases c3 : m.st = 3 <;> simp [c3] at h2 <;> exact h2
      rw [S.release_hp L b wb] at hp'
      rw [L.release_curPosS b wb]; exact p2 this p hp'

/-- `SetBackward` leaves every mixer it switches unselected: the invariant holds trivially there -/
theorem PosSpec.setBackward_W (bk : Bool) (t : It σ) (h : t.WF) (hw : W t) : W (t.setBackward bk) := by
  induction t with
  | leaf s => exact S.W_leaf _
  | mix m a b iha ihb =>
    obtain ⟨pa, pb, _, _⟩ := (S.W_mix m a b).mp hw
    have wa := h.1
    have wb := h.2.1
    simp only [setBackward]
    split
    · exact hw
    · simp only [release]
      exact (S.W_mix _ _ _).mpr ⟨S.release_W L _ (setBackward_spec bk a wa).1 (iha wa pa),
        S.release_W L _ (setBackward_spec bk b wb).1 (ihb wb pb), nofun, nofun⟩

/-- `Next` keeps the invariant (the mixer it passes is left unselected) -/
theorem PosSpec.next_W (t : It σ) (h : t.WF) (hy : Y t) (hw : W t) : W t.next := by
  induction t using size_induction with
  | leaf s => rw [next]; exact S.W_leaf _
  | mix m a b iha ihb =>
    obtain ⟨_, _, gw, _, _⟩ := get_spec (It.mix m a b) h
    have P := (S.get_placed L (It.mix m a b) h hy hw).1
    have Yg := S.get_synced L (It.mix m a b) h hy
    have sz := selectState_size m a b
    rw [next_mix]
    simp only [get] at gw P Yg ⊢
    obtain ⟨pa, pb, _, _⟩ := (S.W_mix _ _ _).mp P
    obtain ⟨ya, yb⟩ := (S.Y_mix _ _ _).mp Yg
    split
    · exact (S.W_mix _ _ _).mpr ⟨iha _ sz.1 gw.1 ya pa, pb, nofun, nofun⟩
    · split
      · exact (S.W_mix _ _ _).mpr ⟨pa, ihb _ sz.2 gw.2.1 yb pb, nofun, nofun⟩
      · exact (S.W_mix _ _ _).mpr ⟨pa, pb, nofun, nofun⟩

theorem PosSpec.next_synced (t : It σ) (h : t.WF) (hs : t.settled) (hy : Y t) : Y t.next := by
  induction t using size_induction with
  | leaf s => rw [next]; exact (S.Y_leaf _).mpr (L.sync_next s h hs ((S.Y_leaf s).mp hy))
  | mix m a b iha ihb =>
    obtain ⟨_, _, gw, _, _⟩ := get_spec (It.mix m a b) h
    have Yg := S.get_synced L (It.mix m a b) h hy
    have hne := m.selectState_st_ne a b a.get b.get
    have sz := selectState_size m a b
    rw [next_mix]
    simp only [get] at gw Yg ⊢
    obtain ⟨wa, wb, _, _, _, _, hst⟩ := gw
    obtain ⟨_, hs2, hs3⟩ := hst.resolve_left hne
    obtain ⟨ya, yb⟩ := (S.Y_mix _ _ _).mp Yg
    split
    · rename_i h1; exact (S.Y_mix _ _ _).mpr ⟨iha _ sz.1 wa (hs2 h1).2 ya, yb⟩
    · split
      · rename_i h2; exact (S.Y_mix _ _ _).mpr ⟨ya, ihb _ sz.2 wb (hs3 h2).2 yb⟩
      · exact (S.Y_mix _ _ _).mpr ⟨ya, yb⟩

omit L in
/-- the position of the head event is the position of the head of one of the sources -/
theorem PosSpec.hp_mem_leaves (t : It σ) (p : Int × Int) (h : hp t = some p) : ∃ s ∈ t.leaves, (pv s).head? = some p := by
  induction t with
  | leaf s => exact ⟨s, List.mem_singleton.mpr rfl, S.hp_leaf s ▸ h⟩
  | mix m a b iha ihb =>
    rw [S.hp_mix] at h
    split at h
    · obtain ⟨s, hs, e⟩ := iha h
      exact ⟨s, List.mem_append.mpr (Or.inl hs), e⟩
    · split at h
      · obtain ⟨s, hs, e⟩ := ihb h
        exact ⟨s, List.mem_append.mpr (Or.inr hs), e⟩
      · cases h

end Generic

variable [LawfulSourcePos σ]

/-- SPEC: the position of the head event of the tree's stream -/
def headPos : It σ → Option (Int × Int)
  | .leaf s => (LawfulSourcePos.pview s).head?
  | .mix m a b => if sel m.bkwd a.view b.view = 1 then a.headPos else if sel m.bkwd a.view b.view = 2 then b.headPos else none

/-- the tree reports the position of the event it shows -/
def Placed (t : It σ) : Prop := ∀ p, t.headPos = some p → t.curPosS = some p

/-- every selected child is placed -/
def WFP : It σ → Prop
  | .leaf _ => True
  | .mix m a b => a.WFP ∧ b.WFP ∧ (m.st = 1 → a.Placed) ∧ (m.st = 2 → b.Placed)

theorem posLaws : PosLaws (σ := σ) LawfulSourcePos.pview (fun _ => True) where
  pview_length := LawfulSourcePos.pview_length
  sync_get _ _ _ := trivial
  sync_next _ _ _ _ := trivial
  sync_release _ _ _ := trivial
  pos_get s h _ := LawfulSourcePos.pos_get s h
  pview_get := LawfulSourcePos.pview_get
  pview_next := LawfulSourcePos.pview_next
  pview_release := LawfulSourcePos.pview_release

theorem posSpec : PosSpec (σ := σ) LawfulSourcePos.pview (fun _ => True) headPos WFP (fun _ => True) where
  hp_leaf _ := rfl
  hp_mix _ _ _ := rfl
  W_leaf _ := trivial
  W_mix _ _ _ := Iff.rfl
  Y_leaf _ := Iff.rfl
  Y_mix _ _ _ := ⟨fun _ => ⟨trivial, trivial⟩, fun _ => trivial⟩

theorem headPos_none_of_empty (t : It σ) (h : t.WF) (he : t.view = []) : t.headPos = none :=
  posSpec.none_of_empty posLaws t h he

/-- `Get` does not change the position of the head -/
theorem headPos_get (t : It σ) (h : t.WF) : t.get.1.headPos = t.headPos := posSpec.hp_get posLaws t h

/-- **after a `Get` the merged cursor reports the position of the event it shows**, in every reachable state; and the invariant
is kept -/
theorem get_placed (t : It σ) (h : t.WF) (hp : t.WFP) : t.get.1.WFP ∧ t.get.1.Placed :=
  posSpec.get_placed posLaws t h trivial hp

/-- a fresh mixer satisfies the invariant -/
theorem init_WFP (a b : It σ) (ha : a.WFP) (hb : b.WFP) : (init a b).WFP := ⟨ha, hb, nofun, nofun⟩

theorem release_curPosS (t : It σ) (h : t.WF) : t.release.curPosS = t.curPosS := posLaws.release_curPosS t h

theorem release_headPos (t : It σ) (h : t.WF) : t.release.headPos = t.headPos := posSpec.release_hp posLaws t h

/-- `Release` keeps the invariant and the reported position -/
theorem release_WFP (t : It σ) (h : t.WF) (hp : t.WFP) : t.release.WFP := posSpec.release_W posLaws t h hp

/-- `SetBackward` leaves every mixer it switches unselected: the invariant holds trivially there -/
theorem setBackward_WFP (bk : Bool) (t : It σ) (h : t.WF) (hp : t.WFP) : (t.setBackward bk).WFP :=
  posSpec.setBackward_W posLaws bk t h hp

/-- `Next` keeps the invariant (the mixer it passes is left unselected) -/
theorem next_WFP (t : It σ) (h : t.WF) (hp : t.WFP) : t.next.WFP := posSpec.next_W posLaws t h trivial hp

/-- the position of the head event is the position of the head of one of the sources -/
theorem headPos_mem_leaves (t : It σ) (p : Int × Int) (h : t.headPos = some p) :
    ∃ s ∈ t.leaves, (LawfulSourcePos.pview s).head? = some p := posSpec.hp_mem_leaves t p h

end It
end Logrange.Mixer

import Logrange.Model.ForwarderSplit
import Logrange.Proofs.Forwarder
/-! Invariant of the statement-level forwarder LTS (`Model/ForwarderSplit.lean`, code order: position set after the
sink accepted), the quiet-iteration lemma, and the simulation of the atomic LTS (`Model/Forwarder.lean`) by the
statement-level one along `expand`. -/
namespace Logrange.ForwarderSplit
open Logrange.Forwarder (range'_extend cover_extend allLt_extend min_add_min)

theorem inflight_idle : inflight .idle = 0 := rfl
theorem inflight_got (k : Nat) : inflight (.got k) = 0 := rfl
theorem inflight_accepted (k : Nat) : inflight (.accepted k) = k := rfl
theorem inflight_setting : inflight .setting = 0 := rfl
theorem inflight_stopped : inflight .stopped = 0 := rfl

def PcOk (s : S) : Prop :=
  match s.pc with
  | .got k => 0 < k ∧ s.pos + k ≤ s.n ∧ s.desc = s.pos
  | .accepted k => 0 < k ∧ s.desc = s.pos
  | .setting => s.desc ≤ s.pos
  | _ => s.desc = s.pos

structure SInv (s : S) : Prop where
  pcOk : PcOk s
  posLe : s.pos + inflight s.pc ≤ s.n
  diskLe : s.disk ≤ s.desc
  tmpOk : ∀ p, s.tmp = some p → s.disk ≤ p ∧ p ≤ s.desc
  startLe : s.sessionStart ≤ s.pos
  sessEq : s.sess = List.range' s.sessionStart (s.pos + inflight s.pc - s.sessionStart)
  cover : ∀ i, s.start0 ≤ i → i < s.high → i ∈ s.all
  allLt : ∀ i ∈ s.all, s.start0 ≤ i ∧ i < s.high
  posHigh : s.pos + inflight s.pc ≤ s.high
  highLe : s.high ≤ s.n
  s0Disk : s.start0 ≤ s.disk
  s0Sess : s.start0 ≤ s.sessionStart
  accEq : s.pos + inflight s.pc = s.disk + s.accSince
  accTmpEq : ∀ p, s.tmp = some p → s.pos + inflight s.pc = p + s.accTmp

theorem SInv.descLe {s : S} (h : SInv s) : s.desc ≤ s.pos := by
  have := h.pcOk
  unfold PcOk at this
  split at this
  · exact Nat.le_of_eq this.2.2
  · exact Nat.le_of_eq this.2
  · exact this
  · exact Nat.le_of_eq this

theorem SInv.descEq {s : S} (h : SInv s) (hpc : s.pc ≠ .setting) : s.desc = s.pos := by
  have := h.pcOk
  unfold PcOk at this
  split at this
  · exact this.2.2
  · exact this.2
  · next e => exact absurd e hpc
  · exact this

theorem sinv_init (n start : Nat) (h : start ≤ n) : SInv (init n start) := by
  constructor <;> simp [init, inflight, PcOk, h]

theorem sinv_step (s : S) (l : L) (h : SInv s) : SInv (step true s l) := by
  obtain ⟨n, pc, pos, desc, disk, tmp, stopping, start0, sessionStart, sess, all, high, accSince, accTmp⟩ := s
  cases l with
  | qFail => exact h
  | stopReq => exact { h with }
  | query k =>
    cases pc with
    | idle =>
      simp only [step, ↓reduceIte]
      split
      · exact h
      · next hk =>
        have hd : desc = pos := h.pcOk
        have hp : pos + 0 ≤ n := h.posLe
        exact { h with pcOk := ⟨Nat.pos_of_ne_zero hk, (by omega : pos + min k (n - pos) ≤ n), hd⟩ }
    | _ => exact h
  | sink acc =>
    cases pc with
    | got k =>
      obtain ⟨hk0, hk1, hd⟩ : 0 < k ∧ pos + k ≤ n ∧ desc = pos := h.pcOk
      cases acc with
      | false => exact { h with pcOk := hd }
      | true =>
        have hs0 : start0 ≤ pos := Nat.le_trans h.s0Sess h.startLe
        have hph : pos + 0 ≤ high := h.posHigh
        have ha : pos + 0 = disk + accSince := h.accEq
        have hs : sess = List.range' sessionStart (pos - sessionStart) := h.sessEq
        exact { h with
          pcOk := ⟨hk0, hd⟩
          posLe := hk1
          sessEq := by
            show sess ++ List.range' pos k = List.range' sessionStart (pos + k - sessionStart)
            rw [hs]; exact range'_extend k h.startLe
          cover := cover_extend k h.cover hph
          allLt := allLt_extend k h.allLt hs0
          posHigh := Nat.le_max_right _ _
          highLe := Nat.max_le.2 ⟨h.highLe, hk1⟩
          accEq := (by omega : pos + k = disk + (accSince + k))
          accTmpEq := fun p hp => by
            have : pos + 0 = p + accTmp := h.accTmpEq p hp
            show pos + k = p + (accTmp + k)
            omega }
    | _ => exact h
  | replaceReq =>
    cases pc with
    | accepted k =>
      obtain ⟨hk0, hd⟩ : 0 < k ∧ desc = pos := h.pcOk
      exact { h with
        pcOk := (Nat.le_add_right_of_le (Nat.le_of_eq hd) : desc ≤ pos + k)
        startLe := Nat.le_add_right_of_le h.startLe }
    | _ => exact h
  | setPos =>
    cases pc with
    | setting =>
      have hd : desc ≤ pos := h.pcOk
      exact { h with
        pcOk := (rfl : pos = pos)
        diskLe := Nat.le_trans h.diskLe hd
        tmpOk := fun p hp => ⟨(h.tmpOk p hp).1, Nat.le_trans (h.tmpOk p hp).2 hd⟩ }
    | _ => exact h
  | saveBegin =>
    cases tmp with
    | some p0 => exact h
    | none =>
      have hd : desc ≤ pos + inflight pc := Nat.le_add_right_of_le h.descLe
      exact { h with
        tmpOk := fun p hp => by cases hp; exact ⟨h.diskLe, Nat.le_refl _⟩
        accTmpEq := fun p hp => by cases hp; exact (Nat.add_sub_cancel' hd).symm }
  | saveRename =>
    cases tmp with
    | none => exact h
    | some p0 =>
      obtain ⟨t1, t2⟩ := h.tmpOk p0 rfl
      exact { h with
        diskLe := t2
        tmpOk := fun _ hp => nomatch hp
        s0Disk := Nat.le_trans h.s0Disk t1
        accEq := h.accTmpEq p0 rfl
        accTmpEq := fun _ hp => nomatch hp }
  | «exit» =>
    cases pc with
    | idle =>
      simp only [step]
      split
      · exact { h with }
      · exact h
    | _ => exact h
  | restart =>
    have hdh : disk + 0 ≤ high := Nat.le_trans (Nat.le_trans h.diskLe (Nat.le_add_right_of_le h.descLe)) h.posHigh
    exact { h with
      pcOk := (rfl : disk = disk)
      posLe := Nat.le_trans hdh h.highLe
      diskLe := Nat.le_refl _
      tmpOk := fun _ hp => nomatch hp
      startLe := Nat.le_refl _
      sessEq := by show ([] : List Nat) = List.range' disk (disk + 0 - disk); simp
      posHigh := hdh
      s0Sess := h.s0Disk
      accEq := rfl
      accTmpEq := fun _ hp => nomatch hp }
  | grow k =>
    have hp := Nat.le_add_right_of_le (k := k) h.posLe
    have hh := Nat.le_add_right_of_le (k := k) h.highLe
    cases pc with
    | got k0 =>
      obtain ⟨g1, g2, g3⟩ : 0 < k0 ∧ pos + k0 ≤ n ∧ desc = pos := h.pcOk
      exact { h with pcOk := ⟨g1, Nat.le_add_right_of_le g2, g3⟩, posLe := hp, highLe := hh }
    | _ => exact { h with posLe := hp, highLe := hh }

theorem sinv_run : ∀ (tr : List L) (s : S), SInv s → SInv (run true s tr)
  | [], _, h => h
  | l :: ls, s, h => sinv_run ls _ (sinv_step s l h)

theorem sinv_reach (n start : Nat) (h : start ≤ n) (tr : List L) : SInv (run true (init n start) tr) :=
  sinv_run tr _ (sinv_init n start h)

theorem step_start0 (c : Bool) (s : S) (l : L) : (step c s l).start0 = s.start0 := by
  cases l <;> simp only [step] <;> (repeat' split) <;> rfl

theorem run_start0 (c : Bool) : ∀ (tr : List L) (s : S), (run c s tr).start0 = s.start0
  | [], s => rfl
  | l :: ls, s => by simp only [run]; rw [run_start0 c ls, step_start0]

theorem run_append (c : Bool) : ∀ (a b : List L) (s : S), run c s (a ++ b) = run c (run c s a) b
  | [], b, s => rfl
  | l :: ls, b, s => by simp only [List.cons_append, run]; exact run_append c ls b _

/-! ## quiet periods: queries answer, the sink accepts, nothing interleaves -/

/-- one fault-free iteration from the loop head -/
theorem run_iter (k : Nat) (s : S) (hpc : s.pc = .idle) (hle : s.pos ≤ s.n) :
    (run true s (iter k)).pc = .idle ∧ (run true s (iter k)).pos = min (s.pos + k) s.n ∧
    (run true s (iter k)).n = s.n := by
  by_cases hk : min k (s.n - s.pos) = 0
  · have e : run true s (iter k) = s := by
      simp only [iter, run, step, hpc, hk, if_true]
    rw [e]
    exact ⟨hpc, by omega, rfl⟩
  · refine ⟨?_, ?_, ?_⟩
    · simp only [iter, run, step, hpc, hk, if_false, if_true]
    · simp only [iter, run, step, hpc, hk, if_false, if_true]
      omega
    · simp only [iter, run, step, hpc, hk, if_false, if_true]

/-- `m` fault-free iterations with pages of up to `k` events -/
theorem run_iters (k : Nat) : ∀ (m : Nat) (s : S), s.pc = .idle → s.pos ≤ s.n →
    (run true s (List.flatten (List.replicate m (iter k)))).pc = .idle ∧
    (run true s (List.flatten (List.replicate m (iter k)))).pos = min (s.pos + m * k) s.n ∧
    (run true s (List.flatten (List.replicate m (iter k)))).n = s.n
  | 0, s, hpc, h => by
    show s.pc = .idle ∧ s.pos = min (s.pos + 0 * k) s.n ∧ s.n = s.n
    exact ⟨hpc, by omega, rfl⟩
  | m+1, s, hpc, h => by
    simp only [List.replicate_succ, List.flatten_cons, run_append]
    obtain ⟨i1, i2, i3⟩ := run_iter k s hpc h
    obtain ⟨j1, j2, j3⟩ := run_iters k m (run true s (iter k)) i1 (by rw [i2, i3]; omega)
    refine ⟨j1, ?_, ?_⟩
    · rw [j2, i2, i3, Nat.succ_mul, min_add_min]
    · rw [j3, i3]

/-! ## the statement-level system simulates the atomic one along `expand` -/

def Sim (s : S) (a : Forwarder.S) : Prop :=
  s.pc = .idle ∧ s.tmp = none ∧ s.stopping = false ∧ a.n = s.n ∧ a.pos = s.pos ∧ a.desc = s.desc ∧
  a.persisted = s.disk ∧ a.start0 = s.start0 ∧ a.sessionStart = s.sessionStart ∧ a.sess = s.sess ∧ a.all = s.all ∧
  a.high = s.high ∧ a.accSince = s.accSince

theorem sim_init (n start : Nat) : Sim (init n start) (Forwarder.init n start) := by
  simp [Sim, init, Forwarder.init]

theorem sim_step (s : S) (a : Forwarder.S) (l : Forwarder.L) : Sim s a → Forwarder.FInv a →
    Sim (run true s (expand l)) (Forwarder.step Forwarder.codeCfg a l) := by
  obtain ⟨n, pc, pos, desc, disk, tmp, stopping, start0, sessionStart, sess, all, high, accSince, accTmp⟩ := s
  obtain ⟨an, apos, adesc, apers, astart0, asessionStart, asess, aall, abatches, ahigh, asessions, aaccSince⟩ := a
  intro h hi
  have hdp : adesc = apos := hi.descPos
  have hph : apos ≤ ahigh := hi.posHigh
  obtain ⟨rfl, rfl, rfl, rfl, rfl, rfl, rfl, rfl, rfl, rfl, rfl, rfl, rfl⟩ := h
  subst hdp
  cases l with
  | page k acc =>
    by_cases hk : min k (an - adesc) = 0 <;> cases acc <;>
      simp [Sim, expand, iter, run, step, Forwarder.step, Forwarder.codeCfg, hk]
  | crashAfterAccept k =>
    by_cases hk : min k (an - adesc) = 0 <;>
      simp [Sim, expand, run, step, Forwarder.step, Forwarder.restart, hk, Nat.max_eq_left hph]
  | _ => simp [Sim, expand, run, step, Forwarder.step, Forwarder.restart, inflight]
/-! ## the atomic invariant, through the refinement

An atomic state is shown by the statement-level state at the loop head with no save pending (`lift`); one atomic label is
the statement-level run `expand l` from there (`sim_step`), which keeps `SInv`; and `SInv` at such a state says `FInv`. -/

def lift (a : Forwarder.S) : S :=
  { n := a.n, pc := .idle, pos := a.pos, desc := a.desc, disk := a.persisted, tmp := none, stopping := false,
    start0 := a.start0, sessionStart := a.sessionStart, sess := a.sess, all := a.all, high := a.high,
    accSince := a.accSince, accTmp := 0 }

theorem sim_lift (a : Forwarder.S) : Sim (lift a) a :=
  ⟨rfl, rfl, rfl, rfl, rfl, rfl, rfl, rfl, rfl, rfl, rfl, rfl, rfl⟩

theorem sinv_lift {a : Forwarder.S} (h : Forwarder.FInv a) : SInv (lift a) where
  pcOk := h.descPos
  posLe := h.posLe
  diskLe := Nat.le_trans h.perLe (Nat.le_of_eq h.descPos.symm)
  tmpOk := fun _ hp => nomatch hp
  startLe := h.startLe
  sessEq := h.sessEq
  cover := h.cover
  allLt := h.allLt
  posHigh := h.posHigh
  highLe := h.highLe
  s0Disk := h.s0Per
  s0Sess := h.s0Sess
  accEq := h.accEq
  accTmpEq := fun _ hp => nomatch hp

theorem finv_of_sim {s : S} {a : Forwarder.S} (hs : Sim s a) (h : SInv s) : Forwarder.FInv a := by
  obtain ⟨n, pc, pos, desc, disk, tmp, stopping, start0, sessionStart, sess, all, high, accSince, accTmp⟩ := s
  obtain ⟨an, apos, adesc, apers, astart0, asessionStart, asess, aall, abatches, ahigh, asessions, aaccSince⟩ := a
  obtain ⟨rfl, rfl, rfl, rfl, rfl, rfl, rfl, rfl, rfl, rfl, rfl, rfl, rfl⟩ := hs
  exact ⟨h.pcOk, h.startLe, h.posLe, h.sessEq, Nat.le_trans h.diskLe h.descLe, h.cover, h.posHigh, h.highLe,
    h.s0Disk, h.s0Sess, h.allLt, h.accEq⟩

end Logrange.ForwarderSplit

namespace Logrange.Forwarder
open Logrange.ForwarderSplit

theorem finv_step (s : S) (l : L) (h : FInv s) : FInv (step codeCfg s l) :=
  finv_of_sim (sim_step _ s l (sim_lift s) h) (sinv_run _ _ (sinv_lift h))

theorem finv_run : ∀ (tr : List L) (s : S), FInv s → FInv (run codeCfg s tr)
  | [], _, h => h
  | l :: ls, s, h => finv_run ls _ (finv_step s l h)

theorem finv_reach (n start : Nat) (h : start ≤ n) (tr : List L) : FInv (run codeCfg (init n start) tr) :=
  finv_run tr _ (finv_init n start h)

end Logrange.Forwarder

namespace Logrange.ForwarderSplit

theorem sim_run : ∀ (tr : List Forwarder.L) (s : S) (a : Forwarder.S), Sim s a → Forwarder.FInv a →
    Sim (run true s (tr.flatMap expand)) (Forwarder.run Forwarder.codeCfg a tr)
  | [], s, a, h, _ => by simpa [run, Forwarder.run] using h
  | l :: ls, s, a, h, hi => by
    simp only [List.flatMap_cons, run_append, Forwarder.run]
    exact sim_run ls _ _ (sim_step s a l h hi) (Forwarder.finv_step a l hi)

end Logrange.ForwarderSplit

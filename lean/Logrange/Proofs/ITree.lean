import Logrange.Model.ITree
import Logrange.Proofs.PointsMerge
/-!
# C02 — the inductive model of the `ckindex` block tree (`Logrange.ITree`) against the flat list (`Logrange.Points`)

(1) one level-0 block is the flat list (`tree_eq_points_level0`);
(2) on append-only input the whole tree evolves like the flat list and keeps its invariant (`tree_append_refines`);
(3) look-ups through a well-formed tree are look-ups on the flat list (`tree_lookup_eq_points`, `tree_lookup_records`);
(4) evaluated examples.
-/
namespace Logrange.ITree
open Logrange.Points (Pt Iv)
open Logrange.Points

/-! ## small list facts -/
theorem lastD_eq_getLastD (l : List Pt) : Points.lastD l = l.getLastD zeroPt := rfl

theorem take_snoc_getD (l : List Pt) (k : Nat) (d : Pt) (h : k < l.length) : l.take k ++ [l.getD k d] = l.take (k+1) := by
  rw [List.take_add_one, List.getD_eq_getElem?_getD, List.getElem?_eq_getElem h]
  simp

theorem getD_pred_eq_getLastD (l : List Pt) (d : Pt) : l.getD (l.length - 1) d = l.getLastD d := by
  rw [List.getLastD_eq_getLast?, List.getLast?_eq_getElem?, List.getD_eq_getElem?_getD]

theorem exists_snoc {α : Type} (l : List α) (h : l ≠ []) : ∃ ks k, l = ks ++ [k] :=
  ⟨l.dropLast, l.getLast h, (List.dropLast_concat_getLast h).symm⟩

theorem set_snoc (ks : List T) (k k' : T) : (ks ++ [k]).set ks.length k' = ks ++ [k'] := by
  induction ks with
  | nil => rfl
  | cons a r ih => simp [ih]

/-! The searches answer `i = c - 1` for `c` records at or below the bound and compare `i` with `0` and with the number
of intervals; in terms of `c`: -/
theorem idx_neg (c : Nat) : (c : Int) - 1 < 0 ↔ c = 0 := by omega
theorem idx_last (c n : Nat) : (c : Int) - 1 = (n : Int) ↔ c = n + 1 := by omega
theorem idx_toNat (c : Nat) : ((c : Int) - 1).toNat = c - 1 := by omega

/-- `grEq` on the flat list, returning the record: the LAST point with `ts ≤ t` -/
def gSpec (P : List Pt) (ts : Int) : Option Pt :=
  if Points.cntLE P ts = 0 then none else some (P.getD (Points.cntLE P ts - 1) zeroPt)
/-- `less` on the flat list, returning the record: the FIRST point with `ts > t` -/
def lSpec (P : List Pt) (ts : Int) : Option Pt := (P.drop (Points.cntLE P ts)).head?

theorem gSpec_none_iff (P : List Pt) (ts : Int) : gSpec P ts = none ↔ Points.cntLE P ts = 0 := by
  unfold gSpec
  split <;> simp [*]

theorem gSpec_idx (P : List Pt) (ts : Int) (r : Pt) (h : gSpec P ts = some r) : r.idx = Points.grEqPos P ts := by
  unfold gSpec at h
  by_cases h0 : Points.cntLE P ts = 0
  · simp [h0] at h
  · obtain ⟨n, hn⟩ : ∃ n, Points.cntLE P ts = n + 1 := ⟨Points.cntLE P ts - 1, by omega⟩
    simp only [hn, Nat.add_one_ne_zero, if_false, Option.some.injEq, Nat.add_sub_cancel] at h
    subst h
    simp only [Points.grEqPos, hn]; rfl

theorem lSpec_idx (P : List Pt) (ts : Int) : (lSpec P ts).map (·.idx) = Points.lessPos P ts := by
  unfold lSpec Points.lessPos
  cases P.drop (Points.cntLE P ts) <;> simp

theorem lSpec_none_iff (P : List Pt) (ts : Int) : lSpec P ts = none ↔ Points.cntLE P ts = P.length := by
  have := cntLE_le_length P ts
  unfold lSpec
  rw [List.head?_eq_none_iff, List.drop_eq_nil_iff]
  omega

/-! ## (1) one level-0 block -/

theorem leaf_insIdx (recs : List Pt) (ts : Int) (h : recs.length ≠ 0) :
    findIntervalInsertIdx (.leaf recs) ts = (Points.cntLE recs ts : Int) - 1 := by
  simp [findIntervalInsertIdx, records, recsOf, ITree.cntLE, h]

theorem leaf_findIdx (recs : List Pt) (ts : Int) (h : recs ≠ []) :
    findIntervalIdx (.leaf recs) ts = (Points.cntLE recs ts : Int) - 1 := by
  have : recs.length ≠ 0 := by simpa using h
  simp [findIntervalIdx, records, recsOf, ITree.cntLE, this]

theorem leaf_intervals (recs : List Pt) : intervals (.leaf recs) = recs.length - 1 := by
  show (if recs.length ≤ 1 then 0 else recs.length - 1) = recs.length - 1
  split <;> omega

/-- the merge case rewrites the block in place: records `0 … c-1` stay, the last interval becomes `[recs[c-1], p]` -/
theorem take_merge (recs : List Pt) (c : Nat) (p : Pt) (h0 : c ≠ 0) (hlt : c < recs.length) :
    (recs.take (c - 1 + 2)).take ((recs.take (c - 1 + 2)).length - 2) ++ [recs.getD (c - 1) zeroPt, p] =
      recs.take c ++ [p] := by
  have e : c - 1 + 2 = c + 1 := by omega
  have e1 : min (min (c + 1) recs.length - 2) (c + 1) = c - 1 := by omega
  have e2 : c - 1 + 1 = c := by omega
  rw [e, List.length_take, List.take_take, e1, ← e2, ← take_snoc_getD recs (c - 1) zeroPt (by omega), e2]
  simp

theorem leaf_blockAdd (m d : Nat) (recs : List Pt) (it : Iv) (hlen : recs.length ≠ 1) :
    blockAdd m (d+1) (.leaf recs) it =
      if recs.length = m ∧ Points.cntLE recs it.p0.ts = recs.length then (.leaf recs, Points.lastD recs, some .full)
      else (.leaf (Points.add recs it), Points.lastD (Points.add recs it), none) := by
  by_cases hnil : recs = []
  · subst hnil
    by_cases hm : 0 = m
    · subst hm
      simp [blockAdd, findIntervalInsertIdx, intervals, records, recsOf, appendInterval, Points.cntLE, Points.lastD, zeroPt]
    · have hm' : ¬ m = 0 := fun h => hm h.symm
      simp [blockAdd, findIntervalInsertIdx, intervals, records, recsOf, appendInterval, Points.cntLE, Points.lastD,
        Points.add, hm]
  · obtain ⟨k, hk, hkpos⟩ : ∃ k, recs.length = k + 1 ∧ k > 0 :=
      ⟨recs.length - 1, by have := List.length_pos_iff.2 hnil; omega, by have := List.length_pos_iff.2 hnil; omega⟩
    have hcl := cntLE_le_length recs it.p0.ts
    have hadd := @add_append_eq recs it hnil
    simp only [blockAdd, leaf_insIdx recs it.p0.ts (by omega), leaf_intervals, hk, Nat.add_sub_cancel, hkpos, if_true,
      idx_neg, idx_last, idx_toNat] at hadd hcl ⊢
    by_cases hfull : Points.cntLE recs it.p0.ts = k + 1
    · -- insIdx = ints: `appendInterval`
      rw [if_pos hfull, hadd hfull]
      simp only [hfull, and_true]
      by_cases hm : k + 1 = m
      · simp [appendInterval, records, recsOf, hk, hm, lastD_eq_getLastD]
      · simp [appendInterval, records, recsOf, hk, hm, Points.lastD]
    · rw [if_neg hfull]
      simp only [hfull, and_false, if_false]
      by_cases h0 : Points.cntLE recs it.p0.ts = 0
      · rw [if_pos h0, add_collapse_eq it h0 hnil]
        simp [setLastInterval, reduce, Points.headD, Points.lastD, zeroPt]
      · -- the covering interval is `insIdx = c - 1`
        have hlt : Points.cntLE recs it.p0.ts < recs.length := by omega
        have hl0 : ¬ (recs.take (Points.cntLE recs it.p0.ts - 1 + 2)).length = 0 := by
          rw [List.length_take]; omega
        rw [if_neg h0, add_merge_eq it (Nat.pos_of_ne_zero h0) hlt, ← take_cntLE]
        simp only [setLastInterval, hl0, if_false, take_merge recs _ _ h0 hlt]
        simp [Points.lastD, zeroPt]

theorem leaf_grEq_exact (recs : List Pt) (ts : Int) (hnil : recs ≠ []) : grEq (.leaf recs) ts = gSpec recs ts := by
  obtain ⟨n, hn⟩ : ∃ n, recs.length = n + 1 := ⟨recs.length - 1, by have := List.length_pos_iff.2 hnil; omega⟩
  unfold gSpec
  simp only [grEq, leaf_findIdx recs ts hnil, leaf_intervals, hn, Nat.add_sub_cancel, idx_neg, idx_last, idx_toNat]
  by_cases h0 : Points.cntLE recs ts = 0
  · rw [if_pos h0, if_pos h0]
  · rw [if_neg h0, if_neg h0]
    by_cases hfull : Points.cntLE recs ts = n + 1
    · rw [if_pos hfull, hfull, ← hn, getD_pred_eq_getLastD]; rfl
    · rw [if_neg hfull]

theorem leaf_less_exact (recs : List Pt) (ts : Int) (hnil : recs ≠ []) : less (.leaf recs) ts = lSpec recs ts := by
  obtain ⟨n, hn⟩ : ∃ n, recs.length = n + 1 := ⟨recs.length - 1, by have := List.length_pos_iff.2 hnil; omega⟩
  have hcl := cntLE_le_length recs ts
  unfold lSpec
  simp only [less, leaf_findIdx recs ts hnil, leaf_intervals, hn, Nat.add_sub_cancel, idx_neg, idx_last, idx_toNat]
  by_cases h0 : Points.cntLE recs ts = 0
  · rw [if_pos h0, h0]
    cases recs with
    | nil => exact absurd rfl hnil
    | cons a r => rfl
  · rw [if_neg h0]
    by_cases hfull : Points.cntLE recs ts = n + 1
    · rw [if_pos hfull, hfull, ← hn]; simp
    · rw [if_neg hfull, Nat.sub_add_cancel (Nat.pos_of_ne_zero h0)]
      have hlt : Points.cntLE recs ts < recs.length := by omega
      rw [List.drop_eq_getElem_cons hlt]
      simp [List.getD_eq_getElem?_getD, List.getElem?_eq_getElem hlt]

theorem leaf_grEq (recs : List Pt) (ts : Int) :
    (recs ≠ [] → (grEq (.leaf recs) ts = none ↔ Points.cntLE recs ts = 0)) ∧
    (∀ r, grEq (.leaf recs) ts = some r → r.idx = Points.grEqPos recs ts) := by
  by_cases hnil : recs = []
  · -- the empty block answers the zero record: position 0, as `grEqPos`
    subst hnil
    refine ⟨fun h => absurd rfl h, ?_⟩
    intro r h
    simp [grEq, findIntervalIdx, intervals, records, recsOf, lastRec, zeroPt] at h
    subst h
    simp [Points.grEqPos, Points.cntLE]
  · rw [leaf_grEq_exact recs ts hnil]
    exact ⟨fun _ => gSpec_none_iff recs ts, gSpec_idx recs ts⟩

theorem leaf_less (recs : List Pt) (ts : Int) :
    (less (.leaf recs) ts).map (·.idx) = Points.lessPos recs ts := by
  by_cases hnil : recs = []
  · subst hnil
    simp [less, findIntervalIdx, intervals, records, recsOf, Points.lessPos, Points.cntLE]
  · rw [leaf_less_exact recs ts hnil, lSpec_idx]

theorem lessPos_none_iff (recs : List Pt) (ts : Int) : Points.lessPos recs ts = none ↔ Points.cntLE recs ts = recs.length := by
  rw [← lSpec_idx, Option.map_eq_none_iff, lSpec_none_iff]

theorem leaf_lookups (recs : List Pt) (t : Int) :
    (recs ≠ [] → (grEq (.leaf recs) t = none ↔ Points.cntLE recs t = 0)) ∧
    (∀ r, grEq (.leaf recs) t = some r → r.idx = Points.grEqPos recs t) ∧
    (less (.leaf recs) t).map (·.idx) = Points.lessPos recs t ∧
    (less (.leaf recs) t = none ↔ Points.cntLE recs t = recs.length) :=
  ⟨(leaf_grEq recs t).1, (leaf_grEq recs t).2, leaf_less recs t,
    by rw [← lessPos_none_iff, ← leaf_less, Option.map_eq_none_iff]⟩

/-- **(1)** a single level-0 block behaves exactly like the flat list `Points`: `block.addInterval` is `Points.add`
(`errFullBlock` exactly when the block holds `maxRecs` records and the append case applies; the block is then unchanged
and the returned record is its last one), and the two look-ups are `grEqPos` / `lessPos`. -/
theorem tree_eq_points_level0 (maxRecs d : Nat) (recs : List Pt) (it : Iv) (hlen : recs.length ≠ 1) :
    (blockAdd maxRecs (d+1) (.leaf recs) it =
      if recs.length = maxRecs ∧ Points.cntLE recs it.p0.ts = recs.length then (.leaf recs, Points.lastD recs, some .full)
      else (.leaf (Points.add recs it), Points.lastD (Points.add recs it), none)) ∧
    (∀ t, (recs ≠ [] → (grEq (.leaf recs) t = none ↔ Points.cntLE recs t = 0)) ∧
          (∀ r, grEq (.leaf recs) t = some r → r.idx = Points.grEqPos recs t) ∧
          (less (.leaf recs) t).map (·.idx) = Points.lessPos recs t ∧
          (less (.leaf recs) t = none ↔ Points.cntLE recs t = recs.length)) :=
  ⟨leaf_blockAdd maxRecs d recs it hlen, leaf_lookups recs⟩

/-! ## (2) the invariant of reachable trees and the append-only refinement -/

/-- the upper points of the level-0 intervals in traversal order -/
def p1s (t : T) : List Pt := (traversal t).map (·.p1)

/-- no gap between neighbouring children: the last level-0 record of one is the first of the next -/
def Contig : List T → Prop
  | [] => True
  | [_] => True
  | a :: b :: r => lastRec a = firstRec b ∧ Contig (b :: r)

/-- the invariant of a non-root subtree of level `d` -/
def WFd (m : Nat) : Nat → T → Prop
  | 0, .leaf recs => 2 ≤ recs.length ∧ recs.length ≤ m ∧ SortedTs recs
  | d+1, .node l keys kids last =>
      l = d+1 ∧ kids ≠ [] ∧ kids.length + 1 ≤ m ∧ (∀ k ∈ kids, WFd m d k) ∧
      keys = kids.map (fun k => (firstRec k).ts) ∧
      kids.getLast?.map lastRec = some last ∧
      Contig kids ∧
      (∀ k ∈ keys, k ≤ last.ts) ∧
      SortedTs (firstRec (.node l keys kids last) :: p1s (.node l keys kids last))
  | _, _ => False

/-- reachable trees: the empty index, or a well-formed tree of its level -/
def WF (m : Nat) (t : T) : Prop := t = .leaf [] ∨ WFd m (level t) t

def AppendOnly (t : T) (it : Iv) : Prop := ∀ p ∈ points t, p.ts ≤ it.p0.ts

/-! ### one upper-level block, computed -/

theorem recsOf_node (l : Nat) (keys : List Int) (kids : List T) (last : Pt) (hk : keys ≠ []) :
    recsOf (.node l keys kids last) = keys.map (fun k => (⟨k, 0⟩ : Pt)) ++ [last] := by
  match keys, hk with
  | _ :: _, _ => rfl

theorem records_node (l : Nat) (keys : List Int) (kids : List T) (last : Pt) (hk : keys ≠ []) :
    records (.node l keys kids last) = keys.length + 1 := by
  simp [records, recsOf_node l keys kids last hk]

theorem intervals_node (l : Nat) (keys : List Int) (kids : List T) (last : Pt) (hk : keys ≠ []) :
    intervals (.node l keys kids last) = keys.length := by
  have hl : keys.length ≠ 0 := by simpa using hk
  unfold intervals
  rw [records_node l keys kids last hk]
  have : ¬ keys.length + 1 ≤ 1 := by omega
  rw [if_neg this]; omega

theorem firstRec_node (l : Nat) (keys : List Int) (kids : List T) (last : Pt) (hk : keys ≠ []) :
    firstRec (.node l keys kids last) = firstRecL kids := by
  match keys, hk with
  | _ :: _, _ => rfl

theorem lastRecL_snoc (ks : List T) (k : T) : lastRecL (ks ++ [k]) ks.length = lastRec k := by
  induction ks with
  | nil => simp [lastRecL]
  | cons a r ih => simpa [lastRecL] using ih

theorem lastRec_node_snoc (l : Nat) (keys : List Int) (ks : List T) (k : T) (la : Pt) (h : keys.length = ks.length + 1) :
    lastRec (.node l keys (ks ++ [k]) la) = lastRec k := by
  match keys, h with
  | x :: r, h =>
    simp only [lastRec]
    have : (x :: r).length - 1 = ks.length := by simp at h ⊢; omega
    rw [this]; exact lastRecL_snoc ks k

theorem firstRecL_snoc (ks : List T) (k k' : T) (h : firstRec k' = firstRec k) :
    firstRecL (ks ++ [k']) = firstRecL (ks ++ [k]) := by
  cases ks with
  | nil => simp [firstRecL, h]
  | cons a r => simp [firstRecL]

theorem firstRecL_snoc2 (ks : List T) (k c : T) : firstRecL (ks ++ [k] ++ [c]) = firstRecL (ks ++ [k]) := by
  cases ks with
  | nil => simp [firstRecL]
  | cons a r => simp [firstRecL]

theorem cntLE_node_all (l : Nat) (keys : List Int) (kids : List T) (last : Pt) (hk : keys ≠ []) (ts : Int)
    (h1 : ∀ k ∈ keys, k ≤ ts) (h2 : last.ts ≤ ts) : ITree.cntLE (.node l keys kids last) ts = keys.length + 1 := by
  unfold ITree.cntLE
  rw [recsOf_node l keys kids last hk, cntLE_of_all_le]
  · simp
  · intro p hp
    simp at hp
    rcases hp with ⟨k, hk', rfl⟩ | rfl
    · exact h1 k hk'
    · exact h2

theorem insIdx_node_all (l : Nat) (keys : List Int) (kids : List T) (last : Pt) (hk : keys ≠ []) (ts : Int)
    (h1 : ∀ k ∈ keys, k ≤ ts) (h2 : last.ts ≤ ts) :
    findIntervalInsertIdx (.node l keys kids last) ts = (keys.length : Int) - 1 := by
  unfold findIntervalInsertIdx
  simp only [records_node l keys kids last hk, cntLE_node_all l keys kids last hk ts h1 h2]
  simp; omega

theorem blockAdd_node (m d l : Nat) (keys : List Int) (kids : List T) (last : Pt) (it : Iv) :
    blockAdd m (d+1) (.node l keys kids last) it =
      upperLoop m (blockAdd m d) (m + 1)
        (removeLoop ((intervals (.node l keys kids last) : Int) - (findIntervalInsertIdx (.node l keys kids last) it.p0.ts + 1)).toNat
          (.node l keys kids last)) it
        (findIntervalInsertIdx (.node l keys kids last) it.p0.ts).toNat
        (intervals (removeLoop ((intervals (.node l keys kids last) : Int) - (findIntervalInsertIdx (.node l keys kids last) it.p0.ts + 1)).toNat
          (.node l keys kids last)) == 0) := rfl

theorem blockAdd_node_last (m d l : Nat) (keys : List Int) (kids : List T) (last : Pt) (it : Iv) (hk : keys ≠ [])
    (h1 : ∀ k ∈ keys, k ≤ it.p0.ts) (h2 : last.ts ≤ it.p0.ts) :
    blockAdd m (d+1) (.node l keys kids last) it =
      upperLoop m (blockAdd m d) (m+1) (.node l keys kids last) it (keys.length - 1) false := by
  have hints := intervals_node l keys kids last hk
  have hl : keys.length ≠ 0 := by simpa using hk
  rw [blockAdd_node, insIdx_node_all l keys kids last hk it.p0.ts h1 h2, hints]
  have e1 : ((keys.length : Int) - ((keys.length : Int) - 1 + 1)).toNat = 0 := by omega
  have e2 : ((keys.length : Int) - 1).toNat = keys.length - 1 := by omega
  have e3 : (keys.length == 0) = false := by simpa using hl
  rw [e1, e2]
  simp only [removeLoop, hints, e3]

theorem appendInterval_node_full (m l : Nat) (keys : List Int) (kids : List T) (last : Pt) (it : Iv) (hk : keys ≠ [])
    (hm : keys.length + 1 = m) :
    appendInterval m (.node l keys kids last) it = (.node l keys kids last, last, some .full) := by
  unfold appendInterval
  simp [records_node l keys kids last hk, hm, recsOf_node l keys kids last hk]

theorem appendInterval_node_ok (m l : Nat) (keys : List Int) (kids : List T) (last : Pt) (it : Iv) (hk : keys ≠ [])
    (hm : keys.length + 1 ≠ m) :
    appendInterval m (.node l keys kids last) it = (.node l (keys ++ [last.ts]) kids it.p1, it.p1, none) := by
  unfold appendInterval
  simp [records_node l keys kids last hk, hm]

theorem setLastInterval_node (l : Nat) (keys : List Int) (kids : List T) (last : Pt) (it : Iv) (kid : T) (hk : keys ≠ []) :
    setLastInterval (.node l keys kids last) it kid =
      .node l (keys.dropLast ++ [it.p0.ts]) (kids.take (keys.length - 1) ++ [kid]) it.p1 := by
  match keys, hk with
  | _ :: _, _ => rfl

/-! The `for` loop of `block.addInterval` on an upper block that sends the interval to its last child `k`: the three ways
it ends. -/
section
variable (m : Nat) (addKid : T → Iv → Res) (n l : Nat) (keys : List Int) (ks : List T) (k k' : T) (last lr : Pt) (it : Iv)
  (hk : keys.length = ks.length + 1)
include hk

theorem upperLoop_node_ok (h : addKid k it = (k', lr, none)) :
    upperLoop m addKid (n+1) (.node l keys (ks ++ [k]) last) it ks.length false =
      (.node l (keys.dropLast ++ [(theBlockInterval k').p0.ts]) (ks ++ [k']) (theBlockInterval k').p1, lr, none) := by
  have hkn : keys ≠ [] := by intro e; simp [e] at hk
  simp [upperLoop, kidAt, h, setLastInterval_node _ _ _ _ _ _ hkn, hk]

theorem upperLoop_node_full (h : addKid k it = (k', lr, some .full)) (hm : keys.length + 1 = m) :
    upperLoop m addKid (n+1) (.node l keys (ks ++ [k]) last) it ks.length false =
      (.node l keys (ks ++ [k']) last, lr, some .full) := by
  have hkn : keys ≠ [] := by intro e; simp [e] at hk
  simp [upperLoop, kidAt, setKid, h, appendInterval_node_full m l keys _ last it hkn hm]

/-- the new child `c` is started at the old last record -/
theorem upperLoop_node_new (h : addKid k it = (k', lr, some .full)) (hm : keys.length + 1 ≠ m) (c : T) (lr2 : Pt)
    (hc : addKid (emptyBlock (l - 1)) { it with p0 := lr } = (c, lr2, none)) :
    upperLoop m addKid (n+2) (.node l keys (ks ++ [k]) last) it ks.length false =
      (.node l (keys ++ [(theBlockInterval c).p0.ts]) (ks ++ [k'] ++ [c]) (theBlockInterval c).p1, lr2, none) := by
  have hkn : keys ≠ [] := by intro e; simp [e] at hk
  simp [upperLoop, kidAt, setKid, h, appendInterval_node_ok m l keys _ last it hkn hm, level, hc,
    setLastInterval_node, hk]
  rw [List.take_of_length_le (by simp), List.append_assoc]; rfl
end

/-! ### structural facts -/

theorem pairs_p1 : ∀ (recs : List Pt), (pairs recs).map (·.p1) = recs.tail
  | [] => rfl
  | [_] => rfl
  | a :: b :: r => by
    have := pairs_p1 (b :: r)
    simp [pairs, this]

theorem p1s_leaf (recs : List Pt) : p1s (.leaf recs) = recs.tail := by
  simp [p1s, traversal, pairs_p1]

theorem traversalL_eq (kids : List T) : traversalL kids = kids.flatMap traversal := by
  induction kids with
  | nil => simp [traversalL]
  | cons k ks ih => simp [traversalL, ih]

theorem p1s_node (l : Nat) (keys : List Int) (kids : List T) (last : Pt) :
    p1s (.node l keys kids last) = kids.flatMap p1s := by
  simp [p1s, traversal, traversalL_eq, List.map_flatMap]
  rfl

theorem contig_replace_last : ∀ (ks : List T) (k k' : T), Contig (ks ++ [k]) → firstRec k' = firstRec k → Contig (ks ++ [k'])
  | [], _, _, _, _ => by simp [Contig]
  | [a], k, k', h, e => by
    simp [Contig] at h ⊢; rw [e]; exact h
  | a :: b :: r, k, k', h, e => by
    have := contig_replace_last (b :: r) k k'
    simp [Contig] at h this ⊢
    exact ⟨h.1, this h.2 e⟩

theorem contig_snoc : ∀ (ks : List T) (k c : T), Contig (ks ++ [k]) → lastRec k = firstRec c → Contig (ks ++ [k] ++ [c])
  | [], _, _, _, e => by simp [Contig, e]
  | [a], k, c, h, e => by
    simp [Contig] at h ⊢; exact ⟨h, e⟩
  | a :: b :: r, k, c, h, e => by
    have := contig_snoc (b :: r) k c
    simp [Contig] at h this ⊢
    exact ⟨h.1, this h.2 e⟩

/-! ### what the invariant gives -/

theorem wfd_induction {m : Nat} {P : Nat → T → Prop} (leaf : ∀ recs, WFd m 0 (.leaf recs) → P 0 (.leaf recs))
    (node : ∀ d keys kids last, WFd m (d+1) (.node (d+1) keys kids last) → (∀ k ∈ kids, P d k) →
      P (d+1) (.node (d+1) keys kids last)) : ∀ (d : Nat) (t : T), WFd m d t → P d t
  | 0, .leaf recs, h => leaf recs h
  | 0, .node .., h => by simp [WFd] at h
  | d+1, .leaf _, h => by simp [WFd] at h
  | d+1, .node l keys kids last, h => by
    have hl := h.1
    subst hl
    exact node d keys kids last h (fun k hk => wfd_induction leaf node d k (h.2.2.2.1 k hk))

theorem wfd_last_kid {m d l : Nat} {keys : List Int} {kids : List T} {last : Pt} (h : WFd m (d+1) (.node l keys kids last)) :
    ∃ ks k, kids = ks ++ [k] ∧ keys.length = ks.length + 1 ∧ last = lastRec k ∧ keys ≠ [] := by
  obtain ⟨-, hne, -, -, hkeys, hlast, -⟩ := h
  obtain ⟨ks, k, rfl⟩ := exists_snoc kids hne
  subst hkeys
  exact ⟨ks, k, rfl, by simp, by simpa using hlast.symm, by simp⟩

theorem wfd_level (m : Nat) : ∀ (d : Nat) (t : T), WFd m d t → level t = d :=
  wfd_induction (fun _ _ => rfl) (fun _ _ _ _ _ _ => rfl)

theorem wfd_trav (m : Nat) : ∀ (d : Nat) (t : T), WFd m d t → ∃ iv r, traversal t = iv :: r ∧ iv.p0 = firstRec t := by
  refine wfd_induction ?_ ?_
  · intro recs h
    match recs, h with
    | a :: b :: r, _ => exact ⟨⟨a, b⟩, pairs (b :: r), by simp [traversal, pairs], by simp [firstRec]⟩
  · intro d keys kids last h ih
    obtain ⟨-, hne, -, -, hkeys, -⟩ := h
    match kids, hne with
    | k :: ks, _ =>
      obtain ⟨iv, r, e1, e2⟩ := ih k (by simp)
      refine ⟨iv, r ++ traversalL ks, by simp [traversal, traversalL, e1], ?_⟩
      rw [e2, hkeys]; simp [firstRec, firstRecL]

theorem wfd_points (m d : Nat) (t : T) (h : WFd m d t) : points t = firstRec t :: p1s t := by
  obtain ⟨iv, r, e1, e2⟩ := wfd_trav m d t h
  simp [points, p1s, e1, e2]

theorem tail_getLast? : ∀ (recs : List Pt), 2 ≤ recs.length → recs.tail.getLast? = some (recs.getLastD zeroPt)
  | a :: b :: r, _ => by
    have : (b :: r).getLast? = some ((b :: r).getLast (by simp)) := List.getLast?_eq_some_getLast (by simp)
    simp [List.getLastD_eq_getLast?, List.getLast?_cons_cons, this]

theorem wfd_p1s_last (m : Nat) : ∀ (d : Nat) (t : T), WFd m d t → (p1s t).getLast? = some (lastRec t) := by
  refine wfd_induction ?_ ?_
  · intro recs h
    rw [p1s_leaf, tail_getLast? recs h.1]; rfl
  · intro d keys kids last h ih
    obtain ⟨ks, k, rfl, hkl, -, -⟩ := wfd_last_kid h
    rw [p1s_node, lastRec_node_snoc _ keys ks k last hkl]
    simp only [List.flatMap_append, List.flatMap_cons, List.flatMap_nil, List.append_nil, List.getLast?_append,
      ih k (by simp)]
    simp

theorem wfd_lastD (m d : Nat) (t : T) (h : WFd m d t) : Points.lastD (firstRec t :: p1s t) = lastRec t := by
  have := wfd_p1s_last m d t h
  cases hp : p1s t with
  | nil => rw [hp] at this; simp at this
  | cons a r =>
    rw [hp] at this
    simp only [Points.lastD, List.getLastD_eq_getLast?, List.getLast?_cons_cons, this]; rfl

theorem wfd_last_mem (m d : Nat) (t : T) (h : WFd m d t) : lastRec t ∈ points t := by
  rw [wfd_points m d t h, ← wfd_lastD m d t h]
  exact lastD_mem _ (by simp)

theorem wfd_sorted (m : Nat) : ∀ (d : Nat) (t : T), WFd m d t → SortedTs (firstRec t :: p1s t) := by
  refine wfd_induction ?_ ?_
  · intro recs h
    match recs, h with
    | a :: b :: r, h => simpa [firstRec, p1s_leaf] using h.2.2
  · intro d keys kids last h _
    exact h.2.2.2.2.2.2.2.2

theorem wfd_first_le_last (m d : Nat) (t : T) (h : WFd m d t) : (firstRec t).ts ≤ (lastRec t).ts :=
  sorted_head_le _ _ (wfd_sorted m d t h) _ (List.mem_of_getLast? (wfd_p1s_last m d t h))

theorem wfd_tbi (m : Nat) : ∀ (d : Nat) (t : T), WFd m d t → theBlockInterval t = ⟨⟨(firstRec t).ts, 0⟩, lastRec t⟩ := by
  refine wfd_induction ?_ ?_
  · intro recs _; rfl
  · intro d keys kids last h _
    obtain ⟨ks, k, rfl, hkl, rfl, hkn⟩ := wfd_last_kid h
    have hhead : keys.headD 0 = (firstRecL (ks ++ [k])).ts := by
      rw [h.2.2.2.2.1]
      cases ks <;> simp [firstRecL]
    rw [firstRec_node _ _ _ _ hkn, lastRec_node_snoc _ keys ks k _ hkl, ← hhead]
    rfl

/-! ### the key bound and the sortedness clause of `WFd` follow from the others -/

theorem contig_first_le (m d : Nat) : ∀ (kids : List T) (last : Pt), (∀ k ∈ kids, WFd m d k) → Contig kids →
    kids.getLast?.map lastRec = some last → ∀ k ∈ kids, (firstRec k).ts ≤ last.ts
  | [], _, _, _, _, k, hk => by simp at hk
  | [k0], last, hw, _, hl, k, hk => by
    simp at hl hk
    subst hl hk
    exact wfd_first_le_last m d k (hw k (by simp))
  | k0 :: k1 :: r, last, hw, hc, hl, k, hk => by
    have ih := contig_first_le m d (k1 :: r) last (fun x hx => hw x (List.mem_cons_of_mem _ hx)) hc.2
      (by simpa [List.getLast?_cons_cons] using hl)
    cases hk with
    | head =>
      refine Int.le_trans (wfd_first_le_last m d k0 (hw k0 (by simp))) ?_
      rw [hc.1]; exact ih k1 (by simp)
    | tail _ hk' => exact ih k hk'

theorem contig_sorted (m d : Nat) : ∀ (kids : List T), (∀ k ∈ kids, WFd m d k) → Contig kids →
    SortedTs (firstRecL kids :: kids.flatMap p1s)
  | [], _, _ => trivial
  | [k0], hw, _ => by simpa [firstRecL] using wfd_sorted m d k0 (hw k0 (by simp))
  | k0 :: k1 :: r, hw, hc => by
    have h0 := hw k0 (by simp)
    have ih := contig_sorted m d (k1 :: r) (fun x hx => hw x (List.mem_cons_of_mem _ hx)) hc.2
    have := sortedTs_append ((k1 :: r).flatMap p1s) (firstRec k0 :: p1s k0) (by simp) (wfd_sorted m d k0 h0)
      (by rw [wfd_lastD m d k0 h0, hc.1]; exact ih)
    simpa [firstRecL] using this

theorem wfd_node_intro (m d : Nat) (keys : List Int) (kids : List T) (last : Pt) (hne : kids ≠ [])
    (hlen : kids.length + 1 ≤ m) (hk : ∀ k ∈ kids, WFd m d k) (hkeys : keys = kids.map (fun k => (firstRec k).ts))
    (hlast : kids.getLast?.map lastRec = some last) (hc : Contig kids) : WFd m (d+1) (.node (d+1) keys kids last) := by
  refine ⟨rfl, hne, hlen, hk, hkeys, hlast, hc, ?_, ?_⟩
  · intro x hx
    rw [hkeys] at hx
    obtain ⟨k, hk', rfl⟩ := List.mem_map.1 hx
    exact contig_first_le m d kids last hk hc hlast k hk'
  · rw [firstRec_node _ _ _ _ (by rw [hkeys]; simpa using hne), p1s_node]
    exact contig_sorted m d kids hk hc

/-! ### appending -/

theorem wfd_single (m d : Nat) (hm : 2 ≤ m) (c : T) (h : WFd m d c) :
    WFd m (d+1) (.node (d+1) [(firstRec c).ts] [c] (lastRec c)) :=
  wfd_node_intro m d _ [c] _ (by simp) (by simpa using hm) (by simpa using h) rfl rfl trivial

theorem new_chain (m : Nat) (hm : 2 ≤ m) : ∀ (d : Nat) (it : Iv), it.p0.ts ≤ it.p1.ts →
    ∃ c, blockAdd m (d+1) (emptyBlock d) it = (c, it.p1, none) ∧ WFd m d c ∧ p1s c = [it.p1] ∧
      firstRec c = it.p0 ∧ lastRec c = it.p1
  | 0, it, h01 => by
    refine ⟨.leaf [it.p0, it.p1], ?_, ?_, ?_, rfl, rfl⟩
    · have := leaf_blockAdd m 0 [] it (by simp)
      have hm0 : ¬ (0 = m) := by omega
      simpa [emptyBlock, hm0, Points.add, Points.lastD] using this
    · exact ⟨by simp, by simpa using hm, ⟨h01, trivial⟩⟩
    · simp [p1s_leaf]
  | d+1, it, h01 => by
    obtain ⟨c, hc, hwf, hp, hf, hl⟩ := new_chain m hm d it h01
    have he : emptyBlock (d+1) = .node (d+1) [] [] zeroPt := by simp [emptyBlock]
    refine ⟨.node (d+1) [(firstRec c).ts] [c] (lastRec c), ?_, wfd_single m d hm c hwf, ?_, ?_, ?_⟩
    · rw [he, blockAdd_node]
      simp [findIntervalInsertIdx, intervals, records, recsOf, removeLoop, upperLoop, level, hc, setLastInterval,
        wfd_tbi m d c hwf]
    · simp [p1s_node, hp]
    · simp [firstRec, firstRecL, hf]
    · simp [lastRec, lastRecL, hl]

theorem blockAdd_append (m : Nat) (hm : 2 ≤ m) : ∀ (d : Nat) (t : T) (it : Iv), WFd m d t →
    (lastRec t).ts ≤ it.p0.ts → it.p0.ts ≤ it.p1.ts →
    (∃ t', blockAdd m (d+1) t it = (t', it.p1, none) ∧ WFd m d t' ∧ p1s t' = p1s t ++ [it.p1] ∧
        firstRec t' = firstRec t ∧ lastRec t' = it.p1) ∨
    (blockAdd m (d+1) t it = (t, lastRec t, some .full) ∧ records t = m) := by
  intro d t it h
  revert it
  revert d t h
  refine wfd_induction ?_ ?_
  · intro recs h it hle h01
    obtain ⟨h2, hlm, hs⟩ := h
    have hne : recs ≠ [] := by intro e; subst e; simp at h2
    have hle' : (Points.lastD recs).ts ≤ it.p0.ts := hle
    have hc : Points.cntLE recs it.p0.ts = recs.length :=
      cntLE_of_all_le _ _ (fun p hp => Int.le_trans (mem_ts_le_lastD recs hs p hp) hle')
    have hb := leaf_blockAdd m 0 recs it (by omega)
    by_cases hfull : recs.length = m
    · right
      rw [hb, if_pos ⟨hfull, hc⟩]
      exact ⟨rfl, hfull⟩
    · left
      have : ¬ (recs.length = m ∧ Points.cntLE recs it.p0.ts = recs.length) := fun h => hfull h.1
      rw [hb, if_neg this, add_append_eq it hne hc, lastD_snoc]
      refine ⟨_, rfl, ⟨by simp; omega, by simp; omega, sortedTs_snoc it.p1 recs hne hs (Int.le_trans hle' h01)⟩, ?_, ?_, ?_⟩
      · rw [p1s_leaf, p1s_leaf, List.tail_append_of_ne_nil hne]
      · cases recs with
        | nil => exact absurd rfl hne
        | cons a r => rfl
      · simp [lastRec]
  · intro d keys kids last hWF ih it hle h01
    obtain ⟨ks, k, rfl, hkl, rfl, hkn⟩ := wfd_last_kid hWF
    obtain ⟨-, -, hlen, hk, hkeys, -, hcon, hkle, -⟩ := hWF
    have hlr : ∀ (kk : T) (la : Pt), lastRec (.node (d+1) keys (ks ++ [kk]) la) = lastRec kk :=
      fun kk la => lastRec_node_snoc _ keys ks kk la hkl
    rw [hlr] at hle ⊢
    have hstep := blockAdd_node_last m (d+1) (d+1) keys (ks ++ [k]) (lastRec k) it hkn
      (fun x hx => Int.le_trans (hkle x hx) hle) hle
    rw [show keys.length - 1 = ks.length by omega] at hstep
    obtain ⟨hks, hkwf⟩ := List.forall_mem_append.1 hk
    rcases ih k (by simp) it hle h01 with ⟨k', hk', hwf', hp', hf', hl'⟩ | ⟨hkf, hrec⟩
    · left
      have hres := upperLoop_node_ok m (blockAdd m (d+1)) m (d+1) keys ks k k' (lastRec k) it.p1 it hkl hk'
      rw [wfd_tbi m d k' hwf', hf', hl', show keys.dropLast ++ [(firstRec k).ts] = keys by rw [hkeys]; simp] at hres
      refine ⟨.node (d+1) keys (ks ++ [k']) it.p1, hstep.trans hres, ?_, ?_, ?_, ?_⟩
      · exact wfd_node_intro m d keys (ks ++ [k']) it.p1 (by simp) (by simpa using hlen)
          (List.forall_mem_append.2 ⟨hks, by simpa using hwf'⟩) (by rw [hkeys]; simp [hf']) (by simp [hl'])
          (contig_replace_last ks k k' hcon hf')
      · simp [p1s_node, hp']
      · rw [firstRec_node _ _ _ _ hkn, firstRec_node _ _ _ _ hkn]; exact firstRecL_snoc ks k k' hf'
      · rw [hlr, hl']
    · by_cases hm' : keys.length + 1 = m
      · right
        exact ⟨hstep.trans (upperLoop_node_full m (blockAdd m (d+1)) m (d+1) keys ks k k (lastRec k) (lastRec k) it hkl hkf hm'),
          by rw [records_node _ _ _ _ hkn]; exact hm'⟩
      · -- the last child is full: a new record, and a new chain of blocks below it that starts at the old last record
        left
        obtain ⟨c, hc, hcwf, hcp, hcf, hcl⟩ := new_chain m hm d { it with p0 := lastRec k } (Int.le_trans hle h01)
        have hres := upperLoop_node_new m (blockAdd m (d+1)) (m - 1) (d+1) keys ks k k (lastRec k) (lastRec k) it hkl hkf hm'
          c it.p1 hc
        rw [wfd_tbi m d c hcwf, hcf, hcl, show m - 1 + 2 = m + 1 by omega] at hres
        have hkn2 : keys ++ [(lastRec k).ts] ≠ [] := by simp
        refine ⟨.node (d+1) (keys ++ [(lastRec k).ts]) (ks ++ [k] ++ [c]) it.p1, hstep.trans hres, ?_, ?_, ?_, ?_⟩
        · exact wfd_node_intro m d _ (ks ++ [k] ++ [c]) it.p1 (by simp) (by simp at hlen ⊢; omega)
            (List.forall_mem_append.2 ⟨hk, by simpa using hcwf⟩) (by rw [hkeys]; simp [hcf]) (by simp [hcl])
            (contig_snoc ks k c hcon hcf.symm)
        · simp [p1s_node, hcp]
        · rw [firstRec_node _ _ _ _ hkn2, firstRec_node _ _ _ _ hkn]; exact firstRecL_snoc2 ks k c
        · rw [lastRec_node_snoc _ _ (ks ++ [k]) c _ (by simp [hkl]), hcl]

/-! ### `prune` and the top level -/

theorem prune_wfd (m : Nat) : ∀ (d : Nat) (t : T), WFd m d t →
    ∃ d', WFd m d' (prune t) ∧ firstRec (prune t) = firstRec t ∧ p1s (prune t) = p1s t := by
  refine wfd_induction ?_ ?_
  · intro recs h
    exact ⟨0, by simpa [prune] using h, by simp [prune], by simp [prune]⟩
  · intro d keys kids last h ih
    by_cases hi : intervals (.node (d+1) keys kids last) > 1
    · exact ⟨d+1, by simpa [prune, hi] using h, by simp [prune, hi], by simp [prune, hi]⟩
    · -- a single interval: the block is dropped, its only child is the tree
      obtain ⟨ks, k, rfl, hkl, -, hkn⟩ := wfd_last_kid h
      have hp : prune (.node (d+1) keys (ks ++ [k]) last) = pruneL (ks ++ [k]) (.node (d+1) keys (ks ++ [k]) last) := by
        rw [prune, if_neg hi]
      rw [intervals_node _ _ _ _ hkn] at hi
      match ks, hkl with
      | [], _ =>
        obtain ⟨d', h1, h2, h3⟩ := ih k (by simp)
        refine ⟨d', by rw [hp]; exact h1, ?_, ?_⟩
        · rw [hp, firstRec_node _ _ _ _ hkn]; exact h2
        · rw [hp, p1s_node]; simpa [pruneL] using h3
      | _ :: _, hkl => simp at hkl; omega

theorem addLoop_ok (m n d : Nat) (b b' : T) (it : Iv) (lr : Pt)
    (h : blockAdd m (level b + 1) b it = (b', lr, none)) (hwf : WFd m d b') :
    ∃ t', addLoop m (n+1) b it = some t' ∧ WF m t' ∧ points t' = firstRec b' :: p1s b' := by
  obtain ⟨d', h1, h2, h3⟩ := prune_wfd m d b' hwf
  refine ⟨prune b', by simp [addLoop, h], Or.inr (by rw [wfd_level m d' _ h1]; exact h1), ?_⟩
  rw [wfd_points m d' _ h1, h2, h3]

/-- **(2)** appending to a well-formed tree never fails, keeps the invariant, and the point list of the tree grows
exactly like the flat list in the append case of `Points.add`. -/
theorem tree_append_refines (maxRecs : Nat) (hm : 3 ≤ maxRecs) (t : T) (it : Iv)
    (hwf : WF maxRecs t) (hao : AppendOnly t it) (h01 : it.p0.ts ≤ it.p1.ts) :
    ∃ t', add maxRecs t it = some t' ∧ WF maxRecs t' ∧
      points t' = (if points t = [] then [it.p0, it.p1] else points t ++ [it.p1]) := by
  have hm2 : 2 ≤ maxRecs := by omega
  rcases hwf with rfl | hwf
  · obtain ⟨c, hc, hcwf, hcp, hcf, _⟩ := new_chain maxRecs hm2 0 it h01
    obtain ⟨t', h1, h2, h3⟩ := addLoop_ok maxRecs 7 0 (.leaf []) c it it.p1 hc hcwf
    refine ⟨t', h1, h2, ?_⟩
    rw [h3, hcp, hcf]; rfl
  · generalize hd : level t = d at hwf
    have hpts := wfd_points maxRecs d t hwf
    have hle : (lastRec t).ts ≤ it.p0.ts := hao _ (wfd_last_mem maxRecs d t hwf)
    have hne : ¬ points t = [] := by rw [hpts]; simp
    rw [if_neg hne, hpts]
    rcases blockAdd_append maxRecs hm2 d t it hwf hle h01 with ⟨t1, hb, hwf1, hp1, hf1, _⟩ | ⟨hb, hrec⟩
    · obtain ⟨t', h1, h2, h3⟩ := addLoop_ok maxRecs 7 d t t1 it it.p1 (by rw [hd]; exact hb) hwf1
      exact ⟨t', h1, h2, by rw [h3, hf1, hp1]; rfl⟩
    · -- a new root above the full tree
      have hroot : makeRootFor t = .node (d+1) [(firstRec t).ts] [t] (lastRec t) := by
        unfold makeRootFor
        rw [wfd_tbi maxRecs d t hwf, hd]; rfl
      have hrwf := wfd_single maxRecs d hm2 t hwf
      have hstep : add maxRecs t it = addLoop maxRecs 7 (.node (d+1) [(firstRec t).ts] [t] (lastRec t))
          { it with p0 := lastRec t } := by
        unfold add
        rw [addLoop, hd, hb]
        simp only [hroot]
      rcases blockAdd_append maxRecs hm2 (d+1) _ { it with p0 := lastRec t } hrwf (Int.le_refl _) (Int.le_trans hle h01)
        with ⟨t2, hb2, hwf2, hp2, hf2, _⟩ | ⟨_, hrec2⟩
      · obtain ⟨t', h1, h2, h3⟩ := addLoop_ok maxRecs 6 (d+1) (.node (d+1) [(firstRec t).ts] [t] (lastRec t)) t2
          { it with p0 := lastRec t } it.p1 hb2 hwf2
        refine ⟨t', by rw [hstep]; exact h1, h2, ?_⟩
        rw [h3, hf2, hp2]
        simp [firstRec, firstRecL, p1s_node]
      · rw [records_node _ _ _ _ (by simp)] at hrec2
        simp at hrec2; omega

/-- corollary: on append-only input the tree's point list is `Points.add` of the old point list -/
theorem tree_append_refines_add (maxRecs : Nat) (hm : 3 ≤ maxRecs) (t : T) (it : Iv)
    (hwf : WF maxRecs t) (hao : AppendOnly t it) (h01 : it.p0.ts ≤ it.p1.ts) :
    ∃ t', add maxRecs t it = some t' ∧ WF maxRecs t' ∧ points t' = Points.add (points t) it := by
  obtain ⟨t', h1, h2, h3⟩ := tree_append_refines maxRecs hm t it hwf hao h01
  refine ⟨t', h1, h2, ?_⟩
  rw [h3]
  by_cases hp : points t = []
  · rw [if_pos hp, hp]; rfl
  · rw [if_neg hp, add_append_eq it hp (cntLE_of_all_le _ _ hao)]

/-! ## (3) look-ups through the tree are look-ups on the flat list -/

def cnt (l : List Int) (ts : Int) : Nat := (l.takeWhile (fun x => decide (x ≤ ts))).length

theorem cntLE_eq_cnt (R : List Pt) (ts : Int) : Points.cntLE R ts = cnt (R.map (·.ts)) ts := by
  induction R with
  | nil => rfl
  | cons a r ih =>
    by_cases h : a.ts ≤ ts
    · rw [cntLE_cons_le h, ih]; simp [cnt, h]
    · rw [cntLE_cons_gt h]; simp [cnt, h]

theorem cnt_le : ∀ (l : List Int) (ts : Int) (i : Nat) (x : Int), i < cnt l ts → l[i]? = some x → x ≤ ts
  | [], _, _, _, h, _ => by simp [cnt] at h
  | a :: r, ts, i, x, h, hx => by
    by_cases ha : a ≤ ts
    · cases i with
      | zero => simp at hx; subst hx; exact ha
      | succ i' =>
        simp at hx
        have : i' < cnt r ts := by simp [cnt, List.takeWhile, ha] at h; exact h
        exact cnt_le r ts i' x this hx
    · simp [cnt, List.takeWhile, ha] at h

theorem cnt_gt : ∀ (l : List Int) (ts : Int) (x : Int), l[cnt l ts]? = some x → ¬ x ≤ ts
  | [], _, _, h => by simp at h
  | a :: r, ts, x, hx => by
    by_cases ha : a ≤ ts
    · have : cnt (a :: r) ts = cnt r ts + 1 := by simp [cnt, List.takeWhile, ha]
      rw [this] at hx; simp at hx
      exact cnt_gt r ts x hx
    · have : cnt (a :: r) ts = 0 := by simp [cnt, List.takeWhile, ha]
      rw [this] at hx; simp at hx; subst hx; exact ha

theorem grEqL_eq : ∀ (kids : List T) (j : Nat) (ts : Int),
    grEqL kids j ts = match kids[j]? with | some k => grEq k ts | none => none
  | [], _, _ => by simp [grEqL]
  | k :: _, 0, _ => by simp [grEqL]
  | _ :: ks, j+1, ts => by simpa [grEqL] using grEqL_eq ks j ts

theorem lessL_eq : ∀ (kids : List T) (j : Nat) (ts : Int),
    lessL kids j ts = match kids[j]? with | some k => less k ts | none => none
  | [], _, _ => by simp [lessL]
  | k :: _, 0, _ => by simp [lessL]
  | _ :: ks, j+1, ts => by simpa [lessL] using lessL_eq ks j ts

/-- under contiguity the timestamps of an upper block's records are: first ts of the subtree, then the last ts of
every child -/
theorem keys_last_eq : ∀ (kids : List T) (last : Pt), kids ≠ [] → Contig kids → kids.getLast?.map lastRec = some last →
    kids.map (fun k => (firstRec k).ts) ++ [last.ts] = (firstRecL kids).ts :: kids.map (fun k => (lastRec k).ts)
  | [], _, h, _, _ => absurd rfl h
  | [k0], last, _, _, hl => by
    simp at hl; simp [firstRecL, hl]
  | k0 :: k1 :: r, last, _, hc, hl => by
    have ih := keys_last_eq (k1 :: r) last (by simp) hc.2 (by simpa [List.getLast?_cons_cons] using hl)
    simp only [List.map_cons, List.cons_append, firstRecL] at ih ⊢
    rw [ih, hc.1]

theorem decomp (m d : Nat) : ∀ (kids : List T) (j : Nat) (k : T), (∀ x ∈ kids, WFd m d x) → Contig kids → kids[j]? = some k →
    ∃ A B, firstRecL kids :: kids.flatMap p1s = A ++ (firstRec k :: p1s k) ++ B
  | [], _, _, _, _, h => by simp at h
  | k0 :: rest, 0, k, _, _, h => by
    simp at h; subst h
    exact ⟨[], rest.flatMap p1s, by simp [firstRecL]⟩
  | [k0], j+1, k, _, _, h => by simp at h
  | k0 :: k1 :: r, j+1, k, hw, hc, h => by
    obtain ⟨A, B, e⟩ := decomp m d (k1 :: r) j k (fun x hx => hw x (List.mem_cons_of_mem _ hx)) hc.2 (by simpa using h)
    have hl := wfd_p1s_last m d k0 (hw k0 (by simp))
    obtain ⟨X, hX⟩ : ∃ X, p1s k0 = X ++ [lastRec k0] := by
      have hne : p1s k0 ≠ [] := by intro e; rw [e] at hl; simp at hl
      refine ⟨(p1s k0).dropLast, ?_⟩
      have := List.dropLast_concat_getLast hne
      rw [List.getLast?_eq_some_getLast hne] at hl
      simp only [Option.some.injEq] at hl
      rw [← hl]; exact this.symm
    refine ⟨firstRec k0 :: X ++ A, B, ?_⟩
    simp only [firstRecL] at e
    rw [List.flatMap_cons, hX, hc.1]
    simp only [firstRecL, List.cons_append, List.append_assoc, List.nil_append]
    rw [e]; simp

theorem sorted_prefix_le : ∀ (A : List Pt) (q : Pt) (X : List Pt), SortedTs (A ++ q :: X) → ∀ a ∈ A, a.ts ≤ q.ts
  | [], _, _, _, a, ha => by simp at ha
  | a0 :: A', q, X, hs, a, ha => by
    have hs' : SortedTs (a0 :: (A' ++ q :: X)) := hs
    cases ha with
    | head => exact sorted_head_le _ _ hs' q (by simp)
    | tail _ h' =>
      have : SortedTs (A' ++ q :: X) := by
        cases hA : A' ++ q :: X with
        | nil => trivial
        | cons b r => rw [hA] at hs'; exact hs'.2
      exact sorted_prefix_le A' q X this a h'

theorem cntLE_append_all (A X : List Pt) (ts : Int) (h : ∀ a ∈ A, a.ts ≤ ts) :
    Points.cntLE (A ++ X) ts = A.length + Points.cntLE X ts := by
  unfold Points.cntLE
  rw [List.takeWhile_append_of_pos (fun a ha => decide_eq_true (h a ha)), List.length_append]

theorem cntLE_append_lt (Q B : List Pt) (ts : Int) (h : Points.cntLE Q ts < Q.length) :
    Points.cntLE (Q ++ B) ts = Points.cntLE Q ts := by
  unfold Points.cntLE at h ⊢
  rw [List.takeWhile_append, if_neg (Nat.ne_of_lt h)]

theorem getD_mid (A Q B : List Pt) (i : Nat) (d : Pt) (hi : i < Q.length) :
    (A ++ Q ++ B).getD (A.length + i) d = Q.getD i d := by
  simp only [List.getD_eq_getElem?_getD, List.append_assoc]
  rw [List.getElem?_append_right (Nat.le_add_right _ _), Nat.add_sub_cancel_left, List.getElem?_append_left hi]

/-- a ts-sorted list `A ++ Q ++ B` whose middle part starts at or below `ts` and ends above it is searched inside `Q` -/
theorem spec_sub (A Q B : List Pt) (ts : Int) (q0 : Pt) (Q' : List Pt) (hQ : Q = q0 :: Q')
    (hs : SortedTs (A ++ Q ++ B)) (h0 : q0.ts ≤ ts) (hl : ¬ (Points.lastD Q).ts ≤ ts) :
    gSpec (A ++ Q ++ B) ts = gSpec Q ts ∧ lSpec (A ++ Q ++ B) ts = lSpec Q ts := by
  have hA : ∀ a ∈ A, a.ts ≤ ts := by
    intro a ha
    have : SortedTs (A ++ q0 :: (Q' ++ B)) := by simpa [hQ] using hs
    exact Int.le_trans (sorted_prefix_le A q0 _ this a ha) h0
  have hlt : Points.cntLE Q ts < Q.length :=
    Nat.lt_of_le_of_ne (cntLE_le_length Q ts)
      (fun e => hl (all_le_of_cntLE_eq_length ts Q e _ (lastD_mem Q (by simp [hQ]))))
  have hc : Points.cntLE (A ++ Q ++ B) ts = A.length + Points.cntLE Q ts := by
    rw [List.append_assoc, cntLE_append_all A _ ts hA, cntLE_append_lt Q B ts hlt]
  obtain ⟨i, hi⟩ : ∃ i, Points.cntLE Q ts = i + 1 := ⟨Points.cntLE Q' ts, by rw [hQ, cntLE_cons_le h0]⟩
  unfold gSpec lSpec
  rw [hc, hi]
  rw [hi] at hlt
  constructor
  · have e : ¬ A.length + (i + 1) = 0 := Nat.succ_ne_zero _
    rw [if_neg (Nat.succ_ne_zero i), if_neg e]
    exact congrArg some (getD_mid A Q B i zeroPt (Nat.lt_of_succ_lt hlt))
  · rw [List.append_assoc, List.drop_length_add_append, List.drop_append_of_le_length (Nat.le_of_lt hlt), List.head?_append]
    cases hd : Q.drop (i + 1) with
    | nil => exact absurd (List.drop_eq_nil_iff.1 hd) (Nat.not_le_of_lt hlt)
    | cons x r => rfl

theorem lookups_wfd (m : Nat) : ∀ (d : Nat) (t : T) (ts : Int), WFd m d t →
    grEq t ts = gSpec (points t) ts ∧ less t ts = lSpec (points t) ts := by
  intro d t ts h
  revert ts
  revert d t h
  refine wfd_induction ?_ ?_
  · intro recs h ts
    have hne : recs ≠ [] := by intro e; subst e; exact absurd h.1 (by decide)
    have : points (.leaf recs) = recs := by
      rw [wfd_points m 0 _ h, p1s_leaf]
      cases recs with
      | nil => exact absurd rfl hne
      | cons a r => rfl
    rw [this]
    exact ⟨leaf_grEq_exact recs ts hne, leaf_less_exact recs ts hne⟩
  · intro d keys kids last hWF ih ts
    obtain ⟨_, _, -, -, -, hkn⟩ := wfd_last_kid hWF
    have hfr := firstRec_node (d+1) keys kids last hkn
    have hsort : SortedTs (firstRecL kids :: kids.flatMap p1s) := by
      have := wfd_sorted m (d+1) _ hWF
      rwa [hfr, p1s_node] at this
    have hlastD : Points.lastD (firstRecL kids :: kids.flatMap p1s) = lastRec (.node (d+1) keys kids last) := by
      have := wfd_lastD m (d+1) _ hWF
      rwa [hfr, p1s_node] at this
    have hlr : last = lastRec (.node (d+1) keys kids last) := by
      have := wfd_tbi m (d+1) _ hWF
      simp only [theBlockInterval, Iv.mk.injEq] at this
      exact this.2
    rw [wfd_points m (d+1) _ hWF, hfr, p1s_node]
    obtain ⟨-, hne, -, hk, hkeys, hlast, hcon, -⟩ := hWF
    have hkl : keys.length = kids.length := by rw [hkeys]; simp
    -- the timestamps of the block's records, seen from the keys and seen from the children
    have hL1 : (recsOf (.node (d+1) keys kids last)).map (·.ts) = keys ++ [last.ts] := by
      rw [recsOf_node _ keys kids last hkn]; simp [List.map_map, Function.comp_def]
    have hL2 : keys ++ [last.ts] = (firstRecL kids).ts :: kids.map (fun k => (lastRec k).ts) := by
      rw [hkeys]; exact keys_last_eq kids last hne hcon hlast
    have hcl : cnt (keys ++ [last.ts]) ts ≤ keys.length + 1 := by
      have := cntLE_le_length (recsOf (.node (d+1) keys kids last)) ts
      rw [cntLE_eq_cnt, hL1, recsOf_node _ keys kids last hkn] at this
      simpa using this
    have hI : findIntervalIdx (.node (d+1) keys kids last) ts = (cnt (keys ++ [last.ts]) ts : Int) - 1 := by
      unfold findIntervalIdx ITree.cntLE
      rw [records_node _ keys kids last hkn, cntLE_eq_cnt, hL1]; simp
    simp only [grEq, less, hI, intervals_node _ keys kids last hkn, idx_neg, idx_last, idx_toNat]
    generalize hc : cnt (keys ++ [last.ts]) ts = c at hcl
    have hc2 : cnt ((firstRecL kids).ts :: kids.map (fun k => (lastRec k).ts)) ts = c := by rw [← hL2]; exact hc
    by_cases h0 : c = 0
    · -- the first record is above `ts`
      subst h0
      have hgt : ¬ (firstRecL kids).ts ≤ ts := by
        apply cnt_gt ((firstRecL kids).ts :: kids.map (fun k => (lastRec k).ts)) ts
        rw [hc2]; simp
      simp [gSpec, lSpec, cntLE_cons_gt hgt, hfr]
    · rw [if_neg h0, if_neg h0]
      by_cases hfull : c = keys.length + 1
      · -- the last record is at or below `ts`
        rw [if_pos hfull, if_pos hfull]
        have hle : last.ts ≤ ts := by
          apply cnt_le (keys ++ [last.ts]) ts keys.length last.ts (by omega)
          simp
        have hall : Points.cntLE (firstRecL kids :: kids.flatMap p1s) ts = (firstRecL kids :: kids.flatMap p1s).length := by
          apply cntLE_of_all_le
          intro p hp
          refine Int.le_trans (mem_ts_le_lastD _ hsort p hp) ?_
          rw [hlastD, ← hlr]; exact hle
        constructor
        · unfold gSpec
          rw [hall, if_neg (by simp), getD_pred_eq_getLastD]
          exact congrArg some hlastD.symm
        · exact ((lSpec_none_iff _ ts).2 hall).symm
      · -- child `c - 1` starts at or below `ts` and ends above it
        rw [if_neg hfull, if_neg hfull]
        obtain ⟨j, rfl⟩ : ∃ j, c = j + 1 := ⟨c - 1, by omega⟩
        have hjlt : j < kids.length := by omega
        rw [Nat.add_sub_cancel, grEqL_eq, lessL_eq]
        have hkj : kids[j]? = some (kids[j]) := List.getElem?_eq_getElem hjlt
        generalize kids[j] = kj at hkj
        rw [hkj]
        have hkjwf : WFd m d kj := hk kj (List.mem_of_getElem? hkj)
        obtain ⟨ihg, ihl⟩ := ih kj (List.mem_of_getElem? hkj) ts
        obtain ⟨A, B, hdec⟩ := decomp m d kids j kj hk hcon hkj
        have h0' : (firstRec kj).ts ≤ ts := by
          apply cnt_le (keys ++ [last.ts]) ts j _ (by omega)
          rw [List.getElem?_append_left (by omega), hkeys, List.getElem?_map, hkj]; rfl
        have hl' : ¬ (Points.lastD (firstRec kj :: p1s kj)).ts ≤ ts := by
          rw [wfd_lastD m d kj hkjwf]
          apply cnt_gt ((firstRecL kids).ts :: kids.map (fun k => (lastRec k).ts)) ts
          rw [hc2, List.getElem?_cons_succ, List.getElem?_map, hkj]; rfl
        have hsub := spec_sub A (firstRec kj :: p1s kj) B ts (firstRec kj) (p1s kj) rfl (by rw [← hdec]; exact hsort) h0' hl'
        rw [hdec, hsub.1, hsub.2]
        dsimp only
        rw [ihg, ihl, wfd_points m d kj hkjwf]
        exact ⟨rfl, rfl⟩


/-- **(3)** look-ups through a well-formed tree are the look-ups on its flat point list: `grEq` fails
(`errAllMatches`) exactly when no point has `ts ≤ t` and otherwise returns the position of the LAST point with
`ts ≤ t`; `less` returns the position of the FIRST point with `ts > t` and fails exactly when there is none.
(For the empty index `leaf []` the real `grEq` returns the zero record instead of `errAllMatches`: position 0, as
`grEqPos`.) Equal timestamps across a block boundary need no side condition. -/
theorem tree_lookup_eq_points (maxRecs : Nat) (t : T) (ts : Int) (hwf : WF maxRecs t) :
    (t ≠ .leaf [] → (grEq t ts = none ↔ Points.cntLE (points t) ts = 0)) ∧
    (∀ r, grEq t ts = some r → r.idx = Points.grEqPos (points t) ts) ∧
    (less t ts).map (·.idx) = Points.lessPos (points t) ts ∧
    (less t ts = none ↔ Points.cntLE (points t) ts = (points t).length) := by
  rcases hwf with rfl | hwf
  · exact ⟨fun h => absurd rfl h, (leaf_lookups [] ts).2⟩
  · obtain ⟨hg, hl⟩ := lookups_wfd maxRecs (level t) t ts hwf
    rw [hg, hl]
    exact ⟨fun _ => gSpec_none_iff _ ts, gSpec_idx _ ts, lSpec_idx _ ts, lSpec_none_iff _ ts⟩

/-- the records themselves, not only their positions -/
theorem tree_lookup_records (maxRecs : Nat) (t : T) (ts : Int) (hwf : WF maxRecs t) (hne : t ≠ .leaf []) :
    grEq t ts = gSpec (points t) ts ∧ less t ts = lSpec (points t) ts := by
  rcases hwf with rfl | hwf
  · exact absurd rfl hne
  · exact lookups_wfd maxRecs (level t) t ts hwf

/-! ## (4) evaluated examples: `maxRecs = 4`, an append-only sequence reaching level 2 -/

/-- interval `i` of the example stream: timestamps `[10i+2, 10i+9]`, positions `[5i, 5i+4]` -/
def exIv (i : Nat) : Iv := ⟨⟨10 * i + 2, 5 * i⟩, ⟨10 * i + 9, 5 * i + 4⟩⟩

def addAll (m : Nat) (t : T) (its : List Iv) : Option T := its.foldl (fun acc it => acc.bind (fun t => add m t it)) (some t)

def exTree (n : Nat) : Option T := addAll 4 (.leaf []) ((List.range n).map exIv)
def exFlat (n : Nat) : List Pt := ((List.range n).map exIv).foldl Points.add []

example : (exTree 3).map rootLevel = some 0 := by decide +kernel
example : (exTree 4).map rootLevel = some 1 := by decide +kernel
example : (exTree 9).map rootLevel = some 1 := by decide +kernel
example : (exTree 10).map rootLevel = some 2 := by decide +kernel
example : (exTree 12).map points = some (exFlat 12) := by decide +kernel
example : (exTree 12).map points = some
    [⟨2, 0⟩, ⟨9, 4⟩, ⟨19, 9⟩, ⟨29, 14⟩, ⟨39, 19⟩, ⟨49, 24⟩, ⟨59, 29⟩, ⟨69, 34⟩, ⟨79, 39⟩, ⟨89, 44⟩, ⟨99, 49⟩, ⟨109, 54⟩,
     ⟨119, 59⟩] := by decide +kernel
example : ∀ n ∈ List.range 30, (exTree n).map points = some (exFlat n) := by decide +kernel
/-- look-ups through the level-2 tree = look-ups on the flat list, at every timestamp around the indexed range -/
example : ∀ ts ∈ (List.range 130).map (fun (n : Nat) => (n : Int) - 3),
    (exTree 12).map (fun t => ((grEq t ts).map (·.idx), (less t ts).map (·.idx))) =
      some (if Points.cntLE (exFlat 12) ts = 0 then none else some (Points.grEqPos (exFlat 12) ts), Points.lessPos (exFlat 12) ts) := by
  decide +kernel

/-! ## whole append-only streams -/

/-- an append-only stream relative to the points indexed so far: every interval is ordered and starts at or above
every indexed timestamp -/
def Stream : List Pt → List Iv → Prop
  | _, [] => True
  | P, it :: r => (∀ p ∈ P, p.ts ≤ it.p0.ts) ∧ it.p0.ts ≤ it.p1.ts ∧ Stream (Points.add P it) r

theorem addAll_none (m : Nat) : ∀ (its : List Iv), its.foldl (fun acc it => acc.bind (fun t => add m t it)) none = none
  | [] => rfl
  | _ :: r => by simpa [List.foldl] using addAll_none m r

theorem addAll_cons (m : Nat) (t : T) (it : Iv) (r : List Iv) :
    addAll m t (it :: r) = match add m t it with | some t' => addAll m t' r | none => none := by
  unfold addAll
  simp only [List.foldl, Option.bind_some]
  cases add m t it with
  | none => exact addAll_none m r
  | some t' => rfl

/-- every append-only stream is indexed without error, the tree stays well-formed (so `WF` is the invariant of all
trees reachable by monotone writes — in particular it is satisfiable at every depth), and its point list is the flat
list built by `Points.add` -/
theorem tree_append_stream (maxRecs : Nat) (hm : 3 ≤ maxRecs) : ∀ (its : List Iv) (t : T), WF maxRecs t →
    Stream (points t) its →
    ∃ t', addAll maxRecs t its = some t' ∧ WF maxRecs t' ∧ points t' = its.foldl Points.add (points t)
  | [], t, hwf, _ => ⟨t, rfl, hwf, rfl⟩
  | it :: r, t, hwf, hs => by
    obtain ⟨t1, h1, h2, h3⟩ := tree_append_refines_add maxRecs hm t it hwf hs.1 hs.2.1
    obtain ⟨t', h4, h5, h6⟩ := tree_append_stream maxRecs hm r t1 h2 (by rw [h3]; exact hs.2.2)
    refine ⟨t', ?_, h5, ?_⟩
    · rw [addAll_cons, h1]; exact h4
    · rw [h6, h3]; rfl

end Logrange.ITree

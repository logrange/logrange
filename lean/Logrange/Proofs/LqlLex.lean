import Logrange.Proofs.LqlStmt
/-!
# Character level: the lexer model on printed text (towards `lex (print a) = tokensOf a` without the `Lexable` hypothesis)
-/
namespace Logrange.Lql
open GoLib

theorem forall_byte (P : UInt8 → Bool) (h : (List.range 256).all (fun n => P (UInt8.ofNat n)) = true) (c : UInt8) :
    P c = true := by
  have hc : c = UInt8.ofNat c.toNat := by simp
  rw [hc]
  exact (List.all_eq_true.mp h) c.toNat (List.mem_range.mpr c.toNat_lt)

def leadKw (c : UInt8) : Bool := keywords.any (fun k => match k with | k0 :: _ => lower c == lower k0 | [] => false)
def leadStr (c : UInt8) : Bool := c == 34 || c == 39
def leadOp (c : UInt8) : Bool := opChars.contains c || c == 33
def leadNum (c : UInt8) : Bool := isDigit c || c == 43 || c == 45 || c == 46

theorem mSpace_nolead (c : UInt8) (r : Bytes) (h : isSpace c = false) : mSpace (c :: r) = 0 := by
  simp [mSpace, List.takeWhile_cons, h]

theorem hasPrefixFold_nolead (c : UInt8) (r : Bytes) (k : Bytes) (hk : k ∈ keywords) (h : leadKw c = false) :
    hasPrefixFold (c :: r) k = false := by
  cases k with
  | nil => exact absurd hk (by decide)
  | cons k0 ks =>
    have : (lower c == lower k0) = false := by
      simp only [leadKw, List.any_eq_false] at h
      have := h (k0 :: ks) hk
      simpa using this
    simp [hasPrefixFold, this]

theorem foldl_kw_zero (s : Bytes) (l : List Bytes) (h : ∀ k ∈ l, hasPrefixFold s k = false) :
    l.foldl (fun best k => if hasPrefixFold s k && k.length > best then k.length else best) 0 = 0 := by
  induction l with
  | nil => rfl
  | cons k ks ih =>
    simp only [List.foldl_cons, h k (List.mem_cons_self), Bool.false_and, Bool.false_eq_true, if_false]
    exact ih (fun k' hk' => h k' (List.mem_cons_of_mem _ hk'))

theorem mKeyword_nolead (c : UInt8) (r : Bytes) (h : leadKw c = false) : mKeyword (c :: r) = 0 :=
  foldl_kw_zero _ _ (fun k hk => hasPrefixFold_nolead c r k hk h)

theorem mIdent_nolead (c : UInt8) (r : Bytes) (h : isIdentStart c = false) : mIdent (c :: r) = 0 := by
  simp [mIdent, h]

theorem mString_nolead (c : UInt8) (r : Bytes) (h : leadStr c = false) : mString (c :: r) = 0 := by
  simp only [leadStr, Bool.or_eq_false_iff] at h
  simp [mString, DQ, h.1, h.2]

theorem mOperator_nolead (c : UInt8) (r : Bytes) (h : leadOp c = false) : mOperator (c :: r) = 0 := by
  simp only [leadOp, Bool.or_eq_false_iff] at h
  obtain ⟨h1, h2⟩ := h
  have h60 : (c == 60) = false := beq_eq_false_iff_ne.2 (by rintro rfl; exact absurd h1 (by decide))
  have h62 : (c == 62) = false := beq_eq_false_iff_ne.2 (by rintro rfl; exact absurd h1 (by decide))
  have h1' : c ∉ opChars := by simpa using h1
  cases r with
  | nil => simp [mOperator, h1']
  | cons b r' => simp [mOperator, h1', h2, h60, h62]

theorem mNumber_nolead (c : UInt8) (r : Bytes) (h : leadNum c = false) : mNumber (c :: r) = 0 := by
  simp only [leadNum, Bool.or_eq_false_iff] at h
  obtain ⟨⟨⟨hd, h43⟩, h45⟩, h46⟩ := h
  simp [mNumber, h43, h45, h46, List.takeWhile_cons, hd]

theorem mTags_nolead (c : UInt8) (r : Bytes) (h : (c == 123) = false) : mTags (c :: r) = 0 := by
  unfold mTags; split <;> simp [mTagsQuoteAware, mTagsGreedy, bne, h]


/-- the winner among the seven candidates when everything but candidate `j` is 0 (or ties behind it) -/
theorem lexOne_of_cands (s : Bytes) (n : Nat) (o : Option TT) (hn : 0 < n)
    (h : pickBest (cands s) = (n, o)) :
    lexOne s = (match o with | none => some (none, n) | some t => some (some ⟨t, s.take n⟩, n)) := by
  have : (n == 0) = false := by simp; omega
  simp only [lexOne, h, this, Bool.false_eq_true, if_false]
  cases o <;> rfl


/-! ### operands and keywords: the general identifier-shaped token -/

def identShaped : Bytes → Bool
  | [] => false
  | c :: tl => isIdentStart c && tl.all isIdentRest

/-- a byte of some keyword (up to letter case) -/
def kwByte (f : UInt8) : Bool := keywords.any (fun k => k.any (fun x => lower f == lower x))
/-- bytes that may follow an identifier-shaped token in printed text: they end the identifier and cannot continue a keyword -/
def followOK (f : UInt8) : Bool := !isIdentRest f && !kwByte f

/-- what follows a token: nothing, or a byte satisfying `q` -/
def nextIs (q : UInt8 → Bool) (rest : Bytes) : Prop := rest = [] ∨ ∃ f r, rest = f :: r ∧ q f = true

theorem hpf_len (a : Bytes) (rest : Bytes) (hr : nextIs followOK rest) : ∀ (k : Bytes), k ∈ keywords → ∀ (a' : Bytes) (k' : Bytes),
    (∀ x ∈ k', x ∈ k) → hasPrefixFold (a' ++ rest) k' = true → k'.length ≤ a'.length := by
  intro k hk a'
  induction a' with
  | nil =>
    intro k' hsub h
    cases k' with
    | nil => simp
    | cons x ks =>
      rcases hr with rfl | ⟨f, r, rfl, hf⟩
      · simp [hasPrefixFold] at h
      · simp only [List.nil_append, hasPrefixFold, Bool.and_eq_true] at h
        simp only [followOK, Bool.and_eq_true, Bool.not_eq_true'] at hf
        have hk2 : kwByte f = false := hf.2
        have h3 : (k.any (fun x' => lower f == lower x')) = false := by
          simp only [kwByte, List.any_eq_false] at hk2; simpa using hk2 k hk
        have h4 : (lower f == lower x) = false := by
          simp only [List.any_eq_false] at h3; simpa using h3 x (hsub x List.mem_cons_self)
        simp [h.1] at h4
  | cons y ys ih =>
    intro k' hsub h
    cases k' with
    | nil => simp
    | cons x ks =>
      simp only [List.cons_append, hasPrefixFold, Bool.and_eq_true] at h
      have := ih ks (fun z hz => hsub z (List.mem_cons_of_mem _ hz)) h.2
      simp; omega

theorem hpf_eqFold (a rest k : Bytes) (h : hasPrefixFold (a ++ rest) k = true) (hl : k.length = a.length) : eqFold a k = true := by
  induction a generalizing k with
  | nil => cases k with
    | nil => rfl
    | cons x ks => simp at hl
  | cons y ys ih =>
    cases k with
    | nil => simp at hl
    | cons x ks =>
      simp only [List.cons_append, hasPrefixFold, Bool.and_eq_true] at h
      simp only [List.length_cons, Nat.add_right_cancel_iff] at hl
      simp [eqFold, h.1, ih ks h.2 hl]

theorem eqFold_hpf (a rest k : Bytes) (h : eqFold a k = true) : hasPrefixFold (a ++ rest) k = true ∧ k.length = a.length := by
  induction a generalizing k with
  | nil => cases k with
    | nil => simp [hasPrefixFold]
    | cons x ks => simp [eqFold] at h
  | cons y ys ih =>
    cases k with
    | nil => simp [eqFold] at h
    | cons x ks =>
      simp only [eqFold, Bool.and_eq_true] at h
      have := ih ks h.2
      simp [hasPrefixFold, h.1, this.1, this.2]

/-- the fold of `mKeyword`: bounded by `n` when every matching keyword is, at least the length of any matching one,
and 0 or the length of a matching keyword -/
theorem foldl_kw_spec (s : Bytes) (l : List Bytes) (b : Nat) :
    let r := l.foldl (fun best k => if hasPrefixFold s k && k.length > best then k.length else best) b
    b ≤ r ∧ (∀ k ∈ l, hasPrefixFold s k = true → k.length ≤ r) ∧ (r = b ∨ ∃ k ∈ l, hasPrefixFold s k = true ∧ k.length = r) := by
  induction l generalizing b with
  | nil => simp
  | cons k ks ih =>
    simp only [List.foldl_cons]
    by_cases hc : (hasPrefixFold s k && decide (k.length > b)) = true
    · rw [if_pos hc]
      obtain ⟨h1, h2, h3⟩ := ih k.length
      simp only [Bool.and_eq_true, decide_eq_true_eq] at hc
      refine ⟨by omega, ?_, ?_⟩
      · intro k' hk' hm
        rcases List.mem_cons.mp hk' with rfl | hk'
        · exact h1
        · exact h2 k' hk' hm
      · rcases h3 with h3 | ⟨k', hk', hm, hl⟩
        · right; exact ⟨k, List.mem_cons_self, hc.1, h3.symm⟩
        · right; exact ⟨k', List.mem_cons_of_mem _ hk', hm, hl⟩
    · rw [if_neg hc]
      obtain ⟨h1, h2, h3⟩ := ih b
      refine ⟨h1, ?_, ?_⟩
      · intro k' hk' hm
        rcases List.mem_cons.mp hk' with rfl | hk'
        · simp only [Bool.and_eq_true, decide_eq_true_eq, not_and, hm, true_implies] at hc
          omega
        · exact h2 k' hk' hm
      · rcases h3 with h3 | ⟨k', hk', hm, hl⟩
        · left; exact h3
        · right; exact ⟨k', List.mem_cons_of_mem _ hk', hm, hl⟩

theorem mKeyword_operand (op rest : Bytes) (hne : op ≠ []) (hr : nextIs followOK rest) :
    mKeyword (op ++ rest) = (if isKeyword op then op.length else mKeyword (op ++ rest)) ∧ mKeyword (op ++ rest) ≤ op.length
    ∧ (isKeyword op = false → mKeyword (op ++ rest) < op.length) := by
  obtain ⟨_, h2, h3⟩ := foldl_kw_spec (op ++ rest) keywords 0
  have hle : mKeyword (op ++ rest) ≤ op.length := by
    rcases h3 with h3 | ⟨k, hk, hm, hl⟩
    · unfold mKeyword; omega
    · have := hpf_len op rest hr k hk op k (fun _ h => h) hm
      unfold mKeyword; omega
  refine ⟨?_, hle, ?_⟩
  · by_cases hk : isKeyword op = true
    · rw [if_pos hk]
      simp only [isKeyword, List.any_eq_true] at hk
      obtain ⟨k, hkm, he⟩ := hk
      have := eqFold_hpf op rest k he
      have := h2 k hkm this.1
      unfold mKeyword at hle ⊢; omega
    · rw [if_neg hk]
  · intro hk
    rcases h3 with h3 | ⟨k, hkm, hm, hl⟩
    · have : 0 < op.length := by
        cases op with
        | nil => exact absurd rfl hne
        | cons _ _ => simp
      unfold mKeyword; omega
    · by_cases hlen : k.length = op.length
      · have := hpf_eqFold op rest k hm hlen
        have : isKeyword op = true := by simp only [isKeyword, List.any_eq_true]; exact ⟨k, hkm, this⟩
        simp [this] at hk
      · unfold mKeyword at hle ⊢; omega


theorem identStart_class (c : UInt8) (h : isIdentStart c = true) :
    isSpace c = false ∧ leadStr c = false ∧ leadOp c = false ∧ leadNum c = false ∧ (c == 123) = false := by
  have := forall_byte (fun c => !isIdentStart c || (!isSpace c && !leadStr c && !leadOp c && !leadNum c && !(c == 123)))
    (by decide +kernel) c
  simp only [h, Bool.not_true, Bool.false_or, Bool.and_eq_true, Bool.not_eq_true'] at this
  exact ⟨this.1.1.1.1, this.1.1.1.2, this.1.1.2, this.1.2, this.2⟩

theorem mIdent_operand (c0 : UInt8) (tl rest : Bytes) (h0 : isIdentStart c0 = true) (ht : tl.all isIdentRest = true)
    (hr : nextIs followOK rest) : mIdent (c0 :: tl ++ rest) = (c0 :: tl).length := by
  have e : List.takeWhile isIdentRest (tl ++ rest) = tl := by
    rw [List.takeWhile_append_of_pos (List.all_eq_true.1 ht)]
    rcases hr with rfl | ⟨f, r, rfl, hf⟩
    · exact List.append_nil tl
    · simp only [followOK, Bool.and_eq_true, Bool.not_eq_true'] at hf
      rw [List.takeWhile_cons_of_neg (by simp [hf.1]), List.append_nil]
  simp [mIdent, h0, e]; omega

/-- an identifier-shaped text followed by the end or a `followOK` byte is ONE token: a Keyword token exactly when the
text is a keyword (tie between the Keyword and Ident groups goes to the earlier group), an Ident token otherwise —
the choice `operandTok` makes -/
theorem lexOne_operand (op rest : Bytes) (hs : identShaped op = true) (hr : nextIs followOK rest) :
    lexOne (op ++ rest) = some (some (operandTok op), op.length) := by
  cases op with
  | nil => simp [identShaped] at hs
  | cons c0 tl =>
    simp only [identShaped, Bool.and_eq_true] at hs
    obtain ⟨hc0, htl⟩ := hs
    obtain ⟨k0, k3, k4, k5, k6⟩ := identStart_class c0 hc0
    have e0 := mSpace_nolead c0 (tl ++ rest) k0
    have e2 := mIdent_operand c0 tl rest hc0 htl hr
    have e3 := mString_nolead c0 (tl ++ rest) k3
    have e4 := mOperator_nolead c0 (tl ++ rest) k4
    have e5 := mNumber_nolead c0 (tl ++ rest) k5
    have e6 := mTags_nolead c0 (tl ++ rest) k6
    obtain ⟨_, hle, hlt⟩ := mKeyword_operand (c0 :: tl) rest (by simp) hr
    have hk1 := (mKeyword_operand (c0 :: tl) rest (by simp) hr).1
    have hpick : pickBest (cands (c0 :: tl ++ rest)) = ((c0 :: tl).length, some (if isKeyword (c0 :: tl) then TT.keyword else TT.ident)) := by
      simp only [cands, List.cons_append] at *
      rw [e0, e2, e3, e4, e5, e6]
      by_cases hk : isKeyword (c0 :: tl) = true
      · rw [if_pos hk] at hk1
        rw [hk1]
        simp [pickBest, hk]
      · have hk' : isKeyword (c0 :: tl) = false := by simpa using hk
        have := hlt hk'
        simp only [pickBest, List.foldl_cons, List.foldl_nil, hk']
        by_cases hz : mKeyword (c0 :: (tl ++ rest)) > 0
        · simp [hz, this]; omega
        · simp [hz]
    have := lexOne_of_cands (c0 :: tl ++ rest) _ _ (by simp) hpick
    rw [this]
    simp [operandTok]


theorem isSpace_32 : isSpace 32 = true := by decide

theorem pick_single (n : Nat) (hn : 0 < n) :
    pickBest [(0, none), (0, some .keyword), (0, some .ident), (0, some .string), (n, some .operator), (0, some .number), (0, some .tags)] = (n, some .operator)
    ∧ pickBest [(0, none), (0, some .keyword), (0, some .ident), (n, some .string), (0, some .operator), (0, some .number), (0, some .tags)] = (n, some .string)
    ∧ pickBest [(n, none), (0, some .keyword), (0, some .ident), (0, some .string), (0, some .operator), (0, some .number), (0, some .tags)] = (n, none) := by
  simp [pickBest, hn]

theorem class32 : leadKw 32 = false ∧ isIdentStart 32 = false ∧ leadStr 32 = false ∧ leadOp 32 = false ∧ leadNum 32 = false ∧ ((32 : UInt8) == 123) = false := by
  decide
theorem class34 : isSpace 34 = false ∧ leadKw 34 = false ∧ isIdentStart 34 = false ∧ leadOp 34 = false ∧ leadNum 34 = false ∧ ((34 : UInt8) == 123) = false := by
  decide

/-- a blank (or two) in front of a non-blank byte is skipped -/
theorem lexOne_blank1 (c : UInt8) (r : Bytes) (hc : isSpace c = false) : lexOne (32 :: c :: r) = some (none, 1) := by
  obtain ⟨k1, k2, k3, k4, k5, k6⟩ := class32
  have e0 : mSpace (32 :: c :: r) = 1 := by simp [mSpace, List.takeWhile_cons, isSpace_32, hc]
  have hp : pickBest (cands (32 :: c :: r)) = (1, none) := by
    simp only [cands]
    rw [e0, mKeyword_nolead _ _ k1, mIdent_nolead _ _ k2, mString_nolead _ _ k3, mOperator_nolead _ _ k4, mNumber_nolead _ _ k5, mTags_nolead _ _ k6]
    exact (pick_single 1 (by omega)).2.2
  simpa using lexOne_of_cands _ _ _ (by omega) hp

theorem lexOne_blank2 (c : UInt8) (r : Bytes) (hc : isSpace c = false) : lexOne (32 :: 32 :: c :: r) = some (none, 2) := by
  obtain ⟨k1, k2, k3, k4, k5, k6⟩ := class32
  have e0 : mSpace (32 :: 32 :: c :: r) = 2 := by simp [mSpace, List.takeWhile_cons, isSpace_32, hc]
  have hp : pickBest (cands (32 :: 32 :: c :: r)) = (2, none) := by
    simp only [cands]
    rw [e0, mKeyword_nolead _ _ k1, mIdent_nolead _ _ k2, mString_nolead _ _ k3, mOperator_nolead _ _ k4, mNumber_nolead _ _ k5, mTags_nolead _ _ k6]
    exact (pick_single 2 (by omega)).2.2
  simpa using lexOne_of_cands _ _ _ (by omega) hp

def opLead (c : UInt8) : Bool := !(isSpace c || leadKw c || isIdentStart c || leadStr c || leadNum c || c == 123)

theorem lexOne_opOnly (c : UInt8) (r : Bytes) (hc : opLead c = true) (n : Nat) (hn : 0 < n) (e : mOperator (c :: r) = n) :
    lexOne (c :: r) = some (some ⟨.operator, (c :: r).take n⟩, n) := by
  simp only [opLead, Bool.not_eq_true', Bool.or_eq_false_iff] at hc
  obtain ⟨⟨⟨⟨⟨k0, k1⟩, k2⟩, k3⟩, k5⟩, k6⟩ := hc
  have hp : pickBest (cands (c :: r)) = (n, some .operator) := by
    simp only [cands]
    rw [e, mSpace_nolead _ _ k0, mKeyword_nolead _ _ k1, mIdent_nolead _ _ k2, mString_nolead _ _ k3, mNumber_nolead _ _ k5,
      mTags_nolead _ _ k6]
    exact (pick_single n hn).1
  exact lexOne_of_cands _ _ _ hn hp

/-- `(`, `)`, `,` are Operator tokens whatever follows -/
theorem lexOne_punct (c : UInt8) (rest : Bytes) (hc : c = 40 ∨ c = 41 ∨ c = 44) :
    lexOne (c :: rest) = some (some ⟨.operator, [c]⟩, 1) := by
  rcases hc with rfl | rfl | rfl <;>
    exact lexOne_opOnly _ rest (by decide) 1 (by omega) (by cases rest <;> simp [mOperator, opChars])

/-- the six symbolic comparison operators followed by a blank -/
theorem lexOne_symop (op r : Bytes) (ho : op ∈ symOps) : lexOne (op ++ 32 :: r) = some (some ⟨.operator, op⟩, op.length) := by
  simp only [symOps, List.mem_cons, List.not_mem_nil, or_false] at ho
  rcases ho with rfl | rfl | rfl | rfl | rfl | rfl
  · exact lexOne_opOnly 60 (32 :: r) (by decide) 1 (by decide) (by simp [mOperator, opChars])
  · exact lexOne_opOnly 62 (32 :: r) (by decide) 1 (by decide) (by simp [mOperator, opChars])
  · exact lexOne_opOnly 62 (61 :: 32 :: r) (by decide) 2 (by decide) (by simp [mOperator, opChars])
  · exact lexOne_opOnly 60 (61 :: 32 :: r) (by decide) 2 (by decide) (by simp [mOperator, opChars])
  · exact lexOne_opOnly 33 (61 :: 32 :: r) (by decide) 2 (by decide) (by simp [mOperator, opChars])
  · exact lexOne_opOnly 61 (32 :: r) (by decide) 1 (by decide) (by simp [mOperator, opChars])

/-! ### quoted strings -/

/-- the body of a `"…"` literal as the String pattern needs it: no bare `"`, every `\` followed by a byte other than a
line break -/
def strOK : Bytes → Bool
  | [] => true
  | [c] => c != 34 && c != 92
  | c :: e :: r' => if c == 34 then false else if c == 92 then e != 10 && strOK r' else strOK (e :: r')

theorem mStrBody_ok : ∀ (k : Nat) (body : Bytes), body.length ≤ k → strOK body = true →
    ∀ (fuel n : Nat) (rest : Bytes), body.length < fuel → mStrBody fuel (body ++ DQ :: rest) n = n + body.length + 1 := by
  intro k body hk hok
  clear hk k
  -- along the recursion of `strOK`; in every case the fuel is a successor
  fun_induction strOK body <;> intro fuel n rest hf <;>
    obtain ⟨f, rfl⟩ : ∃ f, fuel = f + 1 := ⟨fuel - 1, by simp only [List.length_cons, List.length_nil] at hf; omega⟩
  · simp [mStrBody, DQ]
  · rename_i c
    simp only [Bool.and_eq_true, bne_iff_ne, ne_eq] at hok
    obtain ⟨g, rfl⟩ : ∃ g, f = g + 1 := ⟨f - 1, by simp at hf; omega⟩
    simp [mStrBody, DQ, BS, hok.1, hok.2]
  · cases hok
  · rename_i c e r' h34 h92 ih
    simp only [Bool.and_eq_true, bne_iff_ne, ne_eq] at hok
    have h1 : (c == DQ) = false := by simpa [DQ] using h34
    have h2 : (c == BS) = true := by simpa [BS] using h92
    have := ih hok.2 f (n + 2) rest (by simp at hf; omega)
    simp [mStrBody, h1, h2, hok.1, this]; omega
  · rename_i c e r' h34 h92 ih
    have h1 : (c == DQ) = false := by simpa [DQ] using h34
    have h2 : (c == BS) = false := by simpa [BS] using h92
    have := ih hok f (n + 1) rest (by simp at hf ⊢; omega)
    simp only [List.cons_append] at this
    simp [mStrBody, h1, h2, this]; omega
/-- a value the printer's quoting turns into one String token that participle's unquote reads back (decidable per value;
`strconv.Quote` guarantees the first half for every byte string, the second holds for every valid UTF-8 value) -/
def strAtomOK (v : Bytes) : Bool := strOK (quoteBody (v.length + 1) v DQ) && unquoteTok (quote v) == some v

theorem lexOne_quoted (v rest : Bytes) (h : strAtomOK v = true) :
    lexOne (quote v ++ rest) = some (some ⟨.string, quote v⟩, (quote v).length) := by
  simp only [strAtomOK, Bool.and_eq_true] at h
  obtain ⟨k0, k1, k2, k4, k5, k6⟩ := class34
  generalize hb : quoteBody (v.length + 1) v DQ = body at h
  have hq : quote v = 34 :: (body ++ [34]) := by simp [quote, DQ, ← hb]
  have hlen : (quote v).length = body.length + 2 := by rw [hq]; simp
  have hs : quote v ++ rest = 34 :: (body ++ 34 :: rest) := by rw [hq]; simp
  have e3 : mString (34 :: (body ++ 34 :: rest)) = body.length + 2 := by
    have := mStrBody_ok _ body (Nat.le_refl _) h.1 ((body ++ 34 :: rest).length + 1) 1 rest (by simp; omega)
    simp only [DQ] at this
    simp only [mString, DQ, beq_self_eq_true, if_true]
    rw [this]; omega
  have hp : pickBest (cands (34 :: (body ++ 34 :: rest))) = (body.length + 2, some .string) := by
    simp only [cands]
    rw [e3, mSpace_nolead _ _ k0, mKeyword_nolead _ _ k1, mIdent_nolead _ _ k2, mOperator_nolead _ _ k4, mNumber_nolead _ _ k5, mTags_nolead _ _ k6]
    exact (pick_single _ (by omega)).2.1
  rw [hs, hlen]
  have := lexOne_of_cands _ _ _ (by omega) hp
  rw [this, hq]
  have : List.take (body.length + 2) (34 :: (body ++ 34 :: rest)) = 34 :: (body ++ [34]) := by
    have h1 : (34 :: (body ++ 34 :: rest) : Bytes) = (34 :: (body ++ [34])) ++ rest := by simp
    rw [h1]; exact List.take_left' (by simp)
  simp [this]


/-! ### composing token steps along a printed text -/

def tokStart (s : Bytes) : Prop := ∃ c r, s = c :: r ∧ isSpace c = false

/-- lexing `piece ++ rest` (with enough fuel) produces `toks` and goes on with `rest` (with enough fuel), whenever
`rest` satisfies `ok` -/
def LexesTo (piece : Bytes) (toks : List Tok) (ok : Bytes → Prop) : Prop :=
  ∀ rest acc fuel, ok rest → (piece ++ rest).length < fuel →
    ∃ fuel', rest.length < fuel' ∧ lexAll fuel (piece ++ rest) acc = lexAll fuel' rest (toks.reverse ++ acc)

theorem LexesTo.nil (ok : Bytes → Prop) : LexesTo [] [] ok := by
  intro rest acc fuel _ hf
  exact ⟨fuel, by simpa using hf, by simp⟩

theorem LexesTo.append {p1 p2 : Bytes} {t1 t2 : List Tok} {ok1 ok2 : Bytes → Prop}
    (h1 : LexesTo p1 t1 ok1) (h2 : LexesTo p2 t2 ok2) (hok : ∀ rest, ok2 rest → ok1 (p2 ++ rest)) :
    LexesTo (p1 ++ p2) (t1 ++ t2) ok2 := by
  intro rest acc fuel hr hf
  obtain ⟨f1, hf1, e1⟩ := h1 (p2 ++ rest) acc fuel (hok rest hr) (by simpa [List.append_assoc] using hf)
  obtain ⟨f2, hf2, e2⟩ := h2 rest (t1.reverse ++ acc) f1 hr hf1
  exact ⟨f2, hf2, by rw [List.append_assoc, e1, e2]; simp [List.append_assoc]⟩

theorem LexesTo.weaken {p : Bytes} {t : List Tok} {ok ok' : Bytes → Prop} (h : LexesTo p t ok) (hw : ∀ r, ok' r → ok r) :
    LexesTo p t ok' := fun rest acc fuel hr hf => h rest acc fuel (hw rest hr) hf

/-- one non-String token -/
theorem lexesTo_tok (text : Bytes) (t : Tok) (ok : Bytes → Prop) (hne : text ≠ []) (ht : (t.t == TT.string) = false)
    (h : ∀ rest, ok rest → lexOne (text ++ rest) = some (some t, text.length)) : LexesTo text [t] ok := by
  intro rest acc fuel hr hf
  cases fuel with
  | zero => omega
  | succ f =>
    refine ⟨f, by simp at hf; have : 0 < text.length := List.length_pos_iff.mpr hne; omega, ?_⟩
    have hne' : (text ++ rest).isEmpty = false := by cases text <;> simp_all
    rw [lexAll]
    simp [hne', h rest hr, ht]

theorem lexesTo_quoted (v : Bytes) (h : strAtomOK v = true) : LexesTo (quote v) [⟨.string, v⟩] (fun _ => True) := by
  intro rest acc fuel _ hf
  have hu : unquoteTok (quote v) = some v := by
    simp only [strAtomOK, Bool.and_eq_true, beq_iff_eq] at h; exact h.2
  cases fuel with
  | zero => omega
  | succ f =>
    have hl : 0 < (quote v).length := by simp [quote]
    refine ⟨f, by simp at hf; omega, ?_⟩
    have hne' : (quote v ++ rest).isEmpty = false := by simp [quote]
    rw [lexAll]
    simp [hne', lexOne_quoted v rest h, hu]

/-- a single blank in front of a token, or in front of one more blank and a token (`" AND " ++ " x"`) -/
theorem lexesTo_blank : LexesTo [32] [] (fun rest => tokStart rest ∨ ∃ s, rest = 32 :: s ∧ tokStart s) := by
  intro rest acc fuel hr hf
  cases fuel with
  | zero => omega
  | succ f =>
    rcases hr with ⟨c, r, rfl, hc⟩ | ⟨s, rfl, c, r, rfl, hc⟩
    · refine ⟨f, by simp at hf ⊢; omega, ?_⟩
      rw [lexAll]
      simp [lexOne_blank1 c r hc]
    · refine ⟨f + 1, by simp at hf ⊢; omega, ?_⟩
      cases f with
      | zero => simp at hf
      | succ f' =>
        have e1 : lexAll (f' + 1 + 1) (32 :: 32 :: c :: r) acc = lexAll (f' + 1) (c :: r) acc := by
          rw [lexAll]; simp [lexOne_blank2 c r hc]
        have e2 : lexAll (f' + 1 + 1) (32 :: c :: r) acc = lexAll (f' + 1) (c :: r) acc := by
          rw [lexAll]; simp [lexOne_blank1 c r hc]
        simp only [List.cons_append, List.nil_append, List.reverse_nil]
        rw [e1, e2]


/-! ### the decidable "lexable atoms" image predicate for expressions -/
mutual
def laIdent : Ident → Bool
  | .mk op ps => identShaped op && laIdents ps
def laIdents : IdentList → Bool
  | .nil => true
  | .cons h t => laIdent h && laIdents t
end

/-- operands identifier-shaped; the operator one of the six symbols or an identifier-shaped keyword; the value quotable
into one String token that unquotes back -/
def laCond (c : Cond) : Bool :=
  laIdent c.ident && (symOps.contains c.op || (identShaped c.op && isKeyword c.op && !symOps.contains c.op)) && strAtomOK c.value

abbrev okEnd : Bytes → Prop := nextIs followOK
abbrev okAny : Bytes → Prop := fun _ => True

theorem lexesTo_punct (c : UInt8) (hc : c = 40 ∨ c = 41 ∨ c = 44) : LexesTo [c] [⟨.operator, [c]⟩] okAny :=
  lexesTo_tok [c] _ _ (by simp) (by simp) (fun rest _ => by simpa using lexOne_punct c rest hc)

theorem lexesTo_operand (op : Bytes) (h : identShaped op = true) : LexesTo op [operandTok op] okEnd :=
  lexesTo_tok op _ _ (by cases op <;> simp_all [identShaped]) (by unfold operandTok; split <;> simp)
    (fun rest hr => lexOne_operand op rest h hr)

theorem okEnd_cons (f : UInt8) (r : Bytes) (h : followOK f = true) : okEnd (f :: r) := Or.inr ⟨f, r, rfl, h⟩
theorem follow40 : followOK 40 = true := by decide
theorem follow41 : followOK 41 = true := by decide
theorem follow44 : followOK 44 = true := by decide
theorem follow32 : followOK 32 = true := by decide

theorem tail_next (t : IdentList) (r : Bytes) : okEnd (printIdentsTail t ++ 41 :: r) := by
  cases t with
  | nil => exact okEnd_cons 41 _ follow41
  | cons h t => exact okEnd_cons 44 _ follow44

mutual
theorem lex_ident : ∀ (i : Ident), laIdent i = true → LexesTo (printIdent i) (toksIdent i) okEnd
  | .mk op .nil, h => by
    have hs : identShaped op = true := by simpa [laIdent, laIdents] using h
    simpa [printIdent, toksIdent] using lexesTo_operand op hs
  | .mk op (.cons hd t), h => by
    have h' : identShaped op = true ∧ laIdent hd = true ∧ laIdents t = true := by
      simpa [laIdent, laIdents, Bool.and_assoc] using h
    have A := lexesTo_operand op h'.1
    have B := lexesTo_punct 40 (Or.inl rfl)
    have C := lex_ident hd h'.2.1
    have D := lex_identsTail t h'.2.2
    have E := lexesTo_punct 41 (Or.inr (Or.inl rfl))
    have DE := D.append E (fun rest _ => ⟨rest, rfl⟩)
    have CDE := C.append DE (fun rest _ => by simpa [List.append_assoc] using tail_next t rest)
    have BCDE := B.append CDE (fun _ _ => trivial)
    have ALL := A.append BCDE (fun rest _ => okEnd_cons 40 _ follow40)
    have e1 : printIdent (.mk op (.cons hd t)) = op ++ ([40] ++ (printIdent hd ++ (printIdentsTail t ++ [41]))) := by
      simp [printIdent]
    have e2 : toksIdent (.mk op (.cons hd t)) = [operandTok op] ++ ([⟨.operator, [40]⟩] ++ (toksIdent hd ++ (toksIdentsTail t ++ [⟨.operator, [41]⟩]))) := by
      simp [toksIdent, tLP, tRP, LP, RP]
    rw [e1, e2]
    exact ALL.weaken (fun _ _ => trivial)
theorem lex_identsTail : ∀ (t : IdentList), laIdents t = true →
    LexesTo (printIdentsTail t) (toksIdentsTail t) (fun rest => ∃ r, rest = 41 :: r)
  | .nil, _ => by simpa [printIdentsTail, toksIdentsTail] using LexesTo.nil _
  | .cons hd t, h => by
    have h' : laIdent hd = true ∧ laIdents t = true := by simpa [laIdents] using h
    have B := lexesTo_punct 44 (Or.inr (Or.inr rfl))
    have C := lex_ident hd h'.1
    have D := lex_identsTail t h'.2
    have CD := C.append D (fun rest ⟨r, hr⟩ => by subst hr; exact tail_next t r)
    have ALL := B.append CD (fun _ _ => trivial)
    have e1 : printIdentsTail (.cons hd t) = [44] ++ (printIdent hd ++ printIdentsTail t) := by simp [printIdentsTail]
    have e2 : toksIdentsTail (.cons hd t) = [⟨.operator, [44]⟩] ++ (toksIdent hd ++ toksIdentsTail t) := by
      simp [toksIdentsTail, tCOMMA, COMMA]
    rw [e1, e2]
    exact ALL
end


theorem identStart_nospace (c : UInt8) (h : isIdentStart c = true) : isSpace c = false := (identStart_class c h).1

theorem printIdent_head (i : Ident) (h : laIdent i = true) : ∃ c tl, printIdent i = c :: tl ∧ isSpace c = false := by
  cases i with
  | mk op ps =>
    have hs : identShaped op = true := by
      cases ps <;> simp_all [laIdent, laIdents]
    cases op with
    | nil => simp [identShaped] at hs
    | cons c tl =>
      simp only [identShaped, Bool.and_eq_true] at hs
      cases ps with
      | nil => exact ⟨c, tl, by simp [printIdent], identStart_nospace c hs.1⟩
      | cons hd t => exact ⟨c, _, by simp [printIdent]; rfl, identStart_nospace c hs.1⟩

def laOp (op : Bytes) : Bool := symOps.contains op || (identShaped op && isKeyword op && !symOps.contains op)

theorem op_head (op : Bytes) (h : laOp op = true) : ∃ c tl, op = c :: tl ∧ isSpace c = false := by
  simp only [laOp, Bool.or_eq_true, Bool.and_eq_true] at h
  rcases h with h | h
  · have : op ∈ symOps := by simpa using h
    simp only [symOps, List.mem_cons, List.not_mem_nil, or_false] at this
    rcases this with rfl | rfl | rfl | rfl | rfl | rfl <;> exact ⟨_, _, rfl, by decide⟩
  · cases op with
    | nil => simp [identShaped] at h
    | cons c tl =>
      have := h.1.1
      simp only [identShaped, Bool.and_eq_true] at this
      exact ⟨c, tl, rfl, identStart_nospace c this.1⟩

theorem lexesTo_op (op : Bytes) (h : laOp op = true) : LexesTo op [opTok op] (fun rest => ∃ r, rest = 32 :: r) := by
  simp only [laOp, Bool.or_eq_true, Bool.and_eq_true, Bool.not_eq_true'] at h
  by_cases hs : symOps.contains op = true
  · have hm : op ∈ symOps := by simpa using hs
    have hne : op ≠ [] := by
      intro e; subst e; simp [symOps] at hm
    have : opTok op = ⟨.operator, op⟩ := by simp [opTok, hm]
    rw [this]
    exact lexesTo_tok op _ _ hne (by simp) (fun rest ⟨r, hr⟩ => by subst hr; exact lexOne_symop op r hm)
  · have hs' : symOps.contains op = false := by simpa using hs
    rcases h with h | h
    · exact absurd (by simpa using h) hs
    · have hk : isKeyword op = true := h.1.2
      have hnm : op ∉ symOps := by simpa using hs'
      have : opTok op = operandTok op := by simp [opTok, operandTok, hnm, hk]
      rw [this]
      exact (lexesTo_operand op h.1.1).weaken (fun rest ⟨r, hr⟩ => by subst hr; exact okEnd_cons 32 r follow32)

def laCond' (c : Cond) : Bool := laIdent c.ident && laOp c.op && strAtomOK c.value

theorem blankOk_of_head {s : Bytes} (h : ∃ c tl, s = c :: tl ∧ isSpace c = false) (rest : Bytes) :
    tokStart (s ++ rest) ∨ ∃ s', s ++ rest = 32 :: s' ∧ tokStart s' := by
  obtain ⟨c, tl, rfl, hc⟩ := h
  exact Or.inl ⟨c, tl ++ rest, by simp, hc⟩

theorem quote_head (v rest : Bytes) : tokStart (quote v ++ rest) :=
  ⟨34, quoteBody (v.length + 1) v DQ ++ (DQ :: rest), by simp [quote, DQ], by decide⟩

theorem lex_cond (c : Cond) (h : laCond' c = true) : LexesTo (printCond c) (toksCond c) okAny := by
  simp only [laCond', Bool.and_eq_true] at h
  obtain ⟨⟨hi, ho⟩, hv⟩ := h
  have S := lexesTo_blank
  have I := lex_ident c.ident hi
  have O := lexesTo_op c.op ho
  have Q := lexesTo_quoted c.value hv
  have SQ := S.append Q (fun rest _ => Or.inl (quote_head c.value rest))
  have OSQ := O.append SQ (fun rest _ => ⟨quote c.value ++ rest, by simp⟩)
  have SOSQ := S.append OSQ (fun rest _ => by simpa [List.append_assoc] using blankOk_of_head (op_head c.op ho) _)
  have ISOSQ := I.append SOSQ (fun rest _ => by simpa using okEnd_cons 32 _ follow32)
  have ALL := S.append ISOSQ (fun rest _ => by simpa [List.append_assoc] using blankOk_of_head (printIdent_head c.ident hi) _)
  have e1 : printCond c = [32] ++ (printIdent c.ident ++ ([32] ++ (c.op ++ ([32] ++ quote c.value)))) := by
    simp [printCond]
  have e2 : toksCond c = [] ++ (toksIdent c.ident ++ ([] ++ ([opTok c.op] ++ ([] ++ [⟨.string, c.value⟩])))) := by
    simp [toksCond]
  rw [e1, e2]
  exact ALL


mutual
def laExpr : Expr → Bool
  | .mk .nil => false
  | .mk (.cons h t) => laOr h && laOrs t
def laOrs : OrList → Bool
  | .nil => true
  | .cons h t => laOr h && laOrs t
def laOr : OrCond → Bool
  | .mk .nil => false
  | .mk (.cons h t) => laX h && laXs t
def laXs : XList → Bool
  | .nil => true
  | .cons h t => laX h && laXs t
def laX : XCond → Bool
  | .cond _ c => laCond' c
  | .paren _ e => laExpr e
end

/-- a piece that starts with one blank and a non-blank byte -/
def blankTok (s : Bytes) : Prop := ∃ c tl, s = 32 :: c :: tl ∧ isSpace c = false

theorem printCond_head (c : Cond) (h : laCond' c = true) : blankTok (printCond c) := by
  simp only [laCond', Bool.and_eq_true] at h
  obtain ⟨c0, tl, e, hc⟩ := printIdent_head c.ident h.1.1
  exact ⟨c0, tl ++ ([32] ++ c.op ++ [32] ++ quote c.value), by simp [printCond, e], hc⟩

theorem printX_head (x : XCond) (h : laX x = true) : blankTok (printX x) := by
  cases x with
  | cond neg c =>
    cases neg with
    | true => exact ⟨78, _, by simp [printX, bs, Go.ofAscii]; rfl, by decide⟩
    | false =>
      obtain ⟨c0, tl, e, hc⟩ := printCond_head c (by simpa [laX] using h)
      exact ⟨c0, tl, by simp [printX, e], hc⟩
  | paren neg e =>
    cases neg with
    | true => exact ⟨78, _, by simp [printX, bs, Go.ofAscii]; rfl, by decide⟩
    | false => exact ⟨40, _, by simp [printX, bs, Go.ofAscii]; rfl, by decide⟩

theorem printOr_head (o : OrCond) (h : laOr o = true) : blankTok (printOr o) := by
  cases o with
  | mk xs => cases xs with
    | nil => simp [laOr] at h
    | cons x t =>
      have hx : laX x = true := by simp only [laOr, Bool.and_eq_true] at h; exact h.1
      obtain ⟨c, tl, e, hc⟩ := printX_head x hx
      exact ⟨c, tl ++ printXsTail t, by simp [printOr, e], hc⟩

theorem printExpr_head (e : Expr) (h : laExpr e = true) : blankTok (printExpr e) := by
  cases e with
  | mk os => cases os with
    | nil => simp [laExpr] at h
    | cons o t =>
      have ho : laOr o = true := by simp only [laExpr, Bool.and_eq_true] at h; exact h.1
      obtain ⟨c, tl, e, hc⟩ := printOr_head o ho
      exact ⟨c, tl ++ printOrsTail t, by simp [printExpr, e], hc⟩

theorem blankOk1 {s : Bytes} (h : blankTok s) (rest : Bytes) : okEnd (s ++ rest) := by
  obtain ⟨c, tl, rfl, _⟩ := h
  exact okEnd_cons 32 _ follow32

/-- after a trailing blank (`" AND "`) comes a piece that itself starts with a blank -/
theorem blankOk2 {s : Bytes} (h : blankTok s) (rest : Bytes) :
    tokStart (s ++ rest) ∨ ∃ s', s ++ rest = 32 :: s' ∧ tokStart s' := by
  obtain ⟨c, tl, rfl, hc⟩ := h
  exact Or.inr ⟨c :: (tl ++ rest), by simp, c, tl ++ rest, rfl, hc⟩

theorem lexesTo_kw (k : Bytes) (hs : identShaped k = true) (hk : isKeyword k = true) : LexesTo k [tKw k] okEnd := by
  have := lexesTo_operand k hs
  have e : operandTok k = tKw k := by simp [operandTok, hk, tKw]
  rwa [e] at this

/-- `" KW"`: a blank and a keyword, followed by something that starts with a blank -/
theorem lexesTo_blank_kw (k : Bytes) (hs : identShaped k = true) (hk : isKeyword k = true) : LexesTo ([32] ++ k) [tKw k] okEnd := by
  have := lexesTo_blank.append (lexesTo_kw k hs hk) (fun rest _ => by
    cases k with
    | nil => simp [identShaped] at hs
    | cons c tl =>
      simp only [identShaped, Bool.and_eq_true] at hs
      exact Or.inl ⟨c, tl ++ rest, by simp, identStart_nospace c hs.1⟩)
  simpa using this

theorem sNOT : bs " NOT" = [32] ++ kwNOT := by decide
theorem sAND : bs " AND " = ([32] ++ kwAND) ++ [32] := by decide
theorem sOR : bs " OR " = ([32] ++ kwOR) ++ [32] := by decide
theorem sLP : bs " (" = [32] ++ [40] := by decide
theorem sRP : bs " )" = [32] ++ [41] := by decide

theorem lexesTo_not (neg : Bool) : LexesTo (if neg then bs " NOT" else []) (if neg then [tNOT] else []) okEnd := by
  cases neg with
  | false => simpa using LexesTo.nil okEnd
  | true => simpa [sNOT, tNOT, tKw] using lexesTo_blank_kw kwNOT (by decide) (by decide)

mutual
theorem lex_expr : ∀ (e : Expr), laExpr e = true → LexesTo (printExpr e) (toksExpr e) okAny
  | .mk .nil, h => by simp [laExpr] at h
  | .mk (.cons o t), h => by
    have h' : laOr o = true ∧ laOrs t = true := by simpa [laExpr] using h
    have := (lex_or o h'.1).append (lex_orsTail t h'.2) (fun _ _ => trivial)
    simpa [printExpr, toksExpr] using this
theorem lex_orsTail : ∀ (t : OrList), laOrs t = true → LexesTo (printOrsTail t) (toksOrsTail t) okAny
  | .nil, _ => by simpa [printOrsTail, toksOrsTail] using LexesTo.nil okAny
  | .cons o t, h => by
    have h' : laOr o = true ∧ laOrs t = true := by simpa [laOrs] using h
    have K := lexesTo_blank_kw kwOR (by decide) (by decide)
    have OT := (lex_or o h'.1).append (lex_orsTail t h'.2) (fun _ _ => trivial)
    have SOT := lexesTo_blank.append OT (fun rest _ => by simpa [List.append_assoc] using blankOk2 (printOr_head o h'.1) _)
    have ALL := K.append SOT (fun rest _ => okEnd_cons 32 _ follow32)
    have e1 : printOrsTail (.cons o t) = ([32] ++ kwOR) ++ ([32] ++ (printOr o ++ printOrsTail t)) := by
      simp [printOrsTail, sOR, List.append_assoc]
    have e2 : toksOrsTail (.cons o t) = [tKw kwOR] ++ ([] ++ (toksOr o ++ toksOrsTail t)) := by
      simp [toksOrsTail, tOR, tKw]
    rw [e1, e2]; exact ALL
theorem lex_or : ∀ (o : OrCond), laOr o = true → LexesTo (printOr o) (toksOr o) okAny
  | .mk .nil, h => by simp [laOr] at h
  | .mk (.cons x t), h => by
    have h' : laX x = true ∧ laXs t = true := by simpa [laOr] using h
    have := (lex_x x h'.1).append (lex_xsTail t h'.2) (fun _ _ => trivial)
    simpa [printOr, toksOr] using this
theorem lex_xsTail : ∀ (t : XList), laXs t = true → LexesTo (printXsTail t) (toksXsTail t) okAny
  | .nil, _ => by simpa [printXsTail, toksXsTail] using LexesTo.nil okAny
  | .cons x t, h => by
    have h' : laX x = true ∧ laXs t = true := by simpa [laXs] using h
    have K := lexesTo_blank_kw kwAND (by decide) (by decide)
    have XT := (lex_x x h'.1).append (lex_xsTail t h'.2) (fun _ _ => trivial)
    have SXT := lexesTo_blank.append XT (fun rest _ => by simpa [List.append_assoc] using blankOk2 (printX_head x h'.1) _)
    have ALL := K.append SXT (fun rest _ => okEnd_cons 32 _ follow32)
    have e1 : printXsTail (.cons x t) = ([32] ++ kwAND) ++ ([32] ++ (printX x ++ printXsTail t)) := by
      simp [printXsTail, sAND, List.append_assoc]
    have e2 : toksXsTail (.cons x t) = [tKw kwAND] ++ ([] ++ (toksX x ++ toksXsTail t)) := by
      simp [toksXsTail, tAND, tKw]
    rw [e1, e2]; exact ALL
theorem lex_x : ∀ (x : XCond), laX x = true → LexesTo (printX x) (toksX x) okAny
  | .cond neg c, h => by
    have hc : laCond' c = true := by simpa [laX] using h
    have := (lexesTo_not neg).append (lex_cond c hc) (fun rest _ => blankOk1 (printCond_head c hc) rest)
    simpa [printX, toksX] using this
  | .paren neg e, h => by
    have he : laExpr e = true := by simpa [laX] using h
    have L := lexesTo_blank.append (lexesTo_punct 40 (Or.inl rfl)) (fun rest _ => Or.inl ⟨40, rest, rfl, by decide⟩)
    have R := lexesTo_blank.append (lexesTo_punct 41 (Or.inr (Or.inl rfl))) (fun rest _ => Or.inl ⟨41, rest, rfl, by decide⟩)
    have ER := (lex_expr e he).append R (fun _ _ => trivial)
    have LER := L.append ER (fun _ _ => trivial)
    have ALL := (lexesTo_not neg).append LER (fun rest _ => okEnd_cons 32 _ follow32)
    have e1 : printX (.paren neg e) = (if neg then bs " NOT" else []) ++ (([32] ++ [40]) ++ (printExpr e ++ ([32] ++ [41]))) := by
      simp [printX, sLP, sRP, List.append_assoc]
    have e2 : toksX (.paren neg e) = (if neg then [tNOT] else []) ++ (([] ++ [⟨.operator, [40]⟩]) ++ (toksExpr e ++ ([] ++ [⟨.operator, [41]⟩]))) := by
      simp [toksX, tLP, tRP, LP, RP]
    rw [e1, e2]; exact ALL
end

/-- **`lex (print e) = tokensOf e`** for every expression whose atoms are lexable (decidable `laExpr`: operands
identifier-shaped, operators symbolic or identifier-shaped keywords, values `strAtomOK`), any nesting depth — the
`Lexable` hypothesis of `print_parse_partial`, proved from the lexer model -/
theorem lex_printExpr (e : Expr) (h : laExpr e = true) : lex (printExpr e) = some (toksExpr e) := by
  obtain ⟨f, hf, he⟩ := lex_expr e h [] [] ((printExpr e).length + 1) trivial (by simp)
  simp only [List.append_nil] at he
  unfold lex
  rw [he]
  cases f with
  | zero => omega
  | succ f => simp [lexAll]

end Logrange.Lql

import Logrange.Proofs.LqlLex
/-!
# `strconv.ParseInt(fmt.Sprintf("%d", i), 0, 64) = i` for every int64 — the `intOK` hypothesis of `wfLql`, proved
-/
namespace Logrange.Lql

def dval (ds : Bytes) : Nat := ds.foldl (fun a c => a * 10 + (c.toNat - 48)) 0

theorem digit_byte (n : Nat) (h : n < 10) : isDigit (UInt8.ofNat (48 + n)) = true ∧ (UInt8.ofNat (48 + n)).toNat - 48 = n := by
  have : (UInt8.ofNat (48 + n)).toNat = 48 + n := by simp [UInt8.toNat_ofNat']; omega
  simp [isDigit, this]; omega

theorem dval_append (a : Bytes) (d : UInt8) : dval (a ++ [d]) = dval a * 10 + (d.toNat - 48) := by
  simp [dval, List.foldl_append]

def dg (n : Nat) : UInt8 := UInt8.ofNat (48 + n)
theorem dg_spec (n : Nat) (h : n < 10) : isDigit (dg n) = true ∧ (dg n).toNat - 48 = n := digit_byte n h
theorem dg_48 (n : Nat) (h : n < 10) (e : dg n = 48) : n = 0 := by
  have := (dg_spec n h).2; rw [e] at this; simp at this; omega

theorem natDigits_lt (f n : Nat) (acc : Bytes) (h : n < 10) : natDigits (f + 1) n acc = dg n :: acc := by
  rw [natDigits]; exact if_pos h
theorem natDigits_ge (f n : Nat) (acc : Bytes) (h : ¬ n < 10) : natDigits (f + 1) n acc = natDigits f (n / 10) (dg (n % 10) :: acc) := by
  rw [natDigits]; exact if_neg h

/-- `natDigits` writes the decimal digits of `n` (most significant first, no leading zero unless `n = 0`) in front of `acc` -/
theorem natDigits_spec : ∀ (fuel n : Nat) (acc : Bytes), n < fuel →
    ∃ ds, natDigits fuel n acc = ds ++ acc ∧ ds ≠ [] ∧ (∀ d ∈ ds, isDigit d = true) ∧ dval ds = n
      ∧ (ds.head? = some 48 → ds = [48]) := by
  intro fuel
  induction fuel with
  | zero => intro n acc h; omega
  | succ f ih =>
    intro n acc h
    by_cases hn : n < 10
    · refine ⟨[dg n], by rw [natDigits_lt f n acc hn]; rfl, by simp, ?_, ?_, ?_⟩
      · intro d hd; rw [List.mem_singleton.mp hd]; exact (dg_spec n hn).1
      · show 0 * 10 + ((dg n).toNat - 48) = n
        rw [(dg_spec n hn).2]; omega
      · intro hh; have : dg n = 48 := by simpa using hh
        rw [this]
    · obtain ⟨ds, e, hne, hd, hv, hz⟩ := ih (n / 10) (dg (n % 10) :: acc) (by omega)
      have hm : n % 10 < 10 := Nat.mod_lt _ (by omega)
      refine ⟨ds ++ [dg (n % 10)], by rw [natDigits_ge f n acc hn, e]; simp, by simp, ?_, ?_, ?_⟩
      · intro d hd'
        rcases List.mem_append.mp hd' with h1 | h1
        · exact hd d h1
        · rw [List.mem_singleton.mp h1]; exact (dg_spec _ hm).1
      · rw [dval_append, hv, (dg_spec _ hm).2]; omega
      · intro hh
        cases ds with
        | nil => exact absurd rfl hne
        | cons x xs =>
          have hx : x = 48 := by simpa using hh
          have := hz (by simp [hx])
          rw [this] at hv
          have : dval [48] = 0 := by decide
          omega


theorem foldlM_digits (ds : Bytes) (h : ∀ d ∈ ds, isDigit d = true) (a : Nat) :
    ds.foldlM (fun a c => if isDigit c then some (a * 10 + (c.toNat - 48)) else none) a = some (ds.foldl (fun a c => a * 10 + (c.toNat - 48)) a) := by
  induction ds generalizing a with
  | nil => rfl
  | cons d r ih =>
    have hd := h d List.mem_cons_self
    simp only [List.foldlM_cons, hd, if_true, List.foldl_cons]
    exact ih (fun x hx => h x (List.mem_cons_of_mem _ hx)) _

theorem digitsVal_digits (ds : Bytes) (hne : ds ≠ []) (h : ∀ d ∈ ds, isDigit d = true) : digitsVal ds = some (dval ds) := by
  have : ds.isEmpty = false := by cases ds <;> simp_all
  simp only [digitsVal, this, Bool.false_eq_true, if_false]
  exact foldlM_digits ds h 0

theorem decNat_spec (n : Nat) : ∃ c rest, decNat n = c :: rest ∧ isDigit c = true ∧ (c == 48 && !rest.isEmpty) = false ∧
    digitsVal (c :: rest) = some n := by
  obtain ⟨ds, e, hne, hd, hv, hz⟩ := natDigits_spec (n + 1) n [] (by omega)
  have hds : decNat n = ds := by simp [decNat, e]
  cases hc : ds with
  | nil => exact absurd hc hne
  | cons c rest =>
    refine ⟨c, rest, by rw [hds, hc], hd c (by rw [hc]; exact List.mem_cons_self), ?_,
      by rw [← hc, digitsVal_digits ds hne hd, hv]⟩
    cases hx : c == 48 with
    | false => rfl
    | true =>
      have : c = 48 := by simpa using hx
      have := hz (by rw [hc, this]; rfl)
      rw [hc] at this
      have : rest = [] := (by simpa using this : c = 48 ∧ rest = []).2
      simp [this]

theorem decNat_digits (n : Nat) : ∃ c rest, decNat n = c :: rest ∧ isDigit c = true :=
  let ⟨c, rest, e, hc, _⟩ := decNat_spec n
  ⟨c, rest, e, hc⟩

/-- base 0 of `strconv.ParseInt(s, 0, 64)`: no octal reading, there is no leading zero -/
theorem parseInt0_nat (n : Nat) (hn : n < 2 ^ 63) : parseInt0 (decNat n) = some (n : Int) := by
  obtain ⟨c, rest, e, hcd, hoct, hv⟩ := decNat_spec n
  have h45 : (c == 45) = false := beq_eq_false_iff_ne.2 (by rintro rfl; exact absurd hcd (by decide))
  have h43 : (c == 43) = false := beq_eq_false_iff_ne.2 (by rintro rfl; exact absurd hcd (by decide))
  rw [e]
  simp only [parseInt0, h45, h43, Bool.false_eq_true, if_false, List.isEmpty_cons, hoct, hv]
  have h1 : ¬ ((n : Int) < -(2 ^ 63)) := by omega
  have h2 : (n : Int) < 2 ^ 63 := by omega
  simp; omega

theorem parseInt0_neg (n : Nat) (h0 : 0 < n) (hn : n ≤ 2 ^ 63) : parseInt0 (45 :: decNat n) = some (-(n : Int)) := by
  obtain ⟨c, rest, e, _, hoct, hv⟩ := decNat_spec n
  rw [e]
  simp only [parseInt0, beq_self_eq_true, if_true, List.isEmpty_cons, Bool.false_eq_true, if_false, hoct, hv]
  simp; omega

/-- **every int64 is read back from its `%d` text by `strconv.ParseInt(s, 0, 64)`** (model `parseInt0`, `decInt`) -/
theorem parseInt0_decInt (i : Int) (h1 : -(2 ^ 63) ≤ i) (h2 : i < 2 ^ 63) : parseInt0 (decInt i) = some i := by
  by_cases hneg : i < 0
  · have := parseInt0_neg i.natAbs (by omega) (by omega)
    simp only [decInt, hneg, if_true]
    rw [this]; congr 1; omega
  · have := parseInt0_nat i.toNat (by omega)
    simp only [decInt, hneg, if_false]
    rw [this]; congr 1; omega

theorem numLead_class (c : UInt8) (h : isDigit c = true ∨ c = 45) :
    c ≠ 60 ∧ c ≠ 62 ∧ c ≠ 33 ∧ c ≠ 61 ∧ c ≠ 67 ∧ c ≠ 80 ∧ c ≠ 83 ∧ c ≠ 76 ∧ c ≠ 40 := by
  have := forall_byte (fun c => !(isDigit c || c == 45) || (c != 60 && c != 62 && c != 33 && c != 61 && c != 67 && c != 80 && c != 83 && c != 76 && c != 40))
    (by decide +kernel) c
  have hh : (isDigit c || c == 45) = true := by rcases h with h | h <;> simp [h]
  simp only [hh, Bool.not_true, Bool.false_or, Bool.and_eq_true, bne_iff_ne, ne_eq] at this
  obtain ⟨⟨⟨⟨⟨⟨⟨⟨a1, a2⟩, a3⟩, a4⟩, a5⟩, a6⟩, a7⟩, a8⟩, a9⟩ := this
  exact ⟨a1, a2, a3, a4, a5, a6, a7, a8, a9⟩

theorem decInt_head (i : Int) : ∃ c rest, decInt i = c :: rest ∧ (isDigit c = true ∨ c = 45) := by
  by_cases hneg : i < 0
  · exact ⟨45, decNat i.natAbs, by simp [decInt, hneg], Or.inr rfl⟩
  · obtain ⟨c, rest, e, hc⟩ := decNat_digits i.toNat
    exact ⟨c, rest, by simp [decInt, hneg, e], Or.inl hc⟩

/-- **`intOK` holds for every int64**: the decimal text is read back and is never mistaken for an operator or `(` -/
theorem intOK_all (i : Int) (h1 : -(2 ^ 63) ≤ i) (h2 : i < 2 ^ 63) : intOK i = true := by
  obtain ⟨c, rest, e, hc⟩ := decInt_head i
  obtain ⟨a1, a2, a3, a4, a5, a6, a7, a8, a9⟩ := numLead_class c hc
  simp only [intOK, parseInt0_decInt i h1 h2, beq_self_eq_true, Bool.true_and, Bool.and_eq_true, Bool.not_eq_true']
  rw [e]
  constructor
  · simp [isOpTok, condOps, litMatch, a1, a2, a3, a4, a5, a6, a7, a8]
  · simp [litMatch, LP, a9]

end Logrange.Lql

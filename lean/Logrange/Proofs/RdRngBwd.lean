import Logrange.Proofs.RdRngFwd
/-!
Backward-direction proofs for the RANGED journal iterator model (`partition.JIterator` + `chkSelector`, C03/C16):
`rGet`/`rNext` against the admitted-records abstraction (`rGetBwd : RGetBwdSpec`, `rNextBwd : RNextBwdSpec`): going
backward the iterator stands after `wbCount j s` admitted records; `Get` = admitted record `wbCount - 1` (EOF at 0) and
keeps the count, `Next` = `wbCount - 1`. Hypotheses as for the library iterator: no chunk id 0 (`PosIds`), at most 2^32
records per chunk (`bw_ChunkBound`; `count - 1` and `MaxUint32` are uint32 arithmetic).
-/
set_option linter.unusedVariables false
namespace Logrange.Rd

theorem wflatIdx_append (a b : Journal) (p : Pos) : wflatIdx (a ++ b) p = wflatIdx a p + wflatIdx b p := by
  induction a with
  | nil => exact (Nat.zero_add _).symm
  | cons c r ih => rw [List.cons_append, wflatIdx_cons, wflatIdx_cons, ih, Nat.add_assoc]

theorem wflatIdx_reverse (l : Journal) (p : Pos) : wflatIdx l.reverse p = wflatIdx l p := by
  induction l with
  | nil => rfl
  | cons c r ih =>
    rw [List.reverse_cons, wflatIdx_append, ih, wflatIdx_cons]
    exact Nat.add_comm ..

/-- chunks behind `cid` contribute nothing to positions at or before `cid` -/
theorem wflatIdx_filter_le (j : Journal) (cid : Nat) (q : Pos) (h : q.cid ≤ cid) :
    wflatIdx (j.filter (fun c => decide (c.id ≤ cid))) q = wflatIdx j q := by
  induction j with
  | nil => rfl
  | cons c r ih =>
    rw [List.filter_cons]
    by_cases hc : c.id ≤ cid
    · rw [if_pos (decide_eq_true hc), wflatIdx_cons, wflatIdx_cons, ih]
    · rw [if_neg (by simpa using hc), wflatIdx_cons, ih, wfiTerm_gt (by omega), Nat.zero_add]

theorem wflatIdx_beyond {j : Journal} (hs : Sorted j) {ch : Chunk} (hm : ch ∈ j) {k k' : Nat} (h : ch.hi ≤ k)
    (h' : ch.hi ≤ k') : wflatIdx j ⟨ch.id, k⟩ = wflatIdx j ⟨ch.id, k'⟩ := by
  rw [rw_wflatIdx_in hs hm, wBefore_full ch h, rw_wflatIdx_in hs hm k', wBefore_full ch h']

/-- `count - 1` in uint32 arithmetic -/
theorem rb_u32_pred {n : Nat} (h0 : 0 < n) (hb : n ≤ maxU32 + 1) : (n + 4294967296 - 1) % 4294967296 = n - 1 := by
  have hb' : n ≤ 4294967296 := hb
  omega

theorem rb_checkReduce (c : Chunk) (p : Nat) (hb : c.cnt ≤ maxU32 + 1) :
    (checkReduce (stOf c) p).2 = decide (0 < c.cnt ∧ c.minPos ≤ min p (c.hi - 1)) ∧
    (0 < c.cnt → (checkReduce (stOf c) p).1 = min p (c.hi - 1)) := by
  unfold checkReduce stOf
  simp only
  have e1 : (if p > c.maxPos then c.maxPos else p) = min p c.maxPos := by split <;> omega
  rw [e1]
  by_cases h0 : 0 < c.cnt
  · have e2 : (if min p c.maxPos ≥ c.cnt then (c.cnt + 4294967296 - 1) % 4294967296 else min p c.maxPos)
        = min p (c.hi - 1) := by
      rw [rb_u32_pred h0 hb]; unfold Chunk.hi; split <;> omega
    rw [e2, decide_eq_true (show c.cnt > 0 from h0), Bool.and_true]
    exact ⟨decide_eq_decide.mpr ⟨fun h => ⟨h0, h⟩, fun h => h.2⟩, fun _ => rfl⟩
  · rw [decide_eq_false (show ¬ c.cnt > 0 from h0), Bool.and_false]
    exact ⟨(decide_eq_false (fun h => h0 h.1)).symm, fun h => absurd h h0⟩

def startB : List Chunk → Nat → Nat
  | [], _ => 0
  | c :: rest, p => wflatIdx (c :: rest) ⟨c.id, p + 1⟩

def Desc (cs : List Chunk) : Prop := cs.Pairwise (fun a b => b.id < a.id)

theorem startB_cons {c : Chunk} {rest : List Chunk} (h : Desc (c :: rest)) (q : Nat) :
    startB (c :: rest) q = c.wBefore (q + 1) + (wflat rest).length := by
  show wflatIdx (c :: rest) ⟨c.id, q + 1⟩ = _
  rw [wflatIdx_cons, wfiTerm_self, wflatIdx_of_gt (List.pairwise_cons.mp h).1]

/-- entered from the chunk behind, with `MaxUint32` as the index: everything the list admits -/
theorem startB_max {j : Journal} (hcb : bw_ChunkBound j) {cs : List Chunk} (hsub : ∀ c ∈ cs, c ∈ j) (h : Desc cs) :
    startB cs maxU32 = (wflat cs).length := by
  cases cs with
  | nil => rfl
  | cons c r =>
    rw [startB_cons h, wflat_length_cons, wBefore_full c]
    exact Nat.le_trans (Nat.min_le_left ..) (hcb c (hsub c (List.mem_cons_self ..)))

/-- the loop of `getPosBackward` over a descending list `cs` of chunks of the journal -/
theorem rb_bwdLoop {j : Journal} (hs : Sorted j) (hcb : bw_ChunkBound j) : ∀ (cs : List Chunk)
    (stats : List (Nat × ChkSt)) (pIdx : Nat) (lastC : Chunk) (st' : List (Nat × ChkSt)) (ck : Option Chunk) (pos : Pos),
    (∀ c ∈ cs, c ∈ j) → Desc cs → RStats j stats →
    bwdLoop j cs stats pIdx lastC = (st', ck, pos) →
    (∀ c, ck = some c → c ∈ cs ∧ pos.cid = c.id ∧ c.minPos ≤ pos.idx ∧ pos.idx < c.hi ∧
        wflatIdx cs ⟨pos.cid, pos.idx + 1⟩ = startB cs pIdx ∧ st' = rebuild j []) ∧
    (ck = none → startB cs pIdx = 0 ∧ RStats j st') := by
  intro cs
  induction cs with
  | nil =>
    intro stats pIdx lastC st' ck pos _ _ hst h
    simp only [bwdLoop, Prod.mk.injEq] at h
    obtain ⟨rfl, rfl, rfl⟩ := h
    exact ⟨(by intro c hc; cases hc), fun _ => ⟨rfl, hst⟩⟩
  | cons c rest ih =>
    intro stats pIdx lastC st' ck pos hsub hd hst h
    have hcj : c ∈ j := hsub c (List.mem_cons_self ..)
    have hsubr : ∀ x ∈ rest, x ∈ j := fun x hx => hsub x (List.mem_cons_of_mem _ hx)
    have hlt : ∀ x ∈ rest, x.id < c.id := (List.pairwise_cons.mp hd).1
    have hdr : Desc rest := (List.pairwise_cons.mp hd).2
    obtain ⟨cr1, cr2⟩ := rb_checkReduce c pIdx (hcb c hcj)
    rw [bwdLoop, rf_getStatus hs hst hcj] at h
    simp only at h
    generalize checkReduce (stOf c) pIdx = res at h cr1 cr2
    obtain ⟨pp, ok⟩ := res
    simp only at h cr1 cr2
    rw [startB_cons hd]
    by_cases hok : 0 < c.cnt ∧ c.minPos ≤ min pIdx (c.hi - 1)
    · obtain rfl : ok = true := by rw [cr1]; exact decide_eq_true hok
      obtain rfl := cr2 hok.1
      simp only [if_true, Prod.mk.injEq] at h
      obtain ⟨rfl, rfl, rfl⟩ := h
      have hhi : 0 < c.hi := by unfold Chunk.hi; omega
      refine ⟨?_, by intro h; cases h⟩
      intro c' hc'; cases hc'
      refine ⟨List.mem_cons_self .., rfl, hok.2, (by omega : min pIdx (c.hi - 1) < c.hi), ?_, rfl⟩
      show wflatIdx (c :: rest) ⟨c.id, min pIdx (c.hi - 1) + 1⟩ = _
      rw [wflatIdx_cons, wfiTerm_self, wflatIdx_of_gt hlt]
      congr 1
      unfold Chunk.wBefore; omega
    · obtain rfl : ok = false := by rw [cr1]; exact decide_eq_false hok
      simp only [Bool.false_eq_true, if_false] at h
      -- nothing of `c` is admitted at or before `pIdx`: the search goes on in the chunk before
      have hzero : c.wBefore (pIdx + 1) = 0 := by unfold Chunk.wBefore Chunk.hi at *; omega
      obtain ⟨iA, iB⟩ := ih (rebuild j []) maxU32 c st' ck pos hsubr hdr (Or.inr rfl) h
      rw [startB_max hcb hsubr hdr] at iA iB
      rw [hzero, Nat.zero_add]
      constructor
      · intro c' hc'
        obtain ⟨m1, m2, m3, m4, m5, m6⟩ := iA c' hc'
        refine ⟨List.mem_cons_of_mem _ m1, m2, m3, m4, ?_, m6⟩
        rw [wflatIdx_cons, m5, wfiTerm_gt (by rw [m2]; exact hlt c' m1), Nat.zero_add]
      · exact iB

/-- `getPosBackward` -/
theorem rb_getPosBackward {j : Journal} (hs : Sorted j) (hcb : bw_ChunkBound j) {stats : List (Nat × ChkSt)}
    (hst : RStats j stats) (p : Pos) (st' : List (Nat × ChkSt)) (ck : Option Chunk) (pos : Pos)
    (h : getPosBackward j stats p = (st', ck, pos)) :
    (∀ c, ck = some c → c ∈ j ∧ pos.cid = c.id ∧ c.minPos ≤ pos.idx ∧ pos.idx < c.hi ∧
        wflatIdx j ⟨pos.cid, pos.idx + 1⟩ = wflatIdx j ⟨p.cid, p.idx + 1⟩ ∧ st' = rebuild j []) ∧
    (ck = none → wflatIdx j ⟨p.cid, p.idx + 1⟩ = 0 ∧ RStats j st') := by
  unfold getPosBackward at h
  cases j with
  | nil =>
    simp only [Prod.mk.injEq] at h
    obtain ⟨rfl, rfl, rfl⟩ := h
    exact ⟨(by intro c hc; cases hc), fun _ => ⟨rfl, hst⟩⟩
  | cons f jr =>
    simp only at h
    generalize f :: jr = j at *
    -- the search list: the chunks at or before `p.cid`, last first; positions at or before `p.cid` count the same in it
    have hfl : ∀ q : Pos, q.cid ≤ p.cid →
        wflatIdx (j.filter (fun c => decide (c.id ≤ p.cid))).reverse q = wflatIdx j q := fun q hq => by
      rw [wflatIdx_reverse, wflatIdx_filter_le j p.cid q hq]
    rw [← hfl ⟨p.cid, p.idx + 1⟩ (Nat.le_refl _)]
    cases hd : (j.filter (fun c => decide (c.id ≤ p.cid))).reverse with
    | nil =>
      rw [hd] at h
      simp only [Prod.mk.injEq] at h
      obtain ⟨rfl, rfl, rfl⟩ := h
      exact ⟨(by intro c hc; cases hc), fun _ => ⟨rfl, hst⟩⟩
    | cons c0 rest =>
      rw [hd] at h
      simp only at h
      have hmemf : ∀ c ∈ c0 :: rest, c ∈ j ∧ c.id ≤ p.cid := by
        intro c hc
        rw [← hd, List.mem_reverse, List.mem_filter] at hc
        exact ⟨hc.1, of_decide_eq_true hc.2⟩
      have hsub : ∀ c ∈ c0 :: rest, c ∈ j := fun c hc => (hmemf c hc).1
      have hdesc : Desc (c0 :: rest) := by
        rw [← hd]; unfold Desc
        rw [List.pairwise_reverse]
        exact List.Pairwise.sublist List.filter_sublist hs
      have hlt : ∀ x ∈ rest, x.id < c0.id := (List.pairwise_cons.mp hdesc).1
      have hc0 := hmemf c0 (List.mem_cons_self ..)
      obtain ⟨A, B⟩ := rb_bwdLoop hs hcb (c0 :: rest) stats _ c0 st' ck pos hsub hdesc hst h
      have hstart : startB (c0 :: rest) (if c0.id ≠ p.cid then (c0.cnt + 4294967296 - 1) % 4294967296 else p.idx)
          = wflatIdx (c0 :: rest) ⟨p.cid, p.idx + 1⟩ := by
        by_cases he : c0.id = p.cid
        · rw [if_neg (fun h => h he), ← he]; rfl
        · -- the last chunk before `p.cid` is entered at `count - 1`: all of it counts
          have hl : c0.id < p.cid := Nat.lt_of_le_of_ne hc0.2 he
          rw [if_pos he, startB_cons hdesc, wflatIdx_cons, wfiTerm_lt (p := ⟨p.cid, p.idx + 1⟩) hl,
            wflatIdx_of_gt (p := ⟨p.cid, p.idx + 1⟩) (fun x hx => Nat.lt_trans (hlt x hx) hl), wBefore_full c0]
          rcases Nat.eq_zero_or_pos c0.cnt with hz | hz
          · unfold Chunk.hi; omega
          · rw [rb_u32_pred hz (hcb c0 hc0.1)]; unfold Chunk.hi; omega
      rw [hstart] at A B
      constructor
      · intro c hc
        obtain ⟨m1, m2, m3, m4, m5, m6⟩ := A c hc
        refine ⟨hsub c m1, m2, m3, m4, ?_, m6⟩
        rw [← hfl ⟨pos.cid, pos.idx + 1⟩ (by rw [m2]; exact (hmemf c m1).2), hd, m5]
      · exact B

/-- what a backward `ensureChkIt`/`advanceChunk` answers -/
def EnsOutB (j : Journal) (b : Nat) (r : RIt × Bool) : Prop :=
  r.1.bkwd = true ∧ wbCount j r.1 = b ∧ RWF j r.1 ∧
  (r.2 = false → ∃ c ch, r.1.ci = some c ∧ ch ∈ j ∧ ch.id = c.chunk ∧ c.cached = false ∧ 0 ≤ c.pos ∧
      c.pos < (ch.cnt : Int)) ∧
  (r.2 = true → r.1.ci = none ∧ b = 0)

theorem rb_ensure {j : Journal} (hs : Sorted j) (hcb : bw_ChunkBound j) {s : RIt} (hci : s.ci = none)
    (hb : s.bkwd = true) (hst : RStats j s.stats) : EnsOutB j (wbCount j s) (rEnsure j s) := by
  rw [wbCount_none hci]
  rcases hg : getPosBackward j s.stats ⟨s.cid, s.idx⟩ with ⟨st', ck, pos⟩
  obtain ⟨A, B⟩ := rb_getPosBackward hs hcb hst _ st' ck pos hg
  unfold rEnsure EnsOutB
  simp only [hci, hb, if_true, hg]
  cases ck with
  | none =>
    obtain ⟨b1, b2⟩ := B rfl
    simp only
    exact ⟨trivial, wbCount_none rfl, b2, (by intro h; cases h), fun _ => ⟨trivial, b1⟩⟩
  | some c =>
    obtain ⟨a1, a2, a3, a4, a5, a6⟩ := A c rfl
    obtain ⟨k1, k2⟩ := Chunk.lt_hi.mp a4
    simp only
    rw [ciSetPos_fresh, cntOf_mem hs a1, Nat.min_eq_left (Nat.le_of_lt k1), a2, a6]
    exact ⟨trivial, by rw [← a5, ← a2, wbCount_some rfl, rw_toNat_succ],
      RWF.of_open a1 (Nat.lt_of_le_of_lt a3 k1) a3 k2 (Nat.le_of_lt k1) _ true false (by intro h; cases h),
      fun _ => ⟨_, c, rfl, a1, rfl, rfl, Int.natCast_nonneg _, Int.ofNat_lt.mpr k1⟩, (by intro h; cases h)⟩

/-- stepping back out of chunk `ch` below its window = standing at the end of the chunk id before -/
theorem rb_wflatIdx_prev {j : Journal} (hs : Sorted j) (hp : PosIds j) (hcb : bw_ChunkBound j) {ch : Chunk}
    (hm : ch ∈ j) {q : Nat} (hq : q ≤ ch.minPos) :
    wflatIdx j ⟨ch.id - 1, maxU32 + 1⟩ = wflatIdx j ⟨ch.id, q⟩ := by
  have hpos := hp ch hm
  apply wflatIdx_congr
  intro y hy
  rcases Nat.lt_trichotomy y.id ch.id with h | h | h
  · rw [wfiTerm_lt (p := ⟨ch.id, q⟩) h]
    rcases Nat.lt_or_ge y.id (ch.id - 1) with h1 | h1
    · exact wfiTerm_lt h1
    · rw [wfiTerm_eq (by simp only; omega)]
      exact wBefore_full y (Nat.le_trans (Nat.min_le_left ..) (hcb y hy))
  · obtain rfl := sorted_id_inj hs hy hm h
    rw [wfiTerm_self, wBefore_low _ hq, wfiTerm_gt (by simp only; omega)]
  · rw [wfiTerm_gt (p := ⟨ch.id, q⟩) h, wfiTerm_gt (by simp only; omega)]

theorem rb_advance {j : Journal} (hs : Sorted j) (hp : PosIds j) (hcb : bw_ChunkBound j) {s : RIt} {c : CIt}
    {ch : Chunk} (hci : s.ci = some c) (hb : s.bkwd = true) (hstats : s.stats = rebuild j []) (hm : ch ∈ j)
    (hid : ch.id = c.chunk) (hcid : s.cid = ch.id) (hlow : c.pos < (ch.minPos : Int)) :
    EnsOutB j (wbCount j s) (rAdvance j s) := by
  obtain ⟨cid, idx, ci, bkwd, stats⟩ := s
  simp only at hci hb hstats hcid
  subst hci hb hstats hcid
  have hens := rb_ensure hs hcb (s := ⟨ch.id - 1, maxU32, none, true, rebuild j []⟩) rfl rfl (Or.inr rfl)
  rw [wbCount_none rfl, rb_wflatIdx_prev hs hp hcb hm (q := (c.pos + 1).toNat) (by omega)] at hens
  rw [wbCount_some rfl, ← hid]
  unfold rAdvance
  simp only [if_true, Bool.not_true, Bool.and_false, Bool.false_and, Bool.false_eq_true, if_false]
  exact hens

/-- what backward `rGet`/`rGetLoop` answers from a state standing after `b` admitted records -/
def GetOutB (j : Journal) (b : Nat) (r : RIt × Option Rec) : Prop :=
  r.2 = (if b = 0 then none else (wflat j)[b - 1]?) ∧ RWF j r.1 ∧ r.1.bkwd = true ∧ wbCount j r.1 = b ∧
  (r.2.isSome → ROnRecord j r.1) ∧ (r.2 = none → r.1.ci = none)

/-- backward, an open chunk iterator of a well-formed state always delivers a record at once -/
theorem rb_getLoop {j : Journal} (hs : Sorted j) (f : Nat) {s : RIt} {c : CIt} (hci : s.ci = some c)
    (hwf : RWF j s) (hb : s.bkwd = true) : GetOutB j (wbCount j s) (rGetLoop j (f + 1) s) := by
  obtain ⟨ch, hm, k, idx, b, cached, rfl, rfl, hcnt, k1, k2, k3, k0, k4⟩ := hwf.open hs hci
  obtain rfl : b = true := hb
  -- a chunk iterator at the end of its chunk steps back onto the last record
  obtain ⟨k', hlt, hk', l, hl, hget⟩ : ∃ k', k' < ch.cnt ∧ k' = min k (ch.cnt - 1) ∧
      ∃ l, ch.recs[k']? = some l ∧ ciGet j true ⟨ch.id, k, cached⟩ = (⟨ch.id, k', true⟩, some l) := by
    rcases Nat.lt_or_ge k ch.cnt with h | h
    · exact ⟨k, h, by omega, _, List.getElem?_eq_getElem h, rw_ciGet_on hs hm true cached h⟩
    · obtain rfl : k = ch.cnt := Nat.le_antisymm k3 h
      obtain rfl : cached = false := by
        cases cached with
        | false => rfl
        | true => exact absurd (k4 rfl) (Nat.lt_irrefl _)
      exact ⟨ch.cnt - 1, by omega, by omega, _, List.getElem?_eq_getElem _, (rw_ciGet_end hs hm).2 (by omega)⟩
  rw [rGetLoop]
  simp only [hget]
  obtain ⟨hstep, _⟩ := wflatIdx_succ_in hs hm (k := k') (by omega) (Chunk.lt_hi.mpr ⟨hlt, by omega⟩)
  have hkk : wflatIdx j ⟨ch.id, k + 1⟩ = wflatIdx j ⟨ch.id, k' + 1⟩ := by
    rcases Nat.lt_or_ge k ch.cnt with h | h
    · rw [show k' = k by omega]
    · exact wflatIdx_beyond hs hm (by unfold Chunk.hi; omega) (by unfold Chunk.hi; omega)
  rw [wbCount_some rfl, rw_toNat_succ, hkk, hstep]
  refine ⟨?_, RWF.of_open hm k0 (by omega) (by omega) (Nat.le_of_lt hlt) idx true true (fun _ => hlt), rfl,
    by rw [wbCount_some rfl, rw_toNat_succ, hstep], fun _ => ⟨_, rfl, Int.natCast_nonneg k', ?_⟩, (by intro h; cases h)⟩
  · rw [if_neg (Nat.succ_ne_zero _), Nat.add_sub_cancel,
      rf_wflat_get hs hm (by omega) (Chunk.lt_hi.mpr ⟨hlt, by omega⟩)]
    exact hl.symm
  · show (k' : Int) < (cntOf j ch.id : Int)
    rw [hcnt]; exact Int.ofNat_lt.mpr hlt

theorem rb_get_out {j : Journal} (hs : Sorted j) (hp : PosIds j) (hcb : bw_ChunkBound j) {s : RIt} (hwf : RWF j s)
    (hb : s.bkwd = true) : GetOutB j (wbCount j s) (rGet j s) := by
  unfold rGet
  cases hci : s.ci with
  | some c =>
    have he : rEnsure j s = (s, false) := by unfold rEnsure; rw [hci]
    rw [he]
    exact rb_getLoop hs (j.length + 1) hci hwf hb
  | none =>
    have hst : RStats j s.stats := by simpa [RWF, hci] using hwf
    have hens := rb_ensure hs hcb hci hb hst
    generalize rEnsure j s = res at hens
    obtain ⟨s', eof⟩ := res
    obtain ⟨e1, e2, e3, e5, e6⟩ := hens
    simp only
    cases eof with
    | true =>
      obtain ⟨f1, f2⟩ := e6 rfl
      rw [if_pos rfl]
      exact ⟨by rw [f2]; rfl, e3, e1, e2, (by intro h; cases h), fun _ => f1⟩
    | false =>
      obtain ⟨c2, _, h1, _⟩ := e5 rfl
      rw [if_neg Bool.false_ne_true, ← e2]
      exact rb_getLoop hs (j.length + 1) h1 e3 e1

/-- backward `Get` of the ranged iterator -/
theorem rGetBwd : RGetBwdSpec := fun j s hs hp hcb hwf hb => rb_get_out hs hp hcb hwf hb

theorem rb_next_out {j : Journal} (hs : Sorted j) (hp : PosIds j) (hcb : bw_ChunkBound j) {s : RIt} (hwf : RWF j s)
    (hb : s.bkwd = true) :
    RWF j (rNext j s) ∧ (rNext j s).bkwd = true ∧ wbCount j (rNext j s) = wbCount j s - 1 := by
  have g := rb_get_out hs hp hcb hwf hb
  unfold rNext
  generalize wbCount j s = b at g ⊢
  generalize rGet j s = res at g
  obtain ⟨s1, r⟩ := res
  obtain ⟨g1, g2, g3, g4, g6, g7⟩ := g
  simp only at g1 g2 g3 g4 g6 g7 ⊢
  cases r with
  | none =>
    have hci := g7 rfl
    simp only [hci]
    refine ⟨g2, g3, ?_⟩
    by_cases h0 : b = 0
    · rw [g4, h0]
    · rw [if_neg h0, List.getElem?_eq_getElem (by have := g4 ▸ rw_wbCount_le j s1; omega)] at g1
      cases g1
  | some l =>
    obtain ⟨c, hci, _, hlt⟩ := g6 rfl
    obtain ⟨ch, hm, k, idx, b, cached, rfl, rfl, hcnt, k1, k2, k3, k0, _⟩ := g2.open hs hci
    obtain rfl : b = true := g3
    simp only [hcnt] at hlt
    have hk' : k < ch.cnt := Int.ofNat_lt.mp hlt
    have hnx := ciNext_spec hs true (c := ⟨ch.id, k, cached⟩) hm rfl (Int.natCast_nonneg k) hlt
    simp only [hnx, cond_true, rf_statOf_rebuild hs hm, Option.getD_some, stOf]
    obtain ⟨hstep, _⟩ := wflatIdx_succ_in hs hm k1 (Chunk.lt_hi.mpr ⟨hk', k2⟩)
    replace g4 : wflatIdx j ⟨ch.id, k + 1⟩ = b := by rw [← g4, wbCount_some rfl, rw_toNat_succ]
    rw [← g4, hstep, Nat.add_sub_cancel]
    have e1 : ((k : Int) - 1 + 1).toNat = k := by omega
    by_cases hout : (k : Int) - 1 < 0 ∨ ((k : Int) - 1).toNat < ch.minPos ∨ ((k : Int) - 1).toNat > ch.maxPos
    · -- the index before is below the window: the chunk is left
      rw [if_pos hout]
      have hadv := rb_advance hs hp hcb (s := ⟨ch.id, idx, some ⟨ch.id, k - 1, false⟩, true, rebuild j []⟩) rfl rfl rfl hm
        rfl rfl (by simp only; omega)
      rw [wbCount_some rfl, e1] at hadv
      obtain ⟨e1, e2, e3, _, _⟩ := hadv
      exact ⟨e3, e1, e2⟩
    · rw [if_neg hout]
      obtain ⟨k', rfl⟩ : ∃ k', k = k' + 1 := ⟨k - 1, by omega⟩
      have e2 : ((k' + 1 : Nat) : Int) - 1 = k' := by omega
      rw [e2] at hout ⊢
      exact ⟨RWF.of_open hm k0 (by omega) (by omega) (by omega) _ true false (by intro h; cases h), rfl,
        by rw [wbCount_some rfl, rw_toNat_succ]⟩

/-- backward `Next` of the ranged iterator -/
theorem rNextBwd : RNextBwdSpec := fun j s hs hp hcb hwf hb => rb_next_out hs hp hcb hwf hb

theorem rb_rev_take_head_tail {α : Type} (l : List α) (b : Nat) (hb : b ≤ l.length) :
    ((l.take b).reverse).head? = (if b = 0 then none else l[b - 1]?) ∧
    ((l.take b).reverse).tail = (l.take (b - 1)).reverse := by
  cases b with
  | zero => exact ⟨rfl, rfl⟩
  | succ b =>
    rw [List.take_add_one, List.getElem?_eq_getElem hb, Option.toList_some, List.reverse_append, if_neg (Nat.succ_ne_zero b),
      Nat.add_sub_cancel, List.getElem?_eq_getElem hb]
    exact ⟨rfl, rfl⟩

theorem rSpecDrain_fwd {j : Journal} {s : RIt} (hb : s.bkwd = false) : rSpecDrain j s = (wflat j).drop (wIdx j s) := by
  unfold rSpecDrain; rw [hb]; rfl

theorem rSpecDrain_bwd {j : Journal} {s : RIt} (hb : s.bkwd = true) :
    rSpecDrain j s = ((wflat j).take (wbCount j s)).reverse := by
  unfold rSpecDrain; rw [hb]; rfl

theorem rSpecDrain_length_le (j : Journal) (s : RIt) : (rSpecDrain j s).length ≤ (wflat j).length := by
  cases hb : s.bkwd with
  | false => rw [rSpecDrain_fwd hb, List.length_drop]; exact Nat.sub_le ..
  | true => rw [rSpecDrain_bwd hb, List.length_reverse, List.length_take]; exact Nat.min_le_right ..

theorem rGet_view {j : Journal} {s : RIt} (hs : Sorted j) (hd : s.bkwd = true → PosIds j ∧ bw_ChunkBound j)
    (hwf : RWF j s) :
    (rGet j s).2 = (rSpecDrain j s).head? ∧ rSpecDrain j (rGet j s).1 = rSpecDrain j s ∧ RWF j (rGet j s).1 ∧
    (rGet j s).1.bkwd = s.bkwd := by
  cases hb : s.bkwd with
  | false =>
    obtain ⟨g1, g2, g3, g4, _⟩ := rGetFwd j s hs hwf hb
    rw [rSpecDrain_fwd hb, rSpecDrain_fwd g3, g4, List.head?_drop]
    exact ⟨g1, rfl, g2, g3⟩
  | true =>
    obtain ⟨hp, hcb⟩ := hd hb
    obtain ⟨g1, g2, g3, g4, _⟩ := rGetBwd j s hs hp hcb hwf hb
    rw [rSpecDrain_bwd hb, rSpecDrain_bwd g3, g4, (rb_rev_take_head_tail _ _ (rw_wbCount_le j s)).1]
    exact ⟨g1, rfl, g2, g3⟩

theorem rNext_view {j : Journal} {s : RIt} (hs : Sorted j) (hd : s.bkwd = true → PosIds j ∧ bw_ChunkBound j)
    (hwf : RWF j s) :
    rSpecDrain j (rNext j s) = (rSpecDrain j s).tail ∧ RWF j (rNext j s) ∧ (rNext j s).bkwd = s.bkwd := by
  cases hb : s.bkwd with
  | false =>
    obtain ⟨n1, n2, _, n4⟩ := rNextFwd j s hs hwf hb
    rw [rSpecDrain_fwd hb, rSpecDrain_fwd n2, n4, rw_drop_min_succ]
    exact ⟨rfl, n1, n2⟩
  | true =>
    obtain ⟨hp, hcb⟩ := hd hb
    obtain ⟨n1, n2, n3⟩ := rNextBwd j s hs hp hcb hwf hb
    rw [rSpecDrain_bwd hb, rSpecDrain_bwd n2, n3, (rb_rev_take_head_tail _ _ (rw_wbCount_le j s)).2]
    exact ⟨rfl, n1, n2⟩

theorem rDrain_view (j : Journal) (s : RIt) (n : Nat) (hs : Sorted j) (hd : s.bkwd = true → PosIds j ∧ bw_ChunkBound j)
    (hwf : RWF j s) : rDrain j n s = (rSpecDrain j s).take n := by
  refine rDrain_of_view (rSpecDrain j) (fun s => RWF j s ∧ (s.bkwd = true → PosIds j ∧ bw_ChunkBound j)) ?_ ?_ n s ⟨hwf, hd⟩
  · intro s ⟨hwf, hd⟩
    obtain ⟨g1, g2, g3, g4⟩ := rGet_view hs hd hwf
    exact ⟨g1, g2, g3, fun h => hd (g4 ▸ h)⟩
  · intro s ⟨hwf, hd⟩
    obtain ⟨n1, n2, n3⟩ := rNext_view hs hd hwf
    exact ⟨n1, n2, fun h => hd (n3 ▸ h)⟩

/-- draining the ranged iterator backward delivers the admitted records at or before its position, in reverse -/
theorem rb_drain_eq (j : Journal) (s : RIt) (n : Nat) (hs : Sorted j) (hp : PosIds j) (hcb : bw_ChunkBound j)
    (hwf : RWF j s) (hb : s.bkwd = true) :
    rDrain j n s = (((wflat j).take (wbCount j s)).reverse).take n := by
  rw [rDrain_view j s n hs (fun _ => ⟨hp, hcb⟩) hwf, rSpecDrain_bwd hb]

theorem rb_spec_drain_bwd (j : Journal) (s : RIt) (n : Nat) (hs : Sorted j) (hp : PosIds j) (hcb : bw_ChunkBound j)
    (h : rwfB j s = true) (hb : s.bkwd = true) (hn : (wflat j).length ≤ n) : rDrain j n s = rSpecDrain j s := by
  rw [rDrain_view j s n hs (fun _ => ⟨hp, hcb⟩) (rf_rwfB_sound h)]
  exact List.take_of_length_le (Nat.le_trans (rSpecDrain_length_le j s) hn)

end Logrange.Rd

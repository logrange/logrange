import Logrange.Model.TIndexLts
/-! Lemmas behind the C14 property theorems: token counting, the core invariant and its preservation by the
primitive transformations every label is composed of. -/
namespace Logrange.TIndexLts

/-! ### counting tokens -/

theorem nTok_cons (s : Nat) (t : Tok) (h : List Tok) :
    nTok s (t :: h) = nTok s h + (if t.src = s then 1 else 0) := by
  unfold nTok
  rw [List.countP_cons]
  by_cases e : t.src = s <;> simp [e]

theorem nTok_erase (s : Nat) (t : Tok) (h : List Tok) (hm : t ∈ h) :
    nTok s (h.erase t) + (if t.src = s then 1 else 0) = nTok s h := by
  have hp : h.Perm (t :: h.erase t) := List.perm_cons_erase hm
  have : nTok s h = nTok s (t :: h.erase t) := by unfold nTok; exact hp.countP_eq _
  rw [this, nTok_cons]

theorem nTok_pos (s : Nat) (t : Tok) (h : List Tok) (hm : t ∈ h) (hs : t.src = s) : 1 ≤ nTok s h := by
  have := nTok_erase s t h hm
  simp [hs] at this; omega

theorem nTok_two (s : Nat) (t1 t2 : Tok) (h : List Tok) (h1 : t1 ∈ h) (h2 : t2 ∈ h) (hne : t1 ≠ t2)
    (e1 : t1.src = s) (e2 : t2.src = s) : 2 ≤ nTok s h := by
  have a := nTok_erase s t1 h h1
  have m2 : t2 ∈ h.erase t1 := (List.mem_erase_of_ne (Ne.symm hne)).mpr h2
  have b := nTok_pos s t2 _ m2 e2
  simp [e1] at a; omega

theorem upd_same {α : Type} (f : Nat → α) (k : Nat) (v : α) : upd f k v k = v := by simp [upd]
theorem upd_other {α : Type} (f : Nat → α) (k x : Nat) (v : α) (h : x ≠ k) : upd f k v x = f x := by simp [upd, h]

/-! ### the core invariant -/

structure CoreInv (c : Core) : Prop where
  /-- readers = Σ over actors of outstanding acquisitions -/
  cnt : ∀ s p, c.parts s = some p → p.readers = (nTok s c.holds : Int)
  /-- exclusive ⇒ exactly one reader, and it is the locker's -/
  excl : ∀ s p, c.parts s = some p → p.exclusive = true →
    p.readers = 1 ∧ ∃ a au, c.locker s = some a ∧ (⟨a, s, au⟩ : Tok) ∈ c.holds
  /-- a locker only on live, exclusively locked sources -/
  lck : ∀ s a, c.locker s = some a → ∃ p, c.parts s = some p ∧ p.exclusive = true
  /-- sources are handed out in increasing order and never re-used -/
  fresh : ∀ s, c.next ≤ s → c.parts s = none
  tokLt : ∀ t, t ∈ c.holds → t.src < c.next

/-- the invariant is checked source by source: after a change confined to `s` only `s` has to be looked at -/
theorem inv_at (c : Core) (h : CoreInv c) (s : Nat) (c' : Core) (o : Option Part) (l : Option Nat)
    (ho : c'.parts s = o) (hlo : c'.locker s = l)
    (hp : ∀ s', s' ≠ s → c'.parts s' = c.parts s') (hl : ∀ s', s' ≠ s → c'.locker s' = c.locker s')
    (hnext : c.next ≤ c'.next) (hn : ∀ s', s' ≠ s → nTok s' c'.holds = nTok s' c.holds)
    (hm : ∀ t, t ∈ c.holds → t.src ≠ s → t ∈ c'.holds) (hlt : ∀ t, t ∈ c'.holds → t.src < c'.next)
    (hcnt : ∀ q, o = some q → q.readers = (nTok s c'.holds : Int))
    (hexcl : ∀ q, o = some q → q.exclusive = true →
      q.readers = 1 ∧ ∃ a au, l = some a ∧ (⟨a, s, au⟩ : Tok) ∈ c'.holds)
    (hlck : ∀ a, l = some a → ∃ q, o = some q ∧ q.exclusive = true) (hfresh : c'.next ≤ s → o = none) :
    CoreInv c' := by
  subst ho hlo
  refine ⟨?_, ?_, ?_, ?_, hlt⟩
  · intro s' p' h'
    by_cases e : s' = s
    · subst e; exact hcnt p' h'
    · rw [hn s' e]; exact h.cnt s' p' ((hp s' e).symm.trans h')
  · intro s' p' h' hx'
    by_cases e : s' = s
    · subst e; exact hexcl p' h' hx'
    · obtain ⟨r1, a, au, ha, hm'⟩ := h.excl s' p' ((hp s' e).symm.trans h') hx'
      exact ⟨r1, a, au, (hl s' e).trans ha, hm _ hm' e⟩
  · intro s' a ha
    by_cases e : s' = s
    · subst e; exact hlck a ha
    · obtain ⟨p', hp', hx'⟩ := h.lck s' a ((hl s' e).symm.trans ha)
      exact ⟨p', (hp s' e).trans hp', hx'⟩
  · intro s' hs'
    by_cases e : s' = s
    · subst e; exact hfresh hs'
    · exact (hp s' e).trans (h.fresh s' (Nat.le_trans hnext hs'))

/-- acquire: `readers++` on a live, not exclusively locked descriptor -/
theorem inv_acq (c : Core) (h : CoreInv c) (a : Nat) (s : Nat) (au : Bool) (p : Part)
    (hp : c.parts s = some p) (hx : p.exclusive = false) :
    CoreInv { c with parts := incDesc c.parts s p, holds := ⟨a, s, au⟩ :: c.holds } := by
  have hlt : s < c.next := Nat.lt_of_not_le (fun h1 => by rw [h.fresh s h1] at hp; cases hp)
  refine inv_at c h s _ _ _ (upd_same _ _ _) rfl (fun s' e => upd_other _ _ _ _ e) (fun _ _ => rfl) (Nat.le_refl _)
    (fun s' e => by rw [nTok_cons]; simp [Ne.symm e]) (fun t ht _ => List.mem_cons_of_mem _ ht) ?_ ?_ ?_ ?_
    (fun hs => absurd hlt (Nat.not_lt.mpr hs))
  · intro t ht
    rcases List.mem_cons.mp ht with rfl | ht
    · exact hlt
    · exact h.tokLt t ht
  · intro q hq; cases hq
    have := h.cnt s p hp
    simp only [nTok_cons]; simp; omega
  · intro q hq hx'; cases hq; rw [hx] at hx'; cases hx'
  · intro b hb
    obtain ⟨p', hp', hx'⟩ := h.lck s b hb
    rw [hp] at hp'; cases hp'; rw [hx] at hx'; cases hx'

/-- a holder that is not the exclusive locker finds the source not exclusively locked -/
theorem not_excl_of_mayRelease (c : Core) (h : CoreInv c) (a s : Nat) (au : Bool)
    (hm : (⟨a, s, au⟩ : Tok) ∈ c.holds) (hmay : mayRelease c a s = true) (p : Part) (hp : c.parts s = some p) :
    p.exclusive = false := by
  cases hx : p.exclusive with
  | false => rfl
  | true =>
    obtain ⟨r1, b, bu, hb, hbm⟩ := h.excl s p hp hx
    have hab : a ≠ b := by
      intro e; subst e
      simp [mayRelease, hp, hb] at hmay
    have two := nTok_two s ⟨a, s, au⟩ ⟨b, s, bu⟩ c.holds hm hbm (by simp [hab]) rfl rfl
    have := h.cnt s p hp
    omega

theorem decDesc_none (parts : Nat → Option Part) (s : Nat) (hp : parts s = none) : decDesc parts s = parts := by
  simp [decDesc, hp]

theorem decDesc_other (parts : Nat → Option Part) {s s' : Nat} (e : s' ≠ s) : decDesc parts s s' = parts s' := by
  unfold decDesc
  cases parts s with
  | none => rfl
  | some p => exact upd_other _ _ _ _ e

theorem decDesc_same (parts : Nat → Option Part) (s : Nat) :
    decDesc parts s s = (parts s).map fun p => { p with readers := p.readers - 1 } := by
  unfold decDesc
  cases hp : parts s with
  | none => exact hp
  | some p => exact upd_same _ _ _

/-- give back: the descriptor's `readers--` (if it is still in the maps) together with the token -/
theorem inv_rel (c : Core) (h : CoreInv c) (a : Nat) (s : Nat) (au : Bool)
    (hm : (⟨a, s, au⟩ : Tok) ∈ c.holds) (hmay : mayRelease c a s = true) :
    CoreInv { c with parts := decDesc c.parts s, holds := c.holds.erase ⟨a, s, au⟩ } := by
  have key := fun s' => nTok_erase s' ⟨a, s, au⟩ c.holds hm
  have notx := not_excl_of_mayRelease c h a s au hm hmay
  refine inv_at c h s _ _ _ (decDesc_same _ _) rfl (fun s' e => decDesc_other _ e) (fun _ _ => rfl) (Nat.le_refl _)
    (fun s' e => by have k := key s'; simp [Ne.symm e] at k; exact k)
    (fun t ht e => (List.mem_erase_of_ne (fun e' => e (congrArg Tok.src e'))).mpr ht)
    (fun t ht => h.tokLt t (List.mem_of_mem_erase ht)) ?_ ?_ ?_ (fun hs => by rw [h.fresh s hs]; rfl)
  · intro q hq
    cases hp : c.parts s with
    | none => rw [hp] at hq; cases hq
    | some p =>
      rw [hp] at hq; cases hq
      have := h.cnt s p hp
      have k := key s
      simp at k ⊢; omega
  · intro q hq hx'
    cases hp : c.parts s with
    | none => rw [hp] at hq; cases hq
    | some p => rw [hp] at hq; cases hq; rw [show p.exclusive = false from notx p hp] at hx'; cases hx'
  · intro b hb
    obtain ⟨p', hp', hx'⟩ := h.lck s b hb
    rw [notx p' hp'] at hx'; cases hx'

/-- `VF_DO_NOT_RELEASE`: the visit's own acquisition becomes the client's -/
theorem inv_conv (c : Core) (h : CoreInv c) (a : Nat) (s : Nat) (hm : (⟨a, s, true⟩ : Tok) ∈ c.holds) :
    CoreInv { c with holds := ⟨a, s, false⟩ :: c.holds.erase ⟨a, s, true⟩ } := by
  have key := fun s' => nTok_erase s' ⟨a, s, true⟩ c.holds hm
  refine ⟨?_, ?_, h.lck, h.fresh, ?_⟩
  · intro s' p' h'
    have := h.cnt s' p' h'
    have k := key s'
    simp only [nTok_cons]
    by_cases e : s = s' <;> simp [e] at k ⊢ <;> omega
  · intro s' p' h' hx'
    obtain ⟨r1, b, bu, hb, hbm⟩ := h.excl s' p' h' hx'
    by_cases e : (⟨b, s', bu⟩ : Tok) = ⟨a, s, true⟩
    · simp only [Tok.mk.injEq] at e
      obtain ⟨e1, e2, _⟩ := e; subst e1; subst e2
      exact ⟨r1, b, false, hb, List.mem_cons_self⟩
    · exact ⟨r1, b, bu, hb, List.mem_cons_of_mem _ ((List.mem_erase_of_ne e).mpr hbm)⟩
  · intro t ht
    simp only [List.mem_cons] at ht
    rcases ht with ht | ht
    · subst ht; exact h.tokLt ⟨a, s, true⟩ hm
    · exact h.tokLt t (List.mem_of_mem_erase ht)

theorem inv_setPart (c : Core) (h : CoreInv c) (s : Nat) (o : Option Part) (l : Option Nat)
    (hcnt : ∀ q, o = some q → q.readers = (nTok s c.holds : Int))
    (hexcl : ∀ q, o = some q → q.exclusive = true → q.readers = 1 ∧ ∃ a au, l = some a ∧ (⟨a, s, au⟩ : Tok) ∈ c.holds)
    (hlck : ∀ a, l = some a → ∃ q, o = some q ∧ q.exclusive = true) (hfresh : c.next ≤ s → o = none) :
    CoreInv { c with parts := upd c.parts s o, locker := upd c.locker s l } :=
  inv_at c h s _ o l (upd_same _ _ _) (upd_same _ _ _) (fun _ e => upd_other _ _ _ _ e) (fun _ e => upd_other _ _ _ _ e)
    (Nat.le_refl _) (fun _ _ => rfl) (fun _ ht _ => ht) h.tokLt hcnt hexcl hlck hfresh

theorem inv_lock (c : Core) (h : CoreInv c) (a : Nat) (s : Nat) (au : Bool) (p : Part)
    (hp : c.parts s = some p) (hr : p.readers = 1) (hm : (⟨a, s, au⟩ : Tok) ∈ c.holds) :
    CoreInv { c with parts := upd c.parts s (some { p with exclusive := true }), locker := upd c.locker s (some a) } :=
  inv_setPart c h s _ _ (fun _ hq => by cases hq; exact h.cnt s p hp) (fun _ hq _ => by cases hq; exact ⟨hr, a, au, rfl, hm⟩)
    (fun _ _ => ⟨_, rfl, rfl⟩) (fun hs => by rw [h.fresh s hs] at hp; cases hp)

theorem inv_unlock (c : Core) (h : CoreInv c) (s : Nat) (p : Part) (hp : c.parts s = some p) :
    CoreInv { c with parts := upd c.parts s (some { p with exclusive := false }), locker := upd c.locker s none } :=
  inv_setPart c h s _ _ (fun _ hq => by cases hq; exact h.cnt s p hp) (fun _ hq hx => by cases hq; cases hx)
    (fun _ hl => nomatch hl) (fun hs => by rw [h.fresh s hs] at hp; cases hp)

theorem inv_delete (c : Core) (h : CoreInv c) (s : Nat) :
    CoreInv { c with parts := upd c.parts s none, locker := upd c.locker s none } :=
  inv_setPart c h s _ _ (fun _ hq => nomatch hq) (fun _ hq => nomatch hq) (fun _ hl => nomatch hl) (fun _ => rfl)

theorem inv_create (c : Core) (h : CoreInv c) (a : Nat) (tags : Nat) :
    CoreInv { c with parts := upd c.parts c.next (some ⟨tags, 1, false⟩), holds := ⟨a, c.next, false⟩ :: c.holds,
                     next := c.next + 1 } := by
  have zero : nTok c.next c.holds = 0 := by
    unfold nTok
    rw [List.countP_eq_zero]
    intro t ht
    have := h.tokLt t ht
    have : t.src ≠ c.next := by omega
    simpa using this
  have nolock : c.locker c.next = none := by
    cases hl : c.locker c.next with
    | none => rfl
    | some b =>
      obtain ⟨p, hp, _⟩ := h.lck _ _ hl
      rw [h.fresh _ (Nat.le_refl _)] at hp; cases hp
  refine inv_at c h c.next _ _ _ (upd_same _ _ _) rfl (fun s' e => upd_other _ _ _ _ e) (fun _ _ => rfl) (Nat.le_succ _)
    (fun s' e => by rw [nTok_cons]; simp [Ne.symm e]) (fun t ht _ => List.mem_cons_of_mem _ ht) ?_ ?_
    (fun _ hq hx' => by cases hq; cases hx') ?_ (fun hs => absurd hs (Nat.not_succ_le_self _))
  · intro t ht
    rcases List.mem_cons.mp ht with rfl | ht
    · exact Nat.lt_succ_self _
    · exact Nat.lt_succ_of_lt (h.tokLt t ht)
  · intro q hq; cases hq
    simp only [nTok_cons]; simp [zero]
  · intro b hb; rw [nolock] at hb; cases hb

/-! ### the raw critical sections in states that satisfy the invariant -/

theorem zero_of_no_holds {c : Core} (h : CoreInv c) (hq : c.holds = []) {s : Nat} {p : Part} (hp : c.parts s = some p) :
    p.readers = 0 ∧ p.exclusive = false := by
  have hc := h.cnt s p hp
  rw [hq] at hc
  refine ⟨hc, ?_⟩
  cases hx : p.exclusive with
  | false => rfl
  | true =>
    obtain ⟨_, _, _, _, hm⟩ := h.excl s p hp hx
    rw [hq] at hm; cases hm

/-- **Release never panics** for a holder that follows the protocol, and it does what `decDesc` does -/
theorem relRaw_of_inv (c : Core) (h : CoreInv c) (a s : Nat) (au : Bool)
    (hm : (⟨a, s, au⟩ : Tok) ∈ c.holds) (hmay : mayRelease c a s = true) :
    relRaw c.parts s = (decDesc c.parts s, .ok) ∨ (c.parts s = none ∧ relRaw c.parts s = (c.parts, .absent)) := by
  cases hp : c.parts s with
  | none => right; simp [relRaw, hp]
  | some p =>
    left
    have hx := not_excl_of_mayRelease c h a s au hm hmay p hp
    have hc := h.cnt s p hp
    have hpos := nTok_pos s ⟨a, s, au⟩ c.holds hm rfl
    have : ¬ p.readers ≤ 0 := by omega
    simp [relRaw, decDesc, hp, hx, this]

theorem decDesc_isNone (parts : Nat → Option Part) (s s' : Nat) : (decDesc parts s s').isNone = (parts s').isNone := by
  unfold decDesc
  cases hp : parts s with
  | none => rfl
  | some p =>
    by_cases e : s' = s
    · subst e; simp [upd_same, hp]
    · simp [upd_other _ _ _ _ e]

/-! ### the visit-owes-tokens invariant -/

theorem cbOk_owed {v : Visit} {s : Nat} (h : cbOk v s = true) : s ∈ v.owed := by
  simp only [cbOk, Bool.and_eq_true, List.contains_iff_mem] at h
  exact h.2

def VisTok (vis : Nat → Option Visit) (holds : List Tok) : Prop :=
  ∀ a v, vis a = some v → ∀ s, v.owed.count s ≤ holds.count ⟨a, s, true⟩

theorem visTok_mono (vis : Nat → Option Visit) (holds holds' : List Tok) (hv : VisTok vis holds)
    (hm : ∀ a s, holds.count (⟨a, s, true⟩ : Tok) ≤ holds'.count ⟨a, s, true⟩) : VisTok vis holds' := by
  intro a v hva s
  exact Nat.le_trans (hv a v hva s) (hm a s)

theorem count_cons_false (holds : List Tok) (a b s s' : Nat) :
    (((⟨b, s', false⟩ : Tok)) :: holds).count ⟨a, s, true⟩ = holds.count ⟨a, s, true⟩ := by
  rw [List.count_cons_of_ne]; simp

theorem count_erase_false (holds : List Tok) (a b s s' : Nat) :
    (holds.erase (⟨b, s', false⟩ : Tok)).count ⟨a, s, true⟩ = holds.count ⟨a, s, true⟩ := by
  rw [List.count_erase_of_ne]; simp

/-! ### the first locked section of a visit -/

theorem incDesc_isNone (parts : Nat → Option Part) (s : Nat) (p : Part) (hp : parts s = some p) (x : Nat) :
    (incDesc parts s p x).isNone = (parts x).isNone := by
  unfold incDesc
  by_cases e : x = s
  · subst e; simp [upd_same, hp]
  · simp [upd_other _ _ _ _ e]

theorem snap_inv (a : Nat) (sel : List Nat) (acq : Bool) (next : Nat) (locker : Nat → Option Nat) :
    ∀ (l : List Nat) (parts : Nat → Option Part) (holds : List Tok),
      CoreInv ⟨parts, next, holds, locker⟩ →
      CoreInv ⟨(snap a sel acq l parts holds).1, next, (snap a sel acq l parts holds).2.1, locker⟩ ∧
      (∀ x, ((snap a sel acq l parts holds).1 x).isNone = (parts x).isNone) ∧
      (∀ t, holds.count t ≤ (snap a sel acq l parts holds).2.1.count t) ∧
      (∀ t : Tok, (t.actor ≠ a ∨ t.auto = false) → (snap a sel acq l parts holds).2.1.count t = holds.count t) ∧
      (∀ s, (snap a sel acq l parts holds).2.1.count ⟨a, s, true⟩ =
        (if acq then (snap a sel acq l parts holds).2.2.count s else 0) + holds.count ⟨a, s, true⟩) ∧
      (∀ s p, parts s = some p → p.exclusive = true → (snap a sel acq l parts holds).1 s = some p) := by
  intro l
  induction l with
  | nil => intro parts holds h; simpa [snap, h] using fun _ _ hp _ => hp
  | cons s ss ih =>
    intro parts holds h
    unfold snap
    cases hp : parts s with
    | none => simpa [hp] using ih parts holds h
    | some p =>
      simp only []
      by_cases hc : (sel.contains p.tags && !p.exclusive) = true
      · simp only [hc, if_true]
        cases acq with
        | false =>
          simp only [Bool.false_eq_true, if_false]
          obtain ⟨i1, i2, i3, i4, i5, i6⟩ := ih parts holds h
          exact ⟨i1, i2, i3, i4, by simpa using i5, i6⟩
        | true =>
          simp only [if_true]
          have hx : p.exclusive = false := by
            cases hxx : p.exclusive with
            | false => rfl
            | true => simp [hxx] at hc
          obtain ⟨i1, i2, i3, i4, i5, i6⟩ := ih (incDesc parts s p) (⟨a, s, true⟩ :: holds)
            (inv_acq ⟨parts, next, holds, locker⟩ h a s true p hp hx)
          refine ⟨i1, fun x => (i2 x).trans (incDesc_isNone _ _ _ hp x),
            fun t => Nat.le_trans List.count_le_count_cons (i3 t), ?_, ?_, fun s' q hq hxq => i6 s' q ?_ hxq⟩
          rotate_right
          · have e : s' ≠ s := by rintro rfl; rw [hp] at hq; cases hq; rw [hx] at hxq; cases hxq
            exact (upd_other _ _ _ _ e).trans hq
          · intro t ht
            rw [i4 t ht, List.count_cons_of_ne]
            intro e; subst e
            rcases ht with ht | ht
            · exact ht rfl
            · cases ht
          · intro s'
            have := i5 s'
            simp only [if_true] at this ⊢
            rw [this, List.count_cons, List.count_cons]
            by_cases e : s = s'
            · subst e; simp; omega
            · simp [e]
      · simp only [hc, Bool.false_eq_true, if_false]
        exact ih parts holds h

/-! ### the final locked section of a visit -/

theorem relAll_inv (a : Nat) (next : Nat) (locker : Nat → Option Nat) :
    ∀ (l : List Nat) (parts : Nat → Option Part) (holds : List Tok),
      CoreInv ⟨parts, next, holds, locker⟩ →
      (∀ s, s ∈ l → mayRelease ⟨parts, next, holds, locker⟩ a s = true) →
      (∀ s, l.count s ≤ holds.count ⟨a, s, true⟩) →
      CoreInv ⟨(relAll a l parts holds).1, next, (relAll a l parts holds).2, locker⟩ ∧
      (∀ t : Tok, (t.actor ≠ a ∨ t.auto = false) → (relAll a l parts holds).2.count t = holds.count t) ∧
      (∀ s, (relAll a l parts holds).2.count ⟨a, s, true⟩ + l.count s = holds.count ⟨a, s, true⟩) := by
  intro l
  induction l with
  | nil => intro parts holds h _ _; simp [relAll, h]
  | cons s ss ih =>
    intro parts holds h hmay hcnt
    unfold relAll
    have hm : (⟨a, s, true⟩ : Tok) ∈ holds := by
      have := hcnt s
      rw [List.count_cons_self] at this
      exact List.one_le_count_iff.mp (by omega)
    have h1 := inv_rel ⟨parts, next, holds, locker⟩ h a s true hm (hmay s List.mem_cons_self)
    have hmay' : ∀ s', s' ∈ ss → mayRelease ⟨decDesc parts s, next, holds.erase ⟨a, s, true⟩, locker⟩ a s' = true := by
      intro s' hs'
      have := hmay s' (List.mem_cons_of_mem _ hs')
      simp only [mayRelease] at this ⊢
      rw [decDesc_isNone]; exact this
    have hcnt' : ∀ s', ss.count s' ≤ (holds.erase ⟨a, s, true⟩).count ⟨a, s', true⟩ := by
      intro s'
      have := hcnt s'
      by_cases e : s = s'
      · subst e
        rw [List.count_cons_self] at this
        rw [List.count_erase_self]; omega
      · rw [List.count_cons_of_ne e] at this
        rw [List.count_erase_of_ne (by simp [Ne.symm e])]; exact this
    obtain ⟨i1, i2, i3⟩ := ih (decDesc parts s) (holds.erase ⟨a, s, true⟩) h1 hmay' hcnt'
    refine ⟨i1, ?_, ?_⟩
    · intro t ht
      rw [i2 t ht]
      apply List.count_erase_of_ne
      intro e; subst e
      rcases ht with ht | ht
      · exact ht rfl
      · cases ht
    · intro s'
      have := i3 s'
      by_cases e : s = s'
      · subst e
        rw [List.count_cons_self]
        rw [List.count_erase_self] at this
        have := List.one_le_count_iff.mpr hm
        omega
      · rw [List.count_cons_of_ne e]
        rw [List.count_erase_of_ne (by simp [Ne.symm e])] at this
        exact this

/-! ### the invariant of the transition system and its preservation by every label -/

structure StInv (st : St) : Prop where
  core : CoreInv st.c
  visTok : VisTok st.vis st.c.holds
  noPanic : st.panicked = false

theorem inv_init : StInv init := by
  refine ⟨⟨?_, ?_, ?_, ?_, ?_⟩, ?_, rfl⟩
  · intro s p h; simp [init] at h
  · intro s p h; simp [init] at h
  · intro s a h; simp [init] at h
  · intro s _; rfl
  · intro t h; simp [init] at h
  · intro a v h; simp [init] at h

theorem holdsAny_mem (h : List Tok) (a s : Nat) (hh : holdsAny h a s = true) : ∃ au, (⟨a, s, au⟩ : Tok) ∈ h := by
  simp only [holdsAny, Bool.or_eq_true, List.contains_iff_mem] at hh
  rcases hh with hh | hh
  · exact ⟨false, hh⟩
  · exact ⟨true, hh⟩

theorem visTok_upd_other (vis : Nat → Option Visit) (holds : List Tok) (a : Nat) (nv : Option Visit)
    (hv : VisTok vis holds)
    (ha : ∀ v, nv = some v → ∀ s, v.owed.count s ≤ holds.count ⟨a, s, true⟩) : VisTok (upd vis a nv) holds := by
  intro b v hb s
  by_cases e : b = a
  · subst e; rw [upd_same] at hb; exact ha v hb s
  · rw [upd_other _ _ _ _ e] at hb; exact hv b v hb s

/-! Every label either leaves the state alone or applies one of a few transformations; `step_eff` is the only place
where `step` is taken apart label by label. -/

def St.acq (st : St) (s : Nat) (p : Part) (t : Tok) : St :=
  { st with c := { st.c with parts := incDesc st.c.parts s p, holds := t :: st.c.holds } }
def St.create (st : St) (a tags : Nat) : St :=
  { st with c := { st.c with parts := upd st.c.parts st.c.next (some ⟨tags, 1, false⟩),
                             holds := ⟨a, st.c.next, false⟩ :: st.c.holds, next := st.c.next + 1 } }
def St.rel (st : St) (s : Nat) (t : Tok) : St :=
  { st with c := { st.c with parts := decDesc st.c.parts s, holds := st.c.holds.erase t } }
def St.conv (st : St) (a s : Nat) : St :=
  { st with c := { st.c with holds := ⟨a, s, false⟩ :: st.c.holds.erase ⟨a, s, true⟩ } }
def St.lock (st : St) (s : Nat) (p : Part) (a : Nat) : St :=
  { st with c := { st.c with parts := upd st.c.parts s (some { p with exclusive := true }),
                             locker := upd st.c.locker s (some a) } }
/-- `UnlockExclusively` (`o` = the descriptor without the flag) and `Delete` (`o = none`) -/
def St.unlock (st : St) (s : Nat) (o : Option Part) : St :=
  { st with c := { st.c with parts := upd st.c.parts s o, locker := upd st.c.locker s none } }
def St.setVis (st : St) (a : Nat) (o : Option Visit) : St := { st with vis := upd st.vis a o }
def St.start (st : St) (a : Nat) (sel : List Nat) (sk nr : Bool) : St :=
  let r := snap a sel sk (List.range st.c.next) st.c.parts st.c.holds
  { st with c := { st.c with parts := r.1, holds := r.2.1 },
            vis := upd st.vis a (some ⟨sk, nr, r.2.2, if sk then r.2.2 else [], none, false⟩) }
def St.finish (st : St) (a : Nat) (owed : List Nat) : St :=
  let r := relAll a owed st.c.parts st.c.holds
  { st with c := { st.c with parts := r.1, holds := r.2 }, vis := upd st.vis a none }

/-- the labels that may find nothing to do (not found, must wait, shut down, "Giving up.") -/
def mayIdle : Lbl → Bool
  | .getOrCreate .. | .getTags .. | .lockX .. | .unlockX .. | .delete .. | .visitBegin .. => true
  | _ => false

/-- the outcomes of a label. A panic (`Release` of what is exclusively locked or not acquired, `UnlockExclusively`
of what is not locked) needs a state outside the core invariant. -/
inductive Eff (st : St) : Lbl → St → Prop
  | skip {l : Lbl} (hl : mayIdle l = true) : Eff st l st
  | shutdown : Eff st .shutdown { st with done := true }
  | panicRel {a s : Nat} (h : ¬ CoreInv st.c) : Eff st (.release a s) { st with panicked := true }
  | panicUnl {a s : Nat} (h : ¬ CoreInv st.c) : Eff st (.unlockX a s) { st with panicked := true }
  | acqTags {a tags : Nat} {create : Bool} (s : Nat) (p : Part) (hp : st.c.parts s = some p) (hx : p.exclusive = false) :
      Eff st (.getOrCreate a tags create) (st.acq s p ⟨a, s, false⟩)
  | create {a tags : Nat} : Eff st (.getOrCreate a tags true) (st.create a tags)
  | acqId {a s : Nat} (p : Part) (hp : st.c.parts s = some p) (hx : p.exclusive = false) :
      Eff st (.getTags a s true) (st.acq s p ⟨a, s, false⟩)
  | rel {a s : Nat} (hm : (⟨a, s, false⟩ : Tok) ∈ st.c.holds) (hmay : mayRelease st.c a s = true) :
      Eff st (.release a s) (st.rel s ⟨a, s, false⟩)
  | lock {a s : Nat} (p : Part) (au : Bool) (hp : st.c.parts s = some p) (hx : p.exclusive = false) (hr : p.readers = 1)
      (hm : (⟨a, s, au⟩ : Tok) ∈ st.c.holds) : Eff st (.lockX a s) (st.lock s p a)
  | unlock {a s : Nat} (p : Part) (hp : st.c.parts s = some p) (hl : st.c.locker s = some a) :
      Eff st (.unlockX a s) (st.unlock s (some { p with exclusive := false }))
  | delete {a s : Nat} (p : Part) (hp : st.c.parts s = some p) (hx : p.exclusive = true) (hl : st.c.locker s = some a) :
      Eff st (.delete a s) (st.unlock s none)
  | start {a : Nat} {sel : List Nat} {sk nr : Bool} (hv : st.vis a = none) :
      Eff st (.visitBegin a sel sk nr) (st.start a sel sk nr)
  | tryDown {a s : Nat} (v : Visit) (hv : st.vis a = some v) (hd : st.done = true) : Eff st (.visitTry a s) (st.setVis a none)
  | tryWait {a s : Nat} (v : Visit) (hv : st.vis a = some v) (hc : v.cur = none) : Eff st (.visitTry a s) st
  | tryGone {a s : Nat} (v : Visit) (hv : st.vis a = some v) (hw : v.skipping = false) (hc : v.cur = none)
      (hp : st.c.parts s = none) : Eff st (.visitTry a s) (st.setVis a (some { v with pending := v.pending.erase s }))
  | tryAcq {a s : Nat} (v : Visit) (p : Part) (hv : st.vis a = some v) (hw : v.skipping = false) (hc : v.cur = none)
      (hp : st.c.parts s = some p) (hx : p.exclusive = false) :
      Eff st (.visitTry a s) ((st.acq s p ⟨a, s, true⟩).setVis a
        (some { v with pending := v.pending.erase s, owed := s :: v.owed, cur := some s }))
  | cbKeep {a s : Nat} {cont : Bool} (v : Visit) (hv : st.vis a = some v) (hcb : cbOk v s = true) (hnr : v.noRelease = false) :
      Eff st (.visitCb a s cont) (st.setVis a (some { v with pending := v.pending.erase s, cur := none, aborted := !cont }))
  | cbConv {a s : Nat} {cont : Bool} (v : Visit) (hv : st.vis a = some v) (hcb : cbOk v s = true) (hnr : v.noRelease = true) :
      Eff st (.visitCb a s cont) ((st.conv a s).setVis a
        (some { v with pending := v.pending.erase s, cur := none, aborted := !cont, owed := v.owed.erase s }))
  | finish {a : Nat} (v : Visit) (hv : st.vis a = some v) (hmay : ∀ s, s ∈ v.owed → mayRelease st.c a s = true) :
      Eff st (.visitEnd a) (st.finish a v.owed)

theorem step_eff {st st' : St} {l : Lbl} (hs : step st l = some st') : Eff st l st' := by
  cases l with
  | shutdown => cases hs; exact .shutdown
  | getOrCreate a tags create =>
    simp only [step] at hs
    by_cases hd : st.done = true
    · rw [if_pos hd] at hs; cases hs; exact .skip rfl
    rw [if_neg hd] at hs
    cases hf : findTags st.c.parts tags st.c.next with
    | some s =>
      simp only [hf] at hs
      cases hp : st.c.parts s with
      | none => simp only [hp] at hs; cases hs; exact .skip rfl
      | some p =>
        simp only [hp] at hs
        by_cases hx : p.exclusive = true
        · rw [if_pos hx] at hs; cases hs; exact .skip rfl
        · rw [if_neg hx] at hs; cases hs; exact .acqTags s p hp (by simpa using hx)
    | none =>
      simp only [hf] at hs
      cases create with
      | true => cases hs; exact .create
      | false => cases hs; exact .skip rfl
  | getTags a s lock =>
    simp only [step] at hs
    by_cases hd : st.done = true
    · rw [if_pos hd] at hs; cases hs; exact .skip rfl
    rw [if_neg hd] at hs
    cases hp : st.c.parts s with
    | none => simp only [hp] at hs; cases hs; exact .skip rfl
    | some p =>
      simp only [hp] at hs
      by_cases hx : p.exclusive = true
      · rw [if_pos hx] at hs; cases hs; exact .skip rfl
      rw [if_neg hx] at hs
      cases lock with
      | true => cases hs; exact .acqId p hp (by simpa using hx)
      | false => cases hs; exact .skip rfl
  | release a s =>
    simp only [step] at hs
    by_cases hcond : (st.c.holds.contains ⟨a, s, false⟩ && mayRelease st.c a s) = true
    · rw [if_pos hcond] at hs
      simp only [Bool.and_eq_true, List.contains_iff_mem] at hcond
      obtain ⟨hm, hmay⟩ := hcond
      -- outside `ok` and `absent` the core invariant fails (`relRaw_of_inv`)
      have hpanic : (relRaw st.c.parts s).2 ≠ .ok → (relRaw st.c.parts s).2 ≠ .absent → ¬ CoreInv st.c := by
        intro h1 h2 hc
        rcases relRaw_of_inv st.c hc a s false hm hmay with hr | ⟨_, hr⟩
        · exact h1 (by rw [hr])
        · exact h2 (by rw [hr])
      cases hp : st.c.parts s with
      | none =>
        have hr : relRaw st.c.parts s = (st.c.parts, .absent) := by simp [relRaw, hp]
        rw [hr] at hs; cases hs
        have := Eff.rel hm hmay
        rw [St.rel, decDesc_none _ _ hp] at this; exact this
      | some p =>
        by_cases hx : p.exclusive = true
        · have hr : relRaw st.c.parts s = (st.c.parts, .panicExclusive) := by simp [relRaw, hp, hx]
          rw [hr] at hs hpanic; cases hs
          exact .panicRel (hpanic (fun e => nomatch e) (fun e => nomatch e))
        · by_cases hz : p.readers ≤ 0
          · have hr : relRaw st.c.parts s = (st.c.parts, .panicNotAcquired) := by simp [relRaw, hp, hx, hz]
            rw [hr] at hs hpanic; cases hs
            exact .panicRel (hpanic (fun e => nomatch e) (fun e => nomatch e))
          · have hr : relRaw st.c.parts s = (decDesc st.c.parts s, .ok) := by simp [relRaw, decDesc, hp, hx, hz]
            rw [hr] at hs; cases hs
            exact .rel hm hmay
    · rw [if_neg hcond] at hs; cases hs
  | lockX a s =>
    simp only [step] at hs
    by_cases hh : holdsAny st.c.holds a s = true
    · rw [if_pos hh] at hs
      obtain ⟨au, hm⟩ := holdsAny_mem _ _ _ hh
      cases hp : st.c.parts s with
      | none =>
        have hr : lockRaw st.c.parts s = (st.c.parts, false) := by simp [lockRaw, hp]
        rw [hr] at hs; cases hs; exact .skip rfl
      | some p =>
        by_cases hcnd : (!p.exclusive && p.readers == 1) = true
        · have hr : lockRaw st.c.parts s = (upd st.c.parts s (some { p with exclusive := true }), true) := by simp [lockRaw, hp, hcnd]
          rw [hr] at hs; cases hs
          simp only [Bool.and_eq_true, Bool.not_eq_true', beq_iff_eq] at hcnd
          exact .lock p au hp hcnd.1 hcnd.2 hm
        · have hr : lockRaw st.c.parts s = (st.c.parts, false) := by simp [lockRaw, hp, hcnd]
          rw [hr] at hs; cases hs; exact .skip rfl
    · rw [if_neg hh] at hs; cases hs
  | unlockX a s =>
    simp only [step] at hs
    cases hp : st.c.parts s with
    | none => simp only [hp] at hs; cases hs; exact .skip rfl
    | some p =>
      simp only [hp] at hs
      by_cases hl : (st.c.locker s == some a) = true
      · rw [if_pos hl] at hs
        have hl' : st.c.locker s = some a := by simpa using hl
        by_cases hcnd : (!p.exclusive || p.readers != 1) = true
        · have hr : unlockRaw st.c.parts s = (st.c.parts, .panic) := by simp [unlockRaw, hp, hcnd]
          rw [hr] at hs; cases hs
          refine .panicUnl (fun hc => ?_)
          obtain ⟨p', hp', hx⟩ := hc.lck s a hl'
          rw [hp] at hp'; cases hp'
          have := (hc.excl s p hp hx).1
          simp [hx, this] at hcnd
        · have hr : unlockRaw st.c.parts s = (upd st.c.parts s (some { p with exclusive := false }), .ok) := by simp [unlockRaw, hp, hcnd]
          rw [hr] at hs; cases hs
          exact .unlock p hp hl'
      · rw [if_neg hl] at hs; cases hs
  | delete a s =>
    simp only [step] at hs
    cases hp : st.c.parts s with
    | none => simp only [hp] at hs; cases hs; exact .skip rfl
    | some p =>
      simp only [hp] at hs
      cases hx : p.exclusive with
      | false => simp only [hx, Bool.not_false, if_true] at hs; cases hs; exact .skip rfl
      | true =>
        simp only [hx, Bool.not_true, Bool.false_eq_true, if_false] at hs
        by_cases hl : (st.c.locker s == some a) = true
        · rw [if_pos hl] at hs
          have hd : (deleteRaw st.c.parts s).1 = upd st.c.parts s none := by simp [deleteRaw, hp, hx]
          rw [hd] at hs; cases hs
          exact .delete p hp hx (by simpa using hl)
        · rw [if_neg hl] at hs; cases hs
  | visitBegin a sel skipping noRelease =>
    simp only [step] at hs
    cases hva : st.vis a with
    | some v => simp only [hva] at hs; cases hs
    | none =>
      simp only [hva] at hs
      by_cases hd : st.done = true
      · rw [if_pos hd] at hs; cases hs; exact .skip rfl
      · rw [if_neg hd] at hs; cases hs; exact .start hva
  | visitTry a s =>
    simp only [step] at hs
    cases hva : st.vis a with
    | none => simp only [hva] at hs; cases hs
    | some v =>
      simp only [hva] at hs
      by_cases hcond : (v.skipping || v.aborted || v.cur.isSome || !v.pending.contains s) = true
      · rw [if_pos hcond] at hs; cases hs
      rw [if_neg hcond] at hs
      simp only [Bool.or_eq_true, not_or, Bool.not_eq_true, Option.isSome_eq_false_iff, Option.isNone_iff_eq_none] at hcond
      by_cases hd : st.done = true
      · rw [if_pos hd] at hs; cases hs; exact .tryDown v hva hd
      rw [if_neg hd] at hs
      cases hp : st.c.parts s with
      | none => simp only [hp] at hs; cases hs; exact .tryGone v hva hcond.1.1.1 hcond.1.2 hp
      | some p =>
        simp only [hp] at hs
        by_cases hx : p.exclusive = true
        · rw [if_pos hx] at hs; cases hs; exact .tryWait v hva hcond.1.2
        · rw [if_neg hx] at hs; cases hs; exact .tryAcq v p hva hcond.1.1.1 hcond.1.2 hp (by simpa using hx)
  | visitCb a s cont =>
    simp only [step] at hs
    cases hva : st.vis a with
    | none => simp only [hva] at hs; cases hs
    | some v =>
      simp only [hva] at hs
      by_cases hcb : cbOk v s = true
      · rw [if_pos hcb] at hs
        by_cases hnr : v.noRelease = true
        · rw [if_pos hnr] at hs; cases hs; exact .cbConv v hva hcb hnr
        · rw [if_neg hnr] at hs; cases hs; exact .cbKeep v hva hcb (by simpa using hnr)
      · rw [if_neg hcb] at hs; cases hs
  | visitEnd a =>
    simp only [step] at hs
    cases hva : st.vis a with
    | none => simp only [hva] at hs; cases hs
    | some v =>
      simp only [hva] at hs
      by_cases hcond : ((v.pending.isEmpty || v.aborted) && v.cur.isNone && v.owed.all (mayRelease st.c a)) = true
      · rw [if_pos hcond] at hs; cases hs
        simp only [Bool.and_eq_true, List.all_eq_true] at hcond
        exact .finish v hva hcond.2
      · rw [if_neg hcond] at hs; cases hs

section outcomes
variable {st : St} {a s : Nat}

theorem step_getOrCreate_done (hd : st.done = true) (tags : Nat) (create : Bool) :
    step st (.getOrCreate a tags create) = some st :=
  if_pos hd

theorem step_getOrCreate_wait {tags : Nat} {p : Part} (hf : findTags st.c.parts tags st.c.next = some s)
    (hp : st.c.parts s = some p) (hx : p.exclusive = true) (create : Bool) :
    step st (.getOrCreate a tags create) = some st := by
  by_cases hd : st.done = true
  · exact if_pos hd
  · refine (if_neg hd).trans ?_
    simp only [hf, hp]; exact if_pos hx

theorem step_getOrCreate_acq {tags : Nat} {p : Part} (hd : st.done = false)
    (hf : findTags st.c.parts tags st.c.next = some s) (hp : st.c.parts s = some p) (hx : p.exclusive = false)
    (create : Bool) : step st (.getOrCreate a tags create) = some (st.acq s p ⟨a, s, false⟩) := by
  refine (if_neg (ne_true_of_eq_false hd)).trans ?_
  simp only [hf, hp]; exact if_neg (ne_true_of_eq_false hx)

theorem step_getOrCreate_new {tags : Nat} (hd : st.done = false) (hf : findTags st.c.parts tags st.c.next = none) :
    step st (.getOrCreate a tags true) = some (st.create a tags) := by
  refine (if_neg (ne_true_of_eq_false hd)).trans ?_
  simp only [hf]; rfl

theorem step_getOrCreate_notFound {tags : Nat} (hf : findTags st.c.parts tags st.c.next = none) :
    step st (.getOrCreate a tags false) = some st := by
  by_cases hd : st.done = true
  · exact if_pos hd
  · refine (if_neg hd).trans ?_
    simp only [hf]; rfl

theorem step_getTags_done (hd : st.done = true) (lock : Bool) : step st (.getTags a s lock) = some st :=
  if_pos hd

theorem step_getTags_none (hp : st.c.parts s = none) (lock : Bool) : step st (.getTags a s lock) = some st := by
  unfold step; simp only [hp]; exact ite_self _

theorem step_getTags_wait {p : Part} (hp : st.c.parts s = some p) (hx : p.exclusive = true) (lock : Bool) :
    step st (.getTags a s lock) = some st := by
  by_cases hd : st.done = true
  · exact if_pos hd
  · refine (if_neg hd).trans ?_
    simp only [hp]; exact if_pos hx

theorem step_getTags_peek : step st (.getTags a s false) = some st := by
  by_cases hd : st.done = true
  · exact if_pos hd
  · refine (if_neg hd).trans ?_
    cases hp : st.c.parts s with
    | none => rfl
    | some p => exact ite_self _

theorem step_getTags_acq {p : Part} (hd : st.done = false) (hp : st.c.parts s = some p) (hx : p.exclusive = false) :
    step st (.getTags a s true) = some (st.acq s p ⟨a, s, false⟩) := by
  refine (if_neg (ne_true_of_eq_false hd)).trans ?_
  simp only [hp]; exact if_neg (ne_true_of_eq_false hx)

theorem step_release (hc : CoreInv st.c) (hm : (⟨a, s, false⟩ : Tok) ∈ st.c.holds) (hmay : mayRelease st.c a s = true) :
    step st (.release a s) = some (st.rel s ⟨a, s, false⟩) := by
  have hcond : (st.c.holds.contains (⟨a, s, false⟩ : Tok) && mayRelease st.c a s) = true := by
    rw [hmay, List.contains_iff_mem.mpr hm]; rfl
  refine (if_pos hcond).trans ?_
  rcases relRaw_of_inv st.c hc a s false hm hmay with hr | ⟨hn, hr⟩
  · rw [hr]; rfl
  · rw [hr, St.rel, decDesc_none _ _ hn]

theorem step_lockX_fail (hh : holdsAny st.c.holds a s = true) (hf : (lockRaw st.c.parts s).2 = false) :
    step st (.lockX a s) = some st := by
  refine (if_pos hh).trans ?_
  cases hr : lockRaw st.c.parts s with
  | mk parts' b => rw [hr] at hf; cases hf; rfl

theorem step_lockX {p : Part} (hh : holdsAny st.c.holds a s = true) (hp : st.c.parts s = some p)
    (hc : (!p.exclusive && p.readers == 1) = true) : step st (.lockX a s) = some (st.lock s p a) := by
  have hr : lockRaw st.c.parts s = (upd st.c.parts s (some { p with exclusive := true }), true) := by
    simp only [lockRaw, hp]; exact if_pos hc
  refine (if_pos hh).trans ?_
  rw [hr]; rfl

theorem step_unlockX_none (hp : st.c.parts s = none) : step st (.unlockX a s) = some st := by
  unfold step; simp only [hp]

theorem locker_part (hc : CoreInv st.c) (hl : st.c.locker s = some a) :
    ∃ p, st.c.parts s = some p ∧ p.exclusive = true ∧ p.readers = 1 := by
  obtain ⟨p, hp, hx⟩ := hc.lck s a hl
  exact ⟨p, hp, hx, (hc.excl s p hp hx).1⟩

theorem step_unlockX {p : Part} (hl : st.c.locker s = some a) (hp : st.c.parts s = some p) (hx : p.exclusive = true)
    (hr : p.readers = 1) : step st (.unlockX a s) = some (st.unlock s (some { p with exclusive := false })) := by
  have hu : unlockRaw st.c.parts s = (upd st.c.parts s (some { p with exclusive := false }), .ok) := by
    simp [unlockRaw, hp, hx, hr]
  unfold step; simp only [hp]
  refine (if_pos (by rw [hl]; exact beq_self_eq_true _)).trans ?_
  rw [hu]; rfl

theorem step_delete {p : Part} (hl : st.c.locker s = some a) (hp : st.c.parts s = some p) (hx : p.exclusive = true) :
    step st (.delete a s) = some (st.unlock s none) := by
  have hd : (deleteRaw st.c.parts s).1 = upd st.c.parts s none := by simp [deleteRaw, hp, hx]
  unfold step; simp only [hp]
  refine (if_neg (by rw [hx]; exact Bool.false_ne_true)).trans ((if_pos (by rw [hl]; exact beq_self_eq_true _)).trans ?_)
  rw [hd]; rfl

theorem step_visitBegin_done (hv : st.vis a = none) (hd : st.done = true) (sel : List Nat) (sk nr : Bool) :
    step st (.visitBegin a sel sk nr) = some st := by
  unfold step; simp only [hv]; exact if_pos hd

theorem step_visitBegin (hv : st.vis a = none) (hd : st.done = false) (sel : List Nat) (sk nr : Bool) :
    step st (.visitBegin a sel sk nr) = some (st.start a sel sk nr) := by
  unfold step; simp only [hv]; exact if_neg (ne_true_of_eq_false hd)

/-- the per-item section of the waiting flavour is the visit's next move -/
def tryOk (v : Visit) (s : Nat) : Prop := v.skipping = false ∧ v.aborted = false ∧ v.cur = none ∧ s ∈ v.pending

theorem tryOk_cond {v : Visit} (ht : tryOk v s) :
    ¬ (v.skipping || v.aborted || v.cur.isSome || !v.pending.contains s) = true := by
  obtain ⟨h1, h2, h3, h4⟩ := ht
  simp [h1, h2, h3, h4]

theorem step_visitTry_done {v : Visit} (hv : st.vis a = some v) (ht : tryOk v s) (hd : st.done = true) :
    step st (.visitTry a s) = some (st.setVis a none) := by
  unfold step; simp only [hv]
  exact (if_neg (tryOk_cond ht)).trans (if_pos hd)

theorem step_visitTry_gone {v : Visit} (hv : st.vis a = some v) (ht : tryOk v s) (hd : st.done = false)
    (hp : st.c.parts s = none) :
    step st (.visitTry a s) = some (st.setVis a (some { v with pending := v.pending.erase s })) := by
  unfold step; simp only [hv]
  refine (if_neg (tryOk_cond ht)).trans ((if_neg (ne_true_of_eq_false hd)).trans ?_)
  rw [hp]; rfl

theorem step_visitTry_wait {v : Visit} {p : Part} (hv : st.vis a = some v) (ht : tryOk v s) (hd : st.done = false)
    (hp : st.c.parts s = some p) (hx : p.exclusive = true) : step st (.visitTry a s) = some st := by
  unfold step; simp only [hv]
  refine (if_neg (tryOk_cond ht)).trans ((if_neg (ne_true_of_eq_false hd)).trans ?_)
  rw [hp]; exact if_pos hx

theorem step_visitTry_acq {v : Visit} {p : Part} (hv : st.vis a = some v) (ht : tryOk v s) (hd : st.done = false)
    (hp : st.c.parts s = some p) (hx : p.exclusive = false) :
    step st (.visitTry a s) = some ((st.acq s p ⟨a, s, true⟩).setVis a
      (some { v with pending := v.pending.erase s, owed := s :: v.owed, cur := some s })) := by
  unfold step; simp only [hv]
  refine (if_neg (tryOk_cond ht)).trans ((if_neg (ne_true_of_eq_false hd)).trans ?_)
  rw [hp]; exact if_neg (ne_true_of_eq_false hx)

theorem step_visitCb_keep {v : Visit} (hv : st.vis a = some v) (hcb : cbOk v s = true) (hnr : v.noRelease = false)
    (cont : Bool) : step st (.visitCb a s cont) =
      some (st.setVis a (some { v with pending := v.pending.erase s, cur := none, aborted := !cont })) := by
  unfold step; simp only [hv]
  exact (if_pos hcb).trans (if_neg (ne_true_of_eq_false hnr))

theorem step_visitCb_conv {v : Visit} (hv : st.vis a = some v) (hcb : cbOk v s = true) (hnr : v.noRelease = true)
    (cont : Bool) : step st (.visitCb a s cont) = some ((st.conv a s).setVis a
      (some { v with pending := v.pending.erase s, cur := none, aborted := !cont, owed := v.owed.erase s })) := by
  unfold step; simp only [hv]
  exact (if_pos hcb).trans (if_pos hnr)

theorem step_visitEnd {v : Visit} (hv : st.vis a = some v) (hfin : (v.pending.isEmpty || v.aborted) = true)
    (hcur : v.cur = none) (hall : ∀ x, x ∈ v.owed → mayRelease st.c a x = true) :
    step st (.visitEnd a) = some (st.finish a v.owed) := by
  have hcond : ((v.pending.isEmpty || v.aborted) && v.cur.isNone && v.owed.all (mayRelease st.c a)) = true := by
    rw [hfin, hcur, List.all_eq_true.mpr hall]; rfl
  unfold step; simp only [hv]; exact if_pos hcond

end outcomes

theorem visTok_cons {vis : Nat → Option Visit} {holds : List Tok} (t : Tok) (hv : VisTok vis holds) :
    VisTok vis (t :: holds) :=
  visTok_mono _ _ _ hv (fun _ _ => List.count_le_count_cons)

theorem eff_inv {st st' : St} {l : Lbl} (hi : StInv st) (h : Eff st l st') : StInv st' := by
  obtain ⟨hc, hv, hnp⟩ := hi
  cases h with
  | skip | shutdown | tryWait => exact ⟨hc, hv, hnp⟩
  | panicRel h | panicUnl h => exact absurd hc h
  | acqTags s p hp hx => exact ⟨inv_acq st.c hc _ s false p hp hx, visTok_cons _ hv, hnp⟩
  | acqId p hp hx => exact ⟨inv_acq st.c hc _ _ false p hp hx, visTok_cons _ hv, hnp⟩
  | create => exact ⟨inv_create st.c hc _ _, visTok_cons _ hv, hnp⟩
  | rel hm hmay =>
    exact ⟨inv_rel st.c hc _ _ false hm hmay,
      visTok_mono _ _ _ hv (fun b s' => Nat.le_of_eq (count_erase_false st.c.holds b _ s' _).symm), hnp⟩
  | lock p au hp _ hr hm => exact ⟨inv_lock st.c hc _ _ au p hp hr hm, hv, hnp⟩
  | unlock p hp _ => exact ⟨inv_unlock st.c hc _ p hp, hv, hnp⟩
  | delete => exact ⟨inv_delete st.c hc _, hv, hnp⟩
  | @start a sel sk nr _ =>
    obtain ⟨i1, _, i3, _, i5, _⟩ := snap_inv a sel sk st.c.next st.c.locker (List.range st.c.next) st.c.parts st.c.holds hc
    refine ⟨i1, visTok_upd_other _ _ _ _ (visTok_mono _ _ _ hv (fun b s' => i3 _)) ?_, hnp⟩
    intro v hv' s'
    cases hv'
    cases sk with
    | false => exact Nat.zero_le _
    | true => exact Nat.le_trans (Nat.le_add_right _ _) (Nat.le_of_eq (i5 s').symm)
  | tryDown v hva _ => exact ⟨hc, visTok_upd_other _ _ _ _ hv (fun v' hv' => by cases hv'), hnp⟩
  | tryGone v hva | cbKeep v hva =>
    exact ⟨hc, visTok_upd_other _ _ _ _ hv (fun v' hv' s' => by cases hv'; exact hv _ v hva s'), hnp⟩
  | @tryAcq a s v p hva _ _ hp hx =>
    refine ⟨inv_acq st.c hc a s true p hp hx, visTok_upd_other _ _ _ _ (visTok_cons _ hv) ?_, hnp⟩
    intro v' hv' s'
    cases hv'
    have := hv a v hva s'
    show List.count s' (s :: v.owed) ≤ List.count ⟨a, s', true⟩ (⟨a, s, true⟩ :: st.c.holds)
    by_cases e : s = s'
    · subst e; rw [List.count_cons_self, List.count_cons_self]; omega
    · rw [List.count_cons_of_ne e, List.count_cons_of_ne (by simp [e])]; exact this
  | @cbConv a s cont v hva hcb _ =>
    have hm : (⟨a, s, true⟩ : Tok) ∈ st.c.holds :=
      List.one_le_count_iff.mp (Nat.le_trans (List.one_le_count_iff.mpr (cbOk_owed hcb)) (hv a v hva s))
    refine ⟨inv_conv st.c hc a s hm, ?_, hnp⟩
    intro b v' hb s'
    show List.count s' v'.owed ≤ List.count ⟨b, s', true⟩ (⟨a, s, false⟩ :: st.c.holds.erase ⟨a, s, true⟩)
    rw [count_cons_false]
    by_cases e : b = a
    · subst e
      have hb' : upd st.vis b _ b = some v' := hb
      rw [upd_same] at hb'; cases hb'
      have := hv b v hva s'
      show List.count s' (v.owed.erase s) ≤ _
      by_cases e2 : s' = s
      · subst e2
        rw [List.count_erase_self, List.count_erase_self]; omega
      · rw [List.count_erase_of_ne e2, List.count_erase_of_ne (by simp [e2])]; exact this
    · have hb' : upd st.vis a _ b = some v' := hb
      rw [upd_other _ _ _ _ e] at hb'
      rw [List.count_erase_of_ne (by simp [e])]; exact hv b v' hb' s'
  | @finish a v hva hmay =>
    obtain ⟨i1, i2, _⟩ := relAll_inv a st.c.next st.c.locker v.owed st.c.parts st.c.holds hc hmay (hv a v hva)
    refine ⟨i1, ?_, hnp⟩
    intro b v' hb s'
    have hb' : upd st.vis a none b = some v' := hb
    by_cases e : b = a
    · subst e; rw [upd_same] at hb'; cases hb'
    · rw [upd_other _ _ _ _ e] at hb'
      show List.count s' v'.owed ≤ List.count ⟨b, s', true⟩ (relAll a v.owed st.c.parts st.c.holds).2
      rw [i2 ⟨b, s', true⟩ (Or.inl e)]; exact hv b v' hb' s'

theorem step_inv (st st' : St) (l : Lbl) (hi : StInv st) (hs : step st l = some st') : StInv st' :=
  eff_inv hi (step_eff hs)

theorem step_done {st st' : St} {l : Lbl} (hs : step st l = some st') :
    st'.done = st.done ∨ (l = .shutdown ∧ st'.done = true) := by
  cases step_eff hs with
  | shutdown => exact Or.inr ⟨rfl, rfl⟩
  | _ => exact Or.inl rfl

theorem run_inv (ls : List Lbl) : ∀ st, StInv st → StInv (run st ls) := by
  induction ls with
  | nil => intro st h; exact h
  | cons l ls ih =>
    intro st h
    simp only [run]
    cases hs : step st l with
    | none => exact ih st h
    | some st' => exact ih st' (step_inv st st' l h hs)

end Logrange.TIndexLts

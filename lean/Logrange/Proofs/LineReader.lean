import Logrange.Model.LineReader
/-! Lemmas about the line reader model: byte conservation, line shape, fuel sufficiency. -/
namespace Logrange.LineReader

/-! ## splitNL -/

theorem splitNL_some : ∀ (b l r : Bytes), splitNL b = some (l, r) →
    l ++ r = b ∧ l.getLast? = some 10 ∧ (10 : UInt8) ∉ l.dropLast
  | [], l, r, h => by simp [splitNL] at h
  | x :: xs, l, r, h => by
    simp only [splitNL] at h
    by_cases hx : x = 10
    · simp only [hx, if_true, Option.some.injEq, Prod.mk.injEq] at h
      obtain ⟨h1, h2⟩ := h
      subst h1; subst h2; subst hx
      simp
    · simp only [hx, if_false] at h
      cases hs : splitNL xs with
      | none => simp [hs] at h
      | some lr =>
        obtain ⟨l', r'⟩ := lr
        simp only [hs, Option.some.injEq, Prod.mk.injEq] at h
        obtain ⟨h1, h2⟩ := h
        subst h1; subst h2
        obtain ⟨a, b, c⟩ := splitNL_some xs l' r' hs
        have hne : l' ≠ [] := by intro e; subst e; simp at b
        refine ⟨by simp [a], ?_, ?_⟩
        · rw [List.getLast?_cons_of_ne_nil hne]; exact b
        · cases l' with
          | nil => exact absurd rfl hne
          | cons y ys =>
            simp only [List.dropLast_cons_cons, List.mem_cons, not_or]
            exact ⟨fun e => hx e.symm, c⟩

theorem splitNL_none : ∀ (b : Bytes), splitNL b = none → (10 : UInt8) ∉ b
  | [], _ => by simp
  | x :: xs, h => by
    simp only [splitNL] at h
    by_cases hx : x = 10
    · simp [hx] at h
    · simp only [hx, if_false] at h
      cases hs : splitNL xs with
      | none =>
        have := splitNL_none xs hs
        simp only [List.mem_cons, not_or]
        exact ⟨fun e => hx e.symm, this⟩
      | some lr => simp [hs] at h

/-! ## readSlice -/

/-- **byte conservation of one `ReadSlice`**: what it hands out, what stays buffered and what the source still
holds are together exactly what was buffered and held before. -/
theorem readSlice_conserve (B fuel : Nat) (s : St) :
    (readSlice B fuel s).2.out ++ (readSlice B fuel s).1.buf ++ flat (readSlice B fuel s).1.pieces
      = s.buf ++ flat s.pieces := by
  fun_induction readSlice B fuel s <;> simp_all [RS.out, flat]
  · next hs => rw [← List.append_assoc, (splitNL_some _ _ _ hs).1]
  · rw [← List.append_assoc (List.take _ _), List.take_append_drop]

/-- shape of what one `ReadSlice` hands out -/
def RS.shape (B : Nat) : RS → Prop
  | .line l => l.getLast? = some 10 ∧ (10 : UInt8) ∉ l.dropLast
  | .full l => B ≤ l.length ∧ (10 : UInt8) ∉ l
  | .eof l => (10 : UInt8) ∉ l
  | .oof => True

theorem readSlice_shape (B fuel : Nat) (s : St) : ((readSlice B fuel s).2).shape B := by
  fun_induction readSlice B fuel s <;> simp_all [RS.shape]
  · next hs => exact (splitNL_some _ _ _ hs).2
  all_goals exact splitNL_none _ (by assumption)

/-- after an EOF result the buffer is empty (bufio hands out everything it had) -/
theorem readSlice_eof_buf (B : Nat) : ∀ (fuel : Nat) (s : St) (l : Bytes),
    (readSlice B fuel s).2 = .eof l → (readSlice B fuel s).1.buf = [] := by
  intro fuel s l
  fun_induction readSlice B fuel s <;> simp_all

/-- the fuel `sliceFuel` is sufficient: `ReadSlice` always answers -/
theorem readSlice_fuel (B fuel : Nat) (s : St) (h : measure s.pieces < fuel) : (readSlice B fuel s).2 ≠ .oof := by
  fun_induction readSlice B fuel s <;> simp_all [measure]
  all_goals (rename_i ih; apply ih; omega)

/-- `ReadSlice` does not touch the reader's pending partial line -/
theorem readSlice_pend (B fuel : Nat) (s : St) : (readSlice B fuel s).1.pend = s.pend := by
  fun_induction readSlice B fuel s <;> simp_all

/-! ## readLine -/

/-- **byte conservation of `readLine`**: what the call hands out, the pending partial line, bufio's buffer and
what the source still holds are together exactly what they were before the call. -/
theorem readLine_conserve (B : Nat) (s : St) :
    (readLine B s).2.out ++ (readLine B s).1.pend ++ (readLine B s).1.buf ++ flat (readLine B s).1.pieces
      = s.pend ++ s.buf ++ flat s.pieces := by
  have hcons := readSlice_conserve B (sliceFuel s) s
  have hpend := readSlice_pend B (sliceFuel s) s
  unfold readLine
  split
  · simp [RL.out]
  · split <;> simp_all [RL.out, RS.out, List.append_assoc]

/-- shape of a returned line: it ends with the newline, or it is at least one buffer long (a split, nothing
dropped); and no newline occurs before its last byte (lines are cut at the *first* newline) -/
def lineOk (B : Nat) (l : Bytes) : Prop :=
  (l.getLast? = some 10 ∨ B ≤ l.length) ∧ (10 : UInt8) ∉ l.dropLast

/-- the pending partial line holds no newline -/
def PendOk (s : St) : Prop := (10 : UInt8) ∉ s.pend

theorem readLine_pendOk (B : Nat) (s : St) (h : PendOk s) : PendOk (readLine B s).1 := by
  have hsh := readSlice_shape B (sliceFuel s) s
  have hpend := readSlice_pend B (sliceFuel s) s
  unfold readLine
  split
  · exact h
  · split <;> simp_all [PendOk, RS.shape]

theorem readLine_shape (B : Nat) (s : St) (h : PendOk s) (l : Bytes) (hl : (readLine B s).2 = .line l) :
    lineOk B l := by
  have hsh := readSlice_shape B (sliceFuel s) s
  unfold readLine at hl
  split at hl
  · cases hl
  · split at hl <;> rename_i hr <;> rw [hr] at hsh
    · obtain rfl := RL.line.inj hl
      obtain ⟨h1, h2⟩ := hsh
      rename_i l0
      have hne : l0 ≠ [] := by intro e; subst e; simp at h1
      refine ⟨Or.inl ?_, ?_⟩
      · rw [List.getLast?_append, h1]; simp
      · rw [List.dropLast_append_of_ne_nil hne]
        simp only [List.mem_append, not_or]; exact ⟨h, h2⟩
    · obtain rfl := RL.line.inj hl
      obtain ⟨h1, h2⟩ := hsh
      refine ⟨Or.inr (by simp; omega), fun hm => ?_⟩
      rcases List.mem_append.1 (List.dropLast_subset _ hm) with h' | h'
      · exact h h'
      · exact h2 h'
    · cases hl
    · cases hl

/-- with nothing buffered and the source reporting EOF for now, one call answers EOF at once and keeps the
pending partial line as it is (the worker's "one more poll") -/
theorem readLine_at_source_eof (B : Nat) (s : St) (ps : List Piece) (hc : s.cancelled = false) (hb : s.buf = [])
    (hB : 0 < B) (hp : s.pieces = .eof :: ps) :
    readLine B s = ({ s with pieces := ps, buf := [], pend := s.pend }, .eof) := by
  unfold readLine
  simp [hc, sliceFuel, hp, measure, readSlice, hb, splitNL, Nat.not_le.mpr hB]

/-! ## several calls -/

theorem RL.out_of_not_line {r : RL} (h : ∀ l, r = .line l → False) : r.out = [] := by
  cases r <;> first | rfl | exact (h _ rfl).elim

theorem readLines_conserve (B n : Nat) (s : St) :
    (readLines B n s).1.flatten ++ (readLines B n s).2.pend ++ (readLines B n s).2.buf
        ++ flat (readLines B n s).2.pieces
      = s.pend ++ s.buf ++ flat s.pieces := by
  fun_induction readLines B n s with
  | case1 => simp
  | case2 n s s' l hr r ih =>
    have hc := readLine_conserve B s
    rw [hr] at hc
    simp only [RL.out, List.flatten_cons, List.append_assoc] at hc ih ⊢
    rw [← hc]; exact congrArg _ ih
  | case3 n s s' r hnl hr ih =>
    have hc := readLine_conserve B s
    rw [hr, RL.out_of_not_line hnl] at hc
    simp_all

theorem readLines_shape (B n : Nat) (s : St) (hp : PendOk s) : ∀ l ∈ (readLines B n s).1, lineOk B l := by
  fun_induction readLines B n s with
  | case1 => simp
  | case2 n s s' l hr r ih =>
    have hp' := readLine_pendOk B s hp
    rw [hr] at hp'
    intro l' hl
    rcases List.mem_cons.1 hl with rfl | hl
    · exact readLine_shape B s hp _ (by rw [hr])
    · exact ih hp' _ hl
  | case3 n s s' r hnl hr ih =>
    have hp' := readLine_pendOk B s hp
    rw [hr] at hp'
    exact ih hp'

/-! ## parser offsets -/

theorem nextRecord_lr (B : Nat) (p : Parser) : (nextRecord B p).1.lr = (readLine B p.lr).1 := by
  unfold nextRecord
  cases hl : readLine B p.lr with
  | mk s' rl => cases rl <;> rfl

theorem nextRecord_pos (B : Nat) (p : Parser) :
    (nextRecord B p).1.pos = p.pos + (match (nextRecord B p).2 with | .record l => l.length | _ => 0) := by
  unfold nextRecord
  cases hl : readLine B p.lr with
  | mk s' rl => cases rl <;> simp

theorem nextRecords_pos (B n : Nat) (p : Parser) :
    (nextRecords B n p).2.pos = p.pos + (nextRecords B n p).1.flatten.length := by
  fun_induction nextRecords B n p with
  | case1 => rfl
  | case2 n p p' l hr r ih =>
    have hpos := nextRecord_pos B p
    rw [hr] at hpos
    have ih : r.2.pos = p'.pos + r.1.flatten.length := ih
    simp only [List.flatten_cons, List.length_append] at hpos ⊢
    omega
  | case3 n p p' r hnr hr ih =>
    have hpos := nextRecord_pos B p
    rw [hr] at hpos
    cases r with
    | record l => exact (hnr l rfl).elim
    | _ => simp only [] at hpos; omega

/-- the records a parser returns are exactly the lines its reader returns -/
theorem nextRecords_lines (B : Nat) : ∀ (n : Nat) (p : Parser),
    (nextRecords B n p).1 = (readLines B n p.lr).1 ∧ (nextRecords B n p).2.lr = (readLines B n p.lr).2
  | 0, p => ⟨rfl, rfl⟩
  | n+1, p => by
    simp only [nextRecords, readLines, nextRecord]
    cases hl : readLine B p.lr with
    | mk s' rl =>
      cases rl with
      | line l => exact ⟨congrArg (l :: ·) (nextRecords_lines B n _).1, (nextRecords_lines B n _).2⟩
      | _ => exact nextRecords_lines B n _

end Logrange.LineReader

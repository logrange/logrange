import Logrange.Proofs.LqlEngineTop
/-!
# C12: the typed application of the captures, statement by statement

`toLql` is one `do` block over the six fields of `Lql`. Here each field's converter gets a name, `toLql` is their composition
(by `rfl`), and `toLqlChecked` is computed on the values the dispatcher struct `Lql` can return: no field, or exactly one.
-/
namespace Logrange.Lql
open Logrange.Generated.C12

theorem fieldVals_append (a b : Caps) (f : String) : fieldVals (a ++ b) f = fieldVals a f ++ fieldVals b f := by
  simp [fieldVals]

theorem fieldVals_notin (f : String) : ∀ (nc : Caps), (∀ p ∈ nc, p.1 ≠ f) → fieldVals nc f = []
  | [], _ => rfl
  | (g, vs) :: nc, h => by
    rw [fieldVals_cons_ne _ _ _ _ (by simpa using h (g, vs) List.mem_cons_self),
      fieldVals_notin f nc (fun q hq => h q (List.mem_cons_of_mem _ hq))]

theorem fieldVals_names (f : String) (names : List String) (hf : f ∉ names) (nc : Caps) (h : ∀ p ∈ nc, p.1 ∈ names) :
    fieldVals nc f = [] :=
  fieldVals_notin f nc (fun p hp e => hf (e ▸ h p hp))

theorem optNode_nil {α : Type} (N f : String) (conv : Val → Option α) : optNode (.node N []) f conv = some none := rfl

def obCaps (fl : String) : Option Bytes → Caps
  | some b => [(fl, [Val.str b])]
  | none => []

def obVals : Option Bytes → List Val
  | some b => [.str b]
  | none => []
theorem fieldVals_obCaps (fl f : String) (ob : Option Bytes) : fieldVals (obCaps fl ob) f = if fl = f then obVals ob else [] := by
  by_cases h : fl = f <;> cases ob <;> simp [obCaps, obVals, fieldVals, h]
def cvo {α : Type} (conv : Bytes → Option α) : Option Bytes → Option (Option α)
  | none => some none
  | some b => (conv b).map some

theorem optConv_ob {α : Type} (N : String) (caps : Caps) (f : String) (conv : Bytes → Option α) (ob : Option Bytes)
    (h : fieldVals caps f = obVals ob) : optConv (.node N caps) f conv = cvo conv ob := by
  cases ob <;> simp [optConv, fv, h, obVals, cvo, strs]

def convR0 (dp : Bytes → Option Int) (r : Val) : Option Range := do
  let p1 ← optConv r "TmPoint1" dp
  let p2 ← optConv r "TmPoint2" dp
  pure (⟨p1, p2⟩ : Range)

def cvPos (p : Val) : Option Bytes := some (strs (fv p "PosId"))

def convSelect (dp : Bytes → Option Int) (ft : Nat) (s : Val) : Option Select := do
  let src ← optSource ft s "Source"
  let rng ← optNode s "Range" (convR0 dp)
  let wh ← optExpr ft s "Where"
  let pos ← optNode s "Position" cvPos
  let off ← optConv s "Offset" parseInt0
  let lim ← optConv s "Limit" parseInt0
  pure ({ format := optStr s "Format", source := src, range := rng, where_ := wh, position := pos, offset := off, limit := lim } : Select)

def convDescribe (d : Val) : Option Describe := do
  let p ← optConv d "Partition" KV.tagParse
  pure ({ partition := p, pipe := optStr d "Pipe" } : Describe)

def truncConv (dp : Bytes → Option Int) (ft : Nat) (t : Val) : Option Truncate := do
  let src ← optSource ft t "Source"
  let mn ← optConv t "MinSize" parseBytes
  let mx ← optConv t "MaxSize" parseBytes
  let bf ← optConv t "Before" dp
  let db ← optConv t "MaxDbSize" parseBytes
  pure ({ dryRun := !(fv t "DryRun").isEmpty, source := src, minSize := mn, maxSize := mx, before := bf, maxDbSize := db } : Truncate)

/-- the typed application of the captures of `Partitions` / `Pipes` (source field `fl`) -/
def polConv (fl : String) (ft : Nat) (p : Val) : Option (Option Source × Option Int × Option Int) := do
  let src ← optSource ft p fl
  let off ← optConv p "Offset" parseInt0
  let lim ← optConv p "Limit" parseInt0
  pure (src, off, lim)

def convShow (ft : Nat) (s : Val) : Option ShowS := do
  let pa ← optNode s "Partitions" (fun p => do
    let src ← optSource ft p "Source"
    let off ← optConv p "Offset" parseInt0
    let lim ← optConv p "Limit" parseInt0
    pure ({ source := src, offset := off, limit := lim } : Partitions))
  let pi ← optNode s "Pipes" (fun p => do
    let src ← optSource ft p "Void"
    let off ← optConv p "Offset" parseInt0
    let lim ← optConv p "Limit" parseInt0
    pure ({ void := src, offset := off, limit := lim } : Pipes))
  pure ({ partitions := pa, pipes := pi } : ShowS)

def convPipe (ft : Nat) (p : Val) : Option Pipe := do
  let fr ← optSource ft p "From"
  let wh ← optExpr ft p "Where"
  pure ({ name := strs (fv p "Name"), from_ := fr, where_ := wh } : Pipe)

def convCreate (ft : Nat) (c : Val) : Option Create := do
  let p ← optNode c "Pipe" (convPipe ft)
  pure ({ pipe := p } : Create)

def convDelete (d : Val) : Option Delete := some ({ pipeName := optStr d "PipeName" } : Delete)

theorem toLql_eq (dp : Bytes → Option Int) (ft : Nat) (v : Val) : toLql dp ft v =
    (optNode v "Select" (convSelect dp ft)).bind fun sel => (optNode v "Describe" convDescribe).bind fun desc =>
    (optNode v "Truncate" (truncConv dp ft)).bind fun tr => (optNode v "Show" (convShow ft)).bind fun sh =>
    (optNode v "Create" (convCreate ft)).bind fun cr => (optNode v "Delete" convDelete).bind fun de =>
    some { select := sel, describe := desc, truncate := tr, show_ := sh, create := cr, delete := de } := rfl

theorem checked_nil (dp : Bytes → Option Int) (ft : Nat) : toLqlChecked dp ft (.node "Lql" []) = some {} := rfl

theorem optNode_single {α : Type} (N g f : String) (x : Val) (conv : Val → Option α) :
    optNode (.node N [(g, [x])]) f conv = if g = f then (conv x).map some else some none := by
  by_cases h : g = f <;> simp [optNode, fv, fieldVals, h]

theorem checked_select (dp : Bytes → Option Int) (ft : Nat) (x : Val) :
    toLqlChecked dp ft (.node "Lql" [("Select", [x])]) =
      (convSelect dp ft x).bind (fun s => postCheck ({ select := some s } : Lql)) := by
  rw [toLqlChecked, toLql_eq]
  simp only [optNode_single, String.reduceEq, ↓reduceIte, Option.bind_some]
  cases convSelect dp ft x <;> rfl

theorem checked_describe (dp : Bytes → Option Int) (ft : Nat) (x : Val) :
    toLqlChecked dp ft (.node "Lql" [("Describe", [x])]) = (convDescribe x).map (fun d => ({ describe := some d } : Lql)) := by
  rw [toLqlChecked, toLql_eq]
  simp only [optNode_single, String.reduceEq, ↓reduceIte, Option.bind_some]
  cases convDescribe x <;> rfl

theorem checked_trunc (dp : Bytes → Option Int) (ft : Nat) (x : Val) :
    toLqlChecked dp ft (.node "Lql" [("Truncate", [x])]) = (truncConv dp ft x).map (fun t => ({ truncate := some t } : Lql)) := by
  rw [toLqlChecked, toLql_eq]
  simp only [optNode_single, String.reduceEq, ↓reduceIte, Option.bind_some]
  cases truncConv dp ft x <;> rfl

theorem checked_show (dp : Bytes → Option Int) (ft : Nat) (x : Val) :
    toLqlChecked dp ft (.node "Lql" [("Show", [x])]) = (convShow ft x).map (fun s => ({ show_ := some s } : Lql)) := by
  rw [toLqlChecked, toLql_eq]
  simp only [optNode_single, String.reduceEq, ↓reduceIte, Option.bind_some]
  cases convShow ft x <;> rfl

theorem checked_create (dp : Bytes → Option Int) (ft : Nat) (x : Val) :
    toLqlChecked dp ft (.node "Lql" [("Create", [x])]) = (convCreate ft x).map (fun c => ({ create := some c } : Lql)) := by
  rw [toLqlChecked, toLql_eq]
  simp only [optNode_single, String.reduceEq, ↓reduceIte, Option.bind_some]
  cases convCreate ft x <;> rfl

theorem checked_delete (dp : Bytes → Option Int) (ft : Nat) (x : Val) :
    toLqlChecked dp ft (.node "Lql" [("Delete", [x])]) = some ({ delete := some { pipeName := optStr x "PipeName" } } : Lql) := by
  rw [toLqlChecked, toLql_eq]
  simp only [optNode_single, String.reduceEq, ↓reduceIte, Option.bind_some]
  rfl

def mkPart (q : Option Source × Option Int × Option Int) : Lql :=
  { show_ := some { partitions := some { source := q.1, offset := q.2.1, limit := q.2.2 } } }
def mkPipes (q : Option Source × Option Int × Option Int) : Lql :=
  { show_ := some { pipes := some { void := q.1, offset := q.2.1, limit := q.2.2 } } }

theorem checked_show_part (dp : Bytes → Option Int) (ft : Nat) (p : Val) :
    toLqlChecked dp ft (.node "Lql" [("Show", [.node "Show" [("Partitions", [p])]])]) = (polConv "Source" ft p).map mkPart := by
  rw [checked_show, convShow, polConv]
  simp only [optNode_single, String.reduceEq, ↓reduceIte, Option.bind_eq_bind, Option.pure_def, Option.map_bind, Option.bind_map,
    Option.bind_assoc, Option.bind_some, Function.comp_def, Option.map_some]
  rfl

theorem checked_show_pipes (dp : Bytes → Option Int) (ft : Nat) (p : Val) :
    toLqlChecked dp ft (.node "Lql" [("Show", [.node "Show" [("Pipes", [p])]])]) = (polConv "Void" ft p).map mkPipes := by
  rw [checked_show, convShow, polConv]
  simp only [optNode_single, String.reduceEq, ↓reduceIte, Option.bind_eq_bind, Option.pure_def, Option.map_bind, Option.bind_map,
    Option.bind_assoc, Option.bind_some, Function.comp_def, Option.map_some]
  rfl

theorem checked_create_pipe (dp : Bytes → Option Int) (ft : Nat) (vp : Val) :
    toLqlChecked dp ft (.node "Lql" [("Create", [.node "Create" [("Pipe", [vp])]])])
      = (convPipe ft vp).map (fun p => ({ create := some { pipe := some p } } : Lql)) := by
  rw [checked_create, convCreate]
  simp only [optNode_single, ↓reduceIte, Option.bind_eq_bind, Option.pure_def, Option.map_bind, Option.bind_map,
    Function.comp_def, Option.map_some]
  cases convPipe ft vp <;> rfl

end Logrange.Lql

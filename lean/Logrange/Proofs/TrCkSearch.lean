import Logrange.Translated.Ckindex
import Logrange.Proofs.Points
/-!
# The binary search of `(*block).findIntervalIdx` / `findIntervalInsertIdx` (pkg/tmindex/ckindex.go), as translated

On a ts-sorted record list the translated search returns `cntLE pts t - 1` (number of records with `ts ≤ t`, minus one);
`findIntervalInsertIdx` then applies the level-dependent adjustment. Loop invariant: `0 ≤ i ≤ cntLE ≤ j ≤ len`,
fuel `> j - i`; the probe index is `(i + j) / 2` (`half_eq`: Go's `int(uint(i+j) >> 1)`).
-/
set_option linter.unusedSimpArgs false
namespace Logrange.Proofs.TrCkSearch
open Go Go.Sem Logrange Logrange.Points Logrange.Translated.Ckindex

theorem half_eq (n : Int) (h0 : 0 ≤ n) (h1 : n < 9223372036854775808) :
    ((UInt64.ofInt n) >>> (1 : UInt64)).toInt64.toInt = n / 2 := by
  obtain ⟨m, rfl⟩ := Int.eq_ofNat_of_zero_le h0
  have hm : m < 9223372036854775808 := by omega
  have e64 : (2:Nat) ^ 64 = 18446744073709551616 := by decide
  have e64i : (2:Int) ^ 64 = 18446744073709551616 := by decide
  have hof : (UInt64.ofInt (m : Int)).toNat = m := by
    unfold UInt64.ofInt
    rw [UInt64.toNat_ofNat', e64, e64i]
    omega
  have hsh : ((UInt64.ofInt (m : Int)) >>> (1 : UInt64)).toNat = m / 2 := by
    rw [UInt64.toNat_shiftRight, hof]
    have : (1 : UInt64).toNat % 64 = 1 := by decide
    rw [this, Nat.shiftRight_eq_div_pow]
  unfold Int64.toInt
  rw [UInt64.toBitVec_toInt64, BitVec.toInt_eq_toNat_of_lt, UInt64.toNat_toBitVec, hsh]
  · omega
  · rw [UInt64.toNat_toBitVec, hsh, e64]; omega

theorem cntLE_nil (t : Int) : cntLE [] t = 0 := rfl

/-- on a ts-sorted list the records with `ts ≤ t` are exactly the first `cntLE pts t` ones -/
theorem le_iff_lt_cntLE (pts : List Pt) (hs : SortedTs pts) (t : Int) (h : Nat) (hh : h < pts.length) :
    pts[h].ts ≤ t ↔ h < cntLE pts t := by
  induction pts generalizing h with
  | nil => simp at hh
  | cons a r ih =>
    by_cases ha : a.ts ≤ t
    · rw [cntLE_cons_le ha]
      cases h with
      | zero => simp [ha]
      | succ k =>
        have hr : SortedTs r := by
          cases r with
          | nil => trivial
          | cons b r => exact hs.2
        simp only [List.getElem_cons_succ]
        rw [ih hr k (by simpa using hh)]
        omega
    · rw [cntLE_cons_gt ha]
      cases h with
      | zero => simpa using ha
      | succ k =>
        have := sorted_head_le r a hs _ (List.getElem_mem (show k < r.length by simpa using hh))
        simp only [List.getElem_cons_succ]
        omega

/-- one probe of the binary search: the midpoint lies in `[i, j)` and the comparison decides `h < cntLE` -/
theorem probe (pts : List Pt) (hs : SortedTs pts) (hn : pts.length < 256)
    (rr : Int → record) (hrr : ∀ (h : Nat) (hh : h < pts.length), (rr (h : Int)).ts.toInt = pts[h].ts) (ts : Int64)
    (i j : Int) (hi : 0 ≤ i) (hij : i < j) (hjl : j ≤ pts.length) :
    ((UInt64.ofInt (i + j)) >>> (1 : UInt64)).toInt64.toInt = (i + j) / 2 ∧
      i ≤ (i + j) / 2 ∧ (i + j) / 2 < j ∧
      ((rr ((i + j) / 2)).ts ≤ ts ↔ (i + j) / 2 < (cntLE pts ts.toInt : Int)) := by
  refine ⟨half_eq (i + j) (by omega) (by omega), by omega, by omega, ?_⟩
  obtain ⟨m, hm⟩ := Int.eq_ofNat_of_zero_le (show 0 ≤ (i + j) / 2 by omega)
  have hml : m < pts.length := by omega
  rw [hm, Int64.le_iff_toInt_le, hrr m hml, le_iff_lt_cntLE pts hs ts.toInt m hml]
  omega

/-- `sort.Search` over `r.ts ≤ ts`: a loop that halves `[i, j)` like the two translated ones ends with `i = cntLE pts ts`.
Invariant `0 ≤ i ≤ cntLE ≤ j ≤ len`, fuel `> j - i`. -/
theorem search_loop {R : Type} (pts : List Pt) (hs : SortedTs pts) (hn : pts.length < 256)
    (rr : Int → record) (hrr : ∀ (h : Nat) (hh : h < pts.length), (rr (h : Int)).ts.toInt = pts[h].ts) (ts : Int64)
    (loop : Nat → Int → Int → R) (after : Int → R)
    (hstep : ∀ f i j, loop (f+1) i j =
      if i < j then
        (if (rr (((UInt64.ofInt (i + j)) >>> (1 : UInt64)).toInt64.toInt)).ts ≤ ts
          then loop f (((UInt64.ofInt (i + j)) >>> (1 : UInt64)).toInt64.toInt + 1) j
          else loop f i (((UInt64.ofInt (i + j)) >>> (1 : UInt64)).toInt64.toInt))
      else after i)
    (fuel : Nat) : ∀ (i j : Int), 0 ≤ i → i ≤ (cntLE pts ts.toInt : Int) → (cntLE pts ts.toInt : Int) ≤ j →
      j ≤ pts.length → j - i < fuel → loop fuel i j = after (cntLE pts ts.toInt : Int) := by
  induction fuel with
  | zero => intro i j _ _ _ _ hf; omega
  | succ f ih =>
    intro i j hi hic hcj hjl hf
    rw [hstep]
    by_cases hij : i < j
    · obtain ⟨e, h1, h2, h3⟩ := probe pts hs hn rr hrr ts i j hi hij hjl
      rw [if_pos hij, e]
      by_cases hc : (rr ((i + j) / 2)).ts ≤ ts
      · have hlt := h3.mp hc
        rw [if_pos hc]
        exact ih _ _ (by omega) (by omega) hcj hjl (by omega)
      · have hge : ¬ (i + j) / 2 < (cntLE pts ts.toInt : Int) := fun x => hc (h3.mpr x)
        rw [if_neg hc]
        exact ih _ _ hi hic (by omega) (by omega) (by omega)
    · rw [if_neg hij]
      have : i = (cntLE pts ts.toInt : Int) := by omega
      rw [this]

theorem loop1_eq (pts : List Pt) (hs : SortedTs pts) (hn : pts.length < 256)
    (rr : Int → record) (hrr : ∀ (h : Nat) (hh : h < pts.length), (rr (h : Int)).ts.toInt = pts[h].ts) (ts : Int64)
    (fuel : Nat) : ∀ (i j : Int), 0 ≤ i → i ≤ (cntLE pts ts.toInt : Int) → (cntLE pts ts.toInt : Int) ≤ j →
      j ≤ pts.length → j - i < fuel →
      block_findIntervalIdx_loop1 ts rr fuel i j = .ok ((cntLE pts ts.toInt : Int) - 1) := by
  refine search_loop pts hs hn rr hrr ts (block_findIntervalIdx_loop1 ts rr) block_findIntervalIdx_after1 ?_ fuel
  intro f i j
  by_cases hij : i < j
  · -- `hg`: the same script covers the source spelled with the branches swapped (`if r.ts > ts { j = h } else { i = h+1 }`)
    by_cases hc : (rr ((UInt64.ofInt (i + j)) >>> (1 : UInt64)).toInt64.toInt).ts ≤ ts
    · have hg := Int64.not_lt.mpr hc
      simp only [block_findIntervalIdx_loop1, hij, hc, hg, gt_iff_lt, decide_true, decide_false, Bool.false_eq_true,
        if_true, if_false]
    · have hg := Int64.not_le.mp hc
      simp only [block_findIntervalIdx_loop1, hij, hc, hg, gt_iff_lt, decide_true, decide_false, Bool.false_eq_true,
        if_true, if_false]
  · simp only [block_findIntervalIdx_loop1, hij, decide_false, Bool.false_eq_true, if_false]

theorem loop1_ins_eq (pts : List Pt) (hs : SortedTs pts) (hn : pts.length < 256)
    (rr : Int → record) (hrr : ∀ (h : Nat) (hh : h < pts.length), (rr (h : Int)).ts.toInt = pts[h].ts) (ts : Int64)
    (b : block_findIntervalInsertIdx_b) (recs : Int)
    (fuel : Nat) : ∀ (i j : Int), 0 ≤ i → i ≤ (cntLE pts ts.toInt : Int) → (cntLE pts ts.toInt : Int) ≤ j →
      j ≤ pts.length → j - i < fuel →
      block_findIntervalInsertIdx_loop1 b ts rr recs fuel i j =
        block_findIntervalInsertIdx_after1 b recs (cntLE pts ts.toInt : Int) := by
  refine search_loop pts hs hn rr hrr ts (block_findIntervalInsertIdx_loop1 b ts rr recs)
    (block_findIntervalInsertIdx_after1 b recs) ?_ fuel
  intro f i j
  by_cases hij : i < j
  · by_cases hc : (rr ((UInt64.ofInt (i + j)) >>> (1 : UInt64)).toInt64.toInt).ts ≤ ts
    · have hg := Int64.not_lt.mpr hc
      simp only [block_findIntervalInsertIdx_loop1, hij, hc, hg, gt_iff_lt, decide_true, decide_false, Bool.false_eq_true,
        if_true, if_false]
    · have hg := Int64.not_le.mp hc
      simp only [block_findIntervalInsertIdx_loop1, hij, hc, hg, gt_iff_lt, decide_true, decide_false, Bool.false_eq_true,
        if_true, if_false]
  · simp only [block_findIntervalInsertIdx_loop1, hij, decide_false, Bool.false_eq_true, if_false]

theorem records_eq (n : Nat) (hn : n < 256) (rest : Bytes) :
    block_records { buf := UInt8.ofNat n :: rest } = .ok (n : Int) := by
  unfold block_records
  have h := index_ok (UInt8.ofNat n :: rest) 0 (by simp)
  simp only [Int.natCast_zero] at h
  rw [h]
  simp only [Go.Sem.bind, List.getElem_cons_zero, UInt8.toNat_ofNat']
  have : n % 2 ^ 8 = n := Nat.mod_eq_of_lt (by omega)
  rw [this]

theorem level_eq (x lvl : UInt8) (rest : Bytes) :
    block_level { buf := x :: lvl :: rest } = .ok (lvl.toNat : Int) := by
  unfold block_level
  have h := index_ok (x :: lvl :: rest) 1 (by simp)
  simp only [Int.natCast_one] at h
  rw [h]
  simp only [Go.Sem.bind, List.getElem_cons_succ, List.getElem_cons_zero]

theorem findIntervalIdx_eq (pts : List Pt) (hs : SortedTs pts) (hn : pts.length < 256) (rest : Bytes)
    (rr : Int → record) (hrr : ∀ (h : Nat) (hh : h < pts.length), (rr (h : Int)).ts.toInt = pts[h].ts) (ts : Int64) :
    block_findIntervalIdx { buf := UInt8.ofNat pts.length :: rest } ts rr =
      .ok (if pts.length = 0 then 0 else (cntLE pts ts.toInt : Int) - 1) := by
  unfold block_findIntervalIdx
  simp only [records_eq pts.length hn rest, Go.Sem.bind]
  by_cases h0 : pts.length = 0
  · simp [h0]
  · have h0' : ¬ ((pts.length : Int) = 0) := by omega
    have hle := cntLE_le_length pts ts.toInt
    simp only [h0, h0', beq_iff_eq, if_false]
    exact loop1_eq pts hs hn rr hrr ts _ 0 (pts.length : Int) (by omega) (by omega) (by omega) (by omega)
      (by unfold dist; omega)

theorem maxInt_eq (a b : Int) : maxInt a b = .ok (max a b) := by
  simp only [maxInt, gt_iff_lt]
  by_cases h : b < a <;> simp [h] <;> omega

theorem findIntervalInsertIdx_eq (pts : List Pt) (hs : SortedTs pts) (hn : pts.length < 256) (lvl : UInt8) (rest : Bytes)
    (rr : Int → record) (hrr : ∀ (h : Nat) (hh : h < pts.length), (rr (h : Int)).ts.toInt = pts[h].ts) (ts : Int64) :
    block_findIntervalInsertIdx { buf := UInt8.ofNat pts.length :: lvl :: rest } ts rr =
      .ok (if pts.length = 0 then 0
           else if lvl = 0 then (cntLE pts ts.toInt : Int) - 1
           else if cntLE pts ts.toInt = pts.length then (pts.length : Int) - 2
           else max 0 ((cntLE pts ts.toInt : Int) - 1)) := by
  unfold block_findIntervalInsertIdx
  simp only [records_eq pts.length hn (lvl :: rest), Go.Sem.bind]
  by_cases h0 : pts.length = 0
  · simp [h0]
  · have h0' : ¬ ((pts.length : Int) = 0) := by omega
    have hle := cntLE_le_length pts ts.toInt
    simp only [h0, h0', beq_iff_eq, if_false]
    rw [loop1_ins_eq pts hs hn rr hrr ts _ _ _ 0 (pts.length : Int) (by omega) (by omega) (by omega) (by omega)
      (by unfold dist; omega)]
    have hl : ((lvl.toNat : Int) = 0) ↔ lvl = 0 := by
      constructor
      · intro h
        apply UInt8.toNat_inj.mp
        simp only [UInt8.toNat_zero]
        omega
      · intro h; rw [h]; rfl
    simp only [block_findIntervalInsertIdx_after1, level_eq, Go.Sem.bind, beq_iff_eq, maxInt_eq, Int.natCast_inj, hl]
    by_cases hlv : lvl = 0
    · rw [if_pos hlv, if_pos hlv]
    · rw [if_neg hlv, if_neg hlv]
      by_cases hc : cntLE pts ts.toInt = pts.length
      · rw [if_pos hc, if_pos hc]
      · rw [if_neg hc, if_neg hc]

end Logrange.Proofs.TrCkSearch

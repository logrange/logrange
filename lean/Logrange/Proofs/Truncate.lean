import Logrange.Model.Truncate
/-! Lemmas behind the C09 property theorems: the chooser and `truncate` on one partition, the visitor body of phase I
case by case, one iteration of the MAXDBSIZE pass (`passStep`), the chunk's time hull. -/
namespace Logrange.Truncate
variable {acct : Bool}

theorem psize_nil : psize [] = 0 := rfl
theorem psize_cons (c : Chunk) (cs : List Chunk) : psize (c :: cs) = c.size + psize cs := by
  simp only [psize, List.map_cons, List.sum_cons]

theorem psize_append (a b : List Chunk) : psize (a ++ b) = psize a + psize b := by
  simp only [psize, List.map_append, List.sum_append]

theorem psize_take_add_drop (cks : List Chunk) (n : Nat) : psize (cks.take n) + psize (cks.drop n) = psize cks := by
  rw [← psize_append, List.take_append_drop]

theorem sub64_of_le {a b : Nat} (h : b ≤ a) : sub64 a b = a - b := if_pos h

theorem sub64_psize_cons (c : Chunk) (cs : List Chunk) : sub64 (psize (c :: cs)) c.size = psize cs := by
  rw [psize_cons, sub64_of_le (Nat.le_add_right _ _), Nat.add_sub_cancel_left]

/-! ### the loops -/

theorem takeLoop_le (cond : Chunk → Nat → Bool) (mn : Nat) :
    ∀ (cks : List Chunk) (size : Nat), (takeLoop cond mn cks size).1 ≤ cks.length := by
  intro cks
  induction cks with
  | nil => intro size; exact Nat.le_refl 0
  | cons c cs ih =>
    intro size
    unfold takeLoop
    split
    · exact Nat.succ_le_succ (ih _)
    · exact Nat.zero_le _

/-- started from the sum of the sizes they subtract, both loops keep `size` equal to what the chunks still to come hold, so
no subtraction wraps -/
theorem takeLoop_spec (cond : Chunk → Nat → Bool) (mn : Nat) : ∀ (cks : List Chunk),
    (takeLoop cond mn cks (psize cks)).2 = psize (cks.drop (takeLoop cond mn cks (psize cks)).1) ∧
    ∀ i, i < (takeLoop cond mn cks (psize cks)).1 →
      cond (cks.getD i default) (psize (cks.drop i)) = true ∧ mn ≤ psize (cks.drop (i + 1)) := by
  intro cks
  induction cks with
  | nil => exact ⟨rfl, fun i hi => absurd hi (Nat.not_lt_zero i)⟩
  | cons c cs ih =>
    unfold takeLoop
    rw [sub64_psize_cons]
    split
    · next h =>
      refine ⟨ih.1, fun i hi => ?_⟩
      cases i with
      | zero => exact h
      | succ j => exact ih.2 j (Nat.lt_of_succ_lt_succ hi)
    · exact ⟨rfl, fun i hi => absurd hi (Nat.not_lt_zero i)⟩

theorem sizePhase_le (p : Params) (cks : List Chunk) (jsize : Nat) : (sizePhase p cks jsize).1 ≤ cks.length := by
  unfold sizePhase
  split
  · exact takeLoop_le _ _ _ _
  · exact Nat.zero_le _

theorem timePhase_le (strict : Bool) (p : Params) (cks : List Chunk) (k1 s1 : Nat) :
    (timePhase strict p cks k1 s1).1 ≤ cks.length - k1 := by
  unfold timePhase
  split
  · exact List.length_drop ▸ takeLoop_le _ _ (cks.drop k1) s1
  · exact Nat.zero_le _

theorem chooseAt_n_le (strict : Bool) (p : Params) (cks : List Chunk) (jsize : Nat) :
    (chooseAt strict p cks jsize).n ≤ cks.length := by
  have h1 := sizePhase_le p cks jsize
  have h2 := timePhase_le strict p cks (sizePhase p cks jsize).1 (sizePhase p cks jsize).2
  simp only [chooseAt, Choice.n]; omega

theorem choose_n_le (strict : Bool) (p : Params) (cks : List Chunk) :
    (choose strict p cks).n ≤ cks.length := chooseAt_n_le strict p cks (psize cks)

theorem sizePhase_spec (p : Params) (cks : List Chunk) :
    (sizePhase p cks (psize cks)).2 = psize (cks.drop (sizePhase p cks (psize cks)).1) ∧
    ∀ i, i < (sizePhase p cks (psize cks)).1 →
      0 < p.maxSrc ∧ p.maxSrc < psize (cks.drop i) ∧ p.minSrc ≤ psize (cks.drop (i + 1)) := by
  unfold sizePhase
  split
  · next g =>
    obtain ⟨a, b⟩ := takeLoop_spec (fun _ size => decide (p.maxSrc < size)) p.minSrc cks
    exact ⟨a, fun i hi => ⟨g.1, of_decide_eq_true (b i hi).1, (b i hi).2⟩⟩
  · exact ⟨rfl, fun i hi => absurd hi (Nat.not_lt_zero i)⟩

theorem timePhase_spec (strict : Bool) (p : Params) (cks : List Chunk) (k : Nat) :
    (timePhase strict p cks k (psize (cks.drop k))).2 =
      psize (cks.drop (k + (timePhase strict p cks k (psize (cks.drop k))).1)) ∧
    ∀ j, j < (timePhase strict p cks k (psize (cks.drop k))).1 →
      0 < p.oldestTs ∧ older strict (cks.getD (k + j) default).maxTs p.oldestTs = true ∧
        p.minSrc ≤ psize (cks.drop (k + j + 1)) := by
  unfold timePhase
  split
  · next g =>
    obtain ⟨a, b⟩ := takeLoop_spec (fun c _ => older strict c.maxTs p.oldestTs) p.minSrc (cks.drop k)
    simp only [List.drop_drop, List.getD_eq_getElem?_getD, List.getElem?_drop] at a b
    exact ⟨a, fun j hj => ⟨g.1, List.getD_eq_getElem?_getD ▸ (b j hj).1, Nat.add_assoc _ _ _ ▸ (b j hj).2⟩⟩
  · exact ⟨rfl, fun j hj => absurd hj (Nat.not_lt_zero j)⟩

theorem choose_spec (strict : Bool) (p : Params) (cks : List Chunk) :
    (choose strict p cks).size = psize (cks.drop (choose strict p cks).n) ∧
    (∀ i, i < (choose strict p cks).bySize →
      0 < p.maxSrc ∧ p.maxSrc < psize (cks.drop i) ∧ p.minSrc ≤ psize (cks.drop (i + 1))) ∧
    (∀ i, (choose strict p cks).bySize ≤ i → i < (choose strict p cks).n →
      0 < p.oldestTs ∧ older strict (cks.getD i default).maxTs p.oldestTs = true ∧
        p.minSrc ≤ psize (cks.drop (i + 1))) := by
  obtain ⟨s1, s2⟩ := sizePhase_spec p cks
  have t := timePhase_spec strict p cks (sizePhase p cks (psize cks)).1
  rw [← s1] at t
  refine ⟨t.1, s2, fun i hlo hhi => ?_⟩
  obtain ⟨j, rfl⟩ := Nat.exists_eq_add_of_le hlo
  exact t.2 j (Nat.lt_of_add_lt_add_left hhi)


/-! ### DeleteChunks on ascending ids removes exactly a prefix -/

def Ascending (cks : List Chunk) : Prop := cks.Pairwise (fun a b => a.id < b.id)

theorem deleteUpTo_sorted : ∀ (cks : List Chunk) (n : Nat), Ascending cks → 0 < n → n ≤ cks.length →
    deleteUpTo (cks.getD (n - 1) default).id cks = cks.drop n := by
  intro cks
  induction cks with
  | nil => intro n _ h1 h2; simp at h2; omega
  | cons c cs ih =>
    intro n hs h1 h2
    have hs' : Ascending cs := (List.pairwise_cons.mp hs).2
    have hc : ∀ b ∈ cs, c.id < b.id := (List.pairwise_cons.mp hs).1
    cases n with
    | zero => omega
    | succ k =>
      cases k with
      | zero =>
        simp only [Nat.zero_add, Nat.sub_self, List.getD_cons_zero, List.drop_succ_cons, List.drop_zero, deleteUpTo]
        rw [List.filter_cons_of_neg (by simp)]
        exact List.filter_eq_self.mpr (by intro b hb; simpa using hc b hb)
      | succ j =>
        have hj : j < cs.length := by simp at h2; omega
        simp only [Nat.add_sub_cancel, List.getD_cons_succ, List.drop_succ_cons, deleteUpTo]
        have hlt : c.id < (cs.getD j default).id := by
          have := hc _ (List.getElem_mem hj)
          simpa [List.getD_eq_getElem?_getD, List.getElem?_eq_getElem hj] using this
        have hneg : ¬ (decide ((cs.getD j default).id < c.id) = true) := by
          simp only [decide_eq_true_eq]; omega
        have := ih (j + 1) hs' (by omega) (by omega)
        simp only [Nat.add_sub_cancel, deleteUpTo] at this
        simp only [List.filter_cons, hneg, if_false, Bool.false_eq_true]
        exact this

theorem truncateAt_def (strict : Bool) (p : Params) (snap now : List Chunk) :
    truncateAt strict p snap now =
      if (choose strict p snap).n = 0 ∨ p.dryRun = true then now
      else deleteUpTo (snap.getD ((choose strict p snap).n - 1) default).id now := rfl

theorem truncateAt_eq_drop (strict : Bool) (p : Params) (snap now : List Chunk) (hs : Ascending now)
    (hlen : snap.length ≤ now.length)
    (hid : ∀ i, i < snap.length → (now.getD i default).id = (snap.getD i default).id) :
    truncateAt strict p snap now = if p.dryRun = true then now else now.drop (choose strict p snap).n := by
  have hle := choose_n_le strict p snap
  rw [truncateAt_def]
  by_cases hd : p.dryRun = true
  · rw [if_pos (Or.inr hd), if_pos hd]
  · rw [if_neg hd]
    by_cases h0 : (choose strict p snap).n = 0
    · rw [if_pos (Or.inl h0), h0]; rfl
    · rw [if_neg (fun h => h.elim h0 hd), ← hid _ (by omega)]
      exact deleteUpTo_sorted now _ hs (by omega) (by omega)

theorem flatMap_suffix_of_drop {α : Type} (ev : Chunk → List α) (c : Prop) [Decidable c] (cks : List Chunk) (n : Nat) :
    (if c then cks else cks.drop n).flatMap ev <:+ cks.flatMap ev := by
  split
  · exact List.suffix_refl _
  · exact ⟨(cks.take n).flatMap ev, by rw [← List.flatMap_append, List.take_append_drop]⟩

theorem truncate_def (strict : Bool) (p : Params) (cks : List Chunk) :
    truncate strict p cks =
      if (choose strict p cks).n = 0 ∨ p.dryRun = true then
        ⟨(choose strict p cks).n, sub64 (psize cks) (choose strict p cks).size, cks⟩
      else
        ⟨cks.length - (deleteUpTo (cks.getD ((choose strict p cks).n - 1) default).id cks).length,
          sub64 (psize cks) (choose strict p cks).size,
          deleteUpTo (cks.getD ((choose strict p cks).n - 1) default).id cks⟩ := rfl

theorem truncate_chunks_eq (strict : Bool) (p : Params) (cks : List Chunk) :
    (truncate strict p cks).chunks = truncateAt strict p cks cks := by
  rw [truncate_def, truncateAt_def]
  split <;> rfl

theorem truncate_chunks (strict : Bool) (p : Params) (cks : List Chunk) (hs : Ascending cks) :
    (truncate strict p cks).chunks =
      if p.dryRun = true then cks else cks.drop (choose strict p cks).n := by
  rw [truncate_chunks_eq, truncateAt_eq_drop strict p cks cks hs (Nat.le_refl _) (fun _ _ => rfl)]

theorem truncate_n (strict : Bool) (p : Params) (cks : List Chunk) (hs : Ascending cks) :
    (truncate strict p cks).n = (choose strict p cks).n := by
  have hle := choose_n_le strict p cks
  have hc := truncate_chunks strict p cks hs
  rw [truncate_def] at hc ⊢
  split
  · rfl
  · next h =>
    rw [if_neg h] at hc
    simp only [] at hc ⊢
    rw [hc, if_neg (fun e => h (Or.inr e)), List.length_drop]
    omega

theorem truncate_removed (strict : Bool) (p : Params) (cks : List Chunk) :
    (truncate strict p cks).removed = psize (cks.take (choose strict p cks).n) := by
  have e : (truncate strict p cks).removed = sub64 (psize cks) (choose strict p cks).size := by
    rw [truncate_def]
    split <;> rfl
  have h := psize_take_add_drop cks (choose strict p cks).n
  rw [e, (choose_spec strict p cks).1, sub64_of_le (by omega)]
  omega

theorem psize_filter_le (f : Chunk → Bool) (l : List Chunk) : psize (l.filter f) ≤ psize l := by
  induction l with
  | nil => exact Nat.le_refl _
  | cons c cs ih =>
    rw [List.filter_cons]
    split
    · simp only [psize_cons]; omega
    · simp only [psize_cons]; omega

theorem truncate_psize_le (strict : Bool) (p : Params) (cks : List Chunk) :
    psize (truncate strict p cks).chunks ≤ psize cks := by
  rw [truncate_def]
  split
  · exact Nat.le_refl _
  · exact psize_filter_le _ _


theorem phase1Part_unsel (strict : Bool) (p : Params) (part : Part) (h : part.sel = false) :
    phase1Part strict p part = ⟨some part, none, none⟩ := by
  unfold phase1Part
  rw [if_pos h]

theorem phase1Part_empty (strict : Bool) (p : Params) (part : Part) (h : part.sel = true)
    (hz : psize part.chunks = 0) :
    phase1Part strict p part =
      ⟨if p.dryRun = false ∧ canDelete part.users part.chunks = true then none else some part,
       if p.dryRun = true ∨ canDelete part.users part.chunks = true then some ⟨0, part.src, 0, 0, 0, true⟩ else none,
       none⟩ := by
  unfold phase1Part
  rw [if_neg (by rw [h]; exact Bool.noConfusion)]
  simp only [hz, if_true]
  cases p.dryRun <;> cases canDelete part.users part.chunks <;> rfl

theorem phase1Part_data (strict : Bool) (p : Params) (part : Part) (h : part.sel = true)
    (hz : psize part.chunks ≠ 0) :
    phase1Part strict p part =
      ⟨if (if (truncate strict p part.chunks).removed = psize part.chunks then
              (p.dryRun || canDelete part.users (truncate strict p part.chunks).chunks) else false) = true ∧
            p.dryRun = false then none
        else some { part with chunks := (truncate strict p part.chunks).chunks },
       none,
       some ⟨latestTs part.chunks, part.src, psize part.chunks,
         sub64 (psize part.chunks) (truncate strict p part.chunks).removed, (truncate strict p part.chunks).n,
         if (truncate strict p part.chunks).removed = psize part.chunks then
           (p.dryRun || canDelete part.users (truncate strict p part.chunks).chunks) else false⟩⟩ := by
  unfold phase1Part
  rw [if_neg (by rw [h]; exact Bool.noConfusion)]
  simp only [hz, if_false]

theorem phase1Part_data_asc (strict : Bool) (p : Params) (part : Part) (h : part.sel = true)
    (hz : psize part.chunks ≠ 0) (hs : Ascending part.chunks) :
    phase1Part strict p part =
      ⟨if (decide (psize (part.chunks.take (choose strict p part.chunks).n) = psize part.chunks) &&
            (p.dryRun || part.users == 0)) = true ∧ p.dryRun = false then none
        else some { part with chunks :=
          if p.dryRun = true then part.chunks else part.chunks.drop (choose strict p part.chunks).n },
       none,
       some ⟨latestTs part.chunks, part.src, psize part.chunks,
         psize (part.chunks.drop (choose strict p part.chunks).n), (choose strict p part.chunks).n,
         decide (psize (part.chunks.take (choose strict p part.chunks).n) = psize part.chunks) &&
           (p.dryRun || part.users == 0)⟩⟩ := by
  have hsum := psize_take_add_drop part.chunks (choose strict p part.chunks).n
  have hflag : (if psize (part.chunks.take (choose strict p part.chunks).n) = psize part.chunks then
        (p.dryRun || canDelete part.users
          (if p.dryRun = true then part.chunks else part.chunks.drop (choose strict p part.chunks).n)) else false) =
      (decide (psize (part.chunks.take (choose strict p part.chunks).n) = psize part.chunks) &&
        (p.dryRun || part.users == 0)) := by
    split
    · next hall =>
      have h0 : psize (part.chunks.drop (choose strict p part.chunks).n) = 0 := by omega
      rw [decide_eq_true hall]
      cases p.dryRun
      · simp only [Bool.false_eq_true, if_false, canDelete, h0, Bool.false_or, Bool.true_and, beq_self_eq_true,
          Bool.and_true]
      · rfl
    · next hall => rw [decide_eq_false hall]; rfl
  have hleft : sub64 (psize part.chunks) (psize (part.chunks.take (choose strict p part.chunks).n)) =
      psize (part.chunks.drop (choose strict p part.chunks).n) := by
    rw [sub64_of_le (by omega)]; omega
  rw [phase1Part_data strict p part h hz, truncate_removed, truncate_n strict p _ hs, truncate_chunks strict p _ hs,
    hflag, hleft]

theorem some_of_ite_none {α : Type} {c : Prop} [Decidable c] {a b : α}
    (h : (if c then none else some a) = some b) : a = b := by
  by_cases hc : c
  · rw [if_pos hc] at h; cases h
  · rw [if_neg hc] at h; exact Option.some.inj h

theorem p1_part_eq (strict : Bool) (p : Params) (q q' : Part) (h : (phase1Part strict p q).part = some q') :
    ∃ cks, q' = { q with chunks := cks } := by
  rcases Bool.eq_false_or_eq_true q.sel with hs | hs
  · by_cases hz : psize q.chunks = 0
    · rw [phase1Part_empty strict p q hs hz] at h
      exact ⟨q.chunks, (some_of_ite_none h).symm⟩
    · rw [phase1Part_data strict p q hs hz] at h
      exact ⟨_, (some_of_ite_none h).symm⟩
  · rw [phase1Part_unsel strict p q hs] at h
    exact ⟨q.chunks, (Option.some.inj h).symm⟩

theorem p1_part_src (strict : Bool) (p : Params) (q q' : Part)
    (h : (phase1Part strict p q).part = some q') : q'.src = q.src := by
  obtain ⟨cks, rfl⟩ := p1_part_eq strict p q q' h; rfl

theorem p1_info_src (strict : Bool) (p : Params) (q : Part) (ti : Info)
    (h : (phase1Part strict p q).info = some ti) : q.sel = true ∧ ti.src = q.src := by
  rcases Bool.eq_false_or_eq_true q.sel with hs | hs
  · by_cases hz : psize q.chunks = 0
    · rw [phase1Part_empty strict p q hs hz] at h; cases h
    · rw [phase1Part_data strict p q hs hz] at h
      exact ⟨hs, (Option.some.inj h) ▸ rfl⟩
  · rw [phase1Part_unsel strict p q hs] at h; cases h


/-- one iteration of the loop of `truncateGlobally` on the entry `ti`, the running total `ts` being above MAXDBSIZE -/
def passStep (acct strict : Bool) (gMin gMax : Nat) (p : Params) (ti : Info) (ts : Nat) (db : List Part) :
    Info × Nat × List Part :=
  if 0 < ti.after then
    match dbFind db ti.src with
    | none => (ti, ts, db)
    | some part =>
      let tr := truncate strict { dryRun := p.dryRun, minSrc := gMin, maxSrc := gMax } part.chunks
      let deleted := p.dryRun || canDelete part.users tr.chunks
      let db1 := if p.dryRun = true then db else if deleted = true then dbRemove db ti.src else dbSet db ti.src tr.chunks
      if deleted = true then (takenInfo p.dryRun ti part.chunks, sub64 ts ti.after, db1)
      else if acct = true then ({ takenInfo p.dryRun ti part.chunks with deleted := false }, sub64 ts ti.after, db1)
      else (ti, ts, db1)
  else (ti, ts, db)

def passRest (acct strict : Bool) (gMin gMax : Nat) (p : Params) (ti : Info) (rest : List Info) (ts : Nat)
    (db : List Part) : List Info × List Part :=
  globalLoop acct strict gMin gMax p rest (passStep acct strict gMin gMax p ti ts db).2.1
    (passStep acct strict gMin gMax p ti ts db).2.2

theorem globalLoop_cons (strict : Bool) (gMin gMax : Nat) (p : Params) (ti : Info) (rest : List Info) (ts : Nat)
    (db : List Part) :
    globalLoop acct strict gMin gMax p (ti :: rest) ts db =
      if p.maxDB < ts then
        ((passStep acct strict gMin gMax p ti ts db).1 :: (passRest acct strict gMin gMax p ti rest ts db).1,
          (passRest acct strict gMin gMax p ti rest ts db).2)
      else (ti :: rest, db) := by
  unfold passRest
  conv => lhs; unfold globalLoop
  by_cases h1 : p.maxDB < ts
  · rw [if_pos h1, if_pos h1]
    unfold passStep
    by_cases h2 : 0 < ti.after
    · simp only [if_pos h2]
      cases dbFind db ti.src with
      | none => rfl
      | some part =>
        simp only []
        generalize (p.dryRun || canDelete part.users
          (truncate strict { dryRun := p.dryRun, minSrc := gMin, maxSrc := gMax } part.chunks).chunks) = D
        cases D
        · cases acct <;> rfl
        · rfl
    · simp only [if_neg h2]
  · rw [if_neg h1, if_neg h1]

theorem passStep_skip (strict : Bool) (gMin gMax : Nat) (p : Params) (ti : Info) (ts : Nat) (db : List Part)
    (h : ti.after = 0 ∨ dbFind db ti.src = none) : passStep acct strict gMin gMax p ti ts db = (ti, ts, db) := by
  unfold passStep
  rcases h with h | h
  · exact if_neg (h ▸ Nat.lt_irrefl 0)
  · rw [h]; exact ite_self _

theorem passStep_dry (strict : Bool) (gMin gMax : Nat) (p : Params) (hd : p.dryRun = true) (ti : Info) (ts : Nat)
    (db : List Part) (part : Part) (ha : 0 < ti.after) (hf : dbFind db ti.src = some part) :
    passStep acct strict gMin gMax p ti ts db = (takenInfo true ti part.chunks, sub64 ts ti.after, db) := by
  unfold passStep
  rw [if_pos ha, hf]
  simp only []
  rw [hd]
  rfl

inductive Forall2 {α β : Type} (R : α → β → Prop) : List α → List β → Prop
  | nil : Forall2 R [] []
  | cons {a b l₁ l₂} : R a b → Forall2 R l₁ l₂ → Forall2 R (a :: l₁) (b :: l₂)

theorem Forall2.refl {α : Type} {R : α → α → Prop} (h : ∀ a, R a a) : ∀ l : List α, Forall2 R l l
  | [] => Forall2.nil
  | a :: l => Forall2.cons (h a) (Forall2.refl h l)

/-- what the global pass may do to one entry of `sortedInfos`: nothing, or take the whole partition -/
def Taken (ti ti' : Info) : Prop :=
  ti' = ti ∨ (ti'.after = 0 ∧ ti'.src = ti.src ∧ ti'.before = ti.before ∧ ti'.latestTs = ti.latestTs)

theorem passStep_taken (strict : Bool) (gMin gMax : Nat) (p : Params) (ti : Info) (ts : Nat) (db : List Part) :
    Taken ti (passStep acct strict gMin gMax p ti ts db).1 := by
  unfold passStep
  by_cases h2 : 0 < ti.after
  · rw [if_pos h2]
    cases dbFind db ti.src with
    | none => exact Or.inl rfl
    | some part =>
      simp only []
      generalize (p.dryRun || canDelete part.users
        (truncate strict { dryRun := p.dryRun, minSrc := gMin, maxSrc := gMax } part.chunks).chunks) = D
      cases D
      · cases acct
        · exact Or.inl rfl
        · exact Or.inr ⟨rfl, rfl, rfl, rfl⟩
      · exact Or.inr ⟨rfl, rfl, rfl, rfl⟩
  · rw [if_neg h2]; exact Or.inl rfl

theorem globalLoop_shape (strict : Bool) (gMin gMax : Nat) (p : Params) :
    ∀ (infos : List Info) (ts : Nat) (db : List Part),
      Forall2 Taken infos (globalLoop acct strict gMin gMax p infos ts db).1 := by
  intro infos
  induction infos with
  | nil => intro ts db; exact Forall2.nil
  | cons ti rest ih =>
    intro ts db
    rw [globalLoop_cons]
    split
    · exact Forall2.cons (passStep_taken strict gMin gMax p ti ts db) (ih _ _)
    · exact Forall2.refl (R := Taken) (fun _ => Or.inl rfl) _

/-- the pass does nothing at all when the total is within MAXDBSIZE -/
theorem globalLoop_idle (strict : Bool) (gMin gMax : Nat) (p : Params) (infos : List Info) (ts : Nat) (db : List Part)
    (h : ts ≤ p.maxDB) : globalLoop acct strict gMin gMax p infos ts db = (infos, db) := by
  cases infos with
  | nil => rfl
  | cons ti rest => rw [globalLoop_cons, if_neg (Nat.not_lt.mpr h)]

/-- in a dry run the loop never changes the partitions -/
theorem globalLoop_dry_db (strict : Bool) (gMin gMax : Nat) (p : Params) (hd : p.dryRun = true) :
    ∀ (infos : List Info) (ts : Nat) (db : List Part), (globalLoop acct strict gMin gMax p infos ts db).2 = db := by
  intro infos
  induction infos with
  | nil => intro ts db; rfl
  | cons ti rest ih =>
    intro ts db
    rw [globalLoop_cons]
    split
    · refine (ih _ _).trans ?_
      by_cases ha : 0 < ti.after
      · cases hf : dbFind db ti.src with
        | none => rw [passStep_skip strict gMin gMax p ti ts db (Or.inr hf)]
        | some part => rw [passStep_dry strict gMin gMax p hd ti ts db part ha hf]
      · rw [passStep_skip strict gMin gMax p ti ts db (Or.inl (Nat.eq_zero_of_not_pos ha))]
    · rfl

theorem globalLoop_step_fst (strict : Bool) (gMin gMax : Nat) (p : Params) (ti : Info) (rest : List Info) (ts : Nat)
    (db : List Part) (h : p.maxDB < ts) :
    (globalLoop acct strict gMin gMax p (ti :: rest) ts db).1 =
      (passStep acct strict gMin gMax p ti ts db).1 :: (passRest acct strict gMin gMax p ti rest ts db).1 := by
  rw [globalLoop_cons, if_pos h]

theorem globalLoop_step_snd (strict : Bool) (gMin gMax : Nat) (p : Params) (ti : Info) (rest : List Info) (ts : Nat)
    (db : List Part) (h : p.maxDB < ts) :
    (globalLoop acct strict gMin gMax p (ti :: rest) ts db).2 = (passRest acct strict gMin gMax p ti rest ts db).2 := by
  rw [globalLoop_cons, if_pos h]

theorem passStep_run_found (strict : Bool) (gMin gMax : Nat) (p : Params) (hd : p.dryRun = false) (ti : Info) (ts : Nat)
    (db : List Part) (part : Part) (ha : 0 < ti.after) (hf : dbFind db ti.src = some part)
    (hok : acct = true ∨ canDelete part.users
      (truncate strict { dryRun := false, minSrc := gMin, maxSrc := gMax } part.chunks).chunks = true) :
    (passStep acct strict gMin gMax p ti ts db).1 =
        { takenInfo false ti part.chunks with
          deleted := canDelete part.users
            (truncate strict { dryRun := false, minSrc := gMin, maxSrc := gMax } part.chunks).chunks } ∧
      (passStep acct strict gMin gMax p ti ts db).2.1 = sub64 ts ti.after := by
  unfold passStep
  rw [if_pos ha, hf]
  simp only []
  rw [hd]
  generalize canDelete part.users
    (truncate strict { dryRun := false, minSrc := gMin, maxSrc := gMax } part.chunks).chunks = D at hok ⊢
  cases D
  · cases hok.resolve_right Bool.false_ne_true
    exact ⟨rfl, rfl⟩
  · exact ⟨rfl, rfl⟩

/-! ### the MAXDBSIZE pass: a dry step announces what the real step does -/

/-- the loop with `Max = 1, Min = 0` takes every chunk when no chunk is smaller than 2 bytes -/
theorem takeLoop_all : ∀ (cks : List Chunk), (∀ c ∈ cks, 2 ≤ c.size) →
    (takeLoop (fun _ s => decide (1 < s)) 0 cks (psize cks)).1 = cks.length := by
  intro cks
  induction cks with
  | nil => intro _; rfl
  | cons c cs ih =>
    intro hall
    have hc : 1 < psize (c :: cs) := by
      have := hall c (List.mem_cons_self ..); rw [psize_cons]; omega
    unfold takeLoop
    rw [if_pos ⟨decide_eq_true hc, Nat.zero_le _⟩, sub64_psize_cons, ih (fun d hd => hall d (List.mem_cons_of_mem _ hd))]
    rfl

/-- **the inner call of the MAXDBSIZE pass (`MinSrcSize 0, MaxSrcSize 1`) empties the partition** -/
theorem global_truncate_empties (strict : Bool) (cks : List Chunk) (hs : Ascending cks) (hall : ∀ c ∈ cks, 2 ≤ c.size) :
    (truncate strict { dryRun := false, minSrc := 0, maxSrc := 1 } cks).chunks = [] := by
  have h1 : (choose strict { dryRun := false, minSrc := 0, maxSrc := 1 } cks).bySize = cks.length := by
    show (sizePhase { dryRun := false, minSrc := 0, maxSrc := 1 } cks (psize cks)).1 = _
    unfold sizePhase
    rw [if_pos ⟨Nat.zero_lt_one, Nat.zero_lt_one⟩]
    exact takeLoop_all cks hall
  have hle := choose_n_le strict { dryRun := false, minSrc := 0, maxSrc := 1 } cks
  have hn : (choose strict { dryRun := false, minSrc := 0, maxSrc := 1 } cks).n = cks.length := by
    simp only [Choice.n] at hle ⊢; omega
  rw [truncate_chunks _ _ _ hs, hn, List.drop_length]
  rfl

theorem takenInfo_dry_drop (ti : Info) (cks : List Chunk) :
    takenInfo true ti cks = takenInfo false ti (cks.drop ti.chunksDeleted) := by
  simp only [takenInfo, List.length_drop, if_true, Bool.false_eq_true, if_false]

/-- **chunk count of a taken partition: dry = real.** The dry step sees the unreduced list and subtracts what phase I
already counted; the real step sees the list phase I left. -/
theorem takenInfo_dry_eq_run (ti : Info) (cks : List Chunk) (h : ti.chunksDeleted ≤ cks.length) :
    takenInfo true ti cks = takenInfo false ti (cks.drop ti.chunksDeleted) :=
  takenInfo_dry_drop ti cks

theorem phase1Part_dry (strict : Bool) (p : Params) (hd : p.dryRun = true) (part : Part) :
    (phase1Part strict p part).part = some part := by
  have hnd : ∀ c : Prop, ¬ (c ∧ p.dryRun = false) := fun c h => by rw [hd] at h; cases h.2
  rcases Bool.eq_false_or_eq_true part.sel with hs | hs
  · by_cases hz : psize part.chunks = 0
    · rw [phase1Part_empty strict p part hs hz]
      exact if_neg (fun h => by rw [hd] at h; cases h.1)
    · rw [phase1Part_data strict p part hs hz]
      simp only []
      rw [if_neg (hnd _), truncate_chunks_eq, truncateAt_def, if_pos (Or.inr hd)]
  · rw [phase1Part_unsel strict p part hs]

end Logrange.Truncate

namespace Logrange.Truncate
variable {acct : Bool}

/-! ### the chunk's time hull covers every write notification (two independent `if`s in `chkInfo.update`) -/

theorem hullUpdate_covers (h r : Hull) :
    (hullUpdate true h r).minTs ≤ h.minTs ∧ h.maxTs ≤ (hullUpdate true h r).maxTs ∧
    (hullUpdate true h r).minTs ≤ r.minTs ∧ r.maxTs ≤ (hullUpdate true h r).maxTs := by
  unfold hullUpdate
  simp only [if_true]
  by_cases h1 : h.minTs > r.minTs <;> by_cases h2 : h.maxTs < r.maxTs <;> simp [h1, h2] <;> omega

theorem foldl_hull_covers : ∀ (rs : List Hull) (h : Hull),
    (rs.foldl (hullUpdate true) h).minTs ≤ h.minTs ∧ h.maxTs ≤ (rs.foldl (hullUpdate true) h).maxTs ∧
    ∀ r ∈ rs, (rs.foldl (hullUpdate true) h).minTs ≤ r.minTs ∧ r.maxTs ≤ (rs.foldl (hullUpdate true) h).maxTs := by
  intro rs
  induction rs with
  | nil => intro h; simp
  | cons r rest ih =>
    intro h
    simp only [List.foldl_cons]
    obtain ⟨a1, a2, a3⟩ := ih (hullUpdate true h r)
    obtain ⟨b1, b2, b3, b4⟩ := hullUpdate_covers h r
    refine ⟨by omega, by omega, ?_⟩
    intro x hx
    rcases List.mem_cons.mp hx with rfl | hx
    · exact ⟨by omega, by omega⟩
    · exact a3 x hx

theorem chunkHull_covers (rs : List Hull) (h : Hull) (hh : chunkHull true rs = some h) :
    ∀ r ∈ rs, h.minTs ≤ r.minTs ∧ r.maxTs ≤ h.maxTs := by
  cases rs with
  | nil => simp [chunkHull] at hh
  | cons r0 rest =>
    simp only [chunkHull, Option.some.injEq] at hh
    subst hh
    obtain ⟨a1, a2, a3⟩ := foldl_hull_covers rest r0
    intro r hr
    rcases List.mem_cons.mp hr with rfl | hr
    · exact ⟨a1, a2⟩
    · exact a3 r hr

end Logrange.Truncate

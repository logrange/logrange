import Logrange.Proofs.Tags
/-!
# How tight is `safe`?  The position-aware class `safeW`

The round trip holds on the larger class `safeW` (`Proofs.Tags.roundtrip_safeW`: only the FIRST name must not start with
`{`, only the LAST raw value must not end with `}`); `safe` is contained in it; on one-pair sets `safeW = safe`.
-/
namespace Logrange.Proofs.TagsTight
open Go Logrange.Quote Logrange.KV Logrange.Tags Logrange.Proofs.KV Logrange.Proofs.Tags

theorem roundtrip_weak (hq : QuoteContract) (m : Map) (hwf : Map.WF m) (hs : safeW m = true) :
    parse (line m) = some m :=
  roundtrip_safeW hq m hwf hs

theorem safe_imp_safeW (m : Map) (hs : safe m = true) : safeW m = true := Logrange.Proofs.Tags.safe_imp_safeW m hs

theorem safeW_singleton (k v : Bytes) : safeW [(k, v)] = safe [(k, v)] := by
  simp only [safeW, safe, firstOK, lastOK, List.all_cons, List.all_nil, List.head?_cons, List.getLast?_singleton,
    Bool.and_true, safePair_eq]

/-- `safeW` is strictly larger: a second name starting with `{` and a first value ending in `}` -/
theorem safeW_strict : safeW [([97], [120, 125]), ([123, 99], [50])] = true ∧
    safe [([97], [120, 125]), ([123, 99], [50])] = false ∧
    parse (line [([97], [120, 125]), ([123, 99], [50])]) = some [([97], [120, 125]), ([123, 99], [50])] := by
  decide +kernel

end Logrange.Proofs.TagsTight

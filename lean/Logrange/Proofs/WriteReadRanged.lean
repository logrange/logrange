import Logrange.Model.WriteReadRanged
import Logrange.Proofs.WriteReadE2E
import Logrange.Proofs.RdRngWin
import Logrange.Proofs.RdRngPaging
/-! # Lemmas for the ranged / backend.Querier forms of C01's end-to-end theorem (`Model/WriteReadRanged.lean`) -/
namespace Logrange.E2E
open Go Logrange.WireRT Logrange.JournalW Logrange.WriteLoopM

theorem rdViewWFrom_ids (win : Nat → Nat × Nat) (k cid off : Nat) (j : Journal) :
    (rdViewWFrom win k cid off j).map (·.id) = List.range' cid j.length := by
  induction j generalizing k cid off with
  | nil => rfl
  | cons x xs ih => simp only [rdViewWFrom, List.map_cons, List.length_cons, List.range'_succ, ih]

/-- the flat record sequence of the view: global index and timestamp of every stored record -/
theorem rdViewWFrom_flat (win : Nat → Nat × Nat) : ∀ (j : Journal) (k cid : Nat) (pre : List Bytes),
    Rd.flat (rdViewWFrom win k cid pre.length j) =
      (List.range' pre.length (readAll j).length).map (fun g => ({ lbl := g, ts := tsOf ((pre ++ readAll j).getD g []) } : Rd.Rec)) := by
  intro j
  induction j with
  | nil => intro k cid pre; rfl
  | cons x xs ih =>
    intro k cid pre
    have ih' := ih (k + 1) (cid + 1) (pre ++ x.recs)
    simp only [Rd.flat, readAll, List.length_append, List.append_assoc] at ih' ⊢
    simp only [rdViewWFrom, List.flatMap_cons, ih', List.length_append, ← List.range'_append_1, List.map_append,
      List.range'_eq_map_range (n := x.recs.length), List.map_map, List.append_cancel_right_eq]
    apply List.map_congr_left
    intro i hi
    have hi' : i < x.recs.length := List.mem_range.mp hi
    simp [List.getD_eq_getElem?_getD, List.getElem?_append_right, List.getElem?_append_left, hi']

theorem wflatIdx_head (j : Rd.Journal) : Rd.wflatIdx j {} = 0 := by
  induction j with
  | nil => rfl
  | cons c cs ih =>
    simp only [Rd.wflatIdx, ih]
    split
    · rename_i h; exact absurd h (Nat.not_lt_zero _)
    · split <;> simp [Rd.Chunk.wBefore]

/-- **C03's ranged iterator algebra, instantiated**: under window soundness (C02's contract) the ranged iterator drained from
the head, with the range re-check, delivers exactly the stored records whose timestamp is in the range, once, in stored order -/
theorem iterLabelsRanged_eq (win : Nat → Nat × Nat) (lo hi : Option Int) (j : Journal)
    (hw : Rd.WinSound (rdViewW win j) lo hi) :
    iterLabelsRanged win lo hi j =
      (List.range (readAll j).length).filter (fun g => tsInRange lo hi (tsOf ((readAll j).getD g []))) := by
  have hs : Rd.Sorted (rdViewW win j) := sorted_of_ids (rdViewWFrom_ids win 0 1 0 j)
  have hflat := rdViewWFrom_flat win j 0 1 []
  simp only [List.length_nil, List.nil_append] at hflat
  have hlen : (Rd.flat (rdViewW win j)).length = (readAll j).length := by
    unfold rdViewW; rw [hflat]; simp
  have hd := Rd.rf_drain_fresh (rdViewW win j) {} (readAll j).length hs (Nat.le_of_eq hlen)
  have hf := Rd.rwn_filter_from hs (hw.toF (f := Rd.inRange lo hi) (fun _ h => h)) {}
  unfold iterLabelsRanged
  rw [hd, hf, flatIdx_head, List.drop_zero]
  unfold rdViewW
  rw [hflat, List.filter_map, List.map_map, ← List.range_eq_range']
  have : ((fun r : Rd.Rec => r.lbl) ∘ fun g => ({ lbl := g, ts := tsOf ((readAll j).getD g []) } : Rd.Rec)) = id := rfl
  rw [this, List.map_id]
  apply List.filter_congr
  intro g _
  cases lo <;> cases hi <;> simp [Rd.inRange, tsInRange]

/-! ## fetching an arbitrary list of labels -/

theorem decodeAll_get (m : Nat) : ∀ (store : List Bytes) (es : List Event), decodeAll m store = some es →
    es.length = store.length ∧ ∀ (g : Nat) (r : Bytes), store[g]? = some r →
      ∃ (e : Event) (k : Nat), es[g]? = some e ∧ r.length ≤ m ∧ Event.unmarshal [] r = .ok (k, e) := by
  intro store
  induction store with
  | nil => intro es h; simp [decodeAll] at h; subst h; simp
  | cons r rs ih =>
    intro es h
    simp only [decodeAll] at h
    split at h
    · simp at h
    · rename_i hl
      split at h
      · rename_i k e hu
        cases hd : decodeAll m rs with
        | none => simp [hd] at h
        | some tl =>
          simp only [hd, Option.map_some, Option.some.injEq] at h
          subst h
          obtain ⟨i1, i2⟩ := ih tl hd
          refine ⟨by simp [i1], ?_⟩
          intro g r' hg
          cases g with
          | zero =>
            simp only [List.getElem?_cons_zero, Option.some.injEq] at hg
            subst hg
            exact ⟨e, k, by simp, by omega, hu⟩
          | succ g =>
            simp only [List.getElem?_cons_succ] at hg
            obtain ⟨e', k', a, b, c⟩ := i2 g r' hg
            exact ⟨e', k', by simpa using a, b, c⟩
      · simp at h

theorem fetchDecode_labels (m : Nat) (store : List Bytes) (es : List Event) (h : decodeAll m store = some es) :
    ∀ (labels : List Nat), (∀ l ∈ labels, l < store.length) →
      fetchDecode m store labels = some (labels.map (fun l => es.getD l default)) := by
  obtain ⟨hl, hg⟩ := decodeAll_get m store es h
  intro labels
  induction labels with
  | nil => intro _; rfl
  | cons l ls ih =>
    intro hb
    have hlt : l < store.length := hb l (by simp)
    obtain ⟨e, k, h1, h2, h3⟩ := hg l store[l] (by simp [hlt])
    have hnot : ¬ store[l].length > m := by omega
    simp only [fetchDecode, List.getElem?_eq_getElem hlt, hnot, ↓reduceIte, h3, List.map_cons]
    rw [ih (fun x hx => hb x (by simp [hx]))]
    simp [List.getD_eq_getElem?_getD, h1]

theorem tsOf_decoded (m : Nat) (store : List Bytes) (es : List Event) (h : decodeAll m store = some es) (g : Nat)
    (hg : g < store.length) : tsOf (store.getD g []) = tsInt (es.getD g default).ts := by
  obtain ⟨_, hget⟩ := decodeAll_get m store es h
  obtain ⟨e, k, h1, _, h3⟩ := hget g store[g] (by simp [hg])
  simp [tsOf, List.getD_eq_getElem?_getD, List.getElem?_eq_getElem hg, h3, h1]

theorem map_getD_range (es : List Event) : (List.range es.length).map (fun i => es.getD i default) = es := by
  apply List.ext_getElem
  · simp
  · intro i h1 h2
    simp [List.getD_eq_getElem?_getD, List.getElem?_eq_getElem h2]

/-- the records the ranged read fetches and decodes: the stored events whose timestamp is in the range, in stored order -/
theorem fetchDecode_ranged (m : Nat) (lo hi : Option Int) (store : List Bytes) (es : List Event)
    (h : decodeAll m store = some es) :
    fetchDecode m store ((List.range store.length).filter (fun g => tsInRange lo hi (tsOf (store.getD g []))))
      = some (es.filter (fun e => tsInRange lo hi (tsInt e.ts))) := by
  obtain ⟨hl, _⟩ := decodeAll_get m store es h
  rw [fetchDecode_labels m store es h _ (fun l hl' => List.mem_range.mp (List.mem_filter.mp hl').1)]
  have e1 : ∀ g ∈ List.range store.length, tsInRange lo hi (tsOf (store.getD g [])) =
      ((fun e : Event => tsInRange lo hi (tsInt e.ts)) ∘ fun g => es.getD g default) g :=
    fun g hg => by rw [tsOf_decoded m store es h g (List.mem_range.mp hg)]; rfl
  rw [List.filter_congr e1, ← List.filter_map, ← hl, map_getD_range]

end Logrange.E2E

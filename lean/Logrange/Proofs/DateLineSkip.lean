import Logrange.Proofs.DateLineParser
/-!
# `lineParser.parse` at and beyond the skip threshold (`maxFailCnt`)

What the property demands of a line that starts with a timestamp — its own date — the parser delivers **exactly when it is not in
state `skipping`**:

* `lp_parsing_dates`: in state `parsing` (any counters, any remembered format) a line some format dates gets its own date;
* `lp_skipping_carries`: in state `skipping` NO line gets its own date, whatever it starts with (the remembered format was
  forgotten on the way in, the full parser is not asked): every time-stamped line inside a skip window carries the stale date;
* `lp_skip_window_ends`: a skip window ends after exactly `maxSkip − cnt` lines (whatever they are), and its length is bounded
  (`LPWf.bound`: `maxSkip ≤ max(maxSkip0, maxSkipOnDetect, 2·skipCap)`), an invariant of every run from the initial state
  (`lpWf_run`).
-/
namespace Logrange.Date

/-- the parser's state after the lines -/
def lpState (cfg : LPCfg) : LP → List LineAns → LP
  | lp, [] => lp
  | lp, a :: rest => lpState cfg (lpStepA cfg lp a).1 rest

def skipBound (cfg : LPCfg) : Nat := max (max cfg.maxSkip0 cfg.maxSkipOnDetect) (2 * cfg.skipCap)

structure LPWf (cfg : LPCfg) (lp : LP) : Prop where
  skipCur : lp.skipping = true → lp.cur = none
  skipCnt : lp.skipping = true → lp.cnt < lp.maxSkip
  pos : 0 < lp.maxSkip
  bound : lp.maxSkip ≤ skipBound cfg

theorem lpWf_init (cfg : LPCfg) (h0 : 0 < cfg.maxSkip0) : LPWf cfg (LP.init cfg) :=
  ⟨nofun, nofun, h0, Nat.le_trans (Nat.le_max_left _ _) (Nat.le_max_left _ _)⟩

/-- **in state `parsing` a line that some format dates gets its own date** — whatever the counters and the remembered format -/
theorem lp_parsing_dates (cfg : LPCfg) (lp : LP) (a : LineAns) (hpar : lp.skipping = false) (hfind : a.findable = true) :
    (lpStepA cfg lp a).2.isDated = true := by
  cases hfast : lp.cur.bind (fun i => (a.fast i).map (fun c => (i, c))) with
  | some ic => rw [lpStepA_fast hfast]; rfl
  | none =>
    rw [lpStepA_slow hfast, hpar, if_neg Bool.false_ne_true]
    rw [LineAns.findable] at hfind
    cases hfull : a.full () with
    | none => rw [hfull] at hfind; cases hfind
    | some ic => rw [lpSlow_found hpar]; rfl

theorem lpStepA_skipping {cfg : LPCfg} {lp : LP} (hwf : LPWf cfg lp) (hsk : lp.skipping = true) (a : LineAns) :
    lpStepA cfg lp a =
      (if lp.cnt + 1 ≥ lp.maxSkip then
         { lp with skipping := false, cnt := 0, maxSkip := if lp.maxSkip < cfg.skipCap then lp.maxSkip * 2 else lp.maxSkip }
       else { lp with cnt := lp.cnt + 1 }, .carried lp.last) := by
  rw [lpStepA_slow (by rw [hwf.skipCur hsk]; rfl), lpSlow_skip hsk]

/-- **in state `skipping` no line gets its own date**: the record carries `lastDate`, whatever the line starts with -/
theorem lp_skipping_carries (cfg : LPCfg) (lp : LP) (a : LineAns) (hwf : LPWf cfg lp) (hsk : lp.skipping = true) :
    (lpStepA cfg lp a).2 = .carried lp.last := by
  rw [lpStepA_skipping hwf hsk]

theorem lpWf_step (cfg : LPCfg) (lp : LP) (a : LineAns) (hwf : LPWf cfg lp) : LPWf cfg (lpStepA cfg lp a).1 := by
  obtain ⟨hcur, hcnt, hpos, hb⟩ := hwf
  cases hs : lp.skipping with
  | true =>
    rw [lpStepA_skipping ⟨hcur, hcnt, hpos, hb⟩ hs]
    split
    · -- the window ends; its next length is doubled below the cap
      refine ⟨nofun, nofun, ?_, ?_⟩
      · show 0 < if lp.maxSkip < cfg.skipCap then lp.maxSkip * 2 else lp.maxSkip
        split
        · exact Nat.mul_pos hpos (by decide)
        · exact hpos
      · show (if lp.maxSkip < cfg.skipCap then lp.maxSkip * 2 else lp.maxSkip) ≤ skipBound cfg
        split
        · rename_i hlt
          exact Nat.le_trans (Nat.mul_comm 2 _ ▸ Nat.mul_le_mul_left 2 (Nat.le_of_lt hlt)) (Nat.le_max_right _ _)
        · exact hb
    · rename_i hlt
      exact ⟨fun _ => hcur hs, fun _ => Nat.not_le.mp hlt, hpos, hb⟩
  | false =>
    have hno : ∀ {p : Prop}, lp.skipping = true → p := fun h => absurd (hs ▸ h) Bool.false_ne_true
    cases hfast : lp.cur.bind (fun i => (a.fast i).map (fun c => (i, c))) with
    | some ic =>
      rw [lpStepA_fast hfast]
      exact ⟨hno, hno, hpos, hb⟩
    | none =>
      rw [lpStepA_slow hfast, hs, if_neg Bool.false_ne_true]
      cases a.full () with
      | some ic =>
        rw [lpSlow_found hs]
        refine ⟨hno, hno, ?_, ?_⟩
        · show 0 < if cfg.maxSkipOnDetect == 0 then lp.maxSkip else cfg.maxSkipOnDetect
          split
          · exact hpos
          · rename_i hne; exact Nat.pos_of_ne_zero (fun e => hne (by rw [e]; rfl))
        · show (if cfg.maxSkipOnDetect == 0 then lp.maxSkip else cfg.maxSkipOnDetect) ≤ skipBound cfg
          split
          · exact hb
          · exact Nat.le_trans (Nat.le_max_right _ _) (Nat.le_max_left _ _)
      | none =>
        rw [lpSlow_miss hs]
        split
        · exact ⟨fun _ => rfl, fun _ => hpos, hpos, hb⟩
        · exact ⟨hno, hno, hpos, hb⟩

theorem lpWf_run (cfg : LPCfg) : ∀ (as : List LineAns) (lp : LP), LPWf cfg lp → LPWf cfg (lpState cfg lp as)
  | [], _, h => h
  | a :: rest, lp, h => lpWf_run cfg rest _ (lpWf_step cfg lp a h)

/-- **a skip window ends**: from a state in `skipping`, after exactly `maxSkip − cnt` further lines — whatever they are — the
parser is back in state `parsing` -/
theorem lp_skip_window_ends (cfg : LPCfg) : ∀ (as : List LineAns) (lp : LP), LPWf cfg lp → lp.skipping = true →
    lp.cnt + as.length = lp.maxSkip → (lpState cfg lp as).skipping = false
  | [], lp, hwf, hsk, hlen => absurd hlen (Nat.ne_of_lt (hwf.skipCnt hsk))
  | a :: rest, lp, hwf, hsk, hlen => by
    rw [lpState, lpStepA_skipping hwf hsk]
    rw [List.length_cons] at hlen
    split
    · -- the last line of the window
      rename_i hge
      cases rest with
      | nil => rfl
      | cons _ _ => rw [List.length_cons] at hlen; omega
    · rename_i hlt
      exact lp_skip_window_ends cfg rest _ ⟨hwf.skipCur, fun _ => Nat.not_le.mp hlt, hwf.pos, hwf.bound⟩ hsk
        (by rw [← hlen]; exact Nat.add_right_comm lp.cnt 1 rest.length)

/-- so a skip window is never longer than `skipBound` lines -/
theorem lp_skip_window_bounded (cfg : LPCfg) (lp : LP) (hwf : LPWf cfg lp) : lp.maxSkip - lp.cnt ≤ skipBound cfg :=
  Nat.le_trans (Nat.sub_le _ _) hwf.bound

end Logrange.Date

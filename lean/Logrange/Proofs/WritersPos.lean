import Logrange.Model.WritersPos
import Logrange.Proofs.WritersLts
/-! # Positions returned to concurrent writers (`Model/WritersPos.lean`) -/
namespace Logrange.WritersLts

/-! ## basics -/

theorem runLog_fst (maxSize : Nat) (s : State) (sched : List Label) :
    (runLog maxSize s sched).1 = run maxSize s sched := by
  induction sched generalizing s with
  | nil => rfl
  | cons l ls ih => simp only [runLog, run]; exact ih _

theorem taken_le (maxSize : Nat) : ∀ (l : List TRec) (size : Nat), taken maxSize size l ≤ l.length := by
  intro l
  induction l with
  | nil => intro size; simp [taken]
  | cons r rest ih =>
    intro size
    simp only [taken]
    split
    · omega
    · have := ih (size + 4 + r.data.length)
      simp only [List.length_cons]; omega

theorem upd_eq_modify (new : List TRec) : ∀ (cs : List Chunk) (i : Nat),
    upd cs i new = cs.modify i (fun c => ⟨c.recs ++ new, c.size + sizeOf new⟩) := by
  intro cs
  induction cs with
  | nil => intro i; simp [upd]
  | cons c cs ih =>
    intro i
    cases i with
    | zero => rfl
    | succ i => rw [upd, ih i, List.modify_succ_cons]

theorem upd_length (cs : List Chunk) (i : Nat) (new : List TRec) : (upd cs i new).length = cs.length := by
  rw [upd_eq_modify, List.length_modify]

theorem upd_get_self (cs : List Chunk) (idx : Nat) (c : Chunk) (new : List TRec) (h : cs[idx]? = some c) :
    (upd cs idx new)[idx]? = some ⟨c.recs ++ new, c.size + sizeOf new⟩ := by
  rw [upd_eq_modify, List.getElem?_modify_eq, h]; rfl

theorem upd_get_ne (cs : List Chunk) (idx i : Nat) (new : List TRec) (h : i ≠ idx) : (upd cs idx new)[i]? = cs[i]? := by
  rw [upd_eq_modify, List.getElem?_modify_ne _ _ (Ne.symm h)]

/-! ## what a step does to the chunk list -/

theorem step_submit_chunks (maxSize : Nat) (s s' : State) (w : Nat) (b : List Bytes)
    (hs : step maxSize s (.submit w b) = some s') : s'.chunks = s.chunks := by
  simp only [step] at hs
  split at hs
  · simp at hs
  · simp only [Option.some.injEq] at hs
    subst hs; rfl

theorem step_getChunk_chunks (maxSize : Nat) (s s' : State) (w : Nat)
    (hs : step maxSize s (.getChunk w) = some s') :
    s'.chunks = s.chunks ∨ s'.chunks = s.chunks ++ [⟨[], 0⟩] := by
  simp only [step] at hs
  split at hs
  · simp at hs
  · split at hs
    · simp only [Option.some.injEq] at hs
      subst hs; exact Or.inr rfl
    · simp only [Option.some.injEq] at hs
      subst hs; exact Or.inl rfl

theorem retOf_chunkWrite (maxSize : Nat) (s : State) (w idx : Nat) (c : Chunk)
    (hheld : (s.loc w).held = some idx) (hc : s.chunks[idx]? = some c) :
    retOf maxSize s (.chunkWrite w) =
      if taken maxSize c.size (s.loc w).pending > 0 then
        some ⟨w, idx, c.recs.length, taken maxSize c.size (s.loc w).pending,
          (s.loc w).pending.take (taken maxSize c.size (s.loc w).pending)⟩
      else none := by
  simp only [retOf, hheld, hc]

/-- a return is logged only for an enabled `chunkWrite` step -/
theorem retOf_some (maxSize : Nat) (s : State) (l : Label) (r : Ret) (h : retOf maxSize s l = some r) :
    ∃ c s', (s.loc r.w).held = some r.chunk ∧ s.chunks[r.chunk]? = some c ∧ l = .chunkWrite r.w ∧
      r.first = c.recs.length ∧ r.n = taken maxSize c.size (s.loc r.w).pending ∧ 0 < r.n ∧
      r.recs = (s.loc r.w).pending.take r.n ∧
      step maxSize s l = some s' ∧ s'.chunks = upd s.chunks r.chunk r.recs := by
  cases l with
  | submit w b => simp [retOf] at h
  | getChunk w => simp [retOf] at h
  | chunkWrite w =>
    cases hheld : (s.loc w).held with
    | none => simp [retOf, hheld] at h
    | some idx =>
      cases hc : s.chunks[idx]? with
      | none => simp [retOf, hheld, hc] at h
      | some c =>
        rw [retOf_chunkWrite maxSize s w idx c hheld hc] at h
        split at h
        · rename_i hn
          obtain rfl := Option.some.inj h
          exact ⟨c, _, hheld, hc, rfl, rfl, rfl, hn, rfl, by simp only [step, hheld, hc, hn, ↓reduceIte]; rfl, rfl⟩
        · simp at h

/-! ## append-only -/

/-- every chunk of `s` is still there in `s'`, with a record list that extends the old one -/
def ChunksPrefix (s s' : State) : Prop :=
  s.chunks.length ≤ s'.chunks.length ∧
    ∀ (i : Nat) (c : Chunk), s.chunks[i]? = some c → ∃ c' : Chunk, s'.chunks[i]? = some c' ∧ c.recs <+: c'.recs

theorem ChunksPrefix.refl (s : State) : ChunksPrefix s s :=
  ⟨Nat.le_refl _, fun _ c h => ⟨c, h, List.prefix_refl _⟩⟩

theorem ChunksPrefix.trans {a b c : State} (h1 : ChunksPrefix a b) (h2 : ChunksPrefix b c) : ChunksPrefix a c := by
  refine ⟨Nat.le_trans h1.1 h2.1, fun i x hx => ?_⟩
  obtain ⟨y, hy, hxy⟩ := h1.2 i x hx
  obtain ⟨z, hz, hyz⟩ := h2.2 i y hy
  exact ⟨z, hz, List.IsPrefix.trans hxy hyz⟩

theorem step_chunks_prefix (maxSize : Nat) (s s' : State) (l : Label) (hs : step maxSize s l = some s') :
    ChunksPrefix s s' := by
  cases l with
  | submit w b =>
    unfold ChunksPrefix
    rw [step_submit_chunks maxSize s s' w b hs]
    exact ChunksPrefix.refl s
  | getChunk w =>
    unfold ChunksPrefix
    rcases step_getChunk_chunks maxSize s s' w hs with h | h
    · rw [h]; exact ChunksPrefix.refl s
    · rw [h]
      refine ⟨by simp, fun i c hc => ⟨c, ?_, List.prefix_refl _⟩⟩
      have hi : i < s.chunks.length := by
        rcases List.getElem?_eq_some_iff.mp hc with ⟨hi, _⟩; exact hi
      rw [List.getElem?_append_left hi]; exact hc
  | chunkWrite w =>
    obtain ⟨idx, c0, _, _, hc0, rfl, _⟩ := step_chunkWrite maxSize s s' w hs
    refine ⟨by rw [upd_length]; exact Nat.le_refl _, fun i c hc => ?_⟩
    by_cases hi : i = idx
    · subst hi
      rw [hc0] at hc
      simp only [Option.some.injEq] at hc
      subst hc
      exact ⟨_, upd_get_self s.chunks i c0 _ hc0, List.prefix_append _ _⟩
    · exact ⟨c, by rw [upd_get_ne s.chunks idx i _ hi]; exact hc, List.prefix_refl _⟩

theorem run_chunks_prefix (maxSize : Nat) : ∀ (sched : List Label) (s : State), ChunksPrefix s (run maxSize s sched) := by
  intro sched
  induction sched with
  | nil => intro s; exact ChunksPrefix.refl s
  | cons l ls ih =>
    intro s
    simp only [run]
    cases hs : step maxSize s l with
    | none => exact ih s
    | some s' => exact (step_chunks_prefix maxSize s s' l hs).trans (ih s')

/-! ## positions delimit the caller's own records -/

/-- in state `s` the index range `[first, first+n)` of chunk `r.chunk` holds exactly the records call `r` wrote -/
def Delimits (s : State) (r : Ret) : Prop :=
  ∃ c : Chunk, s.chunks[r.chunk]? = some c ∧ (c.recs.drop r.first).take r.n = r.recs ∧ r.recs.length = r.n ∧ 0 < r.n ∧
    (∀ x ∈ r.recs, x.w = r.w)

theorem Delimits.mono {s s' : State} {r : Ret} (h : Delimits s r) (hp : ChunksPrefix s s') : Delimits s' r := by
  obtain ⟨c, hc, hrange, hlen, hpos, hown⟩ := h
  obtain ⟨c', hc', ⟨t, ht⟩⟩ := hp.2 r.chunk c hc
  refine ⟨c', hc', ?_, hlen, hpos, hown⟩
  have hl : r.first + r.n ≤ c.recs.length := by
    have := congrArg List.length hrange
    simp only [List.length_take, List.length_drop, hlen] at this
    omega
  rw [← ht, List.drop_append_of_le_length (by omega), List.take_append_of_le_length (by simp; omega)]
  exact hrange

/-- right after the call, the returned range holds the call's records -/
theorem retOf_delimits (maxSize : Nat) (s s' : State) (l : Label) (r : Ret) (hi : SInv s)
    (h : retOf maxSize s l = some r) (hs : step maxSize s l = some s') : Delimits s' r := by
  obtain ⟨c, s'', hheld, hc, hl, hfirst, hn, hpos, hrecs, hs'', hch⟩ := retOf_some maxSize s l r h
  rw [hs] at hs''
  simp only [Option.some.injEq] at hs''
  subst hs''
  have hle := taken_le maxSize (s.loc r.w).pending c.size
  have hlen : r.recs.length = r.n := by
    rw [hrecs, List.length_take]; omega
  refine ⟨_, by rw [hch]; exact upd_get_self s.chunks r.chunk c r.recs hc, ?_, hlen, hpos, ?_⟩
  · simp only [hfirst, List.drop_left, ← hlen, List.take_length]
  · intro x hx
    rw [hrecs] at hx
    exact (hi r.w).own x (List.mem_of_mem_take hx)

theorem runLog_delimits (maxSize : Nat) : ∀ (sched : List Label) (s : State), SInv s →
    ∀ r ∈ (runLog maxSize s sched).2, Delimits (run maxSize s sched) r := by
  intro sched
  induction sched with
  | nil => intro s _ r hr; simp [runLog] at hr
  | cons l ls ih =>
    intro s hi r hr
    simp only [runLog, List.mem_append, Option.mem_toList] at hr
    simp only [run]
    rcases hr with hr | hr
    · obtain ⟨c, s', _, _, _, _, _, _, _, hs, _⟩ := retOf_some maxSize s l r hr
      rw [hs]
      simp only [Option.getD_some]
      exact (retOf_delimits maxSize s s' l r hi hr hs).mono (run_chunks_prefix maxSize ls s')
    · cases hs : step maxSize s l with
      | none =>
        rw [hs] at hr
        simp only [Option.getD_none] at hr ⊢
        exact ih s hi r hr
      | some s' =>
        rw [hs] at hr
        simp only [Option.getD_some] at hr ⊢
        exact ih s' (step_inv maxSize s s' l hi hs) r hr

/-! ## the returns cover each writer's records exactly -/

/-- the records the returns in `log` announce to writer `w`, in call order -/
def announced (w : Nat) (log : List Ret) : List TRec := (log.filter (fun r => r.w == w)).flatMap (·.recs)

theorem announced_append (w : Nat) (a b : List Ret) : announced w (a ++ b) = announced w a ++ announced w b := by
  simp [announced]

theorem step_byWriter (maxSize : Nat) (s s' : State) (l : Label) (w : Nat) (hi : SInv s)
    (hs : step maxSize s l = some s') :
    byWriter w (readAll s'.chunks) = byWriter w (readAll s.chunks) ++ announced w (retOf maxSize s l).toList := by
  cases l with
  | submit v b =>
    rw [step_submit_chunks maxSize s s' v b hs]
    simp [retOf, announced]
  | getChunk v =>
    have e0 := readAll_drop_append_empty s.chunks 0
    simp only [List.drop_zero] at e0
    rcases step_getChunk_chunks maxSize s s' v hs with h | h
    · rw [h]; simp [retOf, announced]
    · rw [h, e0]; simp [retOf, announced]
  | chunkWrite v =>
    obtain ⟨idx, c, _, hheld, hc, rfl, _⟩ := step_chunkWrite maxSize s s' v hs
    have hv := hi v
    have hown : ∀ r ∈ (s.loc v).pending.take (taken maxSize c.size (s.loc v).pending), r.w = v :=
      fun r hr => hv.own r (List.mem_of_mem_take hr)
    rw [retOf_chunkWrite maxSize s v idx c hheld hc]
    by_cases hw : w = v
    · subst hw
      rw [byWriter_upd_self w _ hown s.chunks idx c hc (hv.held idx hheld)]
      split
      · simp [announced]
      · rename_i hn
        simp [announced, Nat.eq_zero_of_not_pos hn]
    · rw [byWriter_upd_other w v s.chunks idx _ hown hw]
      have hvw : ¬ v = w := fun e => hw e.symm
      split <;> simp [announced, hvw]

theorem runLog_covers (maxSize : Nat) (w : Nat) : ∀ (sched : List Label) (s : State), SInv s →
    byWriter w (readAll (run maxSize s sched).chunks) =
      byWriter w (readAll s.chunks) ++ announced w (runLog maxSize s sched).2 := by
  intro sched
  induction sched with
  | nil => intro s _; simp [run, runLog, announced]
  | cons l ls ih =>
    intro s hi
    simp only [run, runLog, announced_append]
    cases hs : step maxSize s l with
    | none =>
      have hr : retOf maxSize s l = none := by
        cases hr : retOf maxSize s l with
        | none => rfl
        | some r =>
          obtain ⟨_, _, _, _, _, _, _, _, _, hs', _⟩ := retOf_some maxSize s l r hr
          rw [hs] at hs'; simp at hs'
      simp only [Option.getD_none, hr, Option.toList_none]
      rw [ih s hi]; simp [announced]
    | some s' =>
      simp only [Option.getD_some]
      rw [ih s' (step_inv maxSize s s' l hi hs), step_byWriter maxSize s s' l w hi hs, List.append_assoc]

/-! ## the late count under the per-partition write lock -/

theorem run_submits_chunks (maxSize : Nat) : ∀ (more : List Label) (s : State),
    (∀ l ∈ more, ∃ v b, l = .submit v b) → (run maxSize s more).chunks = s.chunks := by
  intro more
  induction more with
  | nil => intro s _; rfl
  | cons l ls ih =>
    intro s h
    obtain ⟨v, b, rfl⟩ := h l (by simp)
    simp only [run]
    rw [ih _ (fun x hx => h x (by simp [hx]))]
    cases hs : step maxSize s (.submit v b) with
    | none => rfl
    | some s' => simpa using step_submit_chunks maxSize s s' v b hs

theorem between_submits (noEv : Nat → Bool) (w : Nat) (more : List Label) (hall : ∀ v, takesLock (noEv v) = true) :
    ∀ l ∈ between noEv w more, ∃ v b, l = .submit v b := by
  intro l hl
  simp only [between, List.mem_filter] at hl
  obtain ⟨_, h⟩ := hl
  cases l with
  | submit v b => exact ⟨v, b, rfl⟩
  | getChunk v => simp [hall] at h
  | chunkWrite v => simp [hall] at h

/-! ## the late read is not safe -/

/-- writers 1 and 2 both hold chunk 0; writer 1 is about to write -/
def cexBefore : State := run 100 {} [.submit 1 [[1], [2]], .submit 2 [[9]], .getChunk 1, .getChunk 2]
/-- writer 1 has written (and released the chunk writer's lock) -/
def cexS1 : State := run 100 {} [.submit 1 [[1], [2]], .submit 2 [[9]], .getChunk 1, .getChunk 2, .chunkWrite 1]
/-- writer 2's write lands before writer 1 reads the count -/
def cexS2 : State := run 100 cexS1 [.chunkWrite 2]

/-- **Counterexample for the late count read**: writer 1 wrote records 0,1 of chunk 0 (the atomic return says so); writer
2's write lands between writer 1's unlock and its count read; the late count is 3, so writer 1 announces `[1, 2]` — a range
that misses its own first record and contains writer 2's record. -/
theorem cex_late_count_shifts_positions :
    retOf 100 cexBefore (.chunkWrite 1) = some ⟨1, 0, 0, 2, [⟨1, [1]⟩, ⟨1, [2]⟩]⟩ ∧
    lateCount cexS2 0 = 3 ∧ lateCount cexS2 0 - 2 = 1 ∧
    (cexS2.chunks[0]?.map (fun c => (c.recs.drop 1).take 2)) = some [⟨1, [2]⟩, ⟨2, [9]⟩] := by decide +kernel

/-- the same schedule under the atomic reading: both returns are exact (`runLog_delimits` instance) -/
example : (runLog 100 {} [.submit 1 [[1], [2]], .submit 2 [[9]], .getChunk 1, .getChunk 2, .chunkWrite 1,
    .chunkWrite 2]).2.map (fun r => (r.w, r.chunk, r.first, r.n)) = [(1, 0, 0, 2), (2, 0, 2, 1)] := by decide +kernel

/-- non-vacuity (the schedule of `Props/C01.lean`): writer 1's batch spans a roll-over, writer 2's record lands in between;
one call that hits the full chunk returns nothing (`n = 0`: not logged) -/
example : (runLog 10 {} [.submit 1 [[1], [2], [3]], .submit 2 [[9]], .getChunk 1, .chunkWrite 1, .getChunk 2,
    .chunkWrite 2, .getChunk 2, .chunkWrite 2, .getChunk 1, .chunkWrite 1]).2.map (fun r => (r.w, r.chunk, r.first, r.n))
      = [(1, 0, 0, 2), (2, 1, 0, 1), (1, 1, 1, 1)] := by decide +kernel

end Logrange.WritersLts

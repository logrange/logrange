import Logrange.Proofs.PathMatchClass
import Logrange.Proofs.PathMatchItems
/-!
The model of Go's `path.Match` against the specification `PathSpec`, chunk by chunk. A chunk is read one term at a time:
`matchChunk` makes the item's `consume` step on the name, and the documented grammar (`parsePat`) reads the same term unless
it starts with `*`. From these: a whole star-free chunk, one round of `matchGo` with the recursive call left open (`goStep`),
and the whole function on patterns without the byte `*`, all names.
-/
namespace Logrange.PathSpec
open Logrange.PathMatch

def noStar (p : Bytes) : Bool := p.all (· != STAR)

/-! ## scanChunk on a pattern without `*` -/

theorem noStar_tail {c : UInt8} {r : Bytes} (h : noStar (c :: r) = true) : (c == STAR) = false ∧ noStar r = true := by
  simp only [noStar, List.all_cons, Bool.and_eq_true, bne_iff_ne, ne_eq] at h
  exact ⟨by simpa using h.1, by simpa [noStar] using h.2⟩

theorem scanLoop_noStar : ∀ (fuel : Nat) (p : Bytes) (i : Nat) (inr : Bool), p.length < fuel → noStar p = true →
    scanLoop fuel p i inr = i + p.length := by
  intro fuel
  induction fuel with
  | zero => intro p i inr h; omega
  | succ f ih =>
    intro p i inr hl hn
    cases p with
    | nil => rfl
    | cons c r =>
      obtain ⟨hs, hr⟩ := noStar_tail hn
      simp only [List.length_cons] at hl
      have e : ∀ b, scanLoop f r (i + 1) b = i + (r.length + 1) := fun b => by
        rw [ih r (i + 1) b (by omega) hr]; omega
      -- without a `*` every branch but the one behind `\` is the same call on `r`
      rw [scanLoop_succ, e, e, e]
      simp only [hs, Bool.false_and, Bool.false_eq_true, if_false, ite_self, List.length_cons]
      cases r with
      | nil => split <;> rfl
      | cons x r2 =>
        simp only [List.length_cons] at hl
        dsimp only
        rw [ih r2 (i + 2) inr (by omega) (noStar_tail hr).2]
        split <;> simp only [List.length_cons] <;> omega

theorem scanChunk_noStar (p : Bytes) (hn : noStar p = true) : scanChunk p = (false, p, []) := by
  have htw : p.takeWhile (· == STAR) = [] := by
    cases p with
    | nil => rfl
    | cons c r =>
      simp only [noStar, List.all_cons, Bool.and_eq_true, bne_iff_ne, ne_eq] at hn
      have : (c == STAR) = false := by simpa using hn.1
      simp [List.takeWhile, this]
  simp only [scanChunk, htw, List.length_nil, List.drop_zero]
  rw [scanLoop_noStar (p.length + 1) p 0 false (by omega) hn]
  simp

/-- `[` `^`? body -/
def clsSplit (crest : Bytes) : Bool × Bytes :=
  match crest with | x :: b => if x == CARET then (true, b) else (false, crest) | [] => (false, crest)

theorem clsSplit_suffix (crest : Bytes) : (clsSplit crest).2 <:+ crest := by
  cases crest with
  | nil => exact List.suffix_refl _
  | cons x b =>
    simp only [clsSplit]
    split
    · exact List.suffix_cons x b
    · exact List.suffix_refl _

/-- the first term as `matchChunk` reads it: `*` is an ordinary byte there, the only point where `parsePat` reads a chunk
differently (`parsePat_cons`) -/
def headTerm : Bytes → Option (Item × Bytes)
  | [] => none
  | c :: crest =>
    if c == LBR then
      (ranges ((clsSplit crest).2.length + 1) (clsSplit crest).2 0).map fun rq => (.cls (clsSplit crest).1 rq.1, rq.2)
    else if c == QM then some (.any, crest)
    else if c == BS then (match crest with | x :: r => some (.lit x, r) | [] => none)
    else some (.lit c, crest)

theorem headTerm_suffix (c : UInt8) (crest : Bytes) (i : Item) (q : Bytes) (h : headTerm (c :: crest) = some (i, q)) :
    q <:+ crest ∧ i.isStar = false := by
  simp only [headTerm] at h
  split at h
  · cases hr : ranges ((clsSplit crest).2.length + 1) (clsSplit crest).2 0 with
    | none => rw [hr] at h; cases h
    | some rq =>
      rw [hr] at h
      simp only [Option.map_some, Option.some.injEq, Prod.mk.injEq] at h
      obtain ⟨c0, cons, e, _⟩ := ranges_pre _ _ _ _ _ hr
      refine ⟨?_, by rw [← h.1]; rfl⟩
      rw [← h.2]
      exact (e ▸ List.suffix_append (c0 :: cons) rq.2).trans (clsSplit_suffix crest)
  · split at h
    · simp only [Option.some.injEq, Prod.mk.injEq] at h
      exact ⟨h.2 ▸ List.suffix_refl _, by rw [← h.1]; rfl⟩
    · split at h
      · cases crest with
        | nil => cases h
        | cons x r =>
          simp only [Option.some.injEq, Prod.mk.injEq] at h
          exact ⟨h.2 ▸ List.suffix_cons x r, by rw [← h.1]; rfl⟩
      · simp only [Option.some.injEq, Prod.mk.injEq] at h
        exact ⟨h.2 ▸ List.suffix_refl _, by rw [← h.1]; rfl⟩

theorem parsePat_cons (f : Nat) (c : UInt8) (crest : Bytes) (hs : (c == STAR) = false) :
    parsePat (f+1) (c :: crest) =
      match headTerm (c :: crest) with
      | none => none
      | some (i, rest) => (parsePat f rest).map (i :: ·) := by
  by_cases hl : c = LBR
  · subst hl
    have e : parsePat (f+1) (LBR :: crest) =
        match ranges ((clsSplit crest).2.length + 1) (clsSplit crest).2 0 with
        | none => none
        | some (rs, q) =>
          if q.length < (LBR :: crest).length then (parsePat f q).map (Item.cls (clsSplit crest).1 rs :: ·) else none := by
      simp only [parsePat, LBR, STAR, QM, BS]
      rfl
    rw [e]
    simp only [headTerm, beq_self_eq_true, if_true]
    cases hr : ranges ((clsSplit crest).2.length + 1) (clsSplit crest).2 0 with
    | none => rfl
    | some rq =>
      obtain ⟨c0, cons, e, _⟩ := ranges_pre _ _ _ _ _ hr
      have hlt : rq.2.length < (LBR :: crest).length := by
        have := (clsSplit_suffix crest).length_le
        rw [e] at this
        simp only [List.length_append, List.length_cons] at this ⊢
        omega
      simp only [Option.map_some, hlt, if_true]
  · have hl' : (c == LBR) = false := by simpa using hl
    simp only [parsePat, headTerm, hs, hl', Bool.false_eq_true, if_false]
    split
    · rfl
    · split
      · cases crest <;> rfl
      · rfl

theorem classLoop_eq (body : Bytes) (r : Nat) :
    classLoop (body.length + 2) body r true 0 false =
      (ranges (body.length + 1) body 0).map fun rq => (inRanges rq.1 r, rq.2) := by
  have := classLoop_ranges (body.length + 1) body (body.length + 2) r 0 false (by omega) (by omega)
  cases h : ranges (body.length + 1) body 0 with
  | none => rw [h] at this; exact this
  | some rq => rw [h] at this; simpa using this.1

/-- once failed, `matchChunk` only checks the syntax of what is left -/
theorem matchChunk_failed : ∀ (f : Nat) (chunk s s' : Bytes), matchChunk f chunk s true = matchChunk f chunk s' true := by
  intro f
  induction f with
  | zero => intros; rfl
  | succ f ih =>
    intro chunk s s'
    cases chunk with
    | nil => rfl
    | cons c crest =>
      simp only [matchChunk, Bool.true_or, Bool.not_true, Bool.false_eq_true, if_false]
      split
      · split
        · rfl
        · exact ih _ _ _
      · split
        · exact ih _ _ _
        · split
          · rfl
          · exact ih _ _ _

theorem matchChunk_cons (f : Nat) (c : UInt8) (crest s : Bytes) (failed : Bool) :
    matchChunk (f+1) (c :: crest) s failed =
      match headTerm (c :: crest) with
      | none => none
      | some (i, rest) =>
        match (if failed then none else consume [i] s) with
        | some s' => matchChunk f rest s' false
        | none => matchChunk f rest [] true := by
  by_cases hl : c = LBR
  · subst hl
    have e : matchChunk (f+1) (LBR :: crest) s failed =
        match classLoop ((clsSplit crest).2.length + 2) (clsSplit crest).2
            (if failed || s.isEmpty then 0 else (decodeRune s).1) true 0 false with
        | none => none
        | some (m, rest) => matchChunk f rest (if failed || s.isEmpty then s else s.drop (decodeRune s).2)
            (failed || s.isEmpty || (m == (clsSplit crest).1)) := by
      simp only [matchChunk, LBR, beq_self_eq_true, if_true]
      generalize (failed || s.isEmpty) = fl
      cases fl <;> rfl
    rw [e, classLoop_eq]
    simp only [headTerm, beq_self_eq_true, if_true]
    cases ranges ((clsSplit crest).2.length + 1) (clsSplit crest).2 0 with
    | none => rfl
    | some rq =>
      simp only [Option.map_some]
      cases failed with
      | true => exact matchChunk_failed _ _ _ _
      | false =>
        cases s with
        | nil => rfl
        | cons y t =>
          simp only [Bool.false_or, List.isEmpty_cons, Bool.false_eq_true, if_false, consume]
          cases hm : (inRanges rq.1 (decodeRune (y :: t)).1 != (clsSplit crest).1) with
          | true =>
            have : (inRanges rq.1 (decodeRune (y :: t)).1 == (clsSplit crest).1) = false := by simpa [bne] using hm
            rw [this]; rfl
          | false =>
            have : (inRanges rq.1 (decodeRune (y :: t)).1 == (clsSplit crest).1) = true := by simpa [bne] using hm
            rw [this]; exact matchChunk_failed _ _ _ _
  · have hl' : (c == LBR) = false := by simpa using hl
    by_cases hq : c = QM
    · subst hq
      simp only [matchChunk, headTerm, hl', Bool.false_eq_true, if_false, beq_self_eq_true, if_true]
      cases failed with
      | true => exact matchChunk_failed _ _ _ _
      | false =>
        cases s with
        | nil => rfl
        | cons y t =>
          by_cases hy : y = SL
          · subst hy
            simp only [Bool.false_or, List.isEmpty_cons, Bool.not_false, if_true, consume, beq_self_eq_true, bne_self_eq_false,
              Bool.false_eq_true, if_false]
            exact matchChunk_failed _ _ _ _
          · have h1 : (y == SL) = false := by simpa using hy
            have h2 : (y != SL) = true := by simpa using hy
            simp only [Bool.false_or, List.isEmpty_cons, Bool.not_false, if_true, consume, h1, h2, Bool.false_eq_true, if_false]
    · have hq' : (c == QM) = false := by simpa using hq
      simp only [matchChunk, headTerm, hl', hq', Bool.false_eq_true, if_false]
      have key : ∀ (x : UInt8) (rest : Bytes),
          (if (!(failed || s.isEmpty)) = true then
            match s with
            | y :: s' => matchChunk f rest s' (x != y)
            | [] => matchChunk f rest s true
          else matchChunk f rest s (failed || s.isEmpty)) =
          match (if failed = true then none else consume [Item.lit x] s) with
          | some s' => matchChunk f rest s' false
          | none => matchChunk f rest [] true := by
        intro x rest
        cases failed with
        | true => exact matchChunk_failed _ _ _ _
        | false =>
          cases s with
          | nil => rfl
          | cons y t =>
            simp only [Bool.false_or, List.isEmpty_cons, Bool.not_false, if_true, consume, bne]
            by_cases hy : y = x
            · subst hy; simp
            · have h1 : (y == x) = false := by simpa using hy
              have h2 : (x == y) = false := by simpa using fun e : x = y => hy e.symm
              rw [h1, h2]; exact matchChunk_failed _ _ _ _
      cases hb : (c == BS) with
      | false => exact key c crest
      | true =>
        cases crest with
        | nil => rfl
        | cons x rest => exact key x rest

/-! ## one chunk: `matchChunk` against the item list of the chunk -/

/-- what `matchChunk` must do on a chunk whose specification parse is `o` -/
def ChunkSpec (mf : Nat) (chunk : Bytes) : Option (List Item) → Prop
  | none => ∀ s failed, matchChunk mf chunk s failed = none
  | some its => hasStar its = false ∧ ∀ s,
      matchChunk mf chunk s true = some ([], false) ∧
      matchChunk mf chunk s false = (match consume its s with | some t => some (t, true) | none => some ([], false))

theorem noStar_suffix {q p : Bytes} (h : q <:+ p) (hp : noStar p = true) : noStar q = true := by
  simp only [noStar, List.all_eq_true] at hp ⊢
  intro x hx; exact hp x (h.subset hx)

theorem matchChunk_spec : ∀ (pf : Nat) (chunk : Bytes) (mf : Nat), chunk.length < pf → chunk.length + 1 < mf →
    noStar chunk = true → ChunkSpec mf chunk (parsePat pf chunk) := by
  intro pf
  induction pf with
  | zero => intro chunk mf h; omega
  | succ pf ih =>
    intro chunk mf h1 h2 hn
    obtain ⟨mf', rfl⟩ : ∃ mf', mf = mf' + 1 := ⟨mf - 1, by omega⟩
    cases chunk with
    | nil =>
      simp only [parsePat, ChunkSpec, hasStar, consume]
      refine ⟨trivial, fun s => ?_⟩
      simp [matchChunk]
    | cons c rest =>
      obtain ⟨hcs, hnr⟩ := noStar_tail hn
      simp only [List.length_cons] at h1 h2
      rw [parsePat_cons pf c rest hcs]
      cases hh : headTerm (c :: rest) with
      | none => intro s failed; rw [matchChunk_cons, hh]
      | some iq =>
        obtain ⟨i, q⟩ := iq
        obtain ⟨hsuf, hi⟩ := headTerm_suffix c rest i q hh
        have hql := hsuf.length_le
        have ihq := ih q mf' (by omega) (by omega) (noStar_suffix hsuf hnr)
        simp only []
        cases hpq : parsePat pf q with
        | none =>
          rw [hpq] at ihq
          intro s failed
          rw [matchChunk_cons, hh]
          simp only []
          split <;> exact ihq _ _
        | some its =>
          rw [hpq] at ihq
          simp only [Option.map_some]
          have hhs : hasStar (i :: its) = false := by cases i <;> first | exact ihq.1 | cases hi
          refine ⟨hhs, fun s => ⟨?_, ?_⟩⟩
          · rw [matchChunk_cons, hh]; exact (ihq.2 []).1
          · rw [matchChunk_cons, hh, consume_cons]
            simp only [Bool.false_eq_true, if_false]
            cases consume [i] s with
            | none => exact (ihq.2 []).1
            | some s' => exact (ihq.2 s').2

theorem starLoop_eq (chunk : Bytes) (ci : List Item)
    (hmc : ∀ s, mc chunk s = (match consume ci s with | some t => some (t, true) | none => some ([], false))) :
    ∀ (n : Bytes) (f : Nat) (b : Bool), n.length < f → starLoop f chunk n b = some (starLoopI ci n b)
  | [], f, b, h => by
    obtain ⟨f', rfl⟩ : ∃ f', f = f' + 1 := ⟨f - 1, by omega⟩
    simp [starLoop, starLoopI]
  | c :: rest, f, b, h => by
    obtain ⟨f', rfl⟩ : ∃ f', f = f' + 1 := ⟨f - 1, by omega⟩
    simp only [List.length_cons] at h
    have ih := starLoop_eq chunk ci hmc rest f' b (by omega)
    simp only [starLoop, starLoopI, hmc rest]
    by_cases hc : (c == SL) = true
    · simp [hc]
    · simp only [hc, Bool.false_eq_true, if_false]
      cases consume ci rest with
      | none => simp only []; exact ih
      | some t =>
        simp only []
        split
        · exact ih
        · rfl

/-- what `matchGo` does with the first chunk; the recursive call on the rest (`R`) and the syntax check of the rest (`V`)
are left open, so that facts about one round are facts about variables -/
def goStep (R : Bytes → Option Bool) (V star : Bool) (chunk : Bytes) (last : Bool) (name : Bytes) : Option Bool :=
  if star && chunk.isEmpty then some (!name.contains SL) else
  match mc chunk name with
  | none => none
  | some (t, ok) =>
    if ok && (t.isEmpty || !last) then R t
    else if star then
      match starLoop (name.length + 1) chunk name last with
      | none => none
      | some (some t') => R t'
      | some none => if V then some false else none
    else if V then some false else none

theorem matchGo_succ (fuel : Nat) (p n : Bytes) (star : Bool) (chunk rest : Bytes) (hp : p ≠ [])
    (hsc : scanChunk p = (star, chunk, rest)) :
    matchGo (fuel+1) p n =
      goStep (matchGo fuel rest) (validateRest (rest.length + 1) rest) star chunk rest.isEmpty n := by
  have he : p.isEmpty = false := by cases p <;> simp at hp ⊢
  rw [matchGo]
  simp only [he, Bool.false_eq_true, if_false, hsc]
  rfl

/-- the right-hand side is the round of `greedy` -/
theorem goStep_consume (R : Bytes → Option Bool) (G : Bytes → Bool) (hR : ∀ t, R t = some (G t)) (star : Bool)
    (chunk : Bytes) (ci : List Item) (last : Bool) (name : Bytes)
    (hmc : ∀ s, mc chunk s = (match consume ci s with | some t => some (t, true) | none => some ([], false))) :
    goStep R true star chunk last name = some (
      if star && chunk.isEmpty then !name.contains SL else
      match consume ci name with
      | some t => if t.isEmpty || !last then G t else
          (if star then (match starLoopI ci name last with | some t' => G t' | none => false) else false)
      | none => (if star then (match starLoopI ci name last with | some t' => G t' | none => false) else false)) := by
  have hsl := starLoop_eq chunk ci hmc name (name.length + 1) last (Nat.lt_succ_self _)
  simp only [goStep, hmc name, hsl, hR, if_true]
  split
  · rfl
  · cases consume ci name with
    | some t =>
      simp only [Bool.true_and]
      split
      · rfl
      · cases star <;> cases starLoopI ci name last <;> rfl
    | none =>
      simp only [Bool.false_and, Bool.false_eq_true, if_false]
      cases star <;> cases starLoopI ci name last <;> rfl

/-! ## the whole function on patterns without `*` -/

theorem pathMatch_noStar (p n : Bytes) (h : noStar p = true) : pathMatch p n = specMatch p n := by
  unfold pathMatch specMatch items?
  cases p with
  | nil => simp [matchGo, parsePat, matchItems]
  | cons c r =>
    have hspec := matchChunk_spec ((c :: r).length + 1) (c :: r) ((c :: r).length + 2) (by omega) (by omega) h
    rw [matchGo_succ _ _ n false (c :: r) [] (List.cons_ne_nil c r) (scanChunk_noStar _ h)]
    show goStep _ true false (c :: r) true n = _
    cases hp : parsePat ((c :: r).length + 1) (c :: r) with
    | none =>
      rw [hp] at hspec
      have : mc (c :: r) n = none := hspec n false
      simp [goStep, this]
    | some its =>
      rw [hp] at hspec
      rw [goStep_consume _ List.isEmpty (fun t => by simp [matchGo]) false (c :: r) its true n (fun s => (hspec.2 s).2),
        Option.map_some, matchItems_consume its n hspec.1]
      cases consume its n with
      | none => rfl
      | some t => cases t <;> rfl

end Logrange.PathSpec

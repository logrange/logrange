import Logrange.Proofs.RdPaging
import Logrange.Proofs.RdIterFwd
/-!
Re-positioning a HELD one-source cursor (`crsr.ApplyState` with a position that differs from the cursor's own),
with the repair proposed for finding F22: after `applyStatePos` the wrapping iterators are made to forget what
they buffered (`SetBackward(true); SetBackward(false)`). Result: the cursor stands at the flat index of the
requested position with an empty fiterator cache — exactly like a fresh cursor built from that position.
-/
set_option linter.unusedSectionVars false
set_option linter.unusedVariables false
namespace Logrange.Rd

/-- `JIterator.SetPos` on a well-formed, synced forward iterator with a settled target position -/
theorem rs_setPos {j : Journal} {it : It} {p : Pos} (hs : Sorted j) (hwf : WF j it) (hb : it.bkwd = false)
    (hsy : Synced it) (hp : Settled j p) :
    WF j (setPos j it p) ∧ (setPos j it p).bkwd = false ∧ Synced (setPos j it p) ∧
    fIdx j (setPos j it p) = flatIdx j p := by
  obtain ⟨ch, hm, hid, hle⟩ := hp
  unfold setPos
  by_cases h0 : p.cid = it.cid ∧ p.idx = it.idx
  · rw [if_pos h0]
    refine ⟨hwf, hb, hsy, ?_⟩
    unfold fIdx; rw [effPos_eq_pos hwf hsy]
    cases p; cases it; simp only [It.pos] at *; simp_all
  · rw [if_neg h0]
    by_cases hc : p.cid ≠ it.cid
    · simp only [hc, ne_eq, not_false_eq_true, if_true]
      refine ⟨by unfold WF; trivial, hb, by unfold Synced; trivial, ?_⟩
      unfold fIdx effPos; cases p; rfl
    · have hc' : p.cid = it.cid := by simpa using hc
      simp only [hc, if_false]
      cases hci : it.ci with
      | none =>
        simp only
        refine ⟨by unfold WF; simp [hci], hb, by unfold Synced; simp [hci], ?_⟩
        unfold fIdx effPos; simp only [hci]; cases p; rfl
      | some c =>
        simp only
        unfold WF at hwf; rw [hci] at hwf
        obtain ⟨w1, w2, w3, w4, w5⟩ := hwf
        have hcnt : cntOf j c.chunk = ch.cnt := by
          rw [w1, ← hc', ← hid]; exact cntOf_mem hs hm
        -- the chunk iterator ends up exactly at p.idx
        obtain ⟨q1, q2, q3⟩ := ciSetPos_facts (j := j) (c := c) (p := p.idx) (by omega) (by rw [hcnt]; omega)
        refine ⟨?_, hb, ?_, ?_⟩
        · unfold WF; simp only
          refine ⟨by rw [q2, w1, hc'], by rw [q2]; exact w2, by rw [q1]; omega, by rw [q1, q2, hcnt]; omega, ?_⟩
          intro hcached; obtain ⟨hc1, hc2⟩ := q3 hcached; rw [q1, q2, ← hc2]; exact w5 hc1
        · unfold Synced; simp only; rw [q1]; exact ⟨by omega, by simp⟩
        · unfold fIdx effPos; simp only; rw [q1, q2, w1, ← hc']; simp

theorem rs_toggle (it : It) (hb : it.bkwd = false) : setBackward (setBackward it true) false = it := by
  cases it; simp only [setBackward] at *; simp_all

/-- the held cursor after `ApplyState` with the proposed repair stands where a fresh cursor from `p` stands -/
theorem rs_reposition {name : Nat} {j : Journal} {w : Bool} {c : Cur} {i : Nat} {p : Pos} (hs : Sorted j)
    (h : Abs name j w true c i) (hp : Settled j p) :
    Abs name j w true (curSetBackward (curSetBackward (applyStatePos c [(name, p)]) true) false) (flatIdx j p) := by
  obtain ⟨it, v, l, m, rfl, hst⟩ := h
  unfold St at hst
  obtain ⟨hwf, hb, _, _, hsy, _⟩ := hst
  obtain ⟨s1, s2, s3, s4⟩ := rs_setPos hs hwf hb (hsy rfl).1 hp
  rw [pg_applyStatePos, pg_curSetBackward, pg_curSetBackward, rs_toggle _ s2]
  refine ⟨setPos j it p, _, l, m, rfl, ?_⟩
  unfold St
  refine ⟨s1, s2, s4, ?_, ?_, (by intro h; cases h)⟩
  · intro hw hv; subst hw; simp at hv
  · intro _; exact ⟨s3, by intro hw hv; subst hw; simp at hv⟩

end Logrange.Rd

import Logrange.Model.TagsW
import Logrange.Proofs.KV
/-!
# Lemmas behind the C08 property theorems: `tagMap.line()` and `tag.Parse`
-/
namespace Logrange.Proofs.Tags
open Go Logrange.Quote Logrange.KV Logrange.Tags Logrange.Proofs.KV

/-! ## the sorted association list -/

theorem bytesLt_ne {a b : Bytes} (h : bytesLt a b = true) : a ≠ b := by
  intro e; subst e; rw [bytesLt_irrefl] at h; cases h

theorem bytesLt_of_not {a b : Bytes} (h1 : ¬ bytesLt a b = true) (h2 : a ≠ b) : bytesLt b a = true := by
  cases h : bytesLt b a with
  | true => rfl
  | false =>
    have : bytesLt a b = false := by simpa using h1
    exact absurd (bytesLt_connex a b this h) h2

theorem mem_insert (k v : Bytes) (m : Map) (q : Bytes × Bytes) (h : q ∈ Map.insert k v m) :
    q = (k, v) ∨ q ∈ m := by
  fun_induction Map.insert k v m with
  | case1 => simpa using h
  | case2 k' v' r h1 => simpa using h
  | case3 v' r h1 => rcases List.mem_cons.mp h with h | h <;> simp [h]
  | case4 k' v' r h1 h2 ih =>
    rcases List.mem_cons.mp h with h | h
    · simp [h]
    · exact (ih h).imp id (List.mem_cons_of_mem _)

theorem Map.insert_WF (k v : Bytes) (m : Map) (h : Map.WF m) : Map.WF (Map.insert k v m) := by
  unfold Map.WF at *
  fun_induction Map.insert k v m with
  | case1 => simp
  | case2 k' v' r h1 =>
    refine List.pairwise_cons.mpr ⟨fun b hb => ?_, h⟩
    rcases List.mem_cons.mp hb with rfl | hb
    · exact h1
    · exact bytesLt_trans _ _ _ h1 ((List.pairwise_cons.mp h).1 b hb)
  | case3 v' r h1 => exact List.pairwise_cons.mpr (List.pairwise_cons.mp h)
  | case4 k' v' r h1 h2 ih =>
    obtain ⟨hhd, htl⟩ := List.pairwise_cons.mp h
    refine List.pairwise_cons.mpr ⟨fun b hb => ?_, ih htl⟩
    rcases mem_insert k v r b hb with rfl | hb
    · exact bytesLt_of_not h1 h2
    · exact hhd b hb

theorem foldl_insert_WF (ps : List (Bytes × Bytes)) : ∀ (acc : Map), Map.WF acc →
    Map.WF (ps.foldl (fun m p => Map.insert p.1 p.2 m) acc) := by
  induction ps with
  | nil => intro acc h; exact h
  | cons p ps ih => intro acc h; exact ih _ (Map.insert_WF p.1 p.2 acc h)

theorem ofPairs_WF (ps : List (Bytes × Bytes)) : Map.WF (Map.ofPairs ps) :=
  foldl_insert_WF ps [] List.Pairwise.nil

theorem toMap_some (t : Bytes) (m : Map) (h : toMap t = some m) :
    ∃ fine, removeCurlyBraces t = some fine ∧ ((fine = [] ∧ m = []) ∨
      fine ≠ [] ∧ ∃ parts ps, splitString fine = some parts ∧ toPairs parts = some ps ∧ Map.ofPairs ps = m) := by
  unfold toMap at h
  cases hr : removeCurlyBraces t with
  | none => rw [hr] at h; cases h
  | some fine =>
    rw [hr] at h
    refine ⟨fine, rfl, ?_⟩
    cases fine with
    | nil => cases h; exact Or.inl ⟨rfl, rfl⟩
    | cons c f =>
      refine Or.inr ⟨List.cons_ne_nil _ _, ?_⟩
      simp only [List.isEmpty_cons, Bool.false_eq_true, if_false] at h
      cases hs : splitString (c :: f) with
      | none => rw [hs] at h; cases h
      | some parts =>
        rw [hs] at h
        simp only [] at h
        cases hp : toPairs parts with
        | none => rw [hp] at h; cases h
        | some ps => rw [hp] at h; exact ⟨parts, ps, rfl, hp, Option.some.inj h⟩

theorem toPairs_cons_some (k v : Bytes) (rest : List Bytes) (ps : List (Bytes × Bytes))
    (h : toPairs (k :: v :: rest) = some ps) :
    ∃ v' r, trimSpaces k ≠ [] ∧ decodeValue (trimSpaces v) = some v' ∧ toPairs rest = some r ∧
      ps = (trimSpaces k, v') :: r := by
  simp only [toPairs] at h
  split at h
  · cases h
  · rename_i hk
    cases hd : decodeValue (trimSpaces v) with
    | none => rw [hd] at h; cases h
    | some v' =>
      rw [hd] at h
      cases hr : toPairs rest with
      | none => rw [hr] at h; cases h
      | some r =>
        rw [hr] at h
        exact ⟨v', r, fun e => hk (by rw [e]; rfl), rfl, rfl, (Option.some.inj h).symm⟩
theorem toMap_WF (t : Bytes) (m : Map) (h : toMap t = some m) : Map.WF m := by
  obtain ⟨_, _, ⟨_, rfl⟩ | ⟨_, _, ps, _, _, rfl⟩⟩ := toMap_some t m h
  · exact List.Pairwise.nil
  · exact ofPairs_WF ps

theorem parse_WF (t : Bytes) (m : Map) (h : parse t = some m) : Map.WF m := by
  unfold parse at h
  split at h
  · cases h; exact List.Pairwise.nil
  · exact toMap_WF t m h

theorem foldl_snoc_of_sorted {ins : Map → Bytes × Bytes → Map}
    (hins : ∀ (acc : Map) (p : Bytes × Bytes), (∀ q ∈ acc, bytesLt q.1 p.1 = true) → ins acc p = acc ++ [p]) :
    ∀ (rest acc : Map), Map.WF (acc ++ rest) → rest.foldl ins acc = acc ++ rest
  | [], acc, _ => by simp
  | p :: rest, acc, h => by
    have hp : ∀ q ∈ acc, bytesLt q.1 p.1 = true := fun q hq =>
      (List.pairwise_append.mp h).2.2 q hq p List.mem_cons_self
    have e : acc ++ p :: rest = (acc ++ [p]) ++ rest := by simp
    rw [List.foldl_cons, hins acc p hp, e]
    exact foldl_snoc_of_sorted hins rest _ (e ▸ h)

theorem insert_last (acc : Map) (p : Bytes × Bytes) (h : ∀ q ∈ acc, bytesLt q.1 p.1 = true) :
    Map.insert p.1 p.2 acc = acc ++ [p] := by
  induction acc with
  | nil => rfl
  | cons q r ih =>
    have hk := h q List.mem_cons_self
    simp only [Map.insert, bytesLt_asymm _ _ hk, (bytesLt_ne hk).symm, if_false, Bool.false_eq_true, List.cons_append]
    rw [ih (fun q hq => h q (List.mem_cons_of_mem _ hq))]

theorem ofPairs_of_WF (m : Map) (h : Map.WF m) : Map.ofPairs m = m := by
  have := foldl_snoc_of_sorted insert_last m [] (by simpa using h)
  simpa [Map.ofPairs] using this

/-! ## `sort.SearchStrings` insertion -/

theorem insertSorted_last (acc : Map) (p : Bytes × Bytes)
    (h : ∀ q ∈ acc, bytesLt q.1 p.1 = true) : insertSorted p acc = acc ++ [p] := by
  induction acc with
  | nil => rfl
  | cons q r ih =>
    simp only [insertSorted, h q List.mem_cons_self, if_true, List.cons_append]
    rw [ih (fun q hq => h q (List.mem_cons_of_mem _ hq))]

theorem sortEntries_of_WF (m : Map) (h : Map.WF m) : sortEntries m = m := by
  have := foldl_snoc_of_sorted (ins := fun acc p => insertSorted p acc) insertSorted_last m [] (by simpa using h)
  simpa [sortEntries] using this

theorem line_of_WF (m : Map) (h : Map.WF m) : line m = joinItems (m.map (item encTag)) := by
  unfold line lineOf
  rw [sortEntries_of_WF m h]

theorem insertSorted_perm (p : Bytes × Bytes) (l : List (Bytes × Bytes)) : (insertSorted p l).Perm (p :: l) := by
  fun_induction insertSorted p l with
  | case1 => exact List.Perm.refl _
  | case2 q r h ih => exact (List.Perm.cons q ih).trans (List.Perm.swap p q r)
  | case3 q r h => exact List.Perm.refl _

theorem insertSorted_sorted (p : Bytes × Bytes) (l : List (Bytes × Bytes)) (hs : Map.WF l)
    (hn : ∀ q ∈ l, q.1 ≠ p.1) : Map.WF (insertSorted p l) := by
  unfold Map.WF at *
  fun_induction insertSorted p l with
  | case1 => simp
  | case2 q r h ih =>
    obtain ⟨hhd, htl⟩ := List.pairwise_cons.mp hs
    refine List.pairwise_cons.mpr ⟨fun b hb => ?_, ih htl (fun x hx => hn x (List.mem_cons_of_mem _ hx))⟩
    rcases List.mem_cons.mp ((insertSorted_perm p r).mem_iff.mp hb) with rfl | hb
    · exact h
    · exact hhd b hb
  | case3 q r h =>
    have hpq : bytesLt p.1 q.1 = true := bytesLt_of_not h (hn q List.mem_cons_self)
    refine List.pairwise_cons.mpr ⟨fun b hb => ?_, hs⟩
    rcases List.mem_cons.mp hb with rfl | hb
    · exact hpq
    · exact bytesLt_trans _ _ _ hpq ((List.pairwise_cons.mp hs).1 b hb)
theorem foldl_insertSorted_sorted_perm (rest : List (Bytes × Bytes)) : ∀ (acc : List (Bytes × Bytes)),
    Map.WF acc → ((acc ++ rest).map (·.1)).Nodup →
    Map.WF (rest.foldl (fun acc p => insertSorted p acc) acc) ∧
      (rest.foldl (fun acc p => insertSorted p acc) acc).Perm (acc ++ rest) := by
  induction rest with
  | nil => intro acc h _; simpa using h
  | cons p rest ih =>
    intro acc hs hn
    simp only [List.foldl_cons]
    have hperm : (insertSorted p acc ++ rest).Perm (acc ++ p :: rest) :=
      ((insertSorted_perm p acc).append_right rest).trans List.perm_middle.symm
    have hne : ∀ q ∈ acc, q.1 ≠ p.1 := by
      intro q hq e
      rw [List.map_append, List.map_cons] at hn
      have := (List.nodup_append.mp hn).2.2 q.1 (List.mem_map_of_mem hq) p.1 List.mem_cons_self
      exact this e
    have hn' : ((insertSorted p acc ++ rest).map (·.1)).Nodup := (hperm.map _).nodup_iff.mpr hn
    obtain ⟨h1, h2⟩ := ih (insertSorted p acc) (insertSorted_sorted p acc hs hne) hn'
    exact ⟨h1, h2.trans hperm⟩

theorem sortEntries_sorted_perm (order : List (Bytes × Bytes)) (hn : (order.map (·.1)).Nodup) :
    (sortEntries order).Pairwise (fun a b => bytesLt a.1 b.1 = true) ∧ (sortEntries order).Perm order := by
  have := foldl_insertSorted_sorted_perm order [] List.Pairwise.nil (by simpa using hn)
  simpa [sortEntries, Map.WF] using this

theorem line_deterministic (o1 o2 : List (Bytes × Bytes)) (hp : o1.Perm o2) (hn : (o1.map (·.1)).Nodup) :
    lineOf o1 = lineOf o2 := by
  have hn2 : (o2.map (·.1)).Nodup := (hp.map _).nodup_iff.mp hn
  obtain ⟨s1, p1⟩ := sortEntries_sorted_perm o1 hn
  obtain ⟨s2, p2⟩ := sortEntries_sorted_perm o2 hn2
  have hperm : (sortEntries o1).Perm (sortEntries o2) := (p1.trans hp).trans p2.symm
  have : sortEntries o1 = sortEntries o2 :=
    List.Perm.eq_of_pairwise (le := fun a b => bytesLt a.1 b.1 = true)
      (fun a b _ _ h1 h2 => by rw [bytesLt_asymm _ _ h1] at h2; cases h2) s1 s2 hperm
  unfold lineOf
  rw [this]

theorem EQ_ne_DQ : (EQ == DQ) = false := by decide
theorem EQ_ne_BS : (EQ == BS) = false := by decide
theorem CM_ne_DQ : (CM == DQ) = false := by decide
theorem CM_ne_BS : (CM == BS) = false := by decide
theorem CM_ne_EQ : (CM == EQ) = false := by decide

/-- an inert key followed by `=` is cut off as one piece -/
theorem split_key (p rest : Bytes) (o : List Bytes) (h : scan p false = some false) :
    splitGo (p ++ EQ :: rest) { inStr := false, expKV := true, cur := [], out := o } =
      splitGo rest { inStr := false, expKV := false, cur := [], out := p :: o } := by
  have := split_inert p false false (EQ :: rest) { inStr := false, expKV := true, cur := [], out := o } h
  simp only [List.append_nil] at this
  rw [this, splitGo.eq_def]
  simp [EQ_ne_DQ, EQ_ne_BS]

/-- an inert value followed by `,` is cut off as one piece -/
theorem split_val (p rest : Bytes) (o : List Bytes) (h : scan p false = some false) :
    splitGo (p ++ CM :: rest) { inStr := false, expKV := false, cur := [], out := o } =
      splitGo rest { inStr := false, expKV := true, cur := [], out := p :: o } := by
  have := split_inert p false false (CM :: rest) { inStr := false, expKV := false, cur := [], out := o } h
  simp only [List.append_nil] at this
  rw [this, splitGo.eq_def]
  simp [CM_ne_DQ, CM_ne_BS, CM_ne_EQ]

/-- an inert piece at the end of the input is the last piece -/
theorem split_end (p : Bytes) (e : Bool) (o : List Bytes) (h : scan p false = some false) :
    splitGo p { inStr := false, expKV := e, cur := [], out := o } = some ((p :: o).reverse) := by
  have := split_inert p false false [] { inStr := false, expKV := e, cur := [], out := o } h
  simp only [List.append_nil] at this
  rw [this, splitGo.eq_def]
  simp

theorem split_items (enc : Bytes → Bytes) : ∀ (m : List (Bytes × Bytes)) (o : List Bytes), m ≠ [] →
    (∀ p ∈ m, scan p.1 false = some false ∧ scan (enc p.2) false = some false) →
    splitGo (joinItems (m.map (item enc))) { inStr := false, expKV := true, cur := [], out := o } =
      some (o.reverse ++ m.flatMap (fun p => [p.1, enc p.2])) := by
  intro m
  induction m with
  | nil => intro o h; exact absurd rfl h
  | cons p r ih =>
    intro o _ hin
    obtain ⟨hk, hv⟩ := hin p List.mem_cons_self
    cases r with
    | nil =>
      simp only [List.map_cons, List.map_nil, joinItems, item]
      rw [split_key _ _ _ hk, split_end _ _ _ hv]
      simp
    | cons q r' =>
      have e : joinItems ((p :: q :: r').map (item enc)) =
          p.1 ++ EQ :: (enc p.2 ++ CM :: joinItems ((q :: r').map (item enc))) := by
        simp [joinItems, item]
      rw [e, split_key _ _ _ hk, split_val _ _ _ hv,
        ih _ (by simp) (fun x hx => hin x (List.mem_cons_of_mem _ hx))]
      simp

theorem toPairs_items (enc : Bytes → Bytes) : ∀ (m : List (Bytes × Bytes)),
    (∀ p ∈ m, p.1 ≠ [] ∧ trimSpaces p.1 = p.1 ∧ trimSpaces (enc p.2) = enc p.2 ∧
      decodeValue (enc p.2) = some p.2) →
    toPairs (m.flatMap (fun p => [p.1, enc p.2])) = some m := by
  intro m
  induction m with
  | nil => intro _; rfl
  | cons p r ih =>
    intro h
    obtain ⟨h1, h2, h3, h4⟩ := h p List.mem_cons_self
    have ih' := ih (fun x hx => h x (List.mem_cons_of_mem _ hx))
    simp only [List.flatMap_cons, List.cons_append, List.nil_append, toPairs, h2, h3, h4, ih']
    simp [h1]

theorem dropWhile_SP_of_head (l : Bytes) (h : l.head? ≠ some SP) : l.dropWhile (· == SP) = l := by
  cases l with
  | nil => rfl
  | cons c r =>
    have : c ≠ SP := by simpa using h
    simp [this]

theorem trimSpaces_of_trimmed (p : Bytes) (h : trimmed p = true) : trimSpaces p = p := by
  unfold trimmed at h
  simp only [Bool.and_eq_true, bne_iff_ne, ne_eq] at h
  unfold trimSpaces
  rw [dropWhile_SP_of_head p h.1,
    dropWhile_SP_of_head p.reverse (by rw [List.head?_reverse]; exact h.2), List.reverse_reverse]

/-- `RemoveCurlyBraces` leaves alone a text that starts with neither a blank nor `{` and ends with neither a
blank nor `}` (and has at least two bytes) -/
theorem removeCurlyBraces_id (c : UInt8) (tl : Bytes) (y : UInt8) (h1 : c ≠ SP) (h2 : c ≠ LB)
    (hl : tl.getLast? = some y) (h3 : y ≠ SP) (h4 : y ≠ RB) :
    removeCurlyBraces (c :: tl) = some (c :: tl) := by
  obtain ⟨d, rfl⟩ := List.getLast?_eq_some_iff.mp hl
  unfold removeCurlyBraces
  simp [leadScan, trailScan, h1, h2, h3, h4]

theorem joinItems_cons_shape (enc : Bytes → Bytes) (p : Bytes × Bytes) (r : List (Bytes × Bytes)) :
    ∃ Y, joinItems ((p :: r).map (item enc)) = p.1 ++ EQ :: Y := by
  cases r with
  | nil => exact ⟨enc p.2, by simp [joinItems, item]⟩
  | cons q r' => exact ⟨enc p.2 ++ CM :: joinItems ((q :: r').map (item enc)), by simp [joinItems, item]⟩

theorem joinItems_getLast_last (enc : Bytes → Bytes) : ∀ (m : List (Bytes × Bytes)), m ≠ [] →
    (∀ p ∈ m, enc p.2 ≠ []) →
    ∃ p, m.getLast? = some p ∧ (joinItems (m.map (item enc))).getLast? = (enc p.2).getLast? := by
  intro m
  induction m with
  | nil => intro h; exact absurd rfl h
  | cons p r ih =>
    intro _ hin
    cases r with
    | nil =>
      refine ⟨p, rfl, ?_⟩
      have hne := hin p List.mem_cons_self
      simp [joinItems, item, List.getLast?_append, List.getLast?_cons]
      cases h : (enc p.2).getLast? with
      | none => simp at h; exact absurd h hne
      | some y => simp
    | cons q r' =>
      obtain ⟨x, hx, hy⟩ := ih (by simp) (fun x hx => hin x (List.mem_cons_of_mem _ hx))
      refine ⟨x, by simpa [List.getLast?_cons_cons] using hx, ?_⟩
      have e : joinItems ((p :: q :: r').map (item enc)) =
          item enc p ++ CM :: joinItems ((q :: r').map (item enc)) := by
        simp [joinItems]
      have hne : enc x.2 ≠ [] := by
        have : x ∈ q :: r' := List.mem_of_getLast? hx
        exact hin x (List.mem_cons_of_mem _ this)
      rw [e, List.getLast?_append, List.getLast?_cons, hy]
      cases h : (enc x.2).getLast? with
      | none => simp at h; exact absurd h hne
      | some y => simp

/-! `safe` asks of every pair what `safeW` asks of the first name and of the last value only. -/

theorem safePair_eq (p : Bytes × Bytes) : safePair p =
    (okPair p && (p.1.head? != some LB) && (needsQuote p.2 || p.2.getLast? != some RB)) := by
  show (okKey p.1 && (p.1.head? != some LB) && (needsQuote p.2 || (okRaw p.2 && (p.2.getLast? != some RB)))) =
    (okKey p.1 && (needsQuote p.2 || okRaw p.2) && (p.1.head? != some LB) && (needsQuote p.2 || p.2.getLast? != some RB))
  rw [Bool.or_and_distrib_left]
  ac_rfl

theorem safe_imp_safeW (m : Map) (hs : safe m = true) : safeW m = true := by
  have hp : ∀ x ∈ m, okPair x = true ∧ (x.1.head? != some LB) = true ∧
      (needsQuote x.2 || x.2.getLast? != some RB) = true := by
    intro x hx
    have h := List.all_eq_true.mp hs x hx
    rw [safePair_eq, Bool.and_eq_true, Bool.and_eq_true] at h
    exact ⟨h.1.1, h.1.2, h.2⟩
  unfold safeW
  rw [Bool.and_eq_true, Bool.and_eq_true]
  refine ⟨⟨List.all_eq_true.mpr (fun x hx => (hp x hx).1), ?_⟩, ?_⟩
  · unfold firstOK
    cases hm : m.head? with
    | none => rfl
    | some p => exact (hp p (List.mem_of_head? hm)).2.1
  · unfold lastOK
    cases hm : m.getLast? with
    | none => rfl
    | some p => exact (hp p (List.mem_of_getLast? hm)).2.2

theorem encTag_ok (hq : QuoteContract) (v : Bytes) (h : (needsQuote v || okRaw v) = true) :
    trimmed (encTag v) = true ∧ scan (encTag v) false = some false ∧
      (∃ y, (encTag v).getLast? = some y ∧ y ≠ SP ∧ (y = RB → needsQuote v = false ∧ v.getLast? = some RB)) ∧
      decodeValue (encTag v) = some v := by
  unfold encTag
  by_cases hn : needsQuote v = true
  · simp only [hn, if_true]
    obtain ⟨body, hshape, _⟩ := hq.shape v
    have hin := inert_quote hq v
    have hu := hq.unquote_quote v
    unfold inert at hin
    rw [hshape] at hin hu ⊢
    simp only [List.cons_append] at hin hu ⊢
    refine ⟨?_, by simpa using hin, ⟨DQ, ?_, by decide, ?_⟩, ?_⟩
    · simp [trimmed, List.getLast?_cons]
      decide
    · simp [List.getLast?_cons]
    · intro e; exact absurd e (by decide)
    · simp [decodeValue, hu]
  · have hs : okRaw v = true := by simpa [hn] using h
    simp only [hn, Bool.false_eq_true, if_false]
    unfold okRaw at hs
    simp only [Bool.and_eq_true, bne_iff_ne, ne_eq, Bool.not_eq_true'] at hs
    obtain ⟨⟨⟨⟨h1, h2⟩, h3⟩, h4⟩, h5⟩ := hs
    refine ⟨h2, by simpa [inert] using h3, ?_, ?_⟩
    · cases hl : v.getLast? with
      | none => simp at hl; simp [hl] at h1
      | some y =>
        refine ⟨y, rfl, ?_, ?_⟩
        · intro e; subst e
          simp [trimmed, hl] at h2
        · intro e; subst e; exact ⟨by simp, rfl⟩
    · cases v with
      | nil => rfl
      | cons c r =>
        have c1 : c ≠ DQ := by simpa using h4
        have c2 : c ≠ BQ := by simpa using h5
        simp [decodeValue, c1, c2]

theorem encTag_good (hq : QuoteContract) (v : Bytes) (h : (needsQuote v || safeRaw v) = true) :
    trimmed (encTag v) = true ∧ scan (encTag v) false = some false ∧
      (∃ y, (encTag v).getLast? = some y ∧ (y ≠ SP ∧ y ≠ RB)) ∧ decodeValue (encTag v) = some v := by
  have hs : (needsQuote v || (okRaw v && (v.getLast? != some RB))) = true := h
  rw [Bool.or_and_distrib_left, Bool.and_eq_true] at hs
  obtain ⟨h1, h2, ⟨y, hy, hsp, hrb⟩, h4⟩ := encTag_ok hq v hs.1
  refine ⟨h1, h2, ⟨y, hy, hsp, fun e => ?_⟩, h4⟩
  obtain ⟨hn, hl⟩ := hrb e
  simp [hn, hl] at hs

/-- `RemoveCurlyBraces` only looks at the two ends of the line, so only the first name is asked not to start with `{`, only
the last raw value not to end with `}` -/
theorem roundtrip_safeW (hq : QuoteContract) (m : Map) (hwf : Map.WF m) (hs : safeW m = true) :
    parse (line m) = some m := by
  rw [line_of_WF m hwf]
  cases m with
  | nil => rfl
  | cons p r =>
    unfold safeW at hs
    simp only [Bool.and_eq_true] at hs
    obtain ⟨⟨hallB, hfirst⟩, hlast⟩ := hs
    have hall : ∀ x ∈ p :: r, okKey x.1 = true ∧ (needsQuote x.2 || okRaw x.2) = true := by
      intro x hx
      have := List.all_eq_true.mp hallB x hx
      simpa [okPair] using this
    have hkey : ∀ x ∈ p :: r, x.1 ≠ [] ∧ trimmed x.1 = true ∧ scan x.1 false = some false := by
      intro x hx
      have := (hall x hx).1
      unfold okKey at this
      simp only [Bool.and_eq_true, Bool.not_eq_true'] at this
      obtain ⟨⟨h1, h2⟩, h3⟩ := this
      exact ⟨by intro e; simp [e] at h1, h2, by simpa [inert] using h3⟩
    have hval := fun x hx => encTag_ok hq x.2 (hall x hx).2
    have hsplit := split_items encTag (p :: r) [] (by simp)
      (fun x hx => ⟨(hkey x hx).2.2, (hval x hx).2.1⟩)
    have hpairs := toPairs_items encTag (p :: r)
      (fun x hx => ⟨(hkey x hx).1, trimSpaces_of_trimmed _ (hkey x hx).2.1,
        trimSpaces_of_trimmed _ (hval x hx).1, (hval x hx).2.2.2⟩)
    obtain ⟨z, hz, hzl⟩ := joinItems_getLast_last encTag (p :: r) (by simp)
      (fun x hx => by
        obtain ⟨y, hy, _⟩ := (hval x hx).2.2.1
        intro e; rw [e] at hy; simp at hy)
    have hzm : z ∈ p :: r := List.mem_of_getLast? hz
    obtain ⟨y, hy, hy1, hyR⟩ := (hval z hzm).2.2.1
    have hy2 : y ≠ RB := by
      intro e
      obtain ⟨hnq, hvl⟩ := hyR e
      unfold lastOK at hlast
      rw [hz] at hlast
      simp [hnq, hvl] at hlast
    rw [← hzl] at hy
    obtain ⟨Y, hY⟩ := joinItems_cons_shape encTag p r
    obtain ⟨hk1, hk2, _⟩ := hkey p List.mem_cons_self
    have hk4 : p.1.head? ≠ some LB := by
      unfold firstOK at hfirst
      simpa using hfirst
    obtain ⟨c, k', hck⟩ : ∃ c k', p.1 = c :: k' := by
      cases h : p.1 with
      | nil => exact absurd h hk1
      | cons c k' => exact ⟨c, k', rfl⟩
    have hL : joinItems ((p :: r).map (item encTag)) = c :: (k' ++ EQ :: Y) := by rw [hY, hck]; rfl
    have hc1 : c ≠ SP := by
      unfold trimmed at hk2; rw [hck] at hk2
      simp only [Bool.and_eq_true, bne_iff_ne, ne_eq] at hk2
      simpa using hk2.1
    have hc2 : c ≠ LB := by rw [hck] at hk4; simpa using hk4
    generalize joinItems ((p :: r).map (item encTag)) = L at *
    subst hL
    have hlast' : (k' ++ EQ :: Y).getLast? = some y := by
      have e : (c :: (k' ++ EQ :: Y)).getLast? = (k' ++ EQ :: Y).getLast? := by
        cases k' <;> simp
      rw [← e]; exact hy
    have hrcb := removeCurlyBraces_id c (k' ++ EQ :: Y) y hc1 hc2 hlast' hy1 hy2
    simp only [parse, toMap, splitString, hrcb, hsplit, List.reverse_nil, List.nil_append, hpairs,
      ofPairs_of_WF _ hwf, List.isEmpty_cons, Bool.false_eq_true, if_false]

theorem roundtrip_core (hq : QuoteContract) (m : Map) (hwf : Map.WF m) (hs : safe m = true) :
    parse (line m) = some m :=
  roundtrip_safeW hq m hwf (safe_imp_safeW m hs)

theorem line_injective (hq : QuoteContract) (m1 m2 : Map) (h1 : Map.WF m1) (h2 : Map.WF m2)
    (s1 : safe m1 = true) (s2 : safe m2 = true) (h : line m1 = line m2) : m1 = m2 := by
  have e1 := roundtrip_core hq m1 h1 s1
  have e2 := roundtrip_core hq m2 h2 s2
  rw [h, e2] at e1
  exact (Option.some.inj e1).symm

end Logrange.Proofs.Tags

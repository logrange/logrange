import Logrange.Model.ScanWorker
/-! Invariants of the scanner worker LTS. The nested matches of `step` are taken apart once (`step_sound`, into the
relation `Step`); every invariant is proved by cases on `Step` and carried along traces by `run_inv`. -/
namespace Logrange.ScanWorker
open Logrange.LineReader

@[simp] theorem bytesOf_nil : bytesOf [] = 0 := rfl
@[simp] theorem bytesOf_append (a b : List Bytes) : bytesOf (a ++ b) = bytesOf a + bytesOf b := by
  simp [bytesOf]
@[simp] theorem bytesOf_single (l : Bytes) : bytesOf [l] = l.length := by simp [bytesOf]

inductive Step (c : Cfg) (s : S) : L → S → Prop
  | stopOnEOF : Step c s .stopOnEOF
      (if s.wstate = .running then { s with wstate := .untilEof, eofSeen := false } else s)
  | cancel : Step c s .cancel { s with cancelled := true }
  | persist : Step c s .persist
      { s with persisted := s.offset, confAtPersist := confEnd s, persistInWindow := isSetting s.pc }
  | finalPersist : (s.cancelled && (!c.finalAfterWorkers || s.pc == .done)) = true → Step c s .finalPersist
      { s with persisted := s.offset, confAtPersist := confEnd s, persistInWindow := isSetting s.pc }
  | exit : s.pc = .top → s.cancelled = true → Step c s .step (finish s false)
  | sample : s.pc = .top → s.cancelled = false →
      Step c s .step { s with pc := .sampled (c.sampleBefore && s.wstate == .untilEof) }
  | sleep {u eof err} : s.pc = .got u eof err → (eof || s.recs.length == c.recsPerEvent) = true → s.recs = [] →
      Step c s .step { s with pc := .sleeping u eof }
  | flush {u eof err} : s.pc = .got u eof err → (eof || s.recs.length == c.recsPerEvent) = true → s.recs ≠ [] →
      Step c s .step { s with pc := .sending u eof }
  | collect {u eof err} : s.pc = .got u eof err → (eof || s.recs.length == c.recsPerEvent) = false →
      Step c s .step { s with pc := .tail u eof (!err) }
  | dropUnsent {u eof} : s.pc = .sending u eof → s.cancelled = true →
      Step c s .step { s with pc := .tail u eof false, recs := [], dropped := true }
  | dropUnconfirmed {u eof} : s.pc = .confirming u eof → s.cancelled = true →
      Step c s .step { s with pc := .tail u eof true, recs := [], dropped := true }
  | stopEof {u eof errNil} : s.pc = .tail u eof errNil →
      (eof && (if c.sampleBefore then u else s.wstate == .untilEof) && errNil) = true → Step c s .step (finish s true)
  | stopErr {u eof} : s.pc = .tail u eof false → Step c s .step (finish s false)
  | loop {u eof} : s.pc = .tail u eof true → Step c s .step { s with pc := .top }
  | record {u} (l : Bytes) : s.pc = .sampled u → Step c s (.next (.record l))
      { s with pc := .got u false false, recs := s.recs ++ [l], pos := s.pos + l.length, readLog := s.readLog ++ [l] }
  | eof {u} : s.pc = .sampled u → Step c s (.next .eof)
      { s with pc := .got u true false, eofSeen := s.eofSeen || s.wstate == .untilEof }
  | err {u} : s.pc = .sampled u → Step c s (.next .err) { s with pc := .got u false true }
  | send {u eof} : s.pc = .sending u eof → Step c s .send { s with pc := .confirming u eof }
  | confirm {u eof} : s.pc = .confirming u eof → Step c s .confirm
      { s with pc := .setting u eof, confirmed := s.confirmed ++ s.recs, ends := s.ends ++ [s.pos] }
  | setOffset {u eof} : s.pc = .setting u eof → Step c s .setOffset
      { s with pc := .tail u eof true, offset := s.pos, recs := [] }
  | wake {u eof} : s.pc = .sleeping u eof → Step c s .wake { s with pc := .tail u eof true }

theorem step_sound {c : Cfg} {s s' : S} {l : L} (h : step c s l = some s') : Step c s l s' := by
  cases l with
  | stopOnEOF => obtain rfl := Option.some.inj h; exact .stopOnEOF
  | cancel => obtain rfl := Option.some.inj h; exact .cancel
  | persist => obtain rfl := Option.some.inj h; exact .persist
  | finalPersist =>
    simp only [step] at h
    split at h
    · next hc => obtain rfl := Option.some.inj h; exact .finalPersist hc
    · cases h
  | step =>
    simp only [step] at h
    split at h
    · next hpc =>
      split at h
      · next hc => obtain rfl := Option.some.inj h; exact .exit hpc hc
      · next hc => obtain rfl := Option.some.inj h; exact .sample hpc (by simpa using hc)
    · next u eof err hpc =>
      split at h
      · next hf =>
        split at h
        · next he => obtain rfl := Option.some.inj h; exact .sleep hpc hf (by simpa using he)
        · next he => obtain rfl := Option.some.inj h; exact .flush hpc hf (by simpa using he)
      · next hf => obtain rfl := Option.some.inj h; exact .collect hpc (by simpa using hf)
    · next u eof hpc =>
      split at h
      · next hc => obtain rfl := Option.some.inj h; exact .dropUnsent hpc hc
      · cases h
    · next u eof hpc =>
      split at h
      · next hc => obtain rfl := Option.some.inj h; exact .dropUnconfirmed hpc hc
      · cases h
    · next u eof errNil hpc =>
      by_cases hc : (eof && (if c.sampleBefore then u else s.wstate == .untilEof) && errNil) = true
      · rw [if_pos hc] at h; obtain rfl := Option.some.inj h; exact .stopEof hpc hc
      · rw [if_neg hc] at h
        cases errNil with
        | false => obtain rfl := Option.some.inj h; exact .stopErr hpc
        | true => obtain rfl := Option.some.inj h; exact .loop hpc
    · cases h
  | next r =>
    simp only [step] at h
    split at h
    · next u hpc =>
      cases r with
      | record l => obtain rfl := Option.some.inj h; exact .record l hpc
      | eof => obtain rfl := Option.some.inj h; exact .eof hpc
      | err => obtain rfl := Option.some.inj h; exact .err hpc
    · cases h
  | send =>
    simp only [step] at h
    split at h
    · next u eof hpc => obtain rfl := Option.some.inj h; exact .send hpc
    · cases h
  | confirm =>
    simp only [step] at h
    split at h
    · next u eof hpc => obtain rfl := Option.some.inj h; exact .confirm hpc
    · cases h
  | setOffset =>
    simp only [step] at h
    split at h
    · next u eof hpc => obtain rfl := Option.some.inj h; exact .setOffset hpc
    · cases h
  | wake =>
    simp only [step] at h
    split at h
    · next u eof hpc => obtain rfl := Option.some.inj h; exact .wake hpc
    · cases h

theorem run_inv (c : Cfg) {P : S → Prop} (hP : ∀ {s s' l}, Step c s l s' → P s → P s') :
    ∀ (tr : List L) (s : S), P s → P (run c s tr)
  | [], _, h => h
  | l :: ls, s, h => by
    simp only [run]
    cases hs : step c s l with
    | none => exact run_inv c hP ls s h
    | some s' => exact run_inv c hP ls s' (hP (step_sound hs) h)

theorem run_append (c : Cfg) : ∀ (a b : List L) (s : S), run c s (a ++ b) = run c (run c s a) b
  | [], b, s => rfl
  | l :: ls, b, s => by
    simp only [List.cons_append, run]
    cases step c s l with
    | none => exact run_append c ls b s
    | some s' => exact run_append c ls b s'

/-- is the program counter one of those a worker that dropped a batch can be at? -/
def afterDrop : Pc → Bool
  | .top => true
  | .done => true
  | .tail _ _ _ => true
  | _ => false

/-- The accounting invariant. `idle` speaks of the states outside the window between a confirm rendez-vous and its
`setOffset`, `window` of those inside it: the batch is confirmed already, the offset has not moved over it yet. -/
structure WInv (s : S) : Prop where
  posEq : s.dropped = false → s.pos = s.offset + bytesOf s.recs
  idle : isSetting s.pc = false →
    s.offset = confEnd s ∧ (s.dropped = false → s.readLog = s.confirmed ++ s.recs)
  window : isSetting s.pc = true →
    s.pos ∈ s.ends ∧ s.dropped = false ∧ s.offset + bytesOf s.recs = confEnd s ∧ s.readLog = s.confirmed
  offMem : s.offset ∈ s.start :: s.ends
  perMem : s.persisted ∈ s.start :: s.ends
  perLe : s.persisted ≤ s.offset
  endsOk : ∀ e ∈ s.ends, ∃ k, k ≤ s.confirmed.length ∧ e = s.start + bytesOf (s.confirmed.take k)
  pre : s.confirmed <+: s.readLog
  dropOk : s.dropped = true → s.cancelled = true ∧ afterDrop s.pc = true
  noRace : s.persistInWindow = false → s.persisted = s.confAtPersist
  confMono : s.confAtPersist ≤ confEnd s

theorem winv_init (start : Nat) : WInv (init start) := by
  constructor <;> simp [init, confEnd, isSetting]

theorem WInv.offLe {s : S} (h : WInv s) : s.offset ≤ confEnd s := by
  cases hs : isSetting s.pc with
  | false => exact Nat.le_of_eq (h.idle hs).1
  | true => exact Nat.le.intro (h.window hs).2.2.1

theorem WInv.goto {s : S} (h : WInv s) (pc : Pc) (w : WState) (e b : Bool)
    (hs : isSetting s.pc = false) (hs' : isSetting pc = false) (hd : s.dropped = true → afterDrop pc = true) :
    WInv { s with pc := pc, wstate := w, eofSeen := e, stoppedByEof := b } :=
  { h with
    idle := fun _ => h.idle hs
    window := fun x => nomatch hs'.symm.trans x
    dropOk := fun x => ⟨(h.dropOk x).1, hd x⟩ }

theorem WInv.notDropped {s : S} (h : WInv s) (hp : afterDrop s.pc = false) : s.dropped = false := by
  cases hd : s.dropped with
  | false => rfl
  | true => have := (h.dropOk hd).2; rw [hp] at this; cases this

theorem WInv.persist {s : S} (h : WInv s) :
    WInv { s with persisted := s.offset, confAtPersist := confEnd s, persistInWindow := isSetting s.pc } :=
  { h with
    perMem := h.offMem
    perLe := Nat.le_refl _
    noRace := fun hw => (h.idle hw).1
    confMono := Nat.le_refl _ }

theorem WInv.drop {s : S} (h : WInv s) (u eof e : Bool) (hs : isSetting s.pc = false) (hc : s.cancelled = true) :
    WInv { s with pc := .tail u eof e, recs := [], dropped := true } :=
  { h with
    posEq := fun x => nomatch x
    idle := fun _ => ⟨(h.idle hs).1, fun x => nomatch x⟩
    window := fun x => nomatch x
    dropOk := fun _ => ⟨hc, rfl⟩ }

theorem winv_step {c : Cfg} {s s' : S} {l : L} (hst : Step c s l s') (h : WInv s) : WInv s' := by
  cases hst with
  | stopOnEOF => split; exact { h with }; exact h
  | cancel => exact { h with dropOk := fun hd => ⟨rfl, (h.dropOk hd).2⟩ }
  | persist => exact h.persist
  | finalPersist => exact h.persist
  | exit hpc _ => exact h.goto _ _ _ _ (by rw [hpc]; rfl) rfl (fun _ => rfl)
  | sample hpc hc =>
    refine h.goto _ _ _ _ (by rw [hpc]; rfl) rfl (fun hd => ?_)
    rw [(h.dropOk hd).1] at hc; cases hc
  | sleep hpc | flush hpc | collect hpc | eof hpc | err hpc | send hpc =>
    refine h.goto _ _ _ _ (by rw [hpc]; rfl) rfl (fun hd => ?_)
    rw [h.notDropped (by rw [hpc]; rfl)] at hd; cases hd
  | dropUnsent hpc hc => exact h.drop _ _ _ (by rw [hpc]; rfl) hc
  | dropUnconfirmed hpc hc => exact h.drop _ _ _ (by rw [hpc]; rfl) hc
  | stopEof hpc | stopErr hpc | loop hpc | wake hpc =>
    exact h.goto _ _ _ _ (by rw [hpc]; rfl) rfl (fun _ => rfl)
  | record ln hpc =>
    have hnd := h.notDropped (by rw [hpc]; rfl)
    obtain ⟨i1, i2⟩ := h.idle (by rw [hpc]; rfl)
    exact { h with
      posEq := fun _ => by
        show s.pos + ln.length = s.offset + bytesOf (s.recs ++ [ln])
        rw [bytesOf_append, bytesOf_single, ← Nat.add_assoc, ← h.posEq hnd]
      idle := fun _ => ⟨i1, fun _ => by
        show s.readLog ++ [ln] = s.confirmed ++ (s.recs ++ [ln])
        rw [← List.append_assoc, ← i2 hnd]⟩
      window := fun x => nomatch x
      pre := h.pre.trans (List.prefix_append _ _)
      dropOk := fun hd => nomatch hnd.symm.trans hd }
  | confirm hpc =>
    have hnd := h.notDropped (by rw [hpc]; rfl)
    obtain ⟨i1, i2⟩ := h.idle (by rw [hpc]; rfl)
    -- the new confirmed end is the parser position
    have hce : s.start + bytesOf (s.confirmed ++ s.recs) = s.pos := by
      rw [bytesOf_append, ← Nat.add_assoc, h.posEq hnd, i1]; rfl
    exact { h with
      idle := fun x => nomatch x
      window := fun _ => ⟨List.mem_append_right _ (List.mem_singleton.2 rfl), hnd, (h.posEq hnd).symm.trans hce.symm, i2 hnd⟩
      offMem := List.mem_cons.2 ((List.mem_cons.1 h.offMem).imp id (List.mem_append_left _))
      perMem := List.mem_cons.2 ((List.mem_cons.1 h.perMem).imp id (List.mem_append_left _))
      endsOk := fun e he => by
        rcases List.mem_append.1 he with he | he
        · obtain ⟨k, hk, hek⟩ := h.endsOk e he
          refine ⟨k, by rw [List.length_append]; exact Nat.le_add_right_of_le hk, ?_⟩
          show e = s.start + bytesOf ((s.confirmed ++ s.recs).take k)
          rw [List.take_append_of_le_length hk]; exact hek
        · refine ⟨(s.confirmed ++ s.recs).length, Nat.le_refl _, ?_⟩
          show e = s.start + bytesOf ((s.confirmed ++ s.recs).take _)
          rw [List.take_length, List.mem_singleton.1 he, hce]
      pre := by show s.confirmed ++ s.recs <+: s.readLog; rw [i2 hnd]; exact List.prefix_refl _
      dropOk := fun hd => nomatch hnd.symm.trans hd
      confMono := by
        show s.confAtPersist ≤ s.start + bytesOf (s.confirmed ++ s.recs)
        rw [bytesOf_append, ← Nat.add_assoc]; exact Nat.le_add_right_of_le h.confMono }
  | setOffset hpc =>
    obtain ⟨c1, hnd, w3, w4⟩ := h.window (by rw [hpc]; rfl)
    have b1 := h.posEq hnd
    exact { h with
      posEq := fun _ => rfl
      idle := fun _ => ⟨b1.trans w3, fun _ => by rw [List.append_nil]; exact w4⟩
      window := fun x => nomatch x
      offMem := List.mem_cons_of_mem _ c1
      perLe := by
        show s.persisted ≤ s.pos
        rw [b1]; exact Nat.le_add_right_of_le h.perLe
      dropOk := fun hd => nomatch hnd.symm.trans hd }

theorem winv_run (c : Cfg) : ∀ (tr : List L) (s : S), WInv s → WInv (run c s tr) :=
  run_inv c winv_step

theorem Step.grow {c : Cfg} {s s' : S} {l : L} (hst : Step c s l s') :
    s'.start = s.start ∧ (∃ x, s'.confirmed = s.confirmed ++ x) ∧
      (s'.ends = s.ends ∨ s'.ends = s.ends ++ [s.pos]) := by
  cases hst with
  | confirm => exact ⟨rfl, ⟨_, rfl⟩, Or.inr rfl⟩
  | stopOnEOF => split <;> exact ⟨rfl, ⟨[], (List.append_nil _).symm⟩, Or.inl rfl⟩
  | _ => exact ⟨rfl, ⟨[], (List.append_nil _).symm⟩, Or.inl rfl⟩

theorem run_start (c : Cfg) (tr : List L) (s : S) : (run c s tr).start = s.start :=
  run_inv c (P := fun t => t.start = s.start) (fun hst h => hst.grow.1.trans h) tr s rfl

/-! ## rotation: run-until-EOF -/

def pcU : Pc → Bool
  | .sampled u => u
  | .got u _ _ => u
  | .sending u _ => u
  | .confirming u _ => u
  | .setting u _ => u
  | .sleeping u _ => u
  | .tail u _ _ => u
  | _ => false

def pcEof : Pc → Bool
  | .got _ e _ => e
  | .sending _ e => e
  | .confirming _ e => e
  | .setting _ e => e
  | .sleeping _ e => e
  | .tail _ e _ => e
  | _ => false

structure RInv (s : S) : Prop where
  uState : pcU s.pc = true → s.wstate = .untilEof
  uEof : pcU s.pc = true → pcEof s.pc = true → s.eofSeen = true
  stopped : s.stoppedByEof = true → s.eofSeen = true ∧ s.wstate = .stopped

theorem rinv_init (start : Nat) : RInv (init start) := by
  constructor <;> simp [init, pcU, pcEof]

theorem rinv_step {c : Cfg} (hc : c.sampleBefore = true) {s s' : S} {l : L} (hst : Step c s l s') (h : RInv s) :
    RInv s' := by
  obtain ⟨r1, r2, r3⟩ := h
  cases hst with
  | stopOnEOF =>
    split
    · next hw =>
      exact ⟨fun _ => rfl, fun hu => (by rw [r1 hu] at hw; cases hw), fun hs => (by rw [(r3 hs).2] at hw; cases hw)⟩
    · exact ⟨r1, r2, r3⟩
  | cancel | persist | finalPersist => exact ⟨r1, r2, r3⟩
  | exit | stopErr => exact ⟨nofun, nofun, fun hs => ⟨(r3 (by simpa [finish] using hs)).1, rfl⟩⟩
  | sample => exact ⟨fun hu => (by simpa [pcU, hc] using hu), nofun, r3⟩
  | sleep hpc | flush hpc | collect hpc | dropUnsent hpc | dropUnconfirmed hpc | send hpc | confirm hpc
  | setOffset hpc | wake hpc =>
    rw [hpc] at r1 r2; exact ⟨r1, r2, r3⟩
  | record _ hpc | err hpc => rw [hpc] at r1; exact ⟨r1, fun _ x => (nomatch x), r3⟩
  | eof hpc =>
    rw [hpc] at r1
    exact ⟨r1, fun hu _ => (by simp [r1 hu]), fun hs => (by simp [r3 hs])⟩
  | stopEof hpc hcond =>
    rw [hpc] at r2
    simp only [hc, if_true, Bool.and_eq_true] at hcond
    exact ⟨nofun, nofun, fun _ => ⟨r2 hcond.1.2 hcond.1.1, rfl⟩⟩
  | loop => exact ⟨nofun, nofun, r3⟩

theorem rinv_run (c : Cfg) (hc : c.sampleBefore = true) : ∀ (tr : List L) (s : S), RInv s → RInv (run c s tr) :=
  run_inv c (rinv_step hc)

end Logrange.ScanWorker

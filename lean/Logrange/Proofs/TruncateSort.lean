import Logrange.Proofs.Truncate
import Logrange.Proofs.Registry
/-! The sorted insertion of `Service.Truncate` (after fix cac5c5d): `sortedInfos` is sorted by (latest timestamp
descending, source id ascending) and does not depend on the visiting order. -/
namespace Logrange.Truncate

/-- `a` comes strictly before `b` in `sortedInfos`: later latest timestamp, or the same and a smaller source id -/
def Before (a b : Info) : Prop := b.latestTs < a.latestTs ∨ (b.latestTs = a.latestTs ∧ a.src < b.src)

def SortedInfos (l : List Info) : Prop := l.Pairwise Before

theorem notBefore_iff (si ti : Info) : notBefore si ti = true ↔ ¬ Before si ti := by
  unfold notBefore Before
  simp only [Bool.or_eq_true, Bool.and_eq_true, decide_eq_true_eq, beq_iff_eq]
  omega

theorem notBefore_false_iff (si ti : Info) : notBefore si ti = false ↔ Before si ti := by
  rw [← Bool.not_eq_true, notBefore_iff]; exact Classical.not_not

theorem Before.trans {a b c : Info} (h1 : Before a b) (h2 : Before b c) : Before a c := by
  unfold Before at *; omega

theorem Before.asymm {a b : Info} (h1 : Before a b) (h2 : Before b a) : False := by
  unfold Before at *; omega

theorem Before.total {a b : Info} (h : a.src ≠ b.src) (hn : ¬ Before a b) : Before b a := by
  unfold Before at *; omega

/-- the index `sort.Search` finds splits a sorted list into the entries before `ti` and the entries after it -/
theorem insert_split (infos : List Info) (ti : Info) (hs : SortedInfos infos) :
    let idx := Registry.sortSearch infos.length (fun i => notBefore (infos.getD i default) ti)
    idx ≤ infos.length ∧ (∀ a ∈ infos.take idx, Before a ti) ∧ (∀ b ∈ infos.drop idx, ¬ Before b ti) := by
  intro idx
  have hmono : ∀ a b, a ≤ b → b < infos.length →
      notBefore (infos.getD a default) ti = true → notBefore (infos.getD b default) ti = true := by
    intro a b hab hb ha
    rw [notBefore_iff] at ha ⊢
    intro hbt
    rcases Nat.lt_or_ge a b with hlt | hge
    · have ha' : a < infos.length := by omega
      have hab' : Before infos[a] infos[b] := (List.pairwise_iff_getElem.mp hs) a b ha' hb hlt
      apply ha
      have e1 : infos.getD a default = infos[a] := by simp [List.getD_eq_getElem?_getD, List.getElem?_eq_getElem ha']
      have e2 : infos.getD b default = infos[b] := by simp [List.getD_eq_getElem?_getD, List.getElem?_eq_getElem hb]
      rw [e1]; rw [e2] at hbt
      exact hab'.trans hbt
    · have : a = b := by omega
      subst this; exact ha hbt
  obtain ⟨h1, h2, h3⟩ := Registry.sortSearch_spec (fun i => notBefore (infos.getD i default) ti) infos.length hmono
  refine ⟨h1, ?_, ?_⟩
  · intro a ha
    obtain ⟨j, hj, rfl⟩ := List.mem_take_iff_getElem.mp ha
    have hj' : j < infos.length := by omega
    have := h2 j (by omega)
    rw [notBefore_false_iff] at this
    simpa [List.getD_eq_getElem?_getD, List.getElem?_eq_getElem hj'] using this
  · intro b hb
    obtain ⟨j, hj, rfl⟩ := List.mem_drop_iff_getElem.mp hb
    have hj' : idx + j < infos.length := by omega
    have := h3 (idx + j) (by omega) hj'
    rw [notBefore_iff] at this
    simpa [List.getD_eq_getElem?_getD, List.getElem?_eq_getElem hj'] using this

/-- **The insertion keeps `sortedInfos` sorted** (new source id) and adds exactly the new entry. -/
theorem insert_sorted (infos : List Info) (ti : Info) (hs : SortedInfos infos)
    (hnew : ∀ a ∈ infos, a.src ≠ ti.src) :
    SortedInfos (insertInfo infos ti) ∧ (insertInfo infos ti).Perm (ti :: infos) := by
  obtain ⟨hle, hbefore, hafter⟩ := insert_split infos ti hs
  unfold insertInfo
  simp only []
  generalize Registry.sortSearch infos.length (fun i => notBefore (infos.getD i default) ti) = idx at *
  refine ⟨?_, ?_⟩
  · unfold SortedInfos
    rw [List.pairwise_append]
    refine ⟨List.Pairwise.sublist (List.take_sublist _ _) hs, ?_, ?_⟩
    · rw [List.pairwise_cons]
      refine ⟨?_, List.Pairwise.sublist (List.drop_sublist _ _) hs⟩
      intro b hb
      exact Before.total (hnew b (List.mem_of_mem_drop hb)) (hafter b hb)
    · intro a ha b hb
      rcases List.mem_cons.mp hb with rfl | hb
      · exact hbefore a ha
      · exact (hbefore a ha).trans (Before.total (hnew b (List.mem_of_mem_drop hb)) (hafter b hb))
  · have : (infos.take idx ++ ti :: infos.drop idx).Perm (ti :: (infos.take idx ++ infos.drop idx)) := List.perm_middle
    rw [List.take_append_drop] at this
    exact this

def sortInfos (l : List Info) : List Info := l.foldl insertInfo []

theorem foldl_insert_sorted : ∀ (l acc : List Info), SortedInfos acc → ((acc ++ l).map (·.src)).Nodup →
    SortedInfos (l.foldl insertInfo acc) ∧ (l.foldl insertInfo acc).Perm (acc ++ l) := by
  intro l
  induction l with
  | nil => intro acc hs _; simpa using hs
  | cons ti rest ih =>
    intro acc hs hnd
    have hnew : ∀ a ∈ acc, a.src ≠ ti.src := by
      intro a ha e
      rw [List.map_append, List.map_cons] at hnd
      have := (List.nodup_append.mp hnd).2.2 a.src (List.mem_map_of_mem ha) ti.src (by simp)
      exact this e
    obtain ⟨s1, p1⟩ := insert_sorted acc ti hs hnew
    have hnd' : ((insertInfo acc ti ++ rest).map (·.src)).Nodup := by
      have hp : ((insertInfo acc ti ++ rest).map (·.src)).Perm ((acc ++ ti :: rest).map (·.src)) := by
        apply List.Perm.map
        exact (List.Perm.append_right rest p1).trans (List.perm_middle.symm)
      exact hp.nodup_iff.mpr hnd
    obtain ⟨s2, p2⟩ := ih (insertInfo acc ti) s1 hnd'
    refine ⟨s2, ?_⟩
    simp only [List.foldl_cons]
    exact p2.trans ((List.Perm.append_right rest p1).trans (List.perm_middle.symm))

/-- **`insert_perm_invariant`: `sortedInfos` is the same list for every visiting order** — inserting the same
entries (distinct source ids) in any two orders gives the same sorted list. -/
theorem insert_perm_invariant (l1 l2 : List Info) (hp : l1.Perm l2) (hnd : (l1.map (·.src)).Nodup) :
    sortInfos l1 = sortInfos l2 ∧ SortedInfos (sortInfos l1) ∧ (sortInfos l1).Perm l1 := by
  have hnd2 : (l2.map (·.src)).Nodup := (hp.map _).nodup_iff.mp hnd
  obtain ⟨s1, p1⟩ := foldl_insert_sorted l1 [] List.Pairwise.nil (by simpa using hnd)
  obtain ⟨s2, p2⟩ := foldl_insert_sorted l2 [] List.Pairwise.nil (by simpa using hnd2)
  simp only [List.nil_append] at p1 p2
  refine ⟨?_, s1, p1⟩
  exact List.Perm.eq_of_pairwise (le := Before) (fun a b _ _ h1 h2 => (h1.asymm h2).elim) s1 s2
    (p1.trans (hp.trans p2.symm))

end Logrange.Truncate

import Logrange.Model.PartHist
import Logrange.Proofs.RebuildHist
import Logrange.Proofs.WriteLoopHull
import Logrange.Proofs.PartScan
/-!
# C02 — a partition's chunk index over a history of `Service.Write` calls: every chunk has complete windows

For every history of `Write` calls (`PartHist.runCalls`) whose records are monotone non-decreasing in stored order,
every chunk of the resulting partition satisfies `RebuildHist.SoundL` w.r.t. its own records — although the hull a call
reports after rolling over into a new chunk is the hull of the WHOLE call so far (`RebuildHist.RollHull`: over-wide
minimum on a chunk's first notification). Hence every chunk's selector window is complete and the ranged read of the
whole partition equals the filtered full read.
-/
namespace Logrange.PartHist
open Logrange Logrange.Points Logrange.ChunkHist Logrange.RebuildHist Logrange.WriteLoop

/-- the timestamp function of a chunk holding the records `l` -/
def tsOfList (l : List Int) : Nat → Int := fun q => l.getD q 0

/-- all records of a partition in stored order -/
def flat (p : List PChunk) : List Int := (p.map (·.tss)).flatten

/-- all records of the pieces of one call in stored order -/
def flatL (pieces : List Piece) : List Int := (pieces.map (·.l)).flatten

/-! ## 1. `tsOfList` and congruence of `SoundL` -/

theorem tsOfList_lt {l : List Int} {q : Nat} (h : q < l.length) : tsOfList l q = l[q] := by
  simp [tsOfList, h]

theorem tsOfList_mem {l : List Int} {q : Nat} (h : q < l.length) : tsOfList l q ∈ l := by
  rw [tsOfList_lt h]; exact List.getElem_mem h

theorem tsOfList_append_left (a l : List Int) {q : Nat} (h : q < a.length) : tsOfList (a ++ l) q = tsOfList a q := by
  simp [tsOfList, List.getElem?_append_left h]

theorem tsOfList_append_right (a l : List Int) (i : Nat) : tsOfList (a ++ l) (a.length + i) = tsOfList l i := by
  simp [tsOfList, List.getElem?_append_right]

/-- `SoundL` only talks about the positions `< c.n` -/
theorem soundL_congr {tsOf tsOf' : Nat → Int} {c : ChunkIdx} (hs : SoundL tsOf c)
    (he : ∀ q, q < c.n → tsOf q = tsOf' q) : SoundL tsOf' c := by
  refine ⟨hs.hullSome, ?_, ?_, ?_, hs.idxLe⟩
  · intro h hh
    obtain ⟨h1, h2⟩ := hs.hullOk h hh
    refine ⟨?_, h2⟩
    intro p hp
    rw [← he p hp]; exact h1 p hp
  · intro hc
    obtain ⟨h1, h2⟩ := hs.lookup hc
    constructor
    · intro p hp q hq hqn
      rw [← he q hqn]; exact h1 p hp q hq hqn
    · intro p hp q hq hqn
      rw [← he q hqn]; exact h2 p hp q hq hqn
  · intro hc p hp
    obtain ⟨q, hq, hle⟩ := hs.attained hc p hp
    exact ⟨q, hq, by rw [← he q hq]; exact hle⟩

/-! ## 3. the `iwrapper` of a call after the records `m` -/

theorem iw_default_flags : ({} : IW).sMin = false ∧ ({} : IW).sMax = false ∧ ({} : IW).seen = false := by
  refine ⟨?_, ?_, rfl⟩
  · show Generated.C02.iwrapperMinZeroSentinel = false; decide
  · show Generated.C02.iwrapperMaxZeroSentinel = false; decide

/-- a fresh `iwrapper` after the non-empty records `m` holds their exact hull -/
theorem iw_hull (m : List Int) (hm : m ≠ []) :
    (∀ x ∈ m, (m.foldl IW.see {}).minTs ≤ x ∧ x ≤ (m.foldl IW.see {}).maxTs) ∧
      (m.foldl IW.see {}).minTs ∈ m ∧ (m.foldl IW.see {}).maxTs ∈ m := by
  cases m with
  | nil => exact absurd rfl hm
  | cons t rest =>
    exact hull_exact_of_flags {} iw_default_flags.1 iw_default_flags.2.1 iw_default_flags.2.2 t rest

/-- on a sorted call the maximum is the last record … -/
theorem iw_max_sorted (m : List Int) (hm : m ≠ []) (hs : m.Pairwise (· ≤ ·)) :
    (m.foldl IW.see {}).maxTs = m.getLast hm := by
  obtain ⟨hb, _, hmax⟩ := iw_hull m hm
  have h1 := (hb _ (List.getLast_mem hm)).2
  have h2 : (m.foldl IW.see {}).maxTs ≤ m.getLast hm := by
    obtain ⟨i, hi, e⟩ := List.getElem_of_mem hmax
    rw [← e, List.getLast_eq_getElem]
    by_cases hlt : i < m.length - 1
    · exact (List.pairwise_iff_getElem.mp hs) i (m.length - 1) hi (by omega) hlt
    · have : i = m.length - 1 := by omega
      subst this; exact Int.le_refl _
  omega

/-- … and the minimum is the first one -/
theorem iw_min_sorted (m : List Int) (hm : m ≠ []) (hs : m.Pairwise (· ≤ ·)) :
    (m.foldl IW.see {}).minTs = m.head hm := by
  obtain ⟨hb, hmin, _⟩ := iw_hull m hm
  have h1 := (hb _ (List.head_mem hm)).1
  have h2 : m.head hm ≤ (m.foldl IW.see {}).minTs := by
    obtain ⟨i, hi, e⟩ := List.getElem_of_mem hmin
    rw [← e, ← List.getElem_zero (by omega : 0 < m.length)]
    by_cases hlt : 0 < i
    · exact (List.pairwise_iff_getElem.mp hs) 0 i (by omega) hi hlt
    · have : i = 0 := by omega
      subst this; exact Int.le_refl _
  omega

/-! ## 5. sorted records are `Monotone` -/

theorem monotone_of_sorted (m : List Int) (hs : m.Pairwise (· ≤ ·)) : Monotone (tsOfList m) m.length := by
  intro i j hij hj
  rw [tsOfList_lt (by omega : i < m.length), tsOfList_lt hj]
  by_cases hlt : i < j
  · exact (List.pairwise_iff_getElem.mp hs) i j (by omega) hj hlt
  · have : i = j := by omega
    subst this; exact Int.le_refl _

/-! ## 4. the notification of a piece carries a `RollHull` -/

/-- the piece `l` of a call whose earlier records are `pre`, appended to a chunk holding `base`: the call's running hull
is a `RollHull` for the piece — provided the chunk is new (`base = []`) or the piece is the first of its call -/
theorem rollHull_piece (pre base l : List Int) (hl : l ≠ []) (hs : (pre ++ l).Pairwise (· ≤ ·))
    (hlow : ∀ t ∈ pre ++ l, minI64 ≤ t) (h3 : base = [] ∨ pre = []) :
    RollHull (tsOfList (base ++ l)) base.length l.length ((pre ++ l).foldl IW.see {}).minTs
      ((pre ++ l).foldl IW.see {}).maxTs := by
  have hne : pre ++ l ≠ [] := by simp [hl]
  obtain ⟨hb, hmin, hmax⟩ := iw_hull (pre ++ l) hne
  have hpos : 0 < l.length := List.length_pos_iff.mpr hl
  refine ⟨?_, ?_, ?_, hlow _ hmin⟩
  · intro q h1 h2
    have e : q = base.length + (q - base.length) := by omega
    rw [e, tsOfList_append_right]
    exact hb _ (List.mem_append_right _ (tsOfList_mem (by omega)))
  · rcases List.mem_append.mp hmax with hm | hm
    · -- the maximum stems from an earlier piece: every record of this piece equals it
      refine ⟨base.length, Nat.le_refl _, by omega, ?_⟩
      have e := tsOfList_append_right base l 0
      rw [Nat.add_zero] at e
      rw [e]
      have hin : tsOfList l 0 ∈ l := tsOfList_mem hpos
      have h1 := (hb _ (List.mem_append_right _ hin)).2
      have h2 := (List.pairwise_append.mp hs).2.2 _ hm _ hin
      omega
    · obtain ⟨i, hi, e⟩ := List.getElem_of_mem hm
      refine ⟨base.length + i, by omega, by omega, ?_⟩
      rw [tsOfList_append_right, tsOfList_lt hi, e]
  · rcases h3 with h | h
    · left; rw [h]; rfl
    · right
      rw [h, List.nil_append] at hmin
      obtain ⟨i, hi, e⟩ := List.getElem_of_mem hmin
      refine ⟨base.length + i, by omega, by omega, ?_⟩
      rw [tsOfList_append_right, tsOfList_lt hi, e, h, List.nil_append]

/-! ## 2./6. the invariant of a partition and its preservation by one piece -/

/-- the chunk's index state counts its records and is `SoundL` w.r.t. them -/
def ChunkInv (c : PChunk) : Prop := c.idx.n = c.tss.length ∧ SoundL (tsOfList c.tss) c.idx

def PartInv (p : List PChunk) : Prop := ∀ c ∈ p, ChunkInv c

theorem chunkInv_empty : ChunkInv {} := ⟨rfl, soundL_init _⟩

theorem flat_concat (front : List PChunk) (c : PChunk) : flat (front ++ [c]) = flat front ++ c.tss := by
  simp [flat]

/-- one notification of a chunk: the piece `l` of a call whose earlier records are `pre` -/
theorem chunk_step (sparse bigGap : Nat) (cur : PChunk) (pre l : List Int) (hc : ChunkInv cur) (hl : l ≠ [])
    (hs1 : (pre ++ l).Pairwise (· ≤ ·)) (hs2 : (cur.tss ++ l).Pairwise (· ≤ ·)) (hlow : ∀ t ∈ pre ++ l, minI64 ≤ t)
    (h3 : cur.tss = [] ∨ pre = []) :
    ChunkInv { idx := onWrite sparse bigGap cur.idx l.length ((pre ++ l).foldl IW.see {}).minTs
                 ((pre ++ l).foldl IW.see {}).maxTs, tss := cur.tss ++ l } := by
  obtain ⟨hn, hs⟩ := hc
  constructor
  · show (onWrite sparse bigGap cur.idx l.length _ _).n = (cur.tss ++ l).length
    rw [onWrite_n, hn, List.length_append]
  · show SoundL (tsOfList (cur.tss ++ l)) (onWrite sparse bigGap cur.idx l.length _ _)
    have hs' : SoundL (tsOfList (cur.tss ++ l)) cur.idx :=
      soundL_congr hs (fun q hq => (tsOfList_append_left _ _ (by omega)).symm)
    apply onWrite_preservesL sparse bigGap l.length _ _ hs' (List.length_pos_iff.mpr hl)
    · rw [hn, ← List.length_append]; exact monotone_of_sorted _ hs2
    · rw [hn]; exact rollHull_piece pre cur.tss l hl hs1 hlow h3

/-- **one piece preserves the invariant**: `pre` = the records of the call's earlier pieces (a suffix of the partition's
records), the partition's records followed by the piece are sorted and ≥ MinInt64, and a piece that continues the last
chunk is the first of its call -/
theorem applyPiece_inv (sparse bigGap : Nat) (p : List PChunk) (pre : List Int) (pc : Piece)
    (hinv : PartInv p) (hsuf : ∃ u, flat p = u ++ pre) (hl : pc.l ≠ [])
    (hs : (flat p ++ pc.l).Pairwise (· ≤ ·)) (hlow : ∀ t ∈ flat p ++ pc.l, minI64 ≤ t)
    (hnc : pc.newChunk = false → pre = [] ∧ p ≠ []) :
    PartInv (applyPiece sparse bigGap (p, pre.foldl IW.see {}) pc).1 ∧
      flat (applyPiece sparse bigGap (p, pre.foldl IW.see {}) pc).1 = flat p ++ pc.l ∧
      (applyPiece sparse bigGap (p, pre.foldl IW.see {}) pc).2 = (pre ++ pc.l).foldl IW.see {} := by
  obtain ⟨u, hu⟩ := hsuf
  have hs1 : (pre ++ pc.l).Pairwise (· ≤ ·) := by
    rw [hu, List.append_assoc] at hs
    exact (List.pairwise_append.mp hs).2.1
  have hlow1 : ∀ t ∈ pre ++ pc.l, minI64 ≤ t := by
    intro t ht
    apply hlow; rw [hu, List.append_assoc]; exact List.mem_append_right _ ht
  have hiw : pc.l.foldl IW.see (pre.foldl IW.see {}) = (pre ++ pc.l).foldl IW.see {} := List.foldl_append.symm
  cases hb : pc.newChunk with
  | true =>
    have hstep := chunk_step sparse bigGap {} pre pc.l chunkInv_empty hl hs1
      (by show ([] ++ pc.l).Pairwise (· ≤ ·); rw [List.nil_append]; exact (List.pairwise_append.mp hs).2.1) hlow1
      (Or.inl rfl)
    simp only [applyPiece, hb, hiw, if_true]
    refine ⟨?_, ?_, trivial⟩
    · intro c hc
      rcases List.mem_append.mp hc with h | h
      · exact hinv c h
      · rw [List.mem_singleton] at h; rw [h]; exact hstep
    · rw [flat_concat]; rfl
  | false =>
    obtain ⟨hpre, hp⟩ := hnc hb
    obtain ⟨front, cur, e⟩ : ∃ front cur, p = front ++ [cur] :=
      ⟨p.dropLast, p.getLast hp, (List.dropLast_concat_getLast hp).symm⟩
    subst e
    have hcur : ChunkInv cur := hinv cur (by simp)
    rw [flat_concat, List.append_assoc] at hs
    have hstep := chunk_step sparse bigGap cur pre pc.l hcur hl hs1 (List.pairwise_append.mp hs).2.1 hlow1 (Or.inr hpre)
    simp only [applyPiece, hb, hiw, List.dropLast_concat, List.getLast?_concat, Option.getD_some, Bool.false_eq_true,
      if_false]
    refine ⟨?_, ?_, trivial⟩
    · intro c hc
      rcases List.mem_append.mp hc with h | h
      · exact hinv c (List.mem_append_left _ h)
      · rw [List.mem_singleton] at h; rw [h]; exact hstep
    · rw [flat_concat, flat_concat, List.append_assoc]

/-! ## the pieces of one call, the calls of a history -/

theorem flatL_cons (pc : Piece) (rest : List Piece) : flatL (pc :: rest) = pc.l ++ flatL rest := by
  simp [flatL]

theorem allTs_cons (c : List Piece) (r : List (List Piece)) : allTs (c :: r) = flatL c ++ allTs r := by
  simp [allTs, flatL]

theorem callOK_of_all_new (p : List PChunk) {pieces : List Piece} (h : ∀ q ∈ pieces, q.l ≠ [] ∧ q.newChunk = true) :
    CallOK p pieces := by
  cases pieces with
  | nil => trivial
  | cons pc rest =>
    obtain ⟨hl, hnew⟩ := h pc List.mem_cons_self
    exact ⟨hl, fun hf => by rw [hnew] at hf; exact Bool.noConfusion hf, fun q hq => h q (List.mem_cons_of_mem _ hq)⟩

/-- the pieces of a call from any point on: `pre` = the records of the pieces already applied (none when the next piece may
still continue the last chunk) -/
theorem pieces_inv (sparse bigGap : Nat) : ∀ (pieces : List Piece) (p : List PChunk) (pre : List Int),
    PartInv p → (∃ u, flat p = u ++ pre) → (flat p ++ flatL pieces).Pairwise (· ≤ ·) →
    (∀ t ∈ flat p ++ flatL pieces, minI64 ≤ t) → CallOK p pieces → (∀ pc ∈ pieces.head?, pc.newChunk = false → pre = []) →
    PartInv (pieces.foldl (applyPiece sparse bigGap) (p, pre.foldl IW.see {})).1 ∧
      flat (pieces.foldl (applyPiece sparse bigGap) (p, pre.foldl IW.see {})).1 = flat p ++ flatL pieces := by
  intro pieces
  induction pieces with
  | nil => intro p pre hinv _ _ _ _ _; exact ⟨hinv, by simp [flatL]⟩
  | cons pc rest ih =>
    intro p pre hinv hsuf hs hlow hok hpre
    rw [flatL_cons, ← List.append_assoc] at hs hlow
    obtain ⟨hl, hp, hrest⟩ := hok
    obtain ⟨h1, h2, h3⟩ := applyPiece_inv sparse bigGap p pre pc hinv hsuf hl (List.pairwise_append.mp hs).1
      (fun t ht => hlow t (List.mem_append_left _ ht)) (fun h => ⟨hpre pc rfl h, hp h⟩)
    have e : applyPiece sparse bigGap (p, pre.foldl IW.see {}) pc =
        ((applyPiece sparse bigGap (p, pre.foldl IW.see {}) pc).1, (pre ++ pc.l).foldl IW.see {}) := Prod.ext rfl h3
    rw [List.foldl_cons, e]
    obtain ⟨u, hu⟩ := hsuf
    have := ih _ (pre ++ pc.l) h1 ⟨u, by rw [h2, hu, List.append_assoc]⟩ (by rw [h2]; exact hs) (by rw [h2]; exact hlow)
      (callOK_of_all_new _ hrest) (fun q hq hf => by
        rw [(hrest q (List.mem_of_mem_head? hq)).2] at hf; exact Bool.noConfusion hf)
    refine ⟨this.1, ?_⟩
    rw [this.2, h2, flatL_cons, List.append_assoc]

/-- **one `Service.Write` call preserves the invariant** and stores its records in order behind the partition's -/
theorem writeCall_inv (sparse bigGap : Nat) (p : List PChunk) (pieces : List Piece) (hinv : PartInv p)
    (hs : (flat p ++ flatL pieces).Pairwise (· ≤ ·)) (hlow : ∀ t ∈ flat p ++ flatL pieces, minI64 ≤ t)
    (hok : CallOK p pieces) :
    PartInv (writeCall sparse bigGap p pieces) ∧ flat (writeCall sparse bigGap p pieces) = flat p ++ flatL pieces :=
  pieces_inv sparse bigGap pieces p [] hinv ⟨flat p, (List.append_nil _).symm⟩ hs hlow hok (fun _ _ _ => rfl)

/-- every call of the history is `CallOK` w.r.t. the partition it is applied to -/
def CallsOK (sparse bigGap : Nat) : List PChunk → List (List Piece) → Prop
  | _, [] => True
  | p, c :: r => CallOK p c ∧ CallsOK sparse bigGap (writeCall sparse bigGap p c) r

theorem calls_inv (sparse bigGap : Nat) : ∀ (calls : List (List Piece)) (p : List PChunk), PartInv p →
    (flat p ++ allTs calls).Pairwise (· ≤ ·) → (∀ t ∈ flat p ++ allTs calls, minI64 ≤ t) →
    CallsOK sparse bigGap p calls →
    PartInv (calls.foldl (writeCall sparse bigGap) p) ∧
      flat (calls.foldl (writeCall sparse bigGap) p) = flat p ++ allTs calls := by
  intro calls
  induction calls with
  | nil => intro p hinv _ _ _; exact ⟨hinv, by simp [allTs]⟩
  | cons c r ih =>
    intro p hinv hs hlow hok
    rw [allTs_cons, ← List.append_assoc] at hs hlow
    obtain ⟨h1, h2⟩ := writeCall_inv sparse bigGap p c hinv (List.pairwise_append.mp hs).1
      (fun t ht => hlow t (List.mem_append_left _ ht)) hok.1
    have := ih _ h1 (by rw [h2]; exact hs) (by rw [h2]; exact hlow) hok.2
    rw [List.foldl_cons]
    refine ⟨this.1, ?_⟩
    rw [this.2, h2, allTs_cons, List.append_assoc]

/-- **the invariant after a monotone history** -/
theorem runCalls_inv (sparse bigGap : Nat) (calls : List (List Piece)) (hok : CallsOK sparse bigGap [] calls)
    (hsorted : (allTs calls).Pairwise (· ≤ ·)) (hlow : ∀ t ∈ allTs calls, minI64 ≤ t) :
    PartInv (runCalls sparse bigGap calls) :=
  (calls_inv sparse bigGap calls [] (fun c hc => by simp at hc) (by simpa [flat] using hsorted)
    (by simpa [flat] using hlow) hok).1

/-- **the records are stored in order and nothing is lost** -/
theorem allTs_eq (sparse bigGap : Nat) (calls : List (List Piece)) (hok : CallsOK sparse bigGap [] calls)
    (hsorted : (allTs calls).Pairwise (· ≤ ·)) (hlow : ∀ t ∈ allTs calls, minI64 ≤ t) :
    ((runCalls sparse bigGap calls).map (·.tss)).flatten = allTs calls := by
  have := (calls_inv sparse bigGap calls [] (fun c hc => by simp at hc) (by simpa [flat] using hsorted)
    (by simpa [flat] using hlow) hok).2
  simpa [flat, runCalls] using this

/-! ## 7. complete windows, the ranged read -/

/-- what the time index knows about a chunk of the partition (the selector's view) -/
def metaOf (c : PChunk) : PartScan.ChunkMeta :=
  { n := c.tss.length, hull := c.idx.hull.getD ⟨0, 0⟩, idx := idxOf c.idx }

/-- the timestamps of a partition: chunk `k`, position `q` -/
def partTs (p : List PChunk) : Nat → Nat → Int := fun k => tsOfList ((p.map (·.tss)).getD k [])

theorem windowComplete_of_chunkInv (c : PChunk) (hc : ChunkInv c) (hn : c.tss.length ≤ maxU32) :
    PartScan.WindowComplete (tsOfList c.tss) (metaOf c) := by
  obtain ⟨hlen, hs⟩ := hc
  intro r q hq hr
  have hq' : q < c.tss.length := hq
  obtain ⟨h, hh, hsound, hmin⟩ := hs.hull_pos (by omega)
  have ehull : (metaOf c).hull = h := by simp [metaOf, hh]
  rw [ehull]
  show inWindow (window h (idxOf c.idx) r) q
  apply window_complete_of_lookup (tsOf := tsOfList c.tss) (n := c.idx.n) h _ r hsound ?_ (by omega) hmin q (by omega) hr
  intro pts hpts
  obtain ⟨hcor, e⟩ := idxOf_eq_some hpts
  rw [← e]; exact hs.lookup hcor

theorem allComplete_of_forall (ts : Nat → Nat → Int) : ∀ (cs : List PartScan.ChunkMeta) (k : Nat),
    (∀ (i : Nat) (h : i < cs.length), PartScan.WindowComplete (ts (k + i)) cs[i]) → PartScan.AllComplete ts cs k := by
  intro cs
  induction cs with
  | nil => intro k _; trivial
  | cons c rest ih =>
    intro k H
    refine ⟨H 0 (Nat.zero_lt_succ _), ih (k + 1) ?_⟩
    intro i h
    have := H (i + 1) (by simp; omega)
    have e : k + (i + 1) = k + 1 + i := by omega
    rw [e] at this
    simpa using this

theorem allComplete_of_partInv (p : List PChunk) (hinv : PartInv p) (hsize : ∀ c ∈ p, c.tss.length ≤ maxU32) :
    PartScan.AllComplete (partTs p) (p.map metaOf) 0 := by
  apply allComplete_of_forall
  intro i h
  have hi : i < p.length := by simpa using h
  have e1 : (p.map metaOf)[i] = metaOf p[i] := by simp
  have e2 : partTs p (0 + i) = tsOfList p[i].tss := by
    simp [partTs, hi]
  rw [e1, e2]
  exact windowComplete_of_chunkInv _ (hinv _ (List.getElem_mem hi)) (hsize _ (List.getElem_mem hi))

/-- **every chunk of the partition a monotone history of `Write` calls leaves has complete windows** -/
theorem runCalls_complete (sparse bigGap : Nat) (calls : List (List Piece)) (hok : CallsOK sparse bigGap [] calls)
    (hsorted : (allTs calls).Pairwise (· ≤ ·)) (hlow : ∀ t ∈ allTs calls, minI64 ≤ t)
    (hsize : ∀ c ∈ runCalls sparse bigGap calls, c.tss.length ≤ maxU32) :
    PartScan.AllComplete (fun k => tsOfList (((runCalls sparse bigGap calls).map (·.tss)).getD k []))
      ((runCalls sparse bigGap calls).map metaOf) 0 :=
  allComplete_of_partInv _ (runCalls_inv sparse bigGap calls hok hsorted hlow) hsize

/-- **the ranged read of the whole partition is the filter of its full read** -/
theorem range_eq_filter_calls (sparse bigGap : Nat) (calls : List (List Piece)) (hok : CallsOK sparse bigGap [] calls)
    (hsorted : (allTs calls).Pairwise (· ≤ ·)) (hlow : ∀ t ∈ allTs calls, minI64 ≤ t)
    (hsize : ∀ c ∈ runCalls sparse bigGap calls, c.tss.length ≤ maxU32) (r : TmRange) :
    PartScan.rangedRead (partTs (runCalls sparse bigGap calls)) ((runCalls sparse bigGap calls).map metaOf) r =
      (PartScan.fullPositions ((runCalls sparse bigGap calls).map metaOf) 0).filter
        (fun kp => decide (inRange r (partTs (runCalls sparse bigGap calls) kp.1 kp.2))) :=
  PartScan.partition_read_eq_filter _ _ r (runCalls_complete sparse bigGap calls hok hsorted hlow hsize)

/-- per chunk and position: a record whose timestamp lies in the asked range is inside its chunk's window -/
theorem runCalls_window (sparse bigGap : Nat) (calls : List (List Piece)) (hok : CallsOK sparse bigGap [] calls)
    (hsorted : (allTs calls).Pairwise (· ≤ ·)) (hlow : ∀ t ∈ allTs calls, minI64 ≤ t)
    (c : PChunk) (hc : c ∈ runCalls sparse bigGap calls) (hn : c.tss.length ≤ maxU32) (r : TmRange) (q : Nat)
    (hq : q < c.tss.length) (hr : inRange r (tsOfList c.tss q)) :
    inWindow (window (metaOf c).hull (metaOf c).idx r) q :=
  windowComplete_of_chunkInv c (runCalls_inv sparse bigGap calls hok hsorted hlow c hc) hn r q hq hr

/-! ## a syntactic sufficient condition for `CallsOK` -/

/-- a call is non-empty, its pieces are non-empty, only the first may continue the last chunk -/
def CallShape : List Piece → Prop
  | [] => False
  | pc :: rest => pc.l ≠ [] ∧ ∀ q ∈ rest, q.l ≠ [] ∧ q.newChunk = true

theorem applyPiece_ne_nil (sparse bigGap : Nat) (st : List PChunk × IW) (pc : Piece) :
    (applyPiece sparse bigGap st pc).1 ≠ [] := by
  simp [applyPiece]

theorem foldPieces_ne_nil (sparse bigGap : Nat) : ∀ (pieces : List Piece) (st : List PChunk × IW), st.1 ≠ [] →
    (pieces.foldl (applyPiece sparse bigGap) st).1 ≠ [] := by
  intro pieces
  induction pieces with
  | nil => intro st h; exact h
  | cons pc rest ih => intro st _; exact ih _ (applyPiece_ne_nil sparse bigGap st pc)

theorem writeCall_ne_nil (sparse bigGap : Nat) (p : List PChunk) (pieces : List Piece) (h : pieces ≠ []) :
    writeCall sparse bigGap p pieces ≠ [] := by
  cases pieces with
  | nil => exact absurd rfl h
  | cons pc rest => exact foldPieces_ne_nil sparse bigGap rest _ (applyPiece_ne_nil sparse bigGap _ pc)

/-- every call has the shape of a `Service.Write`, and the very first piece opens a chunk (or the partition is not
empty): then every call is `CallOK` w.r.t. the partition it meets -/
theorem callsOK_of_shape (sparse bigGap : Nat) : ∀ (calls : List (List Piece)) (p : List PChunk),
    (∀ c ∈ calls, CallShape c) → (p ≠ [] ∨ ∀ c ∈ calls.head?, ∀ pc ∈ c.head?, pc.newChunk = true) →
    CallsOK sparse bigGap p calls := by
  intro calls
  induction calls with
  | nil => intro _ _ _; trivial
  | cons c r ih =>
    intro p hshape hfirst
    have hc := hshape c List.mem_cons_self
    cases c with
    | nil => exact absurd hc (by simp [CallShape])
    | cons pc rest =>
      obtain ⟨hl, hrest⟩ := hc
      refine ⟨⟨hl, ?_, hrest⟩, ih _ (fun c' hc' => hshape c' (List.mem_cons_of_mem _ hc'))
        (Or.inl (writeCall_ne_nil sparse bigGap p _ (by simp)))⟩
      intro hnew
      rcases hfirst with h | h
      · exact h
      · have := h (pc :: rest) (by simp) pc (by simp)
        rw [hnew] at this
        exact Bool.noConfusion this

/-! ## 8. a small history with a roll-over -/

section Instances

/-- two calls, both roll over into a new chunk; the second continues the first's last chunk -/
def hist1 : List (List Piece) := [[⟨true, [1, 2, 3]⟩, ⟨true, [4, 5]⟩], [⟨false, [6]⟩, ⟨true, [7, 8]⟩]]

/-- the second chunk's hull is `(1, 6)`, the third's `(6, 8)`: over-wide minima (the hull of the whole call so far) -/
example : (runCalls 250 5000 hist1).map (fun c => (c.tss, c.idx.hull, c.idx.n)) =
    [([1, 2, 3], some ⟨1, 3⟩, 3), ([4, 5, 6], some ⟨1, 6⟩, 3), ([7, 8], some ⟨6, 8⟩, 2)] := by decide +kernel

example : CallsOK 250 5000 [] hist1 := by
  apply callsOK_of_shape
  · intro c hc
    simp [hist1] at hc
    rcases hc with h | h <;> subst h <;> simp [CallShape]
  · right; simp [hist1]

example : ((runCalls 250 5000 hist1).map (·.tss)).flatten = allTs hist1 := by decide +kernel

theorem hist1_ok : CallsOK 2 40 [] hist1 := by
  apply callsOK_of_shape
  · intro c hc
    simp [hist1] at hc
    rcases hc with h | h <;> subst h <;> simp [CallShape]
  · right; simp [hist1]

/-- with `sparseSpace = 2` the chunks get index points; the second chunk's first point carries the over-wide minimum -/
example : (runCalls 2 40 hist1).map (fun c => c.idx.pts) =
    [[⟨1, 0⟩, ⟨3, 2⟩], [⟨1, 0⟩, ⟨5, 1⟩], [⟨6, 0⟩, ⟨8, 1⟩]] := by decide +kernel

/-- the theorem on the instance, and the read it speaks about evaluated -/
example (r : TmRange) :
    PartScan.rangedRead (partTs (runCalls 2 40 hist1)) ((runCalls 2 40 hist1).map metaOf) r =
      (PartScan.fullPositions ((runCalls 2 40 hist1).map metaOf) 0).filter
        (fun kp => decide (inRange r (partTs (runCalls 2 40 hist1) kp.1 kp.2))) :=
  range_eq_filter_calls 2 40 hist1 hist1_ok (by decide) (by decide) (by decide) r

example : PartScan.rangedRead (partTs (runCalls 2 40 hist1)) ((runCalls 2 40 hist1).map metaOf) ⟨3, 6⟩ =
    [(0, 2), (1, 0), (1, 1), (1, 2)] := by decide +kernel

end Instances

end Logrange.PartHist

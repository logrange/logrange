import Logrange.Proofs.RdRngDefs
/-!
Forward-direction proofs for the RANGED journal iterator model (`partition.JIterator` + `chkSelector`, C03/C16):
`rGet`/`rNext` against the admitted-records abstraction (`rGetFwd : RGetFwdSpec`, `rNextFwd : RNextFwdSpec`),
and enumeration (`rf_drain_eq`, `rf_drain_fresh`, `rf_pos_after`). An open chunk iterator is read off once as "index `k` of
chunk `ch`" (`RWF.open`), after which every step is one of the per-chunk facts of `RdRngDefs.lean` about `wflatIdx`.
-/
set_option linter.unusedVariables false
namespace Logrange.Rd

def stOf (c : Chunk) : ChkSt := { minPos := c.minPos, maxPos := c.maxPos, count := c.cnt }

/-! ## the selector -/

theorem rf_statOf_rebuild {j : Journal} (hs : Sorted j) {c : Chunk} (hm : c ∈ j) :
    statOf (rebuild j []) c.id = some (stOf c) := by
  induction j with
  | nil => cases hm
  | cons d r ih =>
    rcases List.mem_cons.mp hm with rfl | hm'
    · simp [statOf, rebuild, stOf]
    · have := hs.head_lt c hm'
      have hne : (d.id == c.id) = false := by simp; omega
      have := ih hs.tail hm'
      simp only [statOf, rebuild, List.map_cons, List.find?_cons, hne] at this ⊢
      exact this

theorem rf_getStatus {j : Journal} {stats : List (Nat × ChkSt)} {c : Chunk} (hs : Sorted j)
    (hst : RStats j stats) (hm : c ∈ j) : getStatus j stats c = (rebuild j [], stOf c) := by
  have h0 := rf_statOf_rebuild hs hm
  have hr : ∀ x, rebuild j x = rebuild j [] := fun _ => rfl
  rcases hst with rfl | rfl
  · simp only [getStatus]
    have : statOf [] c.id = none := rfl
    rw [this]; simp [h0]
  · have hl : (rebuild j []).length = j.length := by simp [rebuild]
    simp only [getStatus, h0, hl, hr]
    simp [stOf]

theorem rf_checkAdvance (c : Chunk) (p : Nat) :
    checkAdvance (stOf c) p = if max p c.minPos < c.hi then (max p c.minPos, true) else (c.cnt, false) := by
  unfold checkAdvance stOf Chunk.hi
  simp only
  have e : (if p < c.minPos then c.minPos else p) = max p c.minPos := by split <;> omega
  rw [e]
  by_cases h : max p c.minPos < min c.cnt (c.maxPos + 1)
  · rw [if_pos h, if_neg (by omega)]
  · rw [if_neg h, if_pos (by omega)]

def startIdx : List Chunk → Nat → Nat
  | [], _ => 0
  | c :: _, p => c.wBefore p

theorem startIdx_zero (cs : List Chunk) : startIdx cs 0 = 0 := by
  cases cs with
  | nil => rfl
  | cons c _ => exact wBefore_low c (Nat.zero_le _)

theorem rf_sorted_sub {c : Chunk} {r : Journal} (h : Sorted (c :: r)) : Sorted r := h.tail

/-- the loop of `getPosForward` over a sorted suffix `cs` of the journal -/
theorem rf_fwdLoop {j : Journal} (hs : Sorted j) : ∀ (cs : List Chunk) (stats : List (Nat × ChkSt)) (pIdx : Nat)
    (lastC : Chunk) (lastCnt : Nat) (st' : List (Nat × ChkSt)) (ck : Option Chunk) (pos : Pos),
    (∀ c ∈ cs, c ∈ j) → Sorted cs → RStats j stats →
    fwdLoop j cs stats pIdx lastC lastCnt = (st', ck, pos) →
    (∀ c, ck = some c → c ∈ cs ∧ pos.cid = c.id ∧ c.minPos ≤ pos.idx ∧ pos.idx < c.hi ∧
        wflatIdx cs pos = startIdx cs pIdx ∧ st' = rebuild j []) ∧
    (ck = none → startIdx cs pIdx = (wflat cs).length ∧ RStats j st' ∧
        pos = (match cs.getLast? with | some l => ⟨l.id, l.cnt⟩ | none => ⟨lastC.id, lastCnt⟩)) := by
  intro cs
  induction cs with
  | nil =>
    intro stats pIdx lastC lastCnt st' ck pos _ _ hst h
    simp only [fwdLoop, Prod.mk.injEq] at h
    obtain ⟨rfl, rfl, rfl⟩ := h
    exact ⟨(by intro c hc; cases hc), fun _ => ⟨rfl, hst, rfl⟩⟩
  | cons c rest ih =>
    intro stats pIdx lastC lastCnt st' ck pos hsub hsc hst h
    have hlt := hsc.head_lt
    rw [fwdLoop, rf_getStatus hs hst (hsub c (List.mem_cons_self ..))] at h
    simp only [rf_checkAdvance] at h
    by_cases hok : max pIdx c.minPos < c.hi
    · simp only [hok, if_true, Prod.mk.injEq] at h
      obtain ⟨rfl, rfl, rfl⟩ := h
      refine ⟨?_, by intro h; cases h⟩
      intro c' hc'; cases hc'
      refine ⟨List.mem_cons_self .., rfl, Nat.le_max_right .., hok, ?_, rfl⟩
      rw [wflatIdx_cons, wflatIdx_of_lt hlt, wfiTerm_self]
      show c.wBefore (max pIdx c.minPos) + 0 = c.wBefore pIdx
      unfold Chunk.wBefore; omega
    · simp only [hok, if_false, Bool.false_eq_true] at h
      -- the window lies wholly before `pIdx`, the search goes on from index 0 of the next chunk
      have hfull : c.wBefore pIdx = c.wlen := by unfold Chunk.wBefore Chunk.wlen; omega
      obtain ⟨iA, iB⟩ := ih (rebuild j []) 0 c (stOf c).count st' ck pos
        (fun x hx => hsub x (List.mem_cons_of_mem _ hx)) hsc.tail (Or.inr rfl) h
      rw [startIdx_zero] at iA iB
      constructor
      · intro c' hc'
        obtain ⟨m1, m2, m3, m4, m5, m6⟩ := iA c' hc'
        refine ⟨List.mem_cons_of_mem _ m1, m2, m3, m4, ?_, m6⟩
        rw [wflatIdx_cons, m5, wfiTerm_lt (by rw [m2]; exact hlt c' m1)]
        exact hfull.symm
      · intro hn
        obtain ⟨n1, n2, n3⟩ := iB hn
        refine ⟨?_, n2, ?_⟩
        · rw [wflat_length_cons, ← n1]; exact hfull
        · cases rest with
          | nil => exact n3
          | cons c1 r' => rw [List.getLast?_cons_cons]; exact n3

/-- the chunks `dropWhile` removes lie before `cid`: they count in full for every position at or behind `cid` -/
theorem rf_dropWhile_idx (j : Journal) (cid : Nat) (q : Pos) (h1 : cid ≤ q.cid) :
    wflatIdx j q + (wflat (j.dropWhile (fun c => decide (c.id < cid)))).length =
      wflatIdx (j.dropWhile (fun c => decide (c.id < cid))) q + (wflat j).length := by
  induction j with
  | nil => rfl
  | cons c r ih =>
    rw [List.dropWhile_cons]
    by_cases hc : c.id < cid
    · rw [if_pos (decide_eq_true hc), wflatIdx_cons, wflat_length_cons, wfiTerm_lt (Nat.lt_of_lt_of_le hc h1)]
      omega
    · rw [if_neg (by simpa using hc)]

theorem rf_wflatIdx_last {j : Journal} (hs : Sorted j) {l : Chunk} (h : j.getLast? = some l) {k : Nat}
    (hk : l.hi ≤ k) : wflatIdx j ⟨l.id, k⟩ = (wflat j).length := by
  obtain ⟨hm, hmax⟩ := getLast_max hs h
  apply wflatIdx_eq_len
  intro c hc
  rcases Nat.lt_or_eq_of_le (hmax c hc) with h1 | h1
  · exact wfiTerm_lt h1
  · obtain rfl := sorted_id_inj hs hc hm h1
    rw [wfiTerm_self, wBefore_full _ hk]

theorem rf_dropWhile_getLast (j : Journal) (p : Chunk → Bool) (h : j.dropWhile p ≠ []) :
    (j.dropWhile p).getLast? = j.getLast? := by
  conv => rhs; rw [← List.takeWhile_append_dropWhile (p := p) (l := j)]
  rw [List.getLast?_append]
  cases hd : (j.dropWhile p).getLast? with
  | none => exact absurd (List.getLast?_eq_none_iff.mp hd) h
  | some x => rfl

/-- `getPosForward` -/
theorem rf_getPosForward {j : Journal} (hs : Sorted j) {stats : List (Nat × ChkSt)} (hst : RStats j stats) (p : Pos)
    (st' : List (Nat × ChkSt)) (ck : Option Chunk) (pos : Pos) (h : getPosForward j stats p = (st', ck, pos)) :
    (∀ c, ck = some c → c ∈ j ∧ pos.cid = c.id ∧ c.minPos ≤ pos.idx ∧ pos.idx < c.hi ∧
        wflatIdx j pos = wflatIdx j p ∧ st' = rebuild j []) ∧
    (ck = none → wflatIdx j p = (wflat j).length ∧ wflatIdx j pos = (wflat j).length ∧ RStats j st' ∧
        (j ≠ [] → ∃ l ∈ j, pos = ⟨l.id, l.cnt⟩)) := by
  unfold getPosForward at h
  cases hl : j.getLast? with
  | none =>
    have : j = [] := List.getLast?_eq_none_iff.mp hl
    subst this
    simp only [List.getLast?_nil, Prod.mk.injEq] at h
    obtain ⟨rfl, rfl, rfl⟩ := h
    exact ⟨(by intro c hc; cases hc), fun _ => ⟨rfl, rfl, hst, fun h => absurd rfl h⟩⟩
  | some l =>
    rw [hl] at h
    simp only at h
    have hlast : wflatIdx j ⟨l.id, l.cnt⟩ = (wflat j).length :=
      rf_wflatIdx_last hs hl (Nat.min_le_left ..)
    have hlm := (getLast_max hs hl).1
    have hD := rf_dropWhile_idx j p.cid
    cases hd : j.dropWhile (fun c => decide (c.id < p.cid)) with
    | nil =>
      rw [hd] at h hD
      simp only [Prod.mk.injEq] at h
      obtain ⟨rfl, rfl, rfl⟩ := h
      refine ⟨(by intro c hc; cases hc), fun _ => ⟨?_, hlast, hst, fun _ => ⟨l, hlm, rfl⟩⟩⟩
      have := hD p (Nat.le_refl _)
      simp only [wflatIdx, wflat, List.flatMap_nil, List.length_nil, Nat.add_zero, Nat.zero_add] at this
      exact this
    | cons c0 rest =>
      rw [hd] at h hD
      simp only at h
      have hsub : ∀ c ∈ c0 :: rest, c ∈ j := by
        rw [← hd]; exact fun c hc => (List.dropWhile_sublist _).subset hc
      have hsc : Sorted (c0 :: rest) := by rw [← hd]; exact List.Pairwise.sublist (List.dropWhile_sublist _) hs
      have hge : p.cid ≤ c0.id := by
        have := List.head_dropWhile_not (fun c : Chunk => decide (c.id < p.cid)) (l := j) (by rw [hd]; exact List.cons_ne_nil _ _)
        simp only [hd, List.head_cons, decide_eq_false_iff_not] at this
        omega
      have hlt := hsc.head_lt
      obtain ⟨A, B⟩ := rf_fwdLoop hs (c0 :: rest) stats _ c0 0 st' ck pos hsub hsc hst h
      have hstart : wflatIdx (c0 :: rest) p = startIdx (c0 :: rest) (if c0.id ≠ p.cid then 0 else p.idx) := by
        rw [wflatIdx_cons, wflatIdx_of_lt (fun x hx => Nat.lt_of_le_of_lt hge (hlt x hx))]
        by_cases he : c0.id = p.cid
        · rw [wfiTerm_eq he, if_neg (fun h => h he)]; rfl
        · rw [wfiTerm_gt (by omega), if_pos he]; exact (wBefore_low c0 (Nat.zero_le _)).symm
      have h2 := hD p (Nat.le_refl _)
      constructor
      · intro c hc
        obtain ⟨m1, m2, m3, m4, m5, m6⟩ := A c hc
        refine ⟨hsub c m1, m2, m3, m4, ?_, m6⟩
        have hpc : p.cid ≤ pos.cid := by
          rw [m2]
          rcases List.mem_cons.mp m1 with rfl | hr
          · exact hge
          · exact Nat.le_of_lt (Nat.lt_of_le_of_lt hge (hlt c hr))
        have h1 := hD pos hpc
        rw [m5, ← hstart] at h1
        omega
      · intro hn
        obtain ⟨n1, n2, n3⟩ := B hn
        rw [← hd, rf_dropWhile_getLast j _ (by rw [hd]; exact List.cons_ne_nil _ _), hl] at n3
        rw [hstart, n1] at h2
        refine ⟨by omega, by rw [n3]; exact hlast, n2, fun _ => ⟨l, hlm, n3⟩⟩

/-- admitted record `k` of chunk `ch` sits at its `wflat` index -/
theorem rf_wflat_get {j : Journal} (hs : Sorted j) {ch : Chunk} (hm : ch ∈ j) {k : Nat} (h1 : ch.minPos ≤ k)
    (h2 : k < ch.hi) : (wflat j)[wflatIdx j ⟨ch.id, k⟩]? = ch.recs[k]? := by
  induction j with
  | nil => cases hm
  | cons c r ih =>
    rw [wflatIdx_cons, rw_wflat_cons]
    rcases List.mem_cons.mp hm with rfl | hm'
    · rw [wflatIdx_of_lt hs.head_lt, wfiTerm_self, (wBefore_in ch h1 h2).1, Nat.add_zero,
        List.getElem?_append_left (by rw [rw_wrecs_length]; unfold Chunk.wlen; omega)]
      unfold Chunk.wrecs
      rw [List.getElem?_drop, List.getElem?_take, if_pos (by have := Chunk.lt_hi.mp h2; omega)]
      exact congrArg (ch.recs[·]?) (by omega)
    · rw [wfiTerm_lt (hs.head_lt ch hm'), ← rw_wrecs_length, List.getElem?_append_right (Nat.le_add_right ..),
        Nat.add_sub_cancel_left]
      exact ih hs.tail hm'

/-- leaving chunk `ch` at or behind the end of its window = standing before the next chunk id -/
theorem rf_wflatIdx_next {j : Journal} (hs : Sorted j) {ch : Chunk} (hm : ch ∈ j) {q : Nat} (hq : ch.hi ≤ q) :
    wflatIdx j ⟨ch.id + 1, 0⟩ = wflatIdx j ⟨ch.id, q⟩ := by
  apply wflatIdx_congr
  intro c hc
  rcases Nat.lt_trichotomy c.id ch.id with h | h | h
  · rw [wfiTerm_lt (Nat.lt_succ_of_lt h), wfiTerm_lt h]
  · obtain rfl := sorted_id_inj hs hc hm h
    rw [wfiTerm_lt (Nat.lt_succ_self _), wfiTerm_self, wBefore_full _ hq]
  · rw [wfiTerm_zero h, wfiTerm_gt (p := ⟨ch.id, q⟩) h]

/-- what a forward call answers: `eof = false` → a chunk is open on an admitted record; `eof = true` → no chunk is
open and nothing is left -/
def EnsOut (j : Journal) (i : Nat) (r : RIt × Bool) : Prop :=
  r.1.bkwd = false ∧ wIdx j r.1 = i ∧ RWF j r.1 ∧ RSynced r.1 ∧
  (r.2 = false → ∃ c ch, r.1.ci = some c ∧ ch ∈ j ∧ ch.id = c.chunk ∧ c.cached = false ∧ 0 ≤ c.pos ∧
      c.pos < (ch.cnt : Int)) ∧
  (r.2 = true → r.1.ci = none ∧ i = (wflat j).length ∧ (j ≠ [] → Settled j r.1.pos))

theorem rf_ensure_fwd {j : Journal} (hs : Sorted j) {s : RIt} (hci : s.ci = none) (hb : s.bkwd = false)
    (hst : RStats j s.stats) : EnsOut j (wIdx j s) (rEnsure j s) := by
  rw [wIdx_none hci]
  rcases hg : getPosForward j s.stats ⟨s.cid, s.idx⟩ with ⟨st', ck, pos⟩
  obtain ⟨A, B⟩ := rf_getPosForward hs hst _ st' ck pos hg
  unfold rEnsure EnsOut
  simp only [hci, hb, Bool.false_eq_true, if_false, hg]
  cases ck with
  | none =>
    obtain ⟨b1, b2, b3, b4⟩ := B rfl
    simp only
    refine ⟨trivial, (wIdx_none rfl).trans (b2.trans b1.symm), b3, trivial, (by intro h; cases h),
      fun _ => ⟨trivial, b1, fun hne => ?_⟩⟩
    obtain ⟨l, hl, hp⟩ := b4 hne
    exact ⟨l, hl, (congrArg Pos.cid hp).symm, Nat.le_of_eq (congrArg Pos.idx hp)⟩
  | some c =>
    obtain ⟨a1, a2, a3, a4, a5, a6⟩ := A c rfl
    obtain ⟨k1, k2⟩ := Chunk.lt_hi.mp a4
    simp only
    rw [ciSetPos_fresh, cntOf_mem hs a1, Nat.min_eq_left (Nat.le_of_lt k1), a2, a6]
    exact ⟨trivial, by rw [← a5, ← a2]; rfl,
      RWF.of_open a1 (Nat.lt_of_le_of_lt a3 k1) a3 k2 (Nat.le_of_lt k1) _ false false (by intro h; cases h),
      ⟨Int.natCast_nonneg _, rfl⟩,
      fun _ => ⟨_, c, rfl, a1, rfl, rfl, Int.natCast_nonneg _, Int.ofNat_lt.mpr k1⟩, (by intro h; cases h)⟩

theorem rf_advance_fwd {j : Journal} (hs : Sorted j) {s : RIt} {c : CIt} {ch : Chunk} (hci : s.ci = some c)
    (hb : s.bkwd = false) (hstats : s.stats = rebuild j []) (hm : ch ∈ j) (hid : ch.id = c.chunk)
    (hcid : s.cid = ch.id) (h0 : 0 ≤ c.pos) (hend : ch.hi ≤ c.pos.toNat) (hle : c.pos.toNat ≤ ch.cnt) :
    EnsOut j (wIdx j s) (rAdvance j s) := by
  obtain ⟨cid, idx, ci, bkwd, stats⟩ := s
  simp only at hci hb hstats hcid
  subst hci hb hstats hcid
  have hens := rf_ensure_fwd hs (s := ⟨ch.id + 1, 0, none, false, rebuild j []⟩) rfl rfl (Or.inr rfl)
  rw [wIdx_none rfl, rf_wflatIdx_next hs hm hend] at hens
  rw [wIdx_some rfl, ← hid]
  unfold rAdvance
  simp only [Bool.false_eq_true, if_false, h0, if_true, Bool.not_false, Bool.and_true]
  generalize rEnsure j ⟨ch.id + 1, 0, none, false, rebuild j []⟩ = res at hens
  obtain ⟨s2, eof⟩ := res
  obtain ⟨e1, e2, e3, e4, e5, e6⟩ := hens
  simp only at e1 e2 e3 e4 e5 e6
  by_cases hl : (eof && s2.cid == ch.id) = true
  · -- end of data behind the chunk just left: the position stays where its chunk iterator stopped
    rw [if_pos hl]
    have heof := (Bool.and_eq_true _ _ |>.mp hl).1
    obtain ⟨f1, f2, _⟩ := e6 heof
    refine ⟨e1, ?_, ?_, ?_, (by intro h; rw [heof] at h; cases h), fun _ => ⟨f1, f2, fun _ => ⟨ch, hm, rfl, hle⟩⟩⟩
    · exact wIdx_none f1
    · simp only [RWF, f1] at e3 ⊢; exact e3
    · simp only [RSynced, f1]
  · rw [if_neg hl]
    exact ⟨e1, e2, e3, e4, e5, e6⟩

/-- what forward `rGet`/`rGetLoop` answers from a state with index `i` -/
def GetOutR (j : Journal) (i : Nat) (synced : Prop) (r : RIt × Option Rec) : Prop :=
  r.2 = (wflat j)[i]? ∧ RWF j r.1 ∧ r.1.bkwd = false ∧ wIdx j r.1 = i ∧ (synced → RSynced r.1) ∧
  (r.2.isSome → ROnRecord j r.1) ∧ (r.2 = none → r.1.ci = none ∧ (j ≠ [] → Settled j r.1.pos))

/-- the open chunk iterator stands on a record: one round of the loop delivers it -/
theorem rf_getLoop_on {j : Journal} (hs : Sorted j) (f : Nat) {s : RIt} {c : CIt} (hci : s.ci = some c)
    (hwf : RWF j s) (hb : s.bkwd = false) (hlt : c.pos < (cntOf j c.chunk : Int)) :
    GetOutR j (wIdx j s) (RSynced s) (rGetLoop j (f + 1) s) := by
  obtain ⟨ch, hm, k, idx, b, cached, rfl, rfl, hcnt, k1, k2, k3, k0, _⟩ := hwf.open hs hci
  obtain rfl : b = false := hb
  simp only [hcnt] at hlt
  have hk' : k < ch.cnt := Int.ofNat_lt.mp hlt
  rw [rGetLoop]
  simp only [rw_ciGet_on hs hm false cached hk']
  refine ⟨?_, RWF.of_open hm k0 k1 k2 k3 idx false true (fun _ => hk'), rfl, rfl, fun hsy => hsy,
    fun _ => ⟨_, rfl, Int.natCast_nonneg k, ?_⟩, (by intro h; cases h)⟩
  · rw [wIdx_some rfl]
    exact ((rf_wflat_get hs hm k1 (Chunk.lt_hi.mpr ⟨hk', k2⟩)).trans (List.getElem?_eq_getElem hk')).symm
  · show (k : Int) < (cntOf j ch.id : Int)
    rw [hcnt]; exact hlt

theorem rf_ens_get {j : Journal} (hs : Sorted j) (f : Nat) {i : Nat} {s : RIt} {eof : Bool} {sy : Prop}
    (h : EnsOut j i (s, eof)) : GetOutR j i sy (if eof then (s, none) else rGetLoop j (f + 1) s) := by
  obtain ⟨e1, e2, e3, e4, e5, e6⟩ := h
  cases eof with
  | true =>
    obtain ⟨f1, f2, f3⟩ := e6 rfl
    rw [if_pos rfl]
    exact ⟨by rw [f2]; exact (List.getElem?_eq_none (Nat.le_refl _)).symm, e3, e1, e2, fun _ => e4,
      (by intro h; cases h), fun _ => ⟨f1, f3⟩⟩
  | false =>
    obtain ⟨c2, ch2, h1, h2, h3, _, _, h6⟩ := e5 rfl
    rw [if_neg Bool.false_ne_true]
    have := rf_getLoop_on hs f h1 e3 e1 (by rw [← h3, cntOf_mem hs h2]; exact h6)
    rw [e2] at this
    obtain ⟨t1, t2, t3, t4, t5, t6, t7⟩ := this
    exact ⟨t1, t2, t3, t4, fun _ => t5 e4, t6, t7⟩

theorem rf_getLoop_fwd {j : Journal} (hs : Sorted j) (f : Nat) {s : RIt} {c : CIt} (hci : s.ci = some c)
    (hwf : RWF j s) (hb : s.bkwd = false) :
    GetOutR j (wIdx j s) (RSynced s) (rGetLoop j (f + 2) s) := by
  obtain ⟨ch, hm, k, idx, b, cached, rfl, rfl, hcnt, _, _, k3, _, k4⟩ := hwf.open hs hci
  by_cases hlt : k < ch.cnt
  · exact rf_getLoop_on hs (f + 1) rfl hwf hb
      (by show (k : Int) < (cntOf j ch.id : Int); rw [hcnt]; exact Int.ofNat_lt.mpr hlt)
  · -- at the end of the chunk: the chunk iterator answers EOF, the next admitted chunk is opened
    obtain rfl : k = ch.cnt := by omega
    obtain rfl : b = false := hb
    obtain rfl : cached = false := by
      cases cached with
      | false => rfl
      | true => exact absurd (k4 rfl) (Nat.lt_irrefl _)
    rw [rGetLoop]
    simp only [(rw_ciGet_end hs hm).1]
    have hadv := rf_advance_fwd hs (s := ⟨ch.id, idx, some ⟨ch.id, ch.cnt, false⟩, false, rebuild j []⟩) rfl rfl rfl hm
      rfl rfl (Int.natCast_nonneg _) (Nat.min_le_left ..) (Nat.le_refl _)
    generalize rAdvance j ⟨ch.id, idx, some ⟨ch.id, ch.cnt, false⟩, false, rebuild j []⟩ = res at hadv
    obtain ⟨s', eof⟩ := res
    exact rf_ens_get hs f hadv

theorem rf_get_out {j : Journal} (hs : Sorted j) {s : RIt} (hwf : RWF j s) (hb : s.bkwd = false) :
    GetOutR j (wIdx j s) (RSynced s) (rGet j s) := by
  unfold rGet
  cases hci : s.ci with
  | some c =>
    have he : rEnsure j s = (s, false) := by unfold rEnsure; rw [hci]
    rw [he]
    exact rf_getLoop_fwd hs j.length hci hwf hb
  | none =>
    have hst : RStats j s.stats := by simpa [RWF, hci] using hwf
    have hens := rf_ensure_fwd hs hci hb hst
    generalize rEnsure j s = res at hens
    obtain ⟨s', eof⟩ := res
    exact rf_ens_get hs (j.length + 1) hens

/-- forward `Get` of the ranged iterator against the admitted-records abstraction -/
theorem rGetFwd : RGetFwdSpec := by
  intro j s hs hwf hb
  obtain ⟨a, b, c, d, e, f, g⟩ := rf_get_out hs hwf hb
  exact ⟨a, b, c, d, e, f, fun h => (g h).1⟩

theorem rf_next_out {j : Journal} (hs : Sorted j) {s : RIt} (hwf : RWF j s) (hb : s.bkwd = false) :
    RWF j (rNext j s) ∧ (rNext j s).bkwd = false ∧ RSynced (rNext j s) ∧
    wIdx j (rNext j s) = min (wIdx j s + 1) (wflat j).length := by
  have g := rf_get_out hs hwf hb
  unfold rNext
  generalize wIdx j s = i at g ⊢
  generalize rGet j s = res at g
  obtain ⟨s1, r⟩ := res
  obtain ⟨g1, g2, g3, g4, _, g6, g7⟩ := g
  simp only at g1 g2 g3 g4 g6 g7 ⊢
  cases r with
  | none =>
    have hci := (g7 rfl).1
    simp only [hci]
    refine ⟨g2, g3, by simp only [RSynced, hci], ?_⟩
    rw [g4, Nat.min_eq_right (Nat.le_succ_of_le (List.getElem?_eq_none_iff.mp g1.symm))]
    exact Nat.le_antisymm (g4 ▸ rw_wIdx_le j s1) (List.getElem?_eq_none_iff.mp g1.symm)
  | some l =>
    obtain ⟨c, hci, _, hlt⟩ := g6 rfl
    obtain ⟨ch, hm, k, idx, b, cached, rfl, rfl, hcnt, k1, k2, k3, k0, _⟩ := g2.open hs hci
    obtain rfl : b = false := g3
    simp only [hcnt] at hlt
    have hk' : k < ch.cnt := Int.ofNat_lt.mp hlt
    have hnx := ciNext_spec hs false (c := ⟨ch.id, k, cached⟩) hm rfl (Int.natCast_nonneg k) hlt
    simp only [hnx, cond_false, rf_statOf_rebuild hs hm, Option.getD_some, stOf, rw_toNat_succ]
    obtain ⟨hstep, hilt⟩ := wflatIdx_succ_in hs hm k1 (Chunk.lt_hi.mpr ⟨hk', k2⟩)
    replace g4 : wflatIdx j ⟨ch.id, k⟩ = i := g4
    rw [← g4, Nat.min_eq_left (show wflatIdx j ⟨ch.id, k⟩ + 1 ≤ _ from hilt), ← hstep]
    by_cases hout : (k : Int) + 1 < 0 ∨ k + 1 < ch.minPos ∨ k + 1 > ch.maxPos
    · -- the next index is outside the window: the chunk is left
      rw [if_pos hout]
      have hadv := rf_advance_fwd hs (s := ⟨ch.id, idx, some ⟨ch.id, k + 1, false⟩, false, rebuild j []⟩) rfl rfl rfl hm
        rfl rfl (by simp only; omega) (by rw [rw_toNat_succ]; unfold Chunk.hi; omega) (by rw [rw_toNat_succ]; omega)
      rw [wIdx_some rfl, rw_toNat_succ] at hadv
      obtain ⟨e1, e2, e3, e4, _, _⟩ := hadv
      exact ⟨e3, e1, e4, e2⟩
    · rw [if_neg hout]
      exact ⟨RWF.of_open (k := k + 1) hm k0 (by omega) (by omega) (by omega) _ false false (by intro h; cases h), rfl,
        ⟨by simp only; omega, (rw_toNat_succ k).symm⟩, by rw [wIdx_some rfl, rw_toNat_succ]⟩

/-- after a forward `Get` of a synced iterator the reported position names an existing chunk and an index inside it or
at its end (what `State()` exports) -/
theorem rf_get_settled {j : Journal} (hs : Sorted j) {s : RIt} (hwf : RWF j s) (hb : s.bkwd = false)
    (hsy : RSynced s) (hne : j ≠ []) : Settled j (rGet j s).1.pos := by
  obtain ⟨_, g2, _, _, g5, g6, g7⟩ := rf_get_out hs hwf hb
  cases hr : (rGet j s).2 with
  | none => exact (g7 hr).2 hne
  | some l =>
    obtain ⟨c, hc, _, _⟩ := g6 (by rw [hr]; rfl)
    obtain ⟨ch, hm, k, idx, b, cached, he, _, _, _, _, k3, _, _⟩ := g2.open hs hc
    have hsy' := g5 hsy
    rw [he] at hsy' ⊢
    obtain ⟨_, e⟩ := hsy'
    exact ⟨ch, hm, rfl, (show idx = k from e) ▸ k3⟩

/-- forward `Next` of the ranged iterator -/
theorem rNextFwd : RNextFwdSpec := fun j s hs hwf hb => rf_next_out hs hwf hb

/-- draining the ranged iterator forward delivers the admitted records from its index on -/
theorem rf_drain_eq (j : Journal) (s : RIt) (n : Nat) (hs : Sorted j) (hwf : RWF j s) (hb : s.bkwd = false) :
    rDrain j n s = ((wflat j).drop (wIdx j s)).take n := by
  refine rDrain_of_view (fun s => (wflat j).drop (wIdx j s)) (fun s => RWF j s ∧ s.bkwd = false) ?_ ?_ n s ⟨hwf, hb⟩
  · intro s ⟨hwf, hb⟩
    obtain ⟨g1, g2, g3, g4, _⟩ := rf_get_out hs hwf hb
    exact ⟨g1.trans List.head?_drop.symm, by simp only [g4], g2, g3⟩
  · intro s ⟨hwf, hb⟩
    obtain ⟨n1, n2, _, n4⟩ := rf_next_out hs hwf hb
    exact ⟨by simp only [n4, rw_drop_min_succ], n1, n2⟩

theorem rf_drain_fresh (j : Journal) (p : Pos) (n : Nat) (hs : Sorted j) (hn : (flat j).length ≤ n) :
    rDrain j n (rSetPos j {} p) = (wflat j).drop (wflatIdx j p) := by
  obtain ⟨hwf, _, hidx⟩ := rw_setPos_fresh_wf j p
  rw [rf_drain_eq j _ n hs hwf (rw_setPos_fresh j p).2.2.1, hidx]
  exact List.take_of_length_le (Nat.le_trans (List.length_drop ▸ Nat.sub_le ..) (Nat.le_trans (rp_wflat_length_le j) hn))

theorem rf_pos_after (j : Journal) (s : RIt) (k : Nat) (hs : Sorted j) (hwf : RWF j s) (hb : s.bkwd = false) :
    wIdx j (rStepK j k s) = min (wIdx j s + k) (wflat j).length ∧ RWF j (rStepK j k s) ∧
    (rStepK j k s).bkwd = false := by
  induction k generalizing s with
  | zero => exact ⟨(Nat.min_eq_left (rw_wIdx_le j s)).symm, hwf, hb⟩
  | succ k ih =>
    obtain ⟨_, g2, g3, g4, _, _, _⟩ := rf_get_out hs hwf hb
    obtain ⟨n1, n2, _, n4⟩ := rf_next_out hs g2 g3
    rw [rStepK]
    obtain ⟨i1, i2, i3⟩ := ih (rNext j (rGet j s).1) n1 n2
    refine ⟨?_, i2, i3⟩
    rw [i1, n4, g4, show wIdx j s + (k + 1) = wIdx j s + 1 + k from Nat.add_right_comm _ k 1]
    -- `min (min (a + 1) L + k) L = min (a + 1 + k) L`: once the end is reached the index stays there
    rcases Nat.le_total (wIdx j s + 1) (wflat j).length with h | h
    · rw [Nat.min_eq_left h]
    · rw [Nat.min_eq_right h, Nat.min_eq_right (Nat.le_add_right ..),
        Nat.min_eq_right (Nat.le_trans h (Nat.le_add_right ..))]

theorem rf_rwfB_sound {j : Journal} {s : RIt} (h : rwfB j s = true) : RWF j s := by
  unfold rwfB at h
  unfold RWF
  cases hci : s.ci with
  | none =>
    rw [hci] at h
    simp only [Bool.or_eq_true, List.isEmpty_iff, beq_iff_eq] at h
    exact h
  | some c =>
    rw [hci] at h
    simp only [Bool.and_eq_true, beq_iff_eq, List.any_eq_true, decide_eq_true_eq, Bool.or_eq_true,
      Bool.not_eq_true'] at h
    obtain ⟨⟨h1, h2⟩, ch, hm, ⟨⟨⟨⟨⟨a1, a2⟩, a3⟩, a4⟩, a5⟩, a6⟩⟩ := h
    refine ⟨h1, h2, ch, hm, a1, a2, a3, a4, a5, ?_⟩
    intro hc
    rcases a6 with a6 | a6
    · rw [hc] at a6; cases a6
    · exact a6

end Logrange.Rd

import Logrange.Proofs.RdFilterSrc
import Logrange.Proofs.RdMergeNJournal
/-!
# Paging over a FILTERED merged cursor of any number of partitions (WHERE / range re-check above the mixer tree)

`pagesS`: chains of pages over any single lawful source `τ` (page = read loop + commit; per page the held object continues
or `refresh` makes a new one from what the old one exports). Instantiated with `τ = FSrc (It σ)` — the `fiterator` above the
mixer tree `newCursor` builds — and `refresh` = a new `fiterator` (nothing cached) over a new tree over fresh leaves at the
exported positions: the concatenated pages are the first Σ limits events of the FILTERED merged stream.
-/
set_option linter.unusedSectionVars false
set_option linter.unusedVariables false
namespace Logrange.MergeN
open Logrange.Mixer Logrange.MixTree LawfulSource

section srcchain
variable {τ : Type} [Source τ] [LawfulSource τ] (Q : τ → Prop) (refresh : τ → τ)

def afterS : Nat → τ → τ
  | 0, s => s
  | k + 1, s =>
    match Source.get s with
    | (s', some _) => afterS k (Source.next s')
    | (s', none) => s'

def drainS : Nat → τ → List Ev
  | 0, _ => []
  | k + 1, s =>
    match Source.get s with
    | (s', some e) => e :: drainS k (Source.next s')
    | (_, none) => []

def pageS (lim : Nat) (s : τ) : τ × List Ev := (Source.release (Source.get (afterS lim s)).1, drainS lim s)
def resumeS (fresh : Bool) (s : τ) : τ := if fresh then refresh s else s
def pagesS : τ → List (Bool × Nat) → List (List Ev)
  | _, [] => []
  | s, (f, lim) :: rest => (pageS lim (resumeS refresh f s)).2 :: pagesS (pageS lim (resumeS refresh f s)).1 rest

variable (hq : ∀ s, Q s → wf s) (hg : ∀ s, Q s → Q (Source.get s).1)
  (hn : ∀ s, Q s → settled s → Q (Source.next s)) (hr : ∀ s, Q s → Q (Source.release s))
  (hre : ∀ s, Q s → Q (refresh s) ∧ view (refresh s) = view s)
include hq hg hn hr hre

theorem readS : ∀ (k : Nat) (s : τ), Q s →
    drainS k s = (view s).take k ∧ Q (afterS k s) ∧ view (afterS k s) = (view s).drop k := by
  intro k
  induction k with
  | zero => intro s h; exact ⟨by simp [drainS], h, by simp [afterS]⟩
  | succ k ih =>
    intro s h
    obtain ⟨g1, g2, g3, _, g5⟩ := LawfulSource.get_spec s (hq s h)
    have gq := hg s h
    rw [drainS, afterS]
    generalize Source.get s = res at g1 g2 g3 g5 gq
    obtain ⟨s', r⟩ := res
    simp only at g1 g2 g3 g5 gq
    cases r with
    | none =>
      simp only
      have hnil : view s = [] := List.head?_eq_none_iff.mp g1.symm
      exact ⟨by simp [hnil], gq, by rw [g2, hnil]; simp⟩
    | some e =>
      simp only
      obtain ⟨nv, _, _⟩ := LawfulSource.next_spec s' g3 g5
      obtain ⟨i1, i2, i3⟩ := ih (Source.next s') (hn s' gq g5)
      obtain ⟨ys, hcons⟩ := List.head?_eq_some_iff.mp g1.symm
      exact ⟨by rw [i1, nv, g2, hcons]; rfl, i2, by rw [i3, nv, g2, hcons]; rfl⟩

theorem pagesS_spec : ∀ (steps : List (Bool × Nat)) (s : τ), Q s →
    (pagesS refresh s steps).flatten = (view s).take (steps.map (·.2)).sum := by
  intro steps
  induction steps with
  | nil => intro s _; simp [pagesS]
  | cons st rest ih =>
    intro s h
    obtain ⟨f, lim⟩ := st
    have hres : Q (resumeS refresh f s) ∧ view (resumeS refresh f s) = view s := by
      cases f with
      | false => exact ⟨by simpa [resumeS] using h, by simp [resumeS]⟩
      | true => simpa [resumeS] using hre s h
    obtain ⟨r1, r2, r3⟩ := readS Q refresh hq hg hn hr hre lim _ hres.1
    obtain ⟨_, gv, _, _, _⟩ := LawfulSource.get_spec _ (hq _ r2)
    have gq := hg _ r2
    obtain ⟨rv, _, _, _⟩ := LawfulSource.release_spec _ (hq _ gq)
    have hrq := hr _ gq
    rw [pagesS, List.flatten_cons]
    have e1 : (pageS lim (resumeS refresh f s)).2 = (view s).take lim := by rw [← hres.2]; exact r1
    have e2 : view (pageS lim (resumeS refresh f s)).1 = (view s).drop lim := by
      show view (Source.release (Source.get (afterS lim (resumeS refresh f s))).1) = _
      rw [rv, gv, r3, hres.2]
    have hrq' : Q (pageS lim (resumeS refresh f s)).1 := hrq
    rw [ih _ hrq', e1, e2]
    simp only [List.map_cons, List.sum_cons]
    rw [List.take_add]

end srcchain

/-! ## the `fiterator` above a mixer tree -/
section filtered
variable {σ : Type} [Source σ] [LawfulSource σ] [Inhabited σ] (P : σ → Prop) (refresh : σ → σ)
variable (hg : ∀ s, P s → P (Source.get s).1) (hn : ∀ s, P s → P (Source.next s))
  (hr : ∀ s, P s → P (Source.release s))
  (hre : ∀ s, P s → P (refresh s) ∧ wf (refresh s) ∧ dir (refresh s) = false ∧ view (refresh s) = view s)

/-- invariant of a filtered merged cursor -/
def QF (f : FSrc (It σ)) : Prop := InvN P f.inner ∧ FSrc.fwf f
/-- a new `fiterator` over a new tree over fresh leaves at the exported positions -/
def refreshF (f : FSrc (It σ)) : FSrc (It σ) := ⟨resumeN refresh true f.inner, f.p, false, none⟩

include hg hn hr hre

theorem invN_get (t : It σ) (h : InvN P t) : InvN P t.get.1 ∧ t.get.1.settled := by
  obtain ⟨hw, hd, hp, l, t0, hb, hsh⟩ := h
  obtain ⟨_, _, gw, gd, gs⟩ := It.get_spec t hw
  have gk := get_keeps P hg hn hr t
  exact ⟨⟨gw, by rw [gd, hd], gk.2 hp, l, t0, hb, gk.1.trans hsh⟩, gs⟩

theorem invN_next (t : It σ) (h : InvN P t) (hs : t.settled) : InvN P t.next := by
  obtain ⟨hw, hd, hp, l, t0, hb, hsh⟩ := h
  obtain ⟨_, nw, nd⟩ := It.next_spec t hw hs
  have nk := next_keeps P hg hn hr t
  exact ⟨nw, by rw [nd, hd], nk.2 hp, l, t0, hb, nk.1.trans hsh⟩

theorem invN_release (t : It σ) (h : InvN P t) : InvN P t.release := by
  obtain ⟨hw, hd, hp, l, t0, hb, hsh⟩ := h
  obtain ⟨_, rw', rd, _⟩ := It.release_spec t hw
  have rk := release_keeps P hg hn hr t
  exact ⟨rw', by rw [rd, hd], rk.2 hp, l, t0, hb, rk.1.trans hsh⟩

theorem qf_getLoop : ∀ (n : Nat) (f : FSrc (It σ)), InvN P f.inner → InvN P (FSrc.getLoop n f).1.inner := by
  intro n
  induction n with
  | zero => intro f h; simpa [FSrc.getLoop] using h
  | succ n ih =>
    intro f h
    rw [FSrc.getLoop]
    by_cases hv : f.valid = true
    · simp only [hv, if_true]; exact h
    · simp only [hv, Bool.false_eq_true, if_false]
      obtain ⟨gi, gs⟩ := invN_get P refresh hg hn hr hre f.inner h
      have e : Source.get f.inner = f.inner.get := rfl
      rw [e]
      generalize f.inner.get = res at gi gs
      obtain ⟨i', r⟩ := res
      simp only at gi gs
      cases r with
      | none => exact gi
      | some ev =>
        simp only
        by_cases hp : f.p ev = true
        · simp only [hp, if_true]; exact gi
        · simp only [hp, Bool.false_eq_true, if_false]
          exact ih _ (invN_next P refresh hg hn hr hre i' gi gs)

/-- **paging over a filtered merged cursor of any number of sources**: the concatenated pages are the first Σ limits events
of the FILTER of the merged stream -/
theorem pagesF_spec (steps : List (Bool × Nat)) (f : FSrc (It σ)) (h : QF P f) :
    (pagesS (refreshF refresh) f steps).flatten = ((f.inner.view).filter f.p).take (steps.map (·.2)).sum := by
  have := pagesS_spec (QF P) (refreshF refresh) (fun s hs => hs.2)
    (fun s hs => ⟨qf_getLoop P refresh hg hn hr hre _ s hs.1, (LawfulSource.get_spec s hs.2).2.2.1⟩)
    (fun s hs hset => ⟨invN_next P refresh hg hn hr hre s.inner hs.1 hset.1, (LawfulSource.next_spec s hs.2 hset).2.1⟩)
    (fun s hs => ⟨invN_release P refresh hg hn hr hre s.inner hs.1, (LawfulSource.release_spec s hs.2).2.1⟩)
    (fun s hs => by
      obtain ⟨ri, rv⟩ := resumeN_keeps P refresh hg hn hr hre true s.inner hs.1
      refine ⟨⟨ri, ⟨ri.1, by intro h; cases h⟩⟩, ?_⟩
      show (It.view (resumeN refresh true s.inner)).filter s.p = (It.view s.inner).filter s.p
      rw [rv]) steps f h
  exact this

end filtered
end Logrange.MergeN

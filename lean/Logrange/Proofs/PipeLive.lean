import Logrange.Proofs.PipeLts
/-!
# Lemmas for C11's pipe-worker clause: a worker that is finishing and a write notification, in either order

`workerDone` (sign off, then check for more data) and `onWriteEvent` (record the notified end, then `startWorker`) are two
critical sections of the pipe's lock; whichever runs first, the second one starts the worker for the late event.
-/
namespace Logrange.PipeLts
open Logrange.PipeLts

/-- one source replaced -/
def setSrc (st : State) (s : Nat) (σ : SrcSt) : State := { st with srcs := upd st.srcs s σ }
/-- the notificator took the head of the channel (and filled the cache) -/
def popChan (st : State) (rest : List WE) (c : Nat → Option Bool) : State := { st with chan := rest, cache := c }

/-- the descriptor after the late notification was recorded and a worker was charged for it -/
def rearmed (d : Desc) (we : WE) : Desc := { d with lastKnown := we.endPos, charged := true, stale := false }

/-- `pipesForSource` looks at the pipe, the cache and the source's tags only -/
theorem pipesForSource_congr (st st' : State) (s : Nat) (h1 : st'.pipe = st.pipe) (h2 : st'.others = st.others)
    (h3 : st'.cache = st.cache) (h4 : (st'.srcs s).listens = (st.srcs s).listens) :
    pipesForSource st' s = pipesForSource st s := by
  unfold pipesForSource
  rw [h1, h2, h3, h4]

/-- **notification first, then `workerDone`** -/
theorem notify_then_done (cfg : Cfg) (st : State) (s : Nat) (d : Desc) (we : WE) (rest : List WE)
    (hre : cfg.rearm = true) (hns : noStart cfg st = false) (hdn : st.down = false)
    (hch : st.chan = we :: rest) (hsrc : we.src = s) (hhit : (pipesForSource st s).1 = true)
    (hd : (st.srcs s).desc = some d) (hw : (st.srcs s).wk = .finishing) (hc : d.charged = true)
    (hlt : d.pos < we.endPos) :
    let st' := run cfg st [.notify, .wdone s]
    (st'.srcs s).wk = .starting ∧ (st'.srcs s).desc = some (rearmed d we) ∧ st'.chan = rest ∧ st'.dest = st.dest ∧
    (st'.srcs s).log = (st.srcs s).log ∧ st'.pipe = st.pipe ∧ st'.closed = st.closed ∧ st'.flt = st.flt ∧
    (st'.srcs s).prov = (st.srcs s).prov := by
  have hcl : st.closed = false := by
    simp only [noStart, Bool.or_eq_false_iff] at hns; exact hns.1
  subst hsrc
  have hpf : pipesForSource st we.src = (true, (pipesForSource st we.src).2) := Prod.ext hhit rfl
  -- the notification: charged, so no worker is started; the end position is recorded
  have h1 : step cfg st .notify = some (popChan (setSrc st we.src { st.srcs we.src with desc := some { d with lastKnown := we.endPos } }) rest (pipesForSource st we.src).2) := by
    simp only [step, hdn, hcl, hch, Bool.or_self, Bool.false_eq_true, if_false]
    rw [hpf]
    simp only [if_true, onWriteEvent, hd, startWorker, hc, hns]
    simp [popChan, setSrc, hcl, hdn]
  -- `workerDone`: signs off, re-checks, starts the worker
  simp only [run, h1]
  have hns' : noStart cfg (popChan (setSrc st we.src { st.srcs we.src with desc := some { d with lastKnown := we.endPos } }) rest (pipesForSource st we.src).2) = false := hns
  have h2 : step cfg (popChan (setSrc st we.src { st.srcs we.src with desc := some { d with lastKnown := we.endPos } }) rest (pipesForSource st we.src).2) (.wdone we.src)
      = some (popChan (setSrc st we.src { st.srcs we.src with desc := some (rearmed d we), wk := .starting }) rest (pipesForSource st we.src).2) := by
    simp only [step, hns']
    simp only [popChan, setSrc, upd_self, hw, hre, if_true, startWorker]
    simp [hlt, rearmed, upd_upd, hc]
  simp only [h2]
  simp [popChan, setSrc, upd_self]

/-- the source after `workerDone` (sign off, re-check) -/
def doneSrc (σ : SrcSt) (d : Desc) : SrcSt :=
  { σ with desc := some (if d.pos < d.lastKnown then { d with charged := true, stale := false } else { d with charged := false }),
           wk := (if d.pos < d.lastKnown then .starting else .none) }

theorem step_wdone (cfg : Cfg) (st : State) (s : Nat) (d : Desc) (hre : cfg.rearm = true) (hns : noStart cfg st = false)
    (hd : (st.srcs s).desc = some d) (hw : (st.srcs s).wk = .finishing) :
    step cfg st (.wdone s) = some (setSrc st s (doneSrc (st.srcs s) d)) := by
  simp only [step, hw, hd, hre, if_true, hns, startWorker]
  by_cases hk : d.pos < d.lastKnown <;> simp [hk, setSrc, doneSrc]

/-- **`workerDone` first, then the notification** -/
theorem done_then_notify (cfg : Cfg) (st : State) (s : Nat) (d : Desc) (we : WE) (rest : List WE)
    (hre : cfg.rearm = true) (hns : noStart cfg st = false) (hdn : st.down = false)
    (hch : st.chan = we :: rest) (hsrc : we.src = s) (hhit : (pipesForSource st s).1 = true)
    (hd : (st.srcs s).desc = some d) (hw : (st.srcs s).wk = .finishing) (hc : d.charged = true)
    (hlt : d.pos < we.endPos) :
    let st' := run cfg st [.wdone s, .notify]
    (st'.srcs s).wk = .starting ∧ (st'.srcs s).desc = some (rearmed d we) ∧ st'.chan = rest ∧ st'.dest = st.dest ∧
    (st'.srcs s).log = (st.srcs s).log ∧ st'.pipe = st.pipe ∧ st'.closed = st.closed ∧ st'.flt = st.flt ∧
    (st'.srcs s).prov = (st.srcs s).prov := by
  have hcl : st.closed = false := by
    simp only [noStart, Bool.or_eq_false_iff] at hns; exact hns.1
  subst hsrc
  -- the notification finds the descriptor as `workerDone` left it: charged again (data was known to be behind) or not
  have hfin : ∀ σ' : SrcSt, σ'.listens = (st.srcs we.src).listens →
      σ'.desc = some (if d.pos < d.lastKnown then { d with charged := true, stale := false } else { d with charged := false }) →
      σ'.wk = (if d.pos < d.lastKnown then .starting else .none) →
      step cfg (setSrc st we.src σ') .notify
        = some (popChan (setSrc st we.src { σ' with desc := some (rearmed d we), wk := .starting }) rest (pipesForSource st we.src).2) := by
    intro σ' hl hd' hw'
    have hpf : pipesForSource (setSrc st we.src σ') we.src = (true, (pipesForSource st we.src).2) := by
      have hcg := pipesForSource_congr st (setSrc st we.src σ') we.src rfl rfl rfl (by simp [setSrc, hl])
      rw [hcg]; exact Prod.ext hhit rfl
    have hns' : noStart cfg (setSrc st we.src σ') = false := hns
    have hdn' : (setSrc st we.src σ').down = false := hdn
    have hcl' : (setSrc st we.src σ').closed = false := hcl
    have hch' : (setSrc st we.src σ').chan = we :: rest := hch
    simp only [step, hdn', hcl', hch', Bool.or_self, Bool.false_eq_true, if_false]
    rw [hpf]
    simp only [if_true, onWriteEvent, hns']
    have hsrc : (setSrc st we.src σ').srcs we.src = σ' := by simp [setSrc]
    rw [hsrc, hd']
    by_cases hk : d.pos < d.lastKnown
    · simp only [hk, if_true, startWorker]
      simp [popChan, setSrc, rearmed, upd_upd, hw', hk, hcl, hdn]
    · simp only [hk, if_false, startWorker]
      simp [popChan, setSrc, rearmed, upd_upd, hlt, hcl, hdn]
  simp only [run, step_wdone cfg st we.src d hre hns hd hw, hfin (doneSrc (st.srcs we.src) d) rfl rfl rfl]
  simp [popChan, setSrc, upd_self, doneSrc]

/-- the started worker's first round: open the cursor at `Pos`, copy what it sees (up to `k` records), save the position -/
theorem starting_worker_round (cfg : Cfg) (st : State) (s k : Nat) (d : Desc)
    (hw : (st.srcs s).wk = .starting) (hd : (st.srcs s).desc = some d) (hcl : st.closed = false) (hlive : st.pipe = .live) :
    let st' := run cfg st [.wopen s, .wcopy s k, .wsave s]
    let c' := min (d.pos + k) (st.srcs s).log.length
    (st'.srcs s).desc = some { d with pos := c' } ∧ (st'.srcs s).wk = .opened c' ∧
    st'.dest = st.dest ++ (sel cfg st.flt (slice (st.srcs s).log d.pos c')).map (fun e => (s, addProv (st.srcs s).prov e)) ∧
    (st'.srcs s).log = (st.srcs s).log ∧ st'.chan = st.chan := by
  have h1 : step cfg st (.wopen s) = some (setSrc st s { st.srcs s with wk := .opened d.pos }) := by
    simp only [step, hw, hd, setSrc]
  simp only [run, h1]
  simp only [step, setSrc, upd_self, hcl, hlive, hd]
  simp [upd]

/-! ### the write and its publication are independent of `workerDone` -/

theorem run_cons_some (cfg : Cfg) (st st' : State) (l : Label) (ls : List Label) (h : step cfg st l = some st') :
    run cfg st (l :: ls) = run cfg st' ls := by
  simp only [run, h]

/-- the late write as one record: the state after `write s batch; enqueue 0` from a state with nothing unpublished -/
def published (st : State) (s : Nat) (σ : SrcSt) (batch : List Ev) : State :=
  { setSrc st s { σ with log := σ.log ++ batch } with
    pend := [], chan := st.chan ++ [⟨s, σ.log.length, σ.log.length + batch.length⟩] }

def stored (st : State) (s : Nat) (σ : SrcSt) (batch : List Ev) : State :=
  { setSrc st s { σ with log := σ.log ++ batch } with pend := [⟨s, σ.log.length, σ.log.length + batch.length⟩] }

theorem step_write0 (cfg : Cfg) (st : State) (s : Nat) (batch : List Ev) (hdn : st.down = false) (hs : s < st.n)
    (hb : batch.isEmpty = false) (hpend : st.pend = []) :
    step cfg st (.write s batch) = some (stored st s (st.srcs s) batch) := by
  have hn : ¬ st.n ≤ s := by omega
  simp [step, hdn, hn, hb, setSrc, stored, hpend]

theorem step_enqueue0 (cfg : Cfg) (st : State) (s : Nat) (σ : SrcSt) (batch : List Ev) (hdn : st.down = false)
    (hcap : st.chan.length < cfg.chanCap) :
    step cfg (stored st s σ batch) (.enqueue 0) = some (published st s σ batch) := by
  have hcap' : ¬ cfg.chanCap ≤ st.chan.length := by omega
  simp [step, stored, published, setSrc, hdn, hcap']

/-- **`workerDone` commutes with the late write and with its publication**: the three prefixes in which `wdone` comes
before the notification end in the same state — the write stored and published, the worker signed off. -/
theorem done_commutes_with_write_and_publication (cfg : Cfg) (st : State) (s : Nat) (d : Desc) (batch : List Ev)
    (hre : cfg.rearm = true) (hns : noStart cfg st = false) (hdn : st.down = false) (hs : s < st.n)
    (hb : batch.isEmpty = false) (hpend : st.pend = []) (hcap : st.chan.length < cfg.chanCap)
    (hd : (st.srcs s).desc = some d) (hw : (st.srcs s).wk = .finishing) :
    run cfg st [.wdone s, .write s batch, .enqueue 0] = run cfg st [.write s batch, .enqueue 0, .wdone s] ∧
    run cfg st [.write s batch, .wdone s, .enqueue 0] = run cfg st [.write s batch, .enqueue 0, .wdone s] := by
  have hD := step_wdone cfg st s d hre hns hd hw
  have hW := step_write0 cfg st s batch hdn hs hb hpend
  have hE := step_enqueue0 cfg st s (st.srcs s) batch hdn hcap
  -- W E D
  have hD3 := step_wdone cfg (published st s (st.srcs s) batch) s d hre hns
    (by simp [published, setSrc, hd]) (by simp [published, setSrc, hw])
  have hWED : run cfg st [.write s batch, .enqueue 0, .wdone s]
      = setSrc (published st s (st.srcs s) batch) s (doneSrc ((published st s (st.srcs s) batch).srcs s) d) := by
    rw [run_cons_some _ _ _ _ _ hW, run_cons_some _ _ _ _ _ hE, run_cons_some _ _ _ _ _ hD3]; rfl
  -- D W E
  have hW1 := step_write0 cfg (setSrc st s (doneSrc (st.srcs s) d)) s batch hdn hs hb hpend
  have hE1 := step_enqueue0 cfg (setSrc st s (doneSrc (st.srcs s) d)) s ((setSrc st s (doneSrc (st.srcs s) d)).srcs s) batch hdn hcap
  have hDWE : run cfg st [.wdone s, .write s batch, .enqueue 0]
      = published (setSrc st s (doneSrc (st.srcs s) d)) s ((setSrc st s (doneSrc (st.srcs s) d)).srcs s) batch := by
    rw [run_cons_some _ _ _ _ _ hD, run_cons_some _ _ _ _ _ hW1, run_cons_some _ _ _ _ _ hE1]; rfl
  -- W D E
  have hD2 := step_wdone cfg (stored st s (st.srcs s) batch) s d hre hns
    (by simp [stored, setSrc, hd]) (by simp [stored, setSrc, hw])
  have hE2 : step cfg (setSrc (stored st s (st.srcs s) batch) s (doneSrc ((stored st s (st.srcs s) batch).srcs s) d)) (.enqueue 0)
      = some { setSrc (stored st s (st.srcs s) batch) s (doneSrc ((stored st s (st.srcs s) batch).srcs s) d) with
          pend := [], chan := st.chan ++ [⟨s, (st.srcs s).log.length, (st.srcs s).log.length + batch.length⟩] } := by
    have hcap' : ¬ cfg.chanCap ≤ st.chan.length := by omega
    simp [step, stored, setSrc, hdn, hcap']
  have hWDE : run cfg st [.write s batch, .wdone s, .enqueue 0]
      = { setSrc (stored st s (st.srcs s) batch) s (doneSrc ((stored st s (st.srcs s) batch).srcs s) d) with
          pend := [], chan := st.chan ++ [⟨s, (st.srcs s).log.length, (st.srcs s).log.length + batch.length⟩] } := by
    rw [run_cons_some _ _ _ _ _ hW, run_cons_some _ _ _ _ _ hD2, run_cons_some _ _ _ _ _ hE2]; rfl
  constructor
  · rw [hDWE, hWED]
    exact state_ext' _ _ rfl (by simp [published, setSrc, doneSrc, upd_upd]) rfl (by simp [published, setSrc, doneSrc]) rfl rfl rfl rfl
      rfl rfl rfl rfl
  · rw [hWDE, hWED]
    exact state_ext' _ _ rfl (by simp [published, stored, setSrc, doneSrc, upd_upd]) rfl rfl rfl rfl rfl rfl rfl rfl rfl rfl

end Logrange.PipeLts

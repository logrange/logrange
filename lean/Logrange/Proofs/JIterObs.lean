import Logrange.Model.JIterObs
/-! # The tailing reader on the last chunk never skips when every end-of-data step sees one count (`Model/JIterObs.lean`, `Tail`) -/
namespace Logrange.JIterObs.Tail

/-- confirmed counts only grow -/
def Mono (obs : Nat → Nat) : Prop := ∀ a b, a ≤ b → obs a ≤ obs b

/-- what has been handed to the reader is exactly the first `pos` records, in order, and `pos` never exceeds a count
that has been observed -/
structure RInv (obs : Nat → Nat) (r : Run) : Prop where
  pos : r.s.pos = r.delivered.length
  pre : r.delivered = List.range r.delivered.length
  bound : r.s.pos = 0 ∨ ∃ k, k < r.s.reads ∧ r.s.pos ≤ obs k

theorem init_inv (obs : Nat → Nat) : RInv obs {} := ⟨rfl, rfl, Or.inl rfl⟩

theorem get_opened_lt (obs : Nat → Nat) (p rd : Nat) (h : p < obs rd) :
    get obs { pos := p, opened := true, reads := rd } = ({ pos := p, opened := true, reads := rd + 1 }, some p, none) := by
  simp [get, ensPos, ensReads, h]

theorem next_opened_lt (obs : Nat → Nat) (p rd : Nat) (h1 : p < obs rd) (h2 : p < obs (rd + 1)) :
    next obs { pos := p, opened := true, reads := rd } = { pos := p + 1, opened := true, reads := rd + 1 + 1 } := by
  simp [next, get_opened_lt obs p rd h1, h2]

theorem step_stable (obs : Nat → Nat) (r : Run) (h : (step obs r).stable = true) : r.stable = true := by
  unfold step at h
  generalize get obs r.s = g at h
  obtain ⟨s1, rec, eo⟩ := g
  cases rec <;> simp at h <;> exact h.1

theorem step_inv (obs : Nat → Nat) (hm : Mono obs) (r : Run) (hi : RInv obs r) (hs : (step obs r).stable = true) :
    RInv obs (step obs r) := by
  obtain ⟨hpos, hpre, hb⟩ := hi
  -- ensureChkIt leaves the position where it was: it never exceeds an observed count
  have hp : ensPos obs r.s = r.s.pos := by
    unfold ensPos
    split
    · rfl
    · split
      · rename_i h0; exact h0.symm
      · rename_i h0
        rcases hb with hb | ⟨k, hk, hle⟩
        · exact absurd hb h0
        · exact Nat.min_eq_left (Nat.le_trans hle (hm k r.s.reads (Nat.le_of_lt hk)))
  have hr : r.s.reads ≤ ensReads r.s := by
    unfold ensReads
    split
    · exact Nat.le_refl _
    · split
      · exact Nat.le_refl _
      · exact Nat.le_succ _
  have hb' : r.s.pos = 0 ∨ r.s.pos ≤ obs (ensReads r.s) := by
    rcases hb with hb | ⟨k, hk, hle⟩
    · exact Or.inl hb
    · exact Or.inr (Nat.le_trans hle (hm k (ensReads r.s) (Nat.le_trans (Nat.le_of_lt hk) hr)))
  by_cases hlt : r.s.pos < obs (ensReads r.s)
  · -- a record: Get, then Next (its own Get and the chunk iterator's Next each read the count once more)
    have hl1 : r.s.pos < obs (ensReads r.s + 1) := Nat.lt_of_lt_of_le hlt (hm _ _ (Nat.le_succ _))
    have hl2 : r.s.pos < obs (ensReads r.s + 1 + 1) := Nat.lt_of_lt_of_le hl1 (hm _ _ (Nat.le_succ _))
    have hg : get obs r.s = ({ pos := r.s.pos, opened := true, reads := ensReads r.s + 1 }, some r.s.pos, none) := by
      simp only [get, hp, hlt, ↓reduceIte]
    have hn := next_opened_lt obs r.s.pos (ensReads r.s + 1) hl1 hl2
    have e : step obs r = { s := { pos := r.s.pos + 1, opened := true, reads := ensReads r.s + 1 + 1 + 1 },
                            delivered := r.delivered ++ [r.s.pos], stable := r.stable } := by
      simp only [step, hg, hn, Bool.and_true]
    rw [e]
    refine ⟨by simp [hpos], ?_, Or.inr ⟨ensReads r.s, Nat.lt_succ_of_le (Nat.le_succ_of_le (Nat.le_succ _)), hlt⟩⟩
    simp only [List.length_append, List.length_cons, List.length_nil]
    rw [List.range_succ, ← hpre, hpos]
  · -- end of data: the position is rebuilt from the second observation, which equals the first
    have e : step obs r = { s := { pos := obs (ensReads r.s + 1), opened := false, reads := ensReads r.s + 2 },
                            delivered := r.delivered,
                            stable := r.stable && (obs (ensReads r.s) == obs (ensReads r.s + 1)) } := by
      simp only [step, get, hp, hlt, ↓reduceIte]
    rw [e] at hs ⊢
    have hc : obs (ensReads r.s) = obs (ensReads r.s + 1) := by
      simp at hs; exact hs.2
    refine ⟨?_, hpre, Or.inr ⟨ensReads r.s + 1, by simp, by simp⟩⟩
    show obs (ensReads r.s + 1) = r.delivered.length
    have hle : r.s.pos ≤ obs (ensReads r.s) := hb'.elim (fun h0 => h0 ▸ Nat.zero_le _) id
    exact hc.symm.trans ((Nat.le_antisymm (Nat.le_of_not_lt hlt) hle).trans hpos)

theorem run_stable (obs : Nat → Nat) : ∀ (n : Nat) (r : Run), (run obs n r).stable = true → r.stable = true := by
  intro n
  induction n with
  | zero => intro r h; exact h
  | succ n ih => intro r h; exact step_stable obs r (ih (step obs r) h)

theorem run_inv (obs : Nat → Nat) (hm : Mono obs) : ∀ (n : Nat) (r : Run), RInv obs r → (run obs n r).stable = true →
    RInv obs (run obs n r) := by
  intro n
  induction n with
  | zero => intro r hi _; exact hi
  | succ n ih =>
    intro r hi hs
    exact ih (step obs r) (step_inv obs hm r hi (run_stable obs n (step obs r) hs)) hs

end Logrange.JIterObs.Tail

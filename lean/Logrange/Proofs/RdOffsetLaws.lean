import Logrange.Proofs.RdPaging
/-!
Offset laws for a one-source cursor (C16), on top of the flat abstraction of `RdPaging.lean`.
Forward part: `head + k`.
-/
set_option linter.unusedSectionVars false
set_option linter.unusedVariables false
namespace Logrange.Rd

/-- A `let (a, b) := x` in a goal blocks on `x`: looking for a `Decidable` instance, or splitting, evaluates `x` in the
elaborator. Rewriting with this first leaves projections, and the evaluation to the kernel. -/
theorem pair_match {α β : Type} {γ : Sort u} (f : α → β → γ) (x : α × β) :
    (match x with | (a, b) => f a b) = f x.1 x.2 := rfl

section fwd
variable (HG : GetFwdSpec) (HN : NextFwdSpec)
include HG HN

/-- **head + k**: after `Offset(+k)` from any forward state the remaining output is the old one without its
first `k` events -/
theorem of_offset_pos {name j w sy c i} (hs : Sorted j) (k : Nat) (h : Abs name j w sy c i) :
    ∃ i', Abs name j w sy (offset c (k : Int)) i' ∧ FL j w i' = (FL j w i).drop k :=
  (of_delivers HG HN hs).offset_pos k ⟨i, h, rfl⟩

end fwd
end Logrange.Rd

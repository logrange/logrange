import Logrange.Model.PipeRead
import Logrange.Proofs.PartScan
/-! The stateful ranged iterator of the pipeline model (`RangedIter.scan`: `getStatus`/`rebuildStatuses`,
`getPosForward`, `ensure`, `advance`, `itGet`, `itNext`, `curGet`/`curNext`) delivers, for a fresh forward cursor without
paging, exactly the abstract scan `PipeRead.absScan`. -/
set_option linter.unusedSimpArgs false
set_option linter.unusedVariables false
namespace Logrange.PipeScan
open Logrange Selector

/-- a fresh cursor on a journal whose chunk ids are 10, 20, 30, … (dense ids × 10, as the pipeline model has them) -/
structure Fresh (s : RangedIter.St) : Prop where
  stats : s.stats = []
  ci : s.ci = none
  cst : s.cst = none
  cid : s.cid = 0
  idx : s.idx = 0
  fwd : s.bkwd = false
  fValid : s.fValid = false
  ids : ∀ i (h : i < s.cks.size), (s.cks[i]).id = 10 * (i + 1)
  tssSize : s.tss.size = s.cks.size

/-- number of records of the journal -/
def total (s : RangedIter.St) : Nat := (s.cks.toList.map (·.cnt)).sum

/-! ## 1. `syncChunks`, `updatePoss`, `rebuildStatuses` -/

theorem syncChunks_eq (s : RangedIter.St) : ∃ c, RangedIter.syncChunks s = { s with cidx := c } := by
  have f1 : Generated.C02.syncChunksDropsStaleEntries = true := by decide
  unfold RangedIter.syncChunks
  simp only [f1, if_true]
  split <;> exact ⟨_, rfl⟩

theorem syncChunks_fields (s : RangedIter.St) :
    (RangedIter.syncChunks s).cks = s.cks ∧ (RangedIter.syncChunks s).tss = s.tss ∧
    (RangedIter.syncChunks s).rmin = s.rmin ∧ (RangedIter.syncChunks s).rmax = s.rmax ∧
    (RangedIter.syncChunks s).bkwd = s.bkwd := by
  obtain ⟨c, e⟩ := syncChunks_eq s
  rw [e]
  exact ⟨rfl, rfl, rfl, rfl, rfl⟩

theorem updatePossWith_count (rmin rmax hmin hmax : Int) (g l : Int → CIndex.Ans) (st : ChkSt) :
    (updatePossWith rmin rmax hmin hmax g l st).1.count = st.count := by
  unfold updatePossWith
  split
  · rfl
  · simp only []

theorem updatePoss_count (s : RangedIter.St) (cid : Nat) (st : ChkSt) :
    (RangedIter.updatePoss s cid st).1.count = st.count := by
  unfold RangedIter.updatePoss
  split
  · split <;> rfl
  · split
    · rfl
    · exact updatePossWith_count ..

/-- the status a rebuild gives a chunk -/
def stFn (s : RangedIter.St) (c : JChunk) : ChkSt :=
  (RangedIter.updatePoss (RangedIter.syncChunks s) c.id
    { ((((RangedIter.syncChunks s).stats.find? (·.1 == c.id)).map (·.2)).getD {}) with count := c.cnt }).1

theorem stFn_count (s : RangedIter.St) (c : JChunk) : (stFn s c).count = c.cnt := by
  unfold stFn
  rw [updatePoss_count]

theorem stats_fold (s : RangedIter.St) : ∀ (L : List JChunk) (acc : List (Nat × ChkSt) × Nat),
    (L.foldl (fun (acc : List (Nat × ChkSt) × Nat) c =>
      let old := ((s.stats.find? (·.1 == c.id)).map (·.2)).getD {}
      let (st, k) := RangedIter.updatePoss s c.id { old with count := c.cnt }
      (acc.1 ++ [(c.id, st)], acc.2 + k)) acc).1 =
    acc.1 ++ L.map (fun c => (c.id, (RangedIter.updatePoss s c.id
      { (((s.stats.find? (·.1 == c.id)).map (·.2)).getD {}) with count := c.cnt }).1)) := by
  intro L
  induction L with
  | nil => intro acc; simp
  | cons c r ih =>
    intro acc
    rw [List.foldl_cons, ih]
    simp

theorem rebuild_stats (s : RangedIter.St) :
    (RangedIter.rebuildStatuses s).stats = s.cks.toList.map (fun c => (c.id, stFn s c)) := by
  unfold RangedIter.rebuildStatuses
  simp only []
  rw [← Array.foldl_toList]
  have := stats_fold (RangedIter.syncChunks s) (RangedIter.syncChunks s).cks.toList ([], 0)
  simp only [List.nil_append] at this
  rw [this, (syncChunks_fields s).1]
  rfl

theorem rebuild_fields (s : RangedIter.St) :
    (RangedIter.rebuildStatuses s).cks = s.cks ∧ (RangedIter.rebuildStatuses s).tss = s.tss ∧
    (RangedIter.rebuildStatuses s).rmin = s.rmin ∧ (RangedIter.rebuildStatuses s).rmax = s.rmax ∧
    (RangedIter.rebuildStatuses s).bkwd = s.bkwd := by
  unfold RangedIter.rebuildStatuses
  simp only []
  exact syncChunks_fields s

/-! ## 2. states whose statuses exist -/

/-- status of the `k`-th chunk for a fresh selector on `s0` -/
def stOf (s0 : RangedIter.St) (k : Nat) : ChkSt := ((PipeRead.statuses s0)[k]?).getD {}

theorem statuses_eq (s0 : RangedIter.St) : PipeRead.statuses s0 = s0.cks.toList.map (stFn s0) := by
  unfold PipeRead.statuses
  rw [rebuild_stats, List.map_map]
  rfl

theorem statuses_length (s0 : RangedIter.St) : (PipeRead.statuses s0).length = s0.cks.size := by
  rw [statuses_eq]; simp

theorem stOf_eq (s0 : RangedIter.St) (k : Nat) (h : k < s0.cks.size) : stOf s0 k = stFn s0 (s0.cks[k]) := by
  unfold stOf
  rw [statuses_eq]
  simp [h]

theorem stOf_count (s0 : RangedIter.St) (k : Nat) (h : k < s0.cks.size) : (stOf s0 k).count = (s0.cks[k]).cnt := by
  rw [stOf_eq s0 k h, stFn_count]

/-- a state whose statuses exist (and that is otherwise the journal of `s0`) -/
structure Ready (s0 s : RangedIter.St) : Prop where
  cks : s.cks = s0.cks
  tss : s.tss = s0.tss
  rmin : s.rmin = s0.rmin
  rmax : s.rmax = s0.rmax
  stats : s.stats = (RangedIter.rebuildStatuses s0).stats
  bkwd : s.bkwd = false

theorem ready_rebuild {s0 : RangedIter.St} (hf : Fresh s0) : Ready s0 (RangedIter.rebuildStatuses s0) := by
  have h := rebuild_fields s0
  exact ⟨h.1, h.2.1, h.2.2.1, h.2.2.2.1, rfl, by rw [h.2.2.2.2]; exact hf.fwd⟩

theorem cntOfS_eq {s0 s : RangedIter.St} (hf : Fresh s0) (hc : s.cks = s0.cks) (k : Nat) (h : k < s0.cks.size) :
    RangedIter.cntOfS s (10 * (k + 1)) = (s0.cks[k]).cnt := by
  unfold RangedIter.cntOfS
  have e : 10 * (k + 1) / 10 - 1 = k := by omega
  rw [e, hc]
  simp [h, hf.ids k h]

theorem find_stat {s0 : RangedIter.St} (hf : Fresh s0) (k : Nat) (h : k < s0.cks.size) :
    (RangedIter.rebuildStatuses s0).stats.find? (·.1 == 10 * (k + 1)) = some (10 * (k + 1), stOf s0 k) := by
  rw [rebuild_stats, stOf_eq s0 k h, List.find?_eq_some_iff_getElem]
  refine ⟨by simp, k, by simpa using h, by simp [hf.ids k h], fun j hj => ?_⟩
  have := hf.ids j (by omega)
  simp [this]; omega

theorem getStatus_ready {s0 s : RangedIter.St} (hf : Fresh s0) (hr : Ready s0 s) (k : Nat) (h : k < s0.cks.size) :
    RangedIter.getStatus s (10 * (k + 1)) = (s, stOf s0 k) := by
  unfold RangedIter.getStatus
  simp only [hr.stats, find_stat hf k h]
  have h1 : s.cks.size = (RangedIter.rebuildStatuses s0).stats.length := by
    rw [rebuild_stats, hr.cks]; simp
  have h2 : (stOf s0 k).count = RangedIter.cntOfS s (10 * (k + 1)) := by
    rw [cntOfS_eq hf hr.cks k h, stOf_count s0 k h]
  simp [h1, h2]

theorem getStatus_fresh {s0 : RangedIter.St} (hf : Fresh s0) (k : Nat) (h : k < s0.cks.size) :
    RangedIter.getStatus s0 (10 * (k + 1)) = (RangedIter.rebuildStatuses s0, stOf s0 k) := by
  rw [RangedIter.getStatus, hf.stats, List.find?_nil]
  simp only [find_stat hf k h, Option.map_some, Option.getD_some]

/-! ## 3. the abstract side: what remains to be delivered -/

/-- positions of a chunk's window from `p` on -/
def win (st : ChkSt) (p : Nat) : List Nat := List.range' p (min st.count (st.maxPos + 1) - p)

/-- the windows of the chunks `j, j+1, …` -/
def JP (s0 : RangedIter.St) (j : Nat) : List (Nat × Nat) :=
  PartScan.journalPositions ((PipeRead.statuses s0).drop j) j

/-- what remains when chunk `k` is open at `p` -/
def rem (s0 : RangedIter.St) (k p : Nat) : List (Nat × Nat) :=
  (win (stOf s0 k) p).map (fun q => (k, q)) ++ JP s0 (k + 1)

theorem JP_end (s0 : RangedIter.St) (j : Nat) (h : s0.cks.size ≤ j) : JP s0 j = [] := by
  unfold JP
  rw [List.drop_eq_nil_of_le (by rw [statuses_length]; exact h)]
  rfl

theorem JP_step (s0 : RangedIter.St) (j : Nat) (h : j < s0.cks.size) : JP s0 j = rem s0 j (stOf s0 j).minPos := by
  unfold JP rem
  have hl : j < (PipeRead.statuses s0).length := by rw [statuses_length]; exact h
  rw [List.drop_eq_getElem_cons hl]
  simp only [PartScan.journalPositions]
  rw [PartScan.windowPositions_eq]
  have : stOf s0 j = (PipeRead.statuses s0)[j] := by unfold stOf; simp [hl]
  rw [this]
  rfl

theorem win_cons (st : ChkSt) (p : Nat) (h1 : p < st.count) (h2 : p ≤ st.maxPos) : win st p = p :: win st (p + 1) := by
  unfold win
  have e : min st.count (st.maxPos + 1) - p = (min st.count (st.maxPos + 1) - (p + 1)) + 1 := by omega
  rw [e, List.range'_succ]

theorem win_nil (st : ChkSt) (p : Nat) (h : p ≥ st.count ∨ p > st.maxPos) : win st p = [] := by
  unfold win
  have e : min st.count (st.maxPos + 1) - p = 0 := by omega
  rw [e]; rfl

theorem rem_cons (s0 : RangedIter.St) (k p : Nat) (h1 : p < (stOf s0 k).count) (h2 : p ≤ (stOf s0 k).maxPos) :
    rem s0 k p = (k, p) :: rem s0 k (p + 1) := by
  rw [rem, rem, win_cons _ _ h1 h2, List.map_cons, List.cons_append]

theorem rem_nil (s0 : RangedIter.St) (k p : Nat) (h : p ≥ (stOf s0 k).count ∨ p > (stOf s0 k).maxPos) :
    rem s0 k p = JP s0 (k + 1) := by
  rw [rem, win_nil _ _ h, List.map_nil, List.nil_append]

/-! ## 4. `getPosForward` -/

theorem getStatus_pre {s0 s : RangedIter.St} (hf : Fresh s0) (hp : s = s0 ∨ Ready s0 s) (k : Nat) (h : k < s0.cks.size) :
    ∃ s1, RangedIter.getStatus s (10 * (k + 1)) = (s1, stOf s0 k) ∧ Ready s0 s1 ∧ (Ready s0 s → s1 = s) := by
  by_cases hr : Ready s0 s
  · exact ⟨s, getStatus_ready hf hr k h, hr, fun _ => rfl⟩
  · rcases hp with hp | hp
    · subst hp
      exact ⟨_, getStatus_fresh hf k h, ready_rebuild hf, fun h => absurd h hr⟩
    · exact absurd hp hr

theorem rem_end (s0 : RangedIter.St) (j p : Nat) (h : s0.cks.size ≤ j) : rem s0 j p = [] := by
  have : stOf s0 j = {} := by
    unfold stOf
    rw [List.getElem?_eq_none (by rw [statuses_length]; exact h)]; rfl
  rw [rem_nil s0 j p (Or.inl (by rw [this]; exact Nat.zero_le _)), JP_end s0 _ (by omega)]

def remAt (s0 : RangedIter.St) (j cid idx : Nat) : List (Nat × Nat) :=
  rem s0 j (max (stOf s0 j).minPos (if cid = 10 * (j + 1) then idx else 0))

theorem remAt_lt (s0 : RangedIter.St) (j cid idx : Nat) (h : cid < 10 * (j + 1)) : remAt s0 j cid idx = JP s0 j := by
  rw [remAt, if_neg (by omega), Nat.max_zero]
  by_cases hj : j < s0.cks.size
  · rw [JP_step s0 j hj]
  · rw [rem_end s0 j _ (by omega), JP_end s0 j (by omega)]

/-- the answer "chunk `k ≥ j` opened at `np` inside its window"; `R` = what remains to be delivered -/
def Found (s0 : RangedIter.St) (j : Nat) (R : List (Nat × Nat)) (r : RangedIter.St × Option Nat × ChkSt × (Nat × Nat)) : Prop :=
  ∃ k np, r.2 = (some (10 * (k + 1)), stOf s0 k, (10 * (k + 1), np)) ∧ Ready s0 r.1 ∧ j ≤ k ∧ k < s0.cks.size ∧
    np < (stOf s0 k).count ∧ (stOf s0 k).minPos ≤ np ∧ np ≤ (stOf s0 k).maxPos ∧ R = rem s0 k np

/-- the answer "end of the data": nothing remains, the position is (last chunk, its count) -/
def NotFound (s0 s : RangedIter.St) (R : List (Nat × Nat)) (r : RangedIter.St × Option Nat × ChkSt × (Nat × Nat)) : Prop :=
  r.2 = (none, {}, (10 * s0.cks.size, (stOf s0 (s0.cks.size - 1)).count)) ∧ R = [] ∧ (Ready s0 s → r.1 = s)

theorem go_spec {s0 : RangedIter.St} (hf : Fresh s0) : ∀ (d j : Nat), j + d = s0.cks.size →
    ∀ (s : RangedIter.St) (fuel pI : Nat) (lastC : JChunk) (lastCnt : Nat), (s = s0 ∨ Ready s0 s) → d + 1 ≤ fuel →
    (j = s0.cks.size → lastC.id = 10 * s0.cks.size ∧ lastCnt = (stOf s0 (s0.cks.size - 1)).count) →
    NotFound s0 s (rem s0 j (max (stOf s0 j).minPos pI))
        (RangedIter.getPosForward.go fuel s (s0.cks.toList.drop j) pI lastC lastCnt) ∨
      Found s0 j (rem s0 j (max (stOf s0 j).minPos pI))
        (RangedIter.getPosForward.go fuel s (s0.cks.toList.drop j) pI lastC lastCnt) := by
  intro d
  induction d with
  | zero =>
    intro j hj s fuel pI lastC lastCnt hp hfu hlast
    obtain ⟨f, rfl⟩ : ∃ f, fuel = f + 1 := ⟨fuel - 1, by omega⟩
    rw [List.drop_eq_nil_of_le (by simp; omega), RangedIter.getPosForward.go]
    obtain ⟨e1, e2⟩ := hlast (by omega)
    exact Or.inl ⟨by rw [e1, e2], rem_end s0 j _ (by omega), fun _ => rfl⟩
  | succ d ih =>
    intro j hj s fuel pI lastC lastCnt hp hfu _
    obtain ⟨f, rfl⟩ : ∃ f, fuel = f + 1 := ⟨fuel - 1, by omega⟩
    have hjs : j < s0.cks.size := by omega
    have hl : j < s0.cks.toList.length := by simpa using hjs
    have hid : (s0.cks.toList[j]).id = 10 * (j + 1) := by simpa using hf.ids j hjs
    obtain ⟨s1, hg, hr1, hs1⟩ := getStatus_pre hf hp j hjs
    rw [List.drop_eq_getElem_cons hl, RangedIter.getPosForward.go, hid, hg]
    simp only []
    rw [PartScan.checkAdvance_eq]
    by_cases hc : max (stOf s0 j).minPos pI ≥ (stOf s0 j).count ∨ max (stOf s0 j).minPos pI > (stOf s0 j).maxPos
    · rw [if_pos hc, rem_nil s0 j _ hc, ← remAt_lt s0 (j + 1) 0 0 (by omega), remAt, if_neg (by omega)]
      simp only [Bool.false_eq_true, if_false]
      rcases ih (j + 1) (by omega) s1 f 0 (s0.cks.toList[j]) (stOf s0 j).count (Or.inr hr1) (by omega)
          (fun h => ⟨by rw [hid, ← h], by rw [← h, Nat.add_sub_cancel]⟩) with ⟨h1, h2, h3⟩ | ⟨k, np, h1, h2, h3, h4⟩
      · exact Or.inl ⟨h1, h2, fun h => by rw [h3 hr1, hs1 h]⟩
      · exact Or.inr ⟨k, np, h1, h2, by omega, h4⟩
    · rw [if_neg hc]
      simp only [if_true]
      exact Or.inr ⟨j, _, rfl, hr1, Nat.le_refl _, hjs, by omega, by omega, by omega, rfl⟩

theorem filter_drop {α : Type} (p : α → Bool) : ∀ (L : List α) (j : Nat),
    (∀ i (h : i < L.length), i < j → p L[i] = false) → (∀ i (h : i < L.length), j ≤ i → p L[i] = true) →
    L.filter p = L.drop j := by
  intro L
  induction L with
  | nil => intro j _ _; simp
  | cons a r ih =>
    intro j h1 h2
    cases j with
    | zero =>
      have : ∀ x ∈ (a :: r), p x = true := by
        intro x hx
        obtain ⟨i, hi, rfl⟩ := List.getElem_of_mem hx
        exact h2 i hi (Nat.zero_le _)
      rw [List.filter_eq_self.mpr this]
      rfl
    | succ j =>
      have h0 := h1 0 (by simp) (by omega)
      simp only [List.getElem_cons_zero] at h0
      rw [List.filter_cons_of_neg (by simp [h0]), List.drop_succ_cons]
      apply ih
      · intro i hi hij
        have := h1 (i + 1) (by simp; omega) (by omega)
        simpa using this
      · intro i hi hij
        have := h2 (i + 1) (by simp; omega) (by omega)
        simpa using this

theorem after_eq {s0 : RangedIter.St} (hf : Fresh s0) (cid j : Nat) (h1 : ∀ i, i < j → 10 * (i + 1) < cid)
    (h2 : cid ≤ 10 * (j + 1)) : s0.cks.toList.filter (fun c => decide (c.id ≥ cid)) = s0.cks.toList.drop j := by
  apply filter_drop
  · intro i hi hij
    have := hf.ids i (by simpa using hi)
    have := h1 i hij
    simp; omega
  · intro i hi hij
    have := hf.ids i (by simpa using hi)
    simp; omega

theorem gpf_spec {s0 s : RangedIter.St} (hf : Fresh s0) (hp : s = s0 ∨ Ready s0 s) (cid idx j : Nat)
    (hj : j ≤ s0.cks.size) (h1 : ∀ i, i < j → 10 * (i + 1) < cid) (h2 : cid ≤ 10 * (j + 1)) :
    NotFound s0 s (remAt s0 j cid idx) (RangedIter.getPosForward s cid idx) ∨
      Found s0 j (remAt s0 j cid idx) (RangedIter.getPosForward s cid idx) := by
  have hck : s.cks = s0.cks := by
    rcases hp with rfl | h
    · rfl
    · exact h.cks
  unfold RangedIter.getPosForward
  simp only [hck]
  by_cases h0 : s0.cks.size = 0
  · have : s0.cks.toList.isEmpty = true := by simp; exact Array.eq_empty_of_size_eq_zero h0
    have hst : stOf s0 0 = {} := by unfold stOf; rw [List.getElem?_eq_none (by rw [statuses_length]; omega)]; rfl
    rw [if_pos this]
    exact Or.inl ⟨by simp [h0, hst], rem_end s0 j _ (by omega), fun _ => rfl⟩
  · have : ¬ s0.cks.toList.isEmpty = true := by
      simp; intro h; rw [h] at h0; simp at h0
    rw [if_neg this, after_eq hf cid j h1 h2]
    by_cases hjs : j = s0.cks.size
    · rw [List.drop_eq_nil_of_le (by simp; omega)]
      simp only []
      have hlast : s0.cks.toList.getLast! = s0.cks[s0.cks.size - 1]'(by omega) := by
        apply List.getLast!_of_getLast?
        rw [List.getLast?_eq_getElem?]
        simp
      refine Or.inl ⟨?_, rem_end s0 j _ (by omega), fun _ => rfl⟩
      rw [hlast, hf.ids _ (by omega), stOf_count s0 _ (by omega), show s0.cks.size - 1 + 1 = s0.cks.size by omega]
    · have hl : j < s0.cks.toList.length := by simp; omega
      have hid : (s0.cks.toList[j]).id = 10 * (j + 1) := by simpa using hf.ids j (by omega)
      have hpI : (if (10 * (j + 1) != cid) = true then 0 else idx) = if cid = 10 * (j + 1) then idx else 0 := by
        by_cases h : cid = 10 * (j + 1)
        · simp [h]
        · simp [h, Ne.symm h]
      rw [List.drop_eq_getElem_cons hl]
      simp only []
      rw [hid, hpI, ← List.drop_eq_getElem_cons hl]
      exact go_spec hf (s0.cks.size - j) j (by omega) s _ _ _ 0 hp (by simp) (fun h => absurd h hjs)

/-! ## 5. the chunk iterator (forward) -/

theorem ciSetPos_open (cnt chunk np : Nat) (h : np ≤ cnt) :
    ciSetPos cnt { chunk := chunk } (np : Int) = { chunk := chunk, pos := (np : Int), cached := false } := by
  unfold ciSetPos
  by_cases h0 : np = 0
  · subst h0; simp
  · have h1 : ¬ ((np : Int) > (cnt : Int)) := by omega
    have h2 : ¬ ((np : Int) < 0) := by omega
    have h3 : ((np : Int) == (0 : Int)) = false := by simp; omega
    simp only [h3, h1, h2, if_false, Bool.false_eq_true]

theorem ciGet_cached (cnt : Nat) (c : CIt) (h : c.cached = true) : ciGet cnt false c = (c, true) := by
  unfold ciGet
  simp [h]

theorem ciGet_in (cnt chunk p : Nat) (h : p < cnt) :
    ciGet cnt false { chunk := chunk, pos := (p : Int), cached := false } =
      ({ chunk := chunk, pos := (p : Int), cached := true }, true) := by
  unfold ciGet
  have h1 : ¬ ((p : Int) < 0) := by omega
  have h2 : ¬ ((p : Int) ≥ (cnt : Int)) := by omega
  simp [h1, h2]

theorem ciGet_out (cnt chunk p : Nat) (h : cnt ≤ p) :
    ciGet cnt false { chunk := chunk, pos := (p : Int), cached := false } =
      ({ chunk := chunk, pos := (p : Int), cached := false }, false) := by
  unfold ciGet
  have h1 : ¬ ((p : Int) < 0) := by omega
  have h2 : ((p : Int) ≥ (cnt : Int)) := by omega
  simp [h1, h2]

theorem ciNext_cached (cnt chunk p : Nat) :
    ciNext cnt false { chunk := chunk, pos := (p : Int), cached := true } =
      { chunk := chunk, pos := ((p + 1 : Nat) : Int), cached := false } := by
  unfold ciNext
  rw [ciGet_cached _ _ rfl]
  simp

/-- chunk `k` is open at position `p` (inside its window) -/
structure OpenAt (s0 s : RangedIter.St) (k p : Nat) (cached : Bool) : Prop where
  ready : Ready s0 s
  hk : k < s0.cks.size
  ci : s.ci = some { chunk := 10 * (k + 1), pos := (p : Int), cached := cached }
  cst : s.cst = some (stOf s0 k)
  cid : s.cid = 10 * (k + 1)
  lo : (stOf s0 k).minPos ≤ p
  hi : p ≤ (stOf s0 k).maxPos

theorem ensure_closed {s0 s : RangedIter.St} (hf : Fresh s0) (hp : s = s0 ∨ Ready s0 s) (hci : s.ci = none)
    (hb : s.bkwd = false) (j : Nat) (hj : j ≤ s0.cks.size) (h1 : ∀ i, i < j → 10 * (i + 1) < s.cid)
    (h2 : s.cid ≤ 10 * (j + 1)) :
    (∃ s', RangedIter.ensure s = (s', true) ∧ remAt s0 j s.cid s.idx = [] ∧
      (Ready s0 s → Ready s0 s' ∧ s'.ci = none ∧ s'.cid = 10 * s0.cks.size ∧
        s'.idx = (stOf s0 (s0.cks.size - 1)).count)) ∨
    (∃ s' k np, RangedIter.ensure s = (s', false) ∧ OpenAt s0 s' k np false ∧ j ≤ k ∧ np < (stOf s0 k).count ∧
      remAt s0 j s.cid s.idx = rem s0 k np) := by
  unfold RangedIter.ensure
  simp only [hci, hb, Bool.false_eq_true, if_false]
  have hgp := gpf_spec hf hp s.cid s.idx j hj h1 h2
  generalize RangedIter.getPosForward s s.cid s.idx = r at hgp ⊢
  obtain ⟨s', r2⟩ := r
  rcases hgp with ⟨hg, hJ, hs⟩ | ⟨k, np, hg, hr, hjk, hk, hn, hlo, hhi, hJ⟩ <;> dsimp only at hg <;> subst hg
  · left
    simp only []
    refine ⟨_, rfl, hJ, fun hrd => ?_⟩
    have e := hs hrd
    dsimp only at e
    rw [e, if_neg (by rw [hb]; simp)]
    exact ⟨⟨hrd.cks, hrd.tss, hrd.rmin, hrd.rmax, hrd.stats, hrd.bkwd⟩, hci, rfl, rfl⟩
  · right
    simp only []
    refine ⟨_, k, np, rfl, ?_, hjk, hn, hJ⟩
    rw [cntOfS_eq hf (by exact hr.cks) k hk, ciSetPos_open _ _ _ (by rw [← stOf_count s0 k hk]; omega)]
    exact ⟨⟨hr.cks, hr.tss, hr.rmin, hr.rmax, hr.stats, hr.bkwd⟩, hk, rfl, rfl, rfl, hlo, hhi⟩

theorem advance_fwd (s : RangedIter.St) (c : CIt) (hci : s.ci = some c) (hb : s.bkwd = false) (hpos : c.pos ≥ 0)
    (r : RangedIter.St × Bool)
    (hr : RangedIter.ensure { s with ci := none, cst := none, cid := s.cid + 1, idx := 0 } = r) :
    RangedIter.advance s =
      (if r.2 = true ∧ r.1.cid = s.cid then ({ r.1 with cid := s.cid, idx := c.pos.toNat }, true) else r) := by
  have g : Generated.C02.advanceChunkKeepsIteratorPos = true := by decide
  subst hr
  cases s with
  | mk cks cidx tss rmin rmax stats rr cid idx ci cst bkwd fv fle =>
  simp only at hci hb
  subst hci hb
  unfold RangedIter.advance
  simp only [hpos, g, if_true, Bool.false_eq_true, if_false, Bool.true_and, Bool.not_false, Bool.and_true]
  generalize RangedIter.ensure _ = r
  cases r with
  | mk a b =>
  cases b <;> simp

/-- the cursor is at the end of the data (position: last chunk, an index its status refuses): every further
`ensure` reports EOF again -/
structure AtEof (s0 s : RangedIter.St) : Prop where
  ready : Ready s0 s
  ci : s.ci = none
  last : ∃ m, s0.cks.size = m + 1 ∧ s.cid = 10 * (m + 1) ∧
    (max (stOf s0 m).minPos s.idx ≥ (stOf s0 m).count ∨ max (stOf s0 m).minPos s.idx > (stOf s0 m).maxPos)

theorem AtEof.eof {s0 s : RangedIter.St} (hf : Fresh s0) (h : AtEof s0 s) : ∃ s', RangedIter.ensure s = (s', true) := by
  obtain ⟨m, hm, hcid, hx⟩ := h.last
  rcases ensure_closed hf (Or.inr h.ready) h.ci h.ready.bkwd m (by omega) (fun i hi => by omega) (by omega) with
    ⟨s', he, _⟩ | ⟨s', k, np, _, ho, _, hn, hR⟩
  · exact ⟨s', he⟩
  · -- the status of the last chunk refuses the index: nothing remains, so nothing can have been opened
    rw [remAt, if_pos hcid, rem_nil s0 m _ hx, JP_end s0 _ (by omega), rem_cons s0 k np hn ho.hi] at hR
    cases hR

theorem advance_spec {s0 s : RangedIter.St} {r : RangedIter.St × Bool} (hA : RangedIter.advance s = r)
    (hf : Fresh s0) (hr : Ready s0 s) (k q : Nat) (cached : Bool)
    (hk : k < s0.cks.size) (hcid : s.cid = 10 * (k + 1))
    (hci : s.ci = some { chunk := 10 * (k + 1), pos := (q : Int), cached := cached })
    (hlo : (stOf s0 k).minPos ≤ q) (hout : q ≥ (stOf s0 k).count ∨ q > (stOf s0 k).maxPos) :
    (∃ s', r = (s', true) ∧ JP s0 (k + 1) = [] ∧ AtEof s0 s') ∨
    (∃ s' k' np, r = (s', false) ∧ OpenAt s0 s' k' np false ∧ np < (stOf s0 k').count ∧
      JP s0 (k + 1) = rem s0 k' np) := by
  subst hA
  have hr1 : Ready s0 { s with ci := none, cst := none, cid := s.cid + 1, idx := 0 } :=
    ⟨hr.cks, hr.tss, hr.rmin, hr.rmax, hr.stats, hr.bkwd⟩
  rcases ensure_closed hf (Or.inr hr1) rfl hr.bkwd (k + 1) (by omega)
      (by intro i hi; show 10 * (i + 1) < s.cid + 1; omega) (by show s.cid + 1 ≤ _; omega) with
    ⟨s', he, hJ, hs⟩ | ⟨s', k', np, he, ho, hkk, hn, hJ⟩
  all_goals rw [remAt_lt s0 (k + 1) _ _ (by show s.cid + 1 < _; omega)] at hJ
  · left
    obtain ⟨hr', hci', hcid', hidx'⟩ := hs hr1
    rw [advance_fwd s _ hci hr.bkwd (by simp) _ he]
    simp only [true_and]
    obtain ⟨m, hm⟩ : ∃ m, s0.cks.size = m + 1 := ⟨s0.cks.size - 1, by omega⟩
    have hm' : s0.cks.size - 1 = m := by omega
    rw [hm'] at hidx'
    by_cases hc : s'.cid = s.cid
    · rw [if_pos hc]
      refine ⟨_, rfl, hJ, ⟨hr'.cks, hr'.tss, hr'.rmin, hr'.rmax, hr'.stats, hr'.bkwd⟩, hci', ?_⟩
      have hkm : k = m := by omega
      subst hkm
      refine ⟨k, hm, hcid, ?_⟩
      show max (stOf s0 k).minPos (Int.toNat (q : Int)) ≥ _ ∨ max (stOf s0 k).minPos (Int.toNat (q : Int)) > _
      rw [Int.toNat_natCast]
      omega
    · rw [if_neg hc]
      refine ⟨_, rfl, hJ, hr', hci', m, hm, by rw [hcid', hm], ?_⟩
      rw [hidx']
      omega
  · right
    rw [advance_fwd s _ hci hr.bkwd (by simp) _ he]
    simp only [Bool.false_eq_true, false_and, if_false]
    exact ⟨s', k', np, rfl, ho, hn, hJ⟩

/-! ## 6. `Get` and `Next` -/

theorem ciGet_open (cnt chunk p : Nat) (cached : Bool) (h : p < cnt) :
    ciGet cnt false { chunk := chunk, pos := (p : Int), cached := cached } =
      ({ chunk := chunk, pos := (p : Int), cached := true }, true) := by
  cases cached
  · exact ciGet_in cnt chunk p h
  · exact ciGet_cached _ _ rfl

theorem loop_in {s0 s : RangedIter.St} (hf : Fresh s0) (k p : Nat) (cached : Bool) (ho : OpenAt s0 s k p cached)
    (hp : p < (stOf s0 k).count) (f : Nat) :
    RangedIter.itGet.loop (f + 1) s =
      ({ s with ci := some { chunk := 10 * (k + 1), pos := (p : Int), cached := true } }, some (10 * (k + 1), p)) ∧
    OpenAt s0 { s with ci := some { chunk := 10 * (k + 1), pos := (p : Int), cached := true } } k p true := by
  constructor
  · rw [RangedIter.itGet.loop]
    simp only [ho.ci, ho.ready.bkwd]
    rw [cntOfS_eq hf ho.ready.cks k ho.hk, ← stOf_count s0 k ho.hk, ciGet_open _ _ _ _ hp]
    simp
  · exact ⟨⟨ho.ready.cks, ho.ready.tss, ho.ready.rmin, ho.ready.rmax, ho.ready.stats, ho.ready.bkwd⟩, ho.hk, rfl,
      ho.cst, ho.cid, ho.lo, ho.hi⟩

theorem loop_spec {s0 s : RangedIter.St} (hf : Fresh s0) (k p : Nat) (cached : Bool) (ho : OpenAt s0 s k p cached)
    (hc : cached = true → p < (stOf s0 k).count) (f : Nat) :
    (∃ s', RangedIter.itGet.loop (f + 2) s = (s', none) ∧ rem s0 k p = []) ∨
    (∃ s' k' p', RangedIter.itGet.loop (f + 2) s = (s', some (10 * (k' + 1), p')) ∧ OpenAt s0 s' k' p' true ∧
      p' < (stOf s0 k').count ∧ rem s0 k p = rem s0 k' p') := by
  by_cases hp : p < (stOf s0 k).count
  · right
    obtain ⟨h1, h2⟩ := loop_in hf k p cached ho hp (f + 1)
    exact ⟨_, k, p, h1, h2, hp, rfl⟩
  · have hcf : cached = false := by
      cases cached
      · rfl
      · exact absurd (hc rfl) hp
    subst hcf
    rw [RangedIter.itGet.loop]
    simp only [ho.ci, ho.ready.bkwd]
    rw [cntOfS_eq hf ho.ready.cks k ho.hk, ← stOf_count s0 k ho.hk, ciGet_out _ _ _ (by omega)]
    simp only [Bool.false_eq_true, if_false]
    have hrem : rem s0 k p = JP s0 (k + 1) := rem_nil s0 k p (Or.inl (by omega))
    generalize hA : RangedIter.advance _ = r
    rcases advance_spec hA
        hf ⟨ho.ready.cks, ho.ready.tss, ho.ready.rmin, ho.ready.rmax, ho.ready.stats, by first | rfl | exact ho.ready.bkwd⟩
        k p false ho.hk
        ho.cid rfl ho.lo (Or.inl (by omega)) with ⟨s', rfl, hJ, _⟩ | ⟨s', k', np, rfl, ho', hn, hJ⟩
    · left
      exact ⟨s', by simp, by rw [hrem, hJ]⟩
    · right
      simp only [Bool.false_eq_true, if_false]
      obtain ⟨h1, h2⟩ := loop_in hf k' np false ho' hn f
      exact ⟨_, k', np, h1, h2, hn, by rw [hrem, hJ]⟩

/-- the cursor's position and what remains to be delivered from there -/
def Pos' (s0 s : RangedIter.St) (R : List (Nat × Nat)) : Prop :=
  (∃ k p, OpenAt s0 s k p false ∧ R = rem s0 k p) ∨ (AtEof s0 s ∧ R = [])

/-- … including the fresh cursor -/
def Pos (s0 s : RangedIter.St) (R : List (Nat × Nat)) : Prop :=
  (s = s0 ∧ R = JP s0 0) ∨ Pos' s0 s R

theorem Pos'.upd {s0 s : RangedIter.St} {R : List (Nat × Nat)} (h : Pos' s0 s R) (fv : Bool) (fl : Option (Nat × Nat)) :
    Pos' s0 { s with fValid := fv, fLe := fl } R := by
  rcases h with ⟨k, p, ho, hR⟩ | ⟨he, hR⟩
  · left
    exact ⟨k, p, ⟨⟨ho.ready.cks, ho.ready.tss, ho.ready.rmin, ho.ready.rmax, ho.ready.stats, ho.ready.bkwd⟩,
      ho.hk, ho.ci, ho.cst, ho.cid, ho.lo, ho.hi⟩, hR⟩
  · right
    exact ⟨⟨⟨he.ready.cks, he.ready.tss, he.ready.rmin, he.ready.rmax, he.ready.stats, he.ready.bkwd⟩, he.ci, he.last⟩, hR⟩

theorem OpenAt.upd {s0 s : RangedIter.St} {k p : Nat} {c : Bool} (ho : OpenAt s0 s k p c) (fv : Bool)
    (fl : Option (Nat × Nat)) : OpenAt s0 { s with fValid := fv, fLe := fl } k p c :=
  ⟨⟨ho.ready.cks, ho.ready.tss, ho.ready.rmin, ho.ready.rmax, ho.ready.stats, ho.ready.bkwd⟩,
      ho.hk, ho.ci, ho.cst, ho.cid, ho.lo, ho.hi⟩

theorem itGet_open {s0 s : RangedIter.St} (hf : Fresh s0) (k p : Nat) (cached : Bool) (ho : OpenAt s0 s k p cached)
    (hc : cached = true → p < (stOf s0 k).count) :
    (∃ s', RangedIter.itGet s = (s', none) ∧ rem s0 k p = []) ∨
    (∃ s' k' p', RangedIter.itGet s = (s', some (10 * (k' + 1), p')) ∧ OpenAt s0 s' k' p' true ∧
      p' < (stOf s0 k').count ∧ rem s0 k p = rem s0 k' p') := by
  have he : RangedIter.ensure s = (s, false) := by
    unfold RangedIter.ensure
    simp only [ho.ci]
  unfold RangedIter.itGet
  rw [he]
  simp only [Bool.false_eq_true, if_false]
  exact loop_spec hf k p cached ho hc s.cks.size

theorem itGet_spec {s0 s : RangedIter.St} (hf : Fresh s0) (R : List (Nat × Nat)) (hpos : Pos s0 s R) :
    (∃ s', RangedIter.itGet s = (s', none) ∧ R = []) ∨
    (∃ s' k p, RangedIter.itGet s = (s', some (10 * (k + 1), p)) ∧ OpenAt s0 s' k p true ∧
      p < (stOf s0 k).count ∧ R = rem s0 k p) := by
  rcases hpos with ⟨rfl, hR⟩ | ⟨k, p, ho, hR⟩ | ⟨he, hR⟩
  · rcases ensure_closed hf (Or.inl rfl) hf.ci hf.fwd 0 (Nat.zero_le _) (by intro i hi; omega) (by rw [hf.cid]; omega)
      with ⟨s', he, hJ, _⟩ | ⟨s', k, np, he, ho, _, hn, hJ⟩
    all_goals rw [remAt_lt _ 0 _ _ (by rw [hf.cid]; omega)] at hJ
    · left
      unfold RangedIter.itGet
      rw [he]
      exact ⟨s', by simp, by rw [hR, hJ]⟩
    · right
      unfold RangedIter.itGet
      rw [he]
      simp only [Bool.false_eq_true, if_false]
      obtain ⟨h1, h2⟩ := loop_in hf k np false ho hn (s'.cks.size + 1)
      exact ⟨_, k, np, h1, h2, hn, by rw [hR, hJ]⟩
  · subst hR
    exact itGet_open hf k p false ho (by intro h; cases h)
  · left
    obtain ⟨s', hs'⟩ := he.eof hf
    unfold RangedIter.itGet
    rw [hs']
    exact ⟨s', by simp, hR⟩

theorem itNext_spec {s0 s : RangedIter.St} (hf : Fresh s0) (k p : Nat) (ho : OpenAt s0 s k p true)
    (hp : p < (stOf s0 k).count) : Pos' s0 (RangedIter.itNext s) (rem s0 k (p + 1)) := by
  have he : RangedIter.ensure s = (s, false) := by
    unfold RangedIter.ensure
    simp only [ho.ci]
  obtain ⟨h1, h2⟩ := loop_in hf k p true ho hp (s.cks.size + 1)
  have hg : RangedIter.itGet s =
      ({ s with ci := some { chunk := 10 * (k + 1), pos := (p : Int), cached := true } }, some (10 * (k + 1), p)) := by
    unfold RangedIter.itGet
    rw [he]
    simp only [Bool.false_eq_true, if_false]
    exact h1
  unfold RangedIter.itNext
  rw [hg]
  simp only [ho.cst, ho.ready.bkwd]
  rw [cntOfS_eq hf (by exact ho.ready.cks) k ho.hk, ciNext_cached]
  by_cases hout : p + 1 > (stOf s0 k).maxPos
  · have hcond : (decide (((p + 1 : Nat) : Int) < 0) || decide ((((p + 1 : Nat) : Int)).toNat < (stOf s0 k).minPos) ||
        decide ((((p + 1 : Nat) : Int)).toNat > (stOf s0 k).maxPos)) = true := by
      rw [Int.toNat_natCast]; simp; omega
    simp only [hcond, if_true]
    generalize hA : RangedIter.advance _ = r
    rcases advance_spec hA
        hf ⟨ho.ready.cks, ho.ready.tss, ho.ready.rmin, ho.ready.rmax, ho.ready.stats, by first | rfl | exact ho.ready.bkwd⟩
        k (p + 1) false
        ho.hk ho.cid rfl (by have := ho.lo; omega) (Or.inr hout) with ⟨s', rfl, hJ, hE⟩ | ⟨s', k', np, rfl, ho', hn, hJ⟩
    · right
      exact ⟨hE, by rw [rem_nil s0 k (p + 1) (Or.inr hout), hJ]⟩
    · left
      exact ⟨k', np, ho', by rw [rem_nil s0 k (p + 1) (Or.inr hout), hJ]⟩
  · have hcond : (decide (((p + 1 : Nat) : Int) < 0) || decide ((((p + 1 : Nat) : Int)).toNat < (stOf s0 k).minPos) ||
        decide ((((p + 1 : Nat) : Int)).toNat > (stOf s0 k).maxPos)) = false := by
      rw [Int.toNat_natCast]
      have := ho.lo
      simp; omega
    simp only [hcond, Bool.false_eq_true, if_false]
    left
    refine ⟨k, p + 1, ⟨⟨ho.ready.cks, ho.ready.tss, ho.ready.rmin, ho.ready.rmax, ho.ready.stats,
      by first | rfl | exact ho.ready.bkwd⟩,
      ho.hk, rfl, by first | rfl | exact ho.cst, ho.cid, by have := ho.lo; omega, by omega⟩, rfl⟩

/-! ## 7. the cursor: `fiterator`'s range re-check, and the scan -/

theorem tsAt_eq {s0 s : RangedIter.St} (hf : Fresh s0) (hc : s.cks = s0.cks) (ht : s.tss = s0.tss) (k p : Nat)
    (hk : k < s0.cks.size) : RangedIter.tsAt s (10 * (k + 1), p) = PipeRead.tsOfPos s0 (k, p) := by
  unfold RangedIter.tsAt RangedIter.chunkIndexOf PipeRead.tsOfPos
  have e : 10 * (k + 1) / 10 - 1 = k := by omega
  simp only [e, hc, ht]
  simp [hk, hf.ids k hk]

/-- the range re-check on a position of the abstract scan -/
def fit (s0 : RangedIter.St) (kp : Nat × Nat) : Bool :=
  RangedIter.fitInRange s0.rmin s0.rmax (PipeRead.tsOfPos s0 kp)

def out (kp : Nat × Nat) : Nat × Nat := (10 * (kp.1 + 1), kp.2)

theorem curNext_pos {s0 s : RangedIter.St} (hf : Fresh s0) (k p : Nat) (ho : OpenAt s0 s k p true)
    (hp : p < (stOf s0 k).count) :
    Pos s0 (RangedIter.curNext s) (rem s0 k (p + 1)) ∧ (RangedIter.curNext s).fValid = false := by
  unfold RangedIter.curNext
  exact ⟨Or.inr ((itNext_spec hf k p ho hp).upd false none), rfl⟩

theorem curGet_spec {s0 : RangedIter.St} (hf : Fresh s0) : ∀ (g : Nat) (s : RangedIter.St) (R : List (Nat × Nat)),
    Pos s0 s R → s.fValid = false → R.length + 1 ≤ g →
    (∃ s', RangedIter.curGet g s = (s', none) ∧ R.filter (fit s0) = []) ∨
    (∃ s' kp R', RangedIter.curGet g s = (s', some (out kp)) ∧ R.filter (fit s0) = kp :: R'.filter (fit s0) ∧
      R'.length < R.length ∧ Pos s0 (RangedIter.curNext s') R' ∧ (RangedIter.curNext s').fValid = false) := by
  intro g
  induction g with
  | zero => intro s R _ _ h; omega
  | succ g ih =>
    intro s R hpos hfv hg
    rw [RangedIter.curGet]
    simp only [hfv, Bool.false_eq_true, if_false]
    rcases itGet_spec hf R hpos with ⟨s1, h1, hR⟩ | ⟨s1, k, p, h1, ho, hp, hR⟩
    · left
      rw [h1]
      exact ⟨_, rfl, by rw [hR]; rfl⟩
    · rw [h1]
      simp only []
      have hcond : RangedIter.fitInRange s1.rmin s1.rmax (RangedIter.tsAt s1 (10 * (k + 1), p)) = fit s0 (k, p) := by
        rw [tsAt_eq hf ho.ready.cks ho.ready.tss k p ho.hk, ho.ready.rmin, ho.ready.rmax]; rfl
      rw [hcond]
      have hRc : R = (k, p) :: rem s0 k (p + 1) := by rw [hR, rem_cons s0 k p hp ho.hi]
      by_cases hfit : fit s0 (k, p) = true
      · right
        rw [if_pos hfit]
        obtain ⟨hP, hV⟩ := curNext_pos hf k p (ho.upd true (some (10 * (k + 1), p))) hp
        refine ⟨_, (k, p), rem s0 k (p + 1), rfl, ?_, by rw [hRc]; simp, hP, hV⟩
        rw [hRc, List.filter_cons_of_pos hfit]
      · have hfit' := hfit
        unfold fit at hfit'
        rw [if_neg hfit]
        obtain ⟨hP, hV⟩ := curNext_pos hf k p (ho.upd s1.fValid (some (10 * (k + 1), p))) hp
        have hlen : (rem s0 k (p + 1)).length + 1 ≤ g := by
          rw [hRc] at hg; simp at hg; omega
        have hflt : R.filter (fit s0) = (rem s0 k (p + 1)).filter (fit s0) := by
          rw [hRc, List.filter_cons_of_neg hfit]
        rcases ih _ _ hP hV hlen with ⟨s', h2, h3⟩ | ⟨s', kp, R', h2, h3, h4, h5, h6⟩
        · left
          exact ⟨s', h2, by rw [hflt, h3]⟩
        · right
          exact ⟨s', kp, R', h2, by rw [hflt, h3], by rw [hRc]; simp; omega, h5, h6⟩

theorem run_spec {s0 : RangedIter.St} (hf : Fresh s0) : ∀ (f : Nat) (s : RangedIter.St) (R : List (Nat × Nat))
    (inPage : Nat) (acc : Array (Nat × Nat)),
    Pos s0 s R → s.fValid = false → R.length + 1 ≤ f →
    (RangedIter.scan.run 0 f s inPage acc).2.toList = acc.toList ++ (R.filter (fit s0)).map out := by
  intro f
  induction f with
  | zero => intro s R _ _ _ _ h; omega
  | succ f ih =>
    intro s R inPage acc hpos hfv hg
    rw [RangedIter.scan.run]
    rcases curGet_spec hf (f + 1) s R hpos hfv hg with ⟨s', h1, h2⟩ | ⟨s', kp, R', h1, h2, h3, h4, h5⟩
    · rw [h1, h2]
      simp
    · rw [h1]
      simp only [bne_self_eq_false, Bool.false_and, Bool.false_eq_true, if_false]
      rw [ih _ R' _ _ h4 h5 (by omega), h2]
      simp

theorem journalPositions_length : ∀ (cs : List ChkSt) (k : Nat),
    (PartScan.journalPositions cs k).length ≤ (cs.map (·.count)).sum := by
  intro cs
  induction cs with
  | nil => intro k; simp [PartScan.journalPositions]
  | cons st rest ih =>
    intro k
    simp only [PartScan.journalPositions, List.length_append, List.length_map, List.map_cons, List.sum_cons]
    have := ih (k + 1)
    rw [PartScan.windowPositions_eq, List.length_range']
    omega

theorem JP_zero_length (s0 : RangedIter.St) : (JP s0 0).length ≤ total s0 := by
  unfold JP total
  rw [List.drop_zero]
  refine Nat.le_trans (journalPositions_length _ 0) (Nat.le_of_eq ?_)
  rw [statuses_eq, List.map_map]
  congr 1
  apply List.map_congr_left
  intro c _
  exact stFn_count s0 c

/-- **the stateful iterator of the pipeline model delivers the abstract scan**: a fresh forward cursor without paging
(`page = 0`), with enough fuel, returns exactly `PipeRead.absScan` (positions as (chunk id, index)). -/
theorem scan_eq_absScan (s : RangedIter.St) (hf : Fresh s) (fuel : Nat) (hfuel : total s + 2 ≤ fuel) :
    (RangedIter.scan s 0 fuel).2.toList = (PipeRead.absScan s).map (fun kp => (10 * (kp.1 + 1), kp.2)) := by
  unfold RangedIter.scan
  have hlen := JP_zero_length s
  rw [run_spec hf fuel s (JP s 0) 0 #[] (Or.inl ⟨rfl, rfl⟩) hf.fValid (by omega)]
  unfold PipeRead.absScan
  rw [PartScan.scanAll_eq]
  simp only [JP, List.drop_zero, Array.toList_empty, List.nil_append]
  rfl

end Logrange.PipeScan

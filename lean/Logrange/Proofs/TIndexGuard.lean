import Logrange.Model.TIndexGuard
import Logrange.Proofs.TIndexRun
import Logrange.Proofs.TagsTight
/-!
# The tag index with the write-time guard of F08r: identity and persisted keys without any `Safe` hypothesis
-/
namespace Logrange.Proofs.TIndexGuard
open Go Logrange.KV Logrange.Tags Logrange.TIndexId Logrange.TIndexGuard Logrange.Proofs.KV Logrange.Proofs.Tags
  Logrange.Proofs.TIndexId Logrange.Proofs.TIndexRun Logrange.Proofs.Quote

theorem reparses_iff (m : Map) : reparses m = true ↔ parse (line m) = some m := by
  unfold reparses; exact beq_iff_eq

/-- a guarded step = refuse when `guardRejects`, otherwise the step of the current code (what the model driver runs) -/
theorem guarded_decomp (g : Bool) (s : St) (raw : Bytes) (create : Bool) :
    getOrCreateG g s raw create =
      if g && guardRejects s raw then (s, .notReparsing)
      else ((getOrCreate s raw create).1, .res (getOrCreate s raw create).2) := by
  -- on each path through the guarded step its conditions evaluate `guardRejects` and the unguarded step
  fun_cases getOrCreateG g s raw create <;> simp [guardRejects, getOrCreate, *]

/-- without the guard the model is literally the model of the current code -/
theorem guard_off (s : St) (raw : Bytes) (create : Bool) :
    getOrCreateG false s raw create = ((getOrCreate s raw create).1, .res (getOrCreate s raw create).2) := by
  rw [guarded_decomp]; rfl

theorem guardRejects_miss {s : St} {raw : Bytes} {m : Map} (h1 : lookup s.tmap raw = none) (hp : parse raw = some m)
    (hne : m ≠ []) : guardRejects s raw = !reparses m := by
  unfold guardRejects
  rw [h1, hp]
  show (!m.isEmpty && !reparses m) = _
  rw [Bool.eq_false_iff.mpr (isEmpty_false hne)]
  rfl

theorem reparses_of_pass {s : St} {raw : Bytes} {m : Map} (hg : ¬ guardRejects s raw = true)
    (h1 : lookup s.tmap raw = none) (hp : parse raw = some m) (hne : m ≠ []) : parse (line m) = some m := by
  rw [guardRejects_miss h1 hp hne, Bool.not_eq_true, Bool.not_eq_false'] at hg
  exact (reparses_iff m).mp hg

/-- the invariant of the guarded index: `TInv` and every key reads back as the set of its descriptor -/
def RInv (s : St) : Prop := TInv s ∧ ∀ e ∈ s.tmap, parse e.1 = some e.2.tags

theorem rinv_init : RInv {} := ⟨tinv_init, fun e he => by cases he⟩

theorem rinv_step (s : St) (raw : Bytes) (create : Bool) (h : RInv s) : RInv (getOrCreateG true s raw create).1 := by
  rw [guarded_decomp, Bool.true_and]
  by_cases hg : guardRejects s raw = true
  · rw [if_pos hg]; exact h
  · rw [if_neg hg]
    exact ⟨tinv_step s raw create h.1, all_step s raw create h.2 fun _ hp hne hl => reparses_of_pass hg hl hp hne⟩

theorem rinv_run (s : St) (ops : List (Bytes × Bool)) (h : RInv s) : RInv (runG true s ops) := by
  induction ops generalizing s with
  | nil => exact h
  | cons op ops ih =>
    obtain ⟨raw, create⟩ := op
    simp only [runG]
    exact ih _ (rinv_step s raw create h)

/-- so the theorems about `getOrCreate` on an index whose keys read back apply to an accepted call -/
theorem guarded_ok (s : St) (h : RInv s) (raw : Bytes) (create : Bool) (i : Nat)
    (hr : (getOrCreateG true s raw create).2 = .res (.ok i)) :
    (getOrCreateG true s raw create).1 = (getOrCreate s raw create).1 ∧ (getOrCreate s raw create).2 = .ok i ∧
      ∃ m, parse raw = some m ∧ m ≠ [] ∧ parse (line m) = some m := by
  rw [guarded_decomp, Bool.true_and] at hr ⊢
  by_cases hg : guardRejects s raw = true
  · rw [if_pos hg] at hr; cases hr
  · rw [if_neg hg] at hr ⊢
    have hr' := ResG.res.inj hr
    refine ⟨rfl, hr', ?_⟩
    revert hr'
    fun_cases getOrCreate s raw create
    case case1 td h1 =>
      -- the fast path: the text is a stored key, hence the line of the stored set
      obtain ⟨e, he, rfl, _⟩ := lookup_some h1
      exact fun _ => ⟨e.2.tags, h.2 e he, (h.1.1 e he).2.2.1, (h.1.1 e he).1 ▸ h.2 e he⟩
    case case4 h1 m hp h3 _ _ | case6 h1 m hp h3 _ _ =>
      have hne := mt List.isEmpty_iff.mpr h3
      exact fun _ => ⟨m, hp, hne, reparses_of_pass hg h1 hp hne⟩
    all_goals exact fun h => nomatch h

/-- an accepted text denotes a non-empty set, and the partition it gets holds exactly that set -/
theorem guarded_accept (s : St) (h : RInv s) (raw : Bytes) (create : Bool) (i : Nat)
    (hr : (getOrCreateG true s raw create).2 = .res (.ok i)) :
    ∃ m, parse raw = some m ∧ m ≠ [] ∧ parse (line m) = some m ∧
      ∃ e ∈ (getOrCreateG true s raw create).1.tmap, e.2.src = i ∧ e.2.tags = m := by
  obtain ⟨hs, hr', m, hp, hne, hrm⟩ := guarded_ok s h raw create i hr
  rw [hs]
  exact ⟨m, hp, hne, hrm, getOrCreate_ok_tags s h.1 h.2 raw m hp hne hrm create i hr'⟩

/-- **Partition identity with the guard, no `Safe` hypothesis**: two accepted texts get the same partition iff they
denote the same set -/
theorem guarded_same_partition_iff (s : St) (h : RInv s) (t1 t2 : Bytes) (c1 c2 : Bool) (i j : Nat) (m1 m2 : Map)
    (h1 : (getOrCreateG true s t1 c1).2 = .res (.ok i))
    (h2 : (getOrCreateG true (getOrCreateG true s t1 c1).1 t2 c2).2 = .res (.ok j))
    (p1 : parse t1 = some m1) (p2 : parse t2 = some m2) : i = j ↔ m1 = m2 := by
  obtain ⟨hs1, hr1, a1, pa1, hne1, hrm1⟩ := guarded_ok s h t1 c1 i h1
  obtain ⟨_, hr2, a2, pa2, hne2, hrm2⟩ := guarded_ok _ (rinv_step s t1 c1 h) t2 c2 j h2
  cases p1.symm.trans pa1
  cases p2.symm.trans pa2
  rw [hs1] at hr2
  exact same_partition_of_ok s h.1 h.2 t1 t2 c1 c2 i j m1 m2 p1 p2 hne1 hne2 hrm1 hrm2 hr1 hr2

/-- **The guard rejects exactly the texts whose set's line does not read back**: a text that is not already a key, parses
to a non-empty set `m`, is refused iff `parse (line m) ≠ some m` -/
theorem guarded_rejects_exactly (s : St) (raw : Bytes) (create : Bool) (m : Map) (hl : lookup s.tmap raw = none)
    (hp : parse raw = some m) (hne : m ≠ []) :
    (getOrCreateG true s raw create).2 = .notReparsing ↔ parse (line m) ≠ some m := by
  rw [guarded_decomp, Bool.true_and, guardRejects_miss hl hp hne]
  have hi := reparses_iff m
  cases hr : reparses m with
  | false =>
    rw [Bool.not_false, if_pos rfl]
    exact ⟨fun _ h => Bool.noConfusion (hr.symm.trans (hi.mpr h)), fun _ => rfl⟩
  | true =>
    rw [Bool.not_true, if_neg Bool.false_ne_true]
    exact ⟨fun h => ResG.noConfusion h, fun h => absurd (hi.mp hr) h⟩

/-- every Safe set — and every set of the larger class `safeW` — passes the guard: the repair refuses nothing the
`_partial` theorems cover -/
theorem safeW_reparses (m : Map) (hwf : Map.WF m) (hs : safeW m = true) : reparses m = true :=
  (reparses_iff m).mpr (Logrange.Proofs.TagsTight.roundtrip_weak quoteContract m hwf hs)

/-- persisted keys with the guard: load ∘ save rebuilds the same map, no `Safe` hypothesis -/
theorem guarded_load_save (s : St) (h : RInv s) : loadEntries (saveState s) = some s.tmap :=
  loadEntries_map s.tmap h.2

end Logrange.Proofs.TIndexGuard

import Logrange.Proofs.ScanWorker
/-! Bounded progress of the scanner worker LTS: the schedule the system follows when the file has stopped growing
and the consumer takes and confirms every event at once (`drain`), and what it reaches. -/
namespace Logrange.ScanWorker
open Logrange.LineReader

/-- The labels of a quiet period: `NextRecord` answers the pending complete lines one by one and then EOF, the
consumer takes every event and confirms it at once, nobody cancels, stops or persists. `cur` = records already
collected in the current batch. One loop iteration per line (4 labels, or 7 when the line completes a batch) and a
last iteration that meets EOF (7 labels when a partial batch is flushed, 5 when there is nothing to send). -/
def drain (k : Nat) : Nat → List Bytes → List L
  | cur, [] =>
    if cur = 0 then [.step, .next .eof, .step, .wake, .step]
    else [.step, .next .eof, .step, .send, .confirm, .setOffset, .step]
  | cur, l :: ls =>
    if cur + 1 = k then [.step, .next (.record l), .step, .send, .confirm, .setOffset, .step] ++ drain k 0 ls
    else [.step, .next (.record l), .step, .step] ++ drain k (cur + 1) ls

/-- the explicit bound: at most 7 labels per pending line plus 7 -/
theorem drain_length (k : Nat) : ∀ (lines : List Bytes) (cur : Nat), (drain k cur lines).length ≤ 7 * lines.length + 7
  | [], cur => by simp only [drain]; split <;> simp
  | l :: ls, cur => by
    simp only [drain]
    split
    · simp only [List.length_append, List.length_cons, List.length_nil]
      have := drain_length k ls 0; omega
    · simp only [List.length_append, List.length_cons, List.length_nil]
      have := drain_length k ls (cur + 1); omega

/-- a quiet loop head -/
structure Quiet (s : S) : Prop where
  pc : s.pc = .top
  nc : s.cancelled = false
  ws : s.wstate = .running

/-- what a quiet period preserves / produces, relative to the state it started in -/
structure Drained (s s' : S) (lines : List Bytes) : Prop where
  quiet : Quiet s'
  recs : s'.recs = []
  confirmed : s'.confirmed = s.confirmed ++ s.recs ++ lines
  pos : s'.pos = s.pos + bytesOf lines
  offset : s'.offset = s'.pos
  start : s'.start = s.start
  dropped : s'.dropped = s.dropped
  readLog : s'.readLog = s.readLog ++ lines

theorem iter_nofull (c : Cfg) (s : S) (l : Bytes) (h1 : s.pc = .top) (h2 : s.cancelled = false)
    (hk : s.recs.length + 1 ≠ c.recsPerEvent) :
    run c s [.step, .next (.record l), .step, .step] =
      { s with pc := .top, recs := s.recs ++ [l], pos := s.pos + l.length, readLog := s.readLog ++ [l] } := by
  simp [run, step, h1, h2, hk]

theorem iter_full (c : Cfg) (s : S) (l : Bytes) (h1 : s.pc = .top) (h2 : s.cancelled = false)
    (hk : s.recs.length + 1 = c.recsPerEvent) :
    run c s [.step, .next (.record l), .step, .send, .confirm, .setOffset, .step] =
      { s with pc := .top, recs := [], pos := s.pos + l.length, offset := s.pos + l.length,
               readLog := s.readLog ++ [l], confirmed := s.confirmed ++ (s.recs ++ [l]),
               ends := s.ends ++ [s.pos + l.length] } := by
  simp [run, step, h1, h2, hk]

def eofExit (s : S) : S :=
  if s.wstate = .untilEof then { s with pc := .done, wstate := .stopped, eofSeen := true, stoppedByEof := true }
  else { s with pc := .top }

theorem iter_eof_empty (c : Cfg) (s : S) (h1 : s.pc = .top) (h2 : s.cancelled = false) (hr : s.recs = []) :
    run c s [.step, .next .eof, .step, .wake, .step] = eofExit s := by
  cases hw : s.wstate <;> cases hsb : c.sampleBefore <;> simp [run, step, finish, eofExit, h1, h2, hr, hw, hsb]

theorem iter_eof_nonempty (c : Cfg) (s : S) (h1 : s.pc = .top) (h2 : s.cancelled = false) (hr : s.recs ≠ []) :
    run c s [.step, .next .eof, .step, .send, .confirm, .setOffset, .step] =
      eofExit { s with recs := [], offset := s.pos, confirmed := s.confirmed ++ s.recs, ends := s.ends ++ [s.pos] } := by
  have : s.recs.isEmpty = false := by cases hs : s.recs with
    | nil => exact absurd hs hr
    | cons a b => rfl
  cases hw : s.wstate <;> cases hsb : c.sampleBefore <;> simp [run, step, finish, eofExit, h1, h2, this, hw, hsb]

structure ReadTo (s t : S) (lines : List Bytes) : Prop where
  pc : t.pc = .top
  nc : t.cancelled = false
  ws : t.wstate = s.wstate
  off : t.offset + bytesOf t.recs = t.pos
  confirmed : t.confirmed ++ t.recs = s.confirmed ++ s.recs ++ lines
  pos : t.pos = s.pos + bytesOf lines
  start : t.start = s.start
  dropped : t.dropped = s.dropped
  readLog : t.readLog = s.readLog ++ lines

theorem drain_lines (c : Cfg) : ∀ (lines : List Bytes) (s : S), s.pc = .top → s.cancelled = false →
    s.recs.length < c.recsPerEvent → s.offset + bytesOf s.recs = s.pos →
    ∃ t, run c s (drain c.recsPerEvent s.recs.length lines) = run c t (drain c.recsPerEvent t.recs.length []) ∧
      ReadTo s t lines
  | [], s, h1, h2, _, ho => ⟨s, rfl, h1, h2, rfl, ho, by simp, by simp, rfl, rfl, by simp⟩
  | l :: ls, s, h1, h2, hlt, ho => by
    simp only [drain]
    by_cases hfull : s.recs.length + 1 = c.recsPerEvent
    · rw [if_pos hfull, run_append, iter_full c s l h1 h2 hfull]
      obtain ⟨t, e, r⟩ := drain_lines c ls
        { s with pc := .top, recs := [], pos := s.pos + l.length, offset := s.pos + l.length,
                 readLog := s.readLog ++ [l], confirmed := s.confirmed ++ (s.recs ++ [l]),
                 ends := s.ends ++ [s.pos + l.length] }
        rfl h2 (Nat.lt_of_lt_of_le (Nat.succ_pos _) (Nat.le_of_eq hfull)) (by simp)
      exact ⟨t, e, { r with
        confirmed := by rw [r.confirmed]; simp
        pos := by rw [r.pos]; simp [bytesOf, Nat.add_assoc]
        readLog := by rw [r.readLog]; simp }⟩
    · rw [if_neg hfull, run_append, iter_nofull c s l h1 h2 hfull]
      obtain ⟨t, e, r⟩ := drain_lines c ls
        { s with pc := .top, recs := s.recs ++ [l], pos := s.pos + l.length, readLog := s.readLog ++ [l] }
        rfl h2 (by simp only [List.length_append, List.length_cons, List.length_nil]; omega)
        (by simp only [bytesOf_append, bytesOf_single]; omega)
      simp only [List.length_append, List.length_cons, List.length_nil, Nat.zero_add] at e
      exact ⟨t, e, { r with
        confirmed := by rw [r.confirmed]; simp
        pos := by rw [r.pos]; simp [bytesOf, Nat.add_assoc]
        readLog := by rw [r.readLog]; simp }⟩

theorem drain_drains (c : Cfg) (lines : List Bytes) (s : S) (hq : Quiet s)
    (hlt : s.recs.length < c.recsPerEvent) (hoff : s.offset + bytesOf s.recs = s.pos) :
    Drained s (run c s (drain c.recsPerEvent s.recs.length lines)) lines := by
  obtain ⟨t, e, r⟩ := drain_lines c lines s hq.pc hq.nc hlt hoff
  have hqt : Quiet t := ⟨r.pc, r.nc, r.ws.trans hq.ws⟩
  have hc := r.confirmed; have ho := r.off
  rw [e]
  simp only [drain]
  by_cases hr : t.recs = []
  · rw [if_pos (by rw [hr]; rfl), iter_eof_empty c t r.pc r.nc hr, eofExit, if_neg (by rw [hqt.ws]; nofun)]
    rw [hr] at hc ho
    exact ⟨⟨rfl, r.nc, hqt.ws⟩, hr, by simpa using hc, r.pos, by simpa using ho, r.start, r.dropped, r.readLog⟩
  · rw [if_neg (fun h0 => hr (List.eq_nil_of_length_eq_zero h0)), iter_eof_nonempty c t r.pc r.nc hr, eofExit,
      if_neg (by show t.wstate ≠ _; rw [hqt.ws]; nofun)]
    exact ⟨⟨rfl, r.nc, hqt.ws⟩, rfl, hc, r.pos, rfl, r.start, r.dropped, r.readLog⟩

/-! ## the same quiet period for a worker that was told to run until EOF (its file was rotated or replaced) -/

/-- a loop head of a worker told to run until EOF -/
structure QuietU (s : S) : Prop where
  pc : s.pc = .top
  nc : s.cancelled = false
  ws : s.wstate = .untilEof

/-- the worker has ended through the "EOF reached" rule having shipped the pending lines -/
structure Stopped (s s' : S) (lines : List Bytes) : Prop where
  pc : s'.pc = .done
  byEof : s'.stoppedByEof = true
  ws : s'.wstate = .stopped
  recs : s'.recs = []
  confirmed : s'.confirmed = s.confirmed ++ s.recs ++ lines
  pos : s'.pos = s.pos + bytesOf lines
  offset : s'.offset = s'.pos
  start : s'.start = s.start
  dropped : s'.dropped = s.dropped

/-- **a worker told to run until EOF ships the pending complete lines and stops at the first EOF** -/
theorem drain_stops (c : Cfg) (hk : 1 ≤ c.recsPerEvent) : ∀ (lines : List Bytes) (s : S), QuietU s →
    s.recs.length < c.recsPerEvent → s.offset + bytesOf s.recs = s.pos →
    Stopped s (run c s (drain c.recsPerEvent s.recs.length lines)) lines := by
  intro lines s hq hlt hoff
  obtain ⟨t, e, r⟩ := drain_lines c lines s hq.pc hq.nc hlt hoff
  have hqt : QuietU t := ⟨r.pc, r.nc, r.ws.trans hq.ws⟩
  have hc := r.confirmed; have ho := r.off
  rw [e]
  simp only [drain]
  by_cases hr : t.recs = []
  · rw [if_pos (by rw [hr]; rfl), iter_eof_empty c t r.pc r.nc hr, eofExit, if_pos hqt.ws]
    rw [hr] at hc ho
    exact ⟨rfl, rfl, rfl, hr, by simpa using hc, r.pos, by simpa using ho, r.start, r.dropped⟩
  · rw [if_neg (fun h0 => hr (List.eq_nil_of_length_eq_zero h0)), iter_eof_nonempty c t r.pc r.nc hr, eofExit,
      if_pos hqt.ws]
    exact ⟨rfl, rfl, rfl, rfl, hc, r.pos, rfl, r.start, r.dropped⟩

def batchOk (k : Nat) (s : S) : Prop :=
  match s.pc with
  | .top => s.recs.length < k
  | .sampled _ => s.recs.length < k
  | .tail _ _ _ => s.recs.length < k
  | .sleeping _ _ => s.recs = []
  | .got _ _ _ => s.recs.length ≤ k
  | .sending _ _ => s.recs ≠ [] ∧ s.recs.length ≤ k
  | .confirming _ _ => s.recs ≠ [] ∧ s.recs.length ≤ k
  | .setting _ _ => s.recs ≠ [] ∧ s.recs.length ≤ k ∧ ∃ pre, s.confirmed = pre ++ s.recs
  | .done => True

theorem batchOk_init (k start : Nat) (hk : 1 ≤ k) : batchOk k (init start) := hk

theorem batchOk_step {c : Cfg} (hk : 1 ≤ c.recsPerEvent) {s s' : S} {l : L} (hst : Step c s l s')
    (h : batchOk c.recsPerEvent s) : batchOk c.recsPerEvent s' := by
  unfold batchOk at h
  cases hst with
  | stopOnEOF => split <;> exact h
  | cancel | persist | finalPersist => exact h
  | exit | stopEof | stopErr => exact trivial
  | sample hpc | loop hpc | send hpc => rw [hpc] at h; exact h
  | sleep _ _ he => exact he
  | flush hpc _ hne => rw [hpc] at h; exact ⟨hne, h⟩
  | collect hpc hf =>
    rw [hpc] at h
    exact Nat.lt_of_le_of_ne h (beq_eq_false_iff_ne.1 (Bool.or_eq_false_iff.1 hf).2)
  | dropUnsent | dropUnconfirmed | setOffset => exact hk
  | record ln hpc =>
    rw [hpc] at h
    show (s.recs ++ [ln]).length ≤ _
    rw [List.length_append]; exact h
  | eof hpc | err hpc => rw [hpc] at h; exact Nat.le_of_lt h
  | confirm hpc => rw [hpc] at h; exact ⟨h.1, h.2, _, rfl⟩
  | wake hpc =>
    rw [hpc] at h
    show s.recs.length < _
    rw [h]; exact hk

theorem batchOk_run (c : Cfg) (hk : 1 ≤ c.recsPerEvent) : ∀ (tr : List L) (s : S), batchOk c.recsPerEvent s →
    batchOk c.recsPerEvent (run c s tr) :=
  run_inv c (batchOk_step hk)

/-- the batch being collected is shorter than `recsPerEvent` at the loop head (and never longer than it) -/
def lenOk (k : Nat) (s : S) : Prop :=
  match s.pc with
  | .top => s.recs.length < k
  | .sampled _ => s.recs.length < k
  | .tail _ _ _ => s.recs.length < k
  | .sleeping _ _ => s.recs = []
  | .got _ _ _ => s.recs.length ≤ k
  | _ => True

theorem lenOk_of_batchOk {k : Nat} {s : S} (h : batchOk k s) : lenOk k s := by
  unfold batchOk at h; unfold lenOk
  split <;> first | trivial | simp_all

theorem head_ready (c : Cfg) (hk : 1 ≤ c.recsPerEvent) (start : Nat) (tr : List L)
    (hpc : (run c (init start) tr).pc = .top) (hnd : (run c (init start) tr).dropped = false) :
    (run c (init start) tr).recs.length < c.recsPerEvent ∧
    (run c (init start) tr).offset + bytesOf (run c (init start) tr).recs = (run c (init start) tr).pos := by
  have hw := winv_run c tr (init start) (winv_init start)
  have hb := batchOk_run c hk tr (init start) (batchOk_init _ start hk)
  unfold batchOk at hb
  rw [hpc] at hb
  exact ⟨hb, (hw.posEq hnd).symm⟩

theorem WInv.pos_flushed {s : S} (h : WInv s) (hs : isSetting s.pc = false) (hr : s.recs = [])
    (hd : s.dropped = false) : s.pos = s.start + bytesOf s.confirmed := by
  rw [h.posEq hd, hr]
  exact (h.idle hs).1

end Logrange.ScanWorker

import Logrange.Model.TIndexId
import Logrange.Proofs.Tags
import Logrange.Proofs.TagsEval
/-!
# Partition identity (`getOrCreateJournal`) and selection (`Visit`) over the in-memory tag index
-/
namespace Logrange.Proofs.TIndexId
open Go Logrange.KV Logrange.Tags Logrange.TagsEval Logrange.TIndexId Logrange.Proofs.KV Logrange.Proofs.Tags

/-! ## look-up -/

theorem lookup_none {tm : List (Bytes × Desc)} {k : Bytes} (h : lookup tm k = none) :
    ∀ e ∈ tm, e.1 ≠ k := by
  unfold lookup at h
  simp only [Option.map_eq_none_iff, List.find?_eq_none] at h
  intro e he
  simpa using h e he

theorem lookup_some {tm : List (Bytes × Desc)} {k : Bytes} {d : Desc} (h : lookup tm k = some d) :
    ∃ e ∈ tm, e.1 = k ∧ e.2 = d := by
  unfold lookup at h
  cases hf : tm.find? (fun e => e.1 = k) with
  | none => rw [hf] at h; cases h
  | some e =>
    rw [hf] at h
    refine ⟨e, List.mem_of_find?_eq_some hf, ?_, ?_⟩
    · simpa using List.find?_some hf
    · simpa using h

theorem eq_of_nodup_map {α β : Type} (f : α → β) : ∀ (l : List α), (l.map f).Nodup →
    ∀ a ∈ l, ∀ b ∈ l, f a = f b → a = b := by
  intro l
  induction l with
  | nil => intro _ a ha; cases ha
  | cons x r ih =>
    intro hn a ha b hb hab
    rw [List.map_cons, List.nodup_cons] at hn
    rcases List.mem_cons.mp ha with ha' | ha' <;> rcases List.mem_cons.mp hb with hb' | hb'
    · rw [ha', hb']
    · rw [ha'] at hab
      exact absurd (hab ▸ List.mem_map_of_mem hb') hn.1
    · rw [hb'] at hab
      exact absurd (hab ▸ List.mem_map_of_mem ha') hn.1
    · exact ih hn.2 a ha' b hb' hab

theorem getOrCreate_hit {s : St} {raw : Bytes} {td : Desc} (create : Bool) (h : lookup s.tmap raw = some td) :
    getOrCreate s raw create = (s, .ok td.src) := by
  unfold getOrCreate; rw [h]

theorem getOrCreate_badTags {s : St} {raw : Bytes} (create : Bool) (h1 : lookup s.tmap raw = none)
    (hp : parse raw = none) : getOrCreate s raw create = (s, .badTags) := by
  unfold getOrCreate; rw [h1, hp]

theorem getOrCreate_miss {s : St} {raw : Bytes} {m : Map} (create : Bool) (h1 : lookup s.tmap raw = none)
    (hp : parse raw = some m) :
    getOrCreate s raw create =
      if m.isEmpty then (s, .empty) else
      match lookup s.tmap (line m) with
      | some td => (s, .ok td.src)
      | none =>
        if !create then (s, .notFound) else
        ({ tmap := (line m, ⟨s.next, m⟩) :: s.tmap, next := s.next + 1 }, .ok s.next) := by
  unfold getOrCreate; rw [h1, hp]; rfl

theorem isEmpty_false {m : Map} (h : m ≠ []) : ¬ m.isEmpty = true := mt List.isEmpty_iff.mp h

/-- the only state change of `getOrCreateJournal` is the creation of the descriptor of a new set -/
theorem getOrCreate_cases (s : St) (raw : Bytes) (create : Bool) :
    (getOrCreate s raw create).1 = s ∨
    ∃ tgs, parse raw = some tgs ∧ tgs ≠ [] ∧ lookup s.tmap raw = none ∧ lookup s.tmap (line tgs) = none ∧
      getOrCreate s raw create =
        ({ tmap := (line tgs, ⟨s.next, tgs⟩) :: s.tmap, next := s.next + 1 }, .ok s.next) := by
  fun_cases getOrCreate s raw create
  case case6 h1 tgs hp h3 h4 _ => exact Or.inr ⟨tgs, hp, mt List.isEmpty_iff.mpr h3, h1, h4, rfl⟩
  all_goals exact Or.inl rfl

theorem getOrCreate_ok (s : St) (raw : Bytes) (create : Bool) (i : Nat) (h : (getOrCreate s raw create).2 = .ok i) :
    ∃ e ∈ (getOrCreate s raw create).1.tmap, e.2.src = i := by
  have hit : ∀ {k : Bytes} {td : Desc}, lookup s.tmap k = some td → Res.ok td.src = .ok i → ∃ e ∈ s.tmap, e.2.src = i :=
    fun hl h => (lookup_some hl).elim fun e he => ⟨e, he.1, he.2.2 ▸ Res.ok.inj h⟩
  revert h
  fun_cases getOrCreate s raw create
  case case1 td h1 => exact hit h1
  case case4 td h4 => exact hit h4
  case case6 => exact fun h => ⟨_, List.mem_cons_self, Res.ok.inj h⟩
  all_goals exact fun h => nomatch h

/-- the index only grows -/
theorem getOrCreate_mono (s : St) (raw : Bytes) (create : Bool) : ∀ e ∈ s.tmap, e ∈ (getOrCreate s raw create).1.tmap := by
  intro e he
  rcases getOrCreate_cases s raw create with h | ⟨_, _, _, _, _, h⟩
  · rw [h]; exact he
  · rw [h]; exact List.mem_cons_of_mem _ he

/-! ## the invariant -/

/-- every key is the canonical line of its descriptor's non-empty well-formed set, keys are distinct (a map),
ids are distinct and below `next` -/
def TInv (s : St) : Prop :=
  (∀ e ∈ s.tmap, e.1 = line e.2.tags ∧ Map.WF e.2.tags ∧ e.2.tags ≠ [] ∧ e.2.src < s.next) ∧
  (s.tmap.map (·.1)).Nodup ∧ (s.tmap.map (·.2.src)).Nodup

theorem tinv_init : TInv {} := by
  refine ⟨?_, ?_, ?_⟩
  · intro e he; cases he
  · exact List.Pairwise.nil
  · exact List.Pairwise.nil

theorem tinv_step (s : St) (raw : Bytes) (create : Bool) (h : TInv s) : TInv (getOrCreate s raw create).1 := by
  rcases getOrCreate_cases s raw create with e | ⟨tgs, hp, hne, _, hl, e⟩
  · rw [e]; exact h
  · rw [e]
    obtain ⟨h1, h2, h3⟩ := h
    refine ⟨?_, ?_, ?_⟩
    · intro x hx
      rcases List.mem_cons.mp hx with hx | hx
      · subst hx
        exact ⟨rfl, parse_WF raw tgs hp, hne, Nat.lt_succ_self _⟩
      · obtain ⟨a, b, c, d⟩ := h1 x hx
        exact ⟨a, b, c, Nat.lt_succ_of_lt d⟩
    · exact List.nodup_cons.mpr ⟨fun hm => (List.mem_map.mp hm).elim fun x hx => lookup_none hl x hx.1 hx.2, h2⟩
    · -- a stored id is below `next`, the new one is `next`
      exact List.nodup_cons.mpr ⟨fun hm => (List.mem_map.mp hm).elim fun x hx =>
        Nat.lt_irrefl _ (hx.2 ▸ (h1 x hx.1).2.2.2), h3⟩

theorem tinv_run (s : St) (ops : List (Bytes × Bool)) (h : TInv s) : TInv (run s ops) := by
  induction ops generalizing s with
  | nil => exact h
  | cons op ops ih =>
    obtain ⟨raw, create⟩ := op
    simp only [run]
    exact ih _ (tinv_step s raw create h)

/-- all stored sets are in the Safe class -/
def SafeSt (s : St) : Prop := ∀ e ∈ s.tmap, safe e.2.tags = true

theorem all_step {P : Bytes × Desc → Prop} (s : St) (raw : Bytes) (create : Bool) (h : ∀ e ∈ s.tmap, P e)
    (hr : ∀ m, parse raw = some m → m ≠ [] → lookup s.tmap raw = none → P (line m, ⟨s.next, m⟩)) :
    ∀ e ∈ (getOrCreate s raw create).1.tmap, P e := by
  rcases getOrCreate_cases s raw create with e | ⟨tgs, hp, hne, hl, _, e⟩
  · rw [e]; exact h
  · rw [e]
    intro x hx
    rcases List.mem_cons.mp hx with rfl | hx
    · exact hr tgs hp hne hl
    · exact h x hx

theorem safeSt_step (s : St) (raw : Bytes) (create : Bool) (h : SafeSt s)
    (hr : ∀ m, parse raw = some m → safe m = true) : SafeSt (getOrCreate s raw create).1 :=
  all_step s raw create h fun m hp _ _ => hr m hp

/-! ## identity: one descriptor per tag set -/

/-- a stored entry whose tags are `m` is the entry under the key `line m` -/
theorem entry_unique (s : St) (hinv : TInv s) (e1 e2 : Bytes × Desc) (h1 : e1 ∈ s.tmap) (h2 : e2 ∈ s.tmap)
    (h : e1.2.tags = e2.2.tags) : e1 = e2 := by
  apply eq_of_nodup_map (·.1) s.tmap hinv.2.1 e1 h1 e2 h2
  show e1.1 = e2.1
  rw [(hinv.1 e1 h1).1, (hinv.1 e2 h2).1, h]

/-- what `loadState` relies on, and what makes a text resolve to the partition of its set. It holds on Safe indexes
(`keys_reparse`) and is what the write-time guard of F08r enforces. -/
def Reads (s : St) : Prop := ∀ e ∈ s.tmap, parse e.1 = some e.2.tags

theorem keys_reparse (hq : QuoteContract) (s : St) (hinv : TInv s) (hsafe : SafeSt s) : Reads s := by
  intro e he
  obtain ⟨hk, hw, _, _⟩ := hinv.1 e he
  rw [hk]
  exact roundtrip_core hq e.2.tags hw (hsafe e he)

theorem of_find_tags {s : St} {m : Map} {e : Bytes × Desc} (hf : s.tmap.find? (fun x => x.2.tags = m) = some e) :
    e ∈ s.tmap ∧ e.2.tags = m := by
  have h := List.find?_some hf
  exact ⟨List.mem_of_find?_eq_some hf, of_decide_eq_true h⟩

theorem find_tags (s : St) (hinv : TInv s) {e : Bytes × Desc} (he : e ∈ s.tmap) {m : Map} (hm : e.2.tags = m) :
    s.tmap.find? (fun x => x.2.tags = m) = some e := by
  cases hf : s.tmap.find? (fun x => x.2.tags = m) with
  | none => exact absurd (decide_eq_true hm) (List.find?_eq_none.mp hf e he)
  | some x =>
    rw [entry_unique s hinv x e (of_find_tags hf).1 he ((of_find_tags hf).2.trans hm.symm)]

/-- what `getOrCreateJournal` does depends only on whether the set is stored: spelling, the fast path and the order of the
two look-ups do not matter -/
theorem getOrCreate_find (s : St) (hinv : TInv s) (hre : Reads s) (t : Bytes) (m : Map) (hp : parse t = some m)
    (hne : m ≠ []) (hrm : parse (line m) = some m) (create : Bool) :
    getOrCreate s t create =
      match s.tmap.find? (fun e => e.2.tags = m) with
      | some e => (s, .ok e.2.src)
      | none =>
        if create then ({ tmap := (line m, ⟨s.next, m⟩) :: s.tmap, next := s.next + 1 }, .ok s.next)
        else (s, .notFound) := by
  -- an entry found under `t` or under `line m` holds `m`, so it is the one entry that does
  have found : ∀ {k : Bytes} {td : Desc}, k = t ∨ k = line m → lookup s.tmap k = some td →
      s.tmap.find? (fun e => e.2.tags = m) = some (k, td) := by
    intro k td hk hl
    obtain ⟨e, he, rfl, rfl⟩ := lookup_some hl
    have h := hre e he
    refine find_tags s hinv he (Option.some.inj (h.symm.trans ?_))
    rcases hk with hk | hk <;> rw [hk]
    · exact hp
    · exact hrm
  cases h1 : lookup s.tmap t with
  | some td => rw [getOrCreate_hit create h1, found (Or.inl rfl) h1]
  | none =>
    rw [getOrCreate_miss create h1 hp, if_neg (isEmpty_false hne)]
    cases h2 : lookup s.tmap (line m) with
    | some td => rw [found (Or.inr rfl) h2]
    | none =>
      rw [List.find?_eq_none.mpr fun e he hem =>
        lookup_none h2 e he (by rw [(hinv.1 e he).1, of_decide_eq_true hem])]
      cases create <;> rfl

theorem getOrCreate_ok_tags (s : St) (hinv : TInv s) (hre : Reads s) (t : Bytes) (m : Map) (hp : parse t = some m)
    (hne : m ≠ []) (hrm : parse (line m) = some m) (create : Bool) (i : Nat)
    (h : (getOrCreate s t create).2 = .ok i) :
    ∃ e ∈ (getOrCreate s t create).1.tmap, e.2.src = i ∧ e.2.tags = m := by
  rw [getOrCreate_find s hinv hre t m hp hne hrm] at h ⊢
  cases hf : s.tmap.find? (fun e => e.2.tags = m) with
  | some e =>
    rw [hf] at h
    exact ⟨e, (of_find_tags hf).1, Res.ok.inj h, (of_find_tags hf).2⟩
  | none =>
    rw [hf] at h
    cases create with
    | false => cases h
    | true => exact ⟨_, List.mem_cons_self, Res.ok.inj h, rfl⟩

theorem getOrCreate_spec (s : St) (hinv : TInv s) (hre : Reads s) (t : Bytes) (m : Map) (hp : parse t = some m)
    (hne : m ≠ []) (hrm : parse (line m) = some m) :
    ∃ i, (getOrCreate s t true).2 = .ok i ∧
      (∃ e ∈ (getOrCreate s t true).1.tmap, e.2.src = i ∧ e.2.tags = m) ∧
      (∀ e ∈ s.tmap, e.2.tags = m → e.2.src = i) ∧ (∀ e ∈ s.tmap, e ∈ (getOrCreate s t true).1.tmap) := by
  rw [getOrCreate_find s hinv hre t m hp hne hrm]
  cases hf : s.tmap.find? (fun e => e.2.tags = m) with
  | some e =>
    obtain ⟨he, het⟩ := of_find_tags hf
    exact ⟨e.2.src, rfl, ⟨e, he, rfl, het⟩,
      fun x hx hxm => by rw [entry_unique s hinv x e hx he (hxm.trans het.symm)], fun _ hx => hx⟩
  | none =>
    exact ⟨s.next, rfl, ⟨_, List.mem_cons_self, rfl, rfl⟩,
      fun x hx hxm => absurd (decide_eq_true hxm) (List.find?_eq_none.mp hf x hx), fun _ hx => List.mem_cons_of_mem _ hx⟩

theorem same_partition_of_ok (s : St) (hinv : TInv s) (hre : Reads s) (t1 t2 : Bytes) (c1 c2 : Bool) (i j : Nat)
    (m1 m2 : Map) (hp1 : parse t1 = some m1) (hp2 : parse t2 = some m2) (hne1 : m1 ≠ []) (hne2 : m2 ≠ [])
    (hr1 : parse (line m1) = some m1) (hr2 : parse (line m2) = some m2)
    (h1 : (getOrCreate s t1 c1).2 = .ok i) (h2 : (getOrCreate (getOrCreate s t1 c1).1 t2 c2).2 = .ok j) :
    i = j ↔ m1 = m2 := by
  have hinv1 := tinv_step s t1 c1 hinv
  have hre1 := all_step s t1 c1 hre fun m hm _ _ => Option.some.inj (hp1.symm.trans hm) ▸ hr1
  have hinv2 := tinv_step _ t2 c2 hinv1
  obtain ⟨e1, he1, hs1, ht1⟩ := getOrCreate_ok_tags s hinv hre t1 m1 hp1 hne1 hr1 c1 i h1
  obtain ⟨e2, he2, hs2, ht2⟩ := getOrCreate_ok_tags _ hinv1 hre1 t2 m2 hp2 hne2 hr2 c2 j h2
  have he1' := getOrCreate_mono _ t2 c2 e1 he1
  constructor
  · intro hij
    rw [← ht1, ← ht2, eq_of_nodup_map (·.2.src) _ hinv2.2.2 e1 he1' e2 he2 (by rw [hs1, hs2, hij])]
  · intro hm
    rw [← hs1, ← hs2, entry_unique _ hinv2 e1 e2 he1' he2 (by rw [ht1, ht2, hm])]

/-- **Two tag texts denote the same partition iff they denote the same tag set** (on the Safe class) -/
theorem same_partition_iff (hq : QuoteContract) (s : St) (hinv : TInv s) (hsafe : SafeSt s) (t1 t2 : Bytes)
    (m1 m2 : Map) (hp1 : parse t1 = some m1) (hp2 : parse t2 = some m2) (hne1 : m1 ≠ []) (hne2 : m2 ≠ [])
    (hs1 : safe m1 = true) (hs2 : safe m2 = true) :
    ∃ i j, (getOrCreate s t1 true).2 = .ok i ∧
      (getOrCreate (getOrCreate s t1 true).1 t2 true).2 = .ok j ∧ (i = j ↔ m1 = m2) := by
  have hre := keys_reparse hq s hinv hsafe
  have hr1 := roundtrip_core hq m1 (parse_WF t1 m1 hp1) hs1
  have hr2 := roundtrip_core hq m2 (parse_WF t2 m2 hp2) hs2
  obtain ⟨i, hi, _⟩ := getOrCreate_spec s hinv hre t1 m1 hp1 hne1 hr1
  obtain ⟨j, hj, _⟩ := getOrCreate_spec _ (tinv_step s t1 true hinv)
    (all_step s t1 true hre fun m hm _ _ => Option.some.inj (hp1.symm.trans hm) ▸ hr1) t2 m2 hp2 hne2 hr2
  exact ⟨i, j, hi, hj, same_partition_of_ok s hinv hre t1 t2 true true i j m1 m2 hp1 hp2 hne1 hne2 hr1 hr2 hi hj⟩

/-! ## selection -/

theorem from_empty (so : StrOps) (s : St) : visit so s .none = some (s.tmap.map (·.2)) := by
  simp [visit, buildSource]

theorem from_tags (so : StrOps) (s : St) (t : Map) :
    visit so s (.tags t) =
      some ((s.tmap.map (·.2)).filter (fun d => t.all (fun p => d.tags.get? p.1 == some p.2))) := by
  simp [visit, buildSource, subsetOf, mapSubset]

theorem from_expr (so : StrOps) (s : St) (e : OrList) :
    (∀ f, buildOr so e = some f →
      visit so s (.expr e) = some ((s.tmap.map (·.2)).filter (fun d => orRef so e d.tags == some true))) ∧
    (buildOr so e = none → visit so s (.expr e) = none) := by
  refine ⟨?_, ?_⟩
  · intro f h
    have : (fun d : Desc => orRef so e d.tags == some true) = (fun d => f d.tags) := by
      funext d
      rw [Logrange.Proofs.TagsEval.buildOr_some so e f h d.tags]
      simp
    rw [this]
    simp [visit, buildSource, h]
  · intro h
    simp [visit, buildSource, h]

end Logrange.Proofs.TIndexId

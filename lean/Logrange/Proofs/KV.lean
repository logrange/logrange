import Logrange.Model.Tags
/-!
# Lemmas about `kvstring.SplitString`'s automaton (`splitGo`) and its reduction `scan`

`split_inert`: a piece on which `scan` succeeds is swallowed by `splitGo` as a unit (it only grows `cur`).
`QuoteContract`: what the round trip needs from `strconv.Quote` / `strconv.Unquote` (a hypothesis).
-/
namespace Logrange.Proofs.KV
open Go Logrange.Quote Logrange.KV Logrange.Tags

theorem splitGo_quote (c : UInt8) (rest : Bytes) (s : SS) (hq : (c == DQ) = true) :
    splitGo (c :: rest) s = splitGo rest { s with inStr := !s.inStr, cur := c :: s.cur } := by
  rw [splitGo.eq_def]; simp only [hq, if_true]

theorem splitGo_esc (c d : UInt8) (rest : Bytes) (s : SS) (hq : ¬ (c == DQ) = true) (hb : (c == BS && s.inStr) = true) :
    splitGo (c :: d :: rest) s = splitGo rest { s with cur := d :: c :: s.cur } := by
  rw [splitGo.eq_def]; simp only [hq, hb, Bool.false_eq_true, if_true, if_false]

theorem splitGo_plain (c : UInt8) (rest : Bytes) (s : SS) (hq : ¬ (c == DQ) = true) (hb : ¬ (c == BS && s.inStr) = true)
    (hs : ¬ ((c == EQ || c == CM) && !s.inStr) = true) :
    splitGo (c :: rest) s = splitGo rest { s with cur := c :: s.cur } := by
  rw [splitGo.eq_def]; simp only [hq, hb, hs, Bool.false_eq_true, if_false]

/-- `SplitString`'s automaton consumes a piece on which `scan` succeeds as a unit -/
theorem split_inert (p : Bytes) (b b' : Bool) (rest : Bytes) (s : SS) (h : scan p b = some b') :
    splitGo (p ++ rest) { s with inStr := b } = splitGo rest { s with inStr := b', cur := p.reverse ++ s.cur } := by
  revert s
  fun_induction scan p b with
  | case1 b => intro s; cases h; rfl
  | case2 c p b hq ih =>
    intro s
    rw [List.cons_append, splitGo_quote _ _ _ hq]
    simpa [List.append_assoc] using ih h { s with cur := c :: s.cur }
  | case3 => cases h
  | case4 c b hq hb d p ih =>
    intro s
    rw [List.cons_append, List.cons_append, splitGo_esc _ _ _ _ hq hb]
    simpa [List.append_assoc] using ih h { s with cur := d :: c :: s.cur }
  | case5 => cases h
  | case6 c p b hq hb hs ih =>
    intro s
    rw [List.cons_append, splitGo_plain _ _ _ hq hb hs]
    simpa [List.append_assoc] using ih h { s with cur := c :: s.cur }

theorem split_scan : ∀ (n : Nat) (p : Bytes), p.length ≤ n → ∀ (b : Bool) (rest : Bytes) (b' : Bool) (s : SS),
    scan p b = some b' →
    splitGo (p ++ rest) { s with inStr := b } = splitGo rest { s with inStr := b', cur := p.reverse ++ s.cur } :=
  fun _ p _ b rest b' s h => split_inert p b b' rest s h

/-- what the round trip assumes about `strconv.Quote` / `strconv.Unquote` -/
structure QuoteContract : Prop where
  shape : ∀ v : Bytes, ∃ body, quote v = DQ :: body ++ [DQ] ∧ scan body true = some true
  unquote_quote : ∀ v : Bytes, unquote (quote v) = some v

theorem scan_quote (c : UInt8) (rest : Bytes) (b : Bool) (hq : (c == DQ) = true) : scan (c :: rest) b = scan rest (!b) := by
  rw [scan.eq_def]; simp only [hq, if_true]

theorem scan_esc (c d : UInt8) (rest : Bytes) (b : Bool) (hq : ¬ (c == DQ) = true) (hb : (c == BS && b) = true) :
    scan (c :: d :: rest) b = scan rest b := by
  rw [scan.eq_def]; simp only [hq, hb, Bool.false_eq_true, if_true, if_false]

theorem scan_other (c : UInt8) (rest : Bytes) (b : Bool) (hq : ¬ (c == DQ) = true) (hb : ¬ (c == BS && b) = true)
    (hs : ¬ ((c == EQ || c == CM) && !b) = true) : scan (c :: rest) b = scan rest b := by
  rw [scan.eq_def]; simp only [hq, hb, hs, Bool.false_eq_true, if_false]

theorem scan_append (a b : Bytes) (s s' : Bool) (h : scan a s = some s') : scan (a ++ b) s = scan b s' := by
  fun_induction scan a s with
  | case1 s => cases h; rfl
  | case2 c a s hq ih => rw [List.cons_append, scan_quote _ _ _ hq]; exact ih h
  | case3 => cases h
  | case4 c s hq hb d a ih => rw [List.cons_append, List.cons_append, scan_esc _ _ _ _ hq hb]; exact ih h
  | case5 => cases h
  | case6 c a s hq hb hs ih => rw [List.cons_append, scan_other _ _ _ hq hb hs]; exact ih h

theorem scan_DQ_cons (r : Bytes) (s : Bool) : scan (DQ :: r) s = scan r (!s) := scan_quote DQ r s rfl

theorem inert_quote (hq : QuoteContract) (v : Bytes) : inert (quote v) = true := by
  obtain ⟨body, hshape, hbody⟩ := hq.shape v
  unfold inert
  rw [hshape, List.cons_append, scan_DQ_cons, scan_append body [DQ] _ true (by simpa using hbody),
    scan_DQ_cons]
  simp [scan]

theorem leadScan_suffix : ∀ (s : Bytes) (n : Nat), (leadScan s n).1 <:+ s
  | [], _ => by simp [leadScan]
  | c :: r, n => by
    unfold leadScan
    split
    · exact (leadScan_suffix r n).trans (List.suffix_cons c r)
    · split
      · exact (leadScan_suffix r (n + 1)).trans (List.suffix_cons c r)
      · exact List.suffix_refl _

theorem trailScan_suffix : ∀ (s : Bytes) (n : Int), (trailScan s n).1 <:+ s
  | [], _ => by simp [trailScan]
  | c :: r, n => by
    unfold trailScan
    split
    · split
      · exact (trailScan_suffix r n).trans (List.suffix_cons c r)
      · split
        · exact (trailScan_suffix r (n - 1)).trans (List.suffix_cons c r)
        · exact List.suffix_refl _
    · exact List.suffix_refl _

end Logrange.Proofs.KV

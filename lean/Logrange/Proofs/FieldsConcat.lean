import Logrange.Proofs.FieldsRT
/-!
# `Fields.Concat` and the fields of a stored event

`api/rpc/ingestor.go` stores, for every event of a write, `wpi.flds.Concat(field.Parse(le.Fields))`: the write-level
fields followed by the event's own fields. `Concat` is byte concatenation; on well-formed operands it denotes the
concatenation of the pieces, so the `Fields` text of a query result is `kvText` of the write-level pairs followed by the
event's pairs, and it parses back to the stored bytes when those pairs are in the class `safeFields`.
-/
namespace Logrange.Proofs.FieldsConcat
open Go Logrange.Quote Logrange.KV Logrange.Tags Logrange.FieldsKV Logrange.Proofs.KV Logrange.Proofs.Tags
  Logrange.Proofs.FieldsKV Logrange.Proofs.FieldsRT

/-- every piece the reference decoder returns fits one length byte -/
theorem decode_items_le : ∀ (fuel : Nat) (f : Bytes) (items : List Bytes),
    decodeItems fuel f = some items → ∀ p ∈ items, p.length ≤ 255 :=
  fun fuel f items h => (decodeItems_some fuel f items h).2

theorem encodeItems_append (a b : List Bytes) : encodeItems (a ++ b) = encodeItems a ++ encodeItems b := by
  simp [encodeItems]

theorem length_append_even {a b : List Bytes} (ha : a.length % 2 = 0) (hb : b.length % 2 = 0) :
    (a ++ b).length % 2 = 0 := by
  rw [List.length_append, Nat.add_mod, ha, hb]

/-- **`Concat` of well-formed fields denotes the concatenation of their pieces** -/
theorem concat_decodes (f g : Bytes) (a b : List Bytes) (ha : decodeItems f.length f = some a)
    (hb : decodeItems g.length g = some b) :
    decodeItems (concat f g).length (concat f g) = some (a ++ b) := by
  obtain ⟨hf, hla⟩ := decodeItems_some _ _ _ ha
  obtain ⟨hg, hlb⟩ := decodeItems_some _ _ _ hb
  have hle : ∀ p ∈ a ++ b, p.length ≤ 255 := fun p hp => (List.mem_append.mp hp).elim (hla p) (hlb p)
  unfold concat
  rw [hf, hg, ← encodeItems_append]
  exact decode_encode (a ++ b) hle _ (encodeItems_length _)

/-- **`Concat` preserves well-formedness** -/
theorem concat_WF (f g : Bytes) (hf : WF f) (hg : WF g) : WF (concat f g) := by
  obtain ⟨a, ha, hae⟩ := hf
  obtain ⟨b, hb, hbe⟩ := hg
  exact ⟨a ++ b, concat_decodes f g a b ha hb, length_append_even hae hbe⟩

theorem pairsOf_append : ∀ (a b : List Bytes), a.length % 2 = 0 → pairsOf (a ++ b) = pairsOf a ++ pairsOf b
  | [], _, _ => rfl
  | [_], _, h => by simp at h
  | x :: y :: r, b, h => by
    have h' : r.length % 2 = 0 := (Nat.add_mod_right r.length 2).symm.trans h
    show (x, y) :: pairsOf (r ++ b) = (x, y) :: (pairsOf r ++ pairsOf b)
    rw [pairsOf_append r b h']

/-- **The `Fields` text of a stored event**: for a write whose write-level field text `tf` and event field text `te` are
accepted, the stored field list is the encoding of the write-level pieces followed by the event's pieces; when those
pairs are in the class `safeFields`, `AsKVString` prints `kvText` of the write-level pairs followed by the event's pairs
and `NewFieldsFromKVString` reads that text back as exactly the stored bytes. -/
theorem stored_event_fields_roundtrip (tf te : Bytes) (a b : List Bytes) (ha : fromKVItems tf = some a)
    (hb : fromKVItems te = some b) (hs : safeFields (pairsOf a ++ pairsOf b) = true) :
    ∃ fa fb, fromKV tf = some fa ∧ fromKV te = some fb ∧
      asKV (concat fa fb) = .ok (kvText (pairsOf a ++ pairsOf b)) ∧
      fromKV (kvText (pairsOf a ++ pairsOf b)) = some (concat fa fb) := by
  have hea := fromKVItems_even tf a ha
  have heb := fromKVItems_even te b hb
  refine ⟨encodeItems a, encodeItems b, by simp [fromKV, ha], by simp [fromKV, hb], ?_⟩
  have hp := pairsOf_append a b hea
  have := fields_roundtrip_core (a ++ b) (length_append_even hea heb) (by rw [hp]; exact hs)
  rw [hp, encodeItems_append] at this
  exact this

end Logrange.Proofs.FieldsConcat

import Logrange.Proofs.Points
/-! The two remaining cases of `block.addInterval` at level 0 — merge into the covering interval and collapse to one
interval — preserve `IndexSound`; together with `add_preserves_append` this gives `add_preserves`. -/
namespace Logrange.Points

/-! ## general lemmas -/

/-- the kept prefix of the merge case, defined by recursion: the points with `ts ≤ t` up to the first larger one -/
def keep (t : Int) : List Pt → List Pt
  | [] => []
  | a :: r => if a.ts ≤ t then a :: keep t r else []

theorem keep_nil (t : Int) : keep t [] = [] := rfl

theorem keep_cons_le {a : Pt} {r : List Pt} {t : Int} (h : a.ts ≤ t) : keep t (a :: r) = a :: keep t r := by
  simp [keep, h]

theorem keep_cons_gt {a : Pt} {r : List Pt} {t : Int} (h : ¬ a.ts ≤ t) : keep t (a :: r) = [] := by
  simp [keep, h]

/-- `recs[:insIdx+1]` is the recursive prefix -/
theorem take_cntLE (t : Int) : ∀ (pts : List Pt), pts.take (cntLE pts t) = keep t pts := by
  intro pts
  induction pts with
  | nil => simp [keep]
  | cons a r ih =>
    by_cases ha : a.ts ≤ t
    · rw [cntLE_cons_le ha, keep_cons_le ha, List.take_succ_cons, ih]
    · rw [cntLE_cons_gt ha, keep_cons_gt ha]; simp

theorem mem_keep {t : Int} {p : Pt} : ∀ (pts : List Pt), p ∈ keep t pts → p ∈ pts ∧ p.ts ≤ t := by
  intro pts
  induction pts with
  | nil => intro h; simp [keep] at h
  | cons a r ih =>
    intro h
    by_cases ha : a.ts ≤ t
    · rw [keep_cons_le ha] at h
      cases h with
      | head => exact ⟨List.mem_cons_self, ha⟩
      | tail _ h' => exact ⟨List.mem_cons_of_mem _ (ih h').1, (ih h').2⟩
    · rw [keep_cons_gt ha] at h; simp at h

/-- `after_ge` for every point of the list, not only the head -/
theorem after_ge_mem (tsOf : Nat → Int) (n : Nat) : ∀ (pts : List Pt), SortedTs pts → Claims tsOf pts →
    TailAbove tsOf n pts → ∀ p ∈ pts, ∀ q, p.idx < q → q < n → p.ts ≤ tsOf q := by
  intro pts
  induction pts with
  | nil => intro _ _ _ p hp; simp at hp
  | cons a r ih =>
    intro hs hc ht p hp q h1 h2
    cases hp with
    | head => exact after_ge tsOf n r a hs hc ht q h1 h2
    | tail _ hp' =>
      cases r with
      | nil => cases hp'
      | cons b r' => exact ih hs.2 hc.2 (tailAbove_tail ht) p hp' q h1 h2

theorem upper_aux (tsOf : Nat → Int) : ∀ (r : List Pt) (a : Pt), SortedTs (a :: r) → Claims tsOf (a :: r) →
    (∀ q, q ≤ a.idx → tsOf q ≤ a.ts) → ∀ q, q ≤ (lastD (a :: r)).idx → tsOf q ≤ (lastD (a :: r)).ts := by
  intro r
  induction r with
  | nil => intro a _ _ H q hq; rw [lastD_single] at hq ⊢; exact H q hq
  | cons b r' ih =>
    intro a hs hc H q hq
    rw [lastD_cons_cons] at hq ⊢
    refine ih b hs.2 hc.2 ?_ q hq
    intro q' hq'
    by_cases h1 : q' ≤ a.idx
    · have := H q' h1; have := hs.1; omega
    · exact (hc.1 q' (by omega) hq').2

/-- under `IndexSound` every position up to the last point's has a timestamp ≤ the last point's -/
theorem below_last {tsOf : Nat → Int} {n : Nat} {pts : List Pt} (hs : IndexSound tsOf n pts) (hne : pts ≠ []) :
    ∀ q, q ≤ (lastD pts).idx → tsOf q ≤ (lastD pts).ts := by
  match pts, hs, hne with
  | [], _, hne => exact absurd rfl hne
  | [a], hs, _ => exact absurd rfl hs.len
  | a :: b :: r, hs, _ =>
    have hh := hs.head
    simp only [HeadOk] at hh
    intro q hq
    rw [lastD_cons_cons] at hq ⊢
    refine upper_aux tsOf r b hs.sortedTs.2 hs.claims.2 ?_ q hq
    intro q' hq'
    by_cases h0 : q' = 0
    · subst h0; exact hh.2.2
    · exact (hs.claims.1 q' (by omega) hq').2

/-- the upper timestamp of the rewritten last point bounds every position up to the end of the batch -/
theorem upper_new {tsOf : Nat → Int} {n : Nat} {pts : List Pt} (it : Iv) (hs : IndexSound tsOf n pts) (hne : pts ≠ [])
    (hn : it.p0.idx = n) (hb : BatchIn it tsOf) (hg : GapCovered pts it tsOf) :
    ∀ q, q ≤ it.p1.idx → tsOf q ≤ max it.p1.ts (lastD pts).ts := by
  intro q hq
  by_cases h1 : q ≤ (lastD pts).idx
  · exact Int.le_trans (below_last hs hne q h1) (Int.le_max_right _ _)
  · refine Int.le_trans ?_ (Int.le_max_left _ _)
    by_cases h2 : q < it.p0.idx
    · exact hg q (by omega) h2
    · exact (hb q (by omega) hq).2

/-! ## the merge case on the recursive prefix -/

theorem keep_sound (tsOf : Nat → Int) (t : Int) : ∀ (pts : List Pt), SortedTs pts → SortedIdx pts → Claims tsOf pts →
    SortedTs (keep t pts) ∧ SortedIdx (keep t pts) ∧ Claims tsOf (keep t pts)
  | [], _, _, _ => ⟨trivial, trivial, trivial⟩
  | [a], _, _, _ => by
    by_cases ha : a.ts ≤ t
    · rw [keep_cons_le ha]; exact ⟨trivial, trivial, trivial⟩
    · rw [keep_cons_gt ha]; exact ⟨trivial, trivial, trivial⟩
  | a :: b :: r, hs, hi, hc => by
    have ih := keep_sound tsOf t (b :: r) hs.2 hi.2 hc.2
    by_cases ha : a.ts ≤ t
    · rw [keep_cons_le ha]
      by_cases hb : b.ts ≤ t
      · rw [keep_cons_le hb] at ih ⊢
        exact ⟨⟨hs.1, ih.1⟩, ⟨hi.1, ih.2.1⟩, ⟨hc.1, ih.2.2⟩⟩
      · rw [keep_cons_gt hb]; exact ⟨trivial, trivial, trivial⟩
    · rw [keep_cons_gt ha]; exact ⟨trivial, trivial, trivial⟩

/-- the result of the merge case, on the recursive prefix -/
theorem merge_sound {tsOf : Nat → Int} {n n' : Nat} {pts : List Pt} (it : Iv) (hs : IndexSound tsOf n pts)
    (hk : keep it.p0.ts pts ≠ [])
    (hn : it.p0.idx = n) (hle : it.p0.idx ≤ it.p1.idx) (hn' : n' = it.p1.idx + 1) (hb : BatchIn it tsOf)
    (hg : GapCovered pts it tsOf) :
    IndexSound tsOf n' (keep it.p0.ts pts ++ [⟨max it.p1.ts (lastD pts).ts, it.p1.idx⟩]) := by
  have hne : pts ≠ [] := by intro e; rw [e] at hk; exact hk rfl
  have U := upper_new it hs hne hn hb hg
  obtain ⟨hlm, hlt⟩ := mem_keep _ (lastD_mem _ hk)
  obtain ⟨k1, k2, k3⟩ := keep_sound tsOf it.p0.ts pts hs.sortedTs hs.sortedIdx hs.claims
  rw [hn']
  refine indexSound_snoc _ ⟨_, it.p1.idx⟩ hk k1 k2 k3 ?_ (fun q h1 h2 => ⟨?_, U q h2⟩)
    (Int.le_trans (mem_ts_le_lastD _ hs.sortedTs _ hlm) (Int.le_max_right _ _))
    (fun p hp => by have := hs.inChunk p (mem_keep _ hp).1; show p.idx ≤ it.p1.idx; omega)
  · -- the first interval is kept, or rewritten with the new upper point
    match pts, hs, hk with
    | [a], hs, _ => exact absurd rfl hs.len
    | a :: b :: r, hs, hk =>
      have hh := hs.head
      have ha : a.ts ≤ it.p0.ts := Classical.byContradiction fun h => hk (keep_cons_gt h)
      rw [keep_cons_le ha]
      by_cases hb' : b.ts ≤ it.p0.ts
      · rw [keep_cons_le hb']; exact hh
      · rw [keep_cons_gt hb']; exact ⟨hh.1, hh.2.1, U 0 (Nat.zero_le _)⟩
  · by_cases hq : q < n
    · exact after_ge_mem tsOf n _ hs.sortedTs hs.claims (hs.tail hne) _ hlm q h1 hq
    · exact Int.le_trans hlt (hb q (by omega) h2).1

/-! ## the three cases of `add` -/

theorem add_merge_eq {pts : List Pt} (it : Iv) (hc1 : 0 < cntLE pts it.p0.ts) (hc2 : cntLE pts it.p0.ts < pts.length) :
    add pts it = keep it.p0.ts pts ++ [⟨max it.p1.ts (lastD pts).ts, it.p1.idx⟩] := by
  match pts, hc1, hc2 with
  | [], _, hc2 => simp at hc2
  | a :: r, hc1, hc2 =>
    simp only [add]
    rw [if_neg (by omega), if_neg (by omega), take_cntLE]

theorem add_collapse_eq {pts : List Pt} (it : Iv) (hc0 : cntLE pts it.p0.ts = 0) (hne : pts ≠ []) :
    add pts it = [⟨min it.p0.ts (headD pts).ts, min it.p0.idx (headD pts).idx⟩,
      ⟨max it.p1.ts (lastD pts).ts, it.p1.idx⟩] := by
  match pts, hc0, hne with
  | [], _, hne => exact absurd rfl hne
  | a :: r, hc0, _ =>
    simp only [add]
    rw [if_neg (by rw [hc0]; simp), if_pos hc0]

/-- **merge case** of `block.addInterval`: the batch starts inside the indexed time span; the records after the
covering interval's left point are replaced by one point `(max p1.ts last.ts, p1.idx)`. -/
theorem add_preserves_merge {tsOf : Nat → Int} {n n' : Nat} {pts : List Pt} (it : Iv) (hs : IndexSound tsOf n pts)
    (hc1 : 0 < cntLE pts it.p0.ts) (hc2 : cntLE pts it.p0.ts < pts.length)
    (hn : it.p0.idx = n) (hle : it.p0.idx ≤ it.p1.idx) (hn' : n' = it.p1.idx + 1) (hb : BatchIn it tsOf)
    (hg : GapCovered pts it tsOf) : IndexSound tsOf n' (add pts it) := by
  rw [add_merge_eq it hc1 hc2]
  apply merge_sound it hs _ hn hle hn' hb hg
  intro hk
  have := take_cntLE it.p0.ts pts
  rw [hk] at this
  have hl := congrArg List.length this
  rw [List.length_take] at hl
  simp only [List.length_nil] at hl
  omega

/-- **collapse case** of `block.addInterval`: the batch starts below every indexed timestamp; the whole block becomes
one interval `[(min p0.ts first.ts, 0), (max p1.ts last.ts, p1.idx)]`. -/
theorem add_preserves_collapse {tsOf : Nat → Int} {n n' : Nat} {pts : List Pt} (it : Iv) (hs : IndexSound tsOf n pts)
    (hc0 : cntLE pts it.p0.ts = 0) (hne : pts ≠ [])
    (hn : it.p0.idx = n) (hle : it.p0.idx ≤ it.p1.idx) (hn' : n' = it.p1.idx + 1) (hb : BatchIn it tsOf)
    (hg : GapCovered pts it tsOf) : IndexSound tsOf n' (add pts it) := by
  rw [add_collapse_eq it hc0 hne, hn']
  have U := upper_new it hs hne hn hb hg
  have hb0 := hb it.p0.idx (Nat.le_refl _) hle
  match pts, hs, hne, U with
  | [a], hs, _, _ => exact absurd rfl hs.len
  | a :: b :: r, hs, hne, U =>
    have hh := hs.head
    have hi0 : min it.p0.idx a.idx = 0 := by rw [hh.1]; omega
    show IndexSound tsOf _ ([⟨min it.p0.ts a.ts, min it.p0.idx a.idx⟩] ++ [⟨_, it.p1.idx⟩])
    rw [hi0]
    refine indexSound_snoc [⟨min it.p0.ts a.ts, 0⟩] ⟨max it.p1.ts (lastD (a :: b :: r)).ts, it.p1.idx⟩ (by simp) trivial trivial
      trivial ⟨rfl, Int.le_trans (Int.min_le_right _ _) hh.2.1, U 0 (Nat.zero_le _)⟩ (fun q h1 h2 => ⟨?_, U q h2⟩)
      (Int.le_trans (Int.min_le_left _ _) (Int.le_trans (Int.le_trans hb0.1 hb0.2) (Int.le_max_left _ _)))
      (by simp)
    by_cases hq : q < n
    · exact Int.le_trans (Int.min_le_right _ _)
        (after_ge tsOf n (b :: r) a hs.sortedTs hs.claims (hs.tail hne) q (by rw [hh.1]; exact h1) hq)
    · exact Int.le_trans (Int.min_le_left _ _) (hb q (by omega) h2).1

/-- **`block.addInterval` at level 0 preserves `IndexSound`** (all three cases) -/
theorem add_preserves {tsOf : Nat → Int} {n n' : Nat} {pts : List Pt} (it : Iv) (hs : IndexSound tsOf n pts)
    (hn : it.p0.idx = n) (hle : it.p0.idx ≤ it.p1.idx) (hn' : n' = it.p1.idx + 1) (hb : BatchIn it tsOf)
    (hg : GapCovered pts it tsOf) (he : pts = [] → it.p0.idx = 0) : IndexSound tsOf n' (add pts it) := by
  by_cases hcase : cntLE pts it.p0.ts = pts.length
  · exact add_preserves_append it hs hcase hn hle hn' hb hg he
  · have hlt : cntLE pts it.p0.ts < pts.length := by
      have := cntLE_le_length pts it.p0.ts; omega
    by_cases hc0 : cntLE pts it.p0.ts = 0
    · have hne : pts ≠ [] := by
        intro h; subst h; simp at hlt
      exact add_preserves_collapse it hs hc0 hne hn hle hn' hb hg
    · exact add_preserves_merge it hs (by omega) hlt hn hle hn' hb hg

/-! ## concrete instances -/

/-- merge with `c = 1`: the batch starts inside the first interval, everything after the first point is replaced -/
example : add [⟨10, 0⟩, ⟨20, 5⟩, ⟨30, 9⟩] ⟨⟨15, 12⟩, ⟨25, 14⟩⟩ = [⟨10, 0⟩, ⟨30, 14⟩] := by decide
/-- merge with `c = 2` and a batch that raises the upper timestamp -/
example : add [⟨10, 0⟩, ⟨20, 5⟩, ⟨30, 9⟩] ⟨⟨22, 12⟩, ⟨40, 14⟩⟩ = [⟨10, 0⟩, ⟨20, 5⟩, ⟨40, 14⟩] := by decide
example : cntLE [⟨10, 0⟩, ⟨20, 5⟩, ⟨30, 9⟩] 22 = 2 ∧ keep 22 [⟨10, 0⟩, ⟨20, 5⟩, ⟨30, 9⟩] = [⟨10, 0⟩, ⟨20, 5⟩] := by decide
/-- collapse: the batch starts below the first point -/
example : add [⟨10, 0⟩, ⟨20, 5⟩, ⟨30, 9⟩] ⟨⟨5, 12⟩, ⟨25, 14⟩⟩ = [⟨5, 0⟩, ⟨30, 14⟩] := by decide
example : cntLE [⟨10, 0⟩, ⟨20, 5⟩, ⟨30, 9⟩] 5 = 0 := by decide
/-- append, for comparison -/
example : add [⟨10, 0⟩, ⟨20, 5⟩, ⟨30, 9⟩] ⟨⟨30, 12⟩, ⟨35, 14⟩⟩ = [⟨10, 0⟩, ⟨20, 5⟩, ⟨30, 9⟩, ⟨35, 14⟩] := by decide

end Logrange.Points

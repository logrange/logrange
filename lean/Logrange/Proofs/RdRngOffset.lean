import Logrange.Proofs.RdRngPaging
/-!
Offset laws for a one-source RANGED cursor (C16 with RANGE), on top of `RdRngPaging.lean`. Forward part: `head + k`.
Over the admitted records `wflat j`: the forward cursor is a stream in the sense of `RdOffsetStream.lean` (`rp_delivers`), which
gives the loops.
-/
set_option linter.unusedSectionVars false
set_option linter.unusedVariables false
namespace Logrange.Rd

section fwd
variable (lo hi : Option Int) (HG : RGetFwdSpec) (HN : RNextFwdSpec)
include HG HN

/-- `curGet` in the form needed for navigation -/
theorem ro_get {name j w sy c i} (hs : Sorted j) (h : AbsR lo hi name j w sy c i) :
    ∃ i', AbsR lo hi name j w sy (curGet c).1 i' ∧ SatAtR lo hi j w i' ∧ FLR lo hi j w i' = FLR lo hi j w i ∧
      ((curGet c).2 = none ↔ FLR lo hi j w i = []) := by
  obtain ⟨g, i', a, s, f⟩ := (rp_delivers lo hi HG HN hs).get ⟨i, h, rfl⟩
  exact ⟨i', a, s, f, by rw [g]; exact List.head?_eq_none_iff⟩

/-- the step loop of `Offset`, forward: `k` matching events are skipped (or the end is reached) -/
theorem ro_steps_fwd {name j w sy} (hs : Sorted j) : ∀ (k : Nat) (c : Cur) (i : Nat) (pos : PosId),
    AbsR lo hi name j w sy c i → SatAtR lo hi j w i →
    ∃ i', AbsR lo hi name j w sy (offsetSteps k c pos).1 i' ∧ SatAtR lo hi j w i' ∧ FLR lo hi j w i' = (FLR lo hi j w i).drop k :=
  fun k c i pos h hsat => (rp_delivers lo hi HG HN hs).steps k c _ pos ⟨i, h, hsat, rfl⟩

/-- **head + k**: after `Offset(+k)` from any forward state the remaining output is the old one without its
first `k` events -/
theorem ro_offset_pos {name j w sy c i} (hs : Sorted j) (k : Nat) (h : AbsR lo hi name j w sy c i) :
    ∃ i', AbsR lo hi name j w sy (offset c (k : Int)) i' ∧ FLR lo hi j w i' = (FLR lo hi j w i).drop k :=
  (rp_delivers lo hi HG HN hs).offset_pos k ⟨i, h, rfl⟩

end fwd
end Logrange.Rd

import Logrange.Proofs.Where
/-!
Lemmas for the concrete instances of the WHERE evaluator's environment (C05, round 2): Go's `strings.ToUpper` /
`strings.ToLower` on ASCII strings (the byte-wise mapping), and what UPPER()/LOWER() around an operand then compute.
-/
namespace Logrange.Where
open Go

/-- all bytes below 0x80: what Go's `ToUpper`/`ToLower` test first (`isASCII`) -/
def isAscii (s : Bytes) : Bool := s.all (fun c => decide (c.toNat < 128))

def upB (c : UInt8) : UInt8 := if 97 ≤ c.toNat && c.toNat ≤ 122 then UInt8.ofNat (c.toNat - 32) else c
def loB (c : UInt8) : UInt8 := if 65 ≤ c.toNat && c.toNat ≤ 90 then UInt8.ofNat (c.toNat + 32) else c

theorem asciiUpper_eq_map (s : Bytes) : asciiUpper s = s.map upB := rfl
theorem asciiLower_eq_map (s : Bytes) : asciiLower s = s.map loB := rfl

/-- **the environment maps ASCII strings byte-wise**, as Go's `strings.ToUpper` / `strings.ToLower` do (their ASCII fast
path: `c -= 'a' - 'A'` for `'a' ≤ c ≤ 'z'`, and the mirror image); compared with the real functions on every run by the
harness section `casemap`. Nothing is said about strings with a byte ≥ 0x80 (Unicode tables: still a parameter). -/
def AsciiCase (env : Env) : Prop :=
  ∀ s, isAscii s = true → env.up s = asciiUpper s ∧ env.lo s = asciiLower s

theorem upB_toNat (c : UInt8) : (upB c).toNat = if 97 ≤ c.toNat ∧ c.toNat ≤ 122 then c.toNat - 32 else c.toNat := by
  have := c.toNat_lt
  simp only [upB, Bool.and_eq_true, decide_eq_true_eq]
  split
  · rw [UInt8.toNat_ofNat']; omega
  · rfl
theorem loB_toNat (c : UInt8) : (loB c).toNat = if 65 ≤ c.toNat ∧ c.toNat ≤ 90 then c.toNat + 32 else c.toNat := by
  have := c.toNat_lt
  simp only [loB, Bool.and_eq_true, decide_eq_true_eq]
  split
  · rw [UInt8.toNat_ofNat']; omega
  · rfl

theorem loB_upB (c : UInt8) : loB (upB c) = loB c := by
  apply UInt8.toNat_inj.mp
  rw [loB_toNat, loB_toNat, upB_toNat]
  split <;> split <;> (try split) <;> omega
theorem upB_loB (c : UInt8) : upB (loB c) = upB c := by
  apply UInt8.toNat_inj.mp
  rw [upB_toNat, upB_toNat, loB_toNat]
  split <;> split <;> (try split) <;> omega
theorem upB_ascii (c : UInt8) (h : c.toNat < 128) : (upB c).toNat < 128 := by
  rw [upB_toNat]; split <;> omega
theorem loB_ascii (c : UInt8) (h : c.toNat < 128) : (loB c).toNat < 128 := by
  rw [loB_toNat]; split <;> omega

theorem asciiLower_upper (s : Bytes) : asciiLower (asciiUpper s) = asciiLower s := by
  simp [asciiUpper_eq_map, asciiLower_eq_map, List.map_map, Function.comp_def, loB_upB]
theorem asciiUpper_lower (s : Bytes) : asciiUpper (asciiLower s) = asciiUpper s := by
  simp [asciiUpper_eq_map, asciiLower_eq_map, List.map_map, Function.comp_def, upB_loB]

/-- equal after upper-casing ⇔ equal after lower-casing: both say "equal up to ASCII letter case" -/
theorem asciiUpper_eq_iff_lower (v w : Bytes) : asciiUpper v = asciiUpper w ↔ asciiLower v = asciiLower w := by
  constructor
  · intro h; rw [← asciiLower_upper v, ← asciiLower_upper w, h]
  · intro h; rw [← asciiUpper_lower v, ← asciiUpper_lower w, h]

theorem isAscii_upper (s : Bytes) (h : isAscii s = true) : isAscii (asciiUpper s) = true := by
  simp only [isAscii, List.all_eq_true, decide_eq_true_eq, asciiUpper_eq_map, List.mem_map] at h ⊢
  rintro c ⟨a, ha, rfl⟩; exact upB_ascii a (h a ha)
theorem isAscii_lower (s : Bytes) (h : isAscii s = true) : isAscii (asciiLower s) = true := by
  simp only [isAscii, List.all_eq_true, decide_eq_true_eq, asciiLower_eq_map, List.mem_map] at h ⊢
  rintro c ⟨a, ha, rfl⟩; exact loB_ascii a (h a ha)

/-- the function nest around an operand, applied to an ASCII value under an ASCII-exact environment, is the byte-wise
nest `applyFnsAscii` (UPPER = `asciiUpper`, LOWER = `asciiLower`, innermost first) and stays ASCII -/
def applyFnsAscii (env : Env) : Ident → Bytes → Bytes
  | .mk _ .nil, s => s
  | .mk fn (.cons p _), s =>
    if env.up fn == sUPPER then asciiUpper (applyFnsAscii env p s)
    else if env.up fn == sLOWER then asciiLower (applyFnsAscii env p s)
    else applyFnsAscii env p s

theorem applyFns_ascii (env : Env) (hA : AsciiCase env) : ∀ (id : Ident) (s : Bytes), isAscii s = true →
    applyFns env id s = applyFnsAscii env id s ∧ isAscii (applyFnsAscii env id s) = true
  | .mk _ .nil, s, h => by simp [applyFns, applyFnsAscii, h]
  | .mk fn (.cons p _), s, h => by
    obtain ⟨e, ha⟩ := applyFns_ascii env hA p s h
    simp only [applyFns, applyFnsAscii]
    split
    · rw [e, (hA _ ha).1]; exact ⟨rfl, isAscii_upper _ ha⟩
    · split
      · rw [e, (hA _ ha).2]; exact ⟨rfl, isAscii_lower _ ha⟩
      · exact ⟨e, ha⟩

/-- the table environment with tables that hold no ASCII key (the driver fills them with non-ASCII strings only) is
ASCII-exact; in particular the empty tables -/
theorem tableEnv_asciiCase (ups los : List (Bytes × Bytes)) (tss : List (Bytes × Option Int))
    (hu : ∀ p ∈ ups, isAscii p.1 = false) (hl : ∀ p ∈ los, isAscii p.1 = false) : AsciiCase (tableEnv ups los tss) := by
  intro s hs
  have look : ∀ (t : List (Bytes × Bytes)), (∀ p ∈ t, isAscii p.1 = false) → lookup t s = none := by
    intro t ht
    simp only [lookup, Option.map_eq_none_iff, List.find?_eq_none]
    intro p hp hk
    have : p.1 = s := by simpa using hk
    have := ht p hp
    simp_all
  simp [tableEnv, look ups hu, look los hl]

end Logrange.Where

import Logrange.Model.DateLineParser
/-!
# The collector's line parser never skips a time-stamped line while undated runs stay below the threshold

Invariant of `lpStepA` over a file: not skipping, the failure counter is at most the length of the current run of
undated lines, and it is 0 whenever a format is remembered. Needs the counter reset in the detection branch
(`cfg.resetOnDetect`, a fact read from the source).
-/
namespace Logrange.Date

def LRec.isDated : LRec → Bool
  | .dated _ _ => true
  | .carried _ => false

/-- a line some format of the list dates -/
def LineAns.findable (a : LineAns) : Bool := (a.full ()).isSome

/-- every run of consecutive unfindable lines (the current one has length `r` so far) stays below `maxFail` -/
def okRuns (maxFail : Nat) : Nat → List LineAns → Bool
  | _, [] => true
  | r, a :: rest => if a.findable then okRuns maxFail 0 rest else decide (r + 1 < maxFail) && okRuns maxFail (r + 1) rest

/-- if the remembered format dates a line then the full parser finds a format for it too (it contains that format) -/
def consistent (as : List LineAns) : Prop := ∀ a ∈ as, ∀ i c, a.fast i = some c → a.findable = true

/-- every findable line got a record with its own date -/
def headersDated : List LineAns → List LRec → Bool
  | [], [] => true
  | a :: as, r :: rs => (!a.findable || r.isDated) && headersDated as rs
  | _, _ => false

theorem lpStepA_fast {cfg : LPCfg} {lp : LP} {a : LineAns} {i : Nat} {c : Civil} 
    (h : lp.cur.bind (fun i => (a.fast i).map (fun c => (i, c))) = some (i, c)) :
    lpStepA cfg lp a = (lpFast cfg lp c, .dated i c) := by
  simp only [lpStepA, h]

theorem lpStepA_slow {cfg : LPCfg} {lp : LP} {a : LineAns} 
    (h : lp.cur.bind (fun i => (a.fast i).map (fun c => (i, c))) = none) :
    lpStepA cfg lp a = lpSlow cfg lp (if lp.skipping then none else a.full ()) := by
  simp only [lpStepA, h]

theorem fast_some {lp : LP} {a : LineAns} {i : Nat} {c : Civil}
    (h : lp.cur.bind (fun i => (a.fast i).map (fun c => (i, c))) = some (i, c)) : lp.cur = some i ∧ a.fast i = some c := by
  cases hc : lp.cur with
  | none => rw [hc] at h; cases h
  | some j =>
    rw [hc, Option.bind_some, Option.map_eq_some_iff] at h
    obtain ⟨c', hf, e⟩ := h
    cases e
    exact ⟨rfl, hf⟩

theorem lpSlow_found {cfg : LPCfg} {lp : LP} (hpar : lp.skipping = false) (i : Nat) (c : Civil) :
    lpSlow cfg lp (some (i, c)) =
      ({ lp with cur := some i, last := if cfg.lastOnDetect then some c else lp.last,
                 maxSkip := if cfg.maxSkipOnDetect == 0 then lp.maxSkip else cfg.maxSkipOnDetect,
                 cnt := if cfg.resetOnDetect then 0 else lp.cnt }, .dated i c) := by
  simp only [lpSlow, hpar, Bool.not_false, if_true]

theorem lpSlow_miss {cfg : LPCfg} {lp : LP} (hpar : lp.skipping = false) :
    lpSlow cfg lp none =
      (if lp.cnt + 1 ≥ cfg.maxFail then { lp with cur := none, skipping := true, cnt := 0 } else { lp with cur := none, cnt := lp.cnt + 1 },
       .carried lp.last) := by
  simp only [lpSlow, hpar, Bool.not_false, if_true]

theorem lpSlow_skip {cfg : LPCfg} {lp : LP} (hsk : lp.skipping = true) (found : Option (Nat × Civil)) :
    lpSlow cfg lp found =
      (if lp.cnt + 1 ≥ lp.maxSkip then
         { lp with skipping := false, cnt := 0, maxSkip := if lp.maxSkip < cfg.skipCap then lp.maxSkip * 2 else lp.maxSkip }
       else { lp with cnt := lp.cnt + 1 }, .carried lp.last) := by
  simp only [lpSlow, hsk, Bool.not_true, Bool.false_eq_true, if_false]

structure LPInv (r : Nat) (lp : LP) : Prop where
  parsing : lp.skipping = false
  cnt : lp.cnt ≤ r
  cur : lp.cur.isSome = true → lp.cnt = 0

theorem lpInv_step {cfg : LPCfg} (hreset : cfg.resetOnDetect = true) {r : Nat} {lp : LP} (hinv : LPInv r lp) {a : LineAns}
    (hcons : ∀ i c, a.fast i = some c → a.findable = true) :
    (a.findable = true → (lpStepA cfg lp a).2.isDated = true ∧ LPInv 0 (lpStepA cfg lp a).1) ∧
    (a.findable = false → r + 1 < cfg.maxFail → LPInv (r + 1) (lpStepA cfg lp a).1) := by
  obtain ⟨hpar, hcnt, hcur⟩ := hinv
  cases hfast : lp.cur.bind (fun i => (a.fast i).map (fun c => (i, c))) with
  | some ic =>
    -- fast path: the line is findable (consistency); the counter was 0 and stays 0
    obtain ⟨i, c⟩ := ic
    obtain ⟨hi, hc⟩ := fast_some hfast
    have hc0 : (if cfg.resetOnFast then 0 else lp.cnt) = 0 := by rw [hcur (by rw [hi]; rfl), ite_self]
    rw [lpStepA_fast hfast]
    exact ⟨fun _ => ⟨rfl, ⟨hpar, Nat.le_of_eq hc0, fun _ => hc0⟩⟩, fun h => by rw [hcons i c hc] at h; cases h⟩
  | none =>
    rw [lpStepA_slow hfast, hpar, if_neg Bool.false_ne_true, LineAns.findable]
    cases a.full () with
    | some ic =>
      rw [lpSlow_found hpar, hreset]
      exact ⟨fun _ => ⟨rfl, ⟨hpar, Nat.le_refl 0, fun _ => rfl⟩⟩, nofun⟩
    | none =>
      rw [lpSlow_miss hpar]
      refine ⟨nofun, fun _ hlt => ?_⟩
      rw [if_neg (Nat.not_le.mpr (Nat.lt_of_le_of_lt (Nat.succ_le_succ hcnt) hlt))]
      exact ⟨hpar, Nat.succ_le_succ hcnt, nofun⟩

theorem lp_headers_dated (cfg : LPCfg) (hreset : cfg.resetOnDetect = true) (as : List LineAns) :
    ∀ (r : Nat) (lp : LP), LPInv r lp → okRuns cfg.maxFail r as = true → consistent as →
      headersDated as (lpRun cfg lp as) = true := by
  induction as with
  | nil => intros; rfl
  | cons a rest ih =>
    intro r lp hinv hruns hcons
    have hstep := lpInv_step (cfg := cfg) hreset hinv (hcons a (List.mem_cons_self ..))
    have hcons' : consistent rest := fun x hx => hcons x (List.mem_cons_of_mem _ hx)
    rw [okRuns] at hruns
    rw [lpRun, headersDated, Bool.and_eq_true]
    cases hf : a.findable with
    | true =>
      rw [hf, if_pos rfl] at hruns
      exact ⟨(hstep.1 hf).1, ih 0 _ (hstep.1 hf).2 hruns hcons'⟩
    | false =>
      rw [hf, if_neg Bool.false_ne_true, Bool.and_eq_true, decide_eq_true_eq] at hruns
      exact ⟨rfl, ih (r + 1) _ (hstep.2 hf hruns.1) hruns.2 hcons'⟩

theorem lpInv_init (cfg : LPCfg) : LPInv 0 (LP.init cfg) := ⟨rfl, Nat.le_refl 0, nofun⟩

end Logrange.Date

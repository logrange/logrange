import Logrange.Model.RdQueryLoop
/-!
Lemmas for C03: position text round trip (`Pos.String` / `ParsePos`), generic in the widths.
-/
namespace Logrange.Rd

theorem hexVal_hexDigit : ∀ d : Fin 16, hexVal? (hexDigit d.val) = some d.val := by decide

theorem hexN_length (w n : Nat) : (hexN w n).length = w := by
  induction w generalizing n with
  | zero => rfl
  | succ w ih => simp [hexN, ih]

/-- the fold of `parseHex` started at `some a` -/
def parseHexFrom (a : Option Nat) (s : List Char) : Option Nat := s.foldl hexStep a

theorem parseHexFrom_hexN (w n a : Nat) :
    parseHexFrom (some a) (hexN w n) = some (a * 16 ^ w + n % 16 ^ w) := by
  induction w generalizing n a with
  | zero => simp [hexN, parseHexFrom, Nat.mod_one]
  | succ w ih =>
    have hd : hexVal? (hexDigit (n % 16)) = some (n % 16) := by
      have := hexVal_hexDigit ⟨n % 16, Nat.mod_lt _ (by decide)⟩
      simpa using this
    unfold parseHexFrom at ih ⊢
    rw [hexN, List.foldl_append, ih (n / 16) a]
    simp only [List.foldl_cons, List.foldl_nil, hexStep, hd]
    congr 1
    have h1 : n % 16 ^ (w + 1) = 16 * (n / 16 % 16 ^ w) + n % 16 := by
      rw [Nat.pow_succ, Nat.mul_comm (16 ^ w) 16, Nat.mod_mul]
      omega
    rw [h1, Nat.pow_succ]
    have : a * (16 ^ w * 16) = a * 16 ^ w * 16 := by rw [Nat.mul_assoc]
    omega

theorem parseHex_hexN (w n : Nat) (h : n < 16 ^ w) : parseHex (hexN w n) = some n := by
  have := parseHexFrom_hexN w n 0
  unfold parseHexFrom at this
  unfold parseHex
  rw [this, Nat.mod_eq_of_lt h]; simp

theorem parsePosW_showPosW (wc wi : Nat) (p : Pos) (hw : 0 < wc + wi) (hc : p.cid < 16 ^ wc) (hi : p.idx < 16 ^ wi) :
    parsePosW wc wi (showPosW wc wi p) = some p := by
  unfold parsePosW showPosW
  have hl : (hexN wc p.cid ++ hexN wi p.idx).length = wc + wi := by simp [hexN_length]
  have h0 : ¬ (hexN wc p.cid ++ hexN wi p.idx).length = 0 := by omega
  simp only [h0, hl, if_false, ne_eq, not_true_eq_false]
  rw [List.take_left' (hexN_length ..), List.drop_left' (hexN_length ..), parseHex_hexN wc p.cid hc,
    parseHex_hexN wi p.idx hi]
  simp
  intro h1 h2; omega

end Logrange.Rd

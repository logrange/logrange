import Logrange.Proofs.WireRT
import Logrange.Proofs.WriteLoopM
/-! # One acknowledged RPC write, read back: `serveWrite` over `serviceWrite`, `readEvents` over `decodeAll`
(`Model/WriteLoopM.lean`) -/
namespace Logrange.WriteLoopM
open Go Logrange.WireRT Logrange.JournalW

theorem serviceWrite_spec (maxChunk : Nat) (hm : 1 ≤ maxChunk) (j : Journal) (batch : List Rec) :
    LoopSpec j (serviceWrite maxChunk j batch).1 batch {} (serviceWrite maxChunk j batch).2 :=
  serviceWriteLoop_spec maxChunk hm (batch.length + 1) j batch {} {} (Nat.lt_succ_self _)

theorem decodeAll_append (m : Nat) : ∀ (a b : List Bytes),
    decodeAll m (a ++ b) = (match decodeAll m a with
      | some xs => (decodeAll m b).map (xs ++ ·)
      | none => none) := by
  intro a
  induction a with
  | nil => intro b; simp [decodeAll]
  | cons r rs ih =>
    intro b
    simp only [List.cons_append, decodeAll]
    split
    · rfl
    · split
      · rw [ih b]
        cases decodeAll m rs <;> cases decodeAll m b <;> rfl
      · rfl

theorem decodeAll_marshal (m : Nat) : ∀ (es : List Event), (∀ e ∈ es, e.WF ∧ e.marshal.length ≤ m) →
    decodeAll m (es.map (fun e => (recOf e).data)) = some es := by
  intro es
  induction es with
  | nil => intro _; rfl
  | cons e es ih =>
    intro h
    have ⟨hw, hl⟩ := h e List.mem_cons_self
    simp only [List.map_cons, decodeAll, recOf, Nat.not_lt.mpr hl, ↓reduceIte, unmarshal_marshal_released e hw]
    have := ih (fun x hx => h x (List.mem_cons_of_mem _ hx))
    simp only [recOf] at this
    rw [this]; rfl

theorem readEvents_serviceWrite (maxChunk maxRec : Nat) (hm : 1 ≤ maxChunk) (j : Journal) (old es : List Event)
    (hold : readEvents maxRec j = some old) (hfit : ∀ e ∈ es, e.WF ∧ e.marshal.length ≤ maxRec) :
    readEvents maxRec (serviceWrite maxChunk j (es.map recOf)).1 = some (old ++ es) := by
  unfold readEvents at hold ⊢
  rw [(serviceWrite_spec maxChunk hm j (es.map recOf)).read, decodeAll_append, hold, List.map_map]
  exact congrArg (Option.map (old ++ ·)) (decodeAll_marshal maxRec es hfit)

theorem serveWrite_eq_some (parseKV : Bytes → Option Bytes) (maxChunk : Nat) (hm : 1 ≤ maxChunk) (j j' : Journal)
    (body : Bytes) (es : List Event) :
    serveWrite parseKV maxChunk j body = some (j', es) ↔
      (∃ tags, wpDrain parseKV body = .ok (tags, es)) ∧ j' = (serviceWrite maxChunk j (es.map recOf)).1 := by
  unfold serveWrite
  cases hd : wpDrain parseKV body with
  | err => simp
  | panic => simp
  | ok p =>
    obtain ⟨tags, es0⟩ := p
    have herr : (serviceWrite maxChunk j (es0.map recOf)).2.err = false := (serviceWrite_spec maxChunk hm j _).err
    simp only [herr, Bool.false_eq_true, ↓reduceIte, Option.some.injEq, Prod.mk.injEq, Out.ok.injEq, exists_eq_left']
    constructor
    · rintro ⟨rfl, rfl⟩; exact ⟨rfl, rfl⟩
    · rintro ⟨rfl, rfl⟩; exact ⟨rfl, rfl⟩

end Logrange.WriteLoopM

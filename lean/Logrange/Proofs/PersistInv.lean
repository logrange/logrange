import Logrange.Proofs.Persist
import Logrange.Model.PersistReach
/-! Lemmas for C07's invariant (`Logrange/Props/C07Reach.lean`): position-file names are injective and collide with the
registry only for the name `s`; what `recover` gives on a disk whose tag-index and registry files decode; the invariant
`Inv` ("memory consistent with disk") and its preservation by every event. -/
namespace Logrange.Persist
open Logrange.Generated.C07

/-! ## `pipeFileName` -/

def unescByte (d : UInt8) : UInt8 :=
  if d = 48 then 95 else if d = 49 then 47 else if d = 50 then 92 else if d = 51 then 96 else if d = 52 then 42
  else if d = 53 then 124 else if d = 54 then 59 else if d = 55 then 34 else if d = 56 then 39 else 58

/-- inverse of `escape` on its image -/
def unescape : Bytes → Bytes
  | [] => []
  | [x] => [x]
  | [x, y] => x :: unescape [y]
  | x :: y :: d :: r => if x = 95 then unescByte d :: unescape r else x :: unescape (y :: d :: r)

theorem unescape_cons_ne (x : UInt8) (r : Bytes) (h : x ≠ 95) : unescape (x :: r) = x :: unescape r := by
  match r with
  | [] => rfl
  | [y] => rfl
  | y :: d :: r' => rw [unescape, if_neg h]

theorem unescape_esc (d : UInt8) (r : Bytes) : unescape (95 :: 48 :: d :: r) = unescByte d :: unescape r := by
  rw [unescape, if_pos rfl]

/- one case per term of the replacer (`split` on the ten-fold `if` of `escapeByte` is very slow to check) -/
theorem unescape_escapeByte (b : UInt8) (r : Bytes) : unescape (escapeByte b ++ r) = b :: unescape r := by
  by_cases h0 : b = 95
  · subst h0; exact unescape_esc 48 r
  by_cases h1 : b = 47
  · subst h1; exact unescape_esc 49 r
  by_cases h2 : b = 92
  · subst h2; exact unescape_esc 50 r
  by_cases h3 : b = 96
  · subst h3; exact unescape_esc 51 r
  by_cases h4 : b = 42
  · subst h4; exact unescape_esc 52 r
  by_cases h5 : b = 124
  · subst h5; exact unescape_esc 53 r
  by_cases h6 : b = 59
  · subst h6; exact unescape_esc 54 r
  by_cases h7 : b = 34
  · subst h7; exact unescape_esc 55 r
  by_cases h8 : b = 39
  · subst h8; exact unescape_esc 56 r
  by_cases h9 : b = 58
  · subst h9; exact unescape_esc 57 r
  rw [escapeByte, if_neg h0, if_neg h1, if_neg h2, if_neg h3, if_neg h4, if_neg h5, if_neg h6, if_neg h7, if_neg h8, if_neg h9]
  exact unescape_cons_ne b r h0

theorem unescape_escape : ∀ n : Bytes, unescape (escape n) = n
  | [] => by simp [escape, unescape]
  | b :: n => by
    have ih := unescape_escape n
    simp only [escape, List.flatMap_cons] at ih ⊢
    rw [unescape_escapeByte, ih]

theorem escape_inj {a b : Bytes} (h : escape a = escape b) : a = b := by
  have := congrArg unescape h
  rwa [unescape_escape, unescape_escape] at this

theorem pipeFileName_eq (n : Bytes) : pipeFileName n = pipeFilePrefix ++ escape n ++ pipeFileSuffix := by
  have : pipeFileNameEscapes = true := by decide
  simp [pipeFileName, this]

theorem pipeFileName_inj {a b : Bytes} (h : pipeFileName a = pipeFileName b) : a = b := by
  rw [pipeFileName_eq, pipeFileName_eq] at h
  exact escape_inj (List.append_cancel_left (List.append_cancel_right h))

theorem pipeInfoPath_inj {a b : Bytes} (h : pipeInfoPath a = pipeInfoPath b) : a = b := by
  simp only [pipeInfoPath, Path.pipesDir.injEq] at h
  exact pipeFileName_inj h

/-- **F33's class is exactly the name `s`**: a pipe's position file is the registry file iff the pipe is called `s` -/
theorem collision_iff_named_s (n : Bytes) : pipeInfoPath n = pipesDat ↔ n = pipeNameS := by
  constructor
  · intro h
    have h' : pipeFileName n = pipeFileName pipeNameS := by
      simp only [pipeInfoPath, pipesDat, Path.pipesDir.injEq] at h
      rw [h]; decide
    exact pipeFileName_inj h'
  · intro h; subst h; decide

theorem pipeInfoPath_ne_tmp (n : Bytes) : pipeInfoPath n ≠ pipesTmp := by
  intro h
  simp only [pipeInfoPath, pipesTmp, Path.pipesDir.injEq] at h
  rw [pipeFileName_eq] at h
  have := congrArg List.reverse h
  simp [pipeFileSuffix, pipesFileName] at this

theorem pipeInfoPath_ne_dat {n : Bytes} (h : n ≠ pipeNameS) : pipeInfoPath n ≠ pipesDat :=
  fun e => h ((collision_iff_named_s n).mp e)

theorem pipeInfoPath_not_tindex (n : Bytes) : ¬ tindexPath (pipeInfoPath n) := by simp [tindexPath, pipeInfoPath]
theorem pipesDat_not_tindex : ¬ tindexPath pipesDat := by simp [tindexPath, pipesDat]

/-! ## a save through a temp file and a rename -/

theorem renameSave_dat (f : Files) (tmp dat : Path) (d : Bytes) (mid : List Step) (hne : dat ≠ tmp)
    (hmid : ∀ st ∈ mid, ¬ st.touches tmp) :
    runSteps f (writeFile tmp d ++ mid ++ [.rename tmp dat]) dat = some d := by
  have htmp : runSteps f (writeFile tmp d ++ mid) tmp = some d := by
    rw [runSteps_append, runSteps_frame mid _ _ hmid, runSteps_writeFile, Files.set_same]
  rw [runSteps_append]
  generalize runSteps f (writeFile tmp d ++ mid) = g at htmp
  simp [runSteps, applyStep, htmp, Files.set, hne]

theorem tindexSaveSteps_eq (K : Codecs) (f : Files) (new : TMap) :
    tindexSaveSteps K.tidx f new = writeFile .tindexTmp (K.tidx.enc new) ++
      ((if (f .tindexDat).isSome then [Step.remove .tindexBak] else []) ++
        (if (f .tindexDat).isSome then [Step.link .tindexDat .tindexBak] else [])) ++ [.rename .tindexTmp .tindexDat] := by
  simp [tindexSaveSteps, tindexSaveStepsOf, saveStateCalls, tindexCallSteps]

theorem tindexBackup_touch (b : Bool) (q : Path) (hq : q ≠ .tindexBak) :
    ∀ st ∈ (if b then [Step.remove .tindexBak] else []) ++ (if b then [Step.link .tindexDat .tindexBak] else []),
      ¬ st.touches q := by
  intro st hst
  cases b
  · cases hst
  · simp only [if_true, List.cons_append, List.nil_append, List.mem_cons, List.mem_nil_iff, or_false] at hst
    rcases hst with e | e <;> subst e <;> exact hq

theorem tindexSave_dat (K : Codecs) (f : Files) (new : TMap) :
    runSteps f (tindexSaveSteps K.tidx f new) .tindexDat = some (K.tidx.enc new) := by
  rw [tindexSaveSteps_eq]
  exact renameSave_dat f _ _ _ _ (by simp) (tindexBackup_touch _ _ (by simp))

/-! ## what a start finds -/

theorem loadPipes_congr (c : Codec (List Pipe)) (f g : Files) (h : f pipesDat = g pipesDat) : loadPipes c f = loadPipes c g := by
  simp [loadPipes, h]

theorem loadPipeInfo_congr (c : Codec PosMap) (f g : Files) (n : Bytes) (h : f (pipeInfoPath n) = g (pipeInfoPath n)) :
    loadPipeInfo c f n = loadPipeInfo c g n := by
  simp [loadPipeInfo, h]

theorem cindexLoad_congr (c : Codec CMap) (f g : Files) (h : f .cindexDat = g .cindexDat) : cindexLoad c f = cindexLoad c g := by
  simp [cindexLoad, h]

theorem loadPipes_tindexSave (K : Codecs) (f : Files) (m : TMap) :
    loadPipes K.pipes (runSteps f (tindexSaveSteps K.tidx f m)) = loadPipes K.pipes f :=
  loadPipes_congr _ _ _ (tindexSave_frame _ _ _ _ _ pipesDat_not_tindex)

theorem loadPipeInfo_tindexSave (K : Codecs) (f : Files) (m : TMap) (n : Bytes) :
    loadPipeInfo K.pinfo (runSteps f (tindexSaveSteps K.tidx f m)) n = loadPipeInfo K.pinfo f n :=
  loadPipeInfo_congr _ _ _ _ (tindexSave_frame _ _ _ _ _ (pipeInfoPath_not_tindex n))

theorem cindexLoad_tindexSave (K : Codecs) (f : Files) (m : TMap) :
    cindexLoad K.cidx (runSteps f (tindexSaveSteps K.tidx f m)) = cindexLoad K.cidx f :=
  cindexLoad_congr _ _ _ (tindexSave_frame _ _ _ _ _ (fun h => h))

/-- the state a start gives on a disk whose tag-index file is the encoding of `m` and whose registry file decodes to `ps` -/
def recovered (K : Codecs) (d : Disk) (m : TMap) (ps : List Pipe) : Srv :=
  ⟨⟨m, cindexLoad K.cidx d.files, ps.map (fun p => ⟨p, loadPipeInfo K.pinfo d.files p.name⟩)⟩,
   ⟨runSteps d.files (tindexSaveSteps K.tidx d.files m), d.db, cleanupTrees (cindexLoad K.cidx d.files) d.trees⟩⟩

theorem checkConsistency_of (K : Codecs) (hK : K.Laws) (parseOk : TagLine → Bool) (d : Disk) (m : TMap)
    (ht : d.files .tindexDat = some (K.tidx.enc m)) (hp : m.all (fun e => parseOk e.1) = true)
    (hj : (journalsOnDisk d.db).all (tmapHasSrc m) = true) :
    checkConsistency K.tidx parseOk d.files (journalsOnDisk d.db)
      = some (m, runSteps d.files (tindexSaveSteps K.tidx d.files m)) := by
  have hload : loadState K.tidx parseOk d.files = some m := by simp [loadState, ht, hK.tidx.rt, hp]
  simp [checkConsistency, hload, hj]

theorem recover_spec (K : Codecs) (hK : K.Laws) (parseOk : TagLine → Bool) (d : Disk) (m : TMap) (ps : List Pipe)
    (ht : d.files .tindexDat = some (K.tidx.enc m)) (hp : m.all (fun e => parseOk e.1) = true)
    (hj : (journalsOnDisk d.db).all (tmapHasSrc m) = true) (hr : loadPipes K.pipes d.files = some ps) :
    recover K parseOk d = .started (recovered K d m ps) := by
  simp only [recover, checkConsistency_of K hK parseOk d m ht hp hj, cindexLoad_tindexSave, pipesInit, loadPipes_tindexSave, hr,
    Option.map_some, loadPipeInfo_tindexSave, recovered]

/-! ## the invariant -/

/-- **memory consistent with disk**: `tindex.dat` is the encoding of the tag index (saved on every change), the stored tag
lines parse back, every journal on disk has a record, every pipe's position file decodes to the pipe's positions, the
registry file decodes to the pipe definitions, and no pipe is called `s` (F33's class) -/
structure Inv (K : Codecs) (parseOk : TagLine → Bool) (s : Srv) : Prop where
  tdat : s.disk.files .tindexDat = some (K.tidx.enc s.mem.tmap)
  parse : s.mem.tmap.all (fun e => parseOk e.1) = true
  jrn : (journalsOnDisk s.disk.db).all (tmapHasSrc s.mem.tmap) = true
  pos : ∀ p ∈ s.mem.pipes, loadPipeInfo K.pinfo s.disk.files p.cfg.name = p.poss
  reg : loadPipes K.pipes s.disk.files = some (s.mem.pipes.map (·.cfg))
  noS : ∀ p ∈ s.mem.pipes, p.cfg.name ≠ pipeNameS

theorem inv_recovered (K : Codecs) (parseOk : TagLine → Bool) (d : Disk) (m : TMap) (ps : List Pipe)
    (hp : m.all (fun e => parseOk e.1) = true)
    (hj : (journalsOnDisk d.db).all (tmapHasSrc m) = true) (hr : loadPipes K.pipes d.files = some ps)
    (hs : ∀ p ∈ ps, p.name ≠ pipeNameS) : Inv K parseOk (recovered K d m ps) := by
  refine ⟨tindexSave_dat K d.files m, hp, hj, ?_, ?_, ?_⟩
  · intro p hp'
    obtain ⟨c, _, rfl⟩ := List.mem_map.mp hp'
    exact loadPipeInfo_tindexSave K d.files m c.name
  · show loadPipes K.pipes (runSteps d.files (tindexSaveSteps K.tidx d.files m)) = _
    rw [loadPipes_tindexSave, hr]
    simp [recovered, List.map_map, Function.comp_def]
  · intro p hp'
    obtain ⟨c, hc, rfl⟩ := List.mem_map.mp hp'
    exact hs c hc

/-! ### association lists -/

theorem mem_aset {β : Type} : ∀ (m : List (Bytes × β)) (k : Bytes) (v : β) (e : Bytes × β), e ∈ aset m k v → e ∈ m ∨ e = (k, v)
  | [], k, v, e, h => by simp [aset] at h; exact Or.inr h
  | x :: r, k, v, e, h => by
    by_cases hx : (x.1 == k) = true
    · simp only [aset, hx, if_true, List.mem_cons] at h
      rcases h with h | h
      · exact Or.inr h
      · exact Or.inl (List.mem_cons_of_mem _ h)
    · have h0 : e ∈ x :: aset r k v := by simpa [aset, hx] using h
      rcases List.mem_cons.mp h0 with h1 | h1
      · exact Or.inl (h1 ▸ List.mem_cons_self ..)
      · rcases mem_aset r k v e h1 with h' | h'
        · exact Or.inl (List.mem_cons_of_mem _ h')
        · exact Or.inr h'

theorem alookup_mem {β : Type} (m : List (Bytes × β)) (k : Bytes) (v : β) (h : alookup m k = some v) : (k, v) ∈ m := by
  simp only [alookup, Option.map_eq_some_iff] at h
  obtain ⟨e, he, rfl⟩ := h
  have h1 := List.mem_of_find?_eq_some he
  have h2 := List.find?_some he
  have : e.1 = k := by simpa using h2
  rw [← this]; exact h1

theorem mem_journalsOnDisk (db : List (Src × List Chunk)) (j : Src) :
    j ∈ journalsOnDisk db ↔ ∃ e ∈ db, e.2.any (fun c => !c.recs.isEmpty) = true ∧ e.1 = j := by
  simp only [journalsOnDisk, List.mem_map, List.mem_filter, and_assoc]

theorem tmapHasSrc_append (m x : TMap) (j : Src) (h : tmapHasSrc m j = true) : tmapHasSrc (m ++ x) j = true := by
  simp only [tmapHasSrc, List.any_append, Bool.or_eq_true] at h ⊢; exact Or.inl h

theorem tmapHasSrc_filter (m : TMap) (j src : Src) (h : tmapHasSrc m j = true) (hne : j ≠ src) :
    tmapHasSrc (m.filter (fun e => !(e.2 == src))) j = true := by
  simp only [tmapHasSrc, List.any_eq_true, List.mem_filter] at h ⊢
  obtain ⟨x, hx, hxe⟩ := h
  have h1 : x.2 = j := by simpa using hxe
  exact ⟨x, ⟨hx, by rw [h1]; simpa using hne⟩, hxe⟩

theorem journalsOnDisk_aset (db : List (Src × List Chunk)) (src j : Src) (cks : List Chunk)
    (h : j ∈ journalsOnDisk (aset db src cks)) :
    (j = src ∧ cks.any (fun c => !c.recs.isEmpty) = true) ∨ j ∈ journalsOnDisk db := by
  obtain ⟨e, he, hne, rfl⟩ := (mem_journalsOnDisk _ _).mp h
  rcases mem_aset _ _ _ _ he with h1 | h1
  · exact .inr ((mem_journalsOnDisk _ _).mpr ⟨e, h1, hne, rfl⟩)
  · subst h1; exact .inl ⟨rfl, hne⟩

/-! ### operations of a running server -/

variable {K : Codecs} {parseOk : TagLine → Bool} {s : Srv}

theorem inv_setTMap (h : Inv K parseOk s) (m : TMap) (db : List (Src × List Chunk)) (hp : m.all (fun e => parseOk e.1) = true)
    (hj : (journalsOnDisk db).all (tmapHasSrc m) = true) :
    Inv K parseOk ⟨{ s.mem with tmap := m },
      { s.disk with files := runSteps s.disk.files (tindexSaveSteps K.tidx s.disk.files m), db := db }⟩ := by
  refine ⟨tindexSave_dat K _ _, hp, hj, fun p hp' => ?_, ?_, h.noS⟩
  · exact (loadPipeInfo_tindexSave K s.disk.files m p.cfg.name).trans (h.pos p hp')
  · exact (loadPipes_tindexSave K s.disk.files m).trans h.reg

theorem inv_newPartition (h : Inv K parseOk s) (tags : TagLine) (src : Src) (hp : parseOk tags = true) :
    Inv K parseOk (step K s (.newPartition tags src)) := by
  apply inv_setTMap h
  · simp only [List.all_append, Bool.and_eq_true]; exact ⟨h.parse, by simp [hp]⟩
  · exact List.all_eq_true.mpr fun j hj => tmapHasSrc_append _ _ _ (List.all_eq_true.mp h.jrn j hj)

theorem inv_dropPartition (h : Inv K parseOk s) (src : Src) : Inv K parseOk (step K s (.dropPartition src)) := by
  apply inv_setTMap h
  · exact List.all_eq_true.mpr fun e he => List.all_eq_true.mp h.parse e (List.mem_filter.mp he).1
  · refine List.all_eq_true.mpr fun j hj => ?_
    obtain ⟨e, he, hne, rfl⟩ := (mem_journalsOnDisk _ _).mp hj
    simp only [aerase, List.mem_filter] at he
    exact tmapHasSrc_filter _ _ _ (List.all_eq_true.mp h.jrn _ ((mem_journalsOnDisk _ _).mpr ⟨e, he.1, hne, rfl⟩))
      (by simpa using he.2)

theorem inv_of_db (h : Inv K parseOk s) (cm : CMap) (db : List (Src × List Chunk))
    (hj : ∀ j ∈ journalsOnDisk db, tmapHasSrc s.mem.tmap j = true) :
    Inv K parseOk { mem := { s.mem with cidx := cm }, disk := { s.disk with db := db } } :=
  ⟨h.tdat, h.parse, List.all_eq_true.mpr hj, h.pos, h.reg, h.noS⟩

theorem inv_write (h : Inv K parseOk s) (src : Src) (pieces : List (Nat × List Int)) (hg : tmapHasSrc s.mem.tmap src = true) :
    Inv K parseOk (step K s (.write src pieces)) := by
  simp only [step]
  generalize writePieces ((alookup s.disk.db src).getD []) s.mem.cidx src pieces none = r
  obtain ⟨cks, cm⟩ := r
  apply inv_of_db h
  intro j hj
  rcases journalsOnDisk_aset _ _ _ _ hj with ⟨rfl, _⟩ | h1
  · exact hg
  · exact List.all_eq_true.mp h.jrn _ h1

theorem inv_dropChunks (h : Inv K parseOk s) (src : Src) (n : Nat) : Inv K parseOk (step K s (.dropChunks src n)) := by
  refine inv_of_db h s.mem.cidx _ fun j hj => List.all_eq_true.mp h.jrn j ?_
  rcases journalsOnDisk_aset _ _ _ _ hj with ⟨rfl, hne⟩ | h1
  · -- what is left of the journal has a record, so the journal had one
    cases hl : alookup s.disk.db j with
    | none => simp [hl] at hne
    | some l =>
      rw [hl] at hne
      obtain ⟨c, hc, hcn⟩ := List.any_eq_true.mp hne
      exact (mem_journalsOnDisk _ _).mpr
        ⟨(j, l), alookup_mem _ _ _ hl, List.any_eq_true.mpr ⟨c, List.mem_of_mem_drop hc, hcn⟩, rfl⟩
  · exact h1

theorem savePipes_frame (hK : K.Laws) (f : Files) (ps : List Pipe) :
    runSteps f (savePipesSteps K.pipes ps) .tindexDat = f .tindexDat ∧
    loadPipes K.pipes (runSteps f (savePipesSteps K.pipes ps)) = some ps ∧
    ∀ n, n ≠ pipeNameS → loadPipeInfo K.pinfo (runSteps f (savePipesSteps K.pipes ps)) n = loadPipeInfo K.pinfo f n := by
  refine ⟨?_, ?_, fun n hn => loadPipeInfo_congr _ _ _ _ ?_⟩
  · rw [savePipes_at, if_neg (by simp [pipesDat]), if_neg (by simp [pipesTmp])]
  · simp only [loadPipes, savePipes_at, if_true, hK.pipes.rt]
  · rw [savePipes_at, if_neg (pipeInfoPath_ne_dat hn), if_neg (pipeInfoPath_ne_tmp n)]

theorem inv_createPipe (hK : K.Laws) (h : Inv K parseOk s) (p : Pipe) (hn : p.name ≠ pipeNameS) :
    Inv K parseOk (step K s (.createPipe p)) := by
  have hf : pipeDefsSavedOnCreate = true := by decide
  obtain ⟨hT, hR, hP⟩ := savePipes_frame hK s.disk.files
    ((s.mem.pipes ++ [(⟨p, loadPipeInfo K.pinfo s.disk.files p.name⟩ : PPipe)]).map (·.cfg))
  have hno : ∀ q ∈ s.mem.pipes ++ [(⟨p, loadPipeInfo K.pinfo s.disk.files p.name⟩ : PPipe)], q.cfg.name ≠ pipeNameS := by
    intro q hq
    rcases List.mem_append.mp hq with hq | hq
    · exact h.noS q hq
    · cases List.mem_singleton.mp hq; exact hn
  simp only [step, hf, if_true]
  refine ⟨hT.trans h.tdat, h.parse, h.jrn, fun q hq => ?_, hR, hno⟩
  rw [hP _ (hno q hq)]
  rcases List.mem_append.mp hq with hq | hq
  · exact h.pos q hq
  · cases List.mem_singleton.mp hq; rfl

theorem inv_deletePipe (hK : K.Laws) (h : Inv K parseOk s) (name : Bytes) (hn : name ≠ pipeNameS) :
    Inv K parseOk (step K s (.deletePipe name)) := by
  have hf : pipeDefsSavedOnDelete = true := by decide
  have hf2 : deletePipeRemovesPositionsBeforeSave = true := by decide
  obtain ⟨hT, hR, hP⟩ := savePipes_frame hK (s.disk.files.set (pipeInfoPath name) none)
    ((s.mem.pipes.filter (fun p => !(p.cfg.name == name))).map (·.cfg))
  simp only [step, hf, hf2, if_true, runSteps_cons, applyStep]
  refine ⟨hT.trans ((Files.set_other _ _ _ _ (by simp [pipeInfoPath])).trans h.tdat), h.parse, h.jrn, fun q hq => ?_, hR,
    fun q hq => h.noS q (List.mem_filter.mp hq).1⟩
  have hq' := List.mem_filter.mp hq
  have hne : q.cfg.name ≠ name := by simpa using hq'.2
  rw [hP _ (h.noS q hq'.1), ← h.pos q hq'.1]
  exact loadPipeInfo_congr _ _ _ _ (Files.set_other _ _ _ _ fun e => hne (pipeInfoPath_inj e))

/-- F33: the position save of a pipe called `s` replaces the registry its creation has just written -/
theorem pipe_s_overwrites_registry (K : Codecs) (s : Srv) (pm : PosMap) :
    (step K (step K s (.createPipe ⟨pipeNameS, [], []⟩)) (.savePipeInfo pipeNameS pm)).disk.files pipesDat
      = some (K.pinfo.enc pm) ∧
    (step K (step K s (.createPipe ⟨pipeNameS, [], []⟩)) (.savePipeInfo pipeNameS pm)).disk.files .tindexDat
      = s.disk.files .tindexDat ∧
    (step K (step K s (.createPipe ⟨pipeNameS, [], []⟩)) (.savePipeInfo pipeNameS pm)).disk.db = s.disk.db := by
  have hp : pipeInfoPath pipeNameS = pipesDat := (collision_iff_named_s _).mpr rfl
  have hf : pipeDefsSavedOnCreate = true := by decide
  simp only [step, savePipeInfoSteps, runSteps_writeFile, hp, hf, if_true]
  refine ⟨Files.set_same _ _ _, ?_, trivial⟩
  rw [Files.set_other _ _ _ _ (by simp [pipesDat]), savePipes_at, if_neg (by simp [pipesDat]), if_neg (by simp [pipesTmp])]

theorem setPoss_cfg (ps : List PPipe) (name : Bytes) (pm : PosMap) : (setPoss ps name pm).map (·.cfg) = ps.map (·.cfg) := by
  simp only [setPoss, List.map_map]
  apply List.map_congr_left
  intro p _
  simp only [Function.comp]
  split <;> rfl

theorem inv_savePipeInfo (hK : K.Laws) (h : Inv K parseOk s) (name : Bytes) (pm : PosMap) (hn : name ≠ pipeNameS) :
    Inv K parseOk (step K s (.savePipeInfo name pm)) := by
  have hfl : (step K s (.savePipeInfo name pm)).disk.files = s.disk.files.set (pipeInfoPath name) (some (K.pinfo.enc pm)) := by
    simp only [step, savePipeInfoSteps, runSteps_writeFile]
  refine ⟨?_, h.parse, h.jrn, ?_, ?_, ?_⟩
  · rw [hfl, Files.set_other _ _ _ _ (by simp [pipeInfoPath])]; exact h.tdat
  · intro q hq
    simp only [step, setPoss, List.mem_map] at hq
    obtain ⟨q0, hq0, rfl⟩ := hq
    by_cases hname : (q0.cfg.name == name) = true
    · have e : q0.cfg.name = name := by simpa using hname
      simp only [hname, if_true]
      simp [loadPipeInfo, hfl, e, hK.pinfo.rt]
    · have e : q0.cfg.name ≠ name := by simpa using hname
      simp only [hname, Bool.false_eq_true, if_false]
      rw [← h.pos q0 hq0]
      apply loadPipeInfo_congr
      rw [hfl, Files.set_other _ _ _ _ (fun e' => e (pipeInfoPath_inj e'))]
  · rw [loadPipes_congr _ _ s.disk.files (by rw [hfl, Files.set_other _ _ _ _ (Ne.symm (pipeInfoPath_ne_dat hn))])]
    show _ = some ((setPoss s.mem.pipes name pm).map (·.cfg))
    rw [setPoss_cfg]; exact h.reg
  · intro q hq
    have : q.cfg ∈ (setPoss s.mem.pipes name pm).map (·.cfg) := List.mem_map_of_mem hq
    rw [setPoss_cfg] at this
    obtain ⟨q0, hq0, e⟩ := List.mem_map.mp this
    rw [← e]; exact h.noS q0 hq0

theorem inv_gstep (hK : K.Laws) (h : Inv K parseOk s) (o : Op) (hok : o.pipeName ≠ some pipeNameS) :
    Inv K parseOk (gstep K parseOk s o) := by
  unfold gstep
  by_cases he : enabled parseOk s o = true
  · rw [if_pos he]
    cases o with
    | newPartition tags src =>
      have hp : parseOk tags = true := by
        simp only [enabled, Bool.and_eq_true] at he; exact he.1.1
      exact inv_newPartition h tags src hp
    | write src pieces => exact inv_write h src pieces (by simpa [enabled] using he)
    | dropChunks src n => exact inv_dropChunks h src n
    | dropPartition src => exact inv_dropPartition h src
    | createPipe p => exact inv_createPipe hK h p (by simpa [Op.pipeName] using hok)
    | deletePipe n => exact inv_deletePipe hK h n (by simpa [Op.pipeName] using hok)
    | savePipeInfo n pm => exact inv_savePipeInfo hK h n pm (by simpa [Op.pipeName] using hok)
  · rw [if_neg he]; exact h

theorem step_files (s : Srv) (o : Op) : (step K s o).disk.files = runSteps s.disk.files (opSteps K s o) := by
  cases o with
  | write src pieces =>
    simp only [step, opSteps]
    generalize writePieces ((alookup s.disk.db src).getD []) s.mem.cidx src pieces none = r
    obtain ⟨cks, cm⟩ := r
    rfl
  | createPipe p => simp only [step, opSteps]
  | deletePipe n => simp only [step, opSteps]
  | _ => rfl

/-! ### stop and start, crash and start -/

theorem shutdown_files (s : Srv) (q : Path) : (shutdown K s).disk.files q =
    if q = .cindexDat then some (K.cidx.enc s.mem.cidx)
    else if q = pipesDat then some (K.pipes.enc (s.mem.pipes.map (·.cfg))) else if q = pipesTmp then none else s.disk.files q := by
  simp only [shutdown, shutdownSteps, cindexSaveSteps, runSteps_append, runSteps_writeFile]
  by_cases hq : q = .cindexDat
  · subst hq; simp
  · rw [Files.set_other _ _ _ _ hq, savePipes_at]; simp [hq]

theorem restart_mem (hK : K.Laws) (ht : s.disk.files .tindexDat = some (K.tidx.enc s.mem.tmap))
    (hp : s.mem.tmap.all (fun e => parseOk e.1) = true) (hj : (journalsOnDisk s.disk.db).all (tmapHasSrc s.mem.tmap) = true)
    (hpos : ∀ p ∈ s.mem.pipes, loadPipeInfo K.pinfo s.disk.files p.cfg.name = p.poss)
    (hnc : ∀ p ∈ s.mem.pipes, pipeInfoPath p.cfg.name ≠ pipesDat ∧ pipeInfoPath p.cfg.name ≠ pipesTmp) :
    recover K parseOk (shutdown K s).disk = .started (recovered K (shutdown K s).disk s.mem.tmap (s.mem.pipes.map (·.cfg))) ∧
    (recovered K (shutdown K s).disk s.mem.tmap (s.mem.pipes.map (·.cfg))).mem = s.mem := by
  have ht' : (shutdown K s).disk.files .tindexDat = some (K.tidx.enc s.mem.tmap) := by
    rw [shutdown_files, if_neg (by simp), if_neg (by simp [pipesDat]), if_neg (by simp [pipesTmp])]; exact ht
  have hr : loadPipes K.pipes (shutdown K s).disk.files = some (s.mem.pipes.map (·.cfg)) := by
    simp [loadPipes, shutdown_files, pipesDat, hK.pipes.rt]
  refine ⟨recover_spec K hK parseOk _ _ _ ht' hp hj hr, ?_⟩
  have hci : cindexLoad K.cidx (shutdown K s).disk.files = s.mem.cidx := by
    simp [cindexLoad, shutdown_files, hK.cidx.rt]
  have hpp : (s.mem.pipes.map (·.cfg)).map (fun p => (⟨p, loadPipeInfo K.pinfo (shutdown K s).disk.files p.name⟩ : PPipe)) = s.mem.pipes := by
    apply map_cfg_poss
    intro p hp
    rw [← hpos p hp]
    apply loadPipeInfo_congr
    rw [shutdown_files, if_neg (by simp [pipeInfoPath]), if_neg (hnc p hp).1, if_neg (hnc p hp).2]
  simp only [recovered, hci, hpp]

theorem Inv.cfg_noS (h : Inv K parseOk s) : ∀ p ∈ s.mem.pipes.map (·.cfg), p.name ≠ pipeNameS := by
  intro p hp; obtain ⟨q, hq, rfl⟩ := List.mem_map.mp hp; exact h.noS q hq

theorem restart_spec (hK : K.Laws) (h : Inv K parseOk s) :
    recover K parseOk (shutdown K s).disk = .started (recovered K (shutdown K s).disk s.mem.tmap (s.mem.pipes.map (·.cfg))) ∧
    (recovered K (shutdown K s).disk s.mem.tmap (s.mem.pipes.map (·.cfg))).mem = s.mem ∧
    (recovered K (shutdown K s).disk s.mem.tmap (s.mem.pipes.map (·.cfg))).disk.db = s.disk.db ∧
    Inv K parseOk (recovered K (shutdown K s).disk s.mem.tmap (s.mem.pipes.map (·.cfg))) := by
  obtain ⟨h1, h2⟩ := restart_mem (parseOk := parseOk) hK h.tdat h.parse h.jrn h.pos
    fun p hp => ⟨pipeInfoPath_ne_dat (h.noS p hp), pipeInfoPath_ne_tmp _⟩
  refine ⟨h1, h2, rfl, inv_recovered K parseOk _ _ _ h.parse h.jrn ?_ h.cfg_noS⟩
  simp [loadPipes, shutdown_files, pipesDat, hK.pipes.rt]

/-- a crash between two operations followed by a start: never refused; the started server has the tag index, the pipe
definitions and the pipe positions of the killed one and the time-index snapshot the disk holds -/
theorem crash_spec (hK : K.Laws) (h : Inv K parseOk s) :
    recover K parseOk s.disk = .started (recovered K s.disk s.mem.tmap (s.mem.pipes.map (·.cfg))) ∧
    (recovered K s.disk s.mem.tmap (s.mem.pipes.map (·.cfg))).mem = { s.mem with cidx := cindexLoad K.cidx s.disk.files } ∧
    (recovered K s.disk s.mem.tmap (s.mem.pipes.map (·.cfg))).disk.db = s.disk.db ∧
    Inv K parseOk (recovered K s.disk s.mem.tmap (s.mem.pipes.map (·.cfg))) := by
  refine ⟨recover_spec K hK parseOk _ _ _ h.tdat h.parse h.jrn h.reg, ?_, rfl,
    inv_recovered K parseOk _ _ _ h.parse h.jrn h.reg h.cfg_noS⟩
  have hpp : (s.mem.pipes.map (·.cfg)).map (fun p => (⟨p, loadPipeInfo K.pinfo s.disk.files p.name⟩ : PPipe)) = s.mem.pipes :=
    map_cfg_poss _ _ (fun p hp => h.pos p hp)
  simp only [recovered, hpp]

/-! ### the first start -/

theorem init_spec : recover K parseOk Disk.fresh = .started (initSrv K parseOk) ∧ Inv K parseOk (initSrv K parseOk) ∧
    (initSrv K parseOk).mem = Mem.empty ∧ (initSrv K parseOk).disk.db = [] := by
  -- the first start finds no file: it is the start on an empty tag index and an empty registry
  have hr : recover K parseOk Disk.fresh = .started (recovered K Disk.fresh [] []) := by
    simp only [recover, Disk.fresh, checkConsistency, loadState, Files.empty, journalsOnDisk, List.filter_nil, List.map_nil,
      List.all_nil, if_true, cindexLoad_tindexSave, pipesInit, loadPipes_tindexSave]
    rfl
  have hi : initSrv K parseOk = recovered K Disk.fresh [] [] := by
    simp only [initSrv, afterStart, hr]
  rw [hi]
  exact ⟨hr, inv_recovered K parseOk Disk.fresh [] [] rfl rfl rfl (fun _ h => nomatch h), rfl, rfl⟩

/-! ### crash cuts -/

/-- the steps that reached the disk at a cut -/
def cutSteps (steps : List Step) (c : Cut) : List Step :=
  steps.take c.k ++ (match steps[c.k]? with
    | some (.append p bs) => [Step.append p (bs.take c.len)]
    | _ => [])

theorem diskAt_eq (f : Files) (steps : List Step) (c : Cut) : diskAt f steps c = runSteps f (cutSteps steps c) := by
  simp only [diskAt, cutSteps, runSteps_append]
  split <;> simp_all [runSteps]

theorem cutSteps_touch (steps : List Step) (c : Cut) (q : Path) (h : ∀ st ∈ steps, ¬ st.touches q) :
    ∀ st ∈ cutSteps steps c, ¬ st.touches q := by
  intro st hst
  simp only [cutSteps, List.mem_append] at hst
  rcases hst with hst | hst
  · exact h st (List.mem_of_mem_take hst)
  · split at hst
    · next p bs hk =>
      simp only [List.mem_singleton] at hst
      subst hst
      have := h _ (List.mem_of_getElem? hk)
      simpa [Step.touches] using this
    · cases hst

theorem diskAt_frame (f : Files) (steps : List Step) (c : Cut) (q : Path) (h : ∀ st ∈ steps, ¬ st.touches q) :
    diskAt f steps c q = f q := by
  rw [diskAt_eq]
  exact runSteps_frame _ _ _ (cutSteps_touch steps c q h)

theorem savePipesSteps_touch (c : Codec (List Pipe)) (ps : List Pipe) (q : Path) (h1 : q ≠ pipesDat) (h2 : q ≠ pipesTmp) :
    ∀ st ∈ savePipesSteps c ps, ¬ st.touches q := by
  intro st hst
  rw [savePipesSteps_eq] at hst
  simp only [List.mem_cons, List.mem_nil_iff, or_false] at hst
  rcases hst with h | h | h <;> subst h <;> simp [Step.touches, h1, h2]

theorem tindexSaveSteps_touch (c : Codec TMap) (f : Files) (m : TMap) (q : Path) (hq : ¬ tindexPath q) :
    ∀ st ∈ tindexSaveSteps c f m, ¬ st.touches q := by
  intro st hst
  simp only [tindexSaveSteps, tindexSaveStepsOf, List.mem_flatMap] at hst
  obtain ⟨cl, _, hc⟩ := hst
  exact tindexCallSteps_touch _ _ cl q hq st hc

theorem cutSteps_append_lt (a b : List Step) (c : Cut) (h : c.k < a.length) : cutSteps (a ++ b) c = cutSteps a c := by
  simp only [cutSteps]
  rw [List.take_append_of_le_length (Nat.le_of_lt h), List.getElem?_append_left h]

theorem cutSteps_append_ge (a b : List Step) (c : Cut) (h : a.length ≤ c.k) :
    cutSteps (a ++ b) c = a ++ cutSteps b ⟨c.k - a.length, c.len⟩ := by
  simp only [cutSteps]
  rw [List.take_append, List.getElem?_append_right h, List.take_of_length_le h, List.append_assoc]

/-- a save through a temp file and a rename is atomic at every cut -/
theorem renameSave_at_cut (f : Files) (tmp dat : Path) (d : Bytes) (mid tail : List Step) (c : Cut) (hne : dat ≠ tmp)
    (hmid : ∀ st ∈ mid, ¬ st.touches tmp ∧ ¬ st.touches dat) (htail : ∀ st ∈ tail, ¬ st.touches dat) :
    diskAt f (writeFile tmp d ++ mid ++ .rename tmp dat :: tail) c dat = f dat ∨
    diskAt f (writeFile tmp d ++ mid ++ .rename tmp dat :: tail) c dat = some d := by
  have hpre : ∀ st ∈ writeFile tmp d ++ mid, ¬ st.touches dat := by
    intro st hst
    rcases List.mem_append.mp hst with h | h
    · exact writeFile_touch _ _ _ hne st h
    · exact (hmid st h).2
  rw [diskAt_eq]
  by_cases hk : c.k < (writeFile tmp d ++ mid).length
  · rw [cutSteps_append_lt _ _ _ hk]
    exact .inl (runSteps_frame _ _ _ (cutSteps_touch _ _ _ hpre))
  · rw [cutSteps_append_ge _ _ _ (Nat.le_of_not_lt hk), runSteps_append]
    have htmp : runSteps f (writeFile tmp d ++ mid) tmp = some d := by
      rw [runSteps_append, runSteps_frame mid _ _ (fun st h => (hmid st h).1), runSteps_writeFile, Files.set_same]
    have hdat : runSteps f (writeFile tmp d ++ mid) dat = f dat := runSteps_frame _ _ _ hpre
    generalize runSteps f (writeFile tmp d ++ mid) = g at htmp hdat
    generalize c.k - (writeFile tmp d ++ mid).length = k
    cases k with
    | zero => exact .inl hdat
    | succ k =>
      -- the rename has happened; what follows leaves the file alone
      have := cutSteps_append_ge [.rename tmp dat] tail ⟨k + 1, c.len⟩ (Nat.succ_le_succ (Nat.zero_le _))
      rw [List.singleton_append] at this
      rw [this, runSteps_append, runSteps_frame _ _ _ (cutSteps_touch _ _ _ htail)]
      simp [runSteps, applyStep, htmp, Files.set, hne]

theorem tindexDat_at_cut (K : Codecs) (f : Files) (new : TMap) (c : Cut) :
    diskAt f (tindexSaveSteps K.tidx f new) c .tindexDat = f .tindexDat ∨
    diskAt f (tindexSaveSteps K.tidx f new) c .tindexDat = some (K.tidx.enc new) := by
  rw [tindexSaveSteps_eq]
  exact renameSave_at_cut f .tindexTmp .tindexDat (K.tidx.enc new) _ [] c (by simp)
    (fun st hst => ⟨tindexBackup_touch _ _ (by simp) st hst, tindexBackup_touch _ _ (by simp) st hst⟩) (fun _ h => nomatch h)

/-- the registry file at every cut of `savePipes` followed by steps that leave it alone (the removal of a position file,
the snapshot save of a shutdown): the old content or the complete new list -/
theorem loadPipes_at_cut (K : Codecs) (hK : K.Laws) (f : Files) (new : List Pipe) (tail : List Step)
    (ht : ∀ st ∈ tail, ¬ st.touches pipesDat) (c : Cut) :
    loadPipes K.pipes (diskAt f (savePipesSteps K.pipes new ++ tail) c) = loadPipes K.pipes f ∨
    loadPipes K.pipes (diskAt f (savePipesSteps K.pipes new ++ tail) c) = some new := by
  have e : savePipesSteps K.pipes new ++ tail =
      writeFile pipesTmp (K.pipes.enc new) ++ [] ++ .rename pipesTmp pipesDat :: tail := by rw [savePipesSteps_eq]; rfl
  rw [e]
  rcases renameSave_at_cut f pipesTmp pipesDat (K.pipes.enc new) [] tail c pipesDat_ne_tmp (fun _ h => nomatch h) ht with h | h
  · exact .inl (loadPipes_congr _ _ _ h)
  · exact .inr (by simp only [loadPipes]; rw [h]; exact hK.pipes.rt new)

/-- … and preceded by steps that leave it alone (the removal of the position file in `DeletePipe`) -/
theorem loadPipes_at_cut_pre (K : Codecs) (hK : K.Laws) (f : Files) (new : List Pipe) (pre tail : List Step)
    (hp : ∀ st ∈ pre, ¬ st.touches pipesDat) (ht : ∀ st ∈ tail, ¬ st.touches pipesDat) (c : Cut) :
    loadPipes K.pipes (diskAt f (pre ++ (savePipesSteps K.pipes new ++ tail)) c) = loadPipes K.pipes f ∨
    loadPipes K.pipes (diskAt f (pre ++ (savePipesSteps K.pipes new ++ tail)) c) = some new := by
  by_cases hk : c.k < pre.length
  · left
    rw [diskAt_eq, cutSteps_append_lt _ _ _ hk]
    exact loadPipes_congr _ _ _ (runSteps_frame _ _ _ (cutSteps_touch _ _ _ hp))
  · have hf' : loadPipes K.pipes (runSteps f pre) = loadPipes K.pipes f := loadPipes_congr _ _ _ (runSteps_frame _ _ _ hp)
    have := loadPipes_at_cut K hK (runSteps f pre) new tail ht ⟨c.k - pre.length, c.len⟩
    rw [hf', diskAt_eq] at this
    rw [diskAt_eq, cutSteps_append_ge _ _ _ (Nat.le_of_not_lt hk), runSteps_append]
    exact this

/-- a start on a disk whose tag-index file encodes `m` and whose registry decodes to `ps`: not refused, and consistent -/
theorem start_spec (K : Codecs) (hK : K.Laws) (parseOk : TagLine → Bool) (d : Disk) (m : TMap) (ps : List Pipe)
    (ht : d.files .tindexDat = some (K.tidx.enc m)) (hp : m.all (fun e => parseOk e.1) = true)
    (hj : (journalsOnDisk d.db).all (tmapHasSrc m) = true) (hr : loadPipes K.pipes d.files = some ps)
    (hs : ∀ p ∈ ps, p.name ≠ pipeNameS) :
    recover K parseOk d = .started (recovered K d m ps) ∧ Inv K parseOk (recovered K d m ps) :=
  ⟨recover_spec K hK parseOk d m ps ht hp hj hr, inv_recovered K parseOk d m ps hp hj hr hs⟩

/-- a start on a disk whose tag index is fine and whose registry file does not decode is refused by the pipe service -/
theorem recover_refusedPipes (K : Codecs) (hK : K.Laws) (parseOk : TagLine → Bool) (d : Disk) (m : TMap)
    (ht : d.files .tindexDat = some (K.tidx.enc m)) (hp : m.all (fun e => parseOk e.1) = true)
    (hj : (journalsOnDisk d.db).all (tmapHasSrc m) = true) (hr : loadPipes K.pipes d.files = none) :
    recover K parseOk d = .refusedPipes := by
  simp only [recover, checkConsistency_of K hK parseOk d m ht hp hj, pipesInit, loadPipes_tindexSave, hr, Option.map_none]

theorem shutdownSteps_touch (m : Mem) (q : Path) (h1 : q ≠ pipesDat) (h2 : q ≠ pipesTmp) (h3 : q ≠ .cindexDat) :
    ∀ st ∈ shutdownSteps K m, ¬ st.touches q := by
  intro st hst
  rcases List.mem_append.mp hst with h' | h'
  · exact savePipesSteps_touch _ _ _ h1 h2 st h'
  · exact writeFile_touch _ _ _ h3 st h'

/-- third part: a kill inside the update leaves the journals as they were, and the start may find the new tag index -/
theorem opSteps_at_cut (hK : K.Laws) (h : Inv K parseOk s) (o : Op) (c : Cut) (hen : enabled parseOk s o = true)
    (hok : o.pipeName ≠ some pipeNameS) :
    (diskAt s.disk.files (opSteps K s o) c .tindexDat = some (K.tidx.enc s.mem.tmap) ∨
      diskAt s.disk.files (opSteps K s o) c .tindexDat = some (K.tidx.enc (step K s o).mem.tmap)) ∧
    (loadPipes K.pipes (diskAt s.disk.files (opSteps K s o) c) = some (s.mem.pipes.map (·.cfg)) ∨
      loadPipes K.pipes (diskAt s.disk.files (opSteps K s o) c) = some ((step K s o).mem.pipes.map (·.cfg))) ∧
    (journalsOnDisk s.disk.db).all (tmapHasSrc (step K s o).mem.tmap) = true := by
  have keepT : (∀ st ∈ opSteps K s o, ¬ st.touches .tindexDat) →
      diskAt s.disk.files (opSteps K s o) c .tindexDat = some (K.tidx.enc s.mem.tmap) :=
    fun ht => (diskAt_frame _ _ _ _ ht).trans h.tdat
  have keepR : (∀ st ∈ opSteps K s o, ¬ st.touches pipesDat) →
      loadPipes K.pipes (diskAt s.disk.files (opSteps K s o) c) = some (s.mem.pipes.map (·.cfg)) :=
    fun ht => (loadPipes_congr _ _ s.disk.files (diskAt_frame _ _ _ _ ht)).trans h.reg
  have hsave : ∀ ps, ∀ st ∈ savePipesSteps K.pipes ps, ¬ st.touches .tindexDat :=
    fun ps => savePipesSteps_touch _ _ _ (by simp [pipesDat]) (by simp [pipesTmp])
  have hreg : ∀ (pre : List Step) (ps : List Pipe), (∀ st ∈ pre, ¬ st.touches pipesDat) →
      loadPipes K.pipes (diskAt s.disk.files (pre ++ savePipesSteps K.pipes ps) c) = some (s.mem.pipes.map (·.cfg)) ∨
      loadPipes K.pipes (diskAt s.disk.files (pre ++ savePipesSteps K.pipes ps) c) = some ps := fun pre ps hp => by
    have := loadPipes_at_cut_pre K hK s.disk.files ps pre [] hp (fun _ h => nomatch h) c
    rwa [List.append_nil, h.reg] at this
  have hcut := tindexDat_at_cut K s.disk.files (step K s o).mem.tmap c
  rw [h.tdat] at hcut
  cases o with
  | newPartition tags src =>
    exact ⟨hcut, .inl (keepR (tindexSaveSteps_touch _ _ _ _ pipesDat_not_tindex)),
      List.all_eq_true.mpr fun j hj => tmapHasSrc_append _ _ _ (List.all_eq_true.mp h.jrn j hj)⟩
  | dropPartition src =>
    refine ⟨hcut, .inl (keepR (tindexSaveSteps_touch _ _ _ _ pipesDat_not_tindex)),
      List.all_eq_true.mpr fun j hj => tmapHasSrc_filter _ _ _ (List.all_eq_true.mp h.jrn j hj) ?_⟩
    -- `deleteJournal` refuses a journal that holds records
    rintro rfl
    have hf : deleteJournalRefusesNonEmpty = true := by decide
    have hc : ¬ j ∈ journalsOnDisk s.disk.db := by simpa [enabled, hf] using hen
    exact hc hj
  | write src pieces =>
    have : (step K s (.write src pieces)).mem.tmap = s.mem.tmap := by simp only [step]
    exact ⟨.inl (keepT fun _ h => nomatch h), .inl (keepR fun _ h => nomatch h), this ▸ h.jrn⟩
  | dropChunks src n => exact ⟨.inl (keepT fun _ h => nomatch h), .inl (keepR fun _ h => nomatch h), h.jrn⟩
  | createPipe p =>
    have hf : pipeDefsSavedOnCreate = true := by decide
    simp only [opSteps, hf, if_true] at keepT ⊢
    exact ⟨.inl (keepT (hsave _)), hreg [] _ (fun _ h => nomatch h), h.jrn⟩
  | deletePipe n =>
    have hf : pipeDefsSavedOnDelete = true := by decide
    have hf2 : deletePipeRemovesPositionsBeforeSave = true := by decide
    have hn : n ≠ pipeNameS := by simpa [Op.pipeName] using hok
    simp only [opSteps, hf, hf2, if_true] at keepT ⊢
    refine ⟨.inl (keepT fun st hst => ?_), hreg [_] _ fun st hst => ?_, h.jrn⟩
    · rcases List.mem_cons.mp hst with rfl | h1
      · simp [Step.touches, pipeInfoPath]
      · exact hsave _ st h1
    · cases List.mem_singleton.mp hst
      simpa [Step.touches] using (Ne.symm (pipeInfoPath_ne_dat hn))
  | savePipeInfo n pm =>
    have hn : n ≠ pipeNameS := by simpa [Op.pipeName] using hok
    exact ⟨.inl (keepT (writeFile_touch _ _ _ (by simp [pipeInfoPath]))),
      .inl (keepR (writeFile_touch _ _ _ (Ne.symm (pipeInfoPath_ne_dat hn)))), h.jrn⟩

/-- a start finds the tag index and the registry each from before or after the operation it was killed in, the one
independently of the other -/
theorem start_shape (hK : K.Laws) (h : Inv K parseOk s) (ev : Ev) (hok : ev.ok = true) (d : Disk)
    (hd : startDisk K parseOk s ev = some d) :
    ∃ m ps, recover K parseOk d = .started (recovered K d m ps) ∧ Inv K parseOk (recovered K d m ps) ∧
      (m = s.mem.tmap ∨ ∃ o c, ev = .crashIn o c ∧ enabled parseOk s o = true ∧ m = (step K s o).mem.tmap) ∧
      (ps = s.mem.pipes.map (·.cfg) ∨
        ∃ o c, ev = .crashIn o c ∧ enabled parseOk s o = true ∧ ps = (step K s o).mem.pipes.map (·.cfg)) := by
  have hc := crash_spec (parseOk := parseOk) hK h
  cases ev with
  | op o => exact nomatch hd
  | ensurePipe p => exact nomatch hd
  | restart =>
    obtain rfl : (shutdown K s).disk = d := Option.some.inj hd
    have hr := restart_spec (parseOk := parseOk) hK h
    exact ⟨_, _, hr.1, hr.2.2.2, .inl rfl, .inl rfl⟩
  | crash =>
    obtain rfl : s.disk = d := Option.some.inj hd
    exact ⟨_, _, hc.1, hc.2.2.2, .inl rfl, .inl rfl⟩
  | crashInStop c =>
    obtain rfl : ({ s.disk with files := diskAt s.disk.files (shutdownSteps K s.mem) c } : Disk) = d := Option.some.inj hd
    have hT : diskAt s.disk.files (shutdownSteps K s.mem) c .tindexDat = some (K.tidx.enc s.mem.tmap) :=
      (diskAt_frame _ _ _ _ (shutdownSteps_touch _ _ (by simp [pipesDat]) (by simp [pipesTmp]) (by simp))).trans h.tdat
    have hR := loadPipes_at_cut K hK s.disk.files (s.mem.pipes.map (·.cfg)) (cindexSaveSteps K.cidx s.mem.cidx)
      (writeFile_touch _ _ _ (by simp [pipesDat])) c
    rw [h.reg, or_self] at hR
    have hst := start_spec K hK parseOk ⟨_, s.disk.db, s.disk.trees⟩ _ _ hT h.parse h.jrn hR h.cfg_noS
    exact ⟨_, _, hst.1, hst.2, .inl rfl, .inl rfl⟩
  | crashIn o c =>
    by_cases hen : enabled parseOk s o = true
    · simp only [startDisk, hen, if_true] at hd
      obtain rfl := Option.some.inj hd
      have hno : o.pipeName ≠ some pipeNameS := by simpa [Ev.ok] using hok
      obtain ⟨hT, hR, hJ⟩ := opSteps_at_cut hK h o c hen hno
      have hnew : Inv K parseOk (step K s o) := by
        have := inv_gstep (parseOk := parseOk) hK h o hno
        rwa [gstep, if_pos hen] at this
      rcases hT with hT | hT <;> rcases hR with hR | hR
      · have hst := start_spec K hK parseOk ⟨_, s.disk.db, s.disk.trees⟩ _ _ hT h.parse h.jrn hR h.cfg_noS
        exact ⟨_, _, hst.1, hst.2, .inl rfl, .inl rfl⟩
      · have hst := start_spec K hK parseOk ⟨_, s.disk.db, s.disk.trees⟩ _ _ hT h.parse h.jrn hR hnew.cfg_noS
        exact ⟨_, _, hst.1, hst.2, .inl rfl, .inr ⟨o, c, rfl, hen, rfl⟩⟩
      · have hst := start_spec K hK parseOk ⟨_, s.disk.db, s.disk.trees⟩ _ _ hT hnew.parse hJ hR h.cfg_noS
        exact ⟨_, _, hst.1, hst.2, .inr ⟨o, c, rfl, hen, rfl⟩, .inl rfl⟩
      · have hst := start_spec K hK parseOk ⟨_, s.disk.db, s.disk.trees⟩ _ _ hT hnew.parse hJ hR hnew.cfg_noS
        exact ⟨_, _, hst.1, hst.2, .inr ⟨o, c, rfl, hen, rfl⟩, .inr ⟨o, c, rfl, hen, rfl⟩⟩
    · simp only [startDisk, hen] at hd
      obtain rfl : s.disk = d := Option.some.inj hd
      exact ⟨_, _, hc.1, hc.2.2.2, .inl rfl, .inl rfl⟩

end Logrange.Persist

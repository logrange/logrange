import Logrange.Model.Format
import Logrange.Proofs.Outcome
/-! `NewFormatParser` passes every bounds check, for all format strings and every behaviour of `strings.ToLower` (C13). -/
namespace Logrange.Format
open Go Logrange Outcome

theorem fieldOf_noPanic (lower : Bytes → Bytes) (val : Bytes) : (fieldOf lower val).isPanic = false := by
  unfold fieldOf
  generalize lower val = cv
  have vars : NoPanic (if cv = sVars then (.ok .vars : Outcome FF)
      else if sVarsColon.isPrefixOf cv ∧ 5 < val.length then (Go.sliceFrom val 5).bind fun n => .ok (.var n) else .err) :=
    ite_both NoPanic rfl (ite_of NoPanic (fun h => by rw [sliceFrom_ok_of (Nat.le_of_lt h.2)]; rfl) fun _ => rfl)
  refine ite_both NoPanic rfl (ite_of NoPanic (fun h => by rw [h]; rfl) fun _ =>
    ite_both NoPanic rfl (ite_of NoPanic (fun h => ?_) fun _ => vars))
  -- `val[len(val)-1]` and `val[10:len(val)-1]` behind `len(val) > 10`
  rw [index_ok val (val.length - 1) (by omega), bind_ok]
  refine ite_both NoPanic ?_ vars
  rw [slice_ok_of (by omega)]; rfl

/-- the loop invariant: `startIdx ≤ i` and `i` is the index of the first byte of `rest` -/
theorem scan_noPanic (lower : Bytes → Bytes) (fstr : Bytes) :
    ∀ (rest : Bytes) (i state startIdx : Nat) (fields : List FF), startIdx ≤ i → i + rest.length = fstr.length →
      (scan lower fstr rest i state startIdx fields).isPanic = false
  | [], i, state, startIdx, fields, h1, h2 => by
    unfold scan
    exact ite_both NoPanic rfl (ite_of NoPanic (fun h => by rw [sliceFrom_ok_of (Nat.le_of_lt h)]; rfl) fun _ => rfl)
  | c :: rest, i, state, startIdx, fields, h1, h2 => by
    rw [List.length_cons] at h2
    have next : ∀ state' startIdx' fields', startIdx' ≤ i + 1 →
        NoPanic (scan lower fstr rest (i + 1) state' startIdx' fields') :=
      fun _ _ _ h => scan_noPanic lower fstr rest (i + 1) _ _ _ h (by omega)
    obtain ⟨raw, cut⟩ : ∃ raw, Go.slice fstr startIdx i = .ok raw := ⟨_, slice_ok_of (by omega)⟩
    have h1' : startIdx ≤ i + 1 := Nat.le_succ_of_le h1
    unfold scan
    refine ite_both NoPanic (ite_both NoPanic ?_ (next _ _ _ h1'))
      (ite_both NoPanic (ite_both NoPanic (next _ _ _ h1') rfl)
        (ite_both NoPanic (ite_both NoPanic (next _ _ _ h1') ?_) (next _ _ _ h1')))
    · refine bind_isPanic_false (ite_both NoPanic (by rw [cut]; rfl) rfl) fun _ _ => next _ _ _ (Nat.le_refl _)
    · rw [cut, bind_ok]
      exact bind_isPanic_false (fieldOf_noPanic lower _) fun _ _ => next _ _ _ (Nat.le_refl _)

theorem parse_noPanic (lower : Bytes → Bytes) (fstr : Bytes) : (parse lower fstr).isPanic = false :=
  scan_noPanic lower fstr fstr 0 0 0 [] (Nat.le_refl 0) (Nat.zero_add _)

end Logrange.Format

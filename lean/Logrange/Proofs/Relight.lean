import Logrange.Model.Relight
import Logrange.Proofs.RebuildHist
/-! The stale-entry path keeps the chunk index sound on monotone data: `relight_sound`, `lateNotify_sound`. -/
namespace Logrange.RebuildHist
open Logrange.Points Logrange.ChunkHist

theorem soundL_treeless {tsOf : Nat → Int} {c : ChunkIdx} (h : Hull) (hh : c.hull = some h)
    (hs : HullSound h tsOf c.n ∧ minI64 ≤ h.minTs) (ht : c.corrupted = true ∨ c.pts = []) : SoundL tsOf c := by
  have hp : c.corrupted = false → c.pts = [] := by
    intro hc
    rcases ht with ht | ht
    · rw [ht] at hc; cases hc
    · exact ht
  refine ⟨fun _ => by simp [hh], ?_, ?_, ?_, ?_⟩
  · intro h' e
    rw [hh] at e; cases e; exact hs
  · intro hc; rw [hp hc]; exact ⟨fun p hp => by simp at hp, fun p hp => by simp at hp⟩
  · intro hc p hp'; rw [hp hc] at hp'; simp at hp'
  · intro hc p hp'; rw [hp hc] at hp'; simp at hp'

/-- after `dropStale` + `lightFill` the entry is sound for all `m` confirmed records — whatever it was before -/
theorem relight_sound {tsOf : Nat → Int} {c : ChunkIdx} (m : Nat) (hs : SoundL tsOf c) (hm : Monotone tsOf m)
    (hlow : ∀ q, q < m → minI64 ≤ tsOf q) : SoundL tsOf (relight tsOf m c) := by
  unfold relight
  by_cases h : m ≤ c.n
  · rw [if_pos h]; exact hs
  · rw [if_neg h]
    have hm0 : 0 < m := by omega
    refine soundL_treeless _ rfl ⟨?_, ?_⟩ (Or.inr rfl)
    · intro p (hp : p < m)
      have h1 := hm 0 p (Nat.zero_le _) hp
      have h2 := hm p (m - 1) (by omega) (by omega)
      dsimp only
      omega
    · have := hlow 0 hm0
      have := hlow (m - 1) (by omega)
      dsimp only
      omega

theorem relight_n (tsOf : Nat → Int) (m : Nat) (c : ChunkIdx) : (relight tsOf m c).n = max m c.n := by
  unfold relight
  by_cases h : m ≤ c.n
  · rw [if_pos h]; omega
  · rw [if_neg h]; dsimp only; omega

/-- the writer's notification that arrives after the entry was re-derived (or after a rebuild of nothing): the entry has
no tree; the batch `a … a+k-1` with its hull (`RollHull`) leaves a sound entry for the `a + k` records it accounts for -/
theorem lateNotify_sound {tsOf : Nat → Int} {c : ChunkIdx} (bigGap a k : Nat) (mn mx : Int) (hs : SoundL tsOf c)
    (hk : 0 < k) (ha : a ≤ c.n) (hm : Monotone tsOf (max c.n (a + k))) (he : RollHull tsOf a k mn mx) :
    SoundL tsOf (lateNotify bigGap c a k mn mx) := by
  obtain ⟨hb, ⟨qx, hqx1, hqx2, hqx⟩, hmn, hlo⟩ := he
  -- the merged hull covers every position below a + k
  have hull_ok : HullSound (newHull c.hull mn mx) tsOf (a + k) ∧ minI64 ≤ (newHull c.hull mn mx).minTs := by
    cases hh : c.hull with
    | none =>
      have hn0 : c.n = 0 := by
        by_cases h0 : c.n > 0
        · exact absurd hh (hs.hullSome h0)
        · omega
      simp only [newHull]
      refine ⟨?_, hlo⟩
      intro p hp
      exact hb p (by omega) hp
    | some h =>
      obtain ⟨hhs, hhm⟩ := hs.hullOk h hh
      simp only [newHull]
      refine ⟨?_, Int.le_min.2 ⟨hhm, hlo⟩⟩
      intro p hp
      show min h.minTs mn ≤ tsOf p ∧ tsOf p ≤ max h.maxTs mx
      by_cases hpn : p < c.n
      · exact ⟨Int.le_trans (Int.min_le_left _ _) (hhs p hpn).1, Int.le_trans (hhs p hpn).2 (Int.le_max_left _ _)⟩
      · have := hb p (by omega) hp
        exact ⟨Int.le_trans (Int.min_le_right _ _) this.1, Int.le_trans this.2 (Int.le_max_right _ _)⟩
  have hm : ∀ i j, i ≤ j → j < a + k → tsOf i ≤ tsOf j :=
    fun i j h1 h2 => hm i j h1 (Nat.lt_of_lt_of_le h2 (Nat.le_max_right _ _))
  unfold lateNotify
  dsimp only
  by_cases hc : c.corrupted = true
  · rw [if_pos hc]
    exact soundL_treeless _ rfl hull_ok (Or.inl hc)
  · rw [if_neg hc]
    by_cases hg : a + k - 1 - c.lastRec > bigGap
    · rw [if_pos hg]
      exact soundL_treeless _ rfl hull_ok (Or.inl rfl)
    · rw [if_neg hg]
      have hadd : add [] ⟨⟨mn, a⟩, ⟨mx, a + k - 1⟩⟩ = [⟨mn, a⟩, ⟨mx, a + k - 1⟩] := rfl
      refine ⟨fun _ => by simp, ?_, ?_, ?_, ?_⟩
      · intro h hh; simp only [Option.some.injEq] at hh; subst hh; exact hull_ok
      · intro _
        dsimp only
        rw [hadd]
        constructor
        · intro p hp q hq hqn
          simp at hp
          rcases hp with rfl | rfl
          · -- q < a: needs mn attained (a ≠ 0)
            dsimp only at hq
            have ha : a ≠ 0 := by omega
            rcases hmn with h0 | ⟨qm, hq1, hq2, hqm⟩
            · exact absurd h0 ha
            · have := hm q qm (by omega) (by omega)
              dsimp only; omega
          · dsimp only at hq
            by_cases hqa : a ≤ q
            · have := (hb q hqa (by omega)).2
              dsimp only; exact this
            · have := hm q qx (by omega) (by omega)
              dsimp only; omega
        · intro p hp q hq hqn
          simp at hp
          rcases hp with rfl | rfl
          · dsimp only at hq
            have := (hb q (by omega) hqn).1
            dsimp only; exact this
          · dsimp only at hq; omega
      · intro _ p hp
        dsimp only at hp
        rw [hadd] at hp
        simp at hp
        rcases hp with rfl | rfl
        · exact ⟨a, by dsimp only; omega, (hb a (Nat.le_refl _) (by omega)).1⟩
        · exact ⟨qx, by dsimp only; omega, by dsimp only; omega⟩
      · intro _ p hp
        dsimp only at hp
        rw [hadd] at hp
        simp at hp
        rcases hp with rfl | rfl <;> dsimp only <;> omega

end Logrange.RebuildHist

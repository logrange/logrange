import Logrange.Model.ScanCrash
import Logrange.Proofs.ScanWorker
/-! Invariants of the scanner worker LTS with the two-step save (`Model/ScanCrash.lean`). -/
namespace Logrange.ScanCrash
open Logrange.ScanWorker

/-! ## facts about single worker steps -/

theorem confEnd_mono {c : Cfg} {s s' : S} {l : L} (hst : Step c s l s') : confEnd s ≤ confEnd s' := by
  obtain ⟨e, ⟨x, ex⟩, _⟩ := hst.grow
  simp only [confEnd, e, ex, bytesOf_append, ← Nat.add_assoc]
  exact Nat.le_add_right _ _

theorem ends_mono {c : Cfg} {s s' : S} {l : L} (hst : Step c s l s') : ∀ e ∈ s.ends, e ∈ s'.ends := by
  intro e he
  rcases hst.grow.2.2 with h | h
  · rw [h]; exact he
  · rw [h]; exact List.mem_append_left _ he

/-- (a) a label that is not a persist keeps what the state file holds -/
theorem step_nonpersist {c : Cfg} {s s' : S} {l : L} (hst : Step c s l s') (hl : isPersistLabel l = false) :
    s'.persisted = s.persisted ∧ s'.confAtPersist = s.confAtPersist ∧
    s'.persistInWindow = s.persistInWindow := by
  cases hst with
  | persist | finalPersist => cases hl
  | stopOnEOF => split <;> exact ⟨rfl, rfl, rfl⟩
  | _ => exact ⟨rfl, rfl, rfl⟩

/-- (b) the two persist labels, when enabled, do the same: they store the offset -/
theorem step_persist {c : Cfg} {s s' : S} {l : L} (hst : Step c s l s') (hl : isPersistLabel l = true) :
    s' = { s with persisted := s.offset, confAtPersist := confEnd s, persistInWindow := isSetting s.pc } := by
  cases hst with
  | persist | finalPersist => rfl
  | _ => cases hl

theorem isPersistLabel_sel (final : Bool) :
    isPersistLabel (if final then L.finalPersist else L.persist) = true := by
  cases final <;> rfl

/-- after the worker has left its loop only `stopOnEOF` and `cancel` are enabled (besides the persists);
they change neither the program counter nor any offset -/
theorem step_done {c : Cfg} {s s' : S} {l : L} (hst : Step c s l s') (hpc : s.pc = .done)
    (hl : isPersistLabel l = false) :
    s'.pc = .done ∧ s'.start = s.start ∧ s'.confirmed = s.confirmed ∧ s'.persisted = s.persisted := by
  cases hst with
  | stopOnEOF => split <;> exact ⟨hpc, rfl, rfl, rfl⟩
  | cancel => exact ⟨hpc, rfl, rfl, rfl⟩
  | persist | finalPersist => cases hl
  | _ => simp_all

/-- The enabled transitions of `cstep`. -/
inductive CStep (c : Cfg) (x : CS) : CS → Prop
  | w {l : L} {s' : S} : isPersistLabel l = false → step c x.s l = some s' → CStep c x { x with s := s' }
  | saveBegin {final : Bool} {s' : S} : x.saving = false →
      step c x.s (if final then .finalPersist else .persist) = some s' →
      CStep c x { x with s := s', saving := true, tmpFinal := final }
  | saveRename : x.saving = true →
      CStep c x { x with saving := false, disk := x.s.persisted, diskConf := x.s.confAtPersist,
                         diskWin := x.s.persistInWindow, diskFinal := x.tmpFinal }

theorem cstep_sound {c : Cfg} {x x' : CS} {l : CL} (h : cstep c x l = some x') : CStep c x x' := by
  cases l with
  | w l =>
    simp only [cstep] at h
    split at h
    · cases h
    · next hl =>
      split at h
      · next s' hst => obtain rfl := Option.some.inj h; exact .w (by simpa using hl) hst
      · cases h
  | saveBegin final =>
    simp only [cstep] at h
    split at h
    · cases h
    · next hsv =>
      split at h
      · next s' hst => obtain rfl := Option.some.inj h; exact .saveBegin (by simpa using hsv) hst
      · cases h
  | saveRename =>
    simp only [cstep] at h
    split at h
    · next hsv => obtain rfl := Option.some.inj h; exact .saveRename hsv
    · cases h

theorem crun_inv (c : Cfg) {P : CS → Prop} (hP : ∀ {x x'}, CStep c x x' → P x → P x') :
    ∀ (tr : List CL) (x : CS), P x → P (crun c x tr)
  | [], _, h => h
  | l :: ls, x, h => by
    simp only [crun]
    cases hs : cstep c x l with
    | none => exact crun_inv c hP ls x h
    | some x' => exact crun_inv c hP ls x' (hP (cstep_sound hs) h)

/-! ## the wrapper invariant -/

/-- what `scanner.json` holds, at every point, also between the write of the temporary file and its rename -/
structure CInv (x : CS) : Prop where
  winv : WInv x.s
  idle : x.saving = false →
    x.disk = x.s.persisted ∧ x.diskConf = x.s.confAtPersist ∧ x.diskWin = x.s.persistInWindow
  busy : x.saving = true → x.disk ≤ x.s.persisted
  diskMem : x.disk ∈ x.s.start :: x.s.ends
  diskLe : x.disk ≤ x.s.offset
  confLe : x.diskConf ≤ confEnd x.s
  noRace : x.diskWin = false → x.disk = x.diskConf

theorem cinv_init (start : Nat) : CInv (cinit start) := by
  refine ⟨winv_init start, ?_, ?_, ?_, ?_, ?_, ?_⟩ <;> simp [cinit, init, confEnd]

theorem cinv_step {c : Cfg} {x x' : CS} (hs : CStep c x x') (h : CInv x) : CInv x' := by
  cases hs with
  | @w l s' hl hst =>
    have hst := step_sound hst
    have hw' : WInv s' := winv_step hst h.winv
    obtain ⟨e1, e2, e3⟩ := step_nonpersist hst hl
    exact { h with
      winv := hw'
      idle := fun hsv => by show _ = s'.persisted ∧ _ = s'.confAtPersist ∧ _ = s'.persistInWindow
                            rw [e1, e2, e3]; exact h.idle hsv
      busy := fun hsv => by show _ ≤ s'.persisted; rw [e1]; exact h.busy hsv
      diskMem := by
        show x.disk ∈ s'.start :: s'.ends
        rw [hst.grow.1]
        exact List.mem_cons.2 ((List.mem_cons.1 h.diskMem).imp id (ends_mono hst _))
      diskLe := by
        -- `disk ≤ persisted` in both phases of a save, and `persisted` has not moved
        show x.disk ≤ s'.offset
        refine Nat.le_trans ?_ hw'.perLe
        rw [e1]
        cases hsv : x.saving with
        | false => exact Nat.le_of_eq (h.idle hsv).1
        | true => exact h.busy hsv
      confLe := Nat.le_trans h.confLe (confEnd_mono hst) }
  | @saveBegin final s' hsv hst =>
    have hst := step_sound hst
    obtain rfl := step_persist hst (isPersistLabel_sel final)
    exact { h with
      winv := h.winv.persist
      idle := fun x => nomatch x
      busy := fun _ => h.diskLe }
  | saveRename hsv =>
    exact ⟨h.winv, fun _ => ⟨rfl, rfl, rfl⟩, fun x => (nomatch x), h.winv.perMem, h.winv.perLe, h.winv.confMono,
      h.winv.noRace⟩

theorem cinv_run (c : Cfg) : ∀ (tr : List CL) (x : CS), CInv x → CInv (crun c x tr) :=
  crun_inv c cinv_step

/-! ## `start` is constant -/

theorem crun_start (c : Cfg) (tr : List CL) (x : CS) : (crun c x tr).s.start = x.s.start :=
  crun_inv c (P := fun y => y.s.start = x.s.start)
    (fun hs h => by
      cases hs with
      | w _ hst => exact (step_sound hst).grow.1.trans h
      | saveBegin _ hst => exact (step_sound hst).grow.1.trans h
      | saveRename => exact h) tr x rfl

/-! ## the final save (configurations whose final persist waits for the worker) -/

structure GInv (x : CS) : Prop where
  tmp : x.saving = true → x.tmpFinal = true → x.s.pc = .done ∧ x.s.persisted = confEnd x.s
  fin : x.diskFinal = true → x.s.pc = .done ∧ x.disk = confEnd x.s

theorem ginv_init (start : Nat) : GInv (cinit start) := by
  constructor <;> simp [cinit]

theorem ginv_step {c : Cfg} (hc : c.finalAfterWorkers = true) {x x' : CS} (hs : CStep c x x')
    (h : CInv x ∧ GInv x) : GInv x' := by
  obtain ⟨hi, g1, g2⟩ := h
  cases hs with
  | @w l s' hl hst =>
    have key : x.s.pc = .done → s'.pc = .done ∧ confEnd s' = confEnd x.s ∧ s'.persisted = x.s.persisted := by
      intro hpc
      obtain ⟨a, b, d, e⟩ := step_done (step_sound hst) hpc hl
      exact ⟨a, by simp only [confEnd, b, d], e⟩
    constructor
    · intro hsv htf
      obtain ⟨p, q⟩ := g1 hsv htf
      obtain ⟨a, b, d⟩ := key p
      exact ⟨a, by show s'.persisted = confEnd s'; rw [b, d]; exact q⟩
    · intro hdf
      obtain ⟨p, q⟩ := g2 hdf
      obtain ⟨a, b, _⟩ := key p
      exact ⟨a, by show x.disk = confEnd s'; rw [b]; exact q⟩
  | @saveBegin final s' hsv hst =>
    have e := step_persist (step_sound hst) (isPersistLabel_sel final)
    constructor
    · intro _ (htf : final = true)
      subst htf
      -- the final persist is enabled only once the worker has left its loop: there `offset` is the confirmed end
      simp only [if_true, step, hc, Bool.not_true, Bool.false_or] at hst
      split at hst
      · next hcond =>
        simp only [Bool.and_eq_true, beq_iff_eq] at hcond
        subst e
        exact ⟨hcond.2, (hi.winv.idle (by rw [hcond.2]; rfl)).1⟩
      · cases hst
    · intro hdf
      subst e
      exact g2 hdf
  | saveRename hsv => exact ⟨fun h => (nomatch h), fun hdf => g1 hsv hdf⟩

theorem ginv_run (c : Cfg) (hc : c.finalAfterWorkers = true) (tr : List CL) (x : CS) (hi : CInv x) (h : GInv x) :
    GInv (crun c x tr) :=
  (crun_inv c (P := fun y => CInv y ∧ GInv y) (fun hs h => ⟨cinv_step hs h.1, ginv_step hc hs h⟩) tr x ⟨hi, h⟩).2

/-! ## the inner system stays inside the one-step-save LTS -/

theorem run_single (c : Cfg) (s s' : S) (l : L) (hs : step c s l = some s') : run c s [l] = s' := by
  simp only [run, hs]

theorem crun_inner (c : Cfg) (s0 : S) (tr : List CL) (x : CS) (h : ∃ tr0, x.s = run c s0 tr0) :
    ∃ tr', (crun c x tr).s = run c s0 tr' := by
  refine crun_inv c (P := fun y => ∃ tr', y.s = run c s0 tr') (fun hs h => ?_) tr x h
  obtain ⟨tr0, h⟩ := h
  have ext : ∀ {l s'}, step c _ l = some s' → ∃ tr', s' = run c s0 tr' := fun {l s'} hst =>
    ⟨tr0 ++ [l], by rw [run_append, ← h, run_single c _ s' l hst]⟩
  cases hs with
  | w _ hst => exact ext hst
  | saveBegin _ hst => exact ext hst
  | saveRename => exact ⟨tr0, h⟩

end Logrange.ScanCrash

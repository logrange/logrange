import Logrange.Proofs.TIndexLts
import Logrange.Model.TIndexProg
/-!
A waiting `Visit` with `VF_DO_NOT_RELEASE` (`GetJournals`) owes nothing between two callbacks: the entry acquired by the
per-item section becomes the client's when the visitor returns (`vstd[i] = nil`). Hence such a visit, when `Shutdown()`
interrupts it, leaves no visit-owned acquisition behind — only the auto-release waiting visit (`Partitions`) can.
-/
namespace Logrange.TIndexLts

/-- the waiting, non-releasing visits owe exactly the entry whose callback is running -/
def DnrInv (st : St) : Prop :=
  ∀ a v, st.vis a = some v → v.skipping = false → v.noRelease = true →
    (v.cur = none → v.owed = []) ∧ (∀ s, v.cur = some s → v.owed = [s])

theorem dnrInv_init : DnrInv init := by
  intro a v h; simp [init] at h

theorem dnrInv_same {st st' : St} (h : DnrInv st) (e : st'.vis = st.vis) : DnrInv st' := by
  intro a v hv; rw [e] at hv; exact h a v hv

theorem dnrInv_step (st st' : St) (l : Lbl) (h : DnrInv st) (hs : step st l = some st') : DnrInv st' := by
  -- only the actor's own visit labels change `vis`
  have upd_case : ∀ (a : Nat) (o : Option Visit) (st1 : St), st1.vis = st.vis →
      (∀ v, o = some v → v.skipping = false → v.noRelease = true →
        (v.cur = none → v.owed = []) ∧ (∀ s, v.cur = some s → v.owed = [s])) → DnrInv (st1.setVis a o) := by
    intro a o st1 e ho b v hv
    have hv' : upd st1.vis a o b = some v := hv
    by_cases eb : b = a
    · subst eb; rw [upd_same] at hv'; exact ho v hv'
    · rw [upd_other _ _ _ _ eb, e] at hv'; exact h b v hv'
  cases step_eff hs with
  | skip | shutdown | panicRel | panicUnl | acqTags | create | acqId | rel | lock | unlock | delete | tryWait =>
    exact dnrInv_same h rfl
  | @start a sel sk nr =>
    refine upd_case a _ st rfl ?_
    intro v hv hsk _
    cases hv
    cases sk with
    | false => exact ⟨fun _ => rfl, fun _ hc => nomatch hc⟩
    | true => cases hsk
  | tryDown | finish => exact upd_case _ none st rfl (fun _ hv => nomatch hv)
  | @tryGone a s v hv hw hc =>
    refine upd_case a _ st rfl ?_
    intro v' hv' _ hnr
    cases hv'
    exact ⟨fun _ => (h a v hv hw hnr).1 hc, fun s' hs' => by rw [show v.cur = none from hc] at hs'; cases hs'⟩
  | @tryAcq a s v p hv hw hc =>
    refine upd_case a _ _ rfl ?_
    intro v' hv' _ hnr
    cases hv'
    have h0 : v.owed = [] := (h a v hv hw hnr).1 hc
    exact ⟨(fun hcn => nomatch hcn), fun s' hs' => by cases hs'; show s :: v.owed = [s]; rw [h0]⟩
  | cbKeep v _ _ hnr =>
    refine upd_case _ _ st rfl ?_
    intro v' hv' _ hnr'
    cases hv'
    rw [show v.noRelease = false from hnr] at hnr'; cases hnr'
  | @cbConv a s cont v hv hcb hnr =>
    refine upd_case a _ _ rfl ?_
    intro v' hv' hsk' _
    cases hv'
    have hsk : v.skipping = false := hsk'
    have hcs : v.cur = some s := by
      simp only [cbOk, hsk, Bool.false_eq_true, if_false, Bool.and_eq_true, beq_iff_eq] at hcb
      exact hcb.1.2
    have h1 := (h a v hv hsk hnr).2 s hcs
    exact ⟨fun _ => by show v.owed.erase s = []; rw [h1]; simp, fun s' hs' => nomatch hs'⟩

theorem dnrInv_run (tr : List Lbl) : ∀ st, DnrInv st → DnrInv (run st tr) := by
  induction tr with
  | nil => intro st h; exact h
  | cons l tr ih =>
    intro st h
    simp only [run]
    cases hs : step st l with
    | some st' => exact ih st' (dnrInv_step st st' l h hs)
    | none => exact ih st h

end Logrange.TIndexLts

namespace Logrange.TIndexProg
open Logrange.TIndexLts

/-- … in every reachable state of the system of caller programs (`Shutdown()` included) -/
theorem dnrInv_reach {x : Sys} (h : Reach x) : DnrInv x.st := by
  induction h with
  | start ctl he => exact dnrInv_init
  | step _ s ih => obtain ⟨_, l, _, _, hs, _⟩ := s; exact dnrInv_step _ _ l ih hs
  | call _ _ _ _ _ ih => exact ih
  | shutdown _ ih => exact dnrInv_same ih rfl

end Logrange.TIndexProg

import Logrange.Proofs.Truncate
/-! TRUNCATE of one partition under a concurrent writer: whatever the writer did between the snapshot and the
deletion, exactly the chosen number of OLDEST WHOLE chunks of the journal as it is then go. -/
namespace Logrange.Truncate

theorem grown_length {snap now : List Chunk} (h : GrownFrom snap now) : snap.length ≤ now.length := by
  induction h with
  | nil extra => simp
  | cons c c' rest now' _ _ _ _ ih => simp only [List.length_cons]; omega

theorem grown_id {snap now : List Chunk} (h : GrownFrom snap now) :
    ∀ i, i < snap.length → (now.getD i default).id = (snap.getD i default).id := by
  induction h with
  | nil extra => intro i hi; simp at hi
  | cons c c' rest now' hid _ _ _ ih =>
    intro i hi
    cases i with
    | zero => simpa using hid
    | succ j =>
      simp only [List.getD_cons_succ]
      exact ih j (by simp only [List.length_cons] at hi; omega)

/-- sizes only grow, position by position from the old end: what is left behind any cut is at least what the
snapshot showed -/
theorem grown_psize_drop {snap now : List Chunk} (h : GrownFrom snap now) :
    ∀ i, psize (snap.drop i) ≤ psize (now.drop i) := by
  induction h with
  | nil extra => intro i; simp [psize]
  | cons c c' rest now' _ hsz _ _ ih =>
    intro i
    cases i with
    | zero =>
      simp only [List.drop_zero, psize_cons]
      have := ih 0
      simp only [List.drop_zero] at this
      omega
    | succ j => simpa using ih j

/-- the chunks of the snapshot other than its last one are unchanged -/
theorem grown_take {snap now : List Chunk} (h : GrownFrom snap now) :
    ∀ i, i < snap.length → now.take i = snap.take i := by
  induction h with
  | nil extra => intro i hi; simp at hi
  | cons c c' rest now' _ _ hlast _ ih =>
    intro i hi
    cases i with
    | zero => simp
    | succ j =>
      simp only [List.length_cons] at hi
      have hne : rest ≠ [] := by intro e; subst e; simp at hi
      rw [hlast hne]
      simp only [List.take_succ_cons]
      rw [ih j (by omega)]

theorem truncateAt_eq (strict : Bool) (p : Params) (snap now : List Chunk) (hg : GrownFrom snap now) (hs : Ascending now) :
    truncateAt strict p snap now = if p.dryRun = true then now else now.drop (choose strict p snap).n :=
  truncateAt_eq_drop strict p snap now hs (grown_length hg) (grown_id hg)

end Logrange.Truncate

import Logrange.Proofs.RdRngPaging
import Logrange.Proofs.RdRngFwd
import Logrange.Proofs.RdRngWin
/-!
Appends between pages under RANGE (C03): the journal grows between pages (`Grows`), the chunk windows of every journal value
are sound for the range (`WinSound` — for the real index: `Props/C02Win.lean`, `rd_window_sound_pipeline`; that the windows
of the grown journal keep admitting what the old ones admitted is its `win_monotone_of_win_sound`, a consequence used here
only through `WinSound` of both values). Pages served after the journal changed are served by a NEW cursor built from the
position text (evicted cursor / request id zeroed / position only); a held cursor continues only while the journal is unchanged
(a held ranged cursor over a grown journal works with a partly stale status cache: tested, not proved).
-/
set_option linter.unusedSectionVars false
set_option linter.unusedVariables false
namespace Logrange.Rd

section
variable (lo hi : Option Int)

/-- the matching stored records from position `p` on -/
def FS (j : Journal) (w : Bool) (p : Pos) : List Rec := ((flat j).drop (flatIdx j p)).filter (passR lo hi w)

theorem rg_FLR_FS {j : Journal} (hs : Sorted j) (hw : WinSound j lo hi) (w : Bool) (p : Pos) :
    FLR lo hi j w (wflatIdx j p) = FS lo hi j w p :=
  rwn_filter_from hs (hw.toPassR w) p

/-- iterator part of the invariant: well formed, forward, in sync, and a cached event implies a settled position -/
def JS (j : Journal) (s : RIt) (v : Bool) : Prop :=
  RWF j s ∧ s.bkwd = false ∧ RSynced s ∧ (v = true → Settled j s.pos)
def JC (name : Nat) (j : Journal) (w : Bool) (c : Cur) : Prop :=
  ∃ s v l m, c = curR lo hi name j s w v l m ∧ JS j s v

theorem rg_fGetLoop {name j w} (hs : Sorted j) (hne : j ≠ []) : ∀ (fuel : Nat) (s : RIt) (v : Bool) (l : Option Rec)
    (m : Array MixSt), JS j s v → (wflat j).length - wIdx j s < fuel →
    ∃ s' v' l' m', (fGetLoop fuel (curR lo hi name j s w v l m)).1 = curR lo hi name j s' w v' l' m' ∧ JS j s' v' ∧
      Settled j s'.pos := by
  intro fuel s v l m ⟨hwf, hb, hsy, hv⟩ hf
  cases v with
  | true =>
    obtain ⟨f, rfl⟩ : ∃ f, fuel = f + 1 := ⟨fuel - 1, by omega⟩
    rw [rp_fGetLoop_succ, if_pos rfl]
    exact ⟨s, true, l, m, rfl, ⟨hwf, hb, hsy, hv⟩, hv rfl⟩
  | false =>
    -- the loop leaves the iterator as a `Get` left it: its position is settled
    obtain ⟨s0, V', v', l', ⟨b1, b2, b3, _⟩, _, he, _⟩ := rp_fGetLoop_view lo hi (name := name) (w := w) (FwdView j true)
      (rp_fwdView_get rGetFwd rNextFwd hs) (rp_fwdView_next rGetFwd rNextFwd hs) fuel s _ l m
      ⟨hwf, hb, fun _ => hsy, rfl⟩ (by rw [List.length_drop]; exact hf)
    obtain ⟨_, g2, g3, _, g5, _⟩ := rGetFwd j s0 hs b1 b2
    have hset := rf_get_settled hs b1 b2 (b3 rfl) hne
    rw [he]
    exact ⟨_, v', l', m, rfl, ⟨g2, g3, g5 (b3 rfl), fun _ => hset⟩, hset⟩

theorem rg_curGet {name j w c} (hs : Sorted j) (hne : j ≠ []) (h : JC lo hi name j w c) :
    ∃ s' v' l' m', (curGet c).1 = curR lo hi name j s' w v' l' m' ∧ JS j s' v' ∧ Settled j s'.pos := by
  obtain ⟨s, v, l, m, rfl, hj⟩ := h
  rw [rp_curGet]
  have := rp_wflat_length_le j
  exact rg_fGetLoop lo hi hs hne _ s v l m hj (by omega)

theorem rg_curNext {name j w c} (hs : Sorted j) (h : JC lo hi name j w c) : JC lo hi name j w (curNext c) := by
  obtain ⟨s, v, l, m, rfl, hwf, hb, hsy, _⟩ := h
  obtain ⟨n1, n2, n3, _⟩ := rNextFwd j s hs hwf hb
  exact ⟨rNext j s, false, l, m, rp_curNext .., n1, n2, n3, by intro h; cases h⟩

theorem rg_readLoop {name j w} (hs : Sorted j) (hne : j ≠ []) : ∀ (k : Nat) (c : Cur) (acc : List Rec),
    JC lo hi name j w c → JC lo hi name j w (readLoop k c acc).1 := by
  intro k
  induction k with
  | zero => intro c acc h; simpa [readLoop] using h
  | succ k ih =>
    intro c acc h
    obtain ⟨s', v', l', m', e, hj, _⟩ := rg_curGet lo hi hs hne h
    have h1 : JC lo hi name j w (curGet c).1 := ⟨s', v', l', m', e, hj⟩
    rw [readLoop]
    cases hg : (curGet c).2 with
    | none => simpa [hg] using h1
    | some r => simp only [hg]; exact ih _ _ (rg_curNext lo hi hs h1)

/-- the position a page exports is settled, and the committed cursor keeps the invariant -/
theorem rg_pageOn {name j w c} (hs : Sorted j) (hne : j ≠ []) (lim : Nat) (h : JC lo hi name j w c) :
    JC lo hi name j w (pageOn lim c).1 ∧ ∀ p, (pageOn lim c).2.2 = [(name, p)] → Settled j p := by
  have h1 := rg_readLoop lo hi hs hne lim c [] h
  obtain ⟨s', v', l', m', e, ⟨hwf, hb, hsy, hv⟩, hset⟩ := rg_curGet lo hi hs hne h1
  obtain ⟨r1, _, r3, r4, r5, _⟩ := rw_release_facts j s'
  have hc : commit (readLoop lim c []).1 = (curR lo hi name j (rRelease s') w v' l' m', [(name, s'.pos)]) := by
    simp only [commit, curState, e, rp_collectPos, rp_curRelease]
  constructor
  · show JC lo hi name j w (commit (readLoop lim c []).1).1
    rw [hc]
    exact ⟨rRelease s', v', l', m', rfl, r1 hwf, by rw [r3, hb], r4 hsy, by intro hh; rw [r5]; exact hv hh⟩
  · intro p hp
    have : (commit (readLoop lim c []).1).2 = [(name, p)] := hp
    rw [hc] at this
    simp only [List.cons.injEq, Prod.mk.injEq, and_true, true_and] at this
    rw [← this]; exact hset

theorem rg_fresh_JC (name : Nat) (j : Journal) (w : Bool) (p : Pos) :
    JC lo hi name j w (applyStatePos (mkR lo hi name j w) [(name, p)]) := by
  obtain ⟨h1, h2, _⟩ := rw_setPos_fresh_wf j p
  exact ⟨rSetPos j {} p, false, none, #[{}], by rw [mkR, rp_mkCur, rp_applyStatePos], h1, (rw_setPos_fresh j p).2.2.1, h2,
    by intro h; cases h⟩

theorem rg_head_JC (name : Nat) (j : Journal) (w : Bool) :
    JC lo hi name j w (applyCorner (mkR lo hi name j w) false) :=
  rp_corner_eq lo hi name j w false ▸ rg_fresh_JC lo hi name j w {}

/-- appends only, every journal value sorted with windows sound for the range; a held cursor (`same`) continues only over
an unchanged journal -/
def GrowsChainR : Journal → List PStep → Prop
  | _, [] => True
  | j, st :: rest => Grows j st.jrnl ∧ Sorted st.jrnl ∧ WinSound st.jrnl lo hi ∧ (st.choice = .same → st.jrnl = j) ∧
      GrowsChainR st.jrnl rest

theorem rg_chain_pos : ∀ (steps : List PStep) (j : Journal) (q : Pos), GrowsChainR lo hi j steps → Settled j q →
    flatIdx (lastJ j steps) q = flatIdx j q ∧ ∃ e, flat (lastJ j steps) = flat j ++ e := by
  intro steps
  induction steps with
  | nil => intro j q _ _; exact ⟨rfl, [], by simp [lastJ]⟩
  | cons st rest ih =>
    intro j q h hq
    obtain ⟨g, hs', _, _, hrest⟩ := h
    obtain ⟨⟨e1, he1⟩, hset, _⟩ := grows j st.jrnl g hs'
    obtain ⟨i1, e2, he2⟩ := ih st.jrnl q hrest (hset q hq).2
    exact ⟨by rw [lastJ, i1, (hset q hq).1], e1 ++ e2, by rw [lastJ, he2, ← he1, List.append_assoc]⟩

theorem rg_FS_grow {j J : Journal} {e : List Rec} (w : Bool) {q : Pos} (hi' : flatIdx J q = flatIdx j q)
    (he : flat J = flat j ++ e) : FS lo hi J w q = FS lo hi j w q ++ e.filter (passR lo hi w) := by
  unfold FS
  rw [hi', he, List.drop_append_of_le_length (pg_flatIdx_le j q), List.filter_append]

theorem rg_chain_grow {name w} : ∀ (steps : List PStep) (j : Journal) (c : Cur) (i : Nat) (p : Pos),
    PCR lo hi name j w c i p → JC lo hi name j w c → Settled j p → j ≠ [] → Sorted j → WinSound j lo hi →
    GrowsChainR lo hi j steps →
    ∃ R, FS lo hi (lastJ j steps) w p = (chainR lo hi name w c [(name, p)] steps).flatten ++ R ∧
      (∀ st evs, steps.getLast? = some st → (chainR lo hi name w c [(name, p)] steps).getLast? = some evs →
        evs.length < st.limit → R = []) := by
  intro steps
  induction steps with
  | nil =>
    intro j c i p _ _ _ _ _ _ _
    exact ⟨FS lo hi j w p, by simp [chainR, lastJ], by intro st evs h; simp at h⟩
  | cons st rest ih =>
    intro j c i p hpc hjc hsp hne hs hw hch
    obtain ⟨g, hs1, hw1, hsame, hrest⟩ := hch
    obtain ⟨_, hset, _⟩ := grows j st.jrnl g hs1
    have hne1 := pg_grows_ne g hne
    -- the cursor that serves the page: at an index whose remaining output is FS j1 p, with the invariant
    have hres : ∃ i1, AbsR lo hi name st.jrnl w true (resumeR lo hi name w c [(name, p)] st) i1 ∧
        FLR lo hi st.jrnl w i1 = FS lo hi st.jrnl w p ∧ JC lo hi name st.jrnl w (resumeR lo hi name w c [(name, p)] st) := by
      cases hc : st.choice with
      | same =>
        have hj := hsame hc
        refine ⟨i, ?_, ?_, ?_⟩
        · rw [hj]; exact rp_resume_fixed lo hi hpc st hj
        · rw [hj, ← rp_pc_idx lo hi hpc]; exact rg_FLR_FS lo hi hs hw w p
        · obtain ⟨s, v, l, m, e, hjs⟩ := hjc
          refine ⟨s, v, l, m, ?_, by rw [hj]; exact hjs⟩
          unfold resumeR; rw [hc]; simp only [hj, e, rp_setJournals]
      | fresh =>
        refine ⟨wflatIdx st.jrnl p, ?_, rg_FLR_FS lo hi hs1 hw1 w p, ?_⟩
        · unfold resumeR; rw [hc]; exact rp_fresh_abs lo hi name st.jrnl w true p
        · unfold resumeR; rw [hc]; exact rg_fresh_JC lo hi name st.jrnl w p
    obtain ⟨i1, habs, hfl, hjc1⟩ := hres
    obtain ⟨e1, i', p', pc', f', pm', hidx'⟩ := rp_pageOn_abs lo hi rGetFwd rNextFwd hs1 st.limit habs
    obtain ⟨hjc', hsetp⟩ := rg_pageOn lo hi hs1 hne1 st.limit hjc1
    have hsp' : Settled st.jrnl p' := hsetp p' pm'
    obtain ⟨R, hR, hcomp⟩ := ih st.jrnl _ i' p' pc' hjc' hsp' hne1 hs1 hw1 hrest
    have hFS' : FS lo hi st.jrnl w p' = FLR lo hi st.jrnl w i' := by rw [← hidx']; exact (rg_FLR_FS lo hi hs1 hw1 w p').symm
    have hsplit : FS lo hi st.jrnl w p = (FLR lo hi st.jrnl w i1).take st.limit ++ FS lo hi st.jrnl w p' := by
      rw [hFS', f', List.take_append_drop, hfl]
    obtain ⟨q1, e, he⟩ := rg_chain_pos lo hi rest st.jrnl p hrest (hset p hsp).2
    obtain ⟨q2, e', he'⟩ := rg_chain_pos lo hi rest st.jrnl p' hrest hsp'
    have hee : e' = e := by rw [he] at he'; exact (List.append_cancel_left he').symm
    subst hee
    refine ⟨R, ?_, ?_⟩
    · rw [chainR, List.flatten_cons, pm', e1, lastJ, List.append_assoc, ← hR,
        rg_FS_grow lo hi w q1 he, rg_FS_grow lo hi w q2 he, ← List.append_assoc, ← hsplit]
    · intro st' evs hl hg hlen
      rw [chainR, pm'] at hg
      cases hrest' : rest with
      | nil =>
        subst hrest'
        simp only [List.getLast?_singleton, Option.some.injEq] at hl
        subst hl
        simp only [chainR, List.getLast?_singleton, Option.some.injEq] at hg
        rw [e1] at hg
        have hshort : (FLR lo hi st.jrnl w i1).length < st.limit := by
          rw [← hg] at hlen
          rw [List.length_take] at hlen
          omega
        have hnil : FS lo hi st.jrnl w p' = [] := by
          rw [hFS', f']; exact List.drop_eq_nil_of_le (by omega)
        have : R = FS lo hi st.jrnl w p' := by simpa [chainR, lastJ] using hR.symm
        rw [this, hnil]
      | cons r0 rs =>
        subst hrest'
        rw [List.getLast?_cons_cons] at hl
        have hg' : (chainR lo hi name w (pageOn st.limit (resumeR lo hi name w c [(name, p)] st)).1 [(name, p')] (r0 :: rs)).getLast? = some evs := by
          rw [chainR] at hg ⊢
          rw [List.getLast?_cons_cons] at hg
          exact hg
        exact hcomp st' evs hl hg' hlen

/-- **appends between pages under RANGE**, a whole paged read that starts at `head` -/
theorem rg_pages_grow {name w} (j0 : Journal) (l0 : Nat) (steps : List PStep) (hne : j0 ≠ []) (hs : Sorted j0)
    (hw : WinSound j0 lo hi) (hch : GrowsChainR lo hi j0 steps) :
    ∃ R, (flat (lastJ j0 steps)).filter (passR lo hi w) = (pagesR lo hi name w j0 l0 steps).flatten ++ R ∧
      (∀ st evs, steps.getLast? = some st → (pagesR lo hi name w j0 l0 steps).getLast? = some evs →
        evs.length < st.limit → R = []) := by
  have habs := rp_head_abs lo hi name j0 w
  obtain ⟨e1, i', p', pc', f', pm', hidx'⟩ := rp_pageOn_abs lo hi rGetFwd rNextFwd hs l0 habs
  obtain ⟨hjc', hsetp⟩ := rg_pageOn lo hi hs hne l0 (rg_head_JC lo hi name j0 w)
  have hsp' : Settled j0 p' := hsetp p' pm'
  obtain ⟨R, hR, hcomp⟩ := rg_chain_grow lo hi steps j0 _ i' p' pc' hjc' hsp' hne hs hw hch
  obtain ⟨q2, e, he⟩ := rg_chain_pos lo hi steps j0 p' hch hsp'
  have h0 : FLR lo hi j0 w 0 = (flat j0).filter (passR lo hi w) := rwn_filter_wflat (hw.toPassR w)
  have hFS' : FS lo hi j0 w p' = FLR lo hi j0 w i' := by rw [← hidx']; exact (rg_FLR_FS lo hi hs hw w p').symm
  have hsplit : (flat j0).filter (passR lo hi w) = (FLR lo hi j0 w 0).take l0 ++ FS lo hi j0 w p' := by
    rw [hFS', f', List.take_append_drop, h0]
  refine ⟨R, ?_, ?_⟩
  · rw [pagesR, List.flatten_cons, pm', e1, List.append_assoc, ← hR, rg_FS_grow lo hi w q2 he, ← List.append_assoc,
      ← hsplit, he, List.filter_append]
  · intro st evs hl hg hlen
    rw [pagesR, pm'] at hg
    cases hsteps : steps with
    | nil => subst hsteps; simp at hl
    | cons s0 ss =>
      subst hsteps
      have hg' : (chainR lo hi name w (pageOn l0 (applyCorner (mkR lo hi name j0 w) false)).1 [(name, p')] (s0 :: ss)).getLast? = some evs := by
        rw [chainR] at hg ⊢
        rw [List.getLast?_cons_cons] at hg
        exact hg
      exact hcomp st evs hl hg' hlen

end
end Logrange.Rd

import Logrange.Proofs.MixerErr
import Logrange.Proofs.Mixer
/-!
# One model: the error model (`Model/MixerErr.lean`) and the proved model (`Model/Mixer.lean`) at tree level, and what the
callers of the merged cursor can observe when a source fails

* `LawfulSourceE` — the law that ties a source's real read `getE` to its read in the proved model `get`: when `getE` does not
  fail, it *is* `get`.
* `It.getE_ok` — tree level, any nesting: a `Get` of the tree that does not answer an error is the base model's `Get` (answer and
  new state). `It.getE_errfree`, `It.nextE_errfree`: over sources that never fail the two models are the same functions.
* `It.getE_err_blocked` — a `Get` that answers an error leaves the tree `Blocked` on a failing source (when failures are
  persistent: `P`), `It.blocked_*` — and then every operation (`Get`, `Next`, `Release`, `SetBackward`) keeps it blocked.
* `It.nextE_dich` — `Next` (which drops the error of its `selectState`) is the base model's `Next` or leaves the tree blocked.
* `It.runE_dich` — any caller (a program that chooses its next operation from everything it has seen so far: answers,
  `CurrentPos`, …) drives the error model exactly like the base model until the first error, and from then on the tree is blocked.
* `It.pageE_dich`, `It.page_eq_take` — the read loop of `Querier.Query`.
-/
namespace Logrange.Mixer

/-- the real read of a source, when it does not fail, is its read in the proved model -/
class LawfulSourceE (σ : Type) [SourceE σ] : Prop where
  getE_ok : ∀ s : σ, (SourceE.getE s).2 ≠ .err →
    SourceE.getE s = ((Source.get s).1, Res.ofOption (Source.get s).2)

instance instLawfulLeafE : LawfulSourceE LeafE where
  getE_ok s h := by
    have h' : (LeafE.getE s).2 ≠ .err := h
    show LeafE.getE s = _
    unfold LeafE.getE at h' ⊢
    by_cases hc : s.l.clamp < (s.l.les.length : Int) ∧ s.l.clamp ≥ 0 ∧ s.bad.contains s.l.clamp.toNat = true
    · rw [if_pos hc] at h'; exact absurd rfl h'
    · rw [if_neg hc]; rfl

/-! ## `selectStateE` against `selectState` -/

/-- when no error is returned, `selectStateE` is `selectState` on any answers that agree with the real ones where the code asks -/
theorem selectStateE_eq {α : Type} (m : MixSt) (a b : α) (ga gb : α × Res) (ga' gb' : α × Option Ev)
    (h1 : m.eof1 = false → ga.2 ≠ .err → ga = (ga'.1, Res.ofOption ga'.2))
    (h2 : m.eof2 = false → gb.2 ≠ .err → gb = (gb'.1, Res.ofOption gb'.2))
    (hne : (m.selectStateE a b ga gb).2.2.2 = false) :
    m.selectStateE a b ga gb =
      ((m.selectState a b ga' gb').1, (m.selectState a b ga' gb').2.1, (m.selectState a b ga' gb').2.2, false) := by
  by_cases h0 : m.st = 0
  case neg => rw [MixSt.selectStateE_of_ne _ _ _ _ _ h0, MixSt.selectState_of_ne _ _ _ _ _ h0]
  rw [MixSt.selectStateE_of_zero _ _ _ _ _ h0] at hne ⊢
  by_cases c1 : m.eof1 = false ∧ ga.2 = .err
  · rw [if_pos c1] at hne; cases hne
  · by_cases c2 : m.eof2 = false ∧ gb.2 = .err
    · rw [if_neg c1, if_pos c2] at hne; cases hne
    · rw [if_neg c1, if_neg c2]
      have k := MixSt.selectState_congr m a b (ga := (ga.1, ga.2.toOption)) (gb := (gb.1, gb.2.toOption))
        (ga' := ga') (gb' := gb')
        (fun e => by rw [h1 e fun r => c1 ⟨e, r⟩, Res.toOption_ofOption])
        (fun e => by rw [h2 e fun r => c2 ⟨e, r⟩, Res.toOption_ofOption])
      rw [k]

theorem selectStateE_err_st {α : Type} (m : MixSt) (a b : α) (ga gb : α × Res)
    (hf : (m.selectStateE a b ga gb).2.2.2 = true) : (m.selectStateE a b ga gb).1.st = 0 := by
  obtain ⟨h0, c | c⟩ := selectStateE_flag m a b ga gb hf
  · exact (selectStateE_err1 m a b ga gb h0 c.1 c.2).2.1
  · exact (selectStateE_err2 m a b ga gb h0 c.1 c.2.1 c.2.2).2.1

/-- the state after `selectStateE` keeps "a selected source is not flagged as ended" -/
theorem selectStateE_sane {α : Type} (m : MixSt) (a b : α) (ga gb : α × Res)
    (hs : (m.st = 1 → m.eof1 = false) ∧ (m.st = 2 → m.eof2 = false)) :
    ((m.selectStateE a b ga gb).1.st = 1 → (m.selectStateE a b ga gb).1.eof1 = false) ∧
    ((m.selectStateE a b ga gb).1.st = 2 → (m.selectStateE a b ga gb).1.eof2 = false) := by
  by_cases h0 : m.st = 0
  case neg => rw [MixSt.selectStateE_of_ne _ _ _ _ _ h0]; exact hs
  -- an error leaves `st = 0`; without one the state is the one `choose` left
  cases hf : (m.selectStateE a b ga gb).2.2.2
  · rw [selectStateE_eq m a b ga gb (ga.1, ga.2.toOption) (gb.1, gb.2.toOption)
      (fun _ r => by rw [Res.ofOption_toOption r]) (fun _ r => by rw [Res.ofOption_toOption r]) hf,
      MixSt.selectState_of_zero _ _ _ _ _ h0]
    exact MixSt.choose_sane _
  · rw [selectStateE_err_st m a b ga gb hf]
    exact ⟨fun c => absurd c (by decide), fun c => absurd c (by decide)⟩

theorem MixSt.selectStateE_fst {α : Type} {P : α → Prop} (m : MixSt) (a b : α) (ga gb : α × Res)
    (h : P a) (hg : P ga.1) : P (m.selectStateE a b ga gb).2.1 := by
  rcases (It.selectStateE_cases m a b ga gb).1 with r | r <;> rw [r] <;> assumption

theorem MixSt.selectStateE_snd {α : Type} {P : α → Prop} (m : MixSt) (a b : α) (ga gb : α × Res)
    (h : P b) (hg : P gb.1) : P (m.selectStateE a b ga gb).2.2.1 := by
  rcases (It.selectStateE_cases m a b ga gb).2 with r | r <;> rw [r] <;> assumption

namespace It
variable {σ : Type} [SourceE σ]

theorem selectStateE_size (m : MixSt) (a b : It σ) :
    (m.selectStateE a b a.getE b.getE).2.1.size = a.size ∧ (m.selectStateE a b a.getE b.getE).2.2.1.size = b.size :=
  ⟨m.selectStateE_fst (P := fun x => x.size = a.size) a b _ _ rfl (getE_size a),
   m.selectStateE_snd (P := fun x => x.size = b.size) a b _ _ rfl (getE_size b)⟩

/-! ## `Get` -/

theorem getE_mix_err (m : MixSt) (a b : It σ) :
    (It.mix m a b).getE.2 = .err ↔ (m.selectStateE a b a.getE b.getE).2.2.2 = true := by
  rw [getE]
  cases (m.selectStateE a b a.getE b.getE).2.2.2
  · exact ⟨fun h => absurd h (Res.ofOption_ne_err _), fun h => absurd h Bool.false_ne_true⟩
  · exact ⟨fun _ => rfl, fun _ => rfl⟩

/-- **a `Get` of the tree that does not answer an error is the proved model's `Get`** (answer and new state, any nesting) -/
theorem getE_ok [LawfulSourceE σ] (t : It σ) (h : t.getE.2 ≠ .err) :
    t.getE = (t.get.1, Res.ofOption t.get.2) := by
  induction t with
  | leaf s =>
    have := LawfulSourceE.getE_ok s (by simpa [getE] using h)
    simp only [getE, get]
    rw [this]
  | mix m a b iha ihb =>
    have hne := Bool.eq_false_iff.mpr (mt (getE_mix_err m a b).mpr h)
    rw [getE, selectStateE_eq m a b a.getE b.getE a.get b.get (fun _ hn => iha hn) (fun _ hn => ihb hn) hne]
    rfl

/-- `P`-blocked trees answer the error (from `Proofs/MixerErr.lean`), restated -/
theorem blocked_getE (P : σ → Prop) (hP : ∀ s, P s → (SourceE.getE s).2 = .err ∧ P (SourceE.getE s).1)
    (t : It σ) (h : t.Blocked P) : t.getE.2 = .err ∧ t.getE.1.Blocked P := getE_blocked P hP t h

/-- **a `Get` that answers an error leaves the tree blocked**: when every failure leaves the failing source in `P` -/
theorem getE_err_blocked (P : σ → Prop) (hE : ∀ s : σ, (SourceE.getE s).2 = .err → P (SourceE.getE s).1)
    (t : It σ) (h : t.getE.2 = .err) : t.getE.1.Blocked P := by
  induction t with
  | leaf s => exact hE s (by simpa [getE] using h)
  | mix m a b iha ihb =>
    obtain ⟨h0, hc⟩ := selectStateE_flag m a b a.getE b.getE ((getE_mix_err m a b).mp h)
    simp only [getE]
    rcases hc with ⟨e1, g1⟩ | ⟨h1, e2, g2⟩
    · obtain ⟨_, s0, f1, _, _, ea, _⟩ := selectStateE_err1 m a b a.getE b.getE h0 e1 g1
      simp only [Blocked]
      refine ⟨s0, Or.inl ⟨f1, ?_⟩⟩
      rw [ea]; exact iha g1
    · obtain ⟨_, s0, f2, _, eb, _⟩ := selectStateE_err2 m a b a.getE b.getE h0 h1 e2 g2
      simp only [Blocked]
      refine ⟨s0, Or.inr ⟨f2, ?_⟩⟩
      rw [eb]; exact ihb g2

/-! ## the sanity invariant: a selected source is not flagged as ended -/

def Sane : It σ → Prop
  | .leaf _ => True
  | .mix m a b => a.Sane ∧ b.Sane ∧ (m.st = 1 → m.eof1 = false) ∧ (m.st = 2 → m.eof2 = false)

theorem init_sane (a b : It σ) (ha : a.Sane) (hb : b.Sane) : (init a b).Sane := by
  simp [init, Sane, ha, hb]

theorem getE_sane (t : It σ) (h : t.Sane) : t.getE.1.Sane := by
  induction t with
  | leaf s => trivial
  | mix m a b iha ihb =>
    obtain ⟨sa, sb, s1, s2⟩ := h
    have hs := selectStateE_sane m a b a.getE b.getE ⟨s1, s2⟩
    exact ⟨m.selectStateE_fst a b _ _ sa (iha sa), m.selectStateE_snd a b _ _ sb (ihb sb), hs.1, hs.2⟩

theorem release_sane (t : It σ) (h : t.Sane) : t.release.Sane := by
  induction t with
  | leaf s => trivial
  | mix m a b iha ihb =>
    obtain ⟨sa, sb, _, _⟩ := h
    simp [release, Sane, iha sa, ihb sb]

theorem setBackward_sane (bk : Bool) (t : It σ) (h : t.Sane) : (t.setBackward bk).Sane := by
  induction t with
  | leaf s => trivial
  | mix m a b iha ihb =>
    obtain ⟨sa, sb, s1, s2⟩ := h
    simp only [setBackward]
    split
    · exact ⟨sa, sb, s1, s2⟩
    · simp only [release]
      exact ⟨release_sane _ (iha sa), release_sane _ (ihb sb), by simp, by simp⟩

/-! ## `Next` -/

/-- unfolding of `nextE` at a mixer -/
theorem nextE_mix (m : MixSt) (a b : It σ) :
    (It.mix m a b).nextE =
      (let r := m.selectStateE a b a.getE b.getE
       if r.1.st = 1 then .mix { r.1 with st := 0 } r.2.1.nextE r.2.2.1
       else if r.1.st = 2 then .mix { r.1 with st := 0 } r.2.1 r.2.2.1.nextE
       else .mix { r.1 with st := 0 } r.2.1 r.2.2.1) := by
  rw [nextE]
  split
  rename_i m' a' b' fl heq
  simp only [heq]
  split <;> simp_all

/-- a `Next` whose `selectState` fails changes what the failed `Get` changed and nothing else -/
theorem nextE_of_err (m : MixSt) (a b : It σ) (h : (It.mix m a b).getE.2 = .err) :
    (It.mix m a b).nextE = (It.mix m a b).getE.1 := by
  have hst := selectStateE_err_st m a b a.getE b.getE ((getE_mix_err m a b).mp h)
  rw [nextE_mix]
  simp only [getE, hst]
  have : ({ (m.selectStateE a b a.getE b.getE).1 with st := 0 } : MixSt) = (m.selectStateE a b a.getE b.getE).1 := by
    rw [← hst]
  simp [this]

theorem nextE_sane (t : It σ) (h : t.Sane) : t.nextE.Sane := by
  induction t using size_induction with
  | leaf s => rw [nextE]; trivial
  | mix m a b iha ihb =>
    obtain ⟨sa, sb, _, _⟩ := h
    have sz := selectStateE_size m a b
    have sa' : (m.selectStateE a b a.getE b.getE).2.1.Sane := m.selectStateE_fst a b _ _ sa (getE_sane a sa)
    have sb' : (m.selectStateE a b a.getE b.getE).2.2.1.Sane := m.selectStateE_snd a b _ _ sb (getE_sane b sb)
    rw [nextE_mix]
    simp only
    split
    · exact ⟨iha _ sz.1 sa', sb', nofun, nofun⟩
    · split
      · exact ⟨sa', ihb _ sz.2 sb', nofun, nofun⟩
      · exact ⟨sa', sb', nofun, nofun⟩

/-- **`Next` in the error model is the proved model's `Next`, or it has swallowed an error and the tree is blocked** -/
theorem nextE_dich [LawfulSourceE σ] (P : σ → Prop)
    (hE : ∀ s : σ, (SourceE.getE s).2 = .err → P (SourceE.getE s).1) (t : It σ) (h : t.Sane) :
    t.nextE = t.next ∨ t.nextE.Blocked P := by
  induction t using size_induction with
  | leaf s => left; simp [nextE, next]
  | mix m a b iha ihb =>
    by_cases herr : (It.mix m a b).getE.2 = .err
    · right
      rw [nextE_of_err m a b herr]
      exact getE_err_blocked P hE _ herr
    · have hne := Bool.eq_false_iff.mpr (mt (getE_mix_err m a b).mpr herr)
      have e := selectStateE_eq m a b a.getE b.getE a.get b.get
        (fun _ hn => getE_ok a hn) (fun _ hn => getE_ok b hn) hne
      obtain ⟨sa, sb, s1, s2⟩ := h
      have sz := selectStateE_size m a b
      have hs := selectStateE_sane m a b a.getE b.getE ⟨s1, s2⟩
      have sa' : (m.selectStateE a b a.getE b.getE).2.1.Sane := m.selectStateE_fst a b _ _ sa (getE_sane a sa)
      have sb' : (m.selectStateE a b a.getE b.getE).2.2.1.Sane := m.selectStateE_snd a b _ _ sb (getE_sane b sb)
      rw [nextE_mix, next_mix]
      rw [e] at hs sa' sb' sz ⊢
      simp only at hs sa' sb' sz ⊢
      generalize m.selectState a b a.get b.get = r at *
      obtain ⟨m', a', b'⟩ := r
      simp only at hs sa' sb' sz ⊢
      by_cases c1 : m'.st = 1
      · simp only [c1, if_true]
        rcases iha a' sz.1 sa' with q | q
        · left; rw [q]
        · right; exact ⟨rfl, Or.inl ⟨hs.1 c1, q⟩⟩
      · by_cases c2 : m'.st = 2
        · simp only [c2, if_true]
          have : ¬ (2 = 1) := by decide
          simp only [this, if_false]
          rcases ihb b' sz.2 sb' with q | q
          · left; rw [q]
          · right; exact ⟨rfl, Or.inr ⟨hs.2 c2, q⟩⟩
        · left; simp [c1, c2]

/-! ## a blocked tree stays blocked -/

/-- what "the record cannot be read" means for a source: `Get` fails and stays there, and `Release` or a direction switch do not
move the source off the record. (`Next` is not in the list: a mixer never calls `Next` on a source whose `Get` failed —
`nextE_of_err` — so nothing is assumed about it. The journal iterators do not step over a record they cannot read —
`cIterator.Next` advances only `if err == nil` —, the in-memory test iterator would.) -/
structure Persistent (P : σ → Prop) : Prop where
  getE : ∀ s, P s → (SourceE.getE s).2 = .err ∧ P (SourceE.getE s).1
  release : ∀ s, P s → P (Source.release s)
  setBackward : ∀ bk s, P s → P (Source.setBackward bk s)

/-- the cursor is a merge (at least two partitions): its root is a mixer -/
def isMix : It σ → Prop
  | .leaf _ => False
  | .mix _ _ _ => True

theorem getE_isMix (t : It σ) (h : t.isMix) : t.getE.1.isMix := by
  cases t with
  | leaf s => exact h
  | mix m a b => simp [getE, isMix]

theorem nextE_isMix (t : It σ) (h : t.isMix) : t.nextE.isMix := by
  cases t with
  | leaf s => exact absurd h (by simp [isMix])
  | mix m a b =>
    rw [nextE_mix]
    simp only
    split
    · trivial
    · split <;> trivial

theorem release_isMix (t : It σ) (h : t.isMix) : t.release.isMix := by
  cases t with
  | leaf s => exact absurd h (by simp [isMix])
  | mix m a b => simp [release, isMix]

theorem setBackward_isMix (bk : Bool) (t : It σ) (h : t.isMix) : (t.setBackward bk).isMix := by
  cases t with
  | leaf s => exact absurd h (by simp [isMix])
  | mix m a b =>
    simp only [setBackward]
    split
    · trivial
    · simp [release, isMix]

theorem blocked_nextE (P : σ → Prop) (hP : Persistent P) (t : It σ) (hm : t.isMix) (h : t.Blocked P) :
    t.nextE.Blocked P := by
  cases t with
  | leaf s => exact absurd hm (by simp [isMix])
  | mix m a b =>
    obtain ⟨g1, g2⟩ := getE_blocked P hP.getE _ h
    rw [nextE_of_err m a b g1]; exact g2

theorem blocked_release (P : σ → Prop) (hP : Persistent P) (t : It σ) (h : t.Blocked P) : t.release.Blocked P := by
  induction t with
  | leaf s => exact hP.release s h
  | mix m a b iha ihb =>
    obtain ⟨h0, hb⟩ := h
    simp only [release, Blocked, h0]
    refine ⟨by simp, ?_⟩
    rcases hb with ⟨_, ba⟩ | ⟨_, bb⟩
    · exact Or.inl ⟨by simp, iha ba⟩
    · exact Or.inr ⟨by simp, ihb bb⟩

theorem blocked_setBackward (P : σ → Prop) (hP : Persistent P) (bk : Bool) (t : It σ) (h : t.Blocked P) :
    (t.setBackward bk).Blocked P := by
  induction t with
  | leaf s => exact hP.setBackward bk s h
  | mix m a b iha ihb =>
    simp only [setBackward]
    split
    · exact h
    · obtain ⟨h0, hb⟩ := h
      simp only [release, Blocked]
      refine ⟨by simp, ?_⟩
      rcases hb with ⟨_, ba⟩ | ⟨_, bb⟩
      · exact Or.inl ⟨by simp, blocked_release P hP _ (iha ba)⟩
      · exact Or.inr ⟨by simp, blocked_release P hP _ (ihb bb)⟩

/-! ## any caller -/

/-- the operations a caller has on the merged cursor -/
inductive Op where
  | get | next | release | setBackward (bk : Bool)
deriving DecidableEq, Repr

/-- one operation on the error model (`some r`: what `Get` answered) -/
def stepE (t : It σ) : Op → It σ × Option Res
  | .get => (t.getE.1, some t.getE.2)
  | .next => (t.nextE, none)
  | .release => (t.release, none)
  | .setBackward bk => (t.setBackward bk, none)

/-- the same on the proved model -/
def step (t : It σ) : Op → It σ × Option Res
  | .get => (t.get.1, some (Res.ofOption t.get.2))
  | .next => (t.next, none)
  | .release => (t.release, none)
  | .setBackward bk => (t.setBackward bk, none)

/-- a caller: decides its next operation (or stops) from what it has seen — the answers and any observation `obs` of the cursor
(`CurrentPos`, the positions of the journal iterators, …) after every step. `Offset`, `iterateToPos`, `State`, `commit`,
`WaitNewData`'s `Release`, the read loops of the two `Query` functions are such callers. -/
abbrev Caller (ω : Type) := List (Option Res × ω) → Option Op

def runE {ω : Type} (obs : It σ → ω) (c : Caller ω) : Nat → It σ → List (Option Res × ω) → It σ × List (Option Res × ω)
  | 0, t, h => (t, h)
  | n+1, t, h =>
    match c h with
    | none => (t, h)
    | some op => runE obs c n (t.stepE op).1 (h ++ [((t.stepE op).2, obs (t.stepE op).1)])

def run {ω : Type} (obs : It σ → ω) (c : Caller ω) : Nat → It σ → List (Option Res × ω) → It σ × List (Option Res × ω)
  | 0, t, h => (t, h)
  | n+1, t, h =>
    match c h with
    | none => (t, h)
    | some op => run obs c n (t.step op).1 (h ++ [((t.step op).2, obs (t.step op).1)])

theorem stepE_sane (t : It σ) (h : t.Sane) (op : Op) : (t.stepE op).1.Sane := by
  cases op
  · exact getE_sane t h
  · exact nextE_sane t h
  · exact release_sane t h
  · exact setBackward_sane _ t h

theorem stepE_isMix (t : It σ) (h : t.isMix) (op : Op) : (t.stepE op).1.isMix := by
  cases op
  · exact getE_isMix t h
  · exact nextE_isMix t h
  · exact release_isMix t h
  · exact setBackward_isMix _ t h

theorem blocked_stepE (P : σ → Prop) (hP : Persistent P) (t : It σ) (hm : t.isMix) (h : t.Blocked P) (op : Op) :
    (t.stepE op).1.Blocked P := by
  cases op
  · exact (getE_blocked P hP.getE t h).2
  · exact blocked_nextE P hP t hm h
  · exact blocked_release P hP t h
  · exact blocked_setBackward P hP _ t h

theorem blocked_runE {ω : Type} (P : σ → Prop) (hP : Persistent P) (obs : It σ → ω) (c : Caller ω) (n : Nat) :
    ∀ (t : It σ) (h : List (Option Res × ω)), t.isMix → t.Blocked P → (runE obs c n t h).1.Blocked P := by
  induction n with
  | zero => intro t h _ hb; exact hb
  | succ n ih =>
    intro t h hm hb
    simp only [runE]
    split
    · exact hb
    · exact ih _ _ (stepE_isMix t hm _) (blocked_stepE P hP t hm hb _)

/-- one step: the same as in the proved model, or the tree is blocked afterwards -/
theorem stepE_dich [LawfulSourceE σ] (P : σ → Prop)
    (hE : ∀ s : σ, (SourceE.getE s).2 = .err → P (SourceE.getE s).1) (t : It σ) (h : t.Sane) (op : Op) :
    t.stepE op = t.step op ∨ (t.stepE op).1.Blocked P := by
  cases op
  · by_cases he : t.getE.2 = .err
    · right; exact getE_err_blocked P hE t he
    · left
      have := getE_ok t he
      simp only [stepE, step]
      rw [this]
  · rcases nextE_dich P hE t h with q | q
    · left; simp only [stepE, step]; rw [q]
    · right; exact q
  · left; rfl
  · left; rfl

/-- **any caller drives the error model exactly like the proved model, or ends on a blocked tree.** Errors are persistent (`P`),
the real read agrees with the model's read when it does not fail; then a run of any caller program of any length from any sane
tree either is step by step the run over the proved model — same operations chosen, same answers (none of them an error), same
observations, same final tree — or its final tree is blocked: every later `Get` answers the error. -/
theorem runE_dich [LawfulSourceE σ] {ω : Type} (P : σ → Prop) (hP : Persistent P)
    (hE : ∀ s : σ, (SourceE.getE s).2 = .err → P (SourceE.getE s).1)
    (obs : It σ → ω) (c : Caller ω) (n : Nat) :
    ∀ (t : It σ) (h : List (Option Res × ω)), t.Sane → t.isMix →
      runE obs c n t h = run obs c n t h ∨ (runE obs c n t h).1.Blocked P := by
  induction n with
  | zero => intro t h _ _; left; rfl
  | succ n ih =>
    intro t h hs hm
    simp only [runE, run]
    cases hc : c h with
    | none => left; rfl
    | some op =>
      simp only
      rcases stepE_dich P hE t hs op with q | q
      · rw [← q]
        exact ih _ _ (stepE_sane t hs op) (stepE_isMix t hm op)
      · right
        exact blocked_runE P hP obs c n _ _ (stepE_isMix t hm op) q

/-! ## sources that never fail: the two models are one -/

theorem getE_errfree [LawfulSourceE σ] (hN : ∀ s : σ, (SourceE.getE s).2 ≠ .err) (t : It σ) :
    t.getE = (t.get.1, Res.ofOption t.get.2) := by
  apply getE_ok
  intro he
  have := getE_err_blocked (fun _ => False) (fun s h => absurd h (hN s)) t he
  generalize t.getE.1 = u at this
  induction u with
  | leaf s => exact this
  | mix m a b iha ihb =>
    obtain ⟨_, hb⟩ := this
    rcases hb with ⟨_, q⟩ | ⟨_, q⟩
    · exact iha q
    · exact ihb q

/-- **over sources that never fail the error model IS the proved model** (any tree, any nesting, any state) -/
theorem nextE_errfree [LawfulSourceE σ] (hN : ∀ s : σ, (SourceE.getE s).2 ≠ .err) (t : It σ) : t.nextE = t.next := by
  induction t using size_induction with
  | leaf s => simp [nextE, next]
  | mix m a b iha ihb =>
    have ga := getE_errfree hN a
    have gb := getE_errfree hN b
    have hne := Bool.eq_false_iff.mpr (mt (getE_mix_err m a b).mpr fun c =>
      Res.ofOption_ne_err _ (getE_errfree hN (It.mix m a b) ▸ c))
    have e := selectStateE_eq m a b a.getE b.getE a.get b.get (fun _ _ => ga) (fun _ _ => gb) hne
    have sz := selectState_size m a b
    rw [nextE_mix, next_mix, e]
    simp only
    rw [iha _ sz.1, ihb _ sz.2]

/-! ## the read loop of `Query` -/

/-- the read loop on the proved model -/
def page : Nat → It σ → It σ × List Ev
  | 0, t => (t, [])
  | n+1, t =>
    match t.get with
    | (t', some e) => let r := page n t'.next; (r.1, e :: r.2)
    | (t', none) => (t', [])

theorem pageE_of_err (k : Nat) (t : It σ) (h : t.getE.2 = .err) : (pageE (k+1) t).2.2 = true := by
  rw [pageE]
  split
  · rename_i heq; rw [heq] at h; simp at h
  · rename_i heq; rw [heq] at h; simp at h
  · rfl

/-- **the read loop fails, or it delivers exactly the page of the proved model** (and leaves the cursor in the proved model's
state, or blocked) -/
theorem pageE_dich [LawfulSourceE σ] (P : σ → Prop)
    (hP : ∀ s, P s → (SourceE.getE s).2 = .err ∧ P (SourceE.getE s).1)
    (hE : ∀ s : σ, (SourceE.getE s).2 = .err → P (SourceE.getE s).1) (n : Nat) :
    ∀ t : It σ, t.Sane →
      (pageE n t).2.2 = true ∨
      ((pageE n t).2.2 = false ∧ (pageE n t).2.1 = (page n t).2 ∧ ((pageE n t).1 = (page n t).1 ∨ (pageE n t).1.Blocked P)) := by
  induction n with
  | zero => intro t _; right; exact ⟨rfl, rfl, Or.inl rfl⟩
  | succ n ih =>
    intro t hs
    by_cases he : t.getE.2 = .err
    · left
      exact pageE_of_err n t he
    · have g := getE_ok t he
      have hs1 : t.get.1.Sane := by
        have := getE_sane t hs; rw [g] at this; exact this
      cases hg : t.get.2 with
      | none =>
        right
        have e1 : t.getE = (t.get.1, .eof) := by rw [g, hg]; rfl
        have e2 : t.get = (t.get.1, none) := by rw [← hg]
        simp only [pageE, page]
        rw [e1, e2]
        exact ⟨rfl, rfl, Or.inl rfl⟩
      | some e =>
        have e1 : t.getE = (t.get.1, .ok e) := by rw [g, hg]; rfl
        have e2 : t.get = (t.get.1, some e) := by rw [← hg]
        simp only [pageE, page]
        rw [e1, e2]
        simp only
        rcases nextE_dich P hE t.get.1 hs1 with q | q
        · rw [q]
          have hs2 : t.get.1.next.Sane := by rw [← q]; exact nextE_sane _ hs1
          rcases ih _ hs2 with r | ⟨r1, r2, r3⟩
          · left; exact r
          · right; exact ⟨r1, by rw [r2], r3⟩
        · -- the `Next` swallowed an error: the tree is blocked; the next `Get` (if the limit allows one) fails
          cases n with
          | zero =>
            right
            simp only [pageE, page]
            exact ⟨by simp, by simp, Or.inr q⟩
          | succ k =>
            left
            have gb := (getE_blocked P hP _ q).1
            have := pageE_of_err k _ gb
            simp only [this]

/-- over sources that never fail the read loop is the proved model's read loop and never fails -/
theorem pageE_errfree [LawfulSourceE σ] (hN : ∀ s : σ, (SourceE.getE s).2 ≠ .err) (n : Nat) :
    ∀ t : It σ, pageE n t = ((page n t).1, (page n t).2, false) := by
  induction n with
  | zero => intro t; rfl
  | succ n ih =>
    intro t
    have g := getE_errfree hN t
    cases hg : t.get.2 with
    | none =>
      have e1 : t.getE = (t.get.1, .eof) := by rw [g, hg]; rfl
      have e2 : t.get = (t.get.1, none) := Prod.ext rfl hg
      simp only [pageE, page]
      rw [e1, e2]
    | some e =>
      have e1 : t.getE = (t.get.1, .ok e) := by rw [g, hg]; rfl
      have e2 : t.get = (t.get.1, some e) := Prod.ext rfl hg
      simp only [pageE, page]
      rw [e1, e2]
      simp only
      rw [nextE_errfree hN, ih]

/-! ## against the denotation of the proved model -/

theorem WF_sane [LawfulSource σ] (t : It σ) (h : t.WF) : t.Sane := by
  induction t with
  | leaf s => trivial
  | mix m a b iha ihb =>
    obtain ⟨wa, wb, _, _, e1, e2, hst⟩ := h
    refine ⟨iha wa, ihb wb, ?_, ?_⟩
    · intro h1
      rcases hst with h0 | ⟨hs, _, _⟩
      · omega
      · cases he : m.eof1
        · rfl
        · have := e1 he
          rw [this] at hs
          cases hv : b.view <;> simp [hv, sel, h1] at hs
    · intro h2
      rcases hst with h0 | ⟨hs, _, _⟩
      · omega
      · cases he : m.eof2
        · rfl
        · have := e2 he
          rw [this] at hs
          cases hv : a.view <;> simp [hv, sel, h2] at hs

/-- the read loop on the proved model delivers the first `n` events of the tree's stream and leaves the rest -/
theorem page_eq_take [LawfulSource σ] (n : Nat) : ∀ t : It σ, t.WF →
    (page n t).2 = t.view.take n ∧ (page n t).1.WF ∧ (page n t).1.view = t.view.drop n := by
  induction n with
  | zero => intro t h; exact ⟨by simp [page], h, by simp [page]⟩
  | succ n ih =>
    intro t h
    obtain ⟨g2, gv, gw, _, gs⟩ := get_spec t h
    cases hv : t.view with
    | nil =>
      rw [hv] at g2
      have e2 : t.get = (t.get.1, none) := Prod.ext rfl g2
      simp only [page]
      rw [e2]
      exact ⟨by simp, gw, by rw [gv, hv]; simp⟩
    | cons e es =>
      rw [hv] at g2
      have e2 : t.get = (t.get.1, some e) := Prod.ext rfl g2
      obtain ⟨nv, nw, _⟩ := next_spec _ gw gs
      obtain ⟨i1, i2, i3⟩ := ih _ nw
      simp only [page]
      rw [e2]
      simp only
      rw [nv, gv, hv] at i1 i3
      exact ⟨by rw [i1]; simp, i2, by rw [i3]; simp⟩

end It

/-! ## the in-memory leaf whose unreadable records stay unreadable -/

/-- an in-memory leaf all of whose failures are persistent -/
def StickyLeaf := { s : LeafE // s.sticky = true }

namespace StickyLeaf

theorem getE_sticky (s : LeafE) : (LeafE.getE s).1.sticky = s.sticky := by
  unfold LeafE.getE
  by_cases hc : s.l.clamp < (s.l.les.length : Int) ∧ s.l.clamp ≥ 0 ∧ s.bad.contains s.l.clamp.toNat = true
  · rw [if_pos hc]
  · rw [if_neg hc]

instance : SourceE StickyLeaf where
  get s := (⟨{ s.1 with l := s.1.l.get.1 }, s.2⟩, s.1.l.get.2)
  next s := ⟨{ s.1 with l := s.1.l.next }, s.2⟩
  release s := s
  setBackward bk s := ⟨{ s.1 with l := s.1.l.setBackward bk }, s.2⟩
  getE s := (⟨(LeafE.getE s.1).1, (getE_sticky s.1).trans s.2⟩, (LeafE.getE s.1).2)

instance : SourcePos StickyLeaf := ⟨fun s => (s.1.l.tags, s.1.l.idx)⟩

instance : LawfulSourceE StickyLeaf where
  getE_ok s h := by
    have h' : (LeafE.getE s.1).2 ≠ .err := h
    have := LawfulSourceE.getE_ok s.1 h'
    have e1 : (SourceE.getE s.1) = LeafE.getE s.1 := rfl
    rw [e1] at this
    apply Prod.ext
    · apply Subtype.ext
      show (LeafE.getE s.1).1 = _
      rw [this]; rfl
    · show (LeafE.getE s.1).2 = _
      rw [this]; rfl

/-- the leaf stands on a record that cannot be read -/
def OnBad (s : StickyLeaf) : Prop :=
  0 ≤ s.1.l.idx ∧ s.1.l.idx < s.1.l.les.length ∧ s.1.bad.contains s.1.l.idx.toNat = true

/-- every failure of a sticky leaf is of this kind -/
theorem err_onBad (s : StickyLeaf) (h : (SourceE.getE s).2 = .err) : OnBad (SourceE.getE s).1 := by
  have h' : (LeafE.getE s.1).2 = .err := h
  show 0 ≤ (LeafE.getE s.1).1.l.idx ∧ (LeafE.getE s.1).1.l.idx < (LeafE.getE s.1).1.l.les.length ∧
      (LeafE.getE s.1).1.bad.contains (LeafE.getE s.1).1.l.idx.toNat = true
  by_cases hc : s.1.Stuck
  · rw [LeafE.getE_stuck s.1 hc]; exact ⟨hc.2.2.1, hc.2.1, hc.2.2.2⟩
  · unfold LeafE.getE at h'
    rw [if_neg fun c => hc ⟨s.2, c⟩] at h'
    exact absurd h' (Res.ofOption_ne_err _)

theorem getE_onBad (s : StickyLeaf) (h : OnBad s) : (SourceE.getE s).2 = .err ∧ OnBad (SourceE.getE s).1 := by
  have hc : s.1.Stuck := ⟨s.2, (Leaf.clamp_inrange s.1.l h.1 h.2.1).symm ▸ ⟨h.2.1, h.1, h.2.2⟩⟩
  have e : (SourceE.getE s).2 = .err := (LeafE.stuck_getE s.1 hc).1
  exact ⟨e, err_onBad s e⟩

theorem persistent : It.Persistent OnBad where
  getE := getE_onBad
  release := fun _ h => h
  setBackward := fun _ _ h => h

end StickyLeaf

end Logrange.Mixer

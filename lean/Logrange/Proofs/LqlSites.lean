import Logrange.Model.LqlSites
import Logrange.Proofs.Outcome
/-! Lemmas for `Props/C13Sites.lean`. -/
namespace Logrange.LqlSites
open Go Logrange Outcome

theorem deref_noPanic {α : Type} (p : Option α) (h : p ≠ none) : (deref p).isPanic = false := by
  cases p with
  | none => exact absurd rfl h
  | some a => rfl

theorem relDateTime_noPanic (first : UInt8) (dims : List UInt8) (hfd : dims.contains first = false) (dt : Bytes) :
    (relDateTime first dims dt).isPanic = false := by
  unfold relDateTime
  refine ite_of NoPanic (fun _ => rfl) fun hlen => ?_
  rw [index_ok dt 0 (by omega), bind_ok]
  refine ite_of NoPanic (fun _ => rfl) fun hc0 => ?_
  rw [index_ok dt (dt.length - 1) (by omega), bind_ok]
  refine ite_of NoPanic (fun hdim => ?_) fun _ => rfl
  -- the last byte is among dims, the first one is not: they are different bytes, so there are at least two
  have h2 : dt.length ≠ 1 := fun h1 => by
    have hf : dt[0]'(by omega) = first := Decidable.byContradiction hc0
    have hsame : dt[dt.length - 1]'(by omega) = dt[0]'(by omega) := by congr 1; omega
    rw [hsame, hf, hfd] at hdim
    cases hdim
  rw [slice_ok_of (by omega)]; rfl

theorem fldCut_noPanic (lower : Bytes → Bytes) (hl : ∀ s, (lower s).length = s.length) (fldName : Bytes) :
    (fldCut lower fldName).isPanic = false := by
  unfold fldCut
  simp only []
  split
  · rfl
  · rename_i h
    rw [hl] at h
    rw [sliceFrom_ok_of (by omega)]; rfl

theorem walkConds_eq {α : Type} : ∀ (fuel : Nat) (l : List α), l.length < fuel → walkConds fuel l = .ok l.length
  | 0, _, h => nomatch h
  | fuel + 1, l, h => by
    unfold walkConds
    split
    · rename_i h0; rw [h0]
    · rw [index_ok l 0 (by omega), bind_ok]
      split
      · rename_i h1; rw [h1]
      · have : sliceFromL l 1 = .ok (l.drop 1) := if_pos (by omega)
        rw [this, bind_ok, walkConds_eq fuel _ (by rw [List.length_drop]; omega), bind_ok, List.length_drop]
        congr 2; omega

end Logrange.LqlSites

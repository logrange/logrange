import Logrange.Model.EscapeJson
import Logrange.Proofs.Outcome
/-! Lemmas about `EscapeJsonStr` (C13): the loop passes every bounds check and ends within `|s| + 1` iterations. -/
namespace Logrange.EscapeJson
open Go Logrange Outcome

/-- a decoded rune of a non-empty string has a size between 1 and the length of the string -/
theorem decodeRune_size : ∀ s : Bytes, s ≠ [] → 1 ≤ (decodeRune s).2 ∧ (decodeRune s).2 ≤ s.length
  | s0 :: r, _ => by
    let P (n : Nat) (p : Nat × Nat) : Prop := 1 ≤ p.2 ∧ p.2 ≤ n
    have one : ∀ n x : Nat, P (n + 1) (x, 1) := fun _ _ => ⟨Nat.le_refl _, Nat.succ_le_succ (Nat.zero_le _)⟩
    show P (r.length + 1) _
    unfold decodeRune
    refine ite_both _ (one _ _) (ite_both _ (one _ _) (ite_both _ (one _ _) ?_))
    match r with
    | [] => exact one _ _
    | s1 :: r1 =>
      refine ite_both _ (one _ _) (ite_both _ ⟨Nat.le_add_left 1 1, by simp⟩ ?_)
      match r1 with
      | [] => exact one _ _
      | s2 :: r2 =>
        refine ite_both _ (one _ _) (ite_both _ ⟨Nat.le_add_left 1 2, by simp⟩ ?_)
        match r2 with
        | [] => exact one _ _
        | s3 :: r3 => exact ite_both _ (one _ _) ⟨Nat.le_add_left 1 3, by simp⟩

theorem flush_fine (s : Bytes) (start i : Nat) (e : Bytes) (h2 : i ≤ s.length) :
    ∃ e', flush s start i e = .ok e' := by
  unfold flush
  refine ite_of (fun o => ∃ e', o = Outcome.ok e') (fun _ => ?_) fun _ => ⟨_, rfl⟩
  rw [slice_ok_of (by omega)]
  exact ⟨_, rfl⟩

/-- `start` needs no invariant: `s[start:i]` is only taken behind `start < i` and `s[start:]` behind `start < len(s)` -/
theorem loop_returns (s : Bytes) : ∀ (fuel i start : Nat) (e : Bytes), i ≤ s.length → s.length - i < fuel →
    Returns (loop true s fuel i start e)
  | 0, _, _, _, _, h => by omega
  | fuel + 1, i, start, e, h2, h3 => by
    unfold loop
    refine ite_of Returns (fun hi => ?_) fun hi => ?_
    · have next : ∀ (k start' : Nat) (e' : Bytes), 1 ≤ k → i + k ≤ s.length → Returns (loop true s fuel (i + k) start' e') :=
        fun k _ _ hk hl => loop_returns s fuel _ _ _ hl (by omega)
      obtain ⟨e', he'⟩ := flush_fine s start i e h2
      rw [index_ok s i hi, bind_ok]
      refine ite_both Returns (ite_both Returns (next 1 _ _ (Nat.le_refl 1) hi) ?_) ?_
      · rw [he', bind_ok]
        exact next 1 _ _ (Nat.le_refl 1) hi
      · rw [sliceFrom_ok_of h2, bind_ok]
        have hsz := decodeRune_size (s.drop i) (List.ne_nil_of_length_pos (by rw [List.length_drop]; omega))
        rw [List.length_drop] at hsz
        refine ite_both Returns (next _ _ _ hsz.1 (by omega)) (ite_of Returns (fun hc => absurd hc.1 (by decide)) fun _ => ?_)
        rw [he', bind_ok]
        exact next _ _ _ hsz.1 (by omega)
    · refine ite_of (Returns <| Outcome.bind · _) (fun _ => ?_) fun _ => rfl
      rw [sliceFrom_ok_of (by omega)]
      exact rfl

end Logrange.EscapeJson

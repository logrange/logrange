import Logrange.Model.MixTree
/-!
# Proofs about `Logrange.Model.MixTree`

* the in-place pairwise reduction of `newCursor` (`pairLoop`/`round`/`reduce`/`build`) is the obvious pure pairing and
  keeps the leaves in order;
* `getJournals` with its limit: failing run gives back the readers it was given, run under the limit acquires every
  matching partition once.
-/
namespace Logrange.MixTree
open Logrange.Mixer

variable {σ : Type} [Source σ] [Inhabited σ]

-- the statements below are kept under the `variable` line of the model (the instances are auto-included)
set_option linter.unusedSectionVars false

/-- the obvious pure pairing -/
def pairs : List (It σ) → List (It σ)
  | a :: b :: r => It.init a b :: pairs r
  | l => l        -- [] and [a]

/-- the mixers of the complete pairs -/
def pairsHead : List (It σ) → List (It σ)
  | a :: b :: r => It.init a b :: pairsHead r
  | _ => []

/-- the left-over element, if any -/
def tailOdd : List (It σ) → List (It σ)
  | _ :: _ :: r => tailOdd r
  | l => l

theorem pairs_eq_head_tail : ∀ (l : List (It σ)), pairs l = pairsHead l ++ tailOdd l
  | [] => by simp [pairs, pairsHead, tailOdd]
  | [a] => by simp [pairs, pairsHead, tailOdd]
  | a :: b :: r => by simp [pairs, pairsHead, tailOdd, pairs_eq_head_tail r]

theorem length_head_tail : ∀ (l : List (It σ)), l.length = 2 * (pairsHead l).length + (tailOdd l).length
  | [] => by simp [pairsHead, tailOdd]
  | [a] => by simp [pairsHead, tailOdd]
  | a :: b :: r => by simp [pairsHead, tailOdd, length_head_tail r]; omega

theorem tailOdd_length_le : ∀ (l : List (It σ)), (tailOdd l).length ≤ 1
  | [] => by simp [tailOdd]
  | [a] => by simp [tailOdd]
  | a :: b :: r => by simp [tailOdd, tailOdd_length_le r]

/-- the invariant of the inner loop at `i = 2*k`: `pre` (`k` mixers built), `mid` (`k` stale entries), `rest` (unread) -/
theorem pairLoop_inv (fuel : Nat) : ∀ (pre mid rest : List (It σ)), pre.length = mid.length → rest.length ≤ fuel →
    ∃ mid', mid'.length = mid.length + (pairsHead rest).length ∧
      pairLoop fuel (2 * pre.length) (pre ++ mid ++ rest) = pre ++ pairsHead rest ++ mid' ++ tailOdd rest := by
  induction fuel with
  | zero =>
    intro pre mid rest h hr
    obtain rfl : rest = [] := List.eq_nil_of_length_eq_zero (Nat.le_zero.mp hr)
    exact ⟨mid, rfl, by simp only [pairLoop, pairsHead, tailOdd, List.append_nil]⟩
  | succ f ih =>
    intro pre mid rest h hr
    have hL : 2 * pre.length = (pre ++ mid).length := by rw [List.length_append, ← h]; omega
    match rest, hr with
    | [], _ =>
      refine ⟨mid, rfl, ?_⟩
      rw [pairLoop, if_neg (by simp only [List.length_append, List.length_nil]; omega)]
      simp only [pairsHead, tailOdd, List.append_nil]
    | [x], _ =>
      refine ⟨mid, rfl, ?_⟩
      rw [pairLoop, if_neg (by simp only [List.length_append, List.length_cons, List.length_nil]; omega)]
      simp only [pairsHead, tailOdd, List.append_nil]
    | r0 :: r1 :: rest', hr =>
      -- the slot written, `mxs[i/2]`, is the first of `mid ++ [r0]`
      obtain ⟨x, t, ht⟩ : ∃ x t, mid ++ [r0] = x :: t := by cases mid <;> exact ⟨_, _, rfl⟩
      have hl : t.length = mid.length := by
        have := congrArg List.length ht
        simp only [List.length_append, List.length_cons, List.length_nil] at this; omega
      have e : pre ++ mid ++ r0 :: r1 :: rest' = pre ++ x :: (t ++ r1 :: rest') := by
        rw [← List.cons_append, ← ht]; simp only [List.append_assoc, List.cons_append, List.nil_append]
      obtain ⟨m3, hl3, he3⟩ := ih (pre ++ [It.init r0 r1]) (t ++ [r1]) rest'
        (by simp only [List.length_append, List.length_cons, List.length_nil]; omega)
        (Nat.le_of_succ_le_succ (Nat.le_of_succ_le hr))
      refine ⟨m3, by simp only [List.length_append, List.length_cons, List.length_nil, pairsHead] at hl3 ⊢; omega, ?_⟩
      have hg0 : (pre ++ mid ++ r0 :: r1 :: rest').getD (2 * pre.length) default = r0 := by
        rw [hL, List.getD_eq_getElem?_getD, List.getElem?_append_right (Nat.le_refl _), Nat.sub_self]; rfl
      have hg1 : (pre ++ mid ++ r0 :: r1 :: rest').getD (2 * pre.length + 1) default = r1 := by
        rw [hL, List.getD_eq_getElem?_getD, List.getElem?_append_right (Nat.le_add_right _ 1), Nat.add_sub_cancel_left]; rfl
      rw [pairLoop, if_pos (by simp only [List.length_append, List.length_cons]; omega), hg0, hg1,
        show 2 * pre.length / 2 = pre.length by omega, e, List.set_append_right _ _ (Nat.le_refl _), Nat.sub_self,
        List.set_cons_zero,
        show pre ++ It.init r0 r1 :: (t ++ r1 :: rest') = pre ++ [It.init r0 r1] ++ (t ++ [r1]) ++ rest' by
          simp only [List.append_assoc, List.cons_append, List.nil_append],
        show 2 * pre.length + 2 = 2 * (pre ++ [It.init r0 r1]).length by
          simp only [List.length_append, List.length_cons, List.length_nil]; omega,
        he3]
      simp only [pairsHead, tailOdd, List.append_assoc, List.cons_append, List.nil_append]
theorem round_eq_pairs (mxs : List (It σ)) : round mxs = pairs mxs := by
  obtain ⟨mid, hl, he⟩ := pairLoop_inv mxs.length [] [] mxs rfl (Nat.le_refl _)
  simp only [List.length_nil, Nat.mul_zero, List.nil_append, Nat.zero_add] at he hl
  have htl := tailOdd_length_le mxs
  rw [pairs_eq_head_tail]
  unfold round
  simp only [he]
  match hto : tailOdd mxs, htl with
  | [], _ =>
    have hn : (pairsHead mxs ++ mid ++ []).length = 2 * (pairsHead mxs).length := by
      simp only [List.length_append, List.length_nil]; omega
    rw [hn, if_neg (by omega), show 2 * (pairsHead mxs).length / 2 = (pairsHead mxs).length by omega,
      List.append_assoc, List.take_left' rfl, List.append_nil]
  | [x], _ =>
    -- the odd element goes to the slot after the mixers: the first of `mid ++ [x]`
    obtain ⟨y, t, ht⟩ : ∃ y t, mid ++ [x] = y :: t := by cases mid <;> exact ⟨_, _, rfl⟩
    rw [show (pairsHead mxs ++ mid ++ [x]).length = 2 * (pairsHead mxs).length + 1 by
        simp only [List.length_append, List.length_cons, List.length_nil]; omega,
      if_pos (by omega), show (2 * (pairsHead mxs).length + 1) / 2 = (pairsHead mxs).length by omega,
      show 2 * (pairsHead mxs).length + 1 - 1 = (pairsHead mxs ++ mid).length by
        simp only [List.length_append]; omega,
      List.getD_eq_getElem?_getD, List.getElem?_append_right (Nat.le_refl _), Nat.sub_self, List.append_assoc, ht,
      List.set_append_right _ _ (Nat.le_refl _), Nat.sub_self, List.set_cons_zero, List.take_length_add_append 1]
    rfl
theorem pairs_leaves (l : List (It σ)) : (pairs l).flatMap It.leaves = l.flatMap It.leaves := by
  match l with
  | [] => simp [pairs]
  | [a] => simp [pairs]
  | a :: b :: r => simp [pairs, It.init, It.leaves, pairs_leaves r]

theorem pairs_length (l : List (It σ)) : (pairs l).length = (l.length + 1) / 2 := by
  match l with
  | [] => simp [pairs]
  | [a] => simp [pairs]
  | a :: b :: r => simp [pairs, pairs_length r]; omega

/-- the reduction ends with exactly one tree whose leaves, left to right, are the leaves of the input in order -/
theorem reduce_spec (mxs : List (It σ)) (fuel : Nat) (hne : mxs ≠ []) (hf : mxs.length ≤ fuel) :
    ∃ t, reduce fuel mxs = [t] ∧ t.leaves = mxs.flatMap It.leaves := by
  induction fuel generalizing mxs with
  | zero =>
    exact absurd (List.eq_nil_of_length_eq_zero (by omega)) hne
  | succ f ih =>
    rw [reduce]
    by_cases h : mxs.length > 1
    · rw [if_pos h, round_eq_pairs]
      have hl := pairs_length mxs
      obtain ⟨t, ht, hlv⟩ := ih (pairs mxs)
        (by intro e; rw [e] at hl; simp at hl; omega) (by omega)
      exact ⟨t, ht, by rw [hlv, pairs_leaves]⟩
    · rw [if_neg h]
      match mxs, hne, h with
      | [t], _, _ => exact ⟨t, rfl, by simp⟩
      | _ :: _ :: _, _, h => simp at h

theorem map_leaf_leaves (srcs : List σ) : (srcs.map It.leaf).flatMap It.leaves = srcs := by
  induction srcs with
  | nil => rfl
  | cons a r ih => simp [It.leaves, ih]

theorem build_eq_head : ∀ l : List σ, build l = (reduce l.length (l.map It.leaf)).head?
  | [] => rfl
  | [_] => rfl
  | _ :: _ :: _ => rfl

theorem build_leaves (srcs : List σ) (hne : srcs ≠ []) : ∃ t, build srcs = some t ∧ t.leaves = srcs := by
  obtain ⟨t, ht, hlv⟩ := reduce_spec (srcs.map It.leaf) srcs.length (fun e => hne (List.map_eq_nil_iff.mp e))
    (Nat.le_of_eq (List.length_map _))
  exact ⟨t, by rw [build_eq_head, ht]; rfl, by rw [hlv, map_leaf_leaves]⟩

theorem build_none : build ([] : List σ) = none := rfl

/-! ## GetJournals -/

/-- a fresh key is appended to the result map -/
theorem mapPut_fresh (res : List Part) (p : Part) (h : p.line ∉ res.map (·.line)) : mapPut res p = res ++ [p] := by
  unfold mapPut
  rw [if_neg]
  intro hany
  rw [List.any_eq_true] at hany
  obtain ⟨q, hq, he⟩ := hany
  exact h (List.mem_map.mpr ⟨q, hq, by simpa using he⟩)

theorem foldl_acquire_apply (l : List Part) (rd : Readers) (x : Nat) :
    (l.foldl (fun r p => acquire r p.src) rd) x = rd x + l.countP (fun p => p.src = x) := by
  induction l generalizing rd with
  | nil => simp
  | cons p l ih =>
    simp only [List.foldl_cons, ih, List.countP_cons, acquire]
    by_cases h : x = p.src
    · simp [h]; omega
    · have h' : ¬ p.src = x := fun e => h e.symm
      simp [h, h']

theorem foldl_release_apply (l : List Part) (rd : Readers) (x : Nat) :
    (l.foldl (fun r p => releaseOne r p.src) rd) x = rd x - l.countP (fun p => p.src = x) := by
  induction l generalizing rd with
  | nil => simp
  | cons p l ih =>
    simp only [List.foldl_cons, ih, List.countP_cons, releaseOne]
    by_cases h : x = p.src
    · simp [h]; omega
    · have h' : ¬ p.src = x := fun e => h e.symm
      simp [h, h']

/-- releasing what was acquired gives back the readers -/
theorem release_acquire (l : List Part) (rd : Readers) :
    l.foldl (fun r p => releaseOne r p.src) (l.foldl (fun r p => acquire r p.src) rd) = rd := by
  funext x
  rw [foldl_release_apply, foldl_acquire_apply]
  omega

theorem visitLoop_fails (maxLimit : Nat) (ps : List Part) : ∀ (res : List Part) (rd : Readers),
    ((res ++ ps).map (·.line)).Nodup → res.length < maxLimit → maxLimit ≤ res.length + ps.length →
    ∃ l, visitLoop maxLimit ps ⟨rd, res, false⟩ = ⟨l.foldl (fun r p => acquire r p.src) rd, res ++ l, true⟩ := by
  induction ps with
  | nil => intro res rd _ h1 h2; simp at h2; omega
  | cons p ps ih =>
    intro res rd hnd h1 h2
    have hfresh : p.line ∉ res.map (·.line) := by
      intro hm
      simp only [List.map_append, List.map_cons, List.nodup_append] at hnd
      exact hnd.2.2 _ hm _ (List.mem_cons_self ..) rfl
    simp only [visitLoop, mapPut_fresh res p hfresh]
    by_cases hl : (res ++ [p]).length = maxLimit
    · rw [if_pos hl]
      exact ⟨[p], rfl⟩
    · rw [if_neg hl]
      simp only [List.length_append, List.length_cons, List.length_nil] at hl h2
      obtain ⟨l, he⟩ := ih (res ++ [p]) (acquire rd p.src) (by simpa using hnd) (by simp; omega) (by simp; omega)
      exact ⟨p :: l, by rw [he]; simp⟩

theorem visitLoop_under (maxLimit : Nat) (ps : List Part) : ∀ (res : List Part) (rd : Readers),
    ((res ++ ps).map (·.line)).Nodup → res.length + ps.length < maxLimit →
    visitLoop maxLimit ps ⟨rd, res, false⟩ = ⟨ps.foldl (fun r p => acquire r p.src) rd, res ++ ps, false⟩ := by
  induction ps with
  | nil => intro res rd _ _; simp [visitLoop]
  | cons p ps ih =>
    intro res rd hnd h1
    have hfresh : p.line ∉ res.map (·.line) := by
      intro hm
      simp only [List.map_append, List.map_cons, List.nodup_append] at hnd
      exact hnd.2.2 _ hm _ (List.mem_cons_self ..) rfl
    simp only [visitLoop, mapPut_fresh res p hfresh]
    simp only [List.length_cons] at h1
    rw [if_neg (by simp; omega)]
    rw [ih (res ++ [p]) (acquire rd p.src) (by simpa using hnd) (by simp; omega)]
    simp

/-- number of acquisitions is undone by the same number of releases -/
theorem getJournals_limit_fails (maxLimit : Nat) (matching : List Part) (rd : Readers)
    (hpos : 1 ≤ maxLimit) (hnd : (matching.map (·.line)).Nodup) (hlim : maxLimit ≤ matching.length) :
    getJournals maxLimit matching rd = (rd, none) := by
  obtain ⟨l, he⟩ := visitLoop_fails maxLimit matching [] rd (by simpa using hnd) (by simp; omega)
    (by simpa using hlim)
  simp only [getJournals, he, List.nil_append, if_true, release_acquire]

theorem getJournals_under_limit (maxLimit : Nat) (matching : List Part) (rd : Readers)
    (hnd : (matching.map (·.line)).Nodup) (hlim : matching.length < maxLimit) :
    getJournals maxLimit matching rd = (matching.foldl (fun r p => acquire r p.src) rd, some matching) := by
  have he := visitLoop_under maxLimit matching [] rd (by simpa using hnd) (by simpa using hlim)
  simp [getJournals, he]

/-! ## a property closed under `Mixer.Init` holds for every tree the reduction builds -/

theorem pairs_all (P : It σ → Prop) (hP : ∀ a b, P a → P b → P (It.init a b)) :
    ∀ l : List (It σ), (∀ x ∈ l, P x) → ∀ x ∈ pairs l, P x
  | [], _ => by simp [pairs]
  | [a], h => by simpa [pairs] using h
  | a :: b :: r, h => by
    intro x hx
    simp only [pairs, List.mem_cons] at hx
    rcases hx with rfl | hx
    · exact hP a b (h a (by simp)) (h b (by simp))
    · exact pairs_all P hP r (fun y hy => h y (by simp [hy])) x hx

theorem reduce_all (P : It σ → Prop) (hP : ∀ a b, P a → P b → P (It.init a b)) (fuel : Nat) :
    ∀ l : List (It σ), (∀ x ∈ l, P x) → ∀ x ∈ reduce fuel l, P x := by
  induction fuel with
  | zero => intro l h; simpa [reduce] using h
  | succ f ih =>
    intro l h
    rw [reduce]
    split
    · rw [round_eq_pairs]; exact ih _ (pairs_all P hP l h)
    · exact h

theorem build_all (P : It σ → Prop) (hP : ∀ a b, P a → P b → P (It.init a b)) (srcs : List σ)
    (h : ∀ s ∈ srcs, P (.leaf s)) (t : It σ) (ht : build srcs = some t) : P t := by
  rw [build_eq_head] at ht
  refine reduce_all P hP _ _ (fun x hx => ?_) t (List.mem_of_mem_head? ht)
  obtain ⟨s, hs, rfl⟩ := List.mem_map.mp hx
  exact h s hs

/-! ## sorted sources: the order does not depend on the map iteration order -/

theorem insertLine_perm {α : Type} (x : Bytes × α) (l : List (Bytes × α)) : (insertLine x l).Perm (x :: l) := by
  induction l with
  | nil => simp [insertLine]
  | cons y ys ih =>
    simp only [insertLine]
    split
    · exact List.Perm.refl _
    · exact (List.Perm.cons y ih).trans (List.Perm.swap x y ys)

theorem sortLines_perm {α : Type} (l : List (Bytes × α)) : (sortLines l).Perm l := by
  induction l with
  | nil => simp [sortLines]
  | cons x xs ih =>
    show (insertLine x (sortLines xs)).Perm (x :: xs)
    exact (insertLine_perm x _).trans (List.Perm.cons x ih)

theorem insertLine_sorted {α : Type} (x : Bytes × α) (l : List (Bytes × α))
    (h : l.Pairwise (fun a b => Go.bytesLe a.1 b.1 = true)) :
    (insertLine x l).Pairwise (fun a b => Go.bytesLe a.1 b.1 = true) := by
  induction l with
  | nil => simp [insertLine]
  | cons y ys ih =>
    rw [List.pairwise_cons] at h
    simp only [insertLine]
    split
    · rename_i hle
      refine List.pairwise_cons.mpr ⟨?_, List.pairwise_cons.mpr h⟩
      intro z hz
      rcases List.mem_cons.mp hz with rfl | hz
      · exact hle
      · exact Go.bytesLe_trans _ _ _ hle (h.1 z hz)
    · rename_i hnle
      refine List.pairwise_cons.mpr ⟨?_, ih h.2⟩
      intro z hz
      have hz' := (insertLine_perm x ys).mem_iff.mp hz
      rcases List.mem_cons.mp hz' with rfl | hz'
      · rcases Go.bytesLe_total y.1 z.1 with h1 | h1
        · exact h1
        · exact absurd h1 hnle
      · exact h.1 z hz'

theorem sortLines_sorted {α : Type} (l : List (Bytes × α)) :
    (sortLines l).Pairwise (fun a b => Go.bytesLe a.1 b.1 = true) := by
  induction l with
  | nil => simp [sortLines]
  | cons x xs ih => exact insertLine_sorted x _ ih

theorem eq_of_key_eq {α : Type} {l : List (Bytes × α)} (hn : (l.map (·.1)).Nodup) {a b : Bytes × α}
    (ha : a ∈ l) (hb : b ∈ l) (h : a.1 = b.1) : a = b := by
  induction l with
  | nil => cases ha
  | cons x xs ih =>
    simp only [List.map_cons, List.nodup_cons, List.mem_map, not_exists, not_and] at hn
    rcases List.mem_cons.mp ha with rfl | ha' <;> rcases List.mem_cons.mp hb with rfl | hb'
    · rfl
    · exact absurd h.symm (hn.1 b hb')
    · exact absurd h (hn.1 a ha')
    · exact ih hn.2 ha' hb'

/-- two iteration orders of one map (distinct keys) sort to the same list -/
theorem sortLines_order_independent {α : Type} (o1 o2 : List (Bytes × α)) (hp : o1.Perm o2)
    (hn : (o1.map (·.1)).Nodup) : sortLines o1 = sortLines o2 := by
  have p1 := sortLines_perm o1
  have p2 := sortLines_perm o2
  refine List.Perm.eq_of_pairwise (le := fun a b => Go.bytesLe a.1 b.1 = true) ?_
    (sortLines_sorted o1) (sortLines_sorted o2) ((p1.trans hp).trans p2.symm)
  intro a b ha hb h1 h2
  have ha' : a ∈ o1 := p1.mem_iff.mp ha
  have hb' : b ∈ o1 := hp.mem_iff.mpr (p2.mem_iff.mp hb)
  exact eq_of_key_eq hn ha' hb' (Go.bytesLe_antisymm _ _ h1 h2)

end Logrange.MixTree

import Logrange.Proofs.MixerPos
/-!
# The position contract with a `sync` predicate (`LawfulSourcePosS`) — an ADDED variant of `LawfulSourcePos`

`LawfulSourcePos.pos_get` demands "after `Get` the source reports the position of the event it shows" in EVERY well-formed state. For
the journal iterators that is false in the states of finding F48 (walking backward, a chunk entered from the following one or a walk
that starts at a chunk's end: `pos.Idx` says `count` while the event shown is `count − 1`). `LawfulSourcePosS` restricts the law to the
states a predicate `sync` admits (kept by `Get`, `Next`, `Release`; NOT claimed for `SetBackward`), and adds a law for the direction
switch of a source that stands on its head event (`head_setBackward`: same event, same position) — what `Offset(−k)` relies on when it
switches there and back. The tree-level development of `Proofs/MixerPos.lean` (`PosLaws`, `PosSpec`) is instantiated for it
(suffix `S`), with `It.Synced` (every source is in a `sync` state) where `pos_get` is used. An instance of `LawfulSourcePosS` with
`sync := True` is NOT derived from one of `LawfulSourcePos` (the switch law is extra): the in-memory leaf has its own instance
(`Proofs/MixerPosSLeaf.lean`).
-/
namespace Logrange.Mixer
open LawfulSource

/-- the added part of the leaf contract. `pview s` = the positions `CurrentPos` reports for the events of `view s`, in order. -/
class LawfulSourcePosS (σ : Type) [Source σ] [LawfulSource σ] [SourcePos σ] where
  pview : σ → List (Int × Int)
  pview_length : ∀ s : σ, wf s → (pview s).length = (view s).length
  /-- the states in which the source reports the position of the event it shows -/
  sync : σ → Prop
  sync_get : ∀ s : σ, wf s → sync s → sync (Source.get s).1
  sync_next : ∀ s : σ, wf s → settled s → sync s → sync (Source.next s)
  sync_release : ∀ s : σ, wf s → sync s → sync (Source.release s)
  /-- after a `Get` in a `sync` state the source stands on the head event -/
  pos_get : ∀ s : σ, wf s → sync s → ∀ p, (pview s).head? = some p → SourcePos.pos (Source.get s).1 = p
  /-- a direction switch of a source that stands on its head event: the same event is the head of the other direction, at the
  same position -/
  head_setBackward : ∀ (bk : Bool) (s : σ), wf s → sync s → ∀ p, (pview s).head? = some p → SourcePos.pos s = p →
    (pview (Source.setBackward bk s)).head? = some p ∧ (view (Source.setBackward bk s)).head? = (view s).head? ∧
    SourcePos.pos (Source.setBackward bk s) = p
  pview_get : ∀ s : σ, wf s → pview (Source.get s).1 = pview s
  pview_next : ∀ s : σ, wf s → settled s → pview (Source.next s) = (pview s).tail
  /-- `Release` gives resources back; it moves nothing and the reported position stays -/
  pview_release : ∀ s : σ, wf s → pview (Source.release s) = pview s ∧ SourcePos.pos (Source.release s) = SourcePos.pos s

namespace It
variable {σ : Type} [Source σ] [LawfulSource σ] [SourcePos σ]

variable [LawfulSourcePosS σ]

/-- SPEC: the position of the head event of the tree's stream -/
def headPosS : It σ → Option (Int × Int)
  | .leaf s => (LawfulSourcePosS.pview s).head?
  | .mix m a b => if sel m.bkwd a.view b.view = 1 then a.headPosS else if sel m.bkwd a.view b.view = 2 then b.headPosS else none

/-- the tree reports the position of the event it shows -/
def PlacedS (t : It σ) : Prop := ∀ p, t.headPosS = some p → t.curPosS = some p

/-- every source is in a `sync` state -/
def Synced : It σ → Prop
  | .leaf s => LawfulSourcePosS.sync s
  | .mix _ a b => a.Synced ∧ b.Synced

/-- every selected child is placed -/
def WFPS : It σ → Prop
  | .leaf _ => True
  | .mix m a b => a.WFPS ∧ b.WFPS ∧ (m.st = 1 → a.PlacedS) ∧ (m.st = 2 → b.PlacedS)

theorem posLawsS : PosLaws (σ := σ) LawfulSourcePosS.pview LawfulSourcePosS.sync where
  pview_length := LawfulSourcePosS.pview_length
  sync_get := LawfulSourcePosS.sync_get
  sync_next := LawfulSourcePosS.sync_next
  sync_release := LawfulSourcePosS.sync_release
  pos_get := LawfulSourcePosS.pos_get
  pview_get := LawfulSourcePosS.pview_get
  pview_next := LawfulSourcePosS.pview_next
  pview_release := LawfulSourcePosS.pview_release

theorem posSpecS : PosSpec (σ := σ) LawfulSourcePosS.pview LawfulSourcePosS.sync headPosS WFPS Synced where
  hp_leaf _ := rfl
  hp_mix _ _ _ := rfl
  W_leaf _ := trivial
  W_mix _ _ _ := Iff.rfl
  Y_leaf _ := Iff.rfl
  Y_mix _ _ _ := Iff.rfl

theorem headPosS_none_of_empty (t : It σ) (h : t.WF) (he : t.view = []) : t.headPosS = none :=
  posSpecS.none_of_empty posLawsS t h he

/-- `Get` does not change the position of the head -/
theorem headPosS_get (t : It σ) (h : t.WF) : t.get.1.headPosS = t.headPosS := posSpecS.hp_get posLawsS t h

/-- **after a `Get` the merged cursor reports the position of the event it shows**, in every reachable state; and the invariant
is kept -/
theorem get_placedS (t : It σ) (h : t.WF) (hy : t.Synced) (hp : t.WFPS) : t.get.1.WFPS ∧ t.get.1.PlacedS :=
  posSpecS.get_placed posLawsS t h hy hp

theorem get_Synced (t : It σ) (h : t.WF) (hy : t.Synced) : t.get.1.Synced := posSpecS.get_synced posLawsS t h hy

theorem release_Synced (t : It σ) (h : t.WF) (hy : t.Synced) : t.release.Synced := posSpecS.release_synced posLawsS t h hy

/-- a fresh mixer satisfies the invariant -/
theorem init_WFPS (a b : It σ) (ha : a.WFPS) (hb : b.WFPS) : (init a b).WFPS := ⟨ha, hb, nofun, nofun⟩

/-- `Release` keeps the invariant and the reported position -/
theorem release_WFPS (t : It σ) (h : t.WF) (hp : t.WFPS) : t.release.WFPS := posSpecS.release_W posLawsS t h hp

/-- `SetBackward` leaves every mixer it switches unselected: the invariant holds trivially there -/
theorem setBackward_WFPS (bk : Bool) (t : It σ) (h : t.WF) (hp : t.WFPS) : (t.setBackward bk).WFPS :=
  posSpecS.setBackward_W posLawsS bk t h hp

/-- `Next` keeps the invariant (the mixer it passes is left unselected) -/
theorem next_WFPS (t : It σ) (h : t.WF) (hy : t.Synced) (hp : t.WFPS) : t.next.WFPS :=
  posSpecS.next_W posLawsS t h hy hp

/-- `Next` (after a `Get`) keeps every source in a `sync` state -/
theorem next_Synced (t : It σ) (h : t.WF) (hs : t.settled) (hy : t.Synced) : t.next.Synced :=
  posSpecS.next_synced posLawsS t h hs hy

/-- the position of the head event is the position of the head of one of the sources -/
theorem headPosS_mem_leaves (t : It σ) (p : Int × Int) (h : t.headPosS = some p) :
    ∃ s ∈ t.leaves, (LawfulSourcePosS.pview s).head? = some p := posSpecS.hp_mem_leaves t p h

end It
end Logrange.Mixer

import Logrange.Proofs.LqlEngineExpr
/-!
# C12: engine = direct parser, top level (roots `Expression` and `Source`), and the typed application of the captures on the
values the engine returns (`conv…`: `RExpr e v → toExpr ft v = some e` for every fuel ≥ `cvExpr e`)

Struct `Source` has a third failure class: a Tags token whose text tag.Parse rejects is matched, but the capture conversion fails.
-/
namespace Logrange.Lql
open Logrange.Generated.C12

/-! ## typed application of the captures on the values the engine returns -/

theorem fieldVals_cons_eq (f : String) (vs : List Val) (ct : Caps) : fieldVals ((f, vs) :: ct) f = vs ++ fieldVals ct f := by
  simp [fieldVals]
theorem fieldVals_cons_ne (f g : String) (vs : List Val) (ct : Caps) (h : (g == f) = false) : fieldVals ((g, vs) :: ct) f = fieldVals ct f := by
  simp [fieldVals, h]
theorem fieldVals_nil (f : String) : fieldVals [] f = [] := rfl

mutual
def cvIdent : Ident → Nat
  | .mk _ ps => 1 + cvIdents ps
def cvIdents : IdentList → Nat
  | .nil => 1
  | .cons h t => 1 + cvIdent h + cvIdents t
end
mutual
def cvExpr : Expr → Nat
  | .mk ors => 1 + cvOrs ors
def cvOrs : OrList → Nat
  | .nil => 1
  | .cons h t => 1 + cvOr h + cvOrs t
def cvOr : OrCond → Nat
  | .mk xs => cvXs xs
def cvXs : XList → Nat
  | .nil => 1
  | .cons h t => 1 + cvX h + cvXs t
def cvX : XCond → Nat
  | .cond _ cd => 1 + cvIdent cd.ident
  | .paren _ e => 1 + cvExpr e
end

theorem capsParams_operand : ∀ ps : IdentList, fieldVals (capsParams ps) "Operand" = []
  | .nil => rfl
  | .cons h t => by rw [capsParams, fieldVals_cons_ne _ _ _ _ (by decide), capsParams_operand t]

mutual
theorem convIdent : ∀ (i : Ident) (ft : Nat), cvIdent i ≤ ft → toIdent ft (valIdent i) = some i
  | .mk op ps, ft, h => by
    obtain ⟨f, rfl⟩ := Nat.exists_eq_add_of_le' (show 1 ≤ ft by simp [cvIdent] at h; omega)
    have h2 := convIdents ps f (by simp [cvIdent] at h; omega)
    simp only [toIdent, valIdent, fv]
    rw [fieldVals_cons_ne _ _ _ _ (by decide), h2, fieldVals_cons_eq, capsParams_operand]
    simp [strs]
theorem convIdents : ∀ (ps : IdentList) (ft : Nat), cvIdents ps ≤ ft → toIdents ft (fieldVals (capsParams ps) "Params") = some ps
  | .nil, ft, h => by
    obtain ⟨f, rfl⟩ := Nat.exists_eq_add_of_le' (show 1 ≤ ft by simp [cvIdents] at h; omega)
    simp [capsParams, fieldVals_nil, toIdents]
  | .cons hd t, ft, h => by
    obtain ⟨f, rfl⟩ := Nat.exists_eq_add_of_le' (show 1 ≤ ft by simp [cvIdents] at h; omega)
    have h1 := convIdent hd f (by simp [cvIdents] at h; omega)
    have h2 := convIdents t f (by simp [cvIdents] at h; omega)
    rw [capsParams, fieldVals_cons_eq]
    simp [toIdents, h1, h2]
end

theorem convCond (cd : Cond) (ft : Nat) (h : cvIdent cd.ident ≤ ft) : toCond ft (valCond cd) = some cd := by
  simp only [toCond, valCond, fv]
  rw [fieldVals_cons_eq, fieldVals_cons_ne _ _ _ _ (by decide), fieldVals_cons_ne _ _ _ _ (by decide), fieldVals_nil]
  simp only [List.append_nil, convIdent _ _ h]
  rw [fieldVals_cons_ne _ _ _ _ (by decide), fieldVals_cons_eq, fieldVals_cons_ne _ _ _ _ (by decide), fieldVals_nil]
  rw [fieldVals_cons_ne _ _ _ _ (by decide), fieldVals_cons_ne _ _ _ _ (by decide), fieldVals_cons_eq, fieldVals_nil]
  simp [strs]


mutual
theorem convExpr : ∀ (e : Expr) (v : Val) (ft : Nat), RExpr e v → cvExpr e ≤ ft → toExpr ft v = some e
  | .mk ors, v, ft, hr, hf => by
    obtain ⟨f, rfl⟩ := Nat.exists_eq_add_of_le' (show 1 ≤ ft by simp [cvExpr] at hf; omega)
    simp only [RExpr] at hr
    obtain ⟨caps, rfl, hro⟩ := hr
    have h := convOrs ors caps f hro (by simp [cvExpr] at hf; omega)
    simp [toExpr, fv, h]
theorem convOrs : ∀ (ors : OrList) (caps : Caps) (ft : Nat), ROrs ors caps → cvOrs ors ≤ ft → toOrs ft (fieldVals caps "Or") = some ors
  | .nil, caps, ft, hr, hf => by
    obtain ⟨f, rfl⟩ := Nat.exists_eq_add_of_le' (show 1 ≤ ft by simp [cvOrs] at hf; omega)
    simp only [ROrs] at hr
    subst hr
    simp [fieldVals_nil, toOrs]
  | .cons (.mk xs) t, caps, ft, hr, hf => by
    obtain ⟨f, rfl⟩ := Nat.exists_eq_add_of_le' (show 1 ≤ ft by simp [cvOrs] at hf; omega)
    simp only [ROrs, ROr] at hr
    obtain ⟨vh, ct, rfl, ⟨cx, rfl, hrx⟩, hrt⟩ := hr
    have h1 := convXs xs cx f hrx (by simp [cvOrs, cvOr] at hf; omega)
    have h2 := convOrs t ct f hrt (by simp [cvOrs] at hf; omega)
    rw [fieldVals_cons_eq]
    simp [toOrs, fv, h1, h2]
theorem convXs : ∀ (xs : XList) (caps : Caps) (ft : Nat), RXs xs caps → cvXs xs ≤ ft → toXs ft (fieldVals caps "And") = some xs
  | .nil, caps, ft, hr, hf => by
    obtain ⟨f, rfl⟩ := Nat.exists_eq_add_of_le' (show 1 ≤ ft by simp [cvXs] at hf; omega)
    simp only [RXs] at hr
    subst hr
    simp [fieldVals_nil, toXs]
  | .cons x t, caps, ft, hr, hf => by
    obtain ⟨f, rfl⟩ := Nat.exists_eq_add_of_le' (show 1 ≤ ft by simp [cvXs] at hf; omega)
    simp only [RXs] at hr
    obtain ⟨vh, ct, rfl, hrx, hrt⟩ := hr
    have h1 := convX x vh f hrx (by simp [cvXs] at hf; omega)
    have h2 := convXs t ct f hrt (by simp [cvXs] at hf; omega)
    rw [fieldVals_cons_eq]
    simp [toXs, h1, h2]
theorem convX : ∀ (x : XCond) (v : Val) (ft : Nat), RX x v → cvX x ≤ ft → toX ft v = some x
  | .cond neg cd, v, ft, hr, hf => by
    obtain ⟨f, rfl⟩ := Nat.exists_eq_add_of_le' (show 1 ≤ ft by simp [cvX] at hf; omega)
    simp only [RX] at hr
    obtain ⟨pre, rfl, hp⟩ := hr
    have h1 := convCond cd f (by simp [cvX] at hf; omega)
    cases neg with
    | true =>
      obtain ⟨t, rfl⟩ := hp
      simp [toX, fv, fieldVals, h1]
    | false =>
      have : pre = [] := hp
      subst this
      simp [toX, fv, fieldVals, h1]
  | .paren neg e, v, ft, hr, hf => by
    obtain ⟨f, rfl⟩ := Nat.exists_eq_add_of_le' (show 1 ≤ ft by simp [cvX] at hf; omega)
    simp only [RX] at hr
    obtain ⟨pre, ve, rfl, hp, hre⟩ := hr
    have h1 := convExpr e ve f hre (by simp [cvX] at hf; omega)
    cases neg with
    | true =>
      obtain ⟨t, rfl⟩ := hp
      simp [toX, fv, fieldVals, h1]
    | false =>
      have : pre = [] := hp
      subst this
      simp [toX, fv, fieldVals, h1]
end


/-! ## top level: `Parser.ParseString` with root `Expression` -/

theorem run_ok (toks : List Tok) (root : String) (v : Val) (cur' : Nat)
    (h : parse ⟨toks, grammar⟩ (60 * toks.length + 200) (.strct root) 0 = .ok [v] [] cur') :
    runEngine grammar root toks = if cur' == toks.length then some v else none := by
  unfold runEngine; rw [h]

theorem run_err (toks : List Tok) (root : String) (k : Nat) (hv : Bool)
    (h : parse ⟨toks, grammar⟩ (60 * toks.length + 200) (.strct root) 0 = .err k hv) : runEngine grammar root toks = none := by
  unfold runEngine; rw [h]

theorem drop_nil_iff {toks : List Tok} {cur' : Nat} (hle : cur' ≤ toks.length) : toks.drop cur' = [] ↔ cur' = toks.length := by
  rw [List.drop_eq_nil_iff]; omega

/-- **engine = direct parser on expressions**: on every token list in which no Ident/Keyword token is spelled `(`, the
participle-engine interpreter run on the REGENERATED grammar (root `Expression`, fuel `60·n+200` as in `runEngine`) accepts
exactly when the direct parser (fuel `directFuel`) does, and the value it returns converts to exactly the direct parser's AST
(for every conversion fuel ≥ `cvExpr e`). -/
theorem engine_direct_expr (toks : List Tok) (hH : OperandNotParen toks) :
    match directExpr toks with
    | some e => ∃ v, runEngine grammar "Expression" toks = some v ∧ RExpr e v ∧ ∀ ft, cvExpr e ≤ ft → toExpr ft v = some e
    | none => runEngine grammar "Expression" toks = none := by
  have he := simExpr ⟨toks, grammar⟩ rfl hH toks.length 0 (by simp) (Nat.zero_le _) (60 * toks.length + 200) (directFuel toks)
    (by simp) (by simp [directFuel])
  simp only [List.drop_zero] at he
  unfold directExpr
  cases hd : dExpr (directFuel toks) toks with
  | none =>
    rw [hd] at he
    rcases he with ⟨k, h, _⟩ | ⟨v, cur', h, _, hst⟩
    · exact run_err toks _ k _ h
    · have hlt : cur' < toks.length := by rcases hst with ⟨q, hq, _⟩ | ⟨q, hq, _⟩ <;> exact lt_of_get hq
      rw [run_ok toks _ v cur' h, if_neg (by simp; omega)]
  | some res =>
    obtain ⟨e, rest⟩ := res
    rw [hd] at he
    obtain ⟨v, cur', h, hrel, hrest, _, hle⟩ := he
    rw [run_ok toks _ v cur' h]
    cases rest with
    | nil => exact ⟨v, by simp [(drop_nil_iff hle).mp hrest.symm], hrel, fun ft hft => convExpr e v ft hrel hft⟩
    | cons q r2 =>
      have : cur' ≠ toks.length := fun e => by rw [e, List.drop_length] at hrest; cases hrest
      simp [this]


/-! ## root `Source` -/
def sourceBody : Node := .disj [(.capture "Tags" (.ref .tags)), (.capture "Expr" (.strct "Expression"))]
theorem g_source : grammar "Source" = some sourceBody := by rw [grammar]; rfl

def cvSource : Source → Nat
  | .tags _ => 0
  | .expr e => cvExpr e

/-! ## struct `Source` at any cursor -/
def RSource : Source → Val → Prop
  | .tags m, v => ∃ t, v = .node "Source" [("Tags", [.str t])] ∧ KV.tagParse t = some m
  | .expr e, v => ∃ ve, v = .node "Source" [("Expr", [ve])] ∧ RExpr e ve

def SimSource (c : Ctx) (cur : Nat) (r : Res) (d : PR Source) : Prop :=
  match d with
  | some (s, rest) => ∃ v cur', r = .ok [v] [] cur' ∧ RSource s v ∧ rest = c.toks.drop cur' ∧ cur < cur' ∧ cur' ≤ c.toks.length
  | none => (∃ k, r = .err k true ∧ cur ≤ k)
      ∨ (∃ v cur', r = .ok [v] [] cur' ∧ cur < cur' ∧ (litAt c cur' kwAND ∨ litAt c cur' kwOR))
      ∨ (∃ v, r = .ok [v] [] (cur+1) ∧ cur < c.toks.length ∧ ∀ ft, toSource ft v = none)

theorem convSource (s : Source) (v : Val) (ft : Nat) (hr : RSource s v) (hf : cvSource s ≤ ft) : toSource ft v = some s := by
  cases s with
  | tags m =>
    obtain ⟨t, rfl, ht⟩ := hr
    simp [toSource, fv, fieldVals, strs, ht]
  | expr e =>
    obtain ⟨ve, rfl, hre⟩ := hr
    simp [toSource, fv, fieldVals, convExpr e ve ft hre hf]

theorem simSource (c : Ctx) (hg : c.grammar = grammar) (hH : OperandNotParen c.toks) (cur : Nat) (hcl : cur ≤ c.toks.length)
    (fe fd : Nat) (hfe : 60 * (c.toks.length - cur) + 63 ≤ fe) (hfd : 4 * (c.toks.length - cur) + 5 ≤ fd) :
    SimSource c cur (parse c fe (.strct "Source") cur) (dSource fd (c.toks.drop cur)) := by
  obtain ⟨g, rfl⟩ := Nat.exists_eq_add_of_le' (show 63 ≤ fe by omega)
  have he := simExpr c hg hH _ cur (Nat.le_refl _) hcl (g+58) fd (by omega) hfd
  rw [parse_strct c _ "Source" sourceBody cur (hg ▸ g_source)]
  simp only [sourceBody, parse_disj, parseDisj_cons, parseDisj_nil, parse_capture, parse_ref, peek]
  cases hn : c.toks[cur]? with
  | none =>
    rw [drop_of_none hn] at he ⊢
    have hd : dExpr fd [] = none := by
      obtain ⟨f1, rfl⟩ := Nat.exists_eq_add_of_le' (show 3 ≤ fd by omega)
      simp [dExpr, dOr, dX]
    rw [hd] at he
    simp only [SimExpr] at he
    simp only [dSource, SimSource]
    rcases he with ⟨k, h, hk⟩ | ⟨v, cur', h, hlt, hst⟩
    · left; exact ⟨k, by by_cases hgt : k > cur + lookahead <;> simp [h, hgt], hk⟩
    · right; left; exact ⟨.node "Source" [("Expr", [v])], cur', by simp [h], hlt, hst⟩
  | some t =>
    have hlt := lt_of_get hn
    rw [drop_of_get hn] at he ⊢
    by_cases ht : t.t = TT.tags
    · simp only [dSource, ht, beq_self_eq_true, if_true]
      cases hp : KV.tagParse t.v with
      | none =>
        simp only [Option.map_none, SimSource]
        right; right
        exact ⟨.node "Source" [("Tags", [.str t.v])], by simp, hlt, fun ft => by simp [toSource, fv, fieldVals, strs, hp]⟩
      | some m =>
        simp only [Option.map_some, SimSource]
        exact ⟨.node "Source" [("Tags", [.str t.v])], cur+1, by simp, ⟨t.v, rfl, hp⟩, rfl, by omega, by omega⟩
    · have ht' : (t.t == TT.tags) = false := by simpa using ht
      simp only [dSource, ht', Bool.false_eq_true, if_false, ht]
      cases hd : dExpr fd (t :: c.toks.drop (cur+1)) with
      | none =>
        rw [hd] at he
        simp only [SimExpr] at he
        simp only [Option.map_none, SimSource]
        rcases he with ⟨k, h, hk⟩ | ⟨v, cur', h, hlt', hst⟩
        · left; exact ⟨k, by by_cases hgt : k > cur + lookahead <;> simp [h, hgt], hk⟩
        · right; left; exact ⟨.node "Source" [("Expr", [v])], cur', by simp [h], hlt', hst⟩
      | some res =>
        obtain ⟨e, rest⟩ := res
        rw [hd] at he
        obtain ⟨v, cur', h, hrel, hrest, h1, h2⟩ := he
        simp only [Option.map_some, SimSource]
        exact ⟨.node "Source" [("Expr", [v])], cur', by simp [h], ⟨v, rfl, hrel⟩, hrest, h1, h2⟩

/-- **engine = direct parser on sources** (`{…}` tag token or expression). When the direct parser rejects, either the
engine rejects too or it accepts a lone Tags token whose text `tag.Parse` rejects (then the capture conversion fails for
every fuel — `ParseSource` fails in both models). -/
theorem engine_direct_source (toks : List Tok) (hH : OperandNotParen toks) :
    match directSource toks with
    | some s => ∃ v, runEngine grammar "Source" toks = some v ∧ ∀ ft, cvSource s ≤ ft → toSource ft v = some s
    | none => runEngine grammar "Source" toks = none ∨ ∃ v, runEngine grammar "Source" toks = some v ∧ ∀ ft, toSource ft v = none := by
  have hs := simSource ⟨toks, grammar⟩ rfl hH 0 (Nat.zero_le _) (60 * toks.length + 200) (directFuel toks) (by simp) (by simp [directFuel])
  simp only [List.drop_zero] at hs
  unfold directSource
  cases hd : dSource (directFuel toks) toks with
  | none =>
    rw [hd] at hs
    rcases hs with ⟨k, h, _⟩ | ⟨v, cur', h, _, hst⟩ | ⟨v, h, hlt, hno⟩
    · exact Or.inl (run_err toks _ k _ h)
    · have hlt : cur' < toks.length := by rcases hst with ⟨q, hq, _⟩ | ⟨q, hq, _⟩ <;> exact lt_of_get hq
      exact Or.inl (by rw [run_ok toks _ v cur' h, if_neg (by simp; omega)])
    · rw [run_ok toks _ v _ h]
      by_cases hl : 0 + 1 = toks.length
      · exact Or.inr ⟨v, by simp [hl], hno⟩
      · exact Or.inl (by simp [hl])
  | some res =>
    obtain ⟨s, rest⟩ := res
    rw [hd] at hs
    obtain ⟨v, cur', h, hrel, hrest, _, hle⟩ := hs
    rw [run_ok toks _ v cur' h]
    cases rest with
    | nil => exact ⟨v, by simp [(drop_nil_iff hle).mp hrest.symm], fun ft hft => convSource s v ft hrel hft⟩
    | cons q r2 =>
      have : cur' ≠ toks.length := fun e => by rw [e, List.drop_length] at hrest; cases hrest
      exact Or.inl (by simp [this])

end Logrange.Lql

import Logrange.Proofs.DateSecondStage
/-!
# The text of an instant at the START OF A LOG LINE: what may follow it

`Format.Parse` searches the whole line, so what follows the timestamp matters. A byte `c` is **inert** for an expression
(`inertD`) when no atom of the expression can consume it — except a `.` that is followed by a mandatory digit (`.SSS` =
`.\d{3,}`, `MM.DD.YYYY`), which can consume `c` only when the byte after `c` is a digit. For an inert separator `c` and a
rest `w` of the line that does not begin with a digit, the matcher on `a ++ c :: w` behaves exactly as on `a`
(`ms_inert`: same remainders in the same priority order, with `c :: w` appended), so the guarded search on the line is
the search on `a`, and, when that finds nothing, the search in `w` (`findFrom_inert`). Hence `first_match_line`: with an
inert separator and a rest of the line in which no format up to `k` finds a date, the list's answer for the line is its
answer for the text alone (`first_match_agree`).
-/
namespace Logrange.Date

/-- every match of the expression begins by consuming a digit -/
def startsDigit : Rx → Bool
  | .cls rg => rg.all (fun p => 48 ≤ p.1 && p.2 ≤ 57)
  | .seq a _ => startsDigit a
  | _ => false

def isAnyRx : Rx → Bool
  | .any => true
  | _ => false

/-- no atom of the expression can consume the byte `c` when the byte after `c` is not a digit -/
def inertD (c : UInt8) : Rx → Bool
  | .eps => true
  | .chr x => x != c
  | .any => c == 10
  | .cls rg => !inCls rg c
  | .star rg => !inCls rg c
  | .alt a b => inertD c a && inertD c b
  | .seq a b => (inertD c a && inertD c b) || (isAnyRx a && startsDigit b && inertD c b)

/-- `inertD` for every byte of `sep` at once (`.any` alone is refused, although `inertD 10 .any` holds) -/
def inertSet (sep : BSet) : Rx → Bool
  | .eps => true
  | .chr x => !inCls sep x
  | .any => false
  | .cls rg => !meets rg sep
  | .star rg => !meets rg sep
  | .alt a b => inertSet sep a && inertSet sep b
  | .seq a b => (inertSet sep a && inertSet sep b) || (isAnyRx a && startsDigit b && inertSet sep b)

theorem isAnyRx_eq {r : Rx} (h : isAnyRx r = true) : r = .any := by
  cases r <;> first | rfl | cases h

theorem inertD_of_inertSet {sep : BSet} {c : UInt8} (hc : inCls sep c = true) :
    ∀ r : Rx, inertSet sep r = true → inertD c r = true := by
  intro r
  induction r with
  | eps => exact fun _ => rfl
  | chr x => exact fun h => bne_iff_ne.mpr (fun e => by rw [inertSet, e, hc] at h; cases h)
  | any => exact fun h => nomatch h
  | cls rg | star rg =>
    intro h
    cases hin : inCls rg c with
    | false => rw [inertD, hin]; rfl
    | true => rw [inertSet, meets_of_inCls hc hin] at h; cases h
  | alt a b iha ihb =>
    intro h
    simp only [inertSet, Bool.and_eq_true] at h
    rw [inertD, iha h.1, ihb h.2]; rfl
  | seq a b iha ihb =>
    intro h
    simp only [inertSet, Bool.or_eq_true, Bool.and_eq_true] at h
    rcases h with h | h
    · rw [inertD, iha h.1, ihb h.2]; rfl
    · rw [inertD, h.1.1, h.1.2, ihb h.2]; exact Bool.or_true _

/-- the text does not begin with a digit (it may be empty) -/
def noDigitHead (w : Bytes) : Bool :=
  match w with
  | [] => true
  | x :: _ => !isDig x

theorem ms_startsDigit : ∀ (r : Rx), startsDigit r = true → ∀ (w : Bytes), noDigitHead w = true → ms r w = [] := by
  intro r
  induction r with
  | cls rg =>
    intro h w hw
    cases w with
    | nil => rfl
    | cons x t =>
      -- a byte of a class made of digit ranges is a digit
      have hx : inCls rg x = false := by
        cases hin : inCls rg x with
        | false => rfl
        | true =>
          simp only [startsDigit, List.all_eq_true, Bool.and_eq_true, decide_eq_true_eq] at h
          simp only [inCls, List.any_eq_true, Bool.and_eq_true, decide_eq_true_eq] at hin
          obtain ⟨p, hp, h1, h2⟩ := hin
          have hd : isDig x = true := by
            simp only [isDig, Bool.and_eq_true, decide_eq_true_eq]
            exact ⟨UInt8.le_trans (h p hp).1 h1, UInt8.le_trans h2 (h p hp).2⟩
          rw [noDigitHead, hd] at hw; cases hw
      show (if inCls rg x = true then [t] else []) = []
      rw [hx]; rfl
  | seq a b iha _ =>
    intro h w hw
    show (ms a w).flatMap (ms b) = []
    rw [iha h w hw]; rfl
  | eps | chr _ | any | alt _ _ | star _ => exact fun h => nomatch h

theorem starRem_inert (rg : List (UInt8 × UInt8)) (c : UInt8) (w : Bytes) (hc : inCls rg c = false) :
    ∀ (a : Bytes), starRem rg (a ++ c :: w) = (starRem rg a).map (· ++ c :: w)
  | [] => by simp [starRem, hc]
  | y :: a => by
    simp only [List.cons_append, starRem]
    split
    · rw [starRem_inert rg c w hc a]; simp
    · simp

/-- **an inert separator cuts the matcher**: on `a ++ c :: w` the expression has exactly the matches it has on `a` -/
theorem ms_inert (c : UInt8) (w : Bytes) (hw : noDigitHead w = true) :
    ∀ (r : Rx), inertD c r = true → ∀ (a : Bytes), ms r (a ++ c :: w) = (ms r a).map (· ++ c :: w) := by
  intro r
  induction r with
  | eps => exact fun _ _ => rfl
  | chr x =>
    intro h a
    cases a with
    | nil =>
      have : (c == x) = false := beq_false_of_ne (fun e => bne_iff_ne.mp h e.symm)
      show (if (c == x) = true then [w] else []) = []
      rw [this]; rfl
    | cons y a' =>
      show (if (y == x) = true then [a' ++ c :: w] else []) = List.map _ (if (y == x) = true then [a'] else [])
      cases (y == x) <;> rfl
  | any =>
    intro h a
    cases a with
    | nil => rw [eq_of_beq h]; rfl
    | cons y a' =>
      show (if (y != 10) = true then [a' ++ c :: w] else []) = List.map _ (if (y != 10) = true then [a'] else [])
      cases (y != 10) <;> rfl
  | cls rg =>
    intro h a
    cases a with
    | nil =>
      show (if inCls rg c = true then [w] else []) = []
      rw [Eq.mp (Bool.not_eq_true' _) h]; rfl
    | cons y a' =>
      show (if inCls rg y = true then [a' ++ c :: w] else []) = List.map _ (if inCls rg y = true then [a'] else [])
      cases inCls rg y <;> rfl
  | star rg => exact fun h a => starRem_inert rg c w (Eq.mp (Bool.not_eq_true' _) h) a
  | alt p q ihp ihq =>
    intro h a
    simp only [inertD, Bool.and_eq_true] at h
    simp only [ms, ihp h.1 a, ihq h.2 a, List.map_append]
  | seq p q ihp ihq =>
    intro h a
    simp only [inertD, Bool.or_eq_true, Bool.and_eq_true] at h
    rcases h with h | h
    · simp only [ms, ihp h.1 a, List.flatMap_map, List.map_flatMap]
      congr 1
      funext y
      exact ihq h.2 y
    · obtain ⟨⟨hany, hsd⟩, hq⟩ := h
      obtain rfl := isAnyRx_eq hany
      cases a with
      | nil =>
        -- the `.` may take the separator, but then `q` must start with a digit and `w` does not
        simp only [List.nil_append, ms]
        split <;> simp [ms_startsDigit q hsd w hw]
      | cons y a' =>
        simp only [List.cons_append, ms]
        split
        · simp [ihq hq a']
        · rfl

theorem mem_ite_singleton {p : Prop} [Decidable p] {x t : Bytes} (h : x ∈ (if p then [t] else [])) : x = t := by
  split at h
  · exact List.mem_singleton.mp h
  · cases h

theorem ms_length_le : ∀ (r : Rx) (s : Bytes), ∀ rem ∈ ms r s, rem.length ≤ s.length := by
  intro r
  induction r with
  | eps => intro s rem h; rw [List.mem_singleton.mp h]; exact Nat.le_refl _
  | chr _ | any | cls _ =>
    intro s rem h
    cases s with
    | nil => cases h
    | cons y t => rw [mem_ite_singleton h]; exact Nat.le_succ _
  | star rg =>
    intro s rem h
    obtain ⟨p, hp⟩ := starRem_suffix rg s rem h
    rw [hp, List.length_append]; exact Nat.le_add_left _ _
  | alt p q ihp ihq =>
    intro s rem h
    rcases List.mem_append.mp h with h | h
    · exact ihp s rem h
    · exact ihq s rem h
  | seq p q ihp ihq =>
    intro s rem h
    obtain ⟨m, hm, hr⟩ := List.mem_flatMap.mp h
    exact Nat.le_trans (ihq m rem hr) (ihp s m hm)

theorem matchAt_inert {c : UInt8} {w : Bytes} (hw : noDigitHead w = true) {r : Rx} (hr : inertD c r = true) (a : Bytes) :
    matchAt r (a ++ c :: w) = matchAt r a := by
  simp only [matchAt, ms_inert c w hw r hr a]
  cases hm : ms r a with
  | nil => simp
  | cons rem rest =>
    have hle : rem.length ≤ a.length := ms_length_le r a rem (by simp [hm])
    simp only [List.map_cons, List.head?_cons, Option.map_some, Option.some.injEq, List.length_append, List.length_cons]
    rw [Nat.add_sub_add_right, List.take_append_of_le_length (Nat.sub_le _ _)]

/-- the guarded search on a line `a ++ c :: w` with an inert separator: the search on `a`, then the search in `w` -/
theorem findFrom_inert {c : UInt8} {w : Bytes} (hw : noDigitHead w = true) {r : Rx} (hr : inertD c r = true) (g : Bool) :
    ∀ (a : Bytes) (pd : Bool), findFrom g r pd (a ++ c :: w) =
      (match findFrom g r pd a with
       | some m => some m
       | none => findFrom g r (decide (48 ≤ c) && decide (c ≤ 57)) w)
  | [], pd => by
    have h0 := matchAt_inert hw hr []
    simp only [List.nil_append] at h0
    simp only [List.nil_append, findFrom, h0]
    cases hgp : (g && pd) with
    | true => simp
    | false =>
      simp only [Bool.false_eq_true, if_false]
      cases matchAt r [] <;> rfl
  | y :: a, pd => by
    have h0 := matchAt_inert hw hr (y :: a)
    simp only [List.cons_append] at h0
    simp only [List.cons_append, findFrom, h0]
    cases hm : (if (g && pd) = true then none else matchAt r (y :: a)) with
    | some m => simp
    | none => simp only; exact findFrom_inert hw hr g a _

/-- `Format.Parse` on the line is `Format.Parse` on the text alone when the separator is inert for the format's expression
and the format's expression finds nothing in the rest of the line -/
theorem formatParse_line {adj : Adjust} {cf : CFormat} {now : Now} {r : Rx} (hrx : cf.rx = some r) {c : UInt8} {w : Bytes}
    (hw : noDigitHead w = true) (hr : inertD c r = true)
    (hrest : findFrom cf.guard r (decide (48 ≤ c) && decide (c ≤ 57)) w = none) (a : Bytes) :
    formatParse adj cf now (a ++ c :: w) = formatParse adj cf now a := by
  have : findG cf.guard r (a ++ c :: w) = findG cf.guard r a := by
    simp only [findG, findFrom_inert hw hr cf.guard a false, hrest]
    cases findFrom cf.guard r false a <;> rfl
  simp only [formatParse, hrx, this]

theorem parseFrom_ok_ge {adj : Adjust} {now : Now} {b : Bytes} {k : Nat} {d : Civil} :
    ∀ (l : List CFormat) (i : Nat), parseFrom adj now b i l = .ok k d → i ≤ k
  | [], _, h => nomatch h
  | cf :: rest, i, h => by
    rw [parseFrom] at h
    split at h
    · cases h; exact Nat.le_refl _
    · cases h
    · exact Nat.le_of_succ_le (parseFrom_ok_ge rest (i + 1) h)

/-- `parser.Parse` only looks at the formats up to the one that claims the text -/
theorem parseFrom_congr {adj : Adjust} {now : Now} {b1 b2 : Bytes} {c : Civil} :
    ∀ (fmts : List CFormat) (i0 j' : Nat),
      (∀ j, j ≤ j' → ∀ cj, fmts[j]? = some cj → formatParse adj cj now b2 = formatParse adj cj now b1) →
      parseFrom adj now b1 i0 fmts = .ok (i0 + j') c → parseFrom adj now b2 i0 fmts = .ok (i0 + j') c
  | [], _, _, _, h => nomatch h
  | cf :: rest, i0, j', hag, h => by
    rw [parseFrom, hag 0 (Nat.zero_le _) cf rfl]
    rw [parseFrom] at h
    cases hfp : formatParse adj cf now b1 with
    | ok c' => rw [hfp] at h; exact h
    | unsupported w' => rw [hfp] at h; exact h
    | err =>
      rw [hfp] at h
      -- the claimant comes later in the list: `j' = j'' + 1`
      cases j' with
      | zero => exact absurd (parseFrom_ok_ge rest (i0 + 1) h) (Nat.not_succ_le_self i0)
      | succ j'' =>
        rw [← Nat.add_assoc, Nat.add_right_comm] at h ⊢
        exact parseFrom_congr rest (i0 + 1) j'' (fun j hj cj hcj => hag (j + 1) (Nat.succ_le_succ hj) cj hcj) h

/-- the separator is inert for the expression of every format of the list up to index `k` -/
def sepInert (fmts : List CFormat) (k : Nat) (c : UInt8) : Bool :=
  (fmts.take (k + 1)).all (fun cf => match cf.rx with | some r => inertD c r | none => false)

/-- no format of the list up to index `k` finds a date in the rest of the line -/
def noDateInRest (fmts : List CFormat) (k : Nat) (c : UInt8) (w : Bytes) : Prop :=
  ∀ j, j ≤ k → ∀ cj r, fmts[j]? = some cj → cj.rx = some r → findFrom cj.guard r (decide (48 ≤ c) && decide (c ≤ 57)) w = none

/-- **first match at the start of a line**: the text of any valid instant in format `k`, followed by a separator that is
inert for the formats up to `k` and a rest of the line that does not begin with a digit and in which none of those formats
finds a date, is answered by the list exactly as the text alone: the fields format `k` carries. -/
theorem first_match_line {adj : Adjust} {now : Now} {fmts : List CFormat} {k : Nat} {ck : CFormat} (hk : fmts[k]? = some ck)
    (hidx : idxOK fmts k = true) (hown : ownOK ck = true) (i : XInst) (hi : ValidX i)
    (c : UInt8) (w : Bytes) (hsep : sepInert fmts k c = true) (hw : noDigitHead w = true) (hrest : noDateInRest fmts k c w) :
    ∃ txt cv j', renderLayout ck.layout i = some txt ∧ projectX ck.layout i = .ok cv ∧ j' ≤ k ∧
      parseFirst adj fmts now (txt ++ c :: w) = .ok j' (adjAll adj ck now cv) := by
  obtain ⟨txt, cv, j', ht, hc, hj, hpf⟩ := first_match_agree (adj := adj) (now := now) hk hidx hown i hi
  refine ⟨txt, cv, j', ht, hc, hj, ?_⟩
  have hag : ∀ j, j ≤ j' → ∀ cj, fmts[j]? = some cj →
      formatParse adj cj now (txt ++ c :: w) = formatParse adj cj now txt := by
    intro j hjj cj hcj
    have hmem : cj ∈ fmts.take (k + 1) :=
      List.mem_of_getElem? ((List.getElem?_take_of_lt (Nat.lt_succ_of_le (Nat.le_trans hjj hj))).trans hcj)
    have hin := List.all_eq_true.mp hsep cj hmem
    cases hrx : cj.rx with
    | none => rw [hrx] at hin; simp at hin
    | some r =>
      rw [hrx] at hin
      exact formatParse_line hrx hw hin (hrest j (Nat.le_trans hjj hj) cj r hcj hrx) txt
  have := parseFrom_congr (adj := adj) (now := now) (b1 := txt) (b2 := txt ++ c :: w) fmts 0 j' hag
    (by simpa [parseFirst] using hpf)
  simpa [parseFirst] using this

end Logrange.Date

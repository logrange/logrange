import Logrange.Proofs.PipeRep
import Logrange.Proofs.PipeSpec
/-!
# The pipe specification from a clean schedule, for the repaired LTS (C10)

`spec_of_clean` (`Proofs/PipeSpec.lean`) transferred to `stepR` / `runR` (`Model/PipeLtsRep.lean`), with the SAME ghost monitor
(`Mon`, `monStep`), for every combination of the three repairs (`RCfg`). The invariants of the plain LTS (`AllInv`) are carried
along `runMR` together with `QInv`: a stopped service has no queued and no unpublished notification.
-/
namespace Logrange.PipeLts

/-- the repaired LTS and the monitor side by side -/
def runMR (cfg : Cfg) (rc : RCfg) : State × Mon → List Label → State × Mon
  | x, [] => x
  | x, l :: ls => match stepR cfg rc x.1 l with
    | some st' => runMR cfg rc (st', monStep x.1 l x.2) ls
    | none => runMR cfg rc x ls

theorem runMR_fst (cfg : Cfg) (rc : RCfg) (x : State × Mon) (ls : List Label) :
    (runMR cfg rc x ls).1 = runR cfg rc x.1 ls := by
  induction ls generalizing x with
  | nil => rfl
  | cons l ls ih =>
    simp only [runMR, runR]
    cases stepR cfg rc x.1 l with
    | none => exact ih x
    | some st' => exact ih _

/-! ### a stopped service has nothing in flight -/

def QInv (st : State) : Prop := st.down = true → st.chan = [] ∧ st.pend = []

theorem qinv_init (n : Nat) (l : Nat → Bool) (p : Nat → Bytes) (f : Ev → Bool) (o : Bool) : QInv (init n l p f o) := by
  intro _; exact ⟨rfl, rfl⟩

theorem qinv_frame (st st' : State) (h : QInv st) (e1 : st'.chan = st.chan) (e2 : st'.pend = st.pend)
    (e3 : st'.down = st.down) : QInv st' := by
  unfold QInv at *; rw [e1, e2, e3]; exact h

theorem qinv_up (st : State) (h : st.down = false) : QInv st := by
  intro hd; rw [h] at hd; cases hd

/-- only `halt` stops the service, and it empties the channel -/
theorem step_qinv {cfg : Cfg} {st st' : State} {l : Label} (hq : QInv st) (hs : Step cfg st l st') : QInv st' := by
  cases hs with
  | write s b hup hlt => exact qinv_up _ hup
  | enqueue i we hwe hup hcap => exact qinv_up _ hup
  | notifyHit we rest hup hcl hch hit => exact qinv_up _ hup
  | notifyMiss we rest hup hcl hch hit => exact qinv_up _ hup
  | create hup hp => exact qinv_up _ hup
  | delete hup hp => exact qinv_up _ hup
  | shutdown hup hcl => exact qinv_up _ hup
  | restart hdn => exact qinv_up _ rfl
  | halt hcl hup hidle => intro _; exact ⟨rfl, rfl⟩
  | _ => exact qinv_frame st _ hq rfl rfl rfl

/-! ### `resaveAll` (repair F79 b) keeps the invariants -/

theorem minv_resaveAll (st : State) (m : Mon) (h : MInv st m) : MInv (resaveAll st) m :=
  fun s hc hl hls => vinv_resave (h s hc hl hls)

/-! ### `catchUp` (repair F79 a) keeps the invariants -/

theorem catchUpSrc_saved (σ : SrcSt) : (catchUpSrc σ).saved = σ.saved := by
  unfold catchUpSrc; split
  · rfl
  · unfold startWorker; split <;> rfl

theorem catchUpSrc_createdAt (σ : SrcSt) : (catchUpSrc σ).createdAt = σ.createdAt := by
  unfold catchUpSrc; split
  · rfl
  · unfold startWorker; split <;> rfl

theorem catchUpSrc_listens (σ : SrcSt) : (catchUpSrc σ).listens = σ.listens := by
  unfold catchUpSrc; split
  · rfl
  · exact startWorker_listens _ _ _

/-- every descriptor `catchUp` leaves behind went through `startWorker` with the service running -/
theorem ns_catchUpAll (cfg : Cfg) (st : State) : NS cfg (catchUpAll st) := by
  intro s d hd
  have hd' : (catchUpSrc (st.srcs s)).desc = some d := hd
  cases hdd : (st.srcs s).desc with
  | none => rw [catchUpSrc_none _ hdd, hdd] at hd'; cases hd'
  | some d0 =>
    rw [catchUpSrc_some _ _ hdd] at hd'
    rcases ns_startWorker false _ _ d hd' with h1 | h1
    · cases h1
    · exact Or.inr h1

/-- after a restart nothing is in flight: the end of the stored data IS the monitor's `nextExp`, so raising `LastKnwnPos`
to it keeps the source clean -/
theorem minv_catchUpAll (st : State) (m : Mon) (h : MInv st m) (hdn : st.down = false) (hch : st.chan = [])
    (hpe : st.pend = []) : MInv (catchUpAll st) m := by
  intro s hc hl hls
  have hls' : (catchUpSrc (st.srcs s)).listens = true := hls
  rw [catchUpSrc_listens] at hls'
  obtain ⟨a0, a1, a2, a3, a4⟩ := h s hc hl hls'
  show VInv (catchUpSrc (st.srcs s)) (m.nextExp s) (wsum s (st.chan ++ st.pend)) st.down
  cases hd : (st.srcs s).desc with
  | none =>
    rw [catchUpSrc_none _ hd]
    exact ⟨a0, a1, a2, a3, a4⟩
  | some d =>
    rw [catchUpSrc_some _ _ hd]
    have hD := a3 d hd
    have hne : m.nextExp s = (st.srcs s).log.length := by
      have := a1
      rw [hch, hpe] at this
      simpa [wsum] using this
    have hlk := hD.lk
    refine vinv_startWorker _ _ _ _ _ _ a0 a1 ?_ a4
    refine ⟨hD.start, ?_, Or.inl ?_, hD.stale, ?_⟩
    · show max d.lastKnown (st.srcs s).log.length ≤ m.nextExp s
      omega
    · show max d.lastKnown (st.srcs s).log.length = m.nextExp s
      omega
    · intro hx; rw [hdn] at hx; cases hx

/-! ### one step of the repaired LTS, monitor alongside -/

theorem stepR_allinv (cfg : Cfg) (rc : RCfg) (hC : cfg.saveOnCreate = true) (hD : cfg.saveOnDelete = true)
    (hre : cfg.rearm = true) (st st' : State) (l : Label) (m : Mon) (h : AllInv cfg st m) (hq : QInv st)
    (hs : stepR cfg rc st l = some st') : AllInv cfg st' (monStep st l m) ∧ QInv st' := by
  obtain ⟨s1, h1, hrep, _⟩ := stepR_cases hs
  obtain ⟨g1, n1, p1, v1⟩ := step_allinv hC hD hre (m := m) h h1
  have q1 := step_qinv hq h1
  rcases hrep with ⟨rfl, _, _⟩ | ⟨_, _, _, rfl⟩ | ⟨rfl, _, _, rfl⟩
  · exact ⟨⟨g1, n1, p1, v1⟩, q1⟩
  · -- descriptors, pipe, cache and channel are untouched; only `MInv`'s clause about the file has to be rebuilt
    exact ⟨⟨ginv_resaveAll cfg s1 g1, n1, pinv_frame s1 _ p1 rfl rfl (fun hp => (p1.2 hp).1) (fun hp => (p1.2 hp).2),
      minv_resaveAll s1 _ v1⟩, qinv_frame s1 _ q1 rfl rfl rfl⟩
  · -- the service was down, so nothing is queued: the catch-up sees `LastKnwnPos` at the end already
    obtain ⟨hdn0, hdn1, e1, e2⟩ := h1.restart_inv
    obtain ⟨c0, c1⟩ := hq hdn0
    exact ⟨⟨ginv_catchUp cfg s1 g1 hdn1, ns_catchUpAll cfg s1,
      pinv_frame s1 _ p1 rfl rfl (fun hp => (p1.2 hp).1) (fun hp s => catchUpSrc_desc_none _ ((p1.2 hp).2 s)),
      minv_catchUpAll s1 _ v1 hdn1 (e1.trans c0) (e2.trans c1)⟩, qinv_frame s1 _ q1 rfl rfl rfl⟩

theorem runMR_inv (cfg : Cfg) (rc : RCfg) (hC : cfg.saveOnCreate = true) (hD : cfg.saveOnDelete = true)
    (hre : cfg.rearm = true) (x : State × Mon) (ls : List Label) (h : AllInv cfg x.1 x.2) (hq : QInv x.1) :
    AllInv cfg (runMR cfg rc x ls).1 (runMR cfg rc x ls).2 ∧ QInv (runMR cfg rc x ls).1 := by
  induction ls generalizing x with
  | nil => exact ⟨h, hq⟩
  | cons l ls ih =>
    simp only [runMR]
    cases hs : stepR cfg rc x.1 l with
    | none => exact ih x h hq
    | some st' =>
      obtain ⟨h', hq'⟩ := stepR_allinv cfg rc hC hD hre x.1 st' l x.2 h hq hs
      exact ih (st', monStep x.1 l x.2) h' hq'

/-- **the specification from a clean schedule, repaired LTS**: whichever of the three repairs are switched on, in a quiescent
state of a running service with the pipe alive, a listening source whose schedule was clean (same monitor as for the plain
LTS) has exactly the events written after the creation that pass the filter, once, in stored order, provenance appended — in
the pipe partition. -/
theorem spec_of_clean_rep (cfg : Cfg) (rc : RCfg) (hC : cfg.saveOnCreate = true) (hD : cfg.saveOnDelete = true)
    (hre : cfg.rearm = true) (hf : cfg.applyFilter = true)
    (n : Nat) (l : Nat → Bool) (p : Nat → Bytes) (f : Ev → Bool) (o : Bool) (ls : List Label) (s : Nat) :
    let r := runMR cfg rc (init n l p f o, mon0) ls
    quiescent r.1 = true → r.1.closed = false → r.1.down = false → r.1.pipe = .live → s < r.1.n →
    (r.1.srcs s).listens = true → r.2.clean s = true →
    proj s r.1.dest = specProj r.1 s := by
  intro r hq hcl _ hl hsn hls hc
  exact spec_of_allinv hf
    (runMR_inv cfg rc hC hD hre (init n l p f o, mon0) ls (allinv_init cfg n l p f o) (qinv_init n l p f o)).1 s hq hcl hl hsn hls hc

end Logrange.PipeLts

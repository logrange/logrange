import Logrange.Proofs.RdMergeN
/-!
# `fiterator` as a transformer of lawful sources (C03/C16: WHERE and the range re-check ABOVE a merged cursor)

`FSrc σ` is `cursor.fiterator` over any iterator `σ` (in the code: the mixer tree `newCursor` built, or a single
`LogEventIterator`): `Get` = the skip loop `for !valid { le = it.Get(); if err break; valid = p(le); if !valid { Next() } }`,
`Next` = `it.Next(); valid = false`, `Release` = `it.Release()` (the cached event stays valid), `SetBackward` =
`it.SetBackward(); valid = false` (1a882be). `p` is `fltF(&le) && fitInRange()`. The real loop has no bound; here it runs
for (length of what the iterator below still delivers) + 1 rounds, which `getLoop_spec` shows to be enough.

`instLawfulFSrc`: if `σ` is a lawful source, so is `FSrc σ`, and its stream is the FILTER of the inner stream. `Next` needs
a preceding `Get` (`settled`): without it `fiterator.Next` moves the iterator below by one stored event, not by one
matching event — the rule every caller (`Query` loop, `Offset`) follows.
-/
set_option linter.unusedSectionVars false
set_option linter.unusedVariables false
namespace Logrange.MergeN
open Logrange.Mixer LawfulSource

variable {σ : Type} [Source σ] [LawfulSource σ]

structure FSrc (σ : Type) where
  inner : σ
  p : Ev → Bool
  valid : Bool := false
  le : Option Ev := none

namespace FSrc

def getLoop : Nat → FSrc σ → FSrc σ × Option Ev
  | 0, f => (f, none)
  | n + 1, f =>
    if f.valid then (f, f.le) else
    match Source.get f.inner with
    | (i', none) => ({ f with inner := i' }, none)
    | (i', some e) =>
      if f.p e then ({ f with inner := i', valid := true, le := some e }, some e)
      else getLoop n { f with inner := Source.next i', le := some e }

def get (f : FSrc σ) : FSrc σ × Option Ev := getLoop ((view f.inner).length + 1) f
def next (f : FSrc σ) : FSrc σ := { f with inner := Source.next f.inner, valid := false }
def release (f : FSrc σ) : FSrc σ := { f with inner := Source.release f.inner }
def setBackward (bk : Bool) (f : FSrc σ) : FSrc σ := { f with inner := Source.setBackward bk f.inner, valid := false }

instance : Source (FSrc σ) := ⟨get, next, release, setBackward⟩

def fview (f : FSrc σ) : List Ev := (view f.inner).filter f.p
def fwf (f : FSrc σ) : Prop :=
  wf f.inner ∧ (f.valid = true → ∃ e, f.le = some e ∧ (view f.inner).head? = some e ∧ f.p e = true ∧ settled f.inner)
def fsettled (f : FSrc σ) : Prop := settled f.inner ∧ (f.valid = true ∨ view f.inner = [])

theorem getLoop_spec : ∀ (n : Nat) (f : FSrc σ), fwf f → (view f.inner).length < n →
    (getLoop n f).2 = (fview f).head? ∧ fview (getLoop n f).1 = fview f ∧ fwf (getLoop n f).1 ∧
    dir (getLoop n f).1.inner = dir f.inner ∧ fsettled (getLoop n f).1 ∧ (getLoop n f).1.p = f.p := by
  intro n
  induction n with
  | zero => intro f _ h; omega
  | succ n ih =>
    intro f hw hn
    obtain ⟨inner, p, valid, le⟩ := f
    obtain ⟨hwi, hv⟩ := hw
    simp only at hwi hv hn
    rw [getLoop]
    cases valid with
    | true =>
      simp only [if_true]
      obtain ⟨e, he, hh, hp, hs⟩ := hv rfl
      subst he
      obtain ⟨ys, hys⟩ := List.head?_eq_some_iff.mp hh
      exact ⟨by simp [fview, hys, hp], trivial, ⟨hwi, hv⟩, trivial, ⟨hs, Or.inl rfl⟩, trivial⟩
    | false =>
      simp only [Bool.false_eq_true, if_false]
      obtain ⟨g1, g2, g3, g4, g5⟩ := LawfulSource.get_spec inner hwi
      generalize Source.get inner = res at g1 g2 g3 g4 g5
      obtain ⟨i', r⟩ := res
      simp only at g1 g2 g3 g4 g5
      cases r with
      | none =>
        simp only
        have hnil : view inner = [] := List.head?_eq_none_iff.mp g1.symm
        refine ⟨by simp [fview, hnil], by simp [fview, g2], ⟨g3, by intro h; cases h⟩, g4,
          ⟨g5, Or.inr (by show view i' = []; rw [g2, hnil])⟩, trivial⟩
      | some e =>
        simp only
        obtain ⟨ys, hcons⟩ := List.head?_eq_some_iff.mp g1.symm
        by_cases hp : p e = true
        · simp only [hp, if_true]
          exact ⟨by simp [fview, hcons, hp], by simp [fview, g2],
            ⟨g3, fun _ => ⟨e, rfl, by show (view i').head? = some e; rw [g2, hcons]; rfl, hp, g5⟩⟩, g4,
            ⟨g5, Or.inl rfl⟩, trivial⟩
        · simp only [hp, Bool.false_eq_true, if_false]
          obtain ⟨n1, n2, n3⟩ := LawfulSource.next_spec i' g3 g5
          have hlen : (view (Source.next i')).length < n := by
            rw [hcons] at hn; rw [n1, g2, hcons]; exact Nat.lt_of_succ_lt_succ hn
          obtain ⟨r1, r2, r3, r4, r5, r6⟩ := ih ⟨Source.next i', p, false, some e⟩
            ⟨n2, by intro h; cases h⟩ hlen
          have hfv : fview (⟨Source.next i', p, false, some e⟩ : FSrc σ) = fview ⟨inner, p, false, le⟩ := by
            simp [fview, n1, g2, hcons, hp]
          exact ⟨by rw [r1, hfv], by rw [r2, hfv], r3, by rw [r4]; simp only; rw [n3, g4], r5, r6⟩

instance instLawfulFSrc : LawfulSource (FSrc σ) where
  view := fview
  dir f := dir f.inner
  wf := fwf
  settled := fsettled
  get_spec f h := by
    obtain ⟨a, b, c, d, e, _⟩ := getLoop_spec ((view f.inner).length + 1) f h (Nat.lt_succ_self _)
    exact ⟨a, b, c, d, e⟩
  next_spec f h hs := by
    obtain ⟨hwi, hv⟩ := h
    obtain ⟨hsi, hd⟩ := hs
    obtain ⟨n1, n2, n3⟩ := LawfulSource.next_spec f.inner hwi hsi
    refine ⟨?_, ⟨n2, by intro h; cases h⟩, n3⟩
    show (view (Source.next f.inner)).filter f.p = ((view f.inner).filter f.p).tail
    rw [n1]
    rcases hd with hval | hnil
    · obtain ⟨e, _, hh, hp, _⟩ := hv hval
      obtain ⟨ys, hys⟩ := List.head?_eq_some_iff.mp hh
      simp [hys, hp]
    · rw [hnil]; rfl
  release_spec f h := by
    obtain ⟨hwi, hv⟩ := h
    obtain ⟨r1, r2, r3, r4⟩ := LawfulSource.release_spec f.inner hwi
    refine ⟨by show (view (Source.release f.inner)).filter f.p = _; rw [r1]; rfl, ⟨r2, ?_⟩, r3, ?_⟩
    · intro hval
      obtain ⟨e, he, hh, hp, hs⟩ := hv hval
      exact ⟨e, he, by show (view (Source.release f.inner)).head? = _; rw [r1]; exact hh, hp, r4 hs⟩
    · intro hs
      exact ⟨r4 hs.1, by
        rcases hs.2 with h | h
        · exact Or.inl h
        · exact Or.inr (by show view (Source.release f.inner) = []; rw [r1]; exact h)⟩
  setBackward_spec bk f h := by
    obtain ⟨s1, s2⟩ := LawfulSource.setBackward_spec bk f.inner h.1
    exact ⟨⟨s1, by intro h; cases h⟩, s2⟩

end FSrc
end Logrange.MergeN

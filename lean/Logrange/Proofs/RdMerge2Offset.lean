import Logrange.Proofs.RdMerge2
import Logrange.Proofs.RdOffsetBwd
set_option linter.unusedSectionVars false
namespace Logrange.Rd
section off2
variable (HG : GetFwdSpec) (HN : NextFwdSpec)
include HG HN

theorem m2_head_plus_k (n1 n2 : Nat) (j1 j2 : Journal) (k n : Nat) (hs1 : Sorted j1) (hs2 : Sorted j2) :
    readN n (offset (applyCorner (mk2 n1 n2 j1 j2) false) (k : Int)) =
      ((List.merge (flat j1) (flat j2) leTs).drop k).take n := by
  have D := m2_delivers HG HN (n1 := n1) (n2 := n2) hs1 hs2
  have := (D.readLoop n _ _ [] (D.offset_pos k (m2_head_rem n1 n2 j1 j2))).1
  simpa [readN] using this

end off2
end Logrange.Rd

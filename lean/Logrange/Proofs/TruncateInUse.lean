import Logrange.Proofs.TruncateDry
/-! DRYRUN announces what the run does — the whole command, any two visiting orders. One simulation of the real
MAXDBSIZE pass by the dry one, seen through an observation `o` of the report lines that may forget the deleted flag:
`o = id` when every candidate can be dropped (nobody else holds the partitions), `o = unflag` under the repaired
accounting (`acct = true`), whoever holds them. -/
namespace Logrange.Truncate
variable {acct : Bool}

/-- forget the deleted flag of a report line -/
def unflag (i : Info) : Info := { i with deleted := false }

/-- two entries that agree up to the flag -/
theorem unflag_eq {a b : Info} (h : unflag a = unflag b) : b = { a with deleted := b.deleted } := by
  cases a; cases b
  simp only [unflag, Info.mk.injEq] at h
  obtain ⟨h1, h2, h3, h4, h5, _⟩ := h
  subst h1; subst h2; subst h3; subst h4; subst h5
  rfl

theorem unflag_flag (a : Info) (b : Bool) : unflag { a with deleted := b } = unflag a := rfl

theorem unflag_takenInfo (dry : Bool) (a : Info) (b : Bool) (cks : List Chunk) :
    unflag (takenInfo dry { a with deleted := b } cks) = unflag (takenInfo dry a cks) := rfl

/-! `o` changes at most the flag (`ho`); the sorted insertion, `totalAfter` and the report filter read the other fields,
which `unflag` keeps definitionally. -/

section
variable (o : Info → Info) (ho : ∀ i, unflag (o i) = unflag i)
include ho

theorem notBefore_obs (infos : List Info) (ti : Info) (i : Nat) :
    notBefore ((infos.map o).getD i default) (o ti) = notBefore (infos.getD i default) ti := by
  simp only [List.getD_eq_getElem?_getD, List.getElem?_map]
  cases infos[i]? with
  | none => show notBefore (unflag default) (unflag (o ti)) = notBefore (unflag default) (unflag ti); rw [ho]
  | some x => show notBefore (unflag (o x)) (unflag (o ti)) = notBefore (unflag x) (unflag ti); rw [ho, ho]

theorem insertInfo_obs (infos : List Info) (ti : Info) :
    insertInfo (infos.map o) (o ti) = (insertInfo infos ti).map o := by
  unfold insertInfo
  simp only [List.length_map, notBefore_obs o ho, List.map_append, List.map_cons, List.map_take, List.map_drop]

theorem sortInfos_obs (l : List Info) :
    sortInfos (l.map o) = (sortInfos l).map o := by
  have h : ∀ (l acc : List Info), (l.map o).foldl insertInfo (acc.map o) = (l.foldl insertInfo acc).map o := by
    intro l
    induction l with
    | nil => intro acc; rfl
    | cons x xs ih => intro acc; rw [List.map_cons, List.foldl_cons, List.foldl_cons, insertInfo_obs o ho, ih]
  exact h l []

theorem totalAfter_obs (l : List Info) :
    totalAfter (l.map o) = totalAfter l := by
  have hafter : ∀ ti, (o ti).after = ti.after := fun ti => by
    have := congrArg Info.after (ho ti); exact this
  unfold totalAfter
  rw [List.foldl_map]
  exact congrArg (fun f => List.foldl f 0 l) (funext fun a => funext fun ti => congrArg (add64 a) (hafter ti))

theorem filter_obs (l : List Info) :
    (l.filter (fun ti => ti.after != ti.before)).map o = (l.map o).filter (fun ti => ti.after != ti.before) := by
  rw [List.filter_map]
  exact congrArg (fun f => (List.filter f l).map o) (funext fun ti =>
    (congrArg (fun x => x.after != x.before) (ho ti)).symm)

end

theorem sortInfos_unflag (l : List Info) : sortInfos (l.map unflag) = (sortInfos l).map unflag :=
  sortInfos_obs unflag (fun _ => rfl) l

theorem Ascending_drop (cks : List Chunk) (n : Nat) (h : Ascending cks) : Ascending (cks.drop n) :=
  List.Pairwise.sublist (List.drop_sublist _ _) h

/-- how the dry database `D` and the real database `R` are related at a candidate of the pass: the real pass can drop it,
or (repaired accounting) accounts for it anyway and `o` does not see the flag -/
def LinkedO (acct strict : Bool) (o : Info → Info) (D R : List Part) (ti : Info) : Prop :=
  0 < ti.after → ∃ q, dbFind D ti.src = some q ∧
    dbFind R ti.src = some { q with chunks := q.chunks.drop ti.chunksDeleted } ∧
    ((acct = true ∧ ∀ x, o { x with deleted := false } = o x) ∨
      canDelete q.users (truncate strict { dryRun := false, minSrc := 0, maxSrc := 1 }
        (q.chunks.drop ti.chunksDeleted)).chunks = true)

theorem globalLoop_sim_obs (strict : Bool) (p : Params) (o : Info → Info) (ho : ∀ i, unflag (o i) = unflag i) :
    ∀ (Id Ir : List Info) (ts : Nat) (D R : List Part),
    Id.map o = Ir.map o → (Id.map (·.src)).Nodup → (∀ ti ∈ Id, LinkedO acct strict o D R ti) →
    (globalLoop acct strict 0 1 { p with dryRun := true } Id ts D).1.map o =
      (globalLoop acct strict 0 1 { p with dryRun := false } Ir ts R).1.map o := by
  intro Id
  induction Id with
  | nil =>
    intro Ir ts D R heq _ _
    cases Ir with
    | nil => rfl
    | cons a l => cases heq
  | cons ti rest ih =>
    intro Ir ts D R heq hnd hl
    cases Ir with
    | nil => cases heq
    | cons ti' rest' =>
      have heq0 := heq
      rw [List.map_cons, List.map_cons, List.cons.injEq] at heq
      obtain ⟨hti, hrest⟩ := heq
      have hti' := congrArg unflag hti
      rw [ho, ho] at hti'
      have hti' := unflag_eq hti'
      generalize ti'.deleted = b at hti'
      subst hti'
      rw [List.map_cons, List.nodup_cons] at hnd
      by_cases h1 : p.maxDB < ts
      · rw [globalLoop_step_fst strict 0 1 { p with dryRun := true } ti rest ts D h1,
          globalLoop_step_fst strict 0 1 { p with dryRun := false } _ rest' ts R h1, List.map_cons, List.map_cons]
        unfold passRest
        -- the real pass looks the later candidates up as before
        have hl' : ∀ tj ∈ rest, LinkedO acct strict o D
            (passStep acct strict 0 1 { p with dryRun := false } { ti with deleted := b } ts R).2.2 tj := by
          intro tj htj ha
          obtain ⟨q, hD, hR, more⟩ := hl tj (List.mem_cons_of_mem _ htj) ha
          refine ⟨q, hD, ?_, more⟩
          rw [passWrite_find_ne ti.src tj.src R _ (passStep_write strict 0 1 _ { ti with deleted := b } ts R)
            (fun e => hnd.1 (e ▸ List.mem_map_of_mem htj))]
          exact hR
        by_cases h2 : 0 < ti.after
        · obtain ⟨q, hD, hR, hok⟩ := hl ti (List.mem_cons_self ..) h2
          obtain ⟨e1, e2⟩ := passStep_run_found (acct := acct) strict 0 1 { p with dryRun := false } rfl
            { ti with deleted := b } ts R _ h2 hR (hok.imp And.left id)
          rw [e1, e2, passStep_dry strict 0 1 { p with dryRun := true } rfl ti ts D q h2 hD,
            takenInfo_dry_drop ti q.chunks]
          refine List.cons_eq_cons.mpr ⟨?_, ih rest' _ D _ hrest hnd.2 hl'⟩
          rcases hok with ⟨_, hforget⟩ | hc
          · cases canDelete q.users (truncate strict { dryRun := false, minSrc := 0, maxSrc := 1 }
              (q.chunks.drop ti.chunksDeleted)).chunks
            · exact (hforget _).symm
            · rfl
          · rw [hc]; rfl
        · have h0 := Nat.eq_zero_of_not_pos h2
          rw [passStep_skip strict 0 1 _ ti ts D (Or.inl h0),
            passStep_skip strict 0 1 _ { ti with deleted := b } ts R (Or.inl h0)]
          exact List.cons_eq_cons.mpr ⟨hti, ih rest' ts D R hrest hnd.2
            (fun tj htj => hl tj (List.mem_cons_of_mem _ htj))⟩
      · rw [globalLoop_idle strict 0 1 { p with dryRun := true } _ ts D (Nat.le_of_not_lt h1),
          globalLoop_idle strict 0 1 { p with dryRun := false } _ ts R (Nat.le_of_not_lt h1)]
        exact heq0

/-- how the dry database `D` and the real database `R` are related at a candidate of the pass -/
def Linked (D R : List Part) (ti : Info) : Prop :=
  0 < ti.after → ∃ q, dbFind D ti.src = some q ∧
    dbFind R ti.src = some { q with chunks := q.chunks.drop ti.chunksDeleted } ∧
    q.users = 0 ∧ Ascending q.chunks ∧ (∀ c ∈ q.chunks, 2 ≤ c.size) ∧ ti.chunksDeleted ≤ q.chunks.length

theorem canDelete_rest (strict : Bool) (q : Part) (k : Nat) (hu : q.users = 0) (hs : Ascending q.chunks)
    (hsz : ∀ c ∈ q.chunks, 2 ≤ c.size) :
    canDelete q.users (truncate strict { dryRun := false, minSrc := 0, maxSrc := 1 } (q.chunks.drop k)).chunks = true := by
  rw [global_truncate_empties strict (q.chunks.drop k) (Ascending_drop _ _ hs) (fun c hc => hsz c (List.mem_of_mem_drop hc)),
    hu]
  rfl

theorem globalLoop_sim (strict : Bool) (p : Params) : ∀ (rest : List Info) (ts : Nat) (D R : List Part),
    (rest.map (·.src)).Nodup → (∀ ti ∈ rest, Linked D R ti) →
    (globalLoop acct strict 0 1 { p with dryRun := true } rest ts D).1 =
      (globalLoop acct strict 0 1 { p with dryRun := false } rest ts R).1 := by
  intro rest ts D R hnd hl
  have := globalLoop_sim_obs (acct := acct) strict p id (fun _ => rfl) rest rest ts D R rfl hnd (fun ti hti ha => by
    obtain ⟨q, hD, hR, hu, hasc, hsz, _⟩ := hl ti hti ha
    exact ⟨q, hD, hR, Or.inr (canDelete_rest strict q _ hu hasc hsz)⟩)
  rwa [List.map_id, List.map_id] at this

/-- how the dry database `D` and the real database `R` are related at a candidate of the pass (no condition on the
holders) -/
def LinkedU (D R : List Part) (ti : Info) : Prop :=
  0 < ti.after → ∃ q, dbFind D ti.src = some q ∧
    dbFind R ti.src = some { q with chunks := q.chunks.drop ti.chunksDeleted } ∧ ti.chunksDeleted ≤ q.chunks.length

theorem globalLoop_sim_in_use (strict : Bool) (p : Params) : ∀ (Id Ir : List Info) (ts : Nat) (D R : List Part),
    Id.map unflag = Ir.map unflag → (Id.map (·.src)).Nodup → (∀ ti ∈ Id, LinkedU D R ti) →
    (globalLoop true strict 0 1 { p with dryRun := true } Id ts D).1.map unflag =
      (globalLoop true strict 0 1 { p with dryRun := false } Ir ts R).1.map unflag := by
  intro Id Ir ts D R heq hnd hl
  refine globalLoop_sim_obs strict p unflag (fun _ => rfl) Id Ir ts D R heq hnd (fun ti hti ha => ?_)
  obtain ⟨q, hD, hR, _⟩ := hl ti hti ha
  exact ⟨q, hD, hR, Or.inl ⟨rfl, fun _ => rfl⟩⟩

/-! ### phase I, one partition, any holders -/

theorem phase1Part_dry_eq_run_in_use (strict : Bool) (p : Params) (part : Part) (hs : Ascending part.chunks)
    (hu : part.users ≠ 0 → part.sel = true → 0 < psize part.chunks) :
    (phase1Part strict { p with dryRun := true } part).report =
      (phase1Part strict { p with dryRun := false } part).report ∧
    (phase1Part strict { p with dryRun := true } part).info.map unflag =
      (phase1Part strict { p with dryRun := false } part).info.map unflag := by
  rcases Bool.eq_false_or_eq_true part.sel with hsel | hsel
  · by_cases hz : psize part.chunks = 0
    · have hu0 : part.users = 0 := Classical.byContradiction fun hne => by have := hu hne hsel; omega
      exact ⟨(phase1Part_dry_eq_run strict p part hu0 hs).1,
        congrArg _ (phase1Part_dry_eq_run strict p part hu0 hs).2⟩
    · rw [phase1Part_data_asc strict _ part hsel hz hs, phase1Part_data_asc strict _ part hsel hz hs]
      exact ⟨rfl, rfl⟩
  · rw [phase1Part_unsel strict _ part hsel, phase1Part_unsel strict _ part hsel]
    exact ⟨rfl, rfl⟩

theorem dryrun_obs (strict : Bool) (p : Params) (o : Info → Info) (ho : ∀ i, unflag (o i) = unflag i)
    (o1 o2 : List Part) (hp : o1.Perm o2) (hnd : (o1.map (·.src)).Nodup)
    (hq : ∀ q ∈ o1, Ascending q.chunks ∧
      (phase1Part strict { p with dryRun := true } q).report = (phase1Part strict { p with dryRun := false } q).report ∧
      (phase1Part strict { p with dryRun := true } q).info.map o =
        (phase1Part strict { p with dryRun := false } q).info.map o)
    (hok : (acct = true ∧ ∀ x, o { x with deleted := false } = o x) ∨ ∀ q ∈ o1, q.users = 0 ∧ WellSized q) :
    ∀ r, r ∈ ((run acct strict 0 1 { p with dryRun := true } o1).reports.map o) ↔
         r ∈ ((run acct strict 0 1 { p with dryRun := false } o2).reports.map o) := by
  have hq2 := fun q (h : q ∈ o2) => hq q (hp.mem_iff.mpr h)
  have hrep : o2.filterMap (fun q => (phase1Part strict { p with dryRun := false } q).report) =
      o2.filterMap (fun q => (phase1Part strict { p with dryRun := true } q).report) :=
    filterMap_congr_mem _ _ o2 fun q h => (hq2 q h).2.1.symm
  have hinf : (o2.filterMap (fun q => (phase1Part strict { p with dryRun := true } q).info)).map o =
      (o2.filterMap (fun q => (phase1Part strict { p with dryRun := false } q).info)).map o :=
    List.map_filterMap.trans ((filterMap_congr_mem _ _ o2 fun q h => (hq2 q h).2.2).trans List.map_filterMap.symm)
  -- the dry sorted list is the same for both visiting orders, and the real one agrees with it under `o`
  have hndI := p1_infos_nodup strict { p with dryRun := true } o1 hnd
  obtain ⟨hI, _, hIperm⟩ := insert_perm_invariant _ _
    (hp.filterMap (fun q => (phase1Part strict { p with dryRun := true } q).info)) hndI
  have hsorted : (sortInfos (o1.filterMap (fun q => (phase1Part strict { p with dryRun := true } q).info))).map o =
      (sortInfos (o2.filterMap (fun q => (phase1Part strict { p with dryRun := false } q).info))).map o := by
    rw [hI, ← sortInfos_obs o ho, hinf, sortInfos_obs o ho]
  have hts := (totalAfter_obs o ho _).symm.trans ((congrArg totalAfter hsorted).trans (totalAfter_obs o ho _))
  have hsim := globalLoop_sim_obs (acct := acct) strict p o ho _ _
    (totalAfter (sortInfos (o1.filterMap (fun q => (phase1Part strict { p with dryRun := true } q).info))))
    (o1.filterMap (fun q => (phase1Part strict { p with dryRun := true } q).part))
    (o2.filterMap (fun q => (phase1Part strict { p with dryRun := false } q).part)) hsorted
    ((hIperm.map _).nodup_iff.mpr hndI) (by
      intro ti hti ha
      obtain ⟨q, hqm, hD, hR, _, hnz⟩ := phase1_linked strict p o1 o2 hp hnd (fun q h => (hq q h).1) ti hti ha
      exact ⟨q, hD, hR, hok.imp id fun h =>
        canDelete_rest strict q _ (h q hqm).1 (hq q hqm).1 ((h q hqm).2.resolve_left hnz)⟩)
  intro r
  rw [run_reports, run_reports, hrep, ← hts, List.map_append, List.map_append, filter_obs o ho, filter_obs o ho, hsim,
    List.mem_append, List.mem_append, ((hp.filterMap _).map _).mem_iff]

/-- **DRYRUN announces exactly what the run does — the whole command.** For every layout, every parameter
combination and every visiting order of the two calls (`o1` for the dry run, `o2` for the run: two independent
walks over Go's map), with nobody else using the partitions: the dry run's reports (partitions, bytes, chunk counts,
deleted flags) are the run's reports. -/
theorem dryrun_equals_run (strict : Bool) (p : Params) (o1 o2 : List Part) (hp : o1.Perm o2)
    (hnd : (o1.map (·.src)).Nodup)
    (hq : ∀ q ∈ o1, q.users = 0 ∧ Ascending q.chunks ∧ WellSized q) :
    ∀ r, r ∈ (run acct strict 0 1 { p with dryRun := true } o1).reports ↔
         r ∈ (run acct strict 0 1 { p with dryRun := false } o2).reports := by
  have := dryrun_obs (acct := acct) strict p id (fun _ => rfl) o1 o2 hp hnd (fun q h =>
    ⟨(hq q h).2.1, (phase1Part_dry_eq_run strict p q (hq q h).1 (hq q h).2.1).1,
      congrArg _ (phase1Part_dry_eq_run strict p q (hq q h).1 (hq q h).2.1).2⟩)
    (Or.inr fun q h => ⟨(hq q h).1, (hq q h).2.2⟩)
  rwa [List.map_id, List.map_id] at this

/-- with the repaired accounting, whoever holds the partitions: every report line of the dry run is a report line of the
run up to the deleted flag, and vice versa -/
theorem dryrun_equals_run_in_use (strict : Bool) (p : Params) (o1 o2 : List Part) (hp : o1.Perm o2)
    (hnd : (o1.map (·.src)).Nodup)
    (hq : ∀ q ∈ o1, Ascending q.chunks ∧ WellSized q ∧ (q.users ≠ 0 → q.sel = true → 0 < psize q.chunks)) :
    ∀ r, r ∈ ((run true strict 0 1 { p with dryRun := true } o1).reports.map unflag) ↔
         r ∈ ((run true strict 0 1 { p with dryRun := false } o2).reports.map unflag) :=
  dryrun_obs strict p unflag (fun _ => rfl) o1 o2 hp hnd
    (fun q h => ⟨(hq q h).1, phase1Part_dry_eq_run_in_use strict p q (hq q h).1 (hq q h).2.2⟩)
    (Or.inl ⟨rfl, fun _ => rfl⟩)

/-! ### non-vacuity: a partition in use taken by the MAXDBSIZE pass — the dry run announces its drop, the run empties it
and reports the same line with `deleted = false`; the two differ in the flag only -/

example :
    let order : List Part := [⟨1, true, 1, [⟨1, 10, 5⟩]⟩, ⟨2, true, 0, [⟨1, 4, 3⟩]⟩]
    let dry := (run true true 0 1 { maxDB := 5, dryRun := true } order).reports
    let real := (run true true 0 1 { maxDB := 5, dryRun := false } order).reports
    dry ≠ real ∧ dry.map unflag = real.map unflag ∧ dry.map (·.src) = [1] ∧
      dry.map (·.deleted) = [true] ∧ real.map (·.deleted) = [false] := by
  decide

end Logrange.Truncate

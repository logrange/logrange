import Logrange.Props.C07Reach
import Logrange.Model.PersistJson
/-! C07: with the repairs of F-C07-901/902 every string a reachable state persists passes through `encoding/json` unchanged. -/
namespace Logrange.Persist
open Logrange.Generated.C07 Logrange.Props.C07Reach

/-- every stored string survives `encoding/json`, and the tag lines are distinct (no duplicate object key) -/
structure StableMem (m : Mem) : Prop where
  keys : ∀ e ∈ m.tmap, sanitize e.1 = e.1
  distinct : m.tmap.Pairwise (fun a b => a.1 ≠ b.1)
  pipes : ∀ p ∈ m.pipes, sanitizePipe p.cfg = p.cfg

theorem sanitize_of_unchanged {s : Bytes} (h : changedByJson s = false) : sanitize s = s := by
  simpa [changedByJson] using h

theorem aset_append_new {β : Type} : ∀ (acc : List (Bytes × β)) (k : Bytes) (v : β), (∀ e ∈ acc, e.1 ≠ k) → aset acc k v = acc ++ [(k, v)]
  | [], _, _, _ => rfl
  | x :: r, k, v, h => by
    have hx : ¬ (x.1 == k) = true := by simpa using h x (List.mem_cons_self ..)
    simp only [aset, hx, List.cons_append]
    rw [aset_append_new r k v (fun e he => h e (List.mem_cons_of_mem _ he))]
    rfl

theorem foldl_aset_distinct : ∀ (l acc : TMap), l.Pairwise (fun a b => a.1 ≠ b.1) → (∀ a ∈ acc, ∀ b ∈ l, a.1 ≠ b.1) →
    l.foldl (fun acc e => aset acc e.1 e.2) acc = acc ++ l
  | [], acc, _, _ => by simp
  | x :: l, acc, hp, hd => by
    simp only [List.foldl_cons]
    rw [aset_append_new acc x.1 x.2 (fun e he => hd e he x (List.mem_cons_self ..))]
    rw [foldl_aset_distinct l (acc ++ [(x.1, x.2)]) (List.pairwise_cons.mp hp).2 ?_]
    · simp
    · intro a ha b hb
      rcases List.mem_append.mp ha with h1 | h1
      · exact hd a h1 b (List.mem_cons_of_mem _ hb)
      · simp only [List.mem_singleton] at h1; subst h1
        exact (List.pairwise_cons.mp hp).1 b hb

theorem dedupLast_distinct (m : TMap) (h : m.Pairwise (fun a b => a.1 ≠ b.1)) : dedupLast m = m := by
  have := foldl_aset_distinct m [] h (by intro a ha; cases ha)
  simpa [dedupLast] using this

/-- **On stable values `encoding/json`'s string treatment is invisible**: the codec the server really uses (`jsonish K`, `K`
lawful) writes what `K` writes and reads back exactly the tag index and the pipe definitions -/
theorem codec_contract_on_stable (K : Codecs) (hK : K.Laws) (m : Mem) (hs : StableMem m) :
    (jsonish K).tidx.enc m.tmap = K.tidx.enc m.tmap ∧
    (jsonish K).tidx.dec ((jsonish K).tidx.enc m.tmap) = some m.tmap ∧
    (jsonish K).pipes.enc (m.pipes.map (·.cfg)) = K.pipes.enc (m.pipes.map (·.cfg)) ∧
    (jsonish K).pipes.dec ((jsonish K).pipes.enc (m.pipes.map (·.cfg))) = some (m.pipes.map (·.cfg)) := by
  have e1 : m.tmap.map (fun e => (sanitize e.1, e.2)) = m.tmap := by
    have : ∀ e ∈ m.tmap, (fun e : TagLine × Src => (sanitize e.1, e.2)) e = id e := by
      intro e he; simp [hs.keys e he]
    rw [List.map_congr_left this, List.map_id]
  have e2 : (m.pipes.map (·.cfg)).map sanitizePipe = m.pipes.map (·.cfg) := by
    rw [List.map_map]
    apply List.map_congr_left
    intro p hp; simp [hs.pipes p hp]
  refine ⟨?_, ?_, ?_, ?_⟩
  · simp only [jsonish, e1]
  · simp only [jsonish, e1, hK.tidx.rt, Option.map_some, dedupLast_distinct _ hs.distinct]
  · simp only [jsonish, e2]
  · simp only [jsonish, e2, hK.pipes.rt]

variable {K : Codecs} {parseOk : TagLine → Bool} {s : Srv}

theorem stable_of_parts (m m' : Mem) (hs : StableMem m) (ht : m'.tmap = m.tmap) (hp : m'.pipes.map (·.cfg) = m.pipes.map (·.cfg)) :
    StableMem m' := by
  refine ⟨by rw [ht]; exact hs.keys, by rw [ht]; exact hs.distinct, ?_⟩
  intro p hp'
  have : p.cfg ∈ m.pipes.map (·.cfg) := hp ▸ List.mem_map_of_mem hp'
  obtain ⟨q, hq, e⟩ := List.mem_map.mp this
  rw [← e]; exact hs.pipes q hq

/-- an enabled operation keeps the stored strings stable (the guards of the repairs are what makes CREATE do so) -/
theorem stable_step (h1 : getOrCreateJournalRefusesInvalidUtf8 = true) (h2 : newPPipeRefusesInvalidUtf8 = true)
    (hs : StableMem s.mem) (o : Op) (hen : enabled parseOk s o = true) : StableMem (step K s o).mem := by
  cases o with
  | newPartition tags src =>
    simp only [enabled, h1, Bool.true_and, Bool.and_eq_true, Bool.not_eq_true', List.any_eq_false] at hen
    obtain ⟨⟨_, habs⟩, hst⟩ := hen
    refine ⟨?_, ?_, hs.pipes⟩
    · intro e he
      simp only [step, List.mem_append, List.mem_singleton] at he
      rcases he with he | he
      · exact hs.keys e he
      · subst he; exact sanitize_of_unchanged hst
    · simp only [step]
      apply List.pairwise_append.mpr
      refine ⟨hs.distinct, by simp, ?_⟩
      intro a ha b hb
      simp only [List.mem_singleton] at hb; subst hb
      simpa using habs a ha
  | dropPartition src =>
    refine ⟨?_, ?_, hs.pipes⟩
    · intro e he; simp only [step] at he; exact hs.keys e (List.mem_filter.mp he).1
    · simp only [step]; exact hs.distinct.sublist List.filter_sublist
  | write src pieces => exact stable_of_parts s.mem _ hs (by simp only [step]) (by simp only [step])
  | dropChunks src n => exact hs
  | createPipe p =>
    simp only [enabled, h2, Bool.true_and, Bool.not_eq_true', Bool.or_eq_false_iff] at hen
    refine ⟨hs.keys, hs.distinct, ?_⟩
    intro q hq
    simp only [step, List.mem_append, List.mem_singleton] at hq
    rcases hq with hq | hq
    · exact hs.pipes q hq
    · subst hq
      simp [sanitizePipe, sanitize_of_unchanged hen.1.1, sanitize_of_unchanged hen.1.2, sanitize_of_unchanged hen.2]
  | deletePipe n =>
    refine ⟨hs.keys, hs.distinct, ?_⟩
    intro q hq; simp only [step] at hq; exact hs.pipes q (List.mem_filter.mp hq).1
  | savePipeInfo n pm => exact stable_of_parts s.mem _ hs rfl (setPoss_cfg _ _ _)

theorem stable_stepEv (hK : K.Laws) (h1 : getOrCreateJournalRefusesInvalidUtf8 = true) (h2 : newPPipeRefusesInvalidUtf8 = true)
    (h : Inv K parseOk s) (hs : StableMem s.mem) (ev : Ev) (hok : ev.ok = true) : StableMem (stepEv K parseOk s ev).mem := by
  have hg : ∀ o, StableMem (gstep K parseOk s o).mem := by
    intro o
    unfold gstep
    by_cases he : enabled parseOk s o = true
    · rw [if_pos he]; exact stable_step h1 h2 hs o he
    · rw [if_neg he]; exact hs
  cases hd : startDisk K parseOk s ev with
  | none =>
    cases ev with
    | op o => exact hg o
    | ensurePipe p => simp only [stepEv]; split; exact hs; exact hg _
    | crashIn o c => simp only [startDisk] at hd; split at hd <;> cases hd
    | _ => cases hd
  | some d =>
    -- the start is on the tag index of a stable memory and the definitions of a stable memory
    obtain ⟨m, ps, hr, _, hm, hps⟩ := start_shape hK h ev hok d hd
    obtain ⟨s', hr', he, _⟩ := start_never_refused hK h ev hok d hd
    rw [he, ← Outcome.started.inj (hr.symm.trans hr')]
    obtain ⟨m1, hm1, e1⟩ : ∃ m1, StableMem m1 ∧ m = m1.tmap := by
      rcases hm with e | ⟨o, _, _, hen, e⟩
      · exact ⟨_, hs, e⟩
      · exact ⟨_, stable_step (K := K) h1 h2 hs o hen, e⟩
    obtain ⟨m2, hm2, e2⟩ : ∃ m2, StableMem m2 ∧ ps = m2.pipes.map (·.cfg) := by
      rcases hps with e | ⟨o, _, _, hen, e⟩
      · exact ⟨_, hs, e⟩
      · exact ⟨_, stable_step (K := K) h1 h2 hs o hen, e⟩
    exact stable_of_parts ⟨m1.tmap, [], m2.pipes⟩ _ ⟨hm1.keys, hm1.distinct, hm2.pipes⟩
      (by simp [recovered, e1]) (by simp [recovered, e2, List.map_map, Function.comp_def])

theorem stable_run (hK : K.Laws) (h1 : getOrCreateJournalRefusesInvalidUtf8 = true) (h2 : newPPipeRefusesInvalidUtf8 = true) :
    ∀ (evs : List Ev) (s : Srv), Inv K parseOk s → StableMem s.mem → evs.all Ev.ok = true →
      StableMem (runEv K parseOk s evs).mem
  | [], _, _, hs, _ => hs
  | ev :: evs, s, h, hs, hok => by
    simp only [List.all_cons, Bool.and_eq_true] at hok
    exact stable_run hK h1 h2 evs _ (wf_step hK h ev hok.1) (stable_stepEv hK h1 h2 h hs ev hok.1) hok.2

end Logrange.Persist

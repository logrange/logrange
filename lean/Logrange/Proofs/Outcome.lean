import Logrange.Model.Outcome
/-! How a run ended is settled branch by branch, step by step and, at a checked slice or index, by its bounds:
the decoders' proofs go through these without unfolding `Outcome.bind` or the checked operations. -/
namespace Logrange

/-- `split` re-simplifies the whole goal at every branch, which the nested conditionals of the decoders cannot afford -/
theorem ite_of {α : Sort _} (P : α → Prop) {c : Prop} [Decidable c] {a b : α} (ha : c → P a) (hb : ¬c → P b) :
    P (if c then a else b) := by
  cases ‹Decidable c› with
  | isTrue h => exact ha h
  | isFalse h => exact hb h

theorem ite_both {α : Sort _} (P : α → Prop) {c : Prop} [Decidable c] {a b : α} (ha : P a) (hb : P b) :
    P (if c then a else b) :=
  ite_of P (fun _ => ha) fun _ => hb

namespace Outcome

/-- `NoPanic`, `Fueled`: motives for `ite_of` -/
abbrev NoPanic (o : Outcome α) : Prop := o.isPanic = false
abbrev Fueled (o : Outcome α) : Prop := o.isOutOfFuel = false

def Ends (o : Outcome α) : Prop := o.isPanic = false ∧ o.isOutOfFuel = false

theorem bind_of (Q : Outcome β → Prop) (herr : Q .err) (hfuel : Q .outOfFuel) {x : Outcome α} {f : α → Outcome β}
    (hx : x.isPanic = false) (hf : ∀ a, x = .ok a → Q (f a)) : Q (x.bind f) := by
  cases x with
  | ok a => exact hf a rfl
  | err => exact herr
  | panic w => cases hx
  | outOfFuel => exact hfuel

theorem bind_isOutOfFuel_false {x : Outcome α} {f : α → Outcome β}
    (hx : x.isOutOfFuel = false) (hf : ∀ a, x = .ok a → (f a).isOutOfFuel = false) : (x.bind f).isOutOfFuel = false := by
  cases x with
  | ok a => exact hf a rfl
  | err => rfl
  | panic w => rfl
  | outOfFuel => cases hx

abbrev Returns (o : Outcome α) : Prop := o.isOk = true

theorem Returns.ends {o : Outcome α} (h : Returns o) : Ends o := by
  cases o with
  | ok a => exact ⟨rfl, rfl⟩
  | _ => cases h

end Outcome
end Logrange

namespace Go
open Logrange

theorem index_ok {α : Type} (l : List α) (i : Nat) (h : i < l.length) : Go.index l i = .ok l[i] := by
  unfold Go.index
  rw [List.getElem?_eq_getElem h]

end Go

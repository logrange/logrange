import Logrange.Proofs.RdOffsetLaws
import Logrange.Proofs.RdIterFwd
import Logrange.Proofs.RdIterBwd
/-!
Offset laws for a one-source cursor (C16): the backward walk and the two direction switches.
Backward, a cursor stands *after* `b` records (`bCount`); it delivers `BL j w b`, the matching records among
the first `b` in reverse stored order.
-/
set_option linter.unusedSectionVars false
set_option linter.unusedVariables false
namespace Logrange.Rd

def BL (j : Journal) (w : Bool) (b : Nat) : List Rec := (((flat j).take b).filter (keepW w)).reverse

theorem ob_BL_zero (j : Journal) (w : Bool) : BL j w 0 = [] := by simp [BL]

theorem ob_BL_some {j : Journal} {w : Bool} {b : Nat} {r : Rec} (hb : 0 < b) (h : (flat j)[b - 1]? = some r) :
    BL j w b = if keepW w r then r :: BL j w (b - 1) else BL j w (b - 1) := by
  obtain ⟨b', rfl⟩ : ∃ b', b = b' + 1 := ⟨b - 1, by omega⟩
  simp only [Nat.add_sub_cancel] at h ⊢
  unfold BL
  rw [List.take_succ, h]
  by_cases hk : keepW w r = true <;> simp [List.filter_append, hk]

/-- facts about the components of a one-source cursor walking backward, standing after `b` records -/
abbrev StB (j : Journal) (w : Bool) (it : It) (v : Bool) (l : Option Rec) (b : Nat) : Prop :=
  WF j it ∧ it.bkwd = true ∧ bCount j it = b ∧
  (w = true → v = true → ∃ r, l = some r ∧ 0 < b ∧ (flat j)[b - 1]? = some r ∧ r.keep = true ∧ OnRecord j it)

def AbsB (name : Nat) (j : Journal) (w : Bool) (c : Cur) (b : Nat) : Prop :=
  ∃ it v l m, c = cur1 name j it w v l m ∧ StB j w it v l b

/-- the cursor has just done a backward `Get`: it sits on a matching record, or before the first record -/
def PostB (name : Nat) (j : Journal) (w : Bool) (c : Cur) (b : Nat) : Prop :=
  ∃ it v l m, c = cur1 name j it w v l m ∧ StB j w it v l b ∧
    ((b = 0 ∧ it.ci = none) ∨ (∃ r, 0 < b ∧ (flat j)[b - 1]? = some r ∧ keepW w r = true ∧ OnRecord j it))

theorem ob_post_abs {name j w c b} (h : PostB name j w c b) : AbsB name j w c b := by
  obtain ⟨it, v, l, m, e, st, _⟩ := h; exact ⟨it, v, l, m, e, st⟩

theorem ob_bCount_le (j : Journal) (it : It) : bCount j it ≤ (flat j).length := by
  unfold bCount; split <;> exact flatIdx_le _ _

section bwd
variable (HGB : bw_GetBwdSpecB) (HNB : bw_NextBwdSpecB)
include HGB HNB

theorem ob_curNext {name j w c b} (hs : Sorted j) (hp : PosIds j) (hcb : bw_ChunkBound j) (h : AbsB name j w c b) :
    AbsB name j w (curNext c) (b - 1) := by
  obtain ⟨it, v, l, m, rfl, hst⟩ := h
  obtain ⟨hwf, hb, hc, _⟩ := hst
  obtain ⟨h1, h2, h3⟩ := HNB j it hs hp hcb hwf hb
  refine ⟨next j it, (if w then false else v), l, m, pg_curNext .., ?_⟩
  refine ⟨h1, h2, by rw [h3, hc], ?_⟩
  intro hw hv; subst hw; simp at hv

/-- post-condition of a backward `Get` from `b` -/
def GetPostB (name : Nat) (j : Journal) (w : Bool) (c' : Cur) (res : Option Rec) (b : Nat) : Prop :=
  ∃ b', PostB name j w c' b' ∧ BL j w b' = BL j w b ∧ res = (BL j w b).head?

theorem ob_get_it {j : Journal} {it : It} {b : Nat} (hs : Sorted j) (hp : PosIds j) (hcb : bw_ChunkBound j)
    (hwf : WF j it) (hb : it.bkwd = true) (hc : bCount j it = b) :
    WF j (get j it).1 ∧ (get j it).1.bkwd = true ∧ bCount j (get j it).1 = b ∧
    (((get j it).2 = none ∧ b = 0 ∧ (get j it).1.ci = none) ∨
     ∃ x, (get j it).2 = some x ∧ 0 < b ∧ (flat j)[b - 1]? = some x ∧ OnRecord j (get j it).1) := by
  obtain ⟨g1, g2, g3, g4, g5, g6⟩ := HGB j it hs hp hcb hwf hb
  rw [hc] at g1 g4
  refine ⟨g2, g3, g4, ?_⟩
  have hle : b ≤ (flat j).length := hc ▸ ob_bCount_le j it
  by_cases h0 : b = 0
  · rw [if_pos h0] at g1; exact Or.inl ⟨g1, h0, g6 g1⟩
  · rw [if_neg h0, List.getElem?_eq_getElem (by omega)] at g1
    exact Or.inr ⟨_, g1, by omega, List.getElem?_eq_getElem (by omega), g5 (by rw [g1]; rfl)⟩

theorem ob_fGetLoop {name j} (hs : Sorted j) (hp : PosIds j) (hcb : bw_ChunkBound j) : ∀ (fuel : Nat) (c : Cur) (b : Nat),
    AbsB name j true c b → b < fuel → GetPostB name j true (fGetLoop fuel c).1 (fGetLoop fuel c).2 b := by
  intro fuel
  induction fuel with
  | zero => intro c b _ hf; omega
  | succ f ih =>
    intro c b h hf
    obtain ⟨it, v, l, m, rfl, hst⟩ := h
    obtain ⟨hwf, hb, hc, hv⟩ := hst
    rw [pg_fGetLoop_succ]
    cases v with
    | true =>
      obtain ⟨r, hl, hpos, hr, hk, hon⟩ := hv rfl rfl
      simp only [if_true]
      have hkw : keepW true r = true := by simp [keepW, hk]
      refine ⟨b, ⟨it, true, l, m, rfl, ⟨hwf, hb, hc, hv⟩, Or.inr ⟨r, hpos, hr, hkw, hon⟩⟩, rfl, ?_⟩
      rw [ob_BL_some hpos hr]; simp [hkw, hl]
    | false =>
      simp only [Bool.false_eq_true, if_false]
      obtain ⟨g2, g3, g4, d⟩ := ob_get_it HGB HNB hs hp hcb hwf hb hc
      rcases d with ⟨hg, rfl, hci⟩ | ⟨x, hg, hpos, hx, hon⟩
      · rw [hg]
        refine ⟨0, ⟨(get j it).1, false, l, m, rfl, ?_, Or.inl ⟨rfl, hci⟩⟩, rfl, by simp [ob_BL_zero]⟩
        exact ⟨g2, g3, g4, by intro _ h; cases h⟩
      · rw [hg]
        by_cases hk : (!true || x.keep) = true
        · simp only [hk, if_true]
          have hk' : x.keep = true := by simpa using hk
          have hkw : keepW true x = true := by simp [keepW, hk']
          refine ⟨b, ⟨(get j it).1, true, some x, m, rfl, ?_, Or.inr ⟨x, hpos, hx, hkw, hon⟩⟩, rfl, ?_⟩
          · exact ⟨g2, g3, g4, fun _ _ => ⟨x, rfl, hpos, hx, hk', hon⟩⟩
          · rw [ob_BL_some hpos hx]; simp [hkw]
        · simp only [hk, if_false, Bool.false_eq_true, if_true]
          have hk' : keepW true x = false := by simpa [keepW] using hk
          obtain ⟨n1, n2, n3⟩ := HNB j (get j it).1 hs hp hcb g2 g3
          rw [g4] at n3
          have habs : AbsB name j true (cur1 name j (next j (get j it).1) true false (some x) m) (b - 1) :=
            ⟨_, _, _, _, rfl, ⟨n1, n2, n3, by intro _ h; simp at h⟩⟩
          obtain ⟨b', p', f', r'⟩ := ih _ (b - 1) habs (by omega)
          have hBL : BL j true (b - 1) = BL j true b := by rw [ob_BL_some hpos hx]; simp [hk']
          exact ⟨b', p', by rw [f', hBL], by rw [r', hBL]⟩

theorem ob_curGet {name j w c b} (hs : Sorted j) (hp : PosIds j) (hcb : bw_ChunkBound j) (h : AbsB name j w c b) :
    GetPostB name j w (curGet c).1 (curGet c).2 b := by
  cases w with
  | true =>
    obtain ⟨it, v, l, m, rfl, hst⟩ := h
    rw [pg_curGet_true]
    have hle : b ≤ (flat j).length := by
      rw [← hst.2.2.1]; exact ob_bCount_le _ _
    exact ob_fGetLoop HGB HNB hs hp hcb _ _ b ⟨it, v, l, m, rfl, hst⟩ (by omega)
  | false =>
    obtain ⟨it, v, l, m, rfl, hst⟩ := h
    obtain ⟨hwf, hb, hc, _⟩ := hst
    rw [pg_curGet_false]
    obtain ⟨g2, g3, g4, d⟩ := ob_get_it HGB HNB hs hp hcb hwf hb hc
    have hst' : StB j false (get j it).1 v l b := ⟨g2, g3, g4, by intro h; cases h⟩
    rcases d with ⟨hg, rfl, hci⟩ | ⟨x, hg, hpos, hx, hon⟩
    · exact ⟨0, ⟨(get j it).1, v, l, m, rfl, hst', Or.inl ⟨rfl, hci⟩⟩, rfl, by simp [hg, ob_BL_zero]⟩
    · refine ⟨b, ⟨(get j it).1, v, l, m, rfl, hst', Or.inr ⟨x, hpos, hx, by simp [keepW], hon⟩⟩, rfl, ?_⟩
      rw [hg, ob_BL_some hpos hx]; simp [keepW]

theorem ob_delivers {name j w} (hs : Sorted j) (hp : PosIds j) (hcb : bw_ChunkBound j) :
    Delivers (fun c L => ∃ b, AbsB name j w c b ∧ BL j w b = L) (fun c L => ∃ b, PostB name j w c b ∧ BL j w b = L) where
  get := by
    rintro c L ⟨b, h, rfl⟩
    obtain ⟨b', p, f, r⟩ := ob_curGet HGB HNB hs hp hcb h
    exact ⟨r, b', p, f⟩
  next := by
    rintro c L ⟨b, h, rfl⟩
    refine ⟨b - 1, ob_curNext HGB HNB hs hp hcb (ob_post_abs h), ?_⟩
    obtain ⟨it, v, l, m, _, _, hd⟩ := h
    rcases hd with ⟨h0, _⟩ | ⟨r, hpos, hr, hk, _⟩
    · subst h0; simp [ob_BL_zero]
    · rw [ob_BL_some hpos hr]; simp [hk]
  settled := fun ⟨b, h, f⟩ => ⟨b, ob_post_abs h, f⟩

end bwd
end Logrange.Rd

namespace Logrange.Rd

/-! ## direction switches -/

theorem ob_flatIdx_mono (j : Journal) (c k : Nat) : flatIdx j ⟨c, k⟩ ≤ flatIdx j ⟨c, k + 1⟩ := by
  induction j with
  | nil => simp [flatIdx]
  | cons ch rest ih =>
    simp only [flatIdx]
    have : (if ch.id < c then ch.cnt else if ch.id = c then min k ch.cnt else 0) ≤
        (if ch.id < c then ch.cnt else if ch.id = c then min (k + 1) ch.cnt else 0) := by
      split
      · exact Nat.le_refl _
      · split
        · omega
        · exact Nat.le_refl _
    omega

theorem ob_bCount_off (j : Journal) {it : It} (hci : it.ci = none) : fIdx j it ≤ bCount j it := by
  have h1 : fIdx j it = flatIdx j ⟨it.cid, it.idx⟩ := by unfold fIdx effPos; rw [hci]; rfl
  have h2 : bCount j it = flatIdx j ⟨it.cid, it.idx + 1⟩ := by unfold bCount; rw [hci]
  rw [h1, h2]; exact ob_flatIdx_mono j it.cid it.idx

/-- sitting on a record: backward count = forward index + 1 -/
theorem ob_bCount_on {j : Journal} {it : It} (hs : Sorted j) (hwf : WF j it) (ho : OnRecord j it) :
    bCount j it = fIdx j it + 1 ∧ fIdx j it < (flat j).length := by
  obtain ⟨c, hc, h0, hlt⟩ := ho
  unfold WF at hwf; rw [hc] at hwf
  obtain ⟨_, ⟨ch, hm, he⟩, _, _, _⟩ := hwf
  have hcnt : cntOf j c.chunk = ch.cnt := by rw [← he]; exact cntOf_mem hs hm
  rw [hcnt] at hlt
  have hb : bCount j it = flatIdx j ⟨ch.id, (c.pos + 1).toNat⟩ := by unfold bCount; rw [hc, he]
  have hf : fIdx j it = flatIdx j ⟨ch.id, c.pos.toNat⟩ := by unfold fIdx effPos; rw [hc, he]
  have hle := flatIdx_le j ⟨ch.id, (c.pos + 1).toNat⟩
  have e1 : (c.pos + 1).toNat = c.pos.toNat + 1 := by omega
  have hklt : c.pos.toNat < ch.cnt := by omega
  rw [flatIdx_in hs hm, e1, Nat.min_eq_left (by omega)] at hle
  rw [hb, hf, flatIdx_in hs hm, flatIdx_in hs hm (c.pos.toNat), e1, Nat.min_eq_left (by omega : c.pos.toNat + 1 ≤ ch.cnt),
    Nat.min_eq_left (by omega : c.pos.toNat ≤ ch.cnt)]
  constructor <;> omega

/-! `setBackward` only sets the flag: `WF`, `bCount`, `fIdx`, `OnRecord` and `ci` of the result are those of the iterator by
definition, and the switch lemmas use them so. -/

section switches
variable (HG : GetFwdSpec) (HN : NextFwdSpec)
include HG HN

/-- forward `Get`, then `SetBackward(true)` -/
theorem ob_switch_back {name j w c i} (hs : Sorted j) (h : Abs name j w false c i) :
    (∀ r, (curGet c).2 = some r → ∃ i', PostB name j w (curSetBackward (curGet c).1 true) (i' + 1) ∧
        FL j w i' = FL j w i ∧ (flat j)[i']? = some r ∧ keepW w r = true) ∧
    ((curGet c).2 = none → AbsB name j w (curSetBackward (curGet c).1 true) (flat j).length ∧ FL j w i = []) := by
  obtain ⟨i', it', v', l', m', e, st, _, onrec, f, r, d⟩ := pg_curGet_abs HG HN hs h
  unfold St at st
  obtain ⟨hwf, hb, hi, _, _, _⟩ := st
  obtain ⟨o1, o2⟩ := onrec rfl
  have hcur : curSetBackward (curGet c).1 true = cur1 name j (setBackward it' true) w (if w then false else v') l' m' := by
    rw [e, pg_curSetBackward]
  have hcache : ∀ b, w = true → (if w then false else v') = true → ∃ r, l' = some r ∧ 0 < b ∧ (flat j)[b - 1]? = some r ∧ r.keep = true ∧ OnRecord j (setBackward it' true) := by
    intro b hw hv; subst hw; simp at hv
  constructor
  · intro x hx
    rcases d with ⟨hn, _⟩ | ⟨r', hr', hget, hk⟩
    · rw [hx] at hn; cases hn
    · rw [hx] at hr'; cases hr'
      have hon := o1 (by rw [hx]; rfl)
      obtain ⟨hbc, _⟩ := ob_bCount_on hs hwf hon
      refine ⟨i', ⟨setBackward it' true, _, l', m', hcur, ?_, Or.inr ⟨x, by omega, by simpa using hget, hk, hon⟩⟩, f, hget, hk⟩
      exact ⟨hwf, rfl, by rw [← hi, ← hbc]; rfl, hcache _⟩
  · intro hx
    rcases d with ⟨_, hn⟩ | ⟨r', hr', _, _⟩
    · have hci := o2 hx
      have hnil : FL j w i = [] := by rw [hx] at r; exact List.head?_eq_none_iff.mp r.symm
      refine ⟨⟨setBackward it' true, _, l', m', hcur, ?_⟩, hnil⟩
      refine ⟨hwf, rfl, ?_, hcache _⟩
      show bCount j it' = _
      have h3 := ob_bCount_off j hci
      have h4 := ob_bCount_le j it'
      omega
    · rw [hx] at hr'; cases hr'

/-- `SetBackward(false)` after a backward `Get` -/
theorem ob_switch_fwd {name j w c b} (hs : Sorted j) (h : PostB name j w c b) :
    ∃ i, Abs name j w false (curSetBackward c false) i ∧
      ((b = 0 ∧ i = 0) ∨ (∃ r, 0 < b ∧ i = b - 1 ∧ (flat j)[i]? = some r ∧ keepW w r = true)) := by
  obtain ⟨it, v, l, m, rfl, st, d⟩ := h
  obtain ⟨hwf, hb, hc, _⟩ := st
  have mkSt : ∀ i, fIdx j it = i → St j w false (setBackward it false) (if w then false else v) l i := by
    intro i hi
    unfold St
    refine ⟨hwf, rfl, hi, ?_, (by intro h; cases h), ?_⟩
    · intro hw hv; subst hw; simp at hv
    · intro _ hw hv; subst hw; simp at hv
  rcases d with ⟨h0, hci⟩ | ⟨r, hpos, hr, hk, hon⟩
  · have h3 := ob_bCount_off j hci
    have hz : fIdx j it = 0 := by omega
    exact ⟨0, ⟨_, _, _, _, pg_curSetBackward .., mkSt 0 hz⟩, Or.inl ⟨h0, rfl⟩⟩
  · obtain ⟨hbc, _⟩ := ob_bCount_on hs hwf hon
    have hz : fIdx j it = b - 1 := by omega
    exact ⟨b - 1, ⟨_, _, _, _, pg_curSetBackward .., mkSt _ hz⟩, Or.inr ⟨r, hpos, rfl, hr, hk⟩⟩

end switches
end Logrange.Rd

namespace Logrange.Rd

/-! ## `Offset` with a negative argument -/

theorem ob_iter_id (name j it w v l m) (pos : PosId) :
    iterateToPos (cur1 name j it w v l m) pos = cur1 name j it w v l m := by
  simp [iterateToPos, cur1]

theorem ob_FL_suffix (j : Journal) (w : Bool) (b : Nat) :
    FL j w b = (FL j w 0).drop (BL j w b).length ∧ (FL j w 0).length = (BL j w b).length + (FL j w b).length := by
  have h : FL j w 0 = ((flat j).take b).filter (keepW w) ++ FL j w b := by
    unfold FL
    rw [List.drop_zero, ← List.filter_append, List.take_append_drop]
  have hl : (BL j w b).length = (((flat j).take b).filter (keepW w)).length := by simp [BL]
  constructor
  · rw [h, hl, List.drop_left]
  · rw [h, hl, List.length_append]

theorem ob_neg_succ (k : Nat) : ((-((k + 1 : Nat) : Int)) == 0) = false ∧ (-((k + 1 : Nat) : Int)) < 0 ∧
    (-((k + 1 : Nat) : Int)).natAbs = k + 1 :=
  ⟨by simp only [beq_eq_false_iff_ne, ne_eq]; omega, by omega, by omega⟩

theorem ob_offset_unfold_some (c : Cur) (k : Nat) (x : Rec) (hx : (curGet c).2 = some x) :
    offset c (-((k + 1 : Nat) : Int)) =
      iterateToPos (curSetBackward (offsetSteps (k + 1)
        (iterateToPos (curSetBackward (curGet c).1 true) (curPos (curGet c).1)) (curPos (curGet c).1)).1 false)
        (offsetSteps (k + 1)
          (iterateToPos (curSetBackward (curGet c).1 true) (curPos (curGet c).1)) (curPos (curGet c).1)).2 := by
  obtain ⟨h1, h2, h3⟩ := ob_neg_succ k
  rw [offset, h1]
  simp only [Bool.false_eq_true, if_false, h2, if_true, h3, hx]

theorem ob_offset_unfold_none (c : Cur) (k : Nat) (hx : (curGet c).2 = none) :
    offset c (-((k + 1 : Nat) : Int)) =
      iterateToPos (curSetBackward (offsetSteps k
        (curGet (curSetBackward (curGet c).1 true)).1 (curPos (curGet (curSetBackward (curGet c).1 true)).1)).1 false)
        (offsetSteps k
          (curGet (curSetBackward (curGet c).1 true)).1 (curPos (curGet (curSetBackward (curGet c).1 true)).1)).2 := by
  obtain ⟨h1, h2, h3⟩ := ob_neg_succ k
  rw [offset, h1]
  simp only [Bool.false_eq_true, if_false, h2, if_true, h3, hx, Nat.add_sub_cancel]

section neg
variable (HG : GetFwdSpec) (HN : NextFwdSpec) (HGB : bw_GetBwdSpecB) (HNB : bw_NextBwdSpecB)
include HG HN HGB HNB

/-- after the backward walk: switch forward and express what is left in terms of the whole forward list -/
theorem ob_finish {name j w c b} (hs : Sorted j) (h : PostB name j w c b) (pos : PosId) :
    ∃ i, Abs name j w false (iterateToPos (curSetBackward c false) pos) i ∧
      FL j w i = (FL j w 0).drop ((BL j w b).length - 1) := by
  obtain ⟨i, ha, hd⟩ := ob_switch_fwd HG HN hs h
  have hid : iterateToPos (curSetBackward c false) pos = curSetBackward c false := by
    obtain ⟨it, v, l, m, e, _⟩ := ha
    rw [e, ob_iter_id]
  rw [hid]
  refine ⟨i, ha, ?_⟩
  rcases hd with ⟨h0, hi0⟩ | ⟨r, hpos, hi, hr, hk⟩
  · subst h0; subst hi0; simp [ob_BL_zero]
  · have hb : BL j w b = r :: BL j w (b - 1) := by
      rw [hi] at hr; rw [ob_BL_some hpos hr]; simp [hk]
    rw [hb, hi, (ob_FL_suffix j w (b - 1)).1]; simp

theorem ob_walk_back {name j w c b} (hs : Sorted j) (hp : PosIds j) (hcb : bw_ChunkBound j) (h : PostB name j w c b)
    (k : Nat) (pos : PosId) :
    ∃ i, Abs name j w false (iterateToPos (curSetBackward (offsetSteps k c pos).1 false) (offsetSteps k c pos).2) i ∧
      FL j w i = (FL j w 0).drop ((BL j w b).length - k - 1) := by
  obtain ⟨b', hp', hb'⟩ := (ob_delivers HGB HNB hs hp hcb).steps k c _ pos ⟨b, h, rfl⟩
  obtain ⟨i, ha, hf⟩ := ob_finish HG HN HGB HNB hs hp' (offsetSteps k c pos).2
  exact ⟨i, ha, by rw [hf, hb', List.length_drop]⟩

/-- **Offset(−k)** from any forward state: the cursor moves back over `k` matching events (or to the start) -/
theorem ob_offset_neg {name j w c i} (hs : Sorted j) (hp : PosIds j) (hcb : bw_ChunkBound j) (k : Nat)
    (h : Abs name j w false c i) :
    ∃ i', Abs name j w false (offset c (-(k : Int))) i' ∧
      FL j w i' = (FL j w 0).drop (((FL j w 0).length - (FL j w i).length) - k) := by
  obtain ⟨sfx1, sfx2⟩ := ob_FL_suffix j w i
  cases k with
  | zero =>
    refine ⟨i, by simpa [offset] using h, ?_⟩
    have : (FL j w 0).length - (FL j w i).length - 0 = (BL j w i).length := by omega
    rw [this]; exact sfx1
  | succ k =>
    obtain ⟨hsome, hnone⟩ := ob_switch_back HG HN hs h
    cases hx : (curGet c).2 with
    | some x =>
      obtain ⟨i1, hpost, f1, hget, hkx⟩ := hsome x hx
      rw [ob_offset_unfold_some c k x hx]
      have hid : iterateToPos (curSetBackward (curGet c).1 true) (curPos (curGet c).1) = curSetBackward (curGet c).1 true := by
        obtain ⟨it, v, l, m, e, _⟩ := hpost
        rw [e, ob_iter_id]
      rw [hid]
      obtain ⟨i', ha', hf'⟩ := ob_walk_back HG HN HGB HNB hs hp hcb hpost (k + 1) (curPos (curGet c).1)
      refine ⟨i', ha', ?_⟩
      rw [hf']
      have hbl : BL j w (i1 + 1) = x :: BL j w i1 := by
        rw [ob_BL_some (Nat.succ_pos _) (by simpa using hget)]; simp [hkx]
      obtain ⟨_, s2⟩ := ob_FL_suffix j w i1
      rw [f1] at s2
      rw [hbl, List.length_cons]
      -- not `congr 1`: it first tries to close the goal by unfolding both sides
      refine congrArg (fun n => List.drop n (FL j w 0)) ?_
      omega
    | none =>
      obtain ⟨habs, hnil⟩ := hnone hx
      rw [ob_offset_unfold_none c k hx]
      obtain ⟨b1, hp1, fb1, _⟩ := ob_curGet HGB HNB hs hp hcb habs
      obtain ⟨i', ha', hf'⟩ := ob_walk_back HG HN HGB HNB hs hp hcb hp1 k (curPos (curGet (curSetBackward (curGet c).1 true)).1)
      refine ⟨i', ha', ?_⟩
      rw [hf', fb1]
      obtain ⟨_, s3⟩ := ob_FL_suffix j w (flat j).length
      rw [of_FL_len] at s3
      rw [hnil]
      refine congrArg (fun n => List.drop n (FL j w 0)) ?_
      simp only [List.length_nil] at s3 ⊢
      omega

end neg
end Logrange.Rd

namespace Logrange.Rd

/-! ## the three laws for a one-source cursor -/

/-- every chunk id is below the id that stands for `tail` (0xFFFFFFFFFFFFFFFF in the code) -/
def IdsBelowTail (j : Journal) : Prop := ∀ c ∈ j, c.id < tailCid

theorem ob_flatIdx_tail {j : Journal} (h : IdsBelowTail j) (k : Nat) : flatIdx j ⟨tailCid, k⟩ = (flat j).length := by
  induction j with
  | nil => simp [flatIdx, flat]
  | cons c rest ih =>
    have hc := h c (List.mem_cons_self ..)
    have ih' := ih (fun x hx => h x (List.mem_cons_of_mem _ hx))
    simp only [flatIdx, hc, if_true, ih', flat, List.flatMap_cons, List.length_append, Chunk.cnt]

theorem ob_corner_abs (name : Nat) (j : Journal) (w t : Bool) :
    Abs name j w false (applyCorner (mk1 name j w) t) (flatIdx j (if t then ⟨tailCid, maxU32⟩ else {})) := by
  obtain ⟨h1, h2, h3⟩ := pg_setPos_fresh j (if t then ⟨tailCid, maxU32⟩ else {})
  refine ⟨setPos j {} (if t then ⟨tailCid, maxU32⟩ else {}), false, none, #[{}], by rw [mk1, pg_mkCur, pg_applyCorner], ?_⟩
  unfold St
  refine ⟨by unfold WF; rw [h1]; trivial, h3, by unfold fIdx effPos; rw [h1]; simp [h2], ?_, (by intro h; cases h), ?_⟩
  · intro _ h; cases h
  · intro _ _ h; cases h

theorem ob_mk1_abs (name : Nat) (j : Journal) (w : Bool) : Abs name j w false (mk1 name j w) 0 := by
  refine ⟨{}, false, none, #[{}], pg_mkCur name j w, ?_⟩
  unfold St
  refine ⟨trivial, rfl, pg_flatIdx_zero j, ?_, (by intro h; cases h), ?_⟩
  · intro _ h; cases h
  · intro _ _ h; cases h

theorem ob_head_abs (name : Nat) (j : Journal) (w : Bool) : Abs name j w false (applyCorner (mk1 name j w) false) 0 := by
  have h0 := ob_corner_abs name j w false
  rw [if_neg Bool.false_ne_true, show flatIdx j ({} : Pos) = 0 from pg_flatIdx_zero j] at h0
  exact h0

/-- the forward read of at most `n` events -/
def readN (n : Nat) (c : Cur) : List Rec := (readLoop n c []).2

section lawsC16
variable (HG : GetFwdSpec) (HN : NextFwdSpec) (HGB : bw_GetBwdSpecB) (HNB : bw_NextBwdSpecB)
include HG HN

theorem ob_readN {name j w c i} (hs : Sorted j) (n : Nat) (h : Abs name j w false c i) :
    readN n c = (FL j w i).take n := by
  have := (pg_readLoop_abs HG HN hs n c i [] h).1
  simpa [readN] using this

theorem ob_head_plus_k (name : Nat) (j : Journal) (w : Bool) (k n : Nat) (hs : Sorted j) :
    readN n (offset (applyCorner (mk1 name j w) false) (k : Int)) = (((flat j).filter (keepW w)).drop k).take n := by
  have h0 := ob_head_abs name j w
  obtain ⟨i', a', f'⟩ := of_offset_pos HG HN hs k h0
  rw [ob_readN HG HN hs n a', f']; simp [FL]

include HGB HNB

theorem ob_tail_minus_k (name : Nat) (j : Journal) (w : Bool) (k n : Nat) (hs : Sorted j) (hp : PosIds j)
    (hcb : bw_ChunkBound j) (ht : IdsBelowTail j) :
    readN n (offset (applyCorner (mk1 name j w) true) (-(k : Int))) =
      (((flat j).filter (keepW w)).drop (((flat j).filter (keepW w)).length - k)).take n := by
  have h0 := ob_corner_abs name j w true
  simp only [if_true] at h0
  rw [ob_flatIdx_tail ht] at h0
  obtain ⟨i', a', f'⟩ := ob_offset_neg HG HN HGB HNB hs hp hcb k h0
  rw [ob_readN HG HN hs n a', f', of_FL_len]; simp [FL]

theorem ob_plus_minus_from {name j w c i} (m k n : Nat) (hs : Sorted j) (hp : PosIds j) (hcb : bw_ChunkBound j)
    (h0 : Abs name j w false c i) (hk : m + k ≤ (FL j w i).length) :
    readN n (offset (offset (readLoop m c []).1 (k : Int)) (-(k : Int))) = readN n (readLoop m c []).1 := by
  obtain ⟨_, i1, a1, f1⟩ := pg_readLoop_abs HG HN hs m _ i [] h0
  obtain ⟨i2, a2, f2⟩ := of_offset_pos HG HN hs k a1
  obtain ⟨i3, a3, f3⟩ := ob_offset_neg HG HN HGB HNB hs hp hcb k a2
  rw [ob_readN HG HN hs n a3, ob_readN HG HN hs n a1, f3, f2, f1]
  obtain ⟨e, hl⟩ := ob_FL_suffix j w i
  simp only [List.length_drop, List.drop_drop]
  -- `FL j w i` is a suffix of the whole list: both sides drop a prefix of `FL j w 0`, the same one
  conv => rhs; rw [e, List.drop_drop]
  refine congrArg (fun x => (List.drop x (FL j w 0)).take n) ?_
  omega

theorem ob_plus_minus_k (name : Nat) (j : Journal) (w : Bool) (m k n : Nat) (hs : Sorted j) (hp : PosIds j)
    (hcb : bw_ChunkBound j) (hk : m + k ≤ ((flat j).filter (keepW w)).length) :
    readN n (offset (offset (readLoop m (applyCorner (mk1 name j w) false) []).1 (k : Int)) (-(k : Int))) =
      readN n (readLoop m (applyCorner (mk1 name j w) false) []).1 :=
  ob_plus_minus_from HG HN HGB HNB m k n hs hp hcb (ob_head_abs name j w) (by simpa [FL] using hk)

end lawsC16
end Logrange.Rd

import Logrange.Proofs.Mixer
/-!
# Appends at ANY Get/Next boundary to partitions the cursor has not exhausted

`Proofs/Mixer.lean` (`mapLeaves_grow`) covers sources that grow behind a `Release`. Here: no `Release` at all. A source whose stream
is not empty keeps its head and is extended at its end (an append to a partition that still has undelivered records); a source
whose stream has ended stays ended (`GrowsLive`). Then nothing a mixer remembers — `eof` flags, the selected state, the buffered
head — is invalidated: the invariant `WF` holds for the grown tree as it stands, in either direction.
-/
namespace Logrange.Mixer
namespace It
variable {σ : Type} [Source σ] [LawfulSource σ]
open LawfulSource

/-- what an append to a partition that the cursor has not exhausted does to its source: well formed, same direction, asked stays
asked, the head stays the head, and an ended stream stays ended -/
def GrowsLive (s s' : σ) : Prop :=
  LawfulSource.wf s' ∧ LawfulSource.dir s' = LawfulSource.dir s ∧
  (LawfulSource.settled s → LawfulSource.settled s') ∧
  (∀ x, (LawfulSource.view s).head? = some x → (LawfulSource.view s').head? = some x) ∧
  (LawfulSource.view s = [] → LawfulSource.view s' = [])

theorem GrowsLive.refl (s : σ) (h : LawfulSource.wf s) : GrowsLive s s :=
  ⟨h, rfl, fun x => x, fun _ x => x, fun x => x⟩

/-- selection and head of a merge (either direction) do not change under such growth -/
theorem sel_live (bk : Bool) (va vb va' vb' : List Ev)
    (a4 : ∀ x, va.head? = some x → va'.head? = some x) (a5 : va = [] → va' = [])
    (b4 : ∀ x, vb.head? = some x → vb'.head? = some x) (b5 : vb = [] → vb' = []) :
    sel bk va' vb' = sel bk va vb ∧ (mergeSpec bk va' vb').head? = (mergeSpec bk va vb).head? := by
  cases va with
  | nil =>
    rw [a5 rfl]
    cases vb with
    | nil => rw [b5 rfl]; exact ⟨rfl, rfl⟩
    | cons y ys =>
      have hy := b4 y rfl
      cases vb' with
      | nil => simp at hy
      | cons y' ys' =>
        simp only [List.head?_cons, Option.some.injEq] at hy; subst hy
        simp [sel]
  | cons x xs =>
    have hx := a4 x rfl
    cases va' with
    | nil => simp at hx
    | cons x' xs' =>
      simp only [List.head?_cons, Option.some.injEq] at hx; subst hx
      cases vb with
      | nil => rw [b5 rfl]; simp [sel]
      | cons y ys =>
        have hy := b4 y rfl
        cases vb' with
        | nil => simp at hy
        | cons y' ys' =>
          simp only [List.head?_cons, Option.some.injEq] at hy; subst hy
          simp only [sel, mergeSpec_cons_cons]
          split <;> simp

/-- **a tree in any reachable state whose live sources grow is still a correct merger — no `Release` needed** -/
theorem mapLeaves_grow_live (f : σ → σ) (it : It σ) (h : it.WF) (hf : ∀ s ∈ it.leaves, GrowsLive s (f s)) :
    (it.mapLeaves f).WF ∧ (it.mapLeaves f).dir = it.dir ∧ (it.settled → (it.mapLeaves f).settled) ∧
    (∀ x, it.view.head? = some x → (it.mapLeaves f).view.head? = some x) ∧
    (it.view = [] → (it.mapLeaves f).view = []) := by
  induction it with
  | leaf s =>
    exact hf s (List.mem_singleton.mpr rfl)
  | mix m a b iha ihb =>
    obtain ⟨wa, wb, da, db, e1, e2, hst⟩ := h
    obtain ⟨A1, A2, A3, A4, A5⟩ := iha wa
      (fun s hs => hf s (List.mem_append_left _ hs))
    obtain ⟨B1, B2, B3, B4, B5⟩ := ihb wb
      (fun s hs => hf s (List.mem_append_right _ hs))
    have G := sel_live m.bkwd a.view b.view _ _ A4 A5 B4 B5
    simp only [mapLeaves, WF, dir, settled, view] at *
    refine ⟨⟨A1, B1, A2.trans da, B2.trans db, fun he => A5 (e1 he), fun he => B5 (e2 he), ?_⟩, trivial, fun _ => trivial, ?_, ?_⟩
    · rcases hst with h0 | ⟨hs1, hs2, hs3⟩
      · exact Or.inl h0
      · right
        refine ⟨hs1.trans G.1.symm, ?_, ?_⟩
        · intro h1; exact ⟨A4 _ (hs2 h1).1, A3 (hs2 h1).2⟩
        · intro h2; exact ⟨B4 _ (hs3 h2).1, B3 (hs3 h2).2⟩
    · intro x hx; rw [G.2]; exact hx
    · intro he
      obtain ⟨ea, eb⟩ := mergeSpec_eq_nil he
      rw [A5 ea, B5 eb, mergeSpec_nil_left]

end It

/-- an append to an in-memory partition that still has undelivered records (read forward) is such a growth -/
theorem Leaf.append_growsLive (l : Leaf) (r : Rec) (hw : l.wf) (hb : l.bkwd = false)
    (hne : LawfulSource.view l ≠ []) : It.GrowsLive l (l.append r) := by
  obtain ⟨g1, g2, g3, g4⟩ := Leaf.append_grows l r hw hb
  exact ⟨g1, g2, g3, g4, fun he => absurd he hne⟩

end Logrange.Mixer

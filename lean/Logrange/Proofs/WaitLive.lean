import Logrange.Proofs.WaitLts
/-! Lemmas behind the bounded-liveness theorems of C11 (`Logrange/Props/C11Live.lean`): the strengthened invariant
`WInv2` (the listener lock is held only by a waiter between its locked check and its subscription), deadlock-freedom
of a pending notification, and the explicit delivery schedule `deliver` with one lemma per phase. -/
namespace Logrange.WaitLts

/-- (C) the listener lock is held only by a waiter between its locked check and its subscription -/
def LockHeld (st : State) : Prop :=
  ∀ v, st.lock = some v → ∃ x, st.ws[v]? = some x ∧ x.pc = .holding

/-- `WInv` (A), (B) plus (C) -/
def WInv2 (st : State) : Prop := WInv st ∧ LockHeld st

theorem winv2_init (n k : Nat) : WInv2 (init n k) := by
  refine ⟨winv_init n k, ?_⟩
  intro v hv
  have hv' : (none : Option Nat) = some v := hv
  cases hv'

/-- rewriting a waiter that is not the lock holder keeps (C) -/
theorem lockHeld_set (st : State) (w : Nat) (x x' : WSt) (h : LockHeld st) (hx : st.ws[w]? = some x)
    (hne : x.pc ≠ .holding) : LockHeld { st with ws := st.ws.set w x' } := by
  intro v hv
  obtain ⟨y, hy, hp⟩ := h v hv
  have e : v ≠ w := by
    intro e; subst e; rw [hx] at hy; simp only [Option.some.injEq] at hy; subst hy; exact hne hp
  refine ⟨y, ?_, hp⟩
  show (st.ws.set w x')[v]? = some y
  rw [List.getElem?_set_ne (Ne.symm e)]; exact hy

theorem step_lockHeld {st st' : State} {l : Label} (h : WInv2 st) (hs : Step st l st') : LockHeld st' := by
  obtain ⟨_, hC⟩ := h
  -- a waiter that is not `holding` is not the lock holder
  have other : ∀ w x x', st.ws[w]? = some x → x.pc ≠ .holding → LockHeld { st with ws := st.ws.set w x' } :=
    fun w x x' hx hne => lockHeld_set st w x x' hC hx hne
  cases hs with
  | closeAll hp hl =>
    intro v hv
    have hv' : st.lock = some v := hv
    rw [hl] at hv'; cases hv'
  | start w pos x hx hpc => exact other w x _ hx (by rw [hpc]; simp)
  | inc w x hx hpc => exact other w x _ hx (by rw [hpc]; simp)
  | wake w x hx hpc hsub => exact other w x _ hx (by rw [hpc]; simp)
  | cancel w x hx hpc hl => exact other w x _ hx (by rw [hpc]; simp)
  | ret w x hx hpc => exact other w x _ hx (by rw [hpc]; simp)
  | lockRet w x hx hpc hl hlt => exact other w x _ hx (by rw [hpc]; simp)
  | lockHold w x hx hpc hl hge =>
    intro v hv
    have hv' : some w = some v := hv
    cases hv'
    exact ⟨_, List.getElem?_set_self (lt_of_getElem?_some hx), rfl⟩
  | subscribe w x hx hpc =>
    intro v hv
    have hv' : (none : Option Nat) = some v := hv
    cases hv'
  | _ => exact hC

theorem run_winv2 (st : State) (ls : List Label) (h : WInv2 st) : WInv2 (run st ls) :=
  run_inv (fun _ _ _ h hs => ⟨step_winv h.1 hs, step_lockHeld h hs⟩) st ls h

/-! ### deadlock-freedom of a pending notification -/

/-- with an `OnNewData` call pending, the writer side or the lock holder can move -/
theorem progress_of_winv2 (st : State) (h : WInv2 st) (hp : 0 < st.pendNotif + st.pendClose) :
    (step st .loadWaiters).isSome = true ∨ (step st .closeAll).isSome = true ∨
    ∃ v, st.lock = some v ∧ (step st (.subscribe v)).isSome = true := by
  by_cases hn : st.pendNotif = 0
  · have hc : ¬ st.pendClose = 0 := by omega
    cases hl : st.lock with
    | none => right; left; simp [step, hc, hl]
    | some v =>
      right; right
      obtain ⟨x, hx, hpc⟩ := h.2 v hl
      exact ⟨v, rfl, by simp [step, hx, hpc]⟩
  · left
    simp only [step, hn, if_false]
    split <;> rfl

/-! ### runs -/

theorem run_append (st : State) (a b : List Label) : run st (a ++ b) = run (run st a) b := by
  induction a generalizing st with
  | nil => rfl
  | cons l ls ih =>
    simp only [List.cons_append, run]
    cases step st l with
    | none => exact ih st
    | some st' => exact ih st'

theorem run_cons (st : State) (l : Label) (ls : List Label) : run st (l :: ls) = run (run st [l]) ls :=
  run_append st [l] ls

theorem run_one_some {st st' : State} {l : Label} (h : step st l = some st') : run st [l] = st' := by
  simp [run, h]

theorem run_one_none {st : State} {l : Label} (h : step st l = none) : run st [l] = st := by
  simp [run, h]

/-! ### the delivery schedule -/

/-- phase 0: the lock holder (if any) subscribes and releases the listener lock -/
def unlockSched (st : State) : List Label :=
  match st.lock with
  | some v => [Label.subscribe v]
  | none => []

/-- the schedule that delivers the confirmed data to waiter `w`: the lock holder's `subscribe`, the writer side's pending
`OnNewData` calls (`loadWaiters` for each, one `closeAll`), then `w`'s own `wake` and `lockCheck` -/
def deliver (st : State) (w : Nat) : List Label :=
  (match st.lock with | some v => [Label.subscribe v] | none => []) ++
  List.replicate st.pendNotif Label.loadWaiters ++ [Label.closeAll, Label.wake w, Label.lockCheck w]

/-- lock free, `w` inside its wait call and not holding, confirmed data beyond its position -/
def Ready (st : State) (w : Nat) : Prop :=
  st.lock = none ∧ ∃ y, st.ws[w]? = some y ∧ y.pos < st.cfrmd ∧ (y.pc = .counted ∨ y.pc = .asleep)

/-- … and, if asleep, the subscription is closed -/
def Ready2 (st : State) (w : Nat) : Prop :=
  st.lock = none ∧ ∃ y, st.ws[w]? = some y ∧ y.pos < st.cfrmd ∧ (y.pc = .counted ∨ (y.pc = .asleep ∧ y.sub = false))

/-- … awake, in front of its locked check -/
def Ready3 (st : State) (w : Nat) : Prop :=
  st.lock = none ∧ ∃ y, st.ws[w]? = some y ∧ y.pos < st.cfrmd ∧ y.pc = .counted

theorem ready_congr {st st' : State} {w : Nat} (h : Ready st w) (h1 : st'.ws = st.ws) (h2 : st'.lock = st.lock)
    (h3 : st'.cfrmd = st.cfrmd) : Ready st' w := by
  unfold Ready at *
  rw [h1, h2, h3]; exact h

theorem waitersPositive_of_ready {st : State} {w : Nat} (h : Ready st w) : waitersPositive st = true := by
  obtain ⟨_, y, hy, _, hp⟩ := h
  unfold waitersPositive
  rw [List.any_eq_true]
  refine ⟨y, List.mem_of_getElem? hy, ?_⟩
  rcases hp with h | h <;> simp [countedPc, h]

/-- inside a wait call: after `waiters += 1`, before the return is decided -/
def InWait (x : WSt) : Prop := x.pc = .counted ∨ x.pc = .holding ∨ x.pc = .asleep

/-- waiter `w` is inside a wait call and confirmed data lies beyond its position -/
def Owed (st : State) (w : Nat) : Prop := ∃ x, st.ws[w]? = some x ∧ InWait x ∧ x.pos < st.cfrmd

/-- the wait call of waiter `w` has returned nil -/
def Delivered (st : State) (w : Nat) : Prop := ∃ y, st.ws[w]? = some y ∧ y.pc = .returning ∧ y.woke = true

/-- phase 0: after the lock holder's `subscribe` (enabled by (C)) the lock is free; `w` keeps its position -/
theorem phase0 (st : State) (h : WInv2 st) (w : Nat) (ho : Owed st w) :
    WInv2 (run st (unlockSched st)) ∧ Ready (run st (unlockSched st)) w ∧
    (run st (unlockSched st)).pendNotif = st.pendNotif := by
  obtain ⟨x, hx, hpc, hlt⟩ := ho
  have hI := run_winv2 st (unlockSched st) h
  cases hl : st.lock with
  | none =>
    have hrun : run st (unlockSched st) = st := by simp [unlockSched, hl, run]
    rw [hrun]
    refine ⟨h, ⟨hl, x, hx, hlt, ?_⟩, rfl⟩
    rcases hpc with hp | hp | hp
    · exact Or.inl hp
    · have := h.1.2 w x hx hp
      rw [hl] at this; cases this
    · exact Or.inr hp
  | some v =>
    obtain ⟨z, hz, hzp⟩ := h.2 v hl
    have hs : step st (.subscribe v) = some { st with lock := none, ws := st.ws.set v { z with pc := .asleep, sub := true } } := by
      simp [step, hz, hzp]
    have hrun : run st (unlockSched st) = { st with lock := none, ws := st.ws.set v { z with pc := .asleep, sub := true } } := by
      have e : unlockSched st = [.subscribe v] := by simp [unlockSched, hl]
      rw [e, run_one_some hs]
    rw [hrun] at hI ⊢
    refine ⟨hI, ⟨rfl, ?_⟩, rfl⟩
    by_cases e : w = v
    · subst e
      rw [hx] at hz; simp only [Option.some.injEq] at hz; subst hz
      exact ⟨_, List.getElem?_set_self (lt_of_getElem?_some hx), hlt, Or.inr rfl⟩
    · refine ⟨x, ?_, hlt, ?_⟩
      · show (st.ws.set v _)[w]? = some x
        rw [List.getElem?_set_ne (Ne.symm e)]; exact hx
      · rcases hpc with hp | hp | hp
        · exact Or.inl hp
        · have := h.1.2 w x hx hp
          rw [hl] at this
          simp only [Option.some.injEq] at this
          exact absurd this.symm e
        · exact Or.inr hp

/-- phase 1: with a counted waiter present, each pending `OnNewData` call passes its `waiters > 0` test -/
theorem run_loadWaiters (n : Nat) : ∀ st : State, st.pendNotif = n → waitersPositive st = true →
    (run st (List.replicate n Label.loadWaiters)).pendNotif = 0 ∧
    (run st (List.replicate n Label.loadWaiters)).pendClose = st.pendClose + n ∧
    (run st (List.replicate n Label.loadWaiters)).ws = st.ws ∧
    (run st (List.replicate n Label.loadWaiters)).lock = st.lock ∧
    (run st (List.replicate n Label.loadWaiters)).cfrmd = st.cfrmd := by
  induction n with
  | zero => intro st hn _; simp [run, hn]
  | succ n ih =>
    intro st hn hwp
    have hs : step st .loadWaiters = some { st with pendNotif := st.pendNotif - 1, pendClose := st.pendClose + 1 } := by
      simp [step, hn, hwp]
    rw [List.replicate_succ, run_cons, run_one_some hs]
    obtain ⟨h1, h2, h3, h4, h5⟩ :=
      ih { st with pendNotif := st.pendNotif - 1, pendClose := st.pendClose + 1 } (by simp only []; omega) hwp
    refine ⟨h1, ?_, h3, h4, h5⟩
    rw [h2]; simp only []; omega

/-- phase 2: `closeAll` closes every subscription; if it is not enabled (nothing pending), invariant (A) says `w`'s
subscription is closed already -/
theorem phase2 (st : State) (h : WInv st) (w : Nat) (hr : Ready st w) (hn : st.pendNotif = 0) :
    Ready2 (run st [.closeAll]) w := by
  obtain ⟨hl, y, hy, hlt, hp⟩ := hr
  by_cases hc : st.pendClose = 0
  · have hs : step st .closeAll = none := by simp [step, hc]
    rw [run_one_none hs]
    refine ⟨hl, y, hy, hlt, ?_⟩
    rcases hp with hp | hp
    · exact Or.inl hp
    · right; refine ⟨hp, ?_⟩
      cases hsub : y.sub with
      | false => rfl
      | true =>
        have := h.1 w y hy (Or.inl ⟨hp, hsub⟩) hlt
        omega
  · have hs : step st .closeAll = some { st with pendClose := st.pendClose - 1, ws := st.ws.map (fun a => { a with sub := false }) } := by
      simp [step, hc, hl]
    rw [run_one_some hs]
    refine ⟨hl, { y with sub := false }, ?_, hlt, ?_⟩
    · show (st.ws.map (fun a => { a with sub := false }))[w]? = _
      simp [List.getElem?_map, hy]
    · rcases hp with hp | hp
      · exact Or.inl hp
      · exact Or.inr ⟨hp, rfl⟩

/-- phase 3: a sleeper with a closed subscription wakes (a `counted` waiter skips the step) -/
theorem phase3 (st : State) (w : Nat) (hr : Ready2 st w) : Ready3 (run st [.wake w]) w := by
  obtain ⟨hl, y, hy, hlt, hp⟩ := hr
  rcases hp with hp | ⟨hp, hsub⟩
  · have hs : step st (.wake w) = none := by simp [step, hy, hp]
    rw [run_one_none hs]; exact ⟨hl, y, hy, hlt, hp⟩
  · have hs : step st (.wake w) = some { st with ws := st.ws.set w { y with pc := .counted } } := by
      simp [step, hy, hp, hsub]
    rw [run_one_some hs]
    exact ⟨hl, { y with pc := .counted }, List.getElem?_set_self (lt_of_getElem?_some hy), hlt, rfl⟩

/-- phase 4: the locked check sees the data; the call returns nil -/
theorem phase4 (st : State) (w : Nat) (hr : Ready3 st w) :
    ∃ y, (run st [.lockCheck w]).ws[w]? = some y ∧ y.pc = .returning ∧ y.woke = true := by
  obtain ⟨hl, y, hy, hlt, hp⟩ := hr
  have hs : step st (.lockCheck w) = some { st with ws := st.ws.set w { y with pc := .returning, woke := true } } := by
    simp [step, hy, hp, hl, hlt]
  rw [run_one_some hs]
  exact ⟨_, List.getElem?_set_self (lt_of_getElem?_some hy), rfl, rfl⟩

/-- the schedule delivers, from any state that satisfies the invariant -/
theorem deliver_delivers (st : State) (h : WInv2 st) (w : Nat) (ho : Owed st w) : Delivered (run st (deliver st w)) w := by
  obtain ⟨hI0, hR0, hN0⟩ := phase0 st h w ho
  have e : deliver st w = unlockSched st ++ (List.replicate st.pendNotif Label.loadWaiters ++
      ([Label.closeAll] ++ ([Label.wake w] ++ [Label.lockCheck w]))) := by
    simp [deliver, unlockSched]
  rw [e, run_append, ← hN0]
  generalize run st (unlockSched st) = st1 at hI0 hR0 ⊢
  obtain ⟨h1, _, h3, h4, h5⟩ := run_loadWaiters st1.pendNotif st1 rfl (waitersPositive_of_ready hR0)
  have hI1 := run_winv2 st1 (List.replicate st1.pendNotif Label.loadWaiters) hI0
  have hR1 := ready_congr hR0 h3 h4 h5
  rw [run_append]
  generalize run st1 (List.replicate st1.pendNotif Label.loadWaiters) = st2 at h1 hI1 hR1 ⊢
  have hR2 := phase2 st2 hI1.1 w hR1 h1
  rw [run_append]
  have hR3 := phase3 _ w hR2
  rw [run_append]
  exact phase4 _ w hR3

/-! ### the delivery obligation persists until it is delivered or cancelled -/

/-- the confirmed count never exceeds the written count, and never decreases -/
theorem step_cfrmd_le {st st' : State} {l : Label} (h : st.cfrmd ≤ st.cnt) (hs : Step st l st') :
    st'.cfrmd ≤ st'.cnt ∧ st.cfrmd ≤ st'.cfrmd := by
  cases hs with
  | append k hk => exact ⟨Nat.le_trans h (Nat.le_add_right _ _), Nat.le_refl _⟩
  | confirm hne => exact ⟨Nat.le_refl _, h⟩
  | _ => exact ⟨h, Nat.le_refl _⟩

theorem run_cfrmd_le (st : State) (ls : List Label) (h : st.cfrmd ≤ st.cnt) : (run st ls).cfrmd ≤ (run st ls).cnt :=
  run_inv (P := fun st => st.cfrmd ≤ st.cnt) (fun _ _ _ h hs => (step_cfrmd_le h hs).1) st ls h

theorem owed_set_ne {st st' : State} {w v : Nat} {x' : WSt} (ho : Owed st w) (e : ¬ w = v)
    (hws : st'.ws = st.ws.set v x') (hc : st'.cfrmd = st.cfrmd) : Owed st' w := by
  obtain ⟨x, hx, hin, hlt⟩ := ho
  refine ⟨x, ?_, hin, ?_⟩
  · rw [hws, List.getElem?_set_ne (Ne.symm e)]; exact hx
  · rw [hc]; exact hlt

/-- every step other than `w`'s own cancellation keeps the obligation, or is the delivery -/
theorem owed_step {st st' : State} {l : Label} (w : Nat) (hc : st.cfrmd ≤ st.cnt) (hs : Step st l st')
    (ho : Owed st w) (hl : l ≠ .cancel w) : Owed st' w ∨ Delivered st' w := by
  have ho' := ho
  obtain ⟨x, hx, hin, hlt⟩ := ho
  have hlen := lt_of_getElem?_some hx
  -- another waiter's step, or a step of `w` that needs a program counter `w` does not have inside its wait call
  have other : ∀ v z x', st.ws[v]? = some z → (w = v → ¬ InWait z) → Owed { st with ws := st.ws.set v x' } w := by
    intro v z x' hz hne
    by_cases e : w = v
    · subst e; rw [hx] at hz; cases hz; exact absurd hin (hne rfl)
    · exact owed_set_ne ho' e rfl rfl
  have mine : ∀ {v z}, w = v → st.ws[v]? = some z → z = x := by
    intro v z e hz; subst e; rw [hx] at hz; cases hz; rfl
  cases hs with
  | append k hk => exact Or.inl ho'
  | confirm hne => exact Or.inl ⟨x, hx, hin, Nat.lt_of_lt_of_le hlt hc⟩
  | loadHit hp hw => exact Or.inl ho'
  | loadMiss hp hw => exact Or.inl ho'
  | closeAll hp hl' =>
    refine Or.inl ⟨{ x with sub := false }, ?_, hin, hlt⟩
    show (st.ws.map (fun a => { a with sub := false }))[w]? = _
    simp [List.getElem?_map, hx]
  | start v pos z hz hpc => exact Or.inl (other v z _ hz (fun _ => by rw [InWait, hpc]; simp))
  | inc v z hz hpc => exact Or.inl (other v z _ hz (fun _ => by rw [InWait, hpc]; simp))
  | ret v z hz hpc => exact Or.inl (other v z _ hz (fun _ => by rw [InWait, hpc]; simp))
  | cancel v z hz hpc hl' => exact Or.inl (other v z _ hz (fun e => absurd (e ▸ rfl) hl))
  | wake v z hz hpc hsub =>
    by_cases e : w = v
    · cases mine e hz; subst e
      exact Or.inl ⟨_, List.getElem?_set_self hlen, Or.inl rfl, hlt⟩
    · exact Or.inl (owed_set_ne ho' e rfl rfl)
  | subscribe v z hz hpc =>
    by_cases e : w = v
    · cases mine e hz; subst e
      exact Or.inl ⟨_, List.getElem?_set_self hlen, Or.inr (Or.inr rfl), hlt⟩
    · exact Or.inl (owed_set_ne ho' e rfl rfl)
  | lockRet v z hz hpc hl' hlt' =>
    by_cases e : w = v
    · cases mine e hz; subst e
      exact Or.inr ⟨_, List.getElem?_set_self hlen, rfl, rfl⟩
    · exact Or.inl (owed_set_ne ho' e rfl rfl)
  | lockHold v z hz hpc hl' hge =>
    by_cases e : w = v
    · cases mine e hz; exact absurd hlt hge
    · exact Or.inl (owed_set_ne ho' e rfl rfl)

/-- along any continuation without `w`'s cancellation the obligation is still there at the end, or it was delivered on
the way -/
theorem owed_run (w : Nat) (ls' : List Label) : ∀ st : State, st.cfrmd ≤ st.cnt → Owed st w → Label.cancel w ∉ ls' →
    Owed (run st ls') w ∨ ∃ pre suf, ls' = pre ++ suf ∧ Delivered (run st pre) w := by
  induction ls' with
  | nil => intro st _ ho _; exact Or.inl ho
  | cons l ls ih =>
    intro st hc ho hn
    have hl : l ≠ .cancel w := fun e => hn (by simp [e])
    have hn' : Label.cancel w ∉ ls := fun h => hn (List.mem_cons_of_mem _ h)
    cases hs : step st l with
    | none =>
      have e1 : ∀ k, run st (l :: k) = run st k := by intro k; simp [run, hs]
      rcases ih st hc ho hn' with h | ⟨pre, suf, e, hd⟩
      · left; rw [e1]; exact h
      · right
        refine ⟨l :: pre, suf, by simp [e], ?_⟩
        rw [e1]; exact hd
    | some st' =>
      have e1 : ∀ k, run st (l :: k) = run st' k := by intro k; simp [run, hs]
      rcases owed_step w hc (.of_step hs) ho hl with ho1 | hd
      · rcases ih st' (step_cfrmd_le hc (.of_step hs)).1 ho1 hn' with h | ⟨pre, suf, e, hd⟩
        · left; rw [e1]; exact h
        · right
          refine ⟨l :: pre, suf, by simp [e], ?_⟩
          rw [e1]; exact hd
      · right
        refine ⟨[l], ls, rfl, ?_⟩
        rw [e1]; exact hd

end Logrange.WaitLts

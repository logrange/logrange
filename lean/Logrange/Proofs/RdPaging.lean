import Logrange.Proofs.RdIterFwd
import Logrange.Proofs.RdOffsetStream
set_option linter.unusedSectionVars false
set_option linter.unusedVariables false
namespace Logrange.Rd

/-- a one-source, un-ranged cursor in explicit form -/
def cur1 (name : Nat) (j : Journal) (it : It) (w v : Bool) (l : Option Rec) (m : Array MixSt) : Cur :=
  { srcs := #[{ name := name, jrnl := j, it := .lib it }], nodes := #[.leaf 0], mix := m, root := 0,
    useF := w, fValid := v, fLe := l, where_ := w, minTs := none, maxTs := none }

theorem pg_mkCur (name : Nat) (j : Journal) (w : Bool) :
    mkCur [{ name := name, jrnl := j, it := .lib {} }] w none none false = cur1 name j {} w false none #[{}] := by
  simp [mkCur, cur1, reduceTree]

theorem pg_nodeGet (name j it w v l m) :
    nodeGet 3 (cur1 name j it w v l m) 0 = (cur1 name j (get j it).1 w v l m, (get j it).2) := by
  simp [nodeGet, cur1, Src.get, setSrc]

theorem pg_depth (name j it w v l m) : (cur1 name j it w v l m).depth = 3 := by simp [Cur.depth, cur1]
theorem pg_size (name j it w v l m) : (cur1 name j it w v l m).size = (flat j).length := by
  simp [Cur.size, cur1]

theorem pg_curGet_true (name j it v l m) :
    curGet (cur1 name j it true v l m) = fGetLoop ((flat j).length + 2) (cur1 name j it true v l m) := by
  simp [curGet, cur1, Cur.size]

theorem pg_curGet_false (name j it v l m) :
    curGet (cur1 name j it false v l m) = (cur1 name j (get j it).1 false v l m, (get j it).2) := by
  rw [← pg_nodeGet, ← pg_depth name j it false v l m]; rfl

theorem pg_curNext (name j it w v l m) :
    curNext (cur1 name j it w v l m) = cur1 name j (next j it) w (if w then false else v) l m := by
  cases w <;> simp [curNext, nodeNext, cur1, Src.next, setSrc, Cur.depth]

theorem pg_curRelease (name j it w v l m) :
    curRelease (cur1 name j it w v l m) = cur1 name j (release it) w v l m := by
  simp [curRelease, nodeRelease, cur1, Src.release, setSrc, Cur.depth]

theorem pg_curSetBackward (name j it w v l m b) :
    curSetBackward (cur1 name j it w v l m) b = cur1 name j (setBackward it b) w (if w then false else v) l m := by
  cases w <;> simp [curSetBackward, nodeSetBackward, cur1, Src.setBackward, setSrc, Cur.depth]

theorem pg_curPos (name j it w v l m) :
    curPos (cur1 name j it w v l m) = some (0, it.cid, it.idx) := by
  simp [curPos, nodePos, cur1, Src.pos, It.pos, Cur.depth]

theorem pg_collectPos (name j it w v l m) :
    collectPos (cur1 name j it w v l m) = [(name, it.pos)] := by
  simp [collectPos, cur1, Src.pos]

theorem pg_applyStatePos (name j it w v l m p) :
    applyStatePos (cur1 name j it w v l m) [(name, p)] = cur1 name j (setPos j it p) w v l m := by
  simp [applyStatePos, cur1, Src.setPos]

theorem pg_applyCorner (name j it w v l m t) :
    applyCorner (cur1 name j it w v l m) t
      = cur1 name j (setPos j it (if t then ⟨tailCid, maxU32⟩ else {})) w v l m := by
  simp [applyCorner, cur1, Src.setPos]

theorem pg_setJournals (name j j' it w v l m) :
    setJournals (cur1 name j it w v l m) [(name, j')] = cur1 name j' it w v l m := by
  simp [setJournals, cur1]

theorem pg_passes (name j it w v l m r) : passes (cur1 name j it w v l m) r = (!w || r.keep) := by
  simp [passes, cur1]

theorem pg_fGetLoop_succ (f name j it w v l m) :
    fGetLoop (f + 1) (cur1 name j it w v l m) =
      if v then (cur1 name j it w v l m, l) else
      match (get j it).2 with
      | none => (cur1 name j (get j it).1 w v l m, none)
      | some x =>
        if (!w || x.keep) then (cur1 name j (get j it).1 w true (some x) m, some x)
        else fGetLoop f (cur1 name j (next j (get j it).1) w (if w then false else v) (some x) m) := by
  rw [fGetLoop]
  have hd : (cur1 name j it w v l m).depth = 3 := by simp [Cur.depth, cur1]
  have hr : (cur1 name j it w v l m).root = 0 := rfl
  have hv : (cur1 name j it w v l m).fValid = v := rfl
  have hl : (cur1 name j it w v l m).fLe = l := rfl
  rw [hd, hr, hv, hl, pg_nodeGet]
  cases v with
  | true => simp
  | false =>
    simp only [Bool.false_eq_true, if_false]
    cases h : (get j it).2 with
    | none => simp
    | some x =>
      simp only []
      have hp : passes (cur1 name j (get j it).1 w false l m) x = (!w || x.keep) := by simp [passes, cur1]
      rw [hp]
      by_cases hk : (!w || x.keep) = true
      · simp [hk, cur1]
      · simp only [hk, if_false, Bool.false_eq_true]
        have : ({ cur1 name j (get j it).1 w false l m with fLe := some x } : Cur)
            = cur1 name j (get j it).1 w false (some x) m := rfl
        rw [this, pg_curNext]

/-! ## the flat abstraction of a one-source cursor -/

def keepW (w : Bool) (r : Rec) : Bool := !w || r.keep
/-- what a cursor standing at flat index `i` still has to deliver -/
def FL (j : Journal) (w : Bool) (i : Nat) : List Rec := ((flat j).drop i).filter (keepW w)

theorem pg_FL_some {j : Journal} {w : Bool} {i : Nat} {r : Rec} (h : (flat j)[i]? = some r) :
    FL j w i = if keepW w r then r :: FL j w (i + 1) else FL j w (i + 1) := by
  obtain ⟨hi, e⟩ := List.getElem?_eq_some_iff.mp h
  unfold FL
  rw [List.drop_eq_getElem_cons hi, e, List.filter_cons]

theorem pg_FL_none {j : Journal} {w : Bool} {i : Nat} (h : (flat j)[i]? = none) : FL j w i = [] := by
  unfold FL
  rw [List.drop_eq_nil_of_le (List.getElem?_eq_none_iff.mp h)]; rfl

theorem pg_flatIdx_le (j : Journal) (p : Pos) : flatIdx j p ≤ (flat j).length := flatIdx_le j p

/-- facts about the components of a one-source cursor standing (forward) at flat index `i`;
`sy` = the iterator's reported position is in sync with its chunk iterator (true in forward-only use) -/
def St (j : Journal) (w sy : Bool) (it : It) (v : Bool) (l : Option Rec) (i : Nat) : Prop :=
  WF j it ∧ it.bkwd = false ∧ fIdx j it = i ∧
  (w = true → v = true → ∃ r, l = some r ∧ (flat j)[i]? = some r ∧ r.keep = true) ∧
  (sy = true → Synced it ∧ (w = true → v = true → Settled j it.pos)) ∧
  (sy = false → w = true → v = true → OnRecord j it)

/-- `c` is a one-source un-ranged cursor over `j` standing (forward) at flat index `i` -/
def Abs (name : Nat) (j : Journal) (w sy : Bool) (c : Cur) (i : Nat) : Prop :=
  ∃ it v l m, c = cur1 name j it w v l m ∧ St j w sy it v l i

theorem pg_onRecord_settled {j : Journal} {it : It} (hwf : WF j it) (hsy : Synced it) (ho : OnRecord j it) :
    Settled j it.pos := by
  obtain ⟨c, hc, h0, hlt⟩ := ho
  unfold WF at hwf; unfold Synced at hsy
  rw [hc] at hwf hsy
  obtain ⟨e1, ⟨ch, hm, he⟩, _⟩ := hwf
  cases hfd : j.find? (fun x => x.id == c.chunk) with
  | none => exact absurd (List.find?_eq_none.mp hfd ch hm) (by simp [he])
  | some ch' =>
    have hid : ch'.id = c.chunk := by simpa using List.find?_some hfd
    have hcnt : cntOf j c.chunk = ch'.cnt := by simp [cntOf, findChunk, hfd]
    rw [hcnt] at hlt
    exact ⟨ch', List.mem_of_find?_eq_some hfd, by simp [It.pos, hid, e1], by simp only [It.pos]; omega⟩

section laws
variable (HG : GetFwdSpec) (HN : NextFwdSpec)
include HG HN

theorem pg_abs_le {name j w sy c i} (h : Abs name j w sy c i) : i ≤ (flat j).length := by
  obtain ⟨it, v, l, m, _, hst⟩ := h
  unfold St at hst
  obtain ⟨_, _, hi, _⟩ := hst
  rw [← hi]; exact pg_flatIdx_le _ _

theorem pg_curNext_abs {name j w sy c i} (hs : Sorted j) (h : Abs name j w sy c i) :
    Abs name j w sy (curNext c) (min (i + 1) (flat j).length) := by
  obtain ⟨it, v, l, m, rfl, hst⟩ := h
  unfold St at hst
  obtain ⟨hwf, hb, hi, _, _, _⟩ := hst
  obtain ⟨h1, h2, h3, h4⟩ := HN j it hs hwf hb
  refine ⟨next j it, (if w then false else v), l, m, pg_curNext .., ?_⟩
  unfold St
  refine ⟨h1, h2, by rw [h4, hi], ?_, ?_, ?_⟩
  · intro hw hv; subst hw; simp at hv
  · intro _; refine ⟨h3, ?_⟩; intro hw hv; subst hw; simp at hv
  · intro _ hw hv; subst hw; simp at hv

/-- post-condition of a `Get` from flat index `i` -/
def GetPost (name : Nat) (j : Journal) (w sy : Bool) (c' : Cur) (res : Option Rec) (i : Nat) : Prop :=
  ∃ i' it' v' l' m', c' = cur1 name j it' w v' l' m' ∧ St j w sy it' v' l' i' ∧
    (sy = true → j ≠ [] → Settled j it'.pos) ∧
    (sy = false → (res.isSome → OnRecord j it') ∧ (res = none → it'.ci = none)) ∧
    FL j w i' = FL j w i ∧ res = (FL j w i).head? ∧
    ((res = none ∧ i' = (flat j).length) ∨ (∃ r, res = some r ∧ (flat j)[i']? = some r ∧ keepW w r = true))

theorem pg_getPost_abs {name j w sy c' res i} (h : GetPost name j w sy c' res i) :
    ∃ i', Abs name j w sy c' i' ∧ FL j w i' = FL j w i ∧
      ((res = none ∧ i' = (flat j).length) ∨ (∃ r, res = some r ∧ (flat j)[i']? = some r ∧ keepW w r = true)) := by
  obtain ⟨i', it', v', l', m', e, st, _, _, f, _, d⟩ := h
  exact ⟨i', ⟨it', v', l', m', e, st⟩, f, d⟩

theorem pg_get_post {name j w sy it v l m i} (hs : Sorted j) (hst : St j w sy it v l i) (v' : Bool) (l' : Option Rec)
    (hkeep : ∀ x, (get j it).2 = some x → keepW w x = true)
    (hv' : w = true → v' = true → ∃ x, l' = some x ∧ (get j it).2 = some x) :
    GetPost name j w sy (cur1 name j (get j it).1 w v' l' m) (get j it).2 i := by
  obtain ⟨hwf, hb, hi, _, hsy, _⟩ := hst
  obtain ⟨g1, g2, g3, g4, g5, g6, g7⟩ := HG j it hs hwf hb
  rw [hi] at g1 g4
  have hon : ∀ x, (get j it).2 = some x → OnRecord j (get j it).1 := fun x hx => g6 (by rw [hx]; rfl)
  refine ⟨i, _, v', l', m, rfl, ⟨g2, g3, g4, ?_, ?_, ?_⟩, ?_, fun _ => ⟨g6, fun h => (g7 h).1⟩, rfl, ?_, ?_⟩
  · intro hw hv
    obtain ⟨x, hl, hx⟩ := hv' hw hv
    exact ⟨x, hl, g1 ▸ hx, by simpa [keepW, hw] using hkeep x hx⟩
  · intro h1
    refine ⟨g5 (hsy h1).1, fun hw hv => ?_⟩
    obtain ⟨x, _, hx⟩ := hv' hw hv
    exact pg_onRecord_settled g2 (g5 (hsy h1).1) (hon x hx)
  · intro _ hw hv
    obtain ⟨x, _, hx⟩ := hv' hw hv
    exact hon x hx
  · intro h1 hne
    cases hg : (get j it).2 with
    | none => exact (g7 hg).2 hne
    | some x => exact pg_onRecord_settled g2 (g5 (hsy h1).1) (hon x hg)
  · cases hg : (get j it).2 with
    | none => rw [pg_FL_none (hg ▸ g1.symm)]; rfl
    | some x => rw [pg_FL_some (hg ▸ g1.symm), if_pos (hkeep x hg)]; rfl
  · cases hg : (get j it).2 with
    | none =>
      have := List.getElem?_eq_none_iff.mp (hg ▸ g1.symm)
      have : i ≤ (flat j).length := hi ▸ pg_flatIdx_le j (effPos it)
      exact Or.inl ⟨rfl, by omega⟩
    | some x => exact Or.inr ⟨x, rfl, hg ▸ g1.symm, hkeep x hg⟩

theorem pg_fGetLoop_abs {name j sy} (hs : Sorted j) : ∀ (fuel : Nat) (c : Cur) (i : Nat), Abs name j true sy c i →
    (flat j).length - i < fuel → GetPost name j true sy (fGetLoop fuel c).1 (fGetLoop fuel c).2 i := by
  intro fuel
  induction fuel with
  | zero => intro c i _ hf; omega
  | succ f ih =>
    intro c i h hf
    have hle := pg_abs_le HG HN h
    obtain ⟨it, v, l, m, rfl, hst⟩ := h
    rw [pg_fGetLoop_succ]
    cases v with
    | true =>
      obtain ⟨hwf, hb, hi, hv, hsy, hon0⟩ := hst
      obtain ⟨r, hl, hr, hk⟩ := hv rfl rfl
      simp only [if_true]
      refine ⟨i, it, true, l, m, rfl, ⟨hwf, hb, hi, hv, hsy, hon0⟩, fun h1 _ => (hsy h1).2 rfl rfl, ?_, rfl, ?_,
        Or.inr ⟨r, hl, hr, by simp [keepW, hk]⟩⟩
      · intro h0; exact ⟨fun _ => hon0 h0 rfl rfl, (by intro h; rw [hl] at h; cases h)⟩
      · rw [pg_FL_some hr]; simp [keepW, hk, hl]
    | false =>
      simp only [Bool.false_eq_true, if_false]
      cases hg : (get j it).2 with
      | none =>
        have := pg_get_post HG HN (name := name) (m := m) hs hst false l (by intro x hx; rw [hg] at hx; cases hx)
          (by intro _ h; cases h)
        rw [hg] at this; exact this
      | some x =>
        simp only []
        by_cases hk : (!true || x.keep) = true
        · have := pg_get_post HG HN (name := name) (m := m) hs hst true (some x)
            (by intro y hy; rw [hg] at hy; cases hy; exact hk) (fun _ _ => ⟨x, rfl, hg⟩)
          rw [hg] at this
          simp only [hk, if_true]; exact this
        · simp only [hk, if_false, Bool.false_eq_true, if_true]
          obtain ⟨hwf, hb, hi, _⟩ := hst
          obtain ⟨g1, g2, g3, g4, _⟩ := HG j it hs hwf hb
          rw [hi, hg] at g1
          obtain ⟨n1, n2, n3, n4⟩ := HN j (get j it).1 hs g2 g3
          have hlt : i < (flat j).length := (List.getElem?_eq_some_iff.mp g1.symm).1
          rw [g4, hi, Nat.min_eq_left hlt] at n4
          have habs : Abs name j true sy (cur1 name j (next j (get j it).1) true false (some x) m) (i + 1) :=
            ⟨_, _, _, _, rfl, n1, n2, n4, by intro _ h; simp at h, fun _ => ⟨n3, by intro _ h; simp at h⟩,
              by intro _ _ h; simp at h⟩
          obtain ⟨i', it', v', l', m', a0, a1, a1', a1'', a2, a3, a4⟩ := ih _ (i + 1) habs (by omega)
          have hFL : FL j true (i + 1) = FL j true i := by rw [pg_FL_some g1.symm, if_neg (by simpa [keepW] using hk)]
          exact ⟨i', it', v', l', m', a0, a1, a1', a1'', by rw [a2, hFL], by rw [a3, hFL], a4⟩

theorem pg_curGet_abs {name j w sy c i} (hs : Sorted j) (h : Abs name j w sy c i) :
    GetPost name j w sy (curGet c).1 (curGet c).2 i := by
  obtain ⟨it, v, l, m, rfl, hst⟩ := h
  cases w with
  | true =>
    rw [pg_curGet_true]
    exact pg_fGetLoop_abs HG HN hs _ _ i ⟨it, v, l, m, rfl, hst⟩ (by omega)
  | false =>
    rw [pg_curGet_false]
    exact pg_get_post HG HN hs hst v l (fun _ _ => rfl) (by intro h; cases h)

end laws
/-! ## pages on a one-source cursor -/

theorem pg_release_facts (j : Journal) (it : It) :
    (WF j it → WF j (release it)) ∧ effPos (release it) = effPos it ∧ (release it).bkwd = it.bkwd ∧
    (Synced it → Synced (release it)) ∧ (release it).pos = it.pos :=
  let ⟨h1, h2, h3, h4, h5⟩ := release_keeps (j := j) it
  ⟨h4, h1, h3, h5, h2⟩

theorem pg_effPos_eq_pos {j : Journal} {it : It} (hwf : WF j it) (hsy : Synced it) : effPos it = it.pos :=
  effPos_eq_pos hwf hsy

/-- one page: the read loop of `Query`, then `commit` -/
def pageOn (lim : Nat) (c : Cur) : Cur × List Rec × List (Nat × Pos) :=
  ((commit (readLoop lim c []).1).1, (readLoop lim c []).2, (commit (readLoop lim c []).1).2)

/-- state of a cursor after `commit`: standing at `i`, reporting position `p` -/
def PC (name : Nat) (j : Journal) (w : Bool) (c : Cur) (i : Nat) (p : Pos) : Prop :=
  ∃ it v l m, c = cur1 name j it w v l m ∧ St j w true it v l i ∧ (j ≠ [] → Settled j it.pos) ∧ it.pos = p

/-- the cursor stands on a matching record or at the end -/
def SatAt (j : Journal) (w : Bool) (i : Nat) : Prop :=
  i = (flat j).length ∨ ∃ r, (flat j)[i]? = some r ∧ keepW w r = true

theorem of_FL_len {j : Journal} {w : Bool} : FL j w (flat j).length = [] := by simp [FL]

/-- a one-source cursor going forward has `L` to deliver; `FwdAt`: and stands on the first of them (or at the end) -/
def Fwd (name : Nat) (j : Journal) (w sy : Bool) (c : Cur) (L : List Rec) : Prop :=
  ∃ i, Abs name j w sy c i ∧ FL j w i = L
def FwdAt (name : Nat) (j : Journal) (w sy : Bool) (c : Cur) (L : List Rec) : Prop :=
  ∃ i, Abs name j w sy c i ∧ SatAt j w i ∧ FL j w i = L

section laws2
variable (HG : GetFwdSpec) (HN : NextFwdSpec)
include HG HN

theorem of_delivers {name j w sy} (hs : Sorted j) : Delivers (Fwd name j w sy) (FwdAt name j w sy) where
  get := by
    rintro c L ⟨i, h, rfl⟩
    obtain ⟨i', it', v', l', m', e, st, _, _, f, r, d⟩ := pg_curGet_abs HG HN hs h
    refine ⟨r, i', ⟨it', v', l', m', e, st⟩, ?_, f⟩
    rcases d with ⟨_, h2⟩ | ⟨r, _, h2, h3⟩
    · exact Or.inl h2
    · exact Or.inr ⟨r, h2, h3⟩
  next := by
    rintro c L ⟨i, h, hsat, rfl⟩
    refine ⟨_, pg_curNext_abs HG HN hs h, ?_⟩
    -- `Next` moves to `i + 1`, clipped at the end; only from a matching record or the end is that one event less
    rcases hsat with he | ⟨r, hr, hk⟩
    · subst he; simp [of_FL_len]
    · have hlt : i < (flat j).length := (List.getElem?_eq_some_iff.mp hr).1
      rw [Nat.min_eq_left (by omega), pg_FL_some hr]; simp [hk]
  settled := fun ⟨i, h, _, f⟩ => ⟨i, h, f⟩

theorem pg_readLoop_abs {name j w sy} (hs : Sorted j) : ∀ (k : Nat) (c : Cur) (i : Nat) (acc : List Rec),
    Abs name j w sy c i →
    (readLoop k c acc).2 = acc.reverse ++ (FL j w i).take k ∧
    ∃ i', Abs name j w sy (readLoop k c acc).1 i' ∧ FL j w i' = (FL j w i).drop k :=
  fun k c i acc h => (of_delivers HG HN hs).readLoop k c _ acc ⟨i, h, rfl⟩

theorem pg_commit_abs {name j w c i} (hs : Sorted j) (h : Abs name j w true c i) :
    ∃ i' p, PC name j w (commit c).1 i' p ∧ FL j w i' = FL j w i ∧ (commit c).2 = [(name, p)] ∧ flatIdx j p = i' := by
  obtain ⟨i1, it1, v1, l1, m1, e1, st1, set1, _, f1, _, _⟩ := pg_curGet_abs HG HN hs h
  unfold St at st1
  obtain ⟨hwf, hb, hi, hv, hsy, hon0⟩ := st1
  obtain ⟨hsync, hvs⟩ := hsy rfl
  obtain ⟨r1, r2, r3, r4, r5⟩ := pg_release_facts j it1
  have hc : commit c = (cur1 name j (release it1) w v1 l1 m1, [(name, it1.pos)]) := by
    simp only [commit, curState, e1, pg_collectPos, pg_curRelease]
  rw [hc]
  refine ⟨i1, it1.pos, ⟨release it1, v1, l1, m1, rfl, ?_, ?_, r5⟩, f1, rfl, ?_⟩
  · unfold St
    refine ⟨r1 hwf, by rw [r3, hb], by unfold fIdx at hi ⊢; rw [r2, hi], hv, fun _ => ⟨r4 hsync, ?_⟩, by intro h; cases h⟩
    intro a b; rw [r5]; exact hvs a b
  · intro hne; rw [r5]; exact set1 rfl hne
  · rw [← pg_effPos_eq_pos hwf hsync]; exact hi

theorem pg_pageOn_abs {name j w c i} (hs : Sorted j) (lim : Nat) (h : Abs name j w true c i) :
    (pageOn lim c).2.1 = (FL j w i).take lim ∧
    ∃ i' p, PC name j w (pageOn lim c).1 i' p ∧ FL j w i' = (FL j w i).drop lim ∧
      (pageOn lim c).2.2 = [(name, p)] ∧ flatIdx j p = i' := by
  obtain ⟨q1, i1, q2, q3⟩ := pg_readLoop_abs HG HN hs lim c i [] h
  obtain ⟨i', p, c1, c2, c3, c4⟩ := pg_commit_abs HG HN hs q2
  exact ⟨by simpa [pageOn] using q1, i', p, c1, by rw [c2, q3], c3, c4⟩

end laws2
/-! ## chains of pages -/

/-- what the environment does before a page: the server still holds the cursor object, or a new cursor is built
from the position text (evicted / request id zeroed / position only are the same at this level) -/
inductive Choice | same | fresh
deriving DecidableEq, Repr

structure PStep where
  choice : Choice
  limit : Nat
  jrnl : Journal        -- the partition's journal when this page is served (it may have grown)

def mk1 (name : Nat) (j : Journal) (w : Bool) : Cur :=
  mkCur [{ name := name, jrnl := j, it := .lib {} }] w none none false

def resume (name : Nat) (w : Bool) (c : Cur) (pm : List (Nat × Pos)) (st : PStep) : Cur :=
  match st.choice with
  | .same => setJournals c [(name, st.jrnl)]
  | .fresh => applyStatePos (mk1 name st.jrnl w) pm

def chain (name : Nat) (w : Bool) : Cur → List (Nat × Pos) → List PStep → List (List Rec)
  | _, _, [] => []
  | c, pm, st :: rest =>
    (pageOn st.limit (resume name w c pm st)).2.1 ::
      chain name w (pageOn st.limit (resume name w c pm st)).1 (pageOn st.limit (resume name w c pm st)).2.2 rest

/-- a whole paged read of one partition, first request from `head` -/
def pagesC (name : Nat) (w : Bool) (j0 : Journal) (l0 : Nat) (steps : List PStep) : List (List Rec) :=
  (pageOn l0 (applyCorner (mk1 name j0 w) false)).2.1 ::
    chain name w (pageOn l0 (applyCorner (mk1 name j0 w) false)).1 (pageOn l0 (applyCorner (mk1 name j0 w) false)).2.2 steps

theorem pg_flatIdx_zero (j : Journal) : flatIdx j ⟨0, 0⟩ = 0 :=
  flatIdx_eq_zero fun _ _ => fiTerm_zero_of_le (Nat.zero_le _)

theorem pg_setPos_fresh (j : Journal) (p : Pos) :
    (setPos j {} p).ci = none ∧ (setPos j {} p).pos = p ∧ (setPos j {} p).bkwd = false := setPos_fresh j p

theorem pg_fresh_abs (name : Nat) (j : Journal) (w : Bool) (p : Pos) :
    Abs name j w true (applyStatePos (mk1 name j w) [(name, p)]) (flatIdx j p) := by
  obtain ⟨h1, h2, h3⟩ := pg_setPos_fresh j p
  refine ⟨setPos j {} p, false, none, #[{}], by rw [mk1, pg_mkCur, pg_applyStatePos], ?_⟩
  unfold St
  refine ⟨by unfold WF; rw [h1]; trivial, h3, by unfold fIdx effPos; rw [h1]; simp [h2], ?_, ?_, ?_⟩
  · intro _ h; cases h
  · intro _; exact ⟨by unfold Synced; rw [h1]; trivial, by intro _ h; cases h⟩
  · intro h; cases h

theorem pg_head_abs (name : Nat) (j : Journal) (w : Bool) :
    Abs name j w true (applyCorner (mk1 name j w) false) 0 := by
  have : applyCorner (mk1 name j w) false = applyStatePos (mk1 name j w) [(name, {})] := by
    rw [mk1, pg_mkCur, pg_applyStatePos, pg_applyCorner]; simp
  rw [this]
  have h := pg_fresh_abs name j w {}
  have e : flatIdx j ({} : Pos) = 0 := pg_flatIdx_zero j
  rw [e] at h; exact h

theorem pg_pc_flatIdx {name j w c i p} (h : PC name j w c i p) : flatIdx j p = i := by
  obtain ⟨it, v, l, m, _, st, _, hp⟩ := h
  unfold St at st
  obtain ⟨hwf, _, hi, _, hsy, _⟩ := st
  rw [← hp, ← pg_effPos_eq_pos hwf (hsy rfl).1]; exact hi

/-- resuming on the unchanged journal keeps the flat index, whatever the environment chooses -/
theorem pg_resume_fixed {name j w c i p} (h : PC name j w c i p) (st : PStep) (hj : st.jrnl = j) :
    Abs name j w true (resume name w c [(name, p)] st) i := by
  unfold resume
  cases hc : st.choice with
  | same =>
    obtain ⟨it, v, l, m, rfl, hst, _, _⟩ := h
    simp only [hj, pg_setJournals]
    exact ⟨it, v, l, m, rfl, hst⟩
  | fresh =>
    simp only [hj]
    have := pg_fresh_abs name j w p
    rw [pg_pc_flatIdx h] at this; exact this

section laws3
variable (HG : GetFwdSpec) (HN : NextFwdSpec)
include HG HN

theorem pg_chain_fixed {name j w} (hs : Sorted j) : ∀ (steps : List PStep) (c : Cur) (i lim : Nat),
    Abs name j w true c i → (∀ st ∈ steps, st.jrnl = j) →
    ((pageOn lim c).2.1 :: chain name w (pageOn lim c).1 (pageOn lim c).2.2 steps).flatten
      = (FL j w i).take (lim + (steps.map (·.limit)).sum) := by
  intro steps
  induction steps with
  | nil => intro c i lim h _; simp [chain, (pg_pageOn_abs HG HN hs lim h).1]
  | cons st rest ih =>
    intro c i lim h hall
    obtain ⟨e1, i', p', pc', f', pm', _⟩ := pg_pageOn_abs HG HN hs lim h
    rw [chain, pm', List.flatten_cons, ih _ i' st.limit (pg_resume_fixed pc' st (hall st (List.mem_cons_self ..)))
      (fun s hs' => hall s (List.mem_cons_of_mem _ hs')), e1, f', List.map_cons, List.sum_cons]
    exact List.take_add.symm

/-- **paging**, one partition, fixed journal: whatever the limits and whatever the environment chooses per page -/
theorem pg_paging {name j w} (hs : Sorted j) (l0 : Nat) (steps : List PStep) (hall : ∀ st ∈ steps, st.jrnl = j) :
    (pagesC name w j l0 steps).flatten = ((flat j).filter (keepW w)).take (l0 + (steps.map (·.limit)).sum) := by
  rw [pagesC, pg_chain_fixed HG HN hs steps _ 0 l0 (pg_head_abs name j w) hall]
  simp [FL]

end laws3
/-! ## appends between pages -/

theorem pg_FL_grow {j j' : Journal} {e : List Rec} (w : Bool) {i : Nat} (h : flat j' = flat j ++ e)
    (hi : i ≤ (flat j).length) : FL j' w i = FL j w i ++ e.filter (keepW w) := by
  unfold FL
  rw [h, List.drop_append_of_le_length hi, List.filter_append]

def GrowsChain : Journal → List PStep → Prop
  | _, [] => True
  | j, st :: rest => Grows j st.jrnl ∧ Sorted st.jrnl ∧ GrowsChain st.jrnl rest

def lastJ : Journal → List PStep → Journal
  | j, [] => j
  | _, st :: rest => lastJ st.jrnl rest

theorem pg_grows_ne {j j' : Journal} (h : Grows j j') (hne : j ≠ []) : j' ≠ [] := by
  cases h with
  | nil => exact absurd rfl hne
  | cons => simp

section laws4
variable (HG : GetFwdSpec) (HN : NextFwdSpec) (HW : GrowsSpec)
include HG HN HW

theorem pg_chain_prefix_flat : ∀ (steps : List PStep) (j : Journal), GrowsChain j steps →
    ∃ e, flat (lastJ j steps) = flat j ++ e := by
  intro steps
  induction steps with
  | nil => intro j _; exact ⟨[], by simp [lastJ]⟩
  | cons st rest ih =>
    intro j h
    obtain ⟨g, hs', hrest⟩ := h
    obtain ⟨e1, he1⟩ := (HW j st.jrnl g hs').1
    obtain ⟨e2, he2⟩ := ih st.jrnl hrest
    exact ⟨e1 ++ e2, by rw [lastJ, he2, ← he1, List.append_assoc]⟩

theorem pg_resume_grow {name j j' w c i p} (h : PC name j w c i p) (hne : j ≠ []) (g : Grows j j') (hs' : Sorted j')
    (st : PStep) (hj : st.jrnl = j') : Abs name j' w true (resume name w c [(name, p)] st) i := by
  obtain ⟨hpre, hset, hwf'⟩ := HW j j' g hs'
  unfold resume
  cases hc : st.choice with
  | same =>
    obtain ⟨it, v, l, m, rfl, hst, hsettled, _⟩ := h
    unfold St at hst
    obtain ⟨hwf, hb, hi, hv, hsy, hon0⟩ := hst
    obtain ⟨hsync, hvs⟩ := hsy rfl
    simp only [hj, pg_setJournals]
    refine ⟨it, v, l, m, rfl, ?_⟩
    unfold St
    have hw2 := hwf' it hwf
    refine ⟨hw2, hb, ?_, ?_, fun _ => ⟨hsync, fun a b => (hset _ (hvs a b)).2⟩, by intro h; cases h⟩
    · unfold fIdx at hi ⊢
      rw [pg_effPos_eq_pos hw2 hsync, (hset _ (hsettled hne)).1, ← pg_effPos_eq_pos hwf hsync]; exact hi
    · intro a b
      obtain ⟨r, h1, h2, h3⟩ := hv a b
      obtain ⟨e, he⟩ := hpre
      refine ⟨r, h1, ?_, h3⟩
      rw [← he, List.getElem?_append_left (List.getElem?_eq_some_iff.mp h2).1]; exact h2
  | fresh =>
    simp only [hj]
    have := pg_fresh_abs name j' w p
    have hp : Settled j p := by
      obtain ⟨it, v, l, m, _, _, hsettled, hpos⟩ := h
      rw [← hpos]; exact hsettled hne
    rw [(hset p hp).1, pg_pc_flatIdx h] at this; exact this

/-- **appends between pages**: a page served from `c` and the chain that follows it are a prefix of the matching
events of the final journal from the start index (stored order, nothing twice, nothing foreign; events appended
later come later), and when the last page came back shorter than its limit they are all of them. -/
theorem pg_chain_grow {name w} : ∀ (steps : List PStep) (j : Journal) (c : Cur) (i lim : Nat),
    Abs name j w true c i → j ≠ [] → Sorted j → GrowsChain j steps →
    ∃ R, FL (lastJ j steps) w i =
        ((pageOn lim c).2.1 :: chain name w (pageOn lim c).1 (pageOn lim c).2.2 steps).flatten ++ R ∧
      (∀ evs, ((pageOn lim c).2.1 :: chain name w (pageOn lim c).1 (pageOn lim c).2.2 steps).getLast? = some evs →
        evs.length < (steps.getLast?.map (·.limit)).getD lim → R = []) := by
  intro steps
  induction steps with
  | nil =>
    intro j c i lim habs _ hs _
    obtain ⟨e1, i', _, _, f', _⟩ := pg_pageOn_abs HG HN hs lim habs
    refine ⟨FL j w i', by simp [chain, lastJ, e1, f'], ?_⟩
    intro evs hg hlen
    simp only [chain, List.getLast?_singleton, Option.some.injEq] at hg
    -- the page is shorter than its limit: nothing is left
    rw [← hg, e1, List.length_take] at hlen
    rw [f']; exact List.drop_eq_nil_of_le (by simp at hlen; omega)
  | cons st rest ih =>
    intro j c i lim habs hne hs hch
    obtain ⟨e, (he : flat (lastJ st.jrnl rest) = flat j ++ e)⟩ := pg_chain_prefix_flat HG HN HW _ j hch
    obtain ⟨g, hs1, hrest⟩ := hch
    have hi := pg_abs_le HG HN habs
    obtain ⟨e1, i', p', pc', f', pm', _⟩ := pg_pageOn_abs HG HN hs lim habs
    have hi' : i' ≤ (flat j).length := by
      obtain ⟨it, v, l, m, hc, hst, _, _⟩ := pc'
      exact pg_abs_le HG HN (⟨it, v, l, m, hc, hst⟩ : Abs name j w true _ i')
    obtain ⟨R, hR, hcomp⟩ := ih st.jrnl _ i' st.limit (pg_resume_grow HG HN HW pc' hne g hs1 st rfl)
      (pg_grows_ne g hne) hs1 hrest
    refine ⟨R, ?_, ?_⟩
    · rw [chain, pm', List.flatten_cons, List.append_assoc, ← hR, lastJ, e1, pg_FL_grow w he hi,
        pg_FL_grow w he hi', ← List.append_assoc, f', List.take_append_drop]
    · intro evs hg hlen
      rw [chain, pm', List.getLast?_cons_cons] at hg
      refine hcomp evs hg ?_
      cases rest with
      | nil => exact hlen
      | cons r rs => rwa [List.getLast?_cons_cons] at hlen

end laws4
section laws5
variable (HG : GetFwdSpec) (HN : NextFwdSpec) (HW : GrowsSpec)
include HG HN HW

/-- `pg_chain_grow` for a whole paged read that starts at `head` -/
theorem pg_pages_grow {name w} (j0 : Journal) (l0 : Nat) (steps : List PStep)
    (hne : j0 ≠ []) (hs : Sorted j0) (hch : GrowsChain j0 steps) :
    ∃ R, (flat (lastJ j0 steps)).filter (keepW w) = (pagesC name w j0 l0 steps).flatten ++ R ∧
      (∀ st evs, steps.getLast? = some st → (pagesC name w j0 l0 steps).getLast? = some evs →
        evs.length < st.limit → R = []) := by
  obtain ⟨R, hR, hcomp⟩ := pg_chain_grow HG HN HW steps j0 _ 0 l0 (pg_head_abs name j0 w) hne hs hch
  refine ⟨R, by rw [pagesC, ← hR]; simp [FL], fun st evs hl hg hlen => hcomp evs hg ?_⟩
  rw [hl]; exact hlen

end laws5
end Logrange.Rd

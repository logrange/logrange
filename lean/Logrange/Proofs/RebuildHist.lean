import Logrange.Model.RebuildHist
import Logrange.Proofs.ChunkHist
import Logrange.Proofs.PointsMerge
/-!
# Soundness of the rebuilt time index and of write histories that contain rebuilds

* (a) the two look-ups are sound for every index with `LookupSound` (no sortedness needed);
* (b) `window_complete_of_lookup`: the selector's window is complete from `HullSound` + `LookupSound`;
* (c) `IndexSound → LookupSound`;
* (d) `rebuild_sound`: the Points-level `rebuildIndexInt` over a confirmed prefix of monotone data is `LookupSound`;
* (e) `SoundL` is preserved by writes and rebuilds on monotone data; `window_complete_with_rebuilds`;
* (f) concrete instances.
-/
namespace Logrange.RebuildHist
open Logrange.Points Logrange.ChunkHist

/-- the model's segment test is the code's (`pos1 - pos0 < sparseSpace` → `continue`) -/
example : Generated.C02.rebuildSegmentIsStrictLess = true := by decide

/-! ## (a) look-ups from `LookupSound` -/

/-- the answer of `less` is the index of a point with `ts > t` -/
theorem lessPos_mem (t : Int) : ∀ (pts : List Pt) (m : Nat), lessPos pts t = some m → ∃ p ∈ pts, p.idx = m ∧ t < p.ts := by
  intro pts
  induction pts with
  | nil => intro m hm; simp [lessPos, cntLE] at hm
  | cons a r ih =>
    intro m hm
    by_cases ha : a.ts ≤ t
    · have hm' : lessPos r t = some m := by
        simpa [lessPos, cntLE_cons_le ha] using hm
      obtain ⟨p, hp, h1, h2⟩ := ih m hm'
      exact ⟨p, List.mem_cons_of_mem _ hp, h1, h2⟩
    · have : m = a.idx := by
        simp [lessPos, cntLE_cons_gt ha] at hm; exact hm.symm
      exact ⟨a, List.mem_cons_self, this.symm, by omega⟩

/-- the answer of `grEq` is 0 or the index of a point with `ts ≤ t` -/
theorem grEqPos_mem (t : Int) : ∀ (pts : List Pt), grEqPos pts t = 0 ∨ ∃ p ∈ pts, p.ts ≤ t ∧ grEqPos pts t = p.idx := by
  intro pts
  induction pts with
  | nil => left; simp [grEqPos, cntLE]
  | cons a r ih =>
    by_cases ha : a.ts ≤ t
    · cases r with
      | nil => right; exact ⟨a, List.mem_cons_self, ha, grEqPos_single_le ha⟩
      | cons b r' =>
        by_cases hb : b.ts ≤ t
        · rw [grEqPos_cons_cons_le ha hb]
          rcases ih with h | ⟨p, hp, h1, h2⟩
          · left; exact h
          · right; exact ⟨p, List.mem_cons_of_mem _ hp, h1, h2⟩
        · right; exact ⟨a, List.mem_cons_self, ha, grEqPos_cons_le_gt ha hb⟩
    · left; exact grEqPos_cons_gt ha

/-- `less`: a position beyond the answer cannot have `ts ≤ t` -/
theorem less_upper_of_lookup {tsOf : Nat → Int} {n : Nat} {pts : List Pt} (hl : LookupSound tsOf n pts) {t : Int} {m : Nat}
    (hm : lessPos pts t = some m) {q : Nat} (hq : m < q) (hqn : q < n) : t < tsOf q := by
  obtain ⟨p, hp, h1, h2⟩ := lessPos_mem t pts m hm
  have := hl.2 p hp q (by omega) hqn
  omega

/-- `grEq` asked for `t − 1` answers a position at or before every record with `ts ≥ t` -/
theorem grEq_lower_of_lookup {tsOf : Nat → Int} {n : Nat} {pts : List Pt} (hl : LookupSound tsOf n pts) {t : Int} {q : Nat}
    (hq : t ≤ tsOf q) (hqn : q < n) : grEqPos pts (t - 1) ≤ q := by
  rcases grEqPos_mem (t - 1) pts with h | ⟨p, hp, h1, h2⟩
  · omega
  · rw [h2]
    apply Nat.le_of_not_lt
    intro hlt
    have := hl.1 p hp q hlt hqn
    omega

/-! ## (b) completeness of the window from `LookupSound` -/

/-- **the index may only skip events outside the range** — from `LookupSound` instead of `IndexSound` -/
theorem window_complete_of_lookup {tsOf : Nat → Int} {n : Nat} (h : Hull) (idx : Option (List Pt)) (r : TmRange)
    (hh : HullSound h tsOf n) (hi : ∀ pts, idx = some pts → LookupSound tsOf n pts) (hn : n ≤ maxU32)
    (hmin : minI64 ≤ h.minTs) (p : Nat) (hp : p < n) (hr : inRange r (tsOf p)) : inWindow (window h idx r) p :=
  window_complete_of h idx r hh (fun pts e _ _ hqn hq => grEq_lower_of_lookup (hi pts e) hq hqn)
    (fun pts e _ _ hm _ h1 h2 => less_upper_of_lookup (hi pts e) hm h1 h2) hn hmin p hp hr

/-! ## (c) `IndexSound` implies `LookupSound` -/

theorem upper_mem_aux (tsOf : Nat → Int) : ∀ (r : List Pt) (a : Pt), SortedTs (a :: r) → Claims tsOf (a :: r) →
    (∀ q, q ≤ a.idx → tsOf q ≤ a.ts) → ∀ p ∈ a :: r, ∀ q, q ≤ p.idx → tsOf q ≤ p.ts := by
  intro r
  induction r with
  | nil =>
    intro a _ _ H p hp q hq
    simp at hp; subst hp; exact H q hq
  | cons b r' ih =>
    intro a hs hc H p hp q hq
    cases hp with
    | head => exact H q hq
    | tail _ hp' =>
      refine ih b hs.2 hc.2 ?_ p hp' q hq
      intro q' hq'
      by_cases h1 : q' ≤ a.idx
      · have := H q' h1; have := hs.1; omega
      · exact (hc.1 q' (by omega) hq').2

theorem lookupSound_of_indexSound {tsOf : Nat → Int} {n : Nat} {pts : List Pt} (hs : IndexSound tsOf n pts) :
    LookupSound tsOf n pts := by
  constructor
  · match pts, hs with
    | [], _ => intro p hp; simp at hp
    | [a], hs => exact absurd rfl hs.len
    | a :: b :: r, hs =>
      have hh := hs.head
      simp only [HeadOk] at hh
      intro p hp q hq _
      cases hp with
      | head => omega
      | tail _ hp' =>
        refine upper_mem_aux tsOf r b hs.sortedTs.2 hs.claims.2 ?_ p hp' q (by omega)
        intro q' hq'
        by_cases h0 : q' = 0
        · subst h0; exact hh.2.2
        · exact (hs.claims.1 q' (by omega) hq').2
  · intro p hp q h1 h2
    have hne : pts ≠ [] := by intro h; subst h; simp at hp
    exact after_ge_mem tsOf n pts hs.sortedTs hs.claims (hs.tail hne) p hp q h1 h2

/-! ## (d) the rebuilt index on monotone data -/

/-- a point of the index rebuilt from the first `m` records: it carries the timestamp of the record just before its
(exclusive) position; the two root points `(t0, 0)` fit with `0 - 1 = 0` -/
def RbPt (tsOf : Nat → Int) (m : Nat) (p : Pt) : Prop := p.idx ≤ m ∧ 0 < m ∧ p.ts = tsOf (p.idx - 1)

theorem writeSeg_append {pts : List Pt} {segMin segMax : Int} {pos0 pos1 : Nat} (hne : pts ≠ []) (hlt : pos0 ≠ pos1)
    (hall : ∀ p ∈ pts, p.ts ≤ segMin) : writeSeg pts segMin segMax pos0 pos1 = pts ++ [⟨segMax, pos1⟩] := by
  rw [writeSeg, if_neg hlt, add_of_all_le hall, if_neg hne]

/-- the state of the scanning loop on monotone data, before record `pos1` is read -/
structure ScanInv (tsOf : Nat → Int) (m : Nat) (segMax0 : Int) (pts : List Pt) (pos0 pos1 : Nat) (segMin segMax : Int) :
    Prop where
  le : pos0 ≤ pos1
  ne : pts ≠ []
  rb : ∀ p ∈ pts, RbPt tsOf m p ∧ p.idx ≤ pos0
  cur : pos0 < pos1 → segMin = tsOf pos0 ∧ segMax = tsOf (pos1 - 1)
  fresh : pos0 = pos1 → segMin = maxI64 ∧ segMax = segMax0

section
variable {tsOf : Nat → Int} {m : Nat} {segMax0 : Int} {pts : List Pt} {pos0 pos1 : Nat} {segMin segMax : Int}

theorem ScanInv.all_le (h : ScanInv tsOf m segMax0 pts pos0 pos1 segMin segMax) (hmono : Monotone tsOf m) (hp0 : pos0 < m) :
    ∀ p ∈ pts, p.ts ≤ tsOf pos0 := by
  intro p hp
  obtain ⟨⟨h1, _, h3⟩, h4⟩ := h.rb p hp
  have := hmono (p.idx - 1) pos0 (by omega) hp0
  omega

theorem ScanInv.see (h : ScanInv tsOf m segMax0 pts pos0 pos1 segMin segMax) (hmono : Monotone tsOf m)
    (hs0 : ∀ q, q < m → segMax0 ≤ tsOf q) (hhi : ∀ q, q < m → tsOf q ≤ maxI64) (hp1 : pos1 < m) :
    min segMin (tsOf pos1) = tsOf pos0 ∧ max segMax (tsOf pos1) = tsOf pos1 := by
  by_cases he : pos0 = pos1
  · obtain ⟨e1, e2⟩ := h.fresh he
    have := hhi pos1 hp1
    have := hs0 pos1 hp1
    rw [e1, e2, he]; omega
  · obtain ⟨e1, e2⟩ := h.cur (by have := h.le; omega)
    have := hmono pos0 pos1 h.le hp1
    have := hmono (pos1 - 1) pos1 (by omega) hp1
    rw [e1, e2]; omega

theorem ScanInv.continue (h : ScanInv tsOf m segMax0 pts pos0 pos1 segMin segMax) :
    ScanInv tsOf m segMax0 pts pos0 (pos1 + 1) (tsOf pos0) (tsOf pos1) :=
  ⟨Nat.le_succ_of_le h.le, h.ne, h.rb, fun _ => ⟨rfl, rfl⟩, fun e => by have := h.le; omega⟩

theorem ScanInv.flush (h : ScanInv tsOf m segMax0 pts pos0 pos1 segMin segMax) (hp1 : pos1 < m) :
    ScanInv tsOf m segMax0 (pts ++ [⟨tsOf pos1, pos1 + 1⟩]) (pos1 + 1) (pos1 + 1) maxI64 segMax0 := by
  refine ⟨Nat.le_refl _, by simp, ?_, fun hlt => absurd hlt (Nat.lt_irrefl _), fun _ => ⟨rfl, rfl⟩⟩
  intro p hp
  rcases List.mem_append.mp hp with hp | hp
  · obtain ⟨h1, h4⟩ := h.rb p hp
    have := h.le
    exact ⟨h1, by omega⟩
  · rw [List.mem_singleton.mp hp]
    exact ⟨⟨hp1, by omega, rfl⟩, Nat.le_refl _⟩

end

/-- on monotone data every `addInterval` of the loop is an append of `(tsOf (pos1-1), pos1)` -/
theorem scan_inv {tsOf : Nat → Int} {m sparse : Nat} {segMax0 : Int} (hmono : Monotone tsOf m)
    (hs0 : ∀ q, q < m → segMax0 ≤ tsOf q) (hhi : ∀ q, q < m → tsOf q ≤ maxI64) :
    ∀ (k : Nat) (pts : List Pt) (pos0 pos1 : Nat) (segMin segMax : Int), pos1 + k = m →
      ScanInv tsOf m segMax0 pts pos0 pos1 segMin segMax →
      ∀ p ∈ scan sparse segMax0 ((List.range' pos1 k).map tsOf) pts pos0 pos1 segMin segMax, RbPt tsOf m p := by
  intro k
  induction k with
  | zero =>
    intro pts pos0 pos1 segMin segMax hk h p hp
    simp only [List.range'_zero, List.map_nil, scan] at hp
    by_cases he : pos0 = pos1
    · rw [writeSeg, if_pos he] at hp
      exact (h.rb p hp).1
    · have hlt : pos0 < pos1 := by have := h.le; omega
      obtain ⟨e1, e2⟩ := h.cur hlt
      rw [writeSeg_append h.ne he (by rw [e1]; exact h.all_le hmono (by omega)), List.mem_append] at hp
      rcases hp with hp | hp
      · exact (h.rb p hp).1
      · rw [List.mem_singleton.mp hp]
        exact ⟨by dsimp only; omega, by omega, e2⟩
  | succ k ih =>
    intro pts pos0 pos1 segMin segMax hk h p hp
    have hp1 : pos1 < m := by omega
    obtain ⟨hmin, hmax⟩ := h.see hmono hs0 hhi hp1
    rw [List.range'_succ, List.map_cons] at hp
    simp only [scan] at hp
    rw [hmin, hmax] at hp
    split at hp
    · exact ih pts pos0 (pos1 + 1) _ _ (by omega) h.continue p hp
    · rw [writeSeg_append h.ne (by have := h.le; omega) (h.all_le hmono (by have := h.le; omega))] at hp
      exact ih _ (pos1 + 1) (pos1 + 1) _ _ (by omega) (h.flush hp1) p hp

theorem scanInv_root (tsOf : Nat → Int) {m : Nat} (segMax0 : Int) (hm0 : 0 < m) :
    ScanInv tsOf m segMax0 [⟨tsOf 0, 0⟩, ⟨tsOf 0, 0⟩] 0 0 maxI64 segMax0 := by
  refine ⟨Nat.le_refl _, by simp, ?_, fun h => absurd h (Nat.lt_irrefl _), fun _ => ⟨rfl, rfl⟩⟩
  intro p hp
  have : p = ⟨tsOf 0, 0⟩ := by simpa using hp
  rw [this]
  exact ⟨⟨Nat.zero_le _, hm0, rfl⟩, Nat.le_refl _⟩

theorem lookupSound_of_rbPt {tsOf : Nat → Int} {n m : Nat} {pts : List Pt} (hmono : Monotone tsOf n) (hmn : m ≤ n)
    (H : ∀ p ∈ pts, RbPt tsOf m p) : LookupSound tsOf n pts := by
  constructor
  · intro p hp q h1 _
    obtain ⟨e1, _, e3⟩ := H p hp
    rw [e3]
    exact hmono q (p.idx - 1) (by omega) (by omega)
  · intro p hp q h1 h2
    obtain ⟨e1, _, e3⟩ := H p hp
    rw [e3]
    exact hmono (p.idx - 1) q (by omega) h2

theorem map_range_succ_eq (tsOf : Nat → Int) (k : Nat) :
    (List.range (k + 1)).map tsOf = tsOf 0 :: (List.range' 1 k).map tsOf := by
  rw [List.range_eq_range', List.range'_succ]
  rfl

/-- every point of the index rebuilt from the first `m` records of monotone data is an `RbPt` -/
theorem rebuildPts_rbPt {tsOf : Nat → Int} {m : Nat} (sparse : Nat) {segMax0 : Int} (hmono : Monotone tsOf m)
    (hs0 : ∀ q, q < m → segMax0 ≤ tsOf q) (hhi : ∀ q, q < m → tsOf q ≤ maxI64) :
    ∀ p ∈ rebuildPts sparse segMax0 ((List.range m).map tsOf), RbPt tsOf m p := by
  cases m with
  | zero => intro p hp; simp [rebuildPts] at hp
  | succ k =>
    intro p hp
    have e : rebuildPts sparse segMax0 ((List.range (k + 1)).map tsOf) =
        scan sparse segMax0 ((List.range' 0 (k + 1)).map tsOf) [⟨tsOf 0, 0⟩, ⟨tsOf 0, 0⟩] 0 0 maxI64 segMax0 := by
      rw [← List.range_eq_range']
      rw [map_range_succ_eq]
      rfl
    rw [e] at hp
    exact scan_inv hmono hs0 hhi (k + 1) _ 0 0 _ _ (by omega) (scanInv_root tsOf segMax0 (by omega)) p hp

/-- **(d)** the index `rebuildIndexInt` builds from the first `m` (confirmed) records of a chunk with `n` monotone
records is sound for both look-ups over ALL `n` records (`segMax0 = MinInt64` satisfies `hs0`; `0 < sparse` is not
needed) -/
theorem rebuild_sound {tsOf : Nat → Int} {n m : Nat} (sparse : Nat) {segMax0 : Int} (hmono : Monotone tsOf n) (hmn : m ≤ n)
    (hs0 : ∀ q, q < n → segMax0 ≤ tsOf q) (hhi : ∀ q, q < n → tsOf q ≤ maxI64) :
    LookupSound tsOf n (rebuildPts sparse segMax0 ((List.range m).map tsOf)) :=
  lookupSound_of_rbPt hmono hmn
    (rebuildPts_rbPt sparse (monotone_mono hmono hmn) (fun q hq => hs0 q (by omega)) (fun q hq => hhi q (by omega)))

/-! ### the scanned hull is exact on monotone data -/

theorem foldl_min_max_range (tsOf : Nat → Int) : ∀ m, Monotone tsOf m →
    ((List.range m).map tsOf).foldl min (tsOf 0) = tsOf 0 ∧ ((List.range m).map tsOf).foldl max (tsOf 0) = tsOf (m - 1) := by
  intro m
  induction m with
  | zero => intro _; exact ⟨rfl, rfl⟩
  | succ k ih =>
    intro hm
    obtain ⟨e1, e2⟩ := ih (monotone_mono hm (by omega))
    rw [List.range_succ, List.map_append, List.foldl_append, List.foldl_append, e1, e2]
    simp only [List.map_cons, List.map_nil, List.foldl_cons, List.foldl_nil]
    have := hm 0 k (by omega) (by omega)
    have := hm (k - 1) k (by omega) (by omega)
    show min (tsOf 0) (tsOf k) = tsOf 0 ∧ max (tsOf (k - 1)) (tsOf k) = tsOf k
    omega

/-- `rInfo` of `rebuildIndexInt` over the first `m > 0` records of monotone data is their exact hull -/
theorem scannedHull_exact {tsOf : Nat → Int} {m : Nat} (hm0 : 0 < m) (hmono : Monotone tsOf m) :
    scannedHull ((List.range m).map tsOf) = ⟨tsOf 0, tsOf (m - 1)⟩ := by
  cases m with
  | zero => omega
  | succ k =>
    have e : scannedHull ((List.range (k + 1)).map tsOf) =
        ⟨((List.range (k + 1)).map tsOf).foldl min (tsOf 0), ((List.range (k + 1)).map tsOf).foldl max (tsOf 0)⟩ := by
      rw [map_range_succ_eq]
      rfl
    rw [e, (foldl_min_max_range tsOf (k + 1) hmono).1, (foldl_min_max_range tsOf (k + 1) hmono).2]

theorem scannedHull_nil : scannedHull [] = ⟨0, 0⟩ := rfl

/-! ## (e) histories of writes and rebuilds on monotone data -/

/-- the invariant of one chunk's index state w.r.t. the records `tsOf 0 … tsOf (c.n - 1)`, with `LookupSound` in the
place of `IndexSound` -/
structure SoundL (tsOf : Nat → Int) (c : ChunkIdx) : Prop where
  hullSome : c.n > 0 → c.hull ≠ none
  hullOk : ∀ h, c.hull = some h → HullSound h tsOf c.n ∧ minI64 ≤ h.minTs
  lookup : c.corrupted = false → LookupSound tsOf c.n c.pts
  attained : c.corrupted = false → ∀ p ∈ c.pts, ∃ q, q < c.n ∧ p.ts ≤ tsOf q
  idxLe : c.corrupted = false → ∀ p ∈ c.pts, p.idx ≤ c.n

theorem SoundL.hull_pos {tsOf : Nat → Int} {c : ChunkIdx} (hs : SoundL tsOf c) (hn : c.n > 0) :
    ∃ h, c.hull = some h ∧ HullSound h tsOf c.n ∧ minI64 ≤ h.minTs := by
  cases hh : c.hull with
  | none => exact absurd hh (hs.hullSome hn)
  | some h => exact ⟨h, rfl, hs.hullOk h hh⟩

theorem soundL_init (tsOf : Nat → Int) : SoundL tsOf {} := by
  refine ⟨?_, ?_, ?_, ?_, ?_⟩
  · intro h; exact absurd h (by decide)
  · intro h hh; exact absurd hh (by simp)
  · intro _; exact ⟨fun p hp => by simp at hp, fun p hp => by simp at hp⟩
  · intro _ p hp; simp at hp
  · intro _ p hp; simp at hp

theorem rollHull_of_exactHull {tsOf : Nat → Int} {a k : Nat} {mn mx : Int} (he : ExactHull tsOf a k mn mx)
    (hlow : ∀ q, minI64 ≤ tsOf q) : RollHull tsOf a k mn mx := by
  obtain ⟨h1, h2, ⟨q, hq1, hq2, hq3⟩⟩ := he
  refine ⟨h1, h2, Or.inr ⟨q, hq1, hq2, hq3⟩, ?_⟩
  rw [← hq3]; exact hlow q

/-- `LookupSound` survives the growth of the chunk on monotone data when every point's timestamp is attained inside the
old chunk and no point lies beyond the old end -/
theorem lookup_grow {tsOf : Nat → Int} {n n' : Nat} {pts : List Pt} (hl : LookupSound tsOf n pts)
    (hm : Monotone tsOf n') (hatt : ∀ p ∈ pts, ∃ q, q < n ∧ p.ts ≤ tsOf q) (hidx : ∀ p ∈ pts, p.idx ≤ n) :
    LookupSound tsOf n' pts := by
  constructor
  · intro p hp q h1 _
    have := hidx p hp
    exact hl.1 p hp q h1 (by omega)
  · intro p hp q h1 h2
    by_cases hq : q < n
    · exact hl.2 p hp q h1 hq
    · obtain ⟨q0, hq0, hle⟩ := hatt p hp
      have := hm q0 q (by omega) h2
      omega

/-- the hull part of one write -/
theorem hullL_step {tsOf : Nat → Int} {c : ChunkIdx} {k : Nat} {mn mx : Int} (hs : SoundL tsOf c)
    (he : RollHull tsOf c.n k mn mx) :
    HullSound (newHull c.hull mn mx) tsOf (c.n + k) ∧ minI64 ≤ (newHull c.hull mn mx).minTs := by
  refine ⟨hullSound_newHull (fun h e => (hs.hullOk h e).1) (fun e => ?_) he.1, ?_⟩
  · exact Nat.eq_zero_of_not_pos (fun hn => hs.hullSome hn e)
  · have hmn := he.2.2.2
    cases hh : c.hull with
    | none => exact hmn
    | some h =>
      have := (hs.hullOk h hh).2
      show minI64 ≤ min h.minTs mn
      omega

theorem SoundL.pts_le_min {tsOf : Nat → Int} {c : ChunkIdx} (hs : SoundL tsOf c) {k : Nat} {mn mx : Int}
    (hm : Monotone tsOf (c.n + k)) (he : RollHull tsOf c.n k mn mx) (hc : c.corrupted = false) : ∀ p ∈ c.pts, p.ts ≤ mn := by
  intro p hp
  obtain ⟨q, hq, hle⟩ := hs.attained hc p hp
  rcases he.2.2.1 with h0 | ⟨qn, hqn1, hqn2, hqn3⟩
  · omega
  · have := hm q qn (by omega) hqn2
    omega

/-- **one `onWrite` preserves `SoundL`** on a monotone stream when the notification carries a `RollHull` -/
theorem onWrite_preservesL {tsOf : Nat → Int} {c : ChunkIdx} (sparse bigGap k : Nat) (mn mx : Int) (hs : SoundL tsOf c)
    (hk : 0 < k) (hm : Monotone tsOf (c.n + k)) (he : RollHull tsOf c.n k mn mx) :
    SoundL tsOf (onWrite sparse bigGap c k mn mx) := by
  have hh := hullL_step hs he
  have hall := hs.pts_le_min hm he
  obtain ⟨hin, ⟨qx, hqx1, hqx2, hqx3⟩, hroll, _⟩ := he
  generalize e : onWrite sparse bigGap c k mn mx = c'
  obtain ⟨en, eh, hcase⟩ := onWrite_cases e
  have hsome : c'.n > 0 → c'.hull ≠ none := fun _ => by rw [eh]; exact Option.some_ne_none _
  have hhull : ∀ h, c'.hull = some h → HullSound h tsOf c'.n ∧ minI64 ≤ h.minTs := by
    intro h e
    rw [eh, Option.some.injEq] at e
    rw [← e, en]; exact hh
  rcases hcase with hc | ⟨hc, _, hc', ep, _⟩ | ⟨hc, hc', ep, _⟩
  · refine ⟨hsome, hhull, ?_, ?_, ?_⟩
    all_goals (intro h; rw [hc] at h; exact Bool.noConfusion h)
  · refine ⟨hsome, hhull, ?_, ?_, ?_⟩
    · intro _; rw [ep, en]
      exact lookup_grow (hs.lookup hc) hm (hs.attained hc) (hs.idxLe hc)
    · intro _ p hp
      rw [ep] at hp
      obtain ⟨q, hq, hle⟩ := hs.attained hc p hp
      exact ⟨q, by omega, hle⟩
    · intro _ p hp
      rw [ep] at hp
      have := hs.idxLe hc p hp
      omega
  · have hall := hall hc
    have hold := lookup_grow (n' := c.n + k) (hs.lookup hc) hm (hs.attained hc) (hs.idxLe hc)
    refine ⟨hsome, hhull, ?_, ?_, ?_⟩
    · intro _
      rw [ep, en]
      constructor
      · intro p hp q h1 h2
        rcases mem_add_of_all_le hall hp with hp | hp | hp
        · exact hold.1 p hp q h1 h2
        · subst hp
          dsimp only at h1 ⊢
          rcases hroll with h0 | ⟨qn, hqn1, hqn2, hqn3⟩
          · omega
          · have := hm q qn (by omega) hqn2
            omega
        · subst hp
          dsimp only at h1 ⊢
          have h3 := hm q (c.n + k - 1) (by omega) (by omega)
          have h4 := hin (c.n + k - 1) (by omega) (by omega)
          omega
      · intro p hp q h1 h2
        rcases mem_add_of_all_le hall hp with hp | hp | hp
        · exact hold.2 p hp q h1 h2
        · subst hp
          dsimp only at h1 ⊢
          exact (hin q (by omega) h2).1
        · subst hp
          dsimp only at h1
          omega
    · intro _ p hp
      rw [ep] at hp
      rcases mem_add_of_all_le hall hp with hp | hp | hp
      · obtain ⟨q, hq, hle⟩ := hs.attained hc p hp
        exact ⟨q, by omega, hle⟩
      · subst hp; exact ⟨c.n, by omega, (hin c.n (Nat.le_refl _) (by omega)).1⟩
      · subst hp; exact ⟨qx, by omega, by dsimp only; omega⟩
    · intro _ p hp
      rw [ep] at hp
      rcases mem_add_of_all_le hall hp with hp | hp | hp
      · have := hs.idxLe hc p hp; omega
      · subst hp; dsimp only; omega
      · subst hp; dsimp only; omega

theorem rebuild_n (sparse : Nat) (segMax0 : Int) (c : ChunkIdx) (tss : List Int) : (rebuild sparse segMax0 c tss).n = c.n := by
  unfold rebuild
  split <;> rfl

/-- **one rebuild of a confirmed prefix preserves `SoundL`** on monotone data -/
theorem rebuild_preservesL {tsOf : Nat → Int} {c : ChunkIdx} (sparse : Nat) {segMax0 : Int} (m : Nat) (hs : SoundL tsOf c)
    (hmn : m ≤ c.n) (hm : Monotone tsOf c.n) (hlow : ∀ q, q < c.n → minI64 ≤ tsOf q)
    (hhi : ∀ q, q < c.n → tsOf q ≤ maxI64) (hs0 : ∀ q, q < c.n → segMax0 ≤ tsOf q) :
    SoundL tsOf (rebuild sparse segMax0 c ((List.range m).map tsOf)) := by
  have hrb := rebuildPts_rbPt sparse (segMax0 := segMax0) (monotone_mono hm hmn) (fun q hq => hs0 q (by omega))
    (fun q hq => hhi q (by omega))
  unfold rebuild
  split
  · exact hs
  · rename_i h hh
    obtain ⟨hsound, hmin⟩ := hs.hullOk h hh
    have hsmin : minI64 ≤ (scannedHull ((List.range m).map tsOf)).minTs := by
      by_cases hm0 : 0 < m
      · rw [scannedHull_exact hm0 (monotone_mono hm hmn)]
        exact hlow 0 (by omega)
      · have : m = 0 := by omega
        subst this
        show minI64 ≤ (0 : Int)
        decide
    refine ⟨?_, ?_, ?_, ?_, ?_⟩
    · intro _; simp
    · intro h' e
      simp only [Option.some.injEq] at e
      rw [← e]
      constructor
      · intro p hp
        have := hsound p hp
        dsimp only
        omega
      · dsimp only
        omega
    · intro _
      exact lookupSound_of_rbPt hm hmn hrb
    · intro _ p hp
      obtain ⟨e1, e2, e3⟩ := hrb p hp
      exact ⟨p.idx - 1, by show p.idx - 1 < c.n; omega, by rw [e3]; exact Int.le_refl _⟩
    · intro _ p hp
      obtain ⟨e1, _, _⟩ := hrb p hp
      show p.idx ≤ c.n
      omega

/-! ### histories -/

theorem step_n (sparse bigGap : Nat) (segMax0 : Int) (tsOf : Nat → Int) (c : ChunkIdx) (op : Op) :
    (step sparse bigGap segMax0 tsOf c op).n = c.n + op.recs := by
  cases op with
  | write k mn mx => exact onWrite_n sparse bigGap c k mn mx
  | rebuild m => exact rebuild_n sparse segMax0 c _

/-- **one event preserves the invariant** -/
theorem step_preserves {tsOf : Nat → Int} {c : ChunkIdx} (sparse bigGap : Nat) {segMax0 : Int} (op : Op) (hs : SoundL tsOf c)
    (hok : OpOk tsOf c.n op) (hm : Monotone tsOf (c.n + op.recs)) (hlow : ∀ q, q < c.n + op.recs → minI64 ≤ tsOf q)
    (hhi : ∀ q, q < c.n + op.recs → tsOf q ≤ maxI64) (hs0 : ∀ q, q < c.n + op.recs → segMax0 ≤ tsOf q) :
    SoundL tsOf (step sparse bigGap segMax0 tsOf c op) := by
  cases op with
  | write k mn mx => exact onWrite_preservesL sparse bigGap k mn mx hs hok.1 hm hok.2
  | rebuild m =>
    exact rebuild_preservesL sparse (min m c.n) hs (Nat.min_le_right _ _) hm hlow hhi hs0

theorem runOpsFrom_sound {tsOf : Nat → Int} (sparse bigGap : Nat) (segMax0 : Int) : ∀ (ops : List Op) (c : ChunkIdx),
    SoundL tsOf c → Monotone tsOf (c.n + totalOps ops) → OpsExact tsOf c.n ops →
    (∀ q, q < c.n + totalOps ops → minI64 ≤ tsOf q) → (∀ q, q < c.n + totalOps ops → tsOf q ≤ maxI64) →
    (∀ q, q < c.n + totalOps ops → segMax0 ≤ tsOf q) →
    SoundL tsOf (runOpsFrom sparse bigGap segMax0 tsOf c ops) ∧
      (runOpsFrom sparse bigGap segMax0 tsOf c ops).n = c.n + totalOps ops := by
  intro ops
  induction ops with
  | nil => intro c hs _ _ _ _ _; exact ⟨hs, by simp [runOpsFrom, totalOps]⟩
  | cons op r ih =>
    intro c hs hm he hlow hhi hs0
    obtain ⟨hok, hrest⟩ := he
    have ht : totalOps (op :: r) = op.recs + totalOps r := rfl
    rw [ht] at hm hlow hhi hs0
    have hstep := step_preserves sparse bigGap (segMax0 := segMax0) op hs hok (monotone_mono hm (by omega))
      (fun q hq => hlow q (by omega)) (fun q hq => hhi q (by omega)) (fun q hq => hs0 q (by omega))
    have hn := step_n sparse bigGap segMax0 tsOf c op
    have := ih (step sparse bigGap segMax0 tsOf c op) hstep (by rw [hn]; exact monotone_mono hm (by omega))
      (by rw [hn]; exact hrest) (by rw [hn]; intro q hq; exact hlow q (by omega))
      (by rw [hn]; intro q hq; exact hhi q (by omega)) (by rw [hn]; intro q hq; exact hs0 q (by omega))
    refine ⟨this.1, ?_⟩
    show (runOpsFrom sparse bigGap segMax0 tsOf (step sparse bigGap segMax0 tsOf c op) r).n = _
    rw [this.2, hn, ht]
    omega

/-- **a monotone history of writes and rebuilds leaves a chunk index that is sound for the look-ups** -/
theorem runOps_sound {tsOf : Nat → Int} (sparse bigGap : Nat) (segMax0 : Int) (ops : List Op)
    (hm : Monotone tsOf (totalOps ops)) (he : OpsExact tsOf 0 ops)
    (hlow : ∀ q, q < totalOps ops → minI64 ≤ tsOf q) (hhi : ∀ q, q < totalOps ops → tsOf q ≤ maxI64)
    (hs0 : ∀ q, q < totalOps ops → segMax0 ≤ tsOf q) :
    SoundL tsOf (runOps sparse bigGap segMax0 tsOf ops) ∧ (runOps sparse bigGap segMax0 tsOf ops).n = totalOps ops := by
  have e : (({} : ChunkIdx).n + totalOps ops) = totalOps ops := by show 0 + totalOps ops = totalOps ops; omega
  have := runOpsFrom_sound (tsOf := tsOf) sparse bigGap segMax0 ops {} (soundL_init tsOf)
    (by rw [e]; exact hm) he (by rw [e]; exact hlow) (by rw [e]; exact hhi) (by rw [e]; exact hs0)
  refine ⟨this.1, ?_⟩
  show (runOpsFrom sparse bigGap segMax0 tsOf {} ops).n = totalOps ops
  rw [this.2, e]

/-- **the payoff**: after any history of writes and rebuilds (of confirmed prefixes) on monotone data, the selector's
window of the chunk offers every position whose timestamp lies in the asked range -/
theorem window_complete_with_rebuilds {tsOf : Nat → Int} (sparse bigGap : Nat) (segMax0 : Int) (ops : List Op)
    (hm : Monotone tsOf (totalOps ops)) (he : OpsExact tsOf 0 ops) (hn : totalOps ops ≤ maxU32)
    (hlow : ∀ q, q < totalOps ops → minI64 ≤ tsOf q) (hhi : ∀ q, q < totalOps ops → tsOf q ≤ maxI64)
    (hs0 : ∀ q, q < totalOps ops → segMax0 ≤ tsOf q) (r : TmRange) (p : Nat) (hp : p < totalOps ops)
    (hr : inRange r (tsOf p)) :
    ∃ h, (runOps sparse bigGap segMax0 tsOf ops).hull = some h ∧
      inWindow (window h (idxOf (runOps sparse bigGap segMax0 tsOf ops)) r) p := by
  obtain ⟨hs, hnn⟩ := runOps_sound (tsOf := tsOf) sparse bigGap segMax0 ops hm he hlow hhi hs0
  obtain ⟨h, hh, hsound, hmin⟩ := hs.hull_pos (by omega)
  rw [hnn] at hsound
  refine ⟨h, hh, ?_⟩
  apply window_complete_of_lookup (tsOf := tsOf) (n := totalOps ops) h _ r hsound ?_ hn hmin p hp hr
  intro pts hpts
  obtain ⟨hc, e⟩ := idxOf_eq_some hpts
  rw [← e, ← hnn]; exact hs.lookup hc

/-- the payoff with the constants of the code (`sparseSpace`, `20·sparseSpace`, segment maximum starting at MinInt64):
`hs0` is then the int64 lower bound -/
theorem window_complete_with_rebuilds_code {tsOf : Nat → Int} (ops : List Op)
    (hm : Monotone tsOf (totalOps ops)) (he : OpsExact tsOf 0 ops) (hn : totalOps ops ≤ maxU32)
    (hlow : ∀ q, q < totalOps ops → minI64 ≤ tsOf q) (hhi : ∀ q, q < totalOps ops → tsOf q ≤ maxI64)
    (r : TmRange) (p : Nat) (hp : p < totalOps ops) (hr : inRange r (tsOf p)) :
    ∃ h, (runOps Generated.C02.sparseSpace (Generated.C02.sparseSpace * Generated.C02.bigGapFactor)
          Generated.C02.rebuildSegmentMaxInit tsOf ops).hull = some h ∧
      inWindow (window h (idxOf (runOps Generated.C02.sparseSpace
        (Generated.C02.sparseSpace * Generated.C02.bigGapFactor) Generated.C02.rebuildSegmentMaxInit tsOf ops)) r) p := by
  have f : Generated.C02.rebuildSegmentMaxInit = minI64 := by decide
  exact window_complete_with_rebuilds _ _ _ ops hm he hn hlow hhi (by rw [f]; exact hlow) r p hp hr

/-! ## (f) concrete instances -/

section Instances

/-- 600 monotone records, `sparseSpace = 250`: the two root points, then one point per segment at its EXCLUSIVE end -/
example : rebuildPts 250 minI64 ((List.range 600).map (fun (i : Nat) => (i : Int))) =
    [⟨0, 0⟩, ⟨0, 0⟩, ⟨249, 250⟩, ⟨499, 500⟩, ⟨599, 600⟩] := by decide +kernel

/-- the point `(249, 250)` breaks `IndexSound`'s closed-right claim (position 250 carries 250 > 249) … -/
example : ¬ Claims (fun (i : Nat) => (i : Int)) [⟨0, 0⟩, ⟨0, 0⟩, ⟨249, 250⟩] := by
  intro h
  have := (h.2.1 250 (by decide) (by decide)).2
  dsimp only at this
  omega

/-- a write after a rebuild of a confirmed prefix: 300 records written, the first 260 rebuilt, 300 more written -/
theorem runOps_write_rebuild_write :
    runOps 250 5000 minI64 (fun (i : Nat) => (i : Int)) [.write 300 0 299, .rebuild 260, .write 300 300 599] =
      { n := 600, pts := [⟨0, 0⟩, ⟨0, 0⟩, ⟨249, 250⟩, ⟨259, 260⟩, ⟨599, 599⟩], hull := some ⟨0, 599⟩, lastRec := 599 } := by
  decide +kernel

example : (runOps 250 5000 minI64 (fun (i : Nat) => (i : Int)) [.write 300 0 299, .rebuild 260, .write 300 300 599]).pts =
    [⟨0, 0⟩, ⟨0, 0⟩, ⟨249, 250⟩, ⟨259, 260⟩, ⟨599, 599⟩] := by rw [runOps_write_rebuild_write]

example : (runOps 250 5000 minI64 (fun (i : Nat) => (i : Int)) [.write 300 0 299, .rebuild 260, .write 300 300 599]).hull =
    some ⟨0, 599⟩ ∧
    (runOps 250 5000 minI64 (fun (i : Nat) => (i : Int)) [.write 300 0 299, .rebuild 260, .write 300 300 599]).lastRec = 599 ∧
    (runOps 250 5000 minI64 (fun (i : Nat) => (i : Int)) [.write 300 0 299, .rebuild 260, .write 300 300 599]).n = 600 := by
  rw [runOps_write_rebuild_write]; exact ⟨rfl, rfl, rfl⟩

/-- a rebuild before anything is confirmed leaves no tree and merges `{0,0}` into the hull; the next write starts the
index at `first > 0` -/
example : (runOps 250 5000 minI64 (fun (i : Nat) => (i : Int) + 100) [.write 10 100 109, .rebuild 0, .write 300 110 409]).pts =
    [⟨110, 10⟩, ⟨409, 309⟩] ∧
    (runOps 250 5000 minI64 (fun (i : Nat) => (i : Int) + 100) [.write 10 100 109, .rebuild 0, .write 300 110 409]).hull =
      some ⟨0, 409⟩ := by decide +kernel

/-- a rebuild of a chunk the index has not been told about changes nothing -/
example : runOps 250 5000 minI64 (fun (i : Nat) => (i : Int)) [.rebuild 5] = {} := by decide +kernel

/-- `hs0` is needed: with the segment maximum starting at 0 (the code before fix db44772) and negative timestamps the
point `(0, 2)` rebuilt from the first two of four records claims `0 ≤ tsOf 3 = -5` -/
example : rebuildPts 2 0 [-30, -20] = [⟨-30, 0⟩, ⟨-30, 0⟩, ⟨0, 2⟩] ∧
    ¬ LookupSound (fun q => [-30, -20, -10, -5].getD q 0) 4 (rebuildPts 2 0 [-30, -20]) := by
  refine ⟨by decide +kernel, ?_⟩
  intro h
  have := h.2 ⟨0, 2⟩ (by decide) 3 (by decide) (by decide)
  revert this
  decide

end Instances

end Logrange.RebuildHist

import Logrange.Proofs.PathMatch
/-!
`ErrBadPattern` does not depend on the name — for **every** pattern (with `*`, classes, escapes, any bytes):
whether `path.Match` reports a malformed pattern is decided by the pattern alone (`validateRest`, the algorithm's own
syntax check of all chunks). Hence a LIKE pattern accepted by the builder's pre-test on the probe name is evaluable on
every subject.
-/
namespace Logrange.PathSpec
open Logrange.PathMatch

/-! ## the class loop: what it leaves of the chunk (and whether it fails) does not depend on the rune -/

theorem classLoop_rest_indep : ∀ (f : Nat) (body : Bytes) (r r' : Nat) (h h' : Bool) (k : Nat) (m m' : Bool),
    (classLoop f body r h k m).map (·.2) = (classLoop f body r' h' k m').map (·.2) := by
  intro f
  induction f with
  | zero => intros; rfl
  | succ f ih =>
    intro body r r' h h' k m m'
    cases body with
    | nil => rfl
    | cons c rest =>
      simp only [classLoop]
      by_cases hc : (c == RBR && decide (k > 0)) = true
      · simp [hc]
      · simp only [hc, Bool.false_eq_true, if_false]
        cases getEsc (c :: rest) with
        | none => rfl
        | some lp =>
          obtain ⟨lo, ch1⟩ := lp
          simp only []
          cases ch1 with
          | nil => rfl
          | cons d ch2 =>
            simp only []
            by_cases hd : (d == DASH) = true
            · simp only [hd, if_true]
              cases getEsc ch2 with
              | none => rfl
              | some hp => obtain ⟨hi, ch3⟩ := hp; exact ih _ _ _ _ _ _ _ _
            · simp only [hd, Bool.false_eq_true, if_false]; exact ih _ _ _ _ _ _ _ _

/-! ## one chunk: `ErrBadPattern` does not depend on the name or on the `failed` flag -/

theorem matchChunk_isSome_indep : ∀ (f : Nat) (c s s' : Bytes) (fl fl' : Bool),
    (matchChunk f c s fl).isSome = (matchChunk f c s' fl').isSome := by
  intro f
  induction f with
  | zero => intros; rfl
  | succ f ih =>
    intro c s s' fl fl'
    cases c with
    | nil => cases fl <;> cases fl' <;> rfl
    | cons x rest =>
      rw [matchChunk_cons, matchChunk_cons]
      cases headTerm (x :: rest) with
      | none => rfl
      | some iq => simp only []; split <;> split <;> exact ih _ _ _ _ _

theorem mc_isSome_indep (chunk s s' : Bytes) : (mc chunk s).isSome = (mc chunk s').isSome :=
  matchChunk_isSome_indep _ _ _ _ _ _

/-! ## `scanChunk` makes progress -/

theorem le_ite {k a b : Nat} {c : Prop} [Decidable c] (ha : k ≤ a) (hb : k ≤ b) : k ≤ if c then a else b := by
  split <;> assumption

theorem scanLoop_ge : ∀ (f : Nat) (r : Bytes) (i : Nat) (inr : Bool), i ≤ scanLoop f r i inr := by
  intro f
  induction f with
  | zero => intros; exact Nat.le_refl _
  | succ f ih =>
    intro r i inr
    cases r with
    | nil => exact Nat.le_refl _
    | cons c r' =>
      have step : ∀ b, i ≤ scanLoop f r' (i + 1) b := fun b => Nat.le_trans (Nat.le_succ i) (ih r' (i + 1) b)
      rw [scanLoop_succ]
      refine le_ite ?_ (le_ite (step _) (le_ite (step _) (le_ite (Nat.le_refl _) (step _))))
      cases r' with
      | nil => exact Nat.le_succ i
      | cons x r'' => exact Nat.le_trans (Nat.le_add_right i 2) (ih r'' (i + 2) inr)

theorem scanLoop_pos (f : Nat) (c : UInt8) (r : Bytes) (hc : (c == STAR) = false) : 1 ≤ scanLoop (f+1) (c :: r) 0 false := by
  rw [scanLoop_succ]
  simp only [hc, Bool.false_and, Bool.false_eq_true, if_false]
  refine le_ite ?_ (le_ite (scanLoop_ge f r _ _) (le_ite (scanLoop_ge f r _ _) (scanLoop_ge f r _ _)))
  cases r with
  | nil => exact Nat.le_refl _
  | cons x r'' => exact Nat.le_trans (by decide) (scanLoop_ge f r'' (0 + 2) false)

theorem drop_takeWhile_head (q : UInt8 → Bool) : ∀ (p : Bytes) (c : UInt8) (r : Bytes),
    p.drop (p.takeWhile q).length = c :: r → q c = false := by
  intro p
  induction p with
  | nil => intro c r h; simp at h
  | cons x t ih =>
    intro c r h
    by_cases hx : q x = true
    · simp only [List.takeWhile_cons, hx, if_true, List.length_cons, List.drop_succ_cons] at h
      exact ih c r h
    · simp only [List.takeWhile_cons, hx, Bool.false_eq_true, if_false, List.length_nil, List.drop_zero, List.cons.injEq] at h
      rw [← h.1]; simpa using hx

/-- for a non-empty pattern: the rest is shorter, and an empty chunk means nothing is left -/
theorem scanChunk_facts (p : Bytes) (hp : p ≠ []) (star : Bool) (chunk rest : Bytes) (h : scanChunk p = (star, chunk, rest)) :
    rest.length < p.length ∧ (chunk.isEmpty = true → rest = [] ∧ star = true) := by
  simp only [scanChunk, Prod.mk.injEq] at h
  obtain ⟨hs, hc, hr⟩ := h
  generalize hst : (p.takeWhile (· == STAR)).length = stars at hs hc hr
  have hsl : stars ≤ p.length := by rw [← hst]; exact (List.takeWhile_prefix _).length_le
  cases hp' : p.drop stars with
  | nil =>
    rw [hp'] at hc hr
    simp only [List.length_nil, List.take_nil, List.drop_nil] at hc hr
    subst hc; subst hr
    have : 0 < p.length := List.length_pos_iff.mpr hp
    have hge : p.length ≤ stars := by
      have := congrArg List.length hp'
      simp only [List.length_drop, List.length_nil] at this; omega
    refine ⟨by simpa using this, fun _ => ⟨rfl, ?_⟩⟩
    rw [← hs]; simp; omega
  | cons c r =>
    rw [hp'] at hc hr
    have hcs : (c == STAR) = false := by
      have := drop_takeWhile_head (· == STAR) p c r (by rw [hst]; exact hp')
      simpa using this
    have hpos := scanLoop_pos (c :: r).length c r hcs
    have hlen : (c :: r).length = p.length - stars := by
      have := congrArg List.length hp'; simp only [List.length_drop] at this; omega
    subst hr; subst hc
    have h1 : 1 ≤ (c :: r).length := by simp
    refine ⟨?_, ?_⟩
    · simp only [List.length_drop]; omega
    · intro he
      simp only [List.isEmpty_iff, List.take_eq_nil_iff] at he
      rcases he with he | he
      · omega
      · cases he

/-! ## the syntax check does not depend on its fuel -/

theorem validateRest_fuel : ∀ (k k' : Nat) (p : Bytes), p.length < k → p.length < k' → validateRest k p = validateRest k' p := by
  intro k
  induction k with
  | zero => intro k' p h; omega
  | succ k ih =>
    intro k' p h h'
    obtain ⟨k2, rfl⟩ : ∃ k2, k' = k2 + 1 := ⟨k' - 1, by omega⟩
    simp only [validateRest]
    by_cases hp : p.isEmpty = true
    · simp [hp]
    · simp only [hp, Bool.false_eq_true, if_false]
      rcases hsc : scanChunk p with ⟨star, chunk, rest⟩
      simp only []
      cases mc chunk [] with
      | none => rfl
      | some x =>
        simp only []
        by_cases hl : rest.length < p.length
        · simp only [hl, if_true]; exact ih k2 rest (by omega) (by omega)
        · simp [hl]

theorem starLoop_isSome (chunk : Bytes) (hc : ∀ s, (mc chunk s).isSome = true) :
    ∀ (f : Nat) (n : Bytes) (b : Bool), (starLoop f chunk n b).isSome = true := by
  intro f
  induction f with
  | zero => intros; rfl
  | succ f ih =>
    intro n b
    cases n with
    | nil => rfl
    | cons c rest =>
      simp only [starLoop]
      split
      · rfl
      · have := hc rest
        cases hm : mc chunk rest with
        | none => rw [hm] at this; cases this
        | some tb =>
          obtain ⟨t, ok⟩ := tb
          cases ok with
          | true => simp only []; split; exact ih _ _; rfl
          | false => exact ih _ _

theorem validateRest_succ (k : Nat) (p : Bytes) (star : Bool) (chunk rest : Bytes) (hp : p ≠ [])
    (hsc : scanChunk p = (star, chunk, rest)) (hk : rest.length < k) :
    validateRest (k+1) p = ((mc chunk []).isSome && validateRest (rest.length + 1) rest) := by
  have he : p.isEmpty = false := by cases p <;> simp at hp ⊢
  rw [validateRest]
  simp only [he, Bool.false_eq_true, if_false, hsc, (scanChunk_facts p hp star chunk rest hsc).1, if_true]
  rw [validateRest_fuel k (rest.length + 1) rest hk (Nat.lt_succ_self _)]
  cases mc chunk [] <;> rfl

theorem goStep_isSome (R : Bytes → Option Bool) (V star : Bool) (chunk : Bytes) (last : Bool) (name : Bytes)
    (hR : ∀ t, (R t).isSome = V) (hs : (star && chunk.isEmpty) = false) :
    (goStep R V star chunk last name).isSome = ((mc chunk []).isSome && V) := by
  have hV : (if V = true then some false else none : Option Bool).isSome = V := by cases V <;> rfl
  simp only [goStep, hs, Bool.false_eq_true, if_false]
  cases hm : mc chunk name with
  | none => rw [mc_isSome_indep chunk [] name, hm]; rfl
  | some tb =>
    have hall : ∀ s, (mc chunk s).isSome = true := fun s => by rw [mc_isSome_indep chunk s name, hm]; rfl
    rw [hall [], Bool.true_and]
    simp only []
    split
    · exact hR _
    · split
      · have hsl := starLoop_isSome chunk hall (name.length + 1) name last
        cases hst : starLoop (name.length + 1) chunk name last with
        | none => rw [hst] at hsl; cases hsl
        | some o => cases o with
          | some t' => exact hR t'
          | none => exact hV
      · exact hV

/-- **whether `path.Match` reports `ErrBadPattern` is decided by the pattern alone** -/
theorem matchGo_isSome : ∀ (f : Nat) (p n : Bytes), p.length < f →
    (matchGo f p n).isSome = validateRest (p.length + 1) p := by
  intro f
  induction f with
  | zero => intro p n h; omega
  | succ f ih =>
    intro p n hf
    by_cases hp : p = []
    · subst hp; simp [matchGo, validateRest]
    rcases hsc : scanChunk p with ⟨star, chunk, rest⟩
    obtain ⟨hlt, hemp⟩ := scanChunk_facts p hp star chunk rest hsc
    rw [matchGo_succ f p n star chunk rest hp hsc, validateRest_succ _ p star chunk rest hp hsc hlt]
    by_cases hs : (star && chunk.isEmpty) = true
    · simp only [Bool.and_eq_true] at hs
      obtain ⟨rfl, -⟩ := hemp hs.2
      have hce : chunk = [] := by simpa using hs.2
      subst hce
      simp [goStep, hs.1, mc, matchChunk, validateRest]
    · exact goStep_isSome _ _ _ _ _ _ (fun t => ih rest t (by omega)) (by simpa using hs)

theorem pathMatch_isSome (p n : Bytes) : (pathMatch p n).isSome = validateRest (p.length + 1) p :=
  matchGo_isSome _ p n (by omega)

end Logrange.PathSpec

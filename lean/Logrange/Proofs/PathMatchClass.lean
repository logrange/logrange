import Logrange.Model.PathMatchGreedy
/-!
The byte level of a character class, shared by everything that relates `path.Match` to the pattern's items: which bytes a
class bound and a class body consume, that decoding them is local, and that the scanner steps over exactly these bytes.
-/
namespace Logrange.PathSpec
open Logrange.PathMatch

/-! ## `scanLoop` with canonical fuel -/

theorem scanLoop_succ (f : Nat) (c : UInt8) (r : Bytes) (i : Nat) (b : Bool) :
    scanLoop (f+1) (c :: r) i b =
      if c == BS then (match r with | _ :: r'' => scanLoop f r'' (i + 2) b | [] => i + 1)
      else if c == LBR then scanLoop f r (i + 1) true
      else if c == RBR then scanLoop f r (i + 1) false
      else if c == STAR && !b then i
      else scanLoop f r (i + 1) b := rfl

theorem scanLoop_fuel2 : ∀ (g g' : Nat) (r : Bytes) (i : Nat) (b : Bool), r.length < g → r.length < g' →
    scanLoop g r i b = scanLoop g' r i b := by
  intro g
  induction g with
  | zero => intro g' r i b h; omega
  | succ g ih =>
    intro g' r i b h h'
    obtain ⟨g2, rfl⟩ : ∃ g2, g' = g2 + 1 := ⟨g' - 1, by omega⟩
    cases r with
    | nil => rfl
    | cons c r' =>
      simp only [List.length_cons] at h h'
      have e : ∀ j b', scanLoop g r' j b' = scanLoop g2 r' j b' := fun j b' => ih g2 r' j b' (by omega) (by omega)
      -- all recursive calls but the one behind `\` are on `r'`: rewrite them instead of splitting the five branches
      rw [scanLoop_succ, scanLoop_succ, e, e, e]
      cases r' with
      | nil => rfl
      | cons x r'' =>
        simp only [List.length_cons] at h h'
        dsimp only
        rw [ih g2 r'' (i + 2) b (by omega) (by omega)]

theorem scanLoop_fuel (g : Nat) (r : Bytes) (i : Nat) (b : Bool) (h : r.length < g) :
    scanLoop g r i b = scanLoop (r.length + 1) r i b := scanLoop_fuel2 g _ r i b h (by omega)

/-- `scanLoop` with exactly enough fuel -/
def sl (r : Bytes) (i : Nat) (b : Bool) : Nat := scanLoop (r.length + 1) r i b

theorem sl_nil (i : Nat) (b : Bool) : sl [] i b = i := rfl

theorem sl_step (c : UInt8) (r : Bytes) (i : Nat) (b : Bool) :
    sl (c :: r) i b = scanLoop (r.length + 1 + 1) (c :: r) i b := rfl

theorem sl_cons (c : UInt8) (r : Bytes) (i : Nat) (b : Bool) :
    sl (c :: r) i b =
      if c == BS then (match r with | _ :: r'' => scanLoop (r.length + 1) r'' (i + 2) b | [] => i + 1)
      else if c == LBR then sl r (i + 1) true
      else if c == RBR then sl r (i + 1) false
      else if c == STAR && !b then i
      else sl r (i + 1) b := rfl

theorem sl_bs (x : UInt8) (r : Bytes) (i : Nat) (b : Bool) : sl (BS :: x :: r) i b = sl r (i + 2) b := by
  rw [sl_cons]
  exact scanLoop_fuel _ _ _ _ (Nat.lt_succ_of_lt (Nat.lt_succ_self _))

theorem sl_rbr (r : Bytes) (i : Nat) (b : Bool) : sl (RBR :: r) i b = sl r (i + 1) false := by
  rw [sl_cons]; rfl

theorem sl_lbr (r : Bytes) (i : Nat) (b : Bool) : sl (LBR :: r) i b = sl r (i + 1) true := by
  rw [sl_cons]; rfl

theorem sl_star (r : Bytes) (i : Nat) : sl (STAR :: r) i false = i := by
  rw [sl_cons]; rfl

/-- inside a class every byte but `\` and `]` is stepped over -/
theorem sl_in (c : UInt8) (r : Bytes) (i : Nat) (h1 : (c == BS) = false) (h2 : (c == RBR) = false) :
    sl (c :: r) i true = sl r (i + 1) true := by
  rw [sl_cons]
  simp only [h1, h2, Bool.false_eq_true, if_false, Bool.not_true, Bool.and_false, ite_self]

/-- outside a class every byte but `\`, `[`, `*` is stepped over -/
theorem sl_out (c : UInt8) (r : Bytes) (i : Nat) (h1 : (c == BS) = false) (h2 : (c == LBR) = false)
    (h3 : (c == STAR) = false) : sl (c :: r) i false = sl r (i + 1) false := by
  rw [sl_cons]
  simp only [h1, h2, h3, Bool.false_eq_true, if_false, Bool.false_and, ite_self]

theorem hi_not (c : UInt8) (h : 128 ≤ c.toNat) :
    (c == BS) = false ∧ (c == RBR) = false ∧ (c == LBR) = false ∧ (c == STAR) = false := by
  refine ⟨?_, ?_, ?_, ?_⟩ <;>
  · simp only [beq_eq_false_iff_ne, ne_eq]
    intro e; subst e; revert h; decide

/-- continuation bytes are stepped over in either mode -/
theorem sl_conts : ∀ (conts : Bytes) (tail : Bytes) (i : Nat) (b : Bool), (∀ c ∈ conts, 128 ≤ c.toNat) →
    sl (conts ++ tail) i b = sl tail (i + conts.length) b
  | [], tail, i, b, _ => by simp
  | c :: cs, tail, i, b, h => by
    obtain ⟨h1, h2, h3, h4⟩ := hi_not c (h c (by simp))
    have ih := sl_conts cs tail (i + 1) b (fun x hx => h x (by simp [hx]))
    simp only [List.cons_append, List.length_cons]
    cases b with
    | true => rw [sl_in _ _ _ h1 h2, ih]; congr 1; omega
    | false => rw [sl_out _ _ _ h1 h3 h4, ih]; congr 1; omega

/-! ## a valid rune: its bytes, and decoding is local -/

theorem ite_pair_cases {c : Bool} {A B X : Nat × Nat} (h : (if c = true then A else B) = X) :
    (c = true ∧ A = X) ∨ (c = false ∧ B = X) := by
  cases c <;> simp_all

theorem decodeRune_valid (b0 : UInt8) (rest : Bytes) (r n : Nat) (h : decodeRune (b0 :: rest) = (r, n))
    (hv : (r == runeError && n == 1) = false) :
    ∃ conts q, rest = conts ++ q ∧ n = conts.length + 1 ∧ (∀ c ∈ conts, 128 ≤ c.toNat) ∧
      ∀ q', decodeRune (b0 :: (conts ++ q')) = (r, n) := by
  have bad : (runeError, 1) = (r, n) → False := by
    intro e
    simp only [Prod.mk.injEq] at e
    rw [← e.1, ← e.2] at hv
    simp at hv
  have horig := h
  simp only [decodeRune] at h
  by_cases h0 : b0.toNat < 128
  · simp only [h0, if_true, Prod.mk.injEq] at h
    refine ⟨[], rest, rfl, by simp [← h.2], by simp, ?_⟩
    intro q'; rw [← horig]; simp only [decodeRune, h0, if_true]
  simp only [h0, if_false] at h
  by_cases h1 : b0.toNat < 194
  · simp only [h1, if_true] at h; exact (bad h).elim
  simp only [h1, if_false] at h
  by_cases h2 : b0.toNat < 224
  · simp only [h2, if_true] at h
    cases rest with
    | nil => exact (bad h).elim
    | cons b1 t =>
      simp only [] at h
      rcases ite_pair_cases h with ⟨hc, h⟩ | ⟨_, h⟩
      · simp only [Bool.and_eq_true, decide_eq_true_eq] at hc
        simp only [Prod.mk.injEq] at h
        refine ⟨[b1], t, rfl, by simp [← h.2], ?_, ?_⟩
        · intro c hc'
          simp only [List.mem_singleton] at hc'; subst hc'; exact hc.1
        · intro q'; rw [← horig]; simp only [decodeRune, List.cons_append, List.nil_append, h0, h1, h2, if_true, if_false]
      · exact (bad h).elim
  simp only [h2, if_false] at h
  by_cases h3 : b0.toNat < 240
  · simp only [h3, if_true] at h
    cases rest with
    | nil => exact (bad h).elim
    | cons b1 t =>
      cases t with
      | nil => exact (bad h).elim
      | cons b2 t =>
        simp only [] at h
        rcases ite_pair_cases h with ⟨hc, h⟩ | ⟨_, h⟩
        · simp only [Bool.and_eq_true, decide_eq_true_eq] at hc
          simp only [Prod.mk.injEq] at h
          refine ⟨[b1, b2], t, rfl, by simp [← h.2], ?_, ?_⟩
          · intro c hc'
            simp only [List.mem_cons, List.not_mem_nil, or_false] at hc'
            rcases hc' with rfl | rfl
            · have := hc.1.1.1; split at this <;> omega
            · exact hc.1.2
          · intro q'; rw [← horig]; simp only [decodeRune, List.cons_append, List.nil_append, h0, h1, h2, h3, if_true, if_false]
        · exact (bad h).elim
  simp only [h3, if_false] at h
  by_cases h4 : b0.toNat < 245
  · simp only [h4, if_true] at h
    cases rest with
    | nil => exact (bad h).elim
    | cons b1 t =>
      cases t with
      | nil => exact (bad h).elim
      | cons b2 t =>
        cases t with
        | nil => exact (bad h).elim
        | cons b3 t =>
          simp only [] at h
          rcases ite_pair_cases h with ⟨hc, h⟩ | ⟨_, h⟩
          · simp only [Bool.and_eq_true, decide_eq_true_eq] at hc
            simp only [Prod.mk.injEq] at h
            refine ⟨[b1, b2, b3], t, rfl, by simp [← h.2], ?_, ?_⟩
            · intro c hc'
              simp only [List.mem_cons, List.not_mem_nil, or_false] at hc'
              rcases hc' with rfl | rfl | rfl
              · have := hc.1.1.1.1.1; split at this <;> omega
              · exact hc.1.1.1.2
              · exact hc.1.2
            · intro q'; rw [← horig]; simp only [decodeRune, List.cons_append, List.nil_append, h0, h1, h2, h3, h4, if_true, if_false]
          · exact (bad h).elim
  · simp only [h4, if_false] at h; exact (bad h).elim

theorem decodeRune_width_pos (c : UInt8) (r : Bytes) : 0 < (decodeRune (c :: r)).2 := by
  cases hv : ((decodeRune (c :: r)).1 == runeError && (decodeRune (c :: r)).2 == 1) with
  | true => simp only [Bool.and_eq_true, beq_iff_eq] at hv; omega
  | false => obtain ⟨conts, _, _, hn, _⟩ := decodeRune_valid c r (decodeRune (c :: r)).1 (decodeRune (c :: r)).2 rfl hv; omega

/-! ## class bounds and class bodies: the bytes they consume -/

theorem getEsc_eq_bound (p : Bytes) : getEsc p = bound p := by
  cases p with
  | nil => rfl
  | cons c r =>
    simp only [getEsc, bound]
    by_cases h : (c == DASH || c == RBR) = true
    · simp [h]
    · simp only [h, Bool.false_eq_true, if_false]
      by_cases hb : (c == BS) = true <;> simp [hb]

theorem bound_pre (p : Bytes) (r : Nat) (q : Bytes) (h : bound p = some (r, q)) :
    ∃ c pre, p = (c :: pre) ++ q ∧ q ≠ [] ∧ (c == RBR) = false ∧
      (∀ q', q' ≠ [] → bound ((c :: pre) ++ q') = some (r, q')) ∧
      (∀ tail i, sl ((c :: pre) ++ tail) i true = sl tail (i + (c :: pre).length) true) := by
  cases p with
  | nil => simp [bound] at h
  | cons c rest =>
    simp only [bound] at h
    by_cases h1 : (c == DASH || c == RBR) = true
    · simp [h1] at h
    simp only [h1, Bool.false_eq_true, if_false] at h
    have hcd : (c == DASH) = false ∧ (c == RBR) = false := by
      simpa [Bool.or_eq_false_iff] using h1
    by_cases hb : (c == BS) = true
    · have hcb : c = BS := by simpa using hb
      subst hcb
      simp only [beq_self_eq_true, if_true] at h
      cases rest with
      | nil => simp at h
      | cons b0 rest' =>
        simp only [List.isEmpty_cons, Bool.false_eq_true, if_false] at h
        rcases hdr0 : decodeRune (b0 :: rest') with ⟨r0, n0⟩
        simp only [hdr0] at h
        by_cases h3 : (r0 == runeError && n0 == 1) = true
        · simp [h3] at h
        have h3' : (r0 == runeError && n0 == 1) = false := by simpa using h3
        simp only [h3', Bool.false_eq_true, if_false] at h
        by_cases h4 : ((b0 :: rest').drop n0).isEmpty = true
        · simp [h4] at h
        simp only [h4, Bool.false_eq_true, if_false, Option.some.injEq, Prod.mk.injEq] at h
        obtain ⟨hr, hq⟩ := h
        obtain ⟨conts, q0, e, hn, hcs, hloc⟩ := decodeRune_valid b0 rest' _ _ hdr0 h3'
        have hq0 : q = q0 := by
          rw [← hq, hn, e]; simp
        subst hq0
        refine ⟨BS, b0 :: conts, by simp [e], ?_, by decide, ?_, ?_⟩
        · intro e0; subst e0; rw [hn, e] at h4; simp at h4
        · intro q' hq'
          have hd := hloc q'
          simp only [bound, List.cons_append, beq_self_eq_true, if_true, List.isEmpty_cons, Bool.false_eq_true,
            if_false, hd]
          have hdash : (BS == DASH || BS == RBR) = false := by decide
          simp only [hdash, Bool.false_eq_true, if_false]
          rw [← hr]
          simp only [h3', Bool.false_eq_true, if_false]
          have hdr : List.drop n0 (b0 :: (conts ++ q')) = q' := by
            rw [hn]; simp
          rw [hdr]
          have : q'.isEmpty = false := by cases q' <;> simp at hq' ⊢
          simp [this]
        · intro tail i
          simp only [List.cons_append]
          rw [sl_bs, sl_conts _ _ _ _ hcs]
          congr 1; simp only [List.length_cons]; omega
    · have hb' : (c == BS) = false := by simpa using hb
      simp only [hb', Bool.false_eq_true, if_false, List.isEmpty_cons] at h
      rcases hdr0 : decodeRune (c :: rest) with ⟨r0, n0⟩
      simp only [hdr0] at h
      by_cases h3 : (r0 == runeError && n0 == 1) = true
      · simp [h3] at h
      have h3' : (r0 == runeError && n0 == 1) = false := by simpa using h3
      simp only [h3', Bool.false_eq_true, if_false] at h
      by_cases h4 : ((c :: rest).drop n0).isEmpty = true
      · simp [h4] at h
      simp only [h4, Bool.false_eq_true, if_false, Option.some.injEq, Prod.mk.injEq] at h
      obtain ⟨hr, hq⟩ := h
      obtain ⟨conts, q0, e, hn, hcs, hloc⟩ := decodeRune_valid c rest _ _ hdr0 h3'
      have hq0 : q = q0 := by
        rw [← hq, hn, e]; simp
      subst hq0
      refine ⟨c, conts, by simp [e], ?_, hcd.2, ?_, ?_⟩
      · intro e0; subst e0; rw [hn, e] at h4; simp at h4
      · intro q' hq'
        have hd := hloc q'
        simp only [bound, List.cons_append, h1, hb', Bool.false_eq_true, if_false, List.isEmpty_cons, hd]
        rw [← hr]
        simp only [h3', Bool.false_eq_true, if_false]
        have hdr : List.drop n0 (c :: (conts ++ q')) = q' := by
          rw [hn]; simp
        rw [hdr]
        have : q'.isEmpty = false := by cases q' <;> simp at hq' ⊢
        simp [this]
      · intro tail i
        simp only [List.cons_append]
        rw [sl_in _ _ _ hb' hcd.2, sl_conts _ _ _ _ hcs]
        congr 1; simp only [List.length_cons]; omega

theorem ranges_pre : ∀ (f : Nat) (body : Bytes) (k : Nat) (rs : List (Nat × Nat)) (q : Bytes),
    ranges f body k = some (rs, q) →
    ∃ c cons, body = (c :: cons) ++ q ∧
      (∀ q' g, ((c :: cons) ++ q').length < g → ranges g ((c :: cons) ++ q') k = some (rs, q')) ∧
      (∀ tail i, sl ((c :: cons) ++ tail) i true = sl tail (i + (c :: cons).length) false) := by
  intro f
  induction f with
  | zero => intro body k rs q h; simp [ranges] at h
  | succ f ih =>
    intro body k rs q h
    cases body with
    | nil => simp [ranges] at h
    | cons c rest =>
      simp only [ranges] at h
      by_cases hc : (c == RBR && decide (k > 0)) = true
      · simp only [hc, if_true, Option.some.injEq, Prod.mk.injEq] at h
        obtain ⟨rfl, rfl⟩ := h
        refine ⟨c, [], rfl, ?_, ?_⟩
        · intro q' g hg
          obtain ⟨g', rfl⟩ : ∃ g', g = g' + 1 := ⟨g - 1, by simp at hg; omega⟩
          simp [ranges, hc]
        · intro tail i
          have : c = RBR := by simp only [Bool.and_eq_true, beq_iff_eq] at hc; exact hc.1
          subst this
          simp only [List.cons_append, List.nil_append]
          rw [sl_rbr]; rfl
      · simp only [hc, Bool.false_eq_true, if_false] at h
        cases hb : bound (c :: rest) with
        | none => simp [hb] at h
        | some lp =>
          obtain ⟨lo, p1⟩ := lp
          obtain ⟨c1, pre1, e1, hne1, hc1, hloc1, hsl1⟩ := bound_pre _ _ _ hb
          have hcc : c1 = c := by simp only [List.cons_append, List.cons.injEq] at e1; exact e1.1.symm
          subst hcc
          simp only [hb] at h
          cases p1 with
          | nil => simp at h
          | cons d p2 =>
            simp only [] at h
            by_cases hd : (d == DASH) = true
            · have hdd : d = DASH := by simpa using hd
              subst hdd
              simp only [beq_self_eq_true, if_true] at h
              cases hb2 : bound p2 with
              | none => simp [hb2] at h
              | some hp =>
                obtain ⟨hi, p3⟩ := hp
                obtain ⟨c2, pre2, e2, hne2, hc2, hloc2, hsl2⟩ := bound_pre _ _ _ hb2
                simp only [hb2] at h
                cases hr : ranges f p3 (k + 1) with
                | none => simp [hr] at h
                | some rq =>
                  obtain ⟨rs', q0⟩ := rq
                  simp only [hr, Option.map_some, Option.some.injEq, Prod.mk.injEq] at h
                  obtain ⟨rfl, rfl⟩ := h
                  obtain ⟨c3, cons3, e3, hrg3, hsl3⟩ := ih _ _ _ _ hr
                  refine ⟨c1, pre1 ++ DASH :: ((c2 :: pre2) ++ (c3 :: cons3)), ?_, ?_, ?_⟩
                  · rw [e1, e2, e3]; simp
                  · intro q' g hg
                    obtain ⟨g', rfl⟩ : ∃ g', g = g' + 1 := ⟨g - 1, by simp at hg; omega⟩
                    have eX : (c1 :: (pre1 ++ DASH :: ((c2 :: pre2) ++ (c3 :: cons3)))) ++ q' =
                        (c1 :: pre1) ++ (DASH :: ((c2 :: pre2) ++ ((c3 :: cons3) ++ q'))) := by simp
                    rw [eX] at hg ⊢
                    have hbX := hloc1 (DASH :: ((c2 :: pre2) ++ ((c3 :: cons3) ++ q'))) (by simp)
                    have hbY := hloc2 ((c3 :: cons3) ++ q') (by simp)
                    have hrZ := hrg3 q' g' (by simp at hg ⊢; omega)
                    rw [List.cons_append] at hbX ⊢
                    simp only [ranges, hc, Bool.false_eq_true, if_false, hbX, beq_self_eq_true, if_true, hbY, hrZ,
                      Option.map_some]
                  · intro tail i
                    have eX : (c1 :: (pre1 ++ DASH :: ((c2 :: pre2) ++ (c3 :: cons3)))) ++ tail =
                        (c1 :: pre1) ++ (DASH :: ((c2 :: pre2) ++ ((c3 :: cons3) ++ tail))) := by simp
                    rw [eX, hsl1, sl_in _ _ _ (by decide) (by decide), hsl2, hsl3]
                    congr 1
                    simp only [List.length_cons, List.length_append]; omega
            · have hd' : (d == DASH) = false := by simpa using hd
              simp only [hd', Bool.false_eq_true, if_false] at h
              cases hr : ranges f (d :: p2) (k + 1) with
              | none => simp [hr] at h
              | some rq =>
                obtain ⟨rs', q0⟩ := rq
                simp only [hr, Option.map_some, Option.some.injEq, Prod.mk.injEq] at h
                obtain ⟨rfl, rfl⟩ := h
                obtain ⟨c3, cons3, e3, hrg3, hsl3⟩ := ih _ _ _ _ hr
                have hcd3 : c3 = d := by simp only [List.cons_append, List.cons.injEq] at e3; exact e3.1.symm
                subst hcd3
                refine ⟨c1, pre1 ++ (c3 :: cons3), ?_, ?_, ?_⟩
                · rw [e1, e3]; simp
                · intro q' g hg
                  obtain ⟨g', rfl⟩ : ∃ g', g = g' + 1 := ⟨g - 1, by simp at hg; omega⟩
                  have eX : (c1 :: (pre1 ++ (c3 :: cons3))) ++ q' = (c1 :: pre1) ++ (c3 :: (cons3 ++ q')) := by simp
                  rw [eX] at hg ⊢
                  have hbX := hloc1 (c3 :: (cons3 ++ q')) (by simp)
                  have hrZ := hrg3 q' g' (by simp at hg ⊢; omega)
                  rw [List.cons_append] at hbX hrZ ⊢
                  simp only [ranges, hc, Bool.false_eq_true, if_false, hbX, hd', hrZ, Option.map_some]
                · intro tail i
                  have eX : (c1 :: (pre1 ++ (c3 :: cons3))) ++ tail = (c1 :: pre1) ++ ((c3 :: cons3) ++ tail) := by simp
                  rw [eX, hsl1, hsl3]
                  congr 1
                  simp only [List.length_cons, List.length_append]; omega

theorem bound_shorter (p : Bytes) (r : Nat) (q : Bytes) (h : bound p = some (r, q)) : q.length < p.length ∧ q ≠ [] := by
  obtain ⟨c, pre, e, hq, _⟩ := bound_pre p r q h
  exact ⟨by rw [e]; simp only [List.length_append, List.length_cons]; omega, hq⟩

theorem classLoop_ranges : ∀ (f1 : Nat) (body : Bytes) (f2 : Nat) (r k : Nat) (m0 : Bool),
    body.length < f1 → body.length < f2 →
    (match ranges f1 body k with
     | none => classLoop f2 body r true k m0 = none
     | some (rs, q) => classLoop f2 body r true k m0 = some (m0 || inRanges rs r, q) ∧ q.length < body.length) := by
  intro f1
  induction f1 with
  | zero => intro body f2 r k m0 h; omega
  | succ f1 ih =>
    intro body f2 r k m0 h1 h2
    obtain ⟨f2', rfl⟩ : ∃ f2', f2 = f2' + 1 := ⟨f2 - 1, by omega⟩
    cases body with
    | nil => simp [ranges, classLoop]
    | cons c rest =>
      simp only [ranges, classLoop, getEsc_eq_bound]
      by_cases hc : (c == RBR && decide (k > 0)) = true
      · simp [hc, inRanges]
      · simp only [hc, Bool.false_eq_true, if_false]
        cases hb : bound (c :: rest) with
        | none => simp
        | some lp =>
          obtain ⟨lo, p1⟩ := lp
          have hs1 := bound_shorter _ _ _ hb
          simp only []
          cases p1 with
          | nil => exact absurd rfl hs1.2
          | cons d p2 =>
            simp only []
            by_cases hd : (d == DASH) = true
            · simp only [hd, if_true]
              cases hb2 : bound p2 with
              | none => simp
              | some hp =>
                obtain ⟨hi, p3⟩ := hp
                have hs2 := bound_shorter _ _ _ hb2
                simp only [List.length_cons] at hs1 h1 h2
                have := ih p3 f2' r (k + 1) (m0 || (true && decide (lo ≤ r) && decide (r ≤ hi))) (by omega) (by omega)
                simp only []
                cases hr : ranges f1 p3 (k + 1) with
                | none => rw [hr] at this; simpa using this
                | some rq =>
                  obtain ⟨rs, q⟩ := rq
                  rw [hr] at this
                  simp only [Option.map_some] at this ⊢
                  refine ⟨?_, by simp only [List.length_cons]; omega⟩
                  rw [this.1]
                  simp [inRanges, Bool.or_assoc]
            · simp only [hd, Bool.false_eq_true, if_false]
              simp only [List.length_cons] at hs1 h1 h2
              have := ih (d :: p2) f2' r (k + 1) (m0 || (true && decide (lo ≤ r) && decide (r ≤ lo)))
                (by simp only [List.length_cons]; omega) (by simp only [List.length_cons]; omega)
              cases hr : ranges f1 (d :: p2) (k + 1) with
              | none => rw [hr] at this; simpa using this
              | some rq =>
                obtain ⟨rs, q⟩ := rq
                rw [hr] at this
                simp only [Option.map_some] at this ⊢
                refine ⟨?_, by simp only [List.length_cons] at this ⊢; omega⟩
                rw [this.1]
                simp [inRanges, Bool.or_assoc]

end Logrange.PathSpec

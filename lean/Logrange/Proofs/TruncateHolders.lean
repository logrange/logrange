import Logrange.Model.TruncateHolders
import Logrange.Proofs.TIndexLts
/-! TRUNCATE's drop step among holders, writers and readers: every recorded drop happened with the dropper's own
acquisition as the only one outstanding and (re-check + Sync) with no acknowledged byte in the partition. -/
namespace Logrange.TruncHolders
open Logrange.TIndexLts

/-! ### the index protocol: facts about an exclusively locked source -/

/-- the labels other actors may perform never touch the ghost `locker` -/
theorem step_locker (t t' : TIndexLts.St) (l : TIndexLts.Lbl) (hx : isExclLbl l = false)
    (hs : TIndexLts.step t l = some t') : t'.c.locker = t.c.locker := by
  cases step_eff hs with
  | lock | unlock | delete => cases hx
  | _ => rfl

/-- an exclusively locked source is live, has exactly one outstanding acquisition, and it is the locker's -/
theorem excl_facts (c : Core) (h : CoreInv c) (s a : Nat) (hl : c.locker s = some a) :
    ∃ p au, c.parts s = some p ∧ p.exclusive = true ∧ p.readers = 1 ∧ (⟨a, s, au⟩ : Tok) ∈ c.holds ∧
      nTok s c.holds = 1 := by
  obtain ⟨p, hp, hx⟩ := h.lck s a hl
  obtain ⟨hr, a', au, hl', hm⟩ := h.excl s p hp hx
  rw [hl] at hl'
  cases hl'
  have := h.cnt s p hp
  exact ⟨p, au, hp, hx, hr, hm, by omega⟩

/-- nobody but the locker holds an exclusively locked source -/
theorem only_holder (c : Core) (h : CoreInv c) (s a b : Nat) (hl : c.locker s = some a)
    (hb : holdsAny c.holds b s = true) : b = a := by
  obtain ⟨p, au, _, _, _, hm, hn⟩ := excl_facts c h s a hl
  obtain ⟨bu, hbm⟩ := holdsAny_mem _ _ _ hb
  apply Classical.byContradiction
  intro hne
  have := nTok_two s ⟨a, s, au⟩ ⟨b, s, bu⟩ c.holds hm hbm (by simp; intro e; exact absurd e.symm hne) rfl rfl
  omega

/-! ### the invariant of the product system -/

structure Inv (recheck synced : Bool) (st : St) : Prop where
  idx : StInv st.t
  /-- an actor inside `deleteJournal(s)` before its `Delete` is the exclusive locker of `s` -/
  lockd : ∀ a s stg, st.pc a = some (s, stg) → stg ≠ Stage.deleted → st.t.c.locker s = some a
  /-- after a passed re-check with Sync the partition holds no acknowledged byte -/
  emp : ∀ a s, st.pc a = some (s, Stage.empty) → recheck = true → synced = true →
    (st.data s).conf = 0 ∧ (st.data s).unfl = 0
  drp : ∀ d ∈ st.drops, d.toks = 1 ∧ (recheck = true → synced = true → d.conf = 0 ∧ d.unfl = 0)

theorem inv_init' (recheck synced : Bool) : Inv recheck synced init := by
  refine ⟨inv_init, ?_, ?_, ?_⟩
  · intro a s stg h; simp [init] at h
  · intro a s h; simp [init] at h
  · intro d h; simp [init] at h


theorem inv_data (recheck synced : Bool) (st : St) (hi : Inv recheck synced st) (s : Nat) (d : Data)
    (h : ∀ a, st.pc a = some (s, Stage.empty) → recheck = true → synced = true → d.conf = 0 ∧ d.unfl = 0) :
    Inv recheck synced { st with data := upd st.data s d } := by
  refine ⟨hi.idx, hi.lockd, ?_, hi.drp⟩
  intro a s' hp hr hsy
  show (upd st.data s d s').conf = 0 ∧ (upd st.data s d s').unfl = 0
  by_cases e : s' = s
  · subst e; rw [upd_same]; exact h a hp hr hsy
  · rw [upd_other _ _ _ _ e]; exact hi.emp a s' hp hr hsy

theorem inv_pc (recheck synced : Bool) (st : St) (hi : Inv recheck synced st) (a : Nat) (v : Option (Nat × Stage))
    (h1 : ∀ s stg, v = some (s, stg) → stg ≠ Stage.deleted → st.t.c.locker s = some a)
    (h2 : ∀ s, v = some (s, Stage.empty) → recheck = true → synced = true →
      (st.data s).conf = 0 ∧ (st.data s).unfl = 0) :
    Inv recheck synced { st with pc := upd st.pc a v } := by
  refine ⟨hi.idx, ?_, ?_, hi.drp⟩
  · intro b s stg hp hne
    by_cases e : b = a
    · subst e; exact h1 s stg ((upd_same _ _ _).symm.trans hp) hne
    · exact hi.lockd b s stg ((upd_other _ _ _ _ e).symm.trans hp) hne
  · intro b s hp hr hsy
    by_cases e : b = a
    · subst e; exact h2 s ((upd_same _ _ _).symm.trans hp) hr hsy
    · exact hi.emp b s ((upd_other _ _ _ _ e).symm.trans hp) hr hsy

theorem inv_idx (recheck synced : Bool) (st : St) (hi : Inv recheck synced st) (t' : TIndexLts.St) (drops' : List Drop)
    (hidx' : StInv t')
    (hl : ∀ b s stg, st.pc b = some (s, stg) → stg ≠ Stage.deleted → t'.c.locker s = st.t.c.locker s)
    (hd : ∀ d ∈ drops', d.toks = 1 ∧ (recheck = true → synced = true → d.conf = 0 ∧ d.unfl = 0)) :
    Inv recheck synced { st with t := t', drops := drops' } :=
  ⟨hidx', fun b s stg hp hne => (hl b s stg hp hne).trans (hi.lockd b s stg hp hne), hi.emp, hd⟩

/-- two actors inside `deleteJournal`, both before their `Delete`, work on different sources -/
theorem other_src (recheck synced : Bool) (st : St) (hi : Inv recheck synced st) (a b s s' : Nat) (stg : Stage)
    (hla : st.t.c.locker s = some a) (hb : b ≠ a) (hpb : st.pc b = some (s', stg)) (hne : stg ≠ Stage.deleted) :
    s' ≠ s := by
  intro e; subst e
  have := hi.lockd b s' stg hpb hne
  rw [hla] at this; cases this; exact hb rfl

theorem step_inv' (recheck synced : Bool) (st st' : St) (l : Lbl) (hi : Inv recheck synced st)
    (hs : step recheck synced st l = some st') : Inv recheck synced st' := by
  have hidx := hi.idx
  cases l with
  | idx l =>
    simp only [step] at hs
    cases hx : isExclLbl l with
    | true => rw [hx, if_pos rfl] at hs; cases hs
    | false =>
      rw [hx, if_neg Bool.false_ne_true] at hs
      have hm : (TIndexLts.step st.t l).map (fun t' => { st with t := t' }) = some st' := by
        split at hs
        · split at hs
          · exact hs
          · cases hs
        · exact hs
      obtain ⟨t', ht, e⟩ := Option.map_eq_some_iff.mp hm
      subst e
      exact inv_idx recheck synced st hi t' st.drops (TIndexLts.step_inv st.t t' l hidx ht)
        (fun _ s _ _ _ => congrFun (step_locker st.t t' l hx ht) s) hi.drp
  | write b s n =>
    simp only [step] at hs
    split at hs
    · next hc =>
      cases hs
      simp only [Bool.and_eq_true] at hc
      -- the writer holds `s`, so it would be the one inside `deleteJournal(s)`: it is not
      refine inv_data recheck synced st hi s _ fun a hp _ _ => ?_
      have hl := hi.lockd a s _ hp (by simp)
      have hp' := only_holder st.t.c hidx.core s a b hl hc.1.2 ▸ hp
      rw [idle, hp'] at hc
      cases hc.1.1
    · cases hs
  | flush s =>
    cases hs
    refine inv_data recheck synced st hi s _ fun a hp hr hsy => ?_
    rw [(hi.emp a s hp hr hsy).1, (hi.emp a s hp hr hsy).2]
    exact ⟨rfl, rfl⟩
  | remove b s k1 k2 =>
    simp only [step] at hs
    split at hs
    · cases hs
      refine inv_data recheck synced st hi s _ fun a hp hr hsy => ?_
      rw [(hi.emp a s hp hr hsy).1, (hi.emp a s hp hr hsy).2]
      exact ⟨Nat.zero_sub _, Nat.zero_sub _⟩
    · cases hs
  | djLock a s =>
    simp only [step] at hs
    split at hs
    · next hc =>
      simp only [Bool.and_eq_true] at hc
      obtain ⟨au, hm⟩ := holdsAny_mem _ _ _ hc.2
      split at hs
      · next parts' hlr =>
        cases hs
        unfold lockRaw at hlr
        cases hp : st.t.c.parts s with
        | none => rw [hp] at hlr; cases hlr
        | some p =>
          simp only [hp] at hlr
          split at hlr
          · next hcnd =>
            simp only [Bool.and_eq_true, Bool.not_eq_true', beq_iff_eq] at hcnd
            cases hlr
            -- nobody is the locker of `s` yet: its descriptor is not exclusive
            refine inv_pc recheck synced _ (inv_idx recheck synced st hi (st.t.lock s p a) st.drops
              ⟨inv_lock st.t.c hidx.core a s au p hp hcnd.2 hm, hidx.visTok, hidx.noPanic⟩ ?_ hi.drp) a
              (some (s, Stage.locked)) (fun s' stg hv _ => by cases hv; exact upd_same _ _ _) (fun s' hv => by cases hv)
            intro b s' stg hpb hne
            refine upd_other _ _ _ _ fun e => ?_
            obtain ⟨p', hp', hx'⟩ := hidx.core.lck s' b (hi.lockd b s' stg hpb hne)
            rw [e, hp] at hp'; cases hp'
            rw [hcnd.1] at hx'; cases hx'
          · cases hlr
      · cases hs; exact hi
    · cases hs
  | djCheck a =>
    simp only [step] at hs
    split at hs
    · next s hpa =>
      have hla := hi.lockd a s _ hpa (by simp)
      -- the Sync, then the re-check: `a` is the only one inside `deleteJournal(s)`
      have key : ∀ (d : Data) (stg : Stage), stg ≠ Stage.deleted →
          (stg = Stage.empty → recheck = true → synced = true → d.conf = 0 ∧ d.unfl = 0) →
          Inv recheck synced { st with data := upd st.data s d, pc := upd st.pc a (some (s, stg)) } := by
        intro d stg hne hd
        refine inv_pc recheck synced _ (inv_data recheck synced st hi s d fun b hpb hr hsy => ?_) a _
          (fun s' stg' hv _ => by cases hv; exact hla)
          (fun s' hv hr hsy => by
            cases hv
            show (upd st.data s d s).conf = 0 ∧ (upd st.data s d s).unfl = 0
            rw [upd_same]; exact hd rfl hr hsy)
        by_cases e : b = a
        · rw [e, hpa] at hpb; cases hpb
        · exact absurd rfl (other_src recheck synced st hi a b s s _ hla e hpb (by simp))
      split at hs
      · split at hs
        · cases hs; exact key _ _ (by simp) (fun h => by cases h)
        · next hcond =>
          cases hs
          refine key _ _ (by simp) fun _ hr _ => ?_
          simp [hr] at hcond
          exact ⟨by show (st.data s).conf + (st.data s).unfl = 0; omega, rfl⟩
      · next hns =>
        split at hs
        · cases hs; exact key _ _ (by simp) (fun h => by cases h)
        · cases hs; exact key _ _ (by simp) (fun _ _ hsy => absurd hsy hns)
    · cases hs
  | djDelete a =>
    simp only [step] at hs
    split at hs
    · next s hpa =>
      have hla := hi.lockd a s _ hpa (by simp)
      have keyPc : Inv recheck synced { st with pc := upd st.pc a (some (s, Stage.deleted)) } :=
        inv_pc recheck synced st hi a _ (fun s' stg' hv hne => by cases hv; exact absurd rfl hne)
          (fun s' hv => by cases hv)
      split at hs
      · next p hp =>
        split at hs
        · cases hs
          obtain ⟨p', au, hp', hx', hr', hm, hn⟩ := excl_facts st.t.c hidx.core s a hla
          have hdel : (deleteRaw st.t.c.parts s).1 = upd st.t.c.parts s none := by simp [deleteRaw, hp', hx']
          refine inv_idx recheck synced _ keyPc _ _ ⟨?_, hidx.visTok, hidx.noPanic⟩ ?_ ?_
          · show CoreInv { st.t.c with parts := (deleteRaw st.t.c.parts s).1, locker := upd st.t.c.locker s none }
            rw [hdel]; exact inv_delete st.t.c hidx.core s
          · intro b s' stg' hpb hne
            by_cases e : b = a
            · rw [e] at hpb; cases (upd_same _ _ _).symm.trans hpb; exact absurd rfl hne
            · exact upd_other _ _ _ _ (other_src recheck synced st hi a b s s' stg' hla e
                ((upd_other _ _ _ _ e).symm.trans hpb) hne)
          · intro d hd
            rcases List.mem_cons.mp hd with rfl | h
            · exact ⟨hn, hi.emp a s hpa⟩
            · exact hi.drp d h
        · cases hs; exact keyPc
      · cases hs; exact keyPc
    · cases hs
  | djUnlock a =>
    simp only [step] at hs
    have keyPc : Inv recheck synced { st with pc := upd st.pc a none } :=
      inv_pc recheck synced st hi a none (fun s' stg' hv => by cases hv) (fun s' hv => by cases hv)
    split at hs
    iterate 2
      next s hpa =>
      split at hs
      · cases hs; exact keyPc
      · split at hs
        · next hl =>
          have hla : st.t.c.locker s = some a := by simpa using hl
          obtain ⟨p, au, hp, hx, hr, hm, hn⟩ := excl_facts st.t.c hidx.core s a hla
          have hu : unlockRaw st.t.c.parts s = (upd st.t.c.parts s (some { p with exclusive := false }), .ok) := by
            simp [unlockRaw, hp, hx, hr]
          rw [hu] at hs
          cases hs
          refine inv_idx recheck synced _ keyPc _ st.drops
            ⟨inv_unlock st.t.c hidx.core s p hp, hidx.visTok, hidx.noPanic⟩ ?_ hi.drp
          intro b s' stg' hpb hne
          by_cases e : b = a
          · rw [e] at hpb; cases (upd_same _ _ _).symm.trans hpb
          · exact upd_other _ _ _ _ (other_src recheck synced st hi a b s s' stg' hla e
              ((upd_other _ _ _ _ e).symm.trans hpb) hne)
        · cases hs; exact keyPc
    · cases hs

theorem run_inv' (recheck synced : Bool) (ls : List Lbl) :
    ∀ st, Inv recheck synced st → Inv recheck synced (run recheck synced st ls) := by
  induction ls with
  | nil => intro st h; exact h
  | cons l ls ih =>
    intro st h
    simp only [run]
    cases hs : step recheck synced st l with
    | none => exact ih st h
    | some st' => exact ih st' (step_inv' recheck synced st st' l h hs)

/-- every drop recorded along any trace happened with exactly one outstanding acquisition (the dropper's own);
with re-check and Sync no acknowledged byte at all, confirmed or not.

(The re-check alone promises nothing about the confirmed bytes at the moment of the `Delete`: see
`cex_recheck_without_sync`.) -/
theorem drops_inv (recheck synced : Bool) (tr : List Lbl) :
    ∀ d ∈ (run recheck synced init tr).drops,
      d.toks = 1 ∧ (recheck = true → synced = true → d.conf = 0 ∧ d.unfl = 0) :=
  (run_inv' recheck synced tr init (inv_init' recheck synced)).drp

/-- the index part of every reachable state satisfies C14's invariant (in particular: no panic) -/
theorem reach_idx_inv (recheck synced : Bool) (tr : List Lbl) : StInv (run recheck synced init tr).t :=
  (run_inv' recheck synced tr init (inv_init' recheck synced)).idx

/-! ### concrete traces -/

/-- the re-check WITHOUT the Sync before it: the acknowledged 19 bytes are not flushed yet when `Size()` is read, the
flush timer fires between the re-check and the `Delete`, and the partition is dropped with 19 confirmed bytes in it;
with the Sync the drop is refused -/
theorem cex_recheck_without_sync :
    ((run true false init
      [ .idx (.getOrCreate 1 7 true), .write 1 0 19, .idx (.release 1 0), .idx (.getTags 2 0 true),
        .djLock 2 0, .djCheck 2, .flush 0, .djDelete 2, .djUnlock 2 ]).drops.map
        (fun d => (d.src, d.conf, d.unfl, d.toks)) = [(0, 19, 0, 1)]) ∧
    (run true true init
      [ .idx (.getOrCreate 1 7 true), .write 1 0 19, .idx (.release 1 0), .idx (.getTags 2 0 true),
        .djLock 2 0, .djCheck 2, .flush 0, .djDelete 2, .djUnlock 2 ]).drops = [] := by
  decide

def raceTrace : List Lbl :=
  [ .idx (.getOrCreate 1 7 true), .write 1 0 57, .flush 0,          -- a writer creates partition 0 and writes 57 bytes
    .idx (.getTags 2 0 true), .remove 2 0 57 0,                      -- TRUNCATE (actor 2) holds it and removes everything
    .write 1 0 19, .flush 0, .idx (.release 1 0),                    -- the writer appends 19 bytes and lets go
    .djLock 2 0, .djCheck 2, .djDelete 2, .djUnlock 2 ]

/-- without the re-check the partition is dropped with the 19 bytes in it; with it the drop is refused -/
theorem cex_drop_race_without_recheck :
    ((run false true init raceTrace).drops.map (fun d => (d.src, d.conf, d.unfl, d.toks)) = [(0, 19, 0, 1)]) ∧
    (run true true init raceTrace).drops = [] := by
  decide

/-- non-vacuity of `drops_inv`: an emptied, unused partition IS dropped -/
theorem drop_happens :
    (run true true init [ .idx (.getOrCreate 1 7 true), .write 1 0 57, .idx (.release 1 0), .idx (.getTags 2 0 true),
      .remove 2 0 57 57, .djLock 2 0, .djCheck 2, .djDelete 2, .djUnlock 2 ]).drops.map
        (fun d => (d.src, d.conf, d.unfl, d.toks)) = [(0, 0, 0, 1)] := by
  decide

end Logrange.TruncHolders

import Logrange.Proofs.RdRngDefs
import Logrange.Proofs.RdPaging
import Logrange.Proofs.RdOffsetStream
/-!
Paging over ONE partition with a RANGE (C03): the one-source cursor whose leaf is the ranged iterator
(`partition.JIterator`) under the `fiterator` (`newCursor` wraps the iterator whenever the query has WHERE or RANGE;
`fitInRange` re-checks every event against the range, which matters because a chunk window may be wider than the range).
The cursor is followed through its index `i` into `wflat j` (the admitted records): what it still has to deliver is `FLR … i`.
The `fiterator` loop is proved once, over any iterator with a *view* (`rp_fGetLoop_view`: a list of which `Get` answers the
head and `Next` drops it), and read forward here (`FwdView`) and backward in `RdRngOffsetBwd.lean`; the iterator laws are
hypotheses (`RGetFwdSpec`, `RNextFwdSpec`, proved in `RdRngFwd.lean`). Fixed journal only.
-/
set_option linter.unusedSectionVars false
set_option linter.unusedVariables false
namespace Logrange.Rd

/-- a one-source RANGED cursor in explicit form -/
def curR (lo hi : Option Int) (name : Nat) (j : Journal) (s : RIt) (w v : Bool) (l : Option Rec) (m : Array MixSt) : Cur :=
  { srcs := #[{ name := name, jrnl := j, it := .rng s }], nodes := #[.leaf 0], mix := m, root := 0,
    useF := true, fValid := v, fLe := l, where_ := w, minTs := lo, maxTs := hi }

/-- WHERE (when `w`) and the range re-check of `fiterator.Get` -/
def passR (lo hi : Option Int) (w : Bool) (r : Rec) : Bool := (!w || r.keep) && inRange lo hi r

/-- what a ranged cursor standing at index `i` of `wflat j` still has to deliver -/
def FLR (lo hi : Option Int) (j : Journal) (w : Bool) (i : Nat) : List Rec :=
  ((wflat j).drop i).filter (passR lo hi w)

section basics
variable (lo hi : Option Int)

theorem rp_mkCur (name : Nat) (j : Journal) (w : Bool) :
    mkCur [{ name := name, jrnl := j, it := .rng {} }] w lo hi true = curR lo hi name j {} w false none #[{}] := by
  simp [mkCur, curR, reduceTree]

theorem rp_nodeGet (name j s w v l m) :
    nodeGet 3 (curR lo hi name j s w v l m) 0 = (curR lo hi name j (rGet j s).1 w v l m, (rGet j s).2) := by
  simp [nodeGet, curR, Src.get, setSrc]

theorem rp_curNext (name j s w v l m) :
    curNext (curR lo hi name j s w v l m) = curR lo hi name j (rNext j s) w false l m := by
  simp [curNext, nodeNext, curR, Src.next, setSrc, Cur.depth]

theorem rp_curRelease (name j s w v l m) :
    curRelease (curR lo hi name j s w v l m) = curR lo hi name j (rRelease s) w v l m := by
  simp [curRelease, nodeRelease, curR, Src.release, setSrc, Cur.depth]

theorem rp_curSetBackward (name j s w v l m b) :
    curSetBackward (curR lo hi name j s w v l m) b = curR lo hi name j (rSetBackward s b) w false l m := by
  simp [curSetBackward, nodeSetBackward, curR, Src.setBackward, setSrc, Cur.depth]

theorem rp_curPos (name j s w v l m) :
    curPos (curR lo hi name j s w v l m) = some (0, s.cid, s.idx) := by
  simp [curPos, nodePos, curR, Src.pos, RIt.pos, Cur.depth]

theorem rp_collectPos (name j s w v l m) :
    collectPos (curR lo hi name j s w v l m) = [(name, s.pos)] := by
  simp [collectPos, curR, Src.pos]

theorem rp_applyStatePos (name j s w v l m p) :
    applyStatePos (curR lo hi name j s w v l m) [(name, p)] = curR lo hi name j (rSetPos j s p) w v l m := by
  simp [applyStatePos, curR, Src.setPos]

theorem rp_applyCorner (name j s w v l m t) :
    applyCorner (curR lo hi name j s w v l m) t
      = curR lo hi name j (rSetPos j s (if t then ⟨tailCid, maxU32⟩ else {})) w v l m := by
  simp [applyCorner, curR, Src.setPos]

theorem rp_setJournals (name j j' s w v l m) :
    setJournals (curR lo hi name j s w v l m) [(name, j')] = curR lo hi name j' s w v l m := by
  simp [setJournals, curR]

theorem rp_passes (name j s w v l m r) : passes (curR lo hi name j s w v l m) r = passR lo hi w r := by
  cases lo <;> cases hi <;> simp [passes, curR, passR, inRange, Bool.and_assoc]

theorem rp_fGetLoop_succ (f name j s w v l m) :
    fGetLoop (f + 1) (curR lo hi name j s w v l m) =
      if v then (curR lo hi name j s w v l m, l) else
      match (rGet j s).2 with
      | none => (curR lo hi name j (rGet j s).1 w v l m, none)
      | some x =>
        if passR lo hi w x then (curR lo hi name j (rGet j s).1 w true (some x) m, some x)
        else fGetLoop f (curR lo hi name j (rNext j (rGet j s).1) w false (some x) m) := by
  rw [fGetLoop]
  have hd : (curR lo hi name j s w v l m).depth = 3 := by simp [Cur.depth, curR]
  have hr : (curR lo hi name j s w v l m).root = 0 := rfl
  have hv : (curR lo hi name j s w v l m).fValid = v := rfl
  have hl : (curR lo hi name j s w v l m).fLe = l := rfl
  rw [hd, hr, hv, hl, rp_nodeGet]
  cases v with
  | true => simp
  | false =>
    simp only [Bool.false_eq_true, if_false]
    cases h : (rGet j s).2 with
    | none => simp
    | some x =>
      simp only []
      rw [rp_passes]
      by_cases hk : passR lo hi w x = true
      · simp [hk, curR]
      · simp only [hk, if_false, Bool.false_eq_true]
        have : ({ curR lo hi name j (rGet j s).1 w false l m with fLe := some x } : Cur)
            = curR lo hi name j (rGet j s).1 w false (some x) m := rfl
        rw [this, rp_curNext]

theorem rp_curGet (name j s w v l m) :
    curGet (curR lo hi name j s w v l m) = fGetLoop ((flat j).length + 2) (curR lo hi name j s w v l m) := by
  simp [curGet, curR, Cur.size]

theorem rp_FLR_zero (j : Journal) (w : Bool) : FLR lo hi j w 0 = (wflat j).filter (passR lo hi w) := rfl

theorem rp_FLR_some {j : Journal} {w : Bool} {i : Nat} {r : Rec} (h : (wflat j)[i]? = some r) :
    FLR lo hi j w i = if passR lo hi w r then r :: FLR lo hi j w (i + 1) else FLR lo hi j w (i + 1) := by
  obtain ⟨hi', e⟩ := List.getElem?_eq_some_iff.mp h
  unfold FLR
  rw [List.drop_eq_getElem_cons hi', e, List.filter_cons]

/-- facts about the components of a one-source ranged cursor standing (forward) at index `i` of `wflat j` -/
def StR (j : Journal) (w sy : Bool) (s : RIt) (v : Bool) (l : Option Rec) (i : Nat) : Prop :=
  RWF j s ∧ s.bkwd = false ∧ wIdx j s = i ∧
  (v = true → ∃ r, l = some r ∧ (wflat j)[i]? = some r ∧ passR lo hi w r = true) ∧
  (sy = true → RSynced s) ∧
  (sy = false → v = true → ROnRecord j s)

/-- `c` is a one-source ranged cursor over `j` standing (forward) at index `i` of `wflat j` -/
def AbsR (name : Nat) (j : Journal) (w sy : Bool) (c : Cur) (i : Nat) : Prop :=
  ∃ s v l m, c = curR lo hi name j s w v l m ∧ StR lo hi j w sy s v l i

/-- post-condition of a `Get` from index `i` -/
def GetPostR (name : Nat) (j : Journal) (w sy : Bool) (c' : Cur) (res : Option Rec) (i : Nat) : Prop :=
  ∃ i' s' v' l' m', c' = curR lo hi name j s' w v' l' m' ∧ StR lo hi j w sy s' v' l' i' ∧
    (sy = false → (res.isSome → ROnRecord j s') ∧ (res = none → s'.ci = none)) ∧
    FLR lo hi j w i' = FLR lo hi j w i ∧ res = (FLR lo hi j w i).head? ∧
    ((res = none ∧ i' = (wflat j).length) ∨
      (∃ r, res = some r ∧ (wflat j)[i']? = some r ∧ passR lo hi w r = true))

/-- state of a cursor after `commit`: standing at `i`, reporting position `p` -/
def PCR (name : Nat) (j : Journal) (w : Bool) (c : Cur) (i : Nat) (p : Pos) : Prop :=
  ∃ s v l m, c = curR lo hi name j s w v l m ∧ StR lo hi j w true s v l i ∧ s.pos = p

end basics

def SatAtR (lo hi : Option Int) (j : Journal) (w : Bool) (i : Nat) : Prop :=
  i = (wflat j).length ∨ ∃ r, (wflat j)[i]? = some r ∧ passR lo hi w r = true

theorem ro_FL_len (lo hi : Option Int) {j : Journal} {w : Bool} : FLR lo hi j w (wflat j).length = [] := by simp [FLR]

section view
variable (lo hi : Option Int)

/-- `B s V`: `Get` answers the head of `V` and keeps it, `Next` drops it. The iterator the loop leaves is the result of a
`Get` (of `s0`), which is where the callers read off what they need to know about it. -/
theorem rp_fGetLoop_view {name : Nat} {j : Journal} {w : Bool} (B : RIt → List Rec → Prop)
    (hget : ∀ s V, B s V → (rGet j s).2 = V.head? ∧ B (rGet j s).1 V)
    (hnext : ∀ s V, B s V → B (rNext j s) V.tail) :
    ∀ (fuel : Nat) (s : RIt) (V : List Rec) (l : Option Rec) (m : Array MixSt), B s V → V.length < fuel →
    ∃ s0 V' v' l', B s0 V' ∧ V'.filter (passR lo hi w) = V.filter (passR lo hi w) ∧
      fGetLoop fuel (curR lo hi name j s w false l m) =
        (curR lo hi name j (rGet j s0).1 w v' l' m, (V.filter (passR lo hi w)).head?) ∧
      ((V' = [] ∧ v' = false) ∨ ∃ r t, V' = r :: t ∧ passR lo hi w r = true ∧ v' = true ∧ l' = some r) := by
  intro fuel
  induction fuel with
  | zero => intro s V l m _ h; exact absurd h (Nat.not_lt_zero _)
  | succ f ih =>
    intro s V l m hB hf
    obtain ⟨g1, g2⟩ := hget s V hB
    rw [rp_fGetLoop_succ, if_neg Bool.false_ne_true, g1]
    cases V with
    | nil => exact ⟨s, [], false, l, hB, rfl, rfl, Or.inl ⟨rfl, rfl⟩⟩
    | cons x t =>
      simp only [List.head?_cons]
      by_cases hk : passR lo hi w x = true
      · rw [if_pos hk, List.filter_cons_of_pos hk]
        exact ⟨s, x :: t, true, some x, hB, List.filter_cons_of_pos hk, rfl, Or.inr ⟨x, t, rfl, hk, rfl, rfl⟩⟩
      · rw [if_neg hk, List.filter_cons_of_neg hk]
        exact ih (rNext j (rGet j s).1) t (some x) m (hnext _ _ g2) (Nat.lt_of_succ_lt_succ hf)

end view

section laws
variable (lo hi : Option Int) (HG : RGetFwdSpec) (HN : RNextFwdSpec)
include HG HN

theorem rp_curNext_abs {name j w sy c i} (hs : Sorted j) (h : AbsR lo hi name j w sy c i) :
    AbsR lo hi name j w sy (curNext c) (min (i + 1) (wflat j).length) := by
  obtain ⟨s, v, l, m, rfl, hst⟩ := h
  unfold StR at hst
  obtain ⟨hwf, hb, hi', _, _, _⟩ := hst
  obtain ⟨h1, h2, h3, h4⟩ := HN j s hs hwf hb
  refine ⟨rNext j s, false, l, m, rp_curNext .., ?_⟩
  unfold StR
  refine ⟨h1, h2, by rw [h4, hi'], ?_, fun _ => h3, ?_⟩
  · intro hv; cases hv
  · intro _ hv; cases hv

def FwdView (j : Journal) (sy : Bool) (s : RIt) (V : List Rec) : Prop :=
  RWF j s ∧ s.bkwd = false ∧ (sy = true → RSynced s) ∧ V = (wflat j).drop (wIdx j s)

theorem rp_fwdView_get {j : Journal} {sy : Bool} (hs : Sorted j) (s : RIt) (V : List Rec) (h : FwdView j sy s V) :
    (rGet j s).2 = V.head? ∧ FwdView j sy (rGet j s).1 V := by
  obtain ⟨h1, h2, h3, h4⟩ := h
  obtain ⟨g1, g2, g3, g4, g5, _⟩ := HG j s hs h1 h2
  exact ⟨by rw [g1, h4, List.head?_drop], g2, g3, fun h => g5 (h3 h), by rw [g4]; exact h4⟩

theorem rp_fwdView_next {j : Journal} {sy : Bool} (hs : Sorted j) (s : RIt) (V : List Rec) (h : FwdView j sy s V) :
    FwdView j sy (rNext j s) V.tail := by
  obtain ⟨h1, h2, _, h4⟩ := h
  obtain ⟨n1, n2, n3, n4⟩ := HN j s hs h1 h2
  exact ⟨n1, n2, fun _ => n3, by rw [n4, rw_drop_min_succ, h4]⟩

theorem rp_curGet_abs {name j w sy c i} (hs : Sorted j) (h : AbsR lo hi name j w sy c i) :
    GetPostR lo hi name j w sy (curGet c).1 (curGet c).2 i := by
  obtain ⟨s, v, l, m, rfl, hwf, hb, hi', hv, hsy, hon0⟩ := h
  rw [rp_curGet]
  cases v with
  | true =>
    obtain ⟨r, hl, hr, hk⟩ := hv rfl
    rw [rp_fGetLoop_succ, if_pos rfl]
    exact ⟨i, s, true, l, m, rfl, ⟨hwf, hb, hi', hv, hsy, hon0⟩,
      fun h0 => ⟨fun _ => hon0 h0 rfl, by intro h; rw [hl] at h; cases h⟩, rfl,
      by rw [rp_FLR_some lo hi hr, if_pos hk, hl]; rfl, Or.inr ⟨r, hl, hr, hk⟩⟩
  | false =>
    obtain ⟨s0, V', v', l', ⟨b1, b2, b3, rfl⟩, hV, he, hd⟩ := rp_fGetLoop_view lo hi (FwdView j sy)
      (rp_fwdView_get HG HN hs) (rp_fwdView_next HG HN hs) ((flat j).length + 2) s _ l m ⟨hwf, hb, hsy, rfl⟩
      (by rw [List.length_drop]; have := rp_wflat_length_le j; omega)
    obtain ⟨g1, g2, g3, g4, g5, g6, g7⟩ := HG j s0 hs b1 b2
    rw [he, hi'] at *
    have hF : FLR lo hi j w (wIdx j s0) = FLR lo hi j w i := hV
    refine ⟨wIdx j s0, (rGet j s0).1, v', l', m, rfl, ⟨g2, g3, g4, ?_, fun h => g5 (b3 h), ?_⟩, ?_, hF, rfl, ?_⟩
    all_goals rcases hd with ⟨hn, rfl⟩ | ⟨r, t, hc, hk, rfl, rfl⟩
    · intro h; cases h
    · have hr : (wflat j)[wIdx j s0]? = some r := by rw [← List.head?_drop, hc]; rfl
      exact fun _ => ⟨r, rfl, hr, hk⟩
    · intro _ h; cases h
    · have hr : (wflat j)[wIdx j s0]? = some r := by rw [← List.head?_drop, hc]; rfl
      exact fun _ _ => g6 (by rw [g1, hr]; rfl)
    · rw [← hV, hn]
      exact fun _ => ⟨(by intro h; cases h), fun _ => g7 (by rw [g1, ← List.head?_drop, hn]; rfl)⟩
    · have hr : (wflat j)[wIdx j s0]? = some r := by rw [← List.head?_drop, hc]; rfl
      rw [← hV, hc, List.filter_cons_of_pos hk]
      exact fun _ => ⟨fun _ => g6 (by rw [g1, hr]; rfl), by intro h; cases h⟩
    · rw [← hV, hn]
      exact Or.inl ⟨rfl, Nat.le_antisymm (rw_wIdx_le j s0) (List.drop_eq_nil_iff.mp hn)⟩
    · have hr : (wflat j)[wIdx j s0]? = some r := by rw [← List.head?_drop, hc]; rfl
      rw [← hV, hc, List.filter_cons_of_pos hk]
      exact Or.inr ⟨r, rfl, hr, hk⟩

theorem rp_delivers {name j w sy} (hs : Sorted j) :
    Delivers (fun c L => ∃ i, AbsR lo hi name j w sy c i ∧ FLR lo hi j w i = L)
      (fun c L => ∃ i, AbsR lo hi name j w sy c i ∧ SatAtR lo hi j w i ∧ FLR lo hi j w i = L) where
  get := by
    intro c L ⟨i, h, hL⟩
    obtain ⟨i', s', v', l', m', e, st, _, f, r, d⟩ := rp_curGet_abs lo hi HG HN hs h
    refine ⟨hL ▸ r, i', ⟨s', v', l', m', e, st⟩, ?_, f.trans hL⟩
    rcases d with ⟨_, h2⟩ | ⟨r, _, h2, h3⟩
    · exact Or.inl h2
    · exact Or.inr ⟨r, h2, h3⟩
  next := by
    intro c L ⟨i, h, hsat, hL⟩
    refine ⟨_, rp_curNext_abs lo hi HG HN hs h, ?_⟩
    rw [← hL]
    rcases hsat with he | ⟨r, hr, hk⟩
    · subst he; simp [ro_FL_len lo hi]
    · rw [Nat.min_eq_left (List.getElem?_eq_some_iff.mp hr).1, rp_FLR_some lo hi hr, if_pos hk]; rfl
  settled := fun ⟨i, h, _, hL⟩ => ⟨i, h, hL⟩

theorem rp_readLoop_abs {name j w sy} (hs : Sorted j) (k : Nat) (c : Cur) (i : Nat) (acc : List Rec)
    (h : AbsR lo hi name j w sy c i) :
    (readLoop k c acc).2 = acc.reverse ++ (FLR lo hi j w i).take k ∧
    ∃ i', AbsR lo hi name j w sy (readLoop k c acc).1 i' ∧ FLR lo hi j w i' = (FLR lo hi j w i).drop k :=
  (rp_delivers lo hi HG HN hs).readLoop k c _ acc ⟨i, h, rfl⟩

theorem rp_commit_abs {name j w c i} (hs : Sorted j) (h : AbsR lo hi name j w true c i) :
    ∃ i' p, PCR lo hi name j w (commit c).1 i' p ∧ FLR lo hi j w i' = FLR lo hi j w i ∧
      (commit c).2 = [(name, p)] ∧ wflatIdx j p = i' := by
  obtain ⟨i1, s1, v1, l1, m1, e1, st1, _, f1, _, _⟩ := rp_curGet_abs lo hi HG HN hs h
  unfold StR at st1
  obtain ⟨hwf, hb, hi', hv, hsy, hon0⟩ := st1
  have hsync := hsy rfl
  obtain ⟨r1, r2, r3, r4, r5, _⟩ := rw_release_facts j s1
  have hc : commit c = (curR lo hi name j (rRelease s1) w v1 l1 m1, [(name, s1.pos)]) := by
    simp only [commit, curState, e1, rp_collectPos, rp_curRelease]
  rw [hc]
  refine ⟨i1, s1.pos, ⟨rRelease s1, v1, l1, m1, rfl, ?_, r5⟩, f1, rfl, ?_⟩
  · unfold StR
    exact ⟨r1 hwf, by rw [r3, hb], by unfold wIdx at hi' ⊢; rw [r2, hi'], hv, fun _ => r4 hsync, by intro h; cases h⟩
  · rw [← rw_effPos_eq_pos hwf hsync]; exact hi'

theorem rp_pageOn_abs {name j w c i} (hs : Sorted j) (lim : Nat) (h : AbsR lo hi name j w true c i) :
    (pageOn lim c).2.1 = (FLR lo hi j w i).take lim ∧
    ∃ i' p, PCR lo hi name j w (pageOn lim c).1 i' p ∧ FLR lo hi j w i' = (FLR lo hi j w i).drop lim ∧
      (pageOn lim c).2.2 = [(name, p)] ∧ wflatIdx j p = i' := by
  obtain ⟨q1, i1, q2, q3⟩ := rp_readLoop_abs lo hi HG HN hs lim c i [] h
  obtain ⟨i', p, c1, c2, c3, c4⟩ := rp_commit_abs lo hi HG HN hs q2
  exact ⟨by simpa [pageOn] using q1, i', p, c1, by rw [c2, q3], c3, c4⟩

end laws

/-! ## chains of pages -/
section chains
variable (lo hi : Option Int)

def mkR (name : Nat) (j : Journal) (w : Bool) : Cur :=
  mkCur [{ name := name, jrnl := j, it := .rng {} }] w lo hi true

def resumeR (name : Nat) (w : Bool) (c : Cur) (pm : List (Nat × Pos)) (st : PStep) : Cur :=
  match st.choice with
  | .same => setJournals c [(name, st.jrnl)]
  | .fresh => applyStatePos (mkR lo hi name st.jrnl w) pm

def chainR (name : Nat) (w : Bool) : Cur → List (Nat × Pos) → List PStep → List (List Rec)
  | _, _, [] => []
  | c, pm, st :: rest =>
    (pageOn st.limit (resumeR lo hi name w c pm st)).2.1 ::
      chainR name w (pageOn st.limit (resumeR lo hi name w c pm st)).1 (pageOn st.limit (resumeR lo hi name w c pm st)).2.2 rest

/-- a whole paged read of one partition under a RANGE, first request from `head` -/
def pagesR (name : Nat) (w : Bool) (j0 : Journal) (l0 : Nat) (steps : List PStep) : List (List Rec) :=
  (pageOn l0 (applyCorner (mkR lo hi name j0 w) false)).2.1 ::
    chainR lo hi name w (pageOn l0 (applyCorner (mkR lo hi name j0 w) false)).1
      (pageOn l0 (applyCorner (mkR lo hi name j0 w) false)).2.2 steps

theorem rp_fresh_abs (name : Nat) (j : Journal) (w sy : Bool) (p : Pos) :
    AbsR lo hi name j w sy (applyStatePos (mkR lo hi name j w) [(name, p)]) (wflatIdx j p) := by
  obtain ⟨h1, h2, h3⟩ := rw_setPos_fresh_wf j p
  exact ⟨rSetPos j {} p, false, none, #[{}], by rw [mkR, rp_mkCur, rp_applyStatePos],
    h1, (rw_setPos_fresh j p).2.2.1, h3, (by intro h; cases h), fun _ => h2, (by intro _ h; cases h)⟩

theorem rp_corner_eq (name : Nat) (j : Journal) (w t : Bool) :
    applyCorner (mkR lo hi name j w) t = applyStatePos (mkR lo hi name j w) [(name, if t then ⟨tailCid, maxU32⟩ else {})] := by
  rw [mkR, rp_mkCur, rp_applyCorner, rp_applyStatePos]

theorem rp_corner_abs (name : Nat) (j : Journal) (w t sy : Bool) :
    AbsR lo hi name j w sy (applyCorner (mkR lo hi name j w) t) (wflatIdx j (if t then ⟨tailCid, maxU32⟩ else {})) :=
  rp_corner_eq lo hi name j w t ▸ rp_fresh_abs lo hi name j w sy _

theorem rp_head_abs (name : Nat) (j : Journal) (w : Bool) :
    AbsR lo hi name j w true (applyCorner (mkR lo hi name j w) false) 0 := by
  have h := rp_corner_abs lo hi name j w false true
  simp only [Bool.false_eq_true, if_false] at h
  rw [show wflatIdx j ({} : Pos) = 0 from rw_wflatIdx_zero j] at h
  exact h

theorem rp_pc_idx {name j w c i p} (h : PCR lo hi name j w c i p) : wflatIdx j p = i := by
  obtain ⟨s, v, l, m, _, st, hp⟩ := h
  unfold StR at st
  obtain ⟨hwf, _, hi', _, hsy, _⟩ := st
  rw [← hp, ← rw_effPos_eq_pos hwf (hsy rfl)]; exact hi'

/-- resuming on the unchanged journal keeps the index, whatever the environment chooses -/
theorem rp_resume_fixed {name j w c i p} (h : PCR lo hi name j w c i p) (st : PStep) (hj : st.jrnl = j) :
    AbsR lo hi name j w true (resumeR lo hi name w c [(name, p)] st) i := by
  unfold resumeR
  cases hc : st.choice with
  | same =>
    obtain ⟨s, v, l, m, rfl, hst, _⟩ := h
    simp only [hj, rp_setJournals]
    exact ⟨s, v, l, m, rfl, hst⟩
  | fresh =>
    simp only [hj]
    have := rp_fresh_abs lo hi name j w true p
    rw [rp_pc_idx lo hi h] at this; exact this

end chains

section laws3
variable (lo hi : Option Int) (HG : RGetFwdSpec) (HN : RNextFwdSpec)
include HG HN

theorem rp_chain_fixed {name j w} (hs : Sorted j) : ∀ (steps : List PStep) (c : Cur) (i : Nat) (p : Pos),
    PCR lo hi name j w c i p → (∀ st ∈ steps, st.jrnl = j) →
    (chainR lo hi name w c [(name, p)] steps).flatten = (FLR lo hi j w i).take (steps.map (·.limit)).sum := by
  intro steps
  induction steps with
  | nil => intro c i p _ _; simp [chainR]
  | cons st rest ih =>
    intro c i p h hall
    have habs := rp_resume_fixed lo hi h st (hall st (List.mem_cons_self ..))
    obtain ⟨e1, i', p', pc', f', pm', _⟩ := rp_pageOn_abs lo hi HG HN hs st.limit habs
    rw [chainR, List.flatten_cons, pm', ih _ i' p' pc' (fun s hs' => hall s (List.mem_cons_of_mem _ hs')), e1, f']
    simp only [List.map_cons, List.sum_cons]
    rw [List.take_add]

/-- **paging with RANGE**, one partition, fixed journal: whatever the limits and whatever the environment chooses -/
theorem rp_paging {name j w} (hs : Sorted j) (l0 : Nat) (steps : List PStep) (hall : ∀ st ∈ steps, st.jrnl = j) :
    (pagesR lo hi name w j l0 steps).flatten =
      ((wflat j).filter (passR lo hi w)).take (l0 + (steps.map (·.limit)).sum) := by
  obtain ⟨e1, i', p', pc', f', pm', _⟩ := rp_pageOn_abs lo hi HG HN hs l0 (rp_head_abs lo hi name j w)
  rw [pagesR, List.flatten_cons, pm', rp_chain_fixed lo hi HG HN hs steps _ i' p' pc' hall, e1, f', List.take_add]
  simp [FLR]

end laws3
end Logrange.Rd

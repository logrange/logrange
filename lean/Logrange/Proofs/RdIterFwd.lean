import Logrange.Proofs.RdIterDefs
/-!
Forward-direction proofs for the journal iterator model (C03/C16): `get`/`next` against the flat-index
abstraction (`getFwd`, `nextFwd`), enumeration (`drain_eq`, `pos_after`) and stability under appends (`grows`).
-/
namespace Logrange.Rd

/-- per-chunk contribution to `flatIdx` -/
def fiTerm (c : Chunk) (p : Pos) : Nat :=
  if c.id < p.cid then c.cnt else if c.id = p.cid then min p.idx c.cnt else 0

theorem flatIdx_cons (c : Chunk) (r : Journal) (p : Pos) :
    flatIdx (c :: r) p = fiTerm c p + flatIdx r p := rfl

theorem flat_cons (c : Chunk) (r : Journal) : flat (c :: r) = c.recs ++ flat r := by
  simp [flat]

theorem flat_length_cons (c : Chunk) (r : Journal) :
    (flat (c :: r)).length = c.cnt + (flat r).length := by
  simp [flat_cons, Chunk.cnt]

theorem fiTerm_le (c : Chunk) (p : Pos) : fiTerm c p ≤ c.cnt := by
  unfold fiTerm; split
  · omega
  · split <;> omega

theorem fiTerm_of_lt {c : Chunk} {p : Pos} (h : c.id < p.cid) : fiTerm c p = c.cnt := if_pos h

theorem fiTerm_of_gt {c : Chunk} {p : Pos} (h : p.cid < c.id) : fiTerm c p = 0 := by
  unfold fiTerm; rw [if_neg (Nat.lt_asymm h), if_neg (Nat.ne_of_gt h)]

theorem fiTerm_of_eq {c : Chunk} {p : Pos} (h : c.id = p.cid) : fiTerm c p = min p.idx c.cnt := by
  unfold fiTerm; rw [if_neg (Nat.lt_irrefl _ |> (h ▸ ·)), if_pos h]

theorem fiTerm_self (c : Chunk) (k : Nat) : fiTerm c ⟨c.id, k⟩ = min k c.cnt := fiTerm_of_eq rfl

theorem fiTerm_zero_of_le {c : Chunk} {cid : Nat} (h : cid ≤ c.id) : fiTerm c ⟨cid, 0⟩ = 0 := by
  unfold fiTerm; rw [if_neg (Nat.not_lt.mpr h), Nat.zero_min, ite_self]

theorem flatIdx_congr {j : Journal} {p q : Pos} (h : ∀ c ∈ j, fiTerm c p = fiTerm c q) :
    flatIdx j p = flatIdx j q := by
  induction j with
  | nil => rfl
  | cons c r ih =>
    rw [flatIdx_cons, flatIdx_cons, h c (by simp), ih (fun x hx => h x (by simp [hx]))]

theorem flatIdx_le (j : Journal) (p : Pos) : flatIdx j p ≤ (flat j).length := by
  induction j with
  | nil => simp [flatIdx]
  | cons c r ih =>
    rw [flatIdx_cons, flat_length_cons]
    have := fiTerm_le c p
    omega

theorem flatIdx_eq_len_of_gt {j : Journal} {p : Pos} (h : ∀ c ∈ j, c.id < p.cid) :
    flatIdx j p = (flat j).length := by
  induction j with
  | nil => rfl
  | cons c r ih =>
    rw [flatIdx_cons, flat_length_cons, fiTerm_of_lt (h c (List.mem_cons_self ..)),
      ih (fun x hx => h x (List.mem_cons_of_mem _ hx))]

theorem flatIdx_eq_zero {j : Journal} {p : Pos} (h : ∀ c ∈ j, fiTerm c p = 0) :
    flatIdx j p = 0 := by
  induction j with
  | nil => simp [flatIdx]
  | cons c r ih =>
    rw [flatIdx_cons, h c (by simp), ih (fun x hx => h x (by simp [hx]))]

theorem flatIdx_eq_zero_of_lt {j : Journal} {p : Pos} (h : ∀ c ∈ j, p.cid < c.id) : flatIdx j p = 0 :=
  flatIdx_eq_zero fun c hc => fiTerm_of_gt (h c hc)

theorem flatIdx_gap {j : Journal} {a b : Nat} (k : Nat) (hab : a < b) (h : ∀ c ∈ j, c.id < a ∨ b ≤ c.id) :
    flatIdx j ⟨a, k⟩ = flatIdx j ⟨b, 0⟩ := by
  apply flatIdx_congr
  intro c hc
  rcases h c hc with h1 | h1
  · rw [fiTerm_of_lt h1, fiTerm_of_lt (Nat.lt_trans h1 hab)]
  · rw [fiTerm_of_gt (Nat.lt_of_lt_of_le hab h1), fiTerm_zero_of_le h1]

theorem Sorted.tail {c : Chunk} {r : Journal} (h : Sorted (c :: r)) : Sorted r :=
  (List.pairwise_cons.mp h).2

theorem Sorted.head_lt {c : Chunk} {r : Journal} (h : Sorted (c :: r)) : ∀ x ∈ r, c.id < x.id :=
  (List.pairwise_cons.mp h).1

theorem sorted_id_inj {j : Journal} (hs : Sorted j) {a b : Chunk} (ha : a ∈ j) (hb : b ∈ j)
    (h : a.id = b.id) : a = b := by
  induction j with
  | nil => simp at ha
  | cons c r ih =>
    have hl := hs.head_lt
    rcases List.mem_cons.mp ha with rfl | ha' <;> rcases List.mem_cons.mp hb with rfl | hb'
    · rfl
    · have := hl b hb'; omega
    · have := hl a ha'; omega
    · exact ih hs.tail ha' hb'

theorem findChunk_mem {j : Journal} (hs : Sorted j) {ch : Chunk} (hm : ch ∈ j) :
    findChunk j ch.id = some ch := by
  induction j with
  | nil => simp at hm
  | cons c r ih =>
    unfold findChunk
    rw [List.find?_cons]
    rcases List.mem_cons.mp hm with rfl | hm'
    · simp
    · have := hs.head_lt ch hm'
      have hne : (c.id == ch.id) = false := by simp; omega
      rw [hne]
      exact ih hs.tail hm'

theorem cntOf_mem {j : Journal} (hs : Sorted j) {ch : Chunk} (hm : ch ∈ j) :
    cntOf j ch.id = ch.cnt := by
  simp [cntOf, findChunk_mem hs hm]

theorem recAt_mem {j : Journal} (hs : Sorted j) {ch : Chunk} (hm : ch ∈ j) (k : Nat) :
    recAt j ch.id k = ch.recs[k]? := by
  simp [recAt, findChunk_mem hs hm]

/-- inside an existing chunk the flat index is the chunk's start plus the (clipped) index -/
theorem flatIdx_in {j : Journal} (hs : Sorted j) {ch : Chunk} (hm : ch ∈ j) (k : Nat) :
    flatIdx j ⟨ch.id, k⟩ = flatIdx j ⟨ch.id, 0⟩ + min k ch.cnt := by
  induction j with
  | nil => simp at hm
  | cons c r ih =>
    rw [flatIdx_cons, flatIdx_cons]
    rcases List.mem_cons.mp hm with rfl | hm'
    · have z : ∀ k, flatIdx r ⟨ch.id, k⟩ = 0 := fun k => flatIdx_eq_zero_of_lt hs.head_lt
      rw [z, z, fiTerm_self, fiTerm_self, Nat.zero_min]; omega
    · have := hs.head_lt ch hm'
      rw [ih hs.tail hm', fiTerm_of_lt this, fiTerm_of_lt this, Nat.add_assoc]

theorem flat_get {j : Journal} (hs : Sorted j) {ch : Chunk} (hm : ch ∈ j) {k : Nat} (hk : k < ch.cnt) :
    (flat j)[flatIdx j ⟨ch.id, 0⟩ + k]? = ch.recs[k]? := by
  induction j with
  | nil => simp at hm
  | cons c r ih =>
    rw [flatIdx_cons, flat_cons]
    rcases List.mem_cons.mp hm with rfl | hm'
    · rw [flatIdx_eq_zero_of_lt (p := ⟨ch.id, 0⟩) hs.head_lt, fiTerm_self, Nat.zero_min, Nat.zero_add]
      exact List.getElem?_append_left hk
    · rw [fiTerm_of_lt (hs.head_lt ch hm'), Nat.add_assoc, Chunk.cnt,
        List.getElem?_append_right (Nat.le_add_right ..), Nat.add_sub_cancel_left]
      exact ih hs.tail hm'

theorem toNat_add_one {a : Int} (h : 0 ≤ a) : (a + 1).toNat = a.toNat + 1 := Int.toNat_add_nat h 1

theorem ciSetPos_fresh (j : Journal) (id k : Nat) :
    ciSetPos j { chunk := id } (k : Int) =
      { chunk := id, pos := ((min k (cntOf j id) : Nat) : Int), cached := false } := by
  unfold ciSetPos
  simp only
  split
  · rename_i h
    have : k = 0 := by omega
    subst this; simp
  · rename_i h
    congr 1
    split <;> split <;> omega

theorem getLast_max {j : Journal} (hs : Sorted j) {chk : Chunk} (h : j.getLast? = some chk) :
    chk ∈ j ∧ ∀ c ∈ j, c.id ≤ chk.id := by
  induction j with
  | nil => simp at h
  | cons c r ih =>
    cases r with
    | nil => simp at h; subst h; simp
    | cons c2 r2 =>
      rw [List.getLast?_cons_cons] at h
      obtain ⟨h1, h2⟩ := ih hs.tail h
      have := hs.head_lt chk h1
      refine ⟨by simp [h1], ?_⟩
      intro x hx
      rcases List.mem_cons.mp hx with rfl | hx'
      · omega
      · exact h2 x hx'

/-- what `getChunkByIdOrGreater` answers on a sorted journal -/
theorem orGreater_spec {j : Journal} (hs : Sorted j) (cid : Nat) :
    match orGreater j cid with
    | none => j = []
    | some chk => chk ∈ j ∧
        ((cid ≤ chk.id ∧ ∀ c ∈ j, c.id < cid ∨ chk.id ≤ c.id) ∨
         (chk.id < cid ∧ ∀ c ∈ j, c.id ≤ chk.id)) := by
  unfold orGreater
  cases hf : j.find? (fun c => decide (cid ≤ c.id)) with
  | some chk =>
    simp only
    obtain ⟨hp, as, bs, rfl, has⟩ := List.find?_eq_some_iff_append.mp hf
    refine ⟨by simp, Or.inl ⟨of_decide_eq_true hp, fun c hc => ?_⟩⟩
    rcases List.mem_append.mp hc with h | h
    · exact Or.inl (by simpa using has c h)
    · rcases List.mem_cons.mp h with rfl | h
      · exact Or.inr (Nat.le_refl _)
      · exact Or.inr (Nat.le_of_lt ((List.pairwise_cons.mp (List.pairwise_append.mp hs).2.1).1 c h))
  | none =>
    simp only
    have hn : ∀ c ∈ j, c.id < cid := fun c hc => by simpa using List.find?_eq_none.mp hf c hc
    cases hl : j.getLast? with
    | none => simpa using hl
    | some chk =>
      simp only
      obtain ⟨h1, h2⟩ := getLast_max hs hl
      exact ⟨h1, Or.inr ⟨hn chk h1, h2⟩⟩

/-- outcome of forward `ensure`/`advance` from a state whose position has flat index `i` and chunk id ≥ `lo` -/
def FwdOpen (j : Journal) (i lo : Nat) (r : It × Bool) : Prop :=
  r.1.bkwd = false ∧ fIdx j r.1 = i ∧
  ((r.2 = true ∧ r.1.ci = none ∧ i = (flat j).length ∧ (j ≠ [] → Settled j r.1.pos)) ∨
   (r.2 = false ∧ r.1.ci.isSome = true ∧ WF j r.1 ∧ Synced r.1 ∧ lo ≤ r.1.cid))

theorem flatIdx_clamp {j : Journal} (hs : Sorted j) {ch : Chunk} (hm : ch ∈ j) (k : Nat) :
    flatIdx j ⟨ch.id, min k ch.cnt⟩ = flatIdx j ⟨ch.id, k⟩ := by
  rw [flatIdx_in hs hm, flatIdx_in hs hm k, Nat.min_assoc, Nat.min_self]

theorem flatIdx_succ_in {j : Journal} (hs : Sorted j) {ch : Chunk} (hm : ch ∈ j) {k : Nat} (hk : k < ch.cnt) :
    flatIdx j ⟨ch.id, k + 1⟩ = flatIdx j ⟨ch.id, k⟩ + 1 := by
  rw [flatIdx_in hs hm, flatIdx_in hs hm k, Nat.min_eq_left hk, Nat.min_eq_left (Nat.le_of_lt hk), Nat.add_assoc]

theorem flatIdx_end {j : Journal} (hs : Sorted j) {ch : Chunk} (hm : ch ∈ j) {k : Nat} (hk : ch.cnt ≤ k) :
    flatIdx j ⟨ch.id, k⟩ = flatIdx j ⟨ch.id + 1, 0⟩ := by
  apply flatIdx_congr
  intro c hc
  rcases Nat.lt_trichotomy c.id ch.id with h | h | h
  · rw [fiTerm_of_lt h, fiTerm_of_lt (Nat.lt_succ_of_lt h)]
  · obtain rfl := sorted_id_inj hs hc hm h
    rw [fiTerm_self, fiTerm_of_lt (Nat.lt_succ_self _), Nat.min_eq_right hk]
  · rw [fiTerm_of_gt h, fiTerm_zero_of_le h]

theorem ensure_fwd {j : Journal} (hs : Sorted j) {it : It} (hci : it.ci = none) (hb : it.bkwd = false) :
    FwdOpen j (fIdx j it) it.cid (ensure j it) := by
  obtain ⟨cid, idx, ci, bkwd⟩ := it
  simp only at hci hb
  subst hci hb
  have hsp := orGreater_spec hs cid
  simp only [ensure, Bool.false_eq_true, ↓reduceIte]
  cases hog : orGreater j cid with
  | none =>
    rw [hog] at hsp; simp only at hsp ⊢
    subst hsp
    simp [FwdOpen, fIdx, It.pos, flatIdx, flat]
  | some chk =>
    rw [hog] at hsp; simp only at hsp ⊢
    obtain ⟨hm, hcase⟩ := hsp
    have hcnt := cntOf_mem hs hm
    simp only [fIdx, effPos, It.pos]
    rcases hcase with ⟨hge, hfirst⟩ | ⟨hlt, hmax⟩
    · -- the chunk is opened at index `k` (0 when it lies beyond `cid`), clipped to its count
      have opened : ∀ k cid', chk.id = cid' → flatIdx j ⟨chk.id, k⟩ = flatIdx j ⟨cid, idx⟩ →
          FwdOpen j (flatIdx j ⟨cid, idx⟩) cid
            ({ cid := cid', idx := min k chk.cnt, ci := some { chunk := chk.id, pos := (min k chk.cnt : Nat) } },
              false) := by
        intro k cid' hc hk
        subst hc
        refine ⟨rfl, ?_, Or.inr ⟨rfl, rfl, ?_, ?_, hge⟩⟩
        · simp only [fIdx, effPos, Int.toNat_natCast]
          rw [flatIdx_clamp hs hm, hk]
        · simp only [WF, hcnt]
          exact ⟨trivial, ⟨chk, hm, rfl⟩, by omega, by omega, by simp⟩
        · simp [Synced]
      have h1 : ¬ chk.id < cid := Nat.not_lt.mpr hge
      simp only [h1, false_and, ↓reduceIte, ciSetPos_fresh, hcnt, Int.toNat_natCast]
      by_cases h2 : chk.id > cid
      · simp only [h2, ↓reduceIte]
        exact opened 0 chk.id rfl (flatIdx_gap idx h2 hfirst).symm
      · obtain rfl : chk.id = cid := Nat.le_antisymm (Nat.not_lt.mp h2) hge
        simp only [h2, ↓reduceIte]
        exact opened idx chk.id rfl rfl
    · simp only [hlt, not_false_eq_true, and_self, ↓reduceIte]
      have hall : ∀ c ∈ j, c.id < cid := fun c hc => Nat.lt_of_le_of_lt (hmax c hc) hlt
      have hlen : flatIdx j ⟨chk.id, chk.cnt⟩ = (flat j).length := by
        rw [flatIdx_end hs hm (Nat.le_refl _)]
        exact flatIdx_eq_len_of_gt fun c hc => Nat.lt_succ_of_le (hmax c hc)
      refine ⟨rfl, ?_, Or.inl ⟨rfl, rfl, ?_, fun _ => ⟨chk, hm, rfl, Nat.le_refl _⟩⟩⟩
      · simp only [fIdx, effPos, It.pos, hlen]
        exact (flatIdx_eq_len_of_gt hall).symm
      · exact flatIdx_eq_len_of_gt hall

theorem advance_fwd {j : Journal} (hs : Sorted j) {it : It} {c : CIt} (hci : it.ci = some c)
    (hb : it.bkwd = false) (hch : c.chunk = it.cid) {ch : Chunk} (hm : ch ∈ j) (hid : ch.id = it.cid)
    (hend : ch.cnt ≤ c.pos.toNat) : FwdOpen j (fIdx j it) (it.cid + 1) (advance j it) := by
  obtain ⟨cid, idx, ci, bkwd⟩ := it
  simp only at hci hb hch hid
  subst hci hb hid
  have h := ensure_fwd hs (it := { cid := ch.id + 1, idx := 0, ci := none, bkwd := false }) rfl rfl
  have e : fIdx j { cid := ch.id, idx := idx, ci := some c, bkwd := false } =
      fIdx j { cid := ch.id + 1, idx := 0, ci := none, bkwd := false } := by
    simp only [fIdx, effPos, It.pos, hch]
    exact flatIdx_end hs hm hend
  rw [e]
  simpa [advance] using h

theorem ciSetPos_inrange {j : Journal} {c : CIt} {p : Int} (hlo : -1 ≤ p) (hhi : p ≤ cntOf j c.chunk)
    (hc : c.cached = false ∨ p ≠ c.pos) : ciSetPos j c p = { c with pos := p, cached := false } := by
  obtain ⟨chunk, pos, cached⟩ := c
  unfold ciSetPos
  simp only at hc hhi ⊢
  split
  · rename_i h
    rcases hc with rfl | hc
    · rw [h]
    · exact absurd h hc
  · rw [if_neg (Int.not_lt.mpr hhi)]
    congr 1
    split <;> omega

theorem ciSetPos_facts {j : Journal} {c : CIt} {p : Int} (hlo : -1 ≤ p) (hhi : p ≤ cntOf j c.chunk) :
    (ciSetPos j c p).pos = p ∧ (ciSetPos j c p).chunk = c.chunk ∧
    ((ciSetPos j c p).cached = true → c.cached = true ∧ c.pos = p) := by
  by_cases he : p = c.pos
  · have : ciSetPos j c p = c := by unfold ciSetPos; exact if_pos he
    rw [this]; exact ⟨he.symm, rfl, fun h => ⟨h, he.symm⟩⟩
  · rw [ciSetPos_inrange hlo hhi (Or.inr he)]; exact ⟨rfl, rfl, nofun⟩

/-- where `cIterator.Get` comes to rest: forward, a position before the chunk moves to its start; backward, the
position behind the chunk moves to its last record -/
def restPos (b : Bool) (pos cnt : Int) : Int :=
  bif b then (if pos ≥ cnt then cnt - 1 else pos) else max pos 0

theorem restPos_of_mem {b : Bool} {pos cnt : Int} (h0 : 0 ≤ pos) (h1 : pos < cnt) : restPos b pos cnt = pos := by
  cases b
  · exact Int.max_eq_left h0
  · exact if_neg (Int.not_le.mpr h1)

theorem ciGet_spec {j : Journal} (hs : Sorted j) (b : Bool) {c : CIt} {ch : Chunk} (hm : ch ∈ j) (hid : ch.id = c.chunk)
    (hlo : -1 ≤ c.pos) (hhi : c.pos ≤ (ch.cnt : Int))
    (hca : c.cached = true → 0 ≤ c.pos ∧ c.pos < (ch.cnt : Int)) :
    ciGet j b c =
      if 0 ≤ restPos b c.pos ch.cnt ∧ restPos b c.pos ch.cnt < ch.cnt then
        (⟨c.chunk, restPos b c.pos ch.cnt, true⟩, ch.recs[(restPos b c.pos ch.cnt).toNat]?)
      else (⟨c.chunk, restPos b c.pos ch.cnt, false⟩, none) := by
  obtain ⟨chunk, pos, cached⟩ := c
  simp only at hid hlo hhi hca ⊢
  subst hid
  have hcnt := cntOf_mem hs hm
  unfold ciGet
  cases cached with
  | true =>
    obtain ⟨h0, h1⟩ := hca rfl
    have hq : restPos b pos ch.cnt = pos := by
      cases b
      · exact Int.max_eq_left h0
      · exact if_neg (Int.not_le.mpr h1)
    rw [hq, if_pos (And.intro h0 h1), recAt_mem hs hm]
    exact if_pos rfl
  | false =>
    have hadj : (if b = true then (if pos ≥ (ch.cnt : Int) then ciSetPos j ⟨ch.id, pos, false⟩ (ch.cnt - 1) else ⟨ch.id, pos, false⟩)
        else (if pos < 0 then ciSetPos j ⟨ch.id, pos, false⟩ 0 else ⟨ch.id, pos, false⟩)) = ⟨ch.id, restPos b pos ch.cnt, false⟩ := by
      cases b
      · simp only [Bool.false_eq_true, if_false, restPos, cond_false]
        split
        · rw [ciSetPos_inrange (by omega) (by rw [hcnt]; omega) (Or.inl rfl)]; congr 1; omega
        · congr 1; omega
      · simp only [if_true, restPos, cond_true]
        split
        · rw [ciSetPos_inrange (by omega) (by rw [hcnt]; omega) (Or.inl rfl)]
        · rfl
    simp only [Bool.false_eq_true, if_false, hcnt, hadj]
    generalize restPos b pos ch.cnt = q
    by_cases hq : 0 ≤ q ∧ q < ch.cnt
    · rw [if_pos hq, if_neg (by omega), recAt_mem hs hm]
    · rw [if_neg hq, if_pos (by omega)]

theorem ciNext_spec {j : Journal} (hs : Sorted j) (b : Bool) {c : CIt} {ch : Chunk} (hm : ch ∈ j) (hid : ch.id = c.chunk)
    (h0 : 0 ≤ c.pos) (h1 : c.pos < (ch.cnt : Int)) :
    ciNext j b c = ⟨c.chunk, bif b then c.pos - 1 else c.pos + 1, false⟩ := by
  unfold ciNext
  rw [ciGet_spec hs b hm hid (by omega) (by omega) (fun _ => ⟨h0, h1⟩), restPos_of_mem h0 h1, if_pos ⟨h0, h1⟩,
    List.getElem?_eq_getElem ((Int.toNat_lt h0).mpr h1)]
  cases b
  · rfl
  · simp only [if_true, cond_true]
    rw [ciSetPos_inrange (c := ⟨c.chunk, c.pos, true⟩) (show -1 ≤ c.pos - 1 by omega)
      (show c.pos - 1 ≤ (cntOf j c.chunk : Int) by rw [← hid, cntOf_mem hs hm]; omega)
      (Or.inr (Int.ne_of_lt (Int.sub_one_lt_of_le (Int.le_refl _))))]

theorem countP_lt_of {α : Type} {l : List α} {p q : α → Bool} (h : ∀ x ∈ l, p x = true → q x = true)
    {a : α} (ha : a ∈ l) (hp : p a = false) (hq : q a = true) : l.countP p < l.countP q := by
  induction l with
  | nil => simp at ha
  | cons b r ih =>
    have hmono : r.countP p ≤ r.countP q :=
      List.countP_mono_left (fun x hx => h x (by simp [hx]))
    rcases List.mem_cons.mp ha with rfl | ha'
    · rw [List.countP_cons_of_neg (by simp [hp]), List.countP_cons_of_pos hq]; omega
    · have := ih (fun x hx => h x (by simp [hx])) ha'
      rw [List.countP_cons (p := q)]
      cases hpb : p b
      · rw [List.countP_cons_of_neg (by simp [hpb])]; omega
      · rw [List.countP_cons_of_pos hpb, if_pos (h b (by simp) hpb)]; omega

/-- what forward `get`/`getLoop` answers from a state with flat index `i` -/
def GetOut (j : Journal) (i : Nat) (synced : Prop) (r : It × Option Rec) : Prop :=
  r.2 = (flat j)[i]? ∧ WF j r.1 ∧ r.1.bkwd = false ∧ fIdx j r.1 = i ∧ (synced → Synced r.1) ∧
  (r.2.isSome = true → OnRecord j r.1) ∧
  (r.2 = none → r.1.ci = none ∧ (j ≠ [] → Settled j r.1.pos))


theorem step_fwd {j : Journal} (hs : Sorted j) {it : It} {c : CIt} (hci : it.ci = some c) (hwf : WF j it) :
    ∃ ch n, ch ∈ j ∧ it.cid = ch.id ∧ c.chunk = ch.id ∧ n = c.pos.toNat ∧
      (ciGet j false c).1.chunk = ch.id ∧ (ciGet j false c).1.pos = (n : Int) ∧
      (n < ch.cnt → (ciGet j false c).2 = ch.recs[n]?) ∧
      (¬ n < ch.cnt → n = ch.cnt ∧ (ciGet j false c).2 = none) := by
  simp only [WF, hci] at hwf
  obtain ⟨hch, ⟨ch, hm, hid⟩, hlo, hhi, hca⟩ := hwf
  rw [← hid, cntOf_mem hs hm] at hhi hca
  have hq : restPos false c.pos ch.cnt = ((max c.pos 0).toNat : Nat) := by show max c.pos 0 = _; omega
  rw [ciGet_spec hs false hm hid hlo hhi hca, hq]
  refine ⟨ch, (max c.pos 0).toNat, hm, (hid.trans hch).symm, hid.symm, by omega, ?_⟩
  split
  · rename_i h
    exact ⟨hid.symm, rfl, fun _ => by rw [Int.toNat_natCast], fun h' => absurd (Int.ofNat_lt.mp h.2) h'⟩
  · rename_i h
    exact ⟨hid.symm, rfl, fun h' => absurd ⟨Int.natCast_nonneg _, Int.ofNat_lt.mpr h'⟩ h, fun _ => ⟨by omega, rfl⟩⟩

theorem getOut_of_open {j : Journal} {i lo fuel : Nat} {sy : Prop} {it2 : It} {eof : Bool}
    (h : FwdOpen j i lo (it2, eof))
    (hloop : it2.bkwd = false → it2.ci.isSome = true → WF j it2 → lo ≤ it2.cid →
      GetOut j (fIdx j it2) (Synced it2) (getLoop j fuel it2)) :
    GetOut j i sy (if eof = true then (it2, none) else getLoop j fuel it2) := by
  obtain ⟨ab, afi, ⟨e1, e2, e3, e4⟩ | ⟨e1, e2, e3, e4, e5⟩⟩ := h
  · simp only at ab afi e1 e2 e3 e4
    subst e1
    rw [if_pos rfl]
    refine ⟨?_, ?_, ab, afi, ?_, ?_, ?_⟩
    · simp only; rw [e3]; simp
    · simp only [WF, e2]
    · intro _; simp only [Synced, e2]
    · intro h; simp at h
    · intro _; exact ⟨e2, e4⟩
  · simp only at ab afi e1 e2 e3 e4 e5
    subst e1
    rw [if_neg Bool.false_ne_true]
    obtain ⟨r1, r2, r3, r4, r5, r6, r7⟩ := hloop ab e2 e3 e5
    rw [afi] at r1 r4
    exact ⟨r1, r2, r3, r4, fun _ => r5 e4, r6, r7⟩

theorem getLoop_fwd {j : Journal} (hs : Sorted j) : ∀ (fuel : Nat) (it : It), WF j it → it.ci.isSome = true →
    it.bkwd = false → j.countP (fun c => decide (it.cid ≤ c.id)) < fuel →
    GetOut j (fIdx j it) (Synced it) (getLoop j fuel it) := by
  intro fuel
  induction fuel with
  | zero => intro it _ _ _ h; omega
  | succ fuel ih =>
    intro it hwf hsome hb hfuel
    obtain ⟨cid, idx, ci, bkwd⟩ := it
    simp only at hsome hb hfuel
    subst hb
    cases ci with
    | none => simp at hsome
    | some c =>
      obtain ⟨ch, n, hm, hcid, s0, s3, s1, s2, s5, s6⟩ := step_fwd hs rfl hwf
      simp only at hcid
      subst hcid
      have hcnt := cntOf_mem hs hm
      have hfi : fIdx j { cid := ch.id, idx := idx, ci := some c } = flatIdx j ⟨ch.id, n⟩ := by
        simp only [fIdx, effPos, s0, s3]
      rw [getLoop]
      simp only
      generalize ciGet j false c = res at s1 s2 s5 s6 ⊢
      obtain ⟨⟨chunk', pos', cached'⟩, r⟩ := res
      simp only at s1 s2 s5 s6 ⊢
      subst s1 s2
      by_cases hn : n < ch.cnt
      · have hr : ch.recs[n]? = some ch.recs[n] := List.getElem?_eq_getElem hn
        rw [s5 hn, hr]
        simp only
        refine ⟨?_, ?_, rfl, ?_, ?_, ?_, ?_⟩
        · rw [hfi, flatIdx_in hs hm, Nat.min_eq_left (Nat.le_of_lt hn), flat_get hs hm hn, hr]
        · simp only [WF, hcnt]
          exact ⟨trivial, ⟨ch, hm, rfl⟩, by omega, by omega, fun _ => ⟨by omega, by omega⟩⟩
        · rw [hfi]; simp only [fIdx, effPos, Int.toNat_natCast]
        · simp only [Synced, Int.toNat_natCast]
          intro ⟨_, h1⟩
          exact ⟨Int.natCast_nonneg n, h1.trans s3.symm⟩
        · intro _
          exact ⟨_, rfl, Int.natCast_nonneg n, by simp only [hcnt]; omega⟩
        · intro h; simp at h
      · obtain ⟨hne, hr⟩ := s6 hn
        subst hr
        simp only
        have adv := advance_fwd hs (it := { cid := ch.id, idx := idx, ci := some ⟨ch.id, n, cached'⟩ }) rfl rfl
          rfl hm rfl (by simp only [Int.toNat_natCast]; omega)
        have efi : fIdx j { cid := ch.id, idx := idx, ci := some ⟨ch.id, n, cached'⟩ } =
            fIdx j { cid := ch.id, idx := idx, ci := some c } := by
          rw [hfi]; simp only [fIdx, effPos, Int.toNat_natCast]
        rw [efi] at adv
        generalize advance j { cid := ch.id, idx := idx, ci := some ⟨ch.id, n, cached'⟩ } = a at adv ⊢
        obtain ⟨it2, eof⟩ := a
        apply getOut_of_open adv
        intro ab e2 e3 e5
        simp only at e5
        have hc : j.countP (fun x => decide (it2.cid ≤ x.id)) < j.countP (fun x => decide (ch.id ≤ x.id)) := by
          apply countP_lt_of (a := ch)
          · intro x _ hx; simp only [decide_eq_true_eq] at hx ⊢; omega
          · exact hm
          · simp only [decide_eq_false_iff_not]; omega
          · simp only [decide_eq_true_eq]; omega
        exact ih it2 e3 e2 ab (by omega)

theorem get_out {j : Journal} (hs : Sorted j) {it : It} (hwf : WF j it) (hb : it.bkwd = false) :
    GetOut j (fIdx j it) (Synced it) (get j it) := by
  have hfuel : ∀ it' : It, j.countP (fun c => decide (it'.cid ≤ c.id)) < j.length + 2 := by
    intro it'
    have := List.countP_le_length (p := fun c : Chunk => decide (it'.cid ≤ c.id)) (l := j)
    omega
  unfold get
  cases hci : it.ci with
  | some c =>
    have e : ensure j it = (it, false) := by unfold ensure; rw [hci]
    rw [e]
    simp only [Bool.false_eq_true, ↓reduceIte]
    exact getLoop_fwd hs _ it hwf (by rw [hci]; rfl) hb (hfuel it)
  | none =>
    have en := ensure_fwd hs hci hb
    generalize ensure j it = a at en ⊢
    obtain ⟨it2, eof⟩ := a
    exact getOut_of_open en fun ab e2 e3 _ => getLoop_fwd hs _ it2 e3 e2 ab (hfuel it2)

/-- (A1) forward `Get` against the flat-index abstraction -/
theorem getFwd : GetFwdSpec := by
  intro j it hs hwf hb
  exact get_out hs hwf hb

theorem next_out {j : Journal} (hs : Sorted j) {it : It} (hwf : WF j it) (hb : it.bkwd = false) :
    WF j (next j it) ∧ (next j it).bkwd = false ∧ Synced (next j it) ∧
    fIdx j (next j it) = min (fIdx j it + 1) (flat j).length := by
  have g := get_out hs hwf hb
  have hle : fIdx j it ≤ (flat j).length := flatIdx_le j (effPos it)
  unfold next
  generalize fIdx j it = i at g hle ⊢
  generalize get j it = res at g ⊢
  obtain ⟨it', r⟩ := res
  obtain ⟨g1, g2, g3, g4, _, g6, g7⟩ := g
  simp only at g1 g2 g3 g4 g6 g7 ⊢
  obtain ⟨cid, idx, ci, bkwd⟩ := it'
  simp only at g3; subst g3
  cases ci with
  | none =>
    simp only
    refine ⟨g2, trivial, by simp [Synced], ?_⟩
    cases r with
    | some l => 
      obtain ⟨c, hc, _⟩ := g6 rfl
      simp at hc
    | none =>
      have := List.getElem?_eq_none_iff.mp g1.symm
      omega
  | some c =>
    simp only
    cases r with
    | none => have := (g7 rfl).1; simp at this
    | some l =>
      obtain ⟨c0, hc, p0, p1⟩ := g6 rfl
      simp only [Option.some.injEq] at hc; subst hc
      simp only [WF] at g2
      obtain ⟨hch, ⟨ch, hm, hid⟩, _, _, _⟩ := g2
      have hcnt : cntOf j c.chunk = ch.cnt := by rw [← hid]; exact cntOf_mem hs hm
      rw [hcnt] at p1
      rw [ciNext_spec hs false hm hid p0 p1]
      have hn : ¬ (c.pos + 1 < 0) := by omega
      simp only [cond_false, hn, ↓reduceIte]
      have hlt := (List.getElem?_eq_some_iff.mp g1.symm).1
      refine ⟨?_, trivial, ?_, ?_⟩
      · simp only [WF, hcnt]
        exact ⟨hch, ⟨ch, hm, hid⟩, by omega, by omega, by simp⟩
      · simp only [Synced]; exact ⟨by omega, trivial⟩
      · simp only [fIdx, effPos] at g4 ⊢
        rw [toNat_add_one p0, ← hid, flatIdx_succ_in hs hm ((Int.toNat_lt p0).mpr p1), hid, g4]
        exact (Nat.min_eq_left hlt).symm

/-- (A2) -/
theorem nextFwd : NextFwdSpec := by
  intro j it hs hwf hb
  exact next_out hs hwf hb

/-- (A3) -/
theorem release_keeps {j : Journal} (it : It) :
    effPos (release it) = effPos it ∧ (release it).pos = it.pos ∧ (release it).bkwd = it.bkwd ∧
    (WF j it → WF j (release it)) ∧ (Synced it → Synced (release it)) := by
  obtain ⟨cid, idx, ci, bkwd⟩ := it
  cases ci with
  | none => simp [release]
  | some c =>
    simp only [release, effPos, It.pos, WF, Synced]
    refine ⟨trivial, trivial, trivial, ?_, fun h => h⟩
    intro ⟨h1, h2, h3, h4, _⟩
    exact ⟨h1, h2, h3, h4, by simp⟩

theorem setPos_fresh (j : Journal) (p : Pos) :
    (setPos j {} p).ci = none ∧ (setPos j {} p).pos = p ∧ (setPos j {} p).bkwd = false := by
  obtain ⟨pc, pi⟩ := p
  unfold setPos
  by_cases h : pc = 0 ∧ pi = 0
  · obtain ⟨rfl, rfl⟩ := h
    simp [It.pos]
  · simp only [h, ↓reduceIte]
    by_cases h2 : pc = 0
    · simp [It.pos, h2]
    · simp [It.pos, h2]

theorem effPos_eq_pos {j : Journal} {it : It} (hwf : WF j it) (hsy : Synced it) : effPos it = it.pos := by
  obtain ⟨cid, idx, ci, bkwd⟩ := it
  cases ci with
  | none => rfl
  | some c =>
    simp only [WF] at hwf
    simp only [Synced] at hsy
    simp only [effPos, It.pos, hwf.1, hsy.2]

theorem fIdx_eq_zero_of_lt {j : Journal} {it : It} (hci : it.ci = none) (hlt : ∀ c ∈ j, it.cid < c.id) :
    fIdx j it = 0 := by
  unfold fIdx effPos; rw [hci]; exact flatIdx_eq_zero_of_lt hlt

/-- (A4) -/
theorem drain_eq (j : Journal) (it : It) (n : Nat) (hs : Sorted j) (hwf : WF j it) (hb : it.bkwd = false) :
    drain j n it = (recordsFrom j (effPos it)).take n := by
  induction n generalizing it with
  | zero => simp [drain]
  | succ n ih =>
    obtain ⟨g1, g2, g3, g4, _⟩ := get_out hs hwf hb
    rw [drain]
    show _ = ((flat j).drop (fIdx j it)).take (n + 1)
    generalize fIdx j it = i at g1 g4 ⊢
    generalize get j it = res at g1 g2 g3 g4 ⊢
    obtain ⟨it', r⟩ := res
    simp only at g1 g2 g3 g4
    cases r with
    | none =>
      simp only
      rw [List.drop_eq_nil_of_le (List.getElem?_eq_none_iff.mp g1.symm)]; rfl
    | some l =>
      simp only
      obtain ⟨hlt, e⟩ := List.getElem?_eq_some_iff.mp g1.symm
      obtain ⟨n1, n2, _, n4⟩ := next_out hs g2 g3
      rw [ih (next j it') n1 n2, List.drop_eq_getElem_cons hlt, e, List.take_succ_cons]
      show _ :: ((flat j).drop (fIdx j (next j it'))).take n = _
      rw [n4, g4, Nat.min_eq_left hlt]

theorem iter_enumerates (j : Journal) (it : It) (n : Nat) (hs : Sorted j) (hwf : WF j it)
    (hb : it.bkwd = false) (hn : (flat j).length ≤ n) : drain j n it = recordsFrom j (effPos it) := by
  rw [drain_eq j it n hs hwf hb]
  apply List.take_of_length_le
  simp only [recordsFrom, List.length_drop]
  omega

theorem min_add_min (a k L : Nat) : min (min a L + k) L = min (a + k) L := by omega

theorem pos_after (j : Journal) (it : It) (k : Nat) (hs : Sorted j) (hwf : WF j it) (hb : it.bkwd = false) :
    fIdx j (stepK j k it) = min (fIdx j it + k) (flat j).length ∧ WF j (stepK j k it) ∧
    (stepK j k it).bkwd = false := by
  induction k generalizing it with
  | zero =>
    have hle : fIdx j it ≤ (flat j).length := flatIdx_le j (effPos it)
    simp only [stepK]
    exact ⟨by omega, hwf, hb⟩
  | succ k ih =>
    have g := get_out hs hwf hb
    obtain ⟨_, g2, g3, g4, _, _, _⟩ := g
    obtain ⟨n1, n2, _, n4⟩ := next_out hs g2 g3
    rw [stepK]
    obtain ⟨i1, i2, i3⟩ := ih (next j (get j it).1) n1 n2
    refine ⟨?_, i2, i3⟩
    rw [i1, n4, g4, min_add_min]
    omega

theorem grows_ids {j j' : Journal} (h : Grows j j') : ∀ x ∈ j, ∃ x' ∈ j', x'.id = x.id := by
  induction h with
  | nil j' => intro x hx; simp at hx
  | cons c c' r r' hid _ _ _ ih =>
    intro x hx
    rcases List.mem_cons.mp hx with rfl | hx'
    · exact ⟨c', by simp, hid.symm⟩
    · obtain ⟨x', hx1, hx2⟩ := ih x hx'
      exact ⟨x', by simp [hx1], hx2⟩

theorem grows_cntOf {j j' : Journal} (h : Grows j j') (id : Nat) : cntOf j id ≤ cntOf j' id := by
  induction h with
  | nil j' => simp [cntOf, findChunk]
  | cons c c' r r' hid hpre _ _ ih =>
    simp only [cntOf, findChunk, List.find?_cons] at ih ⊢
    rw [← hid]
    by_cases e : c.id = id
    · simp only [e, beq_self_eq_true]
      exact hpre.length_le
    · have : (c.id == id) = false := by simpa using e
      simp only [this]
      exact ih

theorem grows_flat {j j' : Journal} (h : Grows j j') : flat j <+: flat j' := by
  induction h with
  | nil j' => simp [flat]
  | cons c c' r r' hid hpre hfull _ ih =>
    rw [flat_cons, flat_cons]
    by_cases hr : r = []
    · subst hr
      simp only [flat, List.flatMap_nil, List.append_nil]
      exact hpre.trans (List.prefix_append _ _)
    · rw [hfull hr]
      exact (List.prefix_append_right_inj _).mpr ih

theorem grows_settled {j j' : Journal} (h : Grows j j') (hs : Sorted j') (p : Pos) (hp : Settled j p) :
    flatIdx j' p = flatIdx j p ∧ Settled j' p := by
  induction h with
  | nil j' => obtain ⟨c, hc, _⟩ := hp; simp at hc
  | cons c c' r r' hid hpre hfull hg ih =>
    obtain ⟨ch, hm, hcid, hidx⟩ := hp
    have hl := hs.head_lt
    have hids := grows_ids hg
    rw [flatIdx_cons, flatIdx_cons]
    rcases List.mem_cons.mp hm with rfl | hm'
    · -- `p` lies in the head chunk: everything behind it has a greater id, before and after the appends
      have hle : ch.cnt ≤ c'.cnt := hpre.length_le
      have hcid' : c'.id = p.cid := hid ▸ hcid
      have z' : flatIdx r' p = 0 := flatIdx_eq_zero_of_lt fun x hx => hcid' ▸ hl x hx
      have z : flatIdx r p = 0 := flatIdx_eq_zero_of_lt fun x hx => by
        obtain ⟨x', hx1, hx2⟩ := hids x hx
        rw [← hx2]; exact hcid' ▸ hl x' hx1
      rw [z, z', fiTerm_of_eq hcid, fiTerm_of_eq hcid']
      exact ⟨by omega, c', List.mem_cons_self .., hcid', by omega⟩
    · obtain ⟨i1, c2, i2, i3, i4⟩ := ih hs.tail ⟨ch, hm', hcid, hidx⟩
      have hcc : c.recs = c'.recs := hfull (List.ne_nil_of_mem hm')
      obtain ⟨x', hx1, hx2⟩ := hids ch hm'
      have hlt : c'.id < p.cid := by rw [← hcid, ← hx2]; exact hl x' hx1
      rw [i1, fiTerm_of_lt hlt, fiTerm_of_lt (hid ▸ hlt), Chunk.cnt, Chunk.cnt, hcc]
      exact ⟨rfl, c2, List.mem_cons_of_mem _ i2, i3, i4⟩

theorem grows_wf {j j' : Journal} (h : Grows j j') (it : It) (hwf : WF j it) : WF j' it := by
  obtain ⟨cid, idx, ci, bkwd⟩ := it
  cases ci with
  | none => trivial
  | some c =>
    simp only [WF] at hwf ⊢
    obtain ⟨h1, ⟨ch, hm, hid⟩, h3, h4, h5⟩ := hwf
    have hc := grows_cntOf h c.chunk
    obtain ⟨x', hx1, hx2⟩ := grows_ids h ch hm
    refine ⟨h1, ⟨x', hx1, hx2.trans hid⟩, h3, by omega, ?_⟩
    intro hca
    have := h5 hca
    omega

/-- (A5) -/
theorem grows : GrowsSpec := by
  intro j j' hg hs
  exact ⟨grows_flat hg, fun p hp => grows_settled hg hs p hp, fun it hwf => grows_wf hg it hwf⟩

end Logrange.Rd

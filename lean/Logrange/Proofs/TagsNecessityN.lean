import Logrange.Proofs.TagsNecessity
/-!
# Necessity of `safeW` for sets of any size whose raw values are inert

`safeW_necessary_inert`: if every value printed raw is inert (`rawInert`) and the line of a well-formed set reads back as the
same set, the set is in `safeW`. Together with `Tags.roundtrip_safeW`: on `rawInert` sets, `safeW` is EXACTLY the class of
sets that survive emit + re-read (`safeW_iff_inert`). No hypothesis on the first name: a first name starting with `{` is
refuted here (the brace-stripped text yields a strictly shorter first name, which is no name of the set).

Route: `RemoveCurlyBraces` returns the line minus a prefix of blanks/`{` and a suffix of blanks/`}` (`rcb_decomp`); both are
neutral for `SplitString`'s automaton, so the stripped text is again a join of inert pieces — the same pieces except for the
first name and the last printed value (`setLastVal`); `split_items` / `toPairs` give the pairs, the names force the prefix to
be empty, `ofPairs_of_WF` makes the pairs list equal to the set, and every raw value is then read back by
`decodeValue (trimSpaces ·)`, which only works when it is trimmed and starts with no quote (`raw_decode`).
-/
namespace Logrange.Proofs.TagsNecessityN
open Go Logrange.Quote Logrange.KV Logrange.Tags Logrange.Proofs.KV Logrange.Proofs.Tags Logrange.Proofs.ParsedKeys
  Logrange.Proofs.UnquoteFix Logrange.Proofs.TagsNecessity

/-- every value that is printed raw (does not trigger quoting) is inert: SplitString's automaton, started outside a string,
meets no top-level separator in it and ends outside a string (balanced double quotes, no dangling backslash inside them) -/
def rawInert (m : Map) : Bool := m.all (fun p => needsQuote p.2 || inert p.2)

/-! ### RemoveCurlyBraces: what is stripped -/

theorem trailScan_decomp (r : Bytes) (n : Int) (rem : Bytes) (hn : 0 ≤ n) (h : trailScan r n = (rem, 0)) :
    ∃ junk, r = junk ++ rem ∧ (∀ x ∈ junk, x = SP ∨ x = RB) ∧ rem.head? ≠ some RB := by
  fun_induction trailScan r n with
  | case1 n => cases h; exact ⟨[], rfl, nofun, nofun⟩
  | case2 c r n h0 h1 ih =>
    obtain ⟨junk, hj, hall, hhd⟩ := ih hn h
    exact ⟨c :: junk, by rw [hj]; rfl, fun x hx => (List.mem_cons.mp hx).elim (fun e => Or.inl (e ▸ beq_iff_eq.mp h1)) (hall x), hhd⟩
  | case3 c r n h0 h1 h2 ih =>
    by_cases hn1 : 0 ≤ n - 1
    · obtain ⟨junk, hj, hall, hhd⟩ := ih hn1 h
      exact ⟨c :: junk, by rw [hj]; rfl, fun x hx => (List.mem_cons.mp hx).elim (fun e => Or.inr (e ▸ beq_iff_eq.mp h2)) (hall x), hhd⟩
    · rw [trailScan_neg r (n - 1) (by omega)] at h
      have := (Prod.mk.inj h).2
      omega
  | case4 c r n h0 h1 h2 => cases h; exact ⟨[], rfl, nofun, by simpa using h2⟩
  | case5 c r n h0 => exact absurd hn h0
/-- `RemoveCurlyBraces` strips a prefix of blanks and `{` and a suffix of blanks and `}`; what is left starts with no `{`
and ends with no `}` -/
theorem rcb_decomp (t fine : Bytes) (h : removeCurlyBraces t = some fine) (hne : fine ≠ []) :
    ∃ pre suf, t = pre ++ fine ++ suf ∧ (∀ x ∈ pre, x = SP ∨ x = LB) ∧ (∀ x ∈ suf, x = SP ∨ x = RB) ∧
      fine.head? ≠ some LB ∧ fine.getLast? ≠ some RB := by
  unfold removeCurlyBraces at h
  cases hl : leadScan t 0 with
  | mk r c =>
    rw [hl] at h
    obtain ⟨pre, hpre, hpa, _, hLB⟩ := leadScan_decomp t 0 r c hl
    cases r with
    | nil =>
      simp only [] at h
      split at h
      · cases h
      · cases h; exact absurd rfl hne
    | cons x tl =>
      simp only [] at h
      cases ht : trailScan tl.reverse (c : Int) with
      | mk rem cnt =>
        rw [ht] at h
        simp only [] at h
        split at h
        · cases h
        · rename_i hc
          cases h
          simp only [Bool.or_eq_true, bne_iff_ne, ne_eq, not_or, Decidable.not_not] at hc
          obtain ⟨hrne, hcnt⟩ := hc
          subst hcnt
          obtain ⟨junk, hj, hja, hhd⟩ := trailScan_decomp _ _ _ (by omega) ht
          have htl : tl = rem.reverse ++ junk.reverse := by
            have := congrArg List.reverse hj
            simpa using this
          refine ⟨pre, junk.reverse, ?_, hpa, ?_, ?_, ?_⟩
          · rw [hpre, htl]; simp
          · intro y hy; exact hja y (by simpa using hy)
          · exact hLB
          · cases rem with
            | nil => simp at hrne
            | cons a rr =>
              have e : x :: (a :: rr).reverse = (x :: rr.reverse) ++ [a] := by simp
              rw [e, List.getLast?_concat]
              simpa using hhd

/-! ### bytes the automaton ignores -/

theorem scan_neutral : ∀ (l : Bytes), (∀ x ∈ l, x = SP ∨ x = LB ∨ x = RB) → ∀ b : Bool, scan l b = some b
  | [], _, _ => rfl
  | a :: l, h, b => by
    have ih := scan_neutral l (fun x hx => h x (List.mem_cons_of_mem _ hx)) b
    rcases h a List.mem_cons_self with e | e | e <;> subst e <;>
      (rw [scan_other _ _ _ (by decide) (by cases b <;> decide) (by cases b <;> decide)]; exact ih)

theorem scan_neutral_prefix (pre r : Bytes) (b : Bool) (h : ∀ x ∈ pre, x = SP ∨ x = LB) :
    scan (pre ++ r) b = scan r b :=
  scan_append pre r b b (scan_neutral pre (fun x hx => (h x hx).imp id Or.inl) b)

/-- blanks and `}` cut off the end of an inert text leave an inert text (a backslash that escaped the first of them would
have left the automaton inside a string) -/
theorem scan_strip_suffix (suf : Bytes) (hs : ∀ x ∈ suf, x = SP ∨ x = RB) (p : Bytes) (b : Bool)
    (h : scan (p ++ suf) b = some false) : scan p b = some false := by
  have hn : ∀ l : Bytes, (∀ x ∈ l, x ∈ suf) → ∀ b, scan l b = some b :=
    fun l hl => scan_neutral l (fun x hx => (hs x (hl x hx)).imp id Or.inr)
  fun_induction scan p b with
  | case1 b => rw [List.nil_append, hn suf (fun _ hx => hx)] at h; exact h
  | case2 c p b hq ih => rw [List.cons_append, scan_quote _ _ _ hq] at h; exact ih h
  | case3 c b hq hb =>
    have hbt : b = true := by simp at hb; exact hb.2
    subst hbt
    cases suf with
    | nil => rw [List.append_nil, scan.eq_def] at h; simp [hq, hb] at h
    | cons d suf' =>
      rw [List.cons_append, List.nil_append, scan_esc _ _ _ _ hq hb, hn suf' (fun _ hx => List.mem_cons_of_mem _ hx)] at h
      cases h
  | case4 c b hq hb d p ih => rw [List.cons_append, List.cons_append, scan_esc _ _ _ _ hq hb] at h; exact ih h
  | case5 c p b hq hb hs' => rw [List.cons_append, scan.eq_def] at h; simp [hq, hb, hs'] at h
  | case6 c p b hq hb hs' ih => rw [List.cons_append, scan_other _ _ _ hq hb hs'] at h; exact ih h

/-! ### cutting a prefix off the first name, a suffix off the last value -/

theorem prefix_split : ∀ (pre X k Y : Bytes), (∀ x ∈ pre, x ≠ EQ) → pre ++ X = k ++ EQ :: Y →
    ∃ k', k = pre ++ k' ∧ X = k' ++ EQ :: Y := by
  intro pre
  induction pre with
  | nil => intro X k Y _ h; exact ⟨k, rfl, by simpa using h⟩
  | cons a pre ih =>
    intro X k Y hp h
    cases k with
    | nil =>
      simp only [List.cons_append, List.nil_append, List.cons.injEq] at h
      exact absurd h.1 (hp a List.mem_cons_self)
    | cons b k2 =>
      simp only [List.cons_append, List.cons.injEq] at h
      obtain ⟨hab, h⟩ := h
      obtain ⟨k', hk, hX⟩ := ih X k2 Y (fun x hx => hp x (List.mem_cons_of_mem _ hx)) h
      exact ⟨k', by rw [hab, hk]; rfl, hX⟩

theorem suffix_split (suf X Z en : Bytes) (hs : ∀ x ∈ suf, x ≠ EQ) (h : X ++ suf = Z ++ EQ :: en) :
    ∃ en', en = en' ++ suf ∧ X = Z ++ EQ :: en' := by
  have hr : suf.reverse ++ X.reverse = en.reverse ++ EQ :: Z.reverse := by
    have := congrArg List.reverse h
    simpa using this
  obtain ⟨k', hk, hX⟩ := prefix_split suf.reverse X.reverse en.reverse Z.reverse
    (fun x hx => hs x (by simpa using hx)) hr
  refine ⟨k'.reverse, ?_, ?_⟩
  · have := congrArg List.reverse hk
    simpa using this
  · have := congrArg List.reverse hX
    simpa using this

/-! ### the printed pairs, with the last printed value replaced -/

/-- a pair as printed: the name and the encoded value -/
def encP (p : Bytes × Bytes) : Bytes × Bytes := (p.1, encTag p.2)

/-- what `ToMap`'s loop makes of a (name piece, value piece) -/
def decP (e : Bytes × Bytes) : Option (Bytes × Bytes) :=
  (decodeValue (trimSpaces e.2)).map (fun v => (trimSpaces e.1, v))

def setLastVal (e : Bytes) : List (Bytes × Bytes) → List (Bytes × Bytes)
  | [] => []
  | [p] => [(p.1, e)]
  | p :: q :: r => p :: setLastVal e (q :: r)

theorem setLastVal_cons2 (e : Bytes) (p q : Bytes × Bytes) (r : List (Bytes × Bytes)) :
    setLastVal e (p :: q :: r) = p :: setLastVal e (q :: r) := rfl

theorem setLastVal_keys (e : Bytes) : ∀ E : List (Bytes × Bytes), (setLastVal e E).map (·.1) = E.map (·.1)
  | [] => rfl
  | [_] => rfl
  | p :: q :: r => by
    rw [setLastVal_cons2, List.map_cons, setLastVal_keys e (q :: r)]
    rfl

theorem setLastVal_ne (e : Bytes) (E : List (Bytes × Bytes)) (h : E ≠ []) : setLastVal e E ≠ [] := by
  cases E with
  | nil => exact absurd rfl h
  | cons p R => cases R <;> simp [setLastVal]

theorem mem_setLastVal (e : Bytes) : ∀ (E : List (Bytes × Bytes)) (x : Bytes × Bytes), x ∈ setLastVal e E →
    ∃ y ∈ E, x.1 = y.1 ∧ (x.2 = y.2 ∨ x.2 = e)
  | [], x, h => by cases h
  | [p], x, h => by
    simp only [setLastVal, List.mem_singleton] at h
    exact ⟨p, List.mem_cons_self, by rw [h], Or.inr (by rw [h])⟩
  | p :: q :: r, x, h => by
    rw [setLastVal_cons2] at h
    rcases List.mem_cons.mp h with h | h
    · exact ⟨p, List.mem_cons_self, by rw [h], Or.inl (by rw [h])⟩
    · obtain ⟨y, hy, h1, h2⟩ := mem_setLastVal e (q :: r) x h
      exact ⟨y, List.mem_cons_of_mem _ hy, h1, h2⟩

theorem head_shape (e : Bytes) (R : List (Bytes × Bytes)) :
    ∃ Y, ∀ k : Bytes, joinItems (((k, e) :: R).map (item id)) = k ++ EQ :: Y := by
  cases R with
  | nil => exact ⟨e, fun k => by simp [joinItems, item]⟩
  | cons q R' => exact ⟨e ++ CM :: joinItems ((q :: R').map (item id)), fun k => by simp [joinItems, item]⟩

theorem joinItems_cons_ne (x : Bytes) (L : List Bytes) (h : L ≠ []) :
    joinItems (x :: L) = x ++ CM :: joinItems L := by
  cases L with
  | nil => exact absurd rfl h
  | cons y r => rfl

theorem last_shape : ∀ (E : List (Bytes × Bytes)), E ≠ [] →
    ∃ Z q, E.getLast? = some q ∧ joinItems (E.map (item id)) = Z ++ EQ :: q.2 ∧
      ∀ e, joinItems ((setLastVal e E).map (item id)) = Z ++ EQ :: e := by
  intro E
  induction E with
  | nil => intro h; exact absurd rfl h
  | cons p R ih =>
    intro _
    cases R with
    | nil => exact ⟨p.1, p, rfl, by simp [joinItems, item], fun e => by simp [setLastVal, joinItems, item]⟩
    | cons q R' =>
      obtain ⟨Z, l, hl, hZ, hZe⟩ := ih (by simp)
      refine ⟨item id p ++ CM :: Z, l, ?_, ?_, ?_⟩
      · rw [List.getLast?_cons_cons]; exact hl
      · rw [List.map_cons, joinItems_cons_ne _ _ (by simp), hZ]; simp
      · intro e
        have hne : (setLastVal e (q :: R')).map (item id) ≠ [] := by
          intro h0
          exact setLastVal_ne e (q :: R') (by simp) (List.map_eq_nil_iff.mp h0)
        rw [setLastVal_cons2, List.map_cons, joinItems_cons_ne _ _ hne, hZe e]; simp

theorem toPairs_inv : ∀ (E ps : List (Bytes × Bytes)),
    toPairs (E.flatMap (fun p => [p.1, p.2])) = some ps → E.map decP = ps.map some
  | [], ps, h => by simp [toPairs] at h; subst h; rfl
  | p :: R, ps, h => by
    obtain ⟨v, r', _, hd, hr, rfl⟩ := toPairs_cons_some p.1 p.2 _ ps h
    simp [decP, hd, toPairs_inv R r' hr]

theorem keys_of_dec : ∀ (E ps : List (Bytes × Bytes)), E.map decP = ps.map some →
    ps.map (·.1) = E.map (fun e => trimSpaces e.1) := by
  intro E
  induction E with
  | nil =>
    intro ps h
    cases ps with
    | nil => rfl
    | cons _ _ => simp at h
  | cons p R ih =>
    intro ps h
    cases ps with
    | nil => simp at h
    | cons a ps' =>
      simp only [List.map_cons, List.cons.injEq] at h
      obtain ⟨h1, h2⟩ := h
      simp only [List.map_cons, List.cons.injEq]
      refine ⟨?_, ih ps' h2⟩
      unfold decP at h1
      cases hd : decodeValue (trimSpaces p.2) with
      | none => rw [hd] at h1; cases h1
      | some v =>
        rw [hd] at h1
        simp only [Option.map_some, Option.some.injEq] at h1
        rw [← h1]

/-- the pairs read from the printed pairs (last printed value replaced by `e'`) are the set itself: every value but the
last is read back from its own encoding, the last from `e'` -/
theorem extract (e' : Bytes) : ∀ m : Map, m ≠ [] → (setLastVal e' (m.map encP)).map decP = m.map some →
    (∃ q, m.getLast? = some q ∧ decodeValue (trimSpaces e') = some q.2) ∧
      ∀ p ∈ m, decodeValue (trimSpaces (encTag p.2)) = some p.2 ∨ m.getLast? = some p := by
  intro m
  induction m with
  | nil => intro h; exact absurd rfl h
  | cons p R ih =>
    intro _ h
    cases R with
    | nil =>
      simp only [List.map_cons, List.map_nil, setLastVal, encP, decP, List.cons.injEq, and_true] at h
      cases hd : decodeValue (trimSpaces e') with
      | none => rw [hd] at h; cases h
      | some v =>
        rw [hd] at h
        simp only [Option.map_some, Option.some.injEq] at h
        refine ⟨⟨p, rfl, by rw [← h]⟩, ?_⟩
        intro x hx
        right
        rw [List.mem_singleton.mp hx]; rfl
    | cons q R' =>
      rw [List.map_cons, List.map_cons, setLastVal_cons2, List.map_cons, List.map_cons (f := some)] at h
      simp only [List.cons.injEq] at h
      obtain ⟨h1, h2⟩ := h
      rw [← List.map_cons (f := encP)] at h2
      obtain ⟨⟨l, hl, hdl⟩, hall⟩ := ih (by simp) h2
      refine ⟨⟨l, by rw [List.getLast?_cons_cons]; exact hl, hdl⟩, ?_⟩
      intro x hx
      rcases List.mem_cons.mp hx with hx | hx
      · left
        subst hx
        unfold decP encP at h1
        cases hd : decodeValue (trimSpaces (encTag x.2)) with
        | none => rw [hd] at h1; cases h1
        | some v =>
          rw [hd] at h1
          simp only [Option.map_some, Option.some.injEq] at h1
          rw [← h1]
      · rcases hall x hx with ha | ha
        · exact Or.inl ha
        · right; rw [List.getLast?_cons_cons]; exact ha

/-- a value read back by `decodeValue` from a text no richer in backslashes/quotes and no longer was not unquoted -/
theorem raw_decode (w v : Bytes) (hs : special w ≤ special v) (hl : w.length ≤ v.length)
    (hd : decodeValue w = some v) : w = v ∧ v.head? ≠ some DQ ∧ v.head? ≠ some BQ := by
  cases w with
  | nil =>
    simp only [decodeValue, Option.some.injEq] at hd
    subst hd
    simp
  | cons c r =>
    unfold decodeValue at hd
    simp only [] at hd
    split at hd
    · rename_i hq
      exfalso
      refine unquote_shrunk_ne (c :: r) v hs hl ?_ hd
      simp only [Bool.or_eq_true, beq_iff_eq] at hq
      rcases hq with hq | hq
      · exact Or.inl (by simp [hq])
      · exact Or.inr (by simp [hq])
    · rename_i hq
      simp only [Option.some.injEq] at hd
      simp only [Bool.or_eq_true, beq_iff_eq, not_or] at hq
      refine ⟨hd, ?_, ?_⟩
      · rw [← hd]; simpa using hq.1
      · rw [← hd]; simpa using hq.2

/-- a raw value that `ToMap` reads back from its own text is non-empty, trimmed and starts with no quote -/
theorem okRaw_of_decode (v : Bytes) (hn : needsQuote v = false) (hin : scan v false = some false)
    (hd : decodeValue (trimSpaces v) = some v) : okRaw v = true := by
  obtain ⟨hvne, _⟩ := needsQuote_false v hn
  obtain ⟨hw1, hw2, hw3⟩ := raw_decode _ _ (special_trimSpaces_le v) (length_trimSpaces_le v) hd
  have htr : trimmed v = true := by
    have := trimmed_trimSpaces v
    rw [hw1] at this; exact this
  have h0 : v.isEmpty = false := by
    cases v with
    | nil => exact absurd rfl hvne
    | cons _ _ => rfl
  unfold okRaw
  simp only [Bool.and_eq_true, bne_iff_ne, ne_eq, Bool.not_eq_true']
  exact ⟨⟨⟨⟨h0, htr⟩, by simp [inert, hin]⟩, hw2⟩, hw3⟩

theorem map_encP_item (m : List (Bytes × Bytes)) : (m.map encP).map (item id) = m.map (item encTag) := by
  rw [List.map_map]
  rfl

theorem rawInert_enc (A : Map) (hA : rawInert A = true) : ∀ x ∈ A, scan (encTag x.2) false = some false := by
  intro x hx
  unfold encTag
  by_cases hn : needsQuote x.2 = true
  · rw [if_pos hn]
    have := inert_quote Logrange.Proofs.Quote.quoteContract x.2
    simpa [inert] using this
  · rw [if_neg hn]
    have := List.all_eq_true.mp hA x hx
    simpa [hn, inert] using this

/-- the steps of `tag.Parse` on the line of a non-empty set that reads back: `RemoveCurlyBraces` cuts `pre` off the first
name and `suf` off the last printed value; what is left (`fine`: no `{` in front, no `}` behind) is split, paired and folded
into the set -/
theorem parse_shape (k1 v1 : Bytes) (r : Map) (hwf : Map.WF ((k1, v1) :: r))
    (h : parse (line ((k1, v1) :: r)) = some ((k1, v1) :: r)) :
    ∃ pre suf k1' en' q parts ps fine, fine = joinItems ((setLastVal en' ((k1', encTag v1) :: r.map encP)).map (item id)) ∧
      k1 = pre ++ k1' ∧ (∀ x ∈ pre, x = SP ∨ x = LB) ∧ (∀ x ∈ suf, x = SP ∨ x = RB) ∧
      ((k1', encTag v1) :: r.map encP).getLast? = some q ∧ q.2 = en' ++ suf ∧
      splitString fine = some parts ∧ toPairs parts = some ps ∧ Map.ofPairs ps = (k1, v1) :: r ∧
      removeCurlyBraces (line ((k1, v1) :: r)) = some fine ∧ fine.head? ≠ some LB ∧ fine.getLast? ≠ some RB ∧
      (∃ Y, fine ++ suf = k1' ++ EQ :: Y) ∧ ∃ Z, fine = Z ++ EQ :: en' := by
  rw [line_of_WF _ hwf] at h ⊢
  generalize hL : joinItems (((k1, v1) :: r).map (item encTag)) = L at h
  unfold parse at h
  split at h
  · cases h
  obtain ⟨fine, hr, ⟨_, hm⟩ | ⟨hfne, parts, ps, hs, hp, h⟩⟩ := toMap_some L _ h
  · cases hm
  obtain ⟨pre, suf, hdec, hpre, hsuf, hhd, hlast⟩ := rcb_decomp _ _ hr hfne
  obtain ⟨Y, hY⟩ := head_shape (encTag v1) (r.map encP)
  have hL1 : L = k1 ++ EQ :: Y := by
    rw [← hL, ← map_encP_item]; exact hY k1
  have hpreEQ : ∀ x ∈ pre, x ≠ EQ := by
    intro x hx e
    rcases hpre x hx with h' | h' <;> (rw [h'] at e; exact absurd e (by decide))
  have hsufEQ : ∀ x ∈ suf, x ≠ EQ := by
    intro x hx e
    rcases hsuf x hx with h' | h' <;> (rw [h'] at e; exact absurd e (by decide))
  obtain ⟨k1', hk1, hX⟩ := prefix_split pre (fine ++ suf) k1 Y hpreEQ (by rw [← hL1, hdec]; simp)
  obtain ⟨Z, q, hq, hZ, hZe⟩ := last_shape ((k1', encTag v1) :: r.map encP) (by simp)
  have hfs : fine ++ suf = Z ++ EQ :: q.2 := by rw [hX, ← hY k1', hZ]
  obtain ⟨en', hen, hfine⟩ := suffix_split suf fine Z q.2 hsufEQ hfs
  exact ⟨pre, suf, k1', en', q, parts, ps, fine, by rw [hZe en']; exact hfine, hk1, hpre, hsuf, hq, hen, hs, hp, h,
    hr, hhd, hlast, ⟨Y, hX⟩, Z, hfine⟩

/-- **Necessity of `safeW` on sets whose raw values are inert**: if the line of a well-formed set reads back as the same
set, the set is in `safeW` -/
theorem safeW_necessary_inert (m : Map) (hwf : Map.WF m) (hi : rawInert m = true)
    (h : parse (line m) = some m) : safeW m = true := by
  cases m with
  | nil => rfl
  | cons p r =>
    obtain ⟨k1, v1⟩ := p
    have hkey : ∀ x ∈ (k1, v1) :: r, x.1 ≠ [] ∧ trimmed x.1 = true ∧ scan x.1 false = some false := by
      intro x hx
      obtain ⟨a, b, c⟩ := parsed_names_readable _ _ h x hx
      exact ⟨a, b, by simpa [inert] using c⟩
    have henc := rawInert_enc _ hi
    obtain ⟨pre, suf, k1', en', q, parts, ps, fine, hfineJ, hk1, hpre, hsuf, hq, hen, hs, hp, hof, _, hhd, hlastRB,
      ⟨Y, hX⟩, Z, hfine⟩ := parse_shape k1 v1 r hwf h
    have hfne : fine ≠ [] := by rw [hfine]; simp
    have hk1' : scan k1' false = some false := by
      have := (hkey (k1, v1) List.mem_cons_self).2.2
      simp only [] at this
      rw [hk1, scan_neutral_prefix pre k1' false hpre] at this
      exact this
    have hE1 : ∀ y ∈ (k1', encTag v1) :: r.map encP, scan y.1 false = some false ∧ scan y.2 false = some false := by
      intro y hy
      rcases List.mem_cons.mp hy with hy | hy
      · rw [hy]; exact ⟨hk1', henc (k1, v1) List.mem_cons_self⟩
      · obtain ⟨x, hx, hxe⟩ := List.mem_map.mp hy
        rw [← hxe]
        exact ⟨(hkey x (List.mem_cons_of_mem _ hx)).2.2, henc x (List.mem_cons_of_mem _ hx)⟩
    have hq2 : scan q.2 false = some false := (hE1 q (List.mem_of_getLast? hq)).2
    have hen' : scan en' false = some false := scan_strip_suffix suf hsuf en' false (by rw [← hen]; exact hq2)
    have hin : ∀ x ∈ setLastVal en' ((k1', encTag v1) :: r.map encP),
        scan x.1 false = some false ∧ scan (id x.2) false = some false := by
      intro x hx
      obtain ⟨y, hy, h1, h2⟩ := mem_setLastVal en' _ x hx
      obtain ⟨a, b⟩ := hE1 y hy
      refine ⟨by rw [h1]; exact a, ?_⟩
      rcases h2 with h2 | h2
      · rw [id_eq, h2]; exact b
      · rw [id_eq, h2]; exact hen'
    have hsplit := split_items id (setLastVal en' ((k1', encTag v1) :: r.map encP)) []
      (setLastVal_ne _ _ (by simp)) hin
    unfold splitString at hs
    have e0 : ({} : SS) = { inStr := false, expKV := true, cur := [], out := [] } := rfl
    rw [hfineJ, e0, hsplit] at hs
    simp only [List.reverse_nil, List.nil_append, Option.some.injEq] at hs
    subst hs
    have hdecs := toPairs_inv _ _ hp
    have hkeys := keys_of_dec _ _ hdecs
    have hkeysR : ps.map (·.1) = trimSpaces k1' :: r.map (·.1) := by
      rw [hkeys]
      have e1 : (setLastVal en' ((k1', encTag v1) :: r.map encP)).map (fun e => trimSpaces e.1)
          = ((setLastVal en' ((k1', encTag v1) :: r.map encP)).map (·.1)).map trimSpaces := by
        rw [List.map_map]; rfl
      rw [e1, setLastVal_keys, List.map_cons, List.map_cons, List.map_map, List.map_map]
      simp only [List.cons.injEq, true_and]
      apply List.map_congr_left
      intro x hx
      show trimSpaces x.1 = x.1
      exact trimSpaces_of_trimmed _ (hkey x (List.mem_cons_of_mem _ hx)).2.1
    have hpre0 : pre = [] := by
      have hmem : (k1, v1) ∈ ps := mem_ofPairs ps _ (by rw [hof]; exact List.mem_cons_self)
      have hk : k1 ∈ ps.map (·.1) := List.mem_map.mpr ⟨(k1, v1), hmem, rfl⟩
      rw [hkeysR] at hk
      rcases List.mem_cons.mp hk with e | e
      · have h1 := length_trimSpaces_le k1'
        have hl : k1.length = pre.length + k1'.length := by rw [hk1]; simp
        rw [← e] at h1
        exact List.eq_nil_of_length_eq_zero (by omega)
      · exfalso
        obtain ⟨y, hy, hye⟩ := List.mem_map.mp e
        have hlt := (List.pairwise_cons.mp hwf).1 y hy
        simp only [] at hlt hye
        exact bytesLt_ne hlt hye.symm
    subst hpre0
    simp only [List.nil_append] at hk1
    subst hk1
    have htk1 : trimSpaces k1 = k1 := trimSpaces_of_trimmed _ (hkey (k1, v1) List.mem_cons_self).2.1
    rw [htk1] at hkeysR
    have hpsWF : Map.WF ps := by
      unfold Map.WF
      have hw : (((k1, v1) :: r).map (·.1)).Pairwise (fun a b => bytesLt a b = true) :=
        List.pairwise_map.mpr hwf
      rw [List.map_cons, ← hkeysR] at hw
      exact List.pairwise_map.mp hw
    rw [ofPairs_of_WF ps hpsWF] at hof
    subst hof
    obtain ⟨⟨ql, hql, hdl⟩, hall⟩ := extract en' ((k1, v1) :: r) (by simp) hdecs
    have hqlm : ql ∈ (k1, v1) :: r := List.mem_of_getLast? hql
    have hqe : q = encP ql := by
      have e : ((k1, encTag v1) :: r.map encP) = ((k1, v1) :: r).map encP := rfl
      rw [e, List.getLast?_map, hql] at hq
      simpa using hq.symm
    subst hqe
    have hlastfact : needsQuote ql.2 = false → okRaw ql.2 = true ∧ ql.2.getLast? ≠ some RB := by
      intro hn
      obtain ⟨hvne, _⟩ := needsQuote_false ql.2 hn
      have hev : encTag ql.2 = ql.2 := by unfold encTag; simp [hn]
      have hv : ql.2 = en' ++ suf := by rw [← hev]; exact hen
      have hsw : special (trimSpaces en') ≤ special ql.2 := by
        have := special_trimSpaces_le en'
        rw [hv, special_append]; omega
      have hlw : (trimSpaces en').length ≤ ql.2.length := by
        have := length_trimSpaces_le en'
        rw [hv, List.length_append]; omega
      obtain ⟨hw1, _, _⟩ := raw_decode _ _ hsw hlw hdl
      have hsuf0 : suf = [] := by
        have h1 := length_trimSpaces_le en'
        have h2 : ql.2.length = en'.length + suf.length := by rw [hv]; simp
        rw [hw1] at h1
        exact List.eq_nil_of_length_eq_zero (by omega)
      subst hsuf0
      simp only [List.append_nil] at hv
      subst hv
      refine ⟨okRaw_of_decode ql.2 hn (by rw [← hev]; exact henc ql hqlm) hdl, ?_⟩
      obtain ⟨c, tl, hc⟩ : ∃ c tl, ql.2 = c :: tl := by
        cases hc : ql.2 with
        | nil => exact absurd hc hvne
        | cons c tl => exact ⟨c, tl, rfl⟩
      have hgl : fine.getLast? = ql.2.getLast? := by
        rw [hfine, hc, List.getLast?_append, List.getLast?_cons_cons]
        cases hg : (c :: tl).getLast? with
        | none => simp at hg
        | some y => simp
      rw [← hgl]; exact hlastRB
    have hall' : ∀ x ∈ (k1, v1) :: r, okPair x = true := by
      intro x hx
      obtain ⟨a, b, c⟩ := hkey x hx
      have hk : okKey x.1 = true := by
        unfold okKey
        have h0 : x.1.isEmpty = false := by
          cases hx1 : x.1 with
          | nil => exact absurd hx1 a
          | cons _ _ => rfl
        simp [h0, b, inert, c]
      unfold okPair
      rw [hk, Bool.true_and]
      by_cases hn : needsQuote x.2 = true
      · simp [hn]
      · have hn' : needsQuote x.2 = false := by simpa using hn
        rw [hn', Bool.false_or]
        have hev : encTag x.2 = x.2 := by unfold encTag; simp [hn']
        rcases hall x hx with hd | hlast
        · rw [hev] at hd
          exact okRaw_of_decode x.2 hn' (by rw [← hev]; exact henc x hx) hd
        · have hxq : ql = x := by
            rw [hql] at hlast; exact Option.some.inj hlast
          subst hxq
          exact (hlastfact hn').1
    unfold safeW
    simp only [Bool.and_eq_true]
    refine ⟨⟨List.all_eq_true.mpr hall', ?_⟩, ?_⟩
    · unfold firstOK
      simp only [List.head?_cons]
      obtain ⟨c, k', hck⟩ : ∃ c k', k1 = c :: k' := by
        cases hc : k1 with
        | nil => exact absurd hc (hkey (k1, v1) List.mem_cons_self).1
        | cons c k' => exact ⟨c, k', rfl⟩
      have hfh : fine.head? = some c := by
        have := congrArg List.head? hX
        rw [hck] at this
        cases hfc : fine with
        | nil => exact absurd hfc hfne
        | cons f ft => rw [hfc] at this; simpa using this
      rw [hfh] at hhd
      rw [hck]
      simpa using hhd
    · unfold lastOK
      rw [hql]
      simp only []
      by_cases hn : needsQuote ql.2 = true
      · simp [hn]
      · have hn' : needsQuote ql.2 = false := by simpa using hn
        simp [hn', (hlastfact hn').2]

/-- on sets whose raw values are inert, `safeW` is exactly the class of sets that survive emit + re-read -/
theorem safeW_iff_inert (m : Map) (hwf : Map.WF m) (hi : rawInert m = true) :
    parse (line m) = some m ↔ safeW m = true :=
  ⟨safeW_necessary_inert m hwf hi,
   roundtrip_safeW Logrange.Proofs.Quote.quoteContract m hwf⟩

/-! ### a syntactic sufficient condition for `rawInert`: no double quote in a raw value -/

theorem scan_plain : ∀ (v : Bytes), (∀ x ∈ v, x ≠ DQ ∧ x ≠ EQ ∧ x ≠ CM) → scan v false = some false := by
  intro v
  induction v with
  | nil => intro _; rfl
  | cons c r ih =>
    intro h
    obtain ⟨h1, h2, h3⟩ := h c List.mem_cons_self
    have e1 : (c == DQ) = false := by simpa using h1
    have e2 : (c == EQ) = false := by simpa using h2
    have e3 : (c == CM) = false := by simpa using h3
    rw [scan.eq_def]
    simp only [e1, e2, e3, Bool.false_eq_true, if_false, Bool.and_false, Bool.or_false, Bool.false_and]
    exact ih (fun x hx => h x (List.mem_cons_of_mem _ hx))

/-- a set none of whose raw values holds a double quote is `rawInert` -/
theorem rawInert_of_noDQ (m : Map) (h : ∀ p ∈ m, needsQuote p.2 = false → DQ ∉ p.2) : rawInert m = true := by
  unfold rawInert
  apply List.all_eq_true.mpr
  intro p hp
  by_cases hn : needsQuote p.2 = true
  · simp [hn]
  · have hn' : needsQuote p.2 = false := by simpa using hn
    obtain ⟨_, hns⟩ := needsQuote_false p.2 hn'
    have hq := h p hp hn'
    have : scan p.2 false = some false :=
      scan_plain p.2 (fun x hx => ⟨fun e => hq (e ▸ hx), (hns x hx).1, (hns x hx).2⟩)
    simp [hn', inert, this]

/-- **Necessity of `safeW` on sets whose raw values hold no double quote** (no semantic hypothesis left) -/
theorem safeW_iff_noDQ (m : Map) (hwf : Map.WF m) (h : ∀ p ∈ m, needsQuote p.2 = false → DQ ∉ p.2) :
    parse (line m) = some m ↔ safeW m = true :=
  safeW_iff_inert m hwf (rawInert_of_noDQ m h)

end Logrange.Proofs.TagsNecessityN

import Logrange.Model.PipeLtsInc
import Logrange.Proofs.PipeLts
/-!
# Lemmas for the incarnation LTS (C10): every incarnation of a pipe name is a pipe created once under a fresh name

The proof keeps, beside the current incarnation's state `cur`, a **shadow**: a state of the plain pipe LTS in which the pipe
was never created (`absent`) but which saw the same writes, publications, notifications (handled with no pipe to tell),
shutdowns and restarts. The shadow is reachable in the plain LTS; `recreate` makes `cur` equal to the shadow's `create`.
-/
namespace Logrange.PipeLts.Inc
open Logrange.PipeLts

/-- reachable in the plain pipe LTS -/
def Reach (cfg : Cfg) (s0 st : State) : Prop := ∃ ls, run cfg s0 ls = st

theorem reach_refl (cfg : Cfg) (s0 : State) : Reach cfg s0 s0 := ⟨[], rfl⟩

theorem reach_step (cfg : Cfg) (s0 st st' : State) (l : Label) (h : Reach cfg s0 st) (hs : step cfg st l = some st') :
    Reach cfg s0 st' := by
  obtain ⟨ls, rfl⟩ := h
  exact ⟨ls ++ [l], by rw [run_append]; simp only [run, hs]⟩

/-- what a source looks like to a pipe that does not exist: its records, its tags -/
def bare (σ : SrcSt) : SrcSt := { log := σ.log, prov := σ.prov, listens := σ.listens }

theorem bare_eq (σ σ' : SrcSt) (h1 : σ'.log = σ.log) (h2 : σ'.prov = σ.prov) (h3 : σ'.listens = σ.listens) :
    bare σ' = bare σ := by
  simp [bare, h1, h2, h3]

theorem bare_startWorker (c : Bool) (σ : SrcSt) (d : Desc) : bare (startWorker c σ d) = bare σ := by
  unfold startWorker; split <;> rfl

theorem bare_onWriteEvent (c : Bool) (σ : SrcSt) (we : WE) : bare (onWriteEvent c σ we) = bare σ := by
  unfold onWriteEvent; split <;> exact bare_startWorker _ _ _

/-- `p` is the state of the plain LTS in which the pipe of `st` was never created -/
structure Shadow (p st : State) : Prop where
  n : p.n = st.n
  chan : p.chan = st.chan
  pend : p.pend = st.pend
  others : p.others = st.others
  flt : p.flt = st.flt
  closed : p.closed = st.closed
  down : p.down = st.down
  pipe : p.pipe = .absent
  dest : p.dest = []
  reg : p.reg = false
  srcs : ∀ s, p.srcs s = bare (st.srcs s)
  cacheOk : ∀ s, p.cache s ≠ some true

theorem shadow_frame (p st st' : State) (h : Shadow p st) (e1 : st'.n = st.n) (e2 : st'.chan = st.chan)
    (e3 : st'.pend = st.pend) (e4 : st'.others = st.others) (e5 : st'.flt = st.flt) (e6 : st'.closed = st.closed)
    (e7 : st'.down = st.down) (e8 : ∀ s, bare (st'.srcs s) = bare (st.srcs s)) : Shadow p st' :=
  { n := by rw [e1]; exact h.n, chan := by rw [e2]; exact h.chan, pend := by rw [e3]; exact h.pend
    others := by rw [e4]; exact h.others, flt := by rw [e5]; exact h.flt, closed := by rw [e6]; exact h.closed
    down := by rw [e7]; exact h.down, pipe := h.pipe, dest := h.dest, reg := h.reg
    srcs := by intro s; rw [e8 s]; exact h.srcs s
    cacheOk := h.cacheOk }

theorem shadow_allIdle (p st : State) (h : Shadow p st) : allIdle p = true := by
  unfold allIdle
  rw [List.all_eq_true]
  intro s _
  simp [h.srcs s, bare]

theorem bare_upd (f : Nat → SrcSt) (s : Nat) (σ' : SrcSt) (h : bare σ' = bare (f s)) (s' : Nat) :
    bare (upd f s σ' s') = bare (f s') := by
  by_cases e : s' = s
  · subst e; rw [upd_self]; exact h
  · rw [upd_ne _ _ _ _ e]

/-- every step of the current incarnation is a step or a stutter of the shadow -/
theorem shadow_step (cfg : Cfg) (p st st' : State) (l : Label) (h : Shadow p st) (hs : step cfg st l = some st') :
    ∃ p', (p' = p ∨ step cfg p l = some p') ∧ Shadow p' st' := by
  -- what the pipe does to its own descriptors, workers and partition is invisible to the shadow
  have stutter : ∀ st' : State, st'.n = st.n → st'.chan = st.chan → st'.pend = st.pend → st'.others = st.others →
      st'.flt = st.flt → st'.closed = st.closed → st'.down = st.down → (∀ s, bare (st'.srcs s) = bare (st.srcs s)) →
      ∃ p', (p' = p ∨ step cfg p l = some p') ∧ Shadow p' st' :=
    fun st' e1 e2 e3 e4 e5 e6 e7 e8 => ⟨p, Or.inl rfl, shadow_frame _ _ _ h e1 e2 e3 e4 e5 e6 e7 e8⟩
  have hdn := h.down
  have hcl := h.closed
  cases Step.of_step hs with
  | write s batch hup hlt =>
    refine ⟨_, Or.inr (Step.write s batch (hdn.trans hup) (h.n ▸ hlt)).to_step,
      { n := h.n, chan := h.chan, pend := ?_, others := h.others, flt := h.flt, closed := h.closed, down := h.down,
        pipe := h.pipe, dest := h.dest, reg := h.reg, srcs := ?_, cacheOk := h.cacheOk }⟩
    · simp only [h.pend, h.srcs s, bare]
    · intro s'
      by_cases e : s' = s
      · subst e; simp [upd_self, h.srcs s', bare]
      · simp only [upd_ne _ _ _ _ e]; exact h.srcs s'
  | enqueue i we hwe hup hcap =>
    exact ⟨_, Or.inr (Step.enqueue i we (h.pend ▸ hwe) (hdn.trans hup) (h.chan ▸ hcap)).to_step,
      { n := h.n, chan := by simp [h.chan], pend := by simp [h.pend], others := h.others, flt := h.flt,
        closed := h.closed, down := h.down, pipe := h.pipe, dest := h.dest, reg := h.reg, srcs := h.srcs,
        cacheOk := h.cacheOk }⟩
  | notifyHit we rest hup hcl' hch hit =>
    obtain ⟨hmiss, hcache⟩ := pfs_absent p we.src h.pipe h.cacheOk
    refine ⟨_, Or.inr (Step.notifyMiss we rest (hdn.trans hup) (hcl.trans hcl') (h.chan.trans hch) hmiss).to_step, ?_⟩
    refine shadow_frame _ { st with chan := rest } _
      { n := h.n, chan := rfl, pend := h.pend, others := h.others, flt := h.flt, closed := h.closed, down := h.down,
        pipe := h.pipe, dest := h.dest, reg := h.reg, srcs := h.srcs, cacheOk := hcache } rfl rfl rfl rfl rfl rfl rfl ?_
    exact bare_upd _ _ _ (bare_onWriteEvent _ _ _)
  | notifyMiss we rest hup hcl' hch hit =>
    obtain ⟨hmiss, hcache⟩ := pfs_absent p we.src h.pipe h.cacheOk
    exact ⟨_, Or.inr (Step.notifyMiss we rest (hdn.trans hup) (hcl.trans hcl') (h.chan.trans hch) hmiss).to_step,
      { n := h.n, chan := rfl, pend := h.pend, others := h.others, flt := h.flt, closed := h.closed, down := h.down,
        pipe := h.pipe, dest := h.dest, reg := h.reg, srcs := h.srcs, cacheOk := hcache }⟩
  | wopen s d hwk hd => exact stutter _ rfl rfl rfl rfl rfl rfl rfl (bare_upd _ _ _ rfl)
  | wcopy s k c hwk hcl' hlive => exact stutter _ rfl rfl rfl rfl rfl rfl rfl (bare_upd _ _ _ rfl)
  | wsave s c d hwk hd =>
    exact stutter _ rfl rfl rfl rfl rfl rfl rfl
      (fun s' => bare_upd st.srcs s { st.srcs s with wk := .opened c, desc := some { d with pos := c } } rfl s')
  | wtimeout s hwk => exact stutter _ rfl rfl rfl rfl rfl rfl rfl (bare_upd _ _ _ rfl)
  | wdone s d hwk hd =>
    refine stutter _ rfl rfl rfl rfl rfl rfl rfl (bare_upd _ _ _ ?_)
    split
    · exact bare_startWorker _ _ _
    · rfl
  | create hup hp => exact stutter _ rfl rfl rfl rfl rfl rfl rfl (fun _ => rfl)
  | delete hup hp => exact stutter _ rfl rfl rfl rfl rfl rfl rfl (fun _ => rfl)
  | shutdown hup hcl' =>
    exact ⟨_, Or.inr (Step.shutdown (hdn.trans hup) (hcl.trans hcl')).to_step,
      { n := h.n, chan := h.chan, pend := h.pend, others := h.others, flt := h.flt, closed := rfl, down := h.down,
        pipe := h.pipe, dest := h.dest, reg := h.reg, srcs := h.srcs, cacheOk := h.cacheOk }⟩
  | halt hcl' hup hidle =>
    refine ⟨_, Or.inr (Step.halt (hcl.trans hcl') (hdn.trans hup) (shadow_allIdle p st h)).to_step,
      { n := h.n, chan := rfl, pend := rfl, others := h.others, flt := h.flt, closed := h.closed, down := rfl,
        pipe := h.pipe, dest := h.dest, reg := ?_, srcs := h.srcs, cacheOk := h.cacheOk }⟩
    simp only [h.pipe, h.reg]; split <;> rfl
  | restart hdn' =>
    refine ⟨_, Or.inr (Step.restart (hdn.trans hdn')).to_step,
      { n := h.n, chan := h.chan, pend := h.pend, others := h.others, flt := h.flt, closed := rfl, down := rfl,
        pipe := ?_, dest := h.dest, reg := h.reg, srcs := ?_, cacheOk := by intro s; simp }⟩
    · simp only [h.reg, h.pipe]; rfl
    · intro s; simp only [h.srcs s, bare]; rfl

/-- the invariant of the incarnation LTS: the current incarnation's state is a state of the plain LTS, and so is its shadow -/
def IInv (cfg : Cfg) (s0 : State) (ist : IState) : Prop :=
  Reach cfg s0 ist.cur ∧ ∃ p, Reach cfg s0 p ∧ Shadow p ist.cur

theorem shadow_init (n : Nat) (l : Nat → Bool) (pr : Nat → Bytes) (f : Ev → Bool) (o : Bool) :
    Shadow (init n l pr f o) (init n l pr f o) :=
  { n := rfl, chan := rfl, pend := rfl, others := rfl, flt := rfl, closed := rfl, down := rfl, pipe := rfl, dest := rfl,
    reg := rfl, srcs := fun _ => rfl, cacheOk := by intro s; simp [init] }

/-- `recreate` with no positions file left = the shadow's `create` -/
theorem recreated_eq_create (cfg : Cfg) (ic : ICfg) (p st : State) (h : Shadow p st)
    (hdrop : cfg.dropOnCreate = true) (hsave : cfg.saveOnCreate = true) (hfile : fileSurvives ic = false)
    (hdown : st.down = false) :
    step cfg p .create = some (recreated cfg ic st) := by
  have hpd : p.down = false := by rw [h.down]; exact hdown
  simp only [step, hpd, h.pipe, hdrop, hsave]
  simp only [Bool.false_or, bne_self_eq_false, Bool.false_eq_true, if_false, if_true, Option.some.injEq]
  apply state_ext'
  · exact h.n
  · funext s
    simp only [recreated, hfile, h.srcs s, bare]
    rfl
  · simp only [recreated]; exact h.dest
  · exact h.chan
  · exact h.pend
  · rfl
  · simp only [recreated, hdrop]; rfl
  · exact h.others
  · exact h.flt
  · exact h.closed
  · simp [recreated, hdown]
  · simp only [recreated, hsave]; rfl

theorem istep_iinv (cfg : Cfg) (ic : ICfg) (s0 : State) (ist ist' : IState) (l : ILabel)
    (hdrop : cfg.dropOnCreate = true) (hsave : cfg.saveOnCreate = true) (hfile : fileSurvives ic = false)
    (h : IInv cfg s0 ist) (hs : istep cfg ic ist l = some ist') : IInv cfg s0 ist' := by
  obtain ⟨hr, p, hp, hsh⟩ := h
  cases l with
  | plain lb =>
    simp only [istep] at hs
    split at hs
    · cases hs
    · cases hst : step cfg ist.cur lb with
      | none => simp [hst] at hs
      | some c =>
        simp only [hst, Option.map_some, Option.some.injEq] at hs; subst hs
        refine ⟨reach_step cfg s0 _ _ lb hr hst, ?_⟩
        obtain ⟨p', hp', hsh'⟩ := shadow_step cfg p ist.cur c lb hsh hst
        refine ⟨p', ?_, hsh'⟩
        rcases hp' with e | e
        · rw [e]; exact hp
        · exact reach_step cfg s0 _ _ lb hp e
  | recreate =>
    simp only [istep] at hs
    split at hs
    · cases hs
    · rename_i hc
      simp only [Bool.or_eq_true, not_or, Bool.not_eq_true] at hc
      simp only [Option.some.injEq] at hs; subst hs
      have hcr := recreated_eq_create cfg ic p ist.cur hsh hdrop hsave hfile hc.1
      refine ⟨reach_step cfg s0 _ _ .create hp hcr, p, hp, ?_⟩
      exact shadow_frame _ _ _ hsh rfl rfl rfl rfl rfl rfl rfl (fun _ => rfl)
  | oldExit =>
    simp only [istep] at hs
    split at hs
    · simp only [Option.some.injEq] at hs; subst hs
      exact ⟨hr, p, hp, hsh⟩
    · cases hs

theorem irun_iinv (cfg : Cfg) (ic : ICfg) (s0 : State) (ist : IState) (tr : List ILabel)
    (hdrop : cfg.dropOnCreate = true) (hsave : cfg.saveOnCreate = true) (hfile : fileSurvives ic = false)
    (h : IInv cfg s0 ist) : IInv cfg s0 (irun cfg ic ist tr) := by
  induction tr generalizing ist with
  | nil => simpa [irun] using h
  | cons l ls ih =>
    simp only [irun]
    cases hs : istep cfg ic ist l with
    | none => exact ih ist h
    | some ist' => exact ih ist' (istep_iinv cfg ic s0 ist ist' l hdrop hsave hfile h hs)

end Logrange.PipeLts.Inc

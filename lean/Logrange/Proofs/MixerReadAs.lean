import Logrange.Props.C04
/-!
# The multi-partition read, stated in the terms of a concrete kind of source

For a kind of source whose fresh iterator delivers `all s` (a journal: its records; a ranged journal: the admitted records) and
reports them under `tagOf s`, the theorems of `Props/C04.lean` speak about `all` directly: forward from the head
(`multi_read_as`) and, for iterators placed behind everything and switched, backward (`multi_read_backward_as`).
-/
namespace Logrange.Mixer
open Logrange.MixTree LawfulSource Logrange.Props.C04

variable {σ : Type} [Source σ] [LawfulSource σ] [Inhabited σ]

theorem multi_read_as (all : σ → List Ev) (tagOf : σ → Nat) (srcs : List σ) (hne : srcs ≠ [])
    (hw : ∀ s ∈ srcs, wf s ∧ dir s = false) (hv : ∀ s ∈ srcs, view s = all s)
    (htag : ∀ s ∈ srcs, ∀ e ∈ all s, e.tags = tagOf s)
    (rel : Nat → Bool × Bool) (f : Nat) (hf : (srcs.flatMap all).length < f) :
    ∃ t, build srcs = some t ∧
      let read := t.drainRel rel f 0
      read.Perm (srcs.flatMap all) ∧
      (∀ s ∈ srcs, (all s).Sublist read) ∧
      ((∀ s ∈ srcs, Ascending (all s)) → Ascending read) ∧
      (∀ e ∈ read, ∃ s ∈ srcs, e ∈ all s ∧ e.tags = tagOf s) := by
  have hfm : srcs.flatMap view = srcs.flatMap all := flatMap_eq_of_map_eq (List.map_congr_left hv)
  obtain ⟨t, ht, r1, r2, r3, r4⟩ := multi_read srcs hne hw rel f (by rw [hfm]; exact hf)
  refine ⟨t, ht, hfm ▸ r1, fun s hs => hv s hs ▸ r2 s hs, fun ha => r3 fun s hs => (hv s hs).symm ▸ ha s hs, fun e he => ?_⟩
  obtain ⟨s, hs, hes⟩ := r4 e he
  rw [hv s hs] at hes
  exact ⟨s, hs, hes, htag s hs e hes⟩

theorem multi_read_backward_as (all : σ → List Ev) (tagOf : σ → Nat) (srcs : List σ) (hne : srcs ≠ [])
    (hw : ∀ s ∈ srcs, wf s ∧ dir s = false) (hv : ∀ s ∈ srcs, view (Source.setBackward true s) = (all s).reverse)
    (htag : ∀ s ∈ srcs, ∀ e ∈ all s, e.tags = tagOf s)
    (rel : Nat → Bool × Bool) (f : Nat) (hf : (srcs.flatMap all).length < f) :
    ∃ t, build srcs = some t ∧
      let read := (t.setBackward true).drainRel rel f 0
      read.Perm (srcs.flatMap (fun s => (all s).reverse)) ∧
      (∀ s ∈ srcs, (all s).reverse.Sublist read) ∧
      ((∀ s ∈ srcs, Ascending (all s)) → Descending read) ∧
      (∀ e ∈ read, ∃ s ∈ srcs, e ∈ all s ∧ e.tags = tagOf s) := by
  obtain ⟨t, ht, hl, _⟩ := mixTree_leaves srcs hne
  obtain ⟨tw, td⟩ := newCursor_tree_WF srcs hw t ht
  have hfm : srcs.flatMap (fun s => view (Source.setBackward true s)) = srcs.flatMap (fun s => (all s).reverse) :=
    flatMap_eq_of_map_eq (List.map_congr_left hv)
  have hlen : (t.setBackward true).view.length < f := by
    rw [(It.view_perm_leaves _).length_eq, List.flatMap_def, It.setBackward_leaves_views true t tw (by rw [td]; decide),
      ← List.flatMap_def, hl, hfm]
    have : (srcs.flatMap (fun s => (all s).reverse)).length = (srcs.flatMap all).length := by
      simp only [List.length_flatMap, List.length_reverse]
    omega
  obtain ⟨r1, r2, r3, r4⟩ := read_after_switch true t tw (by rw [td]; decide) rel f hlen
  simp only [hl] at r1 r2 r3 r4
  refine ⟨t, ht, hfm ▸ r1, fun s hs => hv s hs ▸ r2 s hs, fun ha => ?_, fun e he => ?_⟩
  · exact r3 fun s hs => by rw [hv s hs]; exact List.pairwise_reverse.mpr (ha s hs)
  · obtain ⟨s, hs, hes⟩ := r4 e he
    rw [hv s hs, List.mem_reverse] at hes
    exact ⟨s, hs, hes, htag s hs e hes⟩

end Logrange.Mixer

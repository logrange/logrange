import Logrange.Model.DateParser
/-!
# Lemmas for C20

1. `ms_reach` — a sound abstract interpretation of the regular-expression matcher on *signed digit strings*
   (`-?[0-9]*`): `reach r q` over-approximates where a match of `r` can end. If `reach r .S = []` the expression
   matches no substring of a decimal integer (`find_none_of_reach`).
2. formats whose expression *can* match digits (`MM.DD.YYYY`: the unescaped `.` matches a digit) but whose layout then
   fails on the matched digits (`parseItems_digits_fail`).
3. the decimal text of an integer: digits only, read back by `parseInt64` (`parseInt64_decimal`).
4. a decimal integer literal through `parseLqlDateTime` (`parseLql_decimal`).
5. bounds of the calendar functions `daysIn`, `hour12Of`.
-/
namespace Logrange.Date

/-! ## 1. signed digit strings and the matcher -/

def AllDig (s : Bytes) : Prop := ∀ c ∈ s, isDig c = true
/-- an optional `-` followed by digits (possibly none) -/
def SD (s : Bytes) : Prop := AllDig s ∨ ∃ t, s = 45 :: t ∧ AllDig t

theorem AllDig.tail {x : UInt8} {s : Bytes} (h : AllDig (x :: s)) : AllDig s :=
  fun c hc => h c (List.mem_cons_of_mem _ hc)
theorem AllDig.head {x : UInt8} {s : Bytes} (h : AllDig (x :: s)) : isDig x = true := h x (List.mem_cons_self ..)
theorem AllDig.sd {s : Bytes} (h : AllDig s) : SD s := Or.inl h
theorem allDig_nil : AllDig [] := fun _ h => by cases h

theorem SD.tail_allDig {x : UInt8} {s : Bytes} (h : SD (x :: s)) : AllDig s := by
  rcases h with h | ⟨t, e, ht⟩
  · exact h.tail
  · cases e; exact ht

theorem SD.head {x : UInt8} {s : Bytes} (h : SD (x :: s)) : isDig x = true ∨ x = 45 := by
  rcases h with h | ⟨t, e, _⟩
  · exact Or.inl h.head
  · cases e; exact Or.inr rfl

theorem AllDig.of_append_right {p s : Bytes} (h : AllDig (p ++ s)) : AllDig s :=
  fun c hc => h c (List.mem_append_right _ hc)

theorem takeWhile_digits : ∀ (ds R : Bytes), AllDig ds → (R = [] ∨ ∃ c t, R = c :: t ∧ isDig c = false) →
    (ds ++ R).takeWhile isDig = ds
  | [], R, _, hR => by
    rcases hR with h | ⟨c, t, h, hc⟩
    · subst h; rfl
    · subst h; simp [List.takeWhile, hc]
  | d :: ds, R, h, hR => by
    simp only [List.cons_append, List.takeWhile, h.head]
    rw [takeWhile_digits ds R h.tail hR]

/-- a proper suffix of a signed digit string is all digits -/
theorem SD.suffix {p s : Bytes} (h : SD (p ++ s)) : SD s ∧ (p ≠ [] → AllDig s) := by
  cases p with
  | nil => exact ⟨h, fun hp => absurd rfl hp⟩
  | cons x p =>
    have : AllDig (p ++ s) := SD.tail_allDig (x := x) h
    exact ⟨(this.of_append_right).sd, fun _ => this.of_append_right⟩

inductive Q | S | M
deriving DecidableEq, Repr

def inQ : Q → Bytes → Prop
  | .S, s => SD s
  | .M, s => AllDig s

def clsHasDigit (rg : List (UInt8 × UInt8)) : Bool := rg.any (fun p => p.1 ≤ 57 && 48 ≤ p.2)

/-- where a match can end, over-approximated: `.S` = nothing consumed yet, `.M` = inside the digits -/
def reach : Rx → Q → List Q
  | .eps, q => [q]
  | .chr c, .S => if isDig c || c == 45 then [.M] else []
  | .chr c, .M => if isDig c then [.M] else []
  | .any, _ => [.M]
  | .cls rg, .S => if clsHasDigit rg || inCls rg 45 then [.M] else []
  | .cls rg, .M => if clsHasDigit rg then [.M] else []
  | .seq a b, q => (reach a q).flatMap (reach b)
  | .alt a b, q => reach a q ++ reach b q
  | .star _, .S => [.S, .M]
  | .star _, .M => [.M]

theorem clsHasDigit_of_mem {rg : List (UInt8 × UInt8)} {x : UInt8} (h : inCls rg x = true) (hx : isDig x = true) :
    clsHasDigit rg = true := by
  simp only [inCls, List.any_eq_true, Bool.and_eq_true, decide_eq_true_eq] at h
  obtain ⟨p, hp, h1, h2⟩ := h
  simp only [isDig, Bool.and_eq_true, decide_eq_true_eq] at hx
  simp only [clsHasDigit, List.any_eq_true, Bool.and_eq_true, decide_eq_true_eq]
  exact ⟨p, hp, UInt8.le_trans h1 hx.2, UInt8.le_trans hx.1 h2⟩

theorem starRem_suffix (rg : List (UInt8 × UInt8)) : ∀ (s s' : Bytes), s' ∈ starRem rg s → ∃ p, s = p ++ s'
  | [], s', h => by simp [starRem] at h; exact ⟨[], by simp [h]⟩
  | x :: s, s', h => by
    simp only [starRem] at h
    split at h
    · rcases List.mem_append.mp h with h | h
      · obtain ⟨p, hp⟩ := starRem_suffix rg s s' h
        exact ⟨x :: p, by simp [hp]⟩
      · simp at h; exact ⟨[], by simp [h]⟩
    · simp at h; exact ⟨[], by simp [h]⟩

theorem byte_reach {p : UInt8 → Bool} {q : Q} {s s' : Bytes} (h : inQ q s)
    (hs : s' ∈ (match (generalizing := false) s with | x :: t => if p x then [t] else [] | [] => [])) :
    inQ .M s' ∧ ∃ x, p x = true ∧ (isDig x = true ∨ (q = .S ∧ x = 45)) := by
  match s, h with
  | [], _ => cases hs
  | x :: t, h =>
    by_cases hx : p x = true
    · simp only [hx, if_true, List.mem_singleton] at hs
      subst hs
      cases q with
      | S => exact ⟨SD.tail_allDig h, x, hx, (SD.head h).imp_right fun e => ⟨rfl, e⟩⟩
      | M => exact ⟨AllDig.tail h, x, hx, Or.inl (AllDig.head h)⟩
    · simp only [hx, Bool.false_eq_true, if_false] at hs; cases hs

theorem ms_reach : ∀ (r : Rx) (q : Q) (s : Bytes), inQ q s → ∀ s' ∈ ms r s, ∃ q' ∈ reach r q, inQ q' s'
  | .eps, q, s, h, s', hs => by
    simp [ms] at hs; subst hs; exact ⟨q, by simp [reach], h⟩
  | .chr c, q, s, h, s', hs => by
    obtain ⟨hM, x, hx, hd⟩ := byte_reach (p := (· == c)) h hs
    have hx : x = c := by simpa using hx
    subst hx
    refine ⟨.M, ?_, hM⟩
    rcases hd with hd | ⟨rfl, rfl⟩
    · cases q <;> simp [reach, hd]
    · simp [reach]
  | .any, q, s, h, s', hs => ⟨.M, by cases q <;> simp [reach], (byte_reach (p := (· != 10)) h hs).1⟩
  | .cls rg, q, s, h, s', hs => by
    obtain ⟨hM, x, hx, hd⟩ := byte_reach (p := inCls rg) h hs
    refine ⟨.M, ?_, hM⟩
    rcases hd with hd | ⟨rfl, rfl⟩
    · cases q <;> simp [reach, clsHasDigit_of_mem hx hd]
    · simp [reach, hx]
  | .seq a b, q, s, h, s', hs => by
    simp only [ms, List.mem_flatMap] at hs
    obtain ⟨m, hm, hs'⟩ := hs
    obtain ⟨q1, hq1, hin1⟩ := ms_reach a q s h m hm
    obtain ⟨q2, hq2, hin2⟩ := ms_reach b q1 m hin1 s' hs'
    exact ⟨q2, by simp only [reach, List.mem_flatMap]; exact ⟨q1, hq1, hq2⟩, hin2⟩
  | .alt a b, q, s, h, s', hs => by
    simp only [ms, List.mem_append] at hs
    rcases hs with hs | hs
    · obtain ⟨q', hq', hin⟩ := ms_reach a q s h s' hs
      exact ⟨q', by simp [reach, hq'], hin⟩
    · obtain ⟨q', hq', hin⟩ := ms_reach b q s h s' hs
      exact ⟨q', by simp [reach, hq'], hin⟩
  | .star rg, q, s, h, s', hs => by
    simp only [ms] at hs
    obtain ⟨p, hp⟩ := starRem_suffix rg s s' hs
    subst hp
    cases q with
    | S =>
      by_cases hpn : p = []
      · subst hpn; exact ⟨.S, by simp [reach], by simpa using h⟩
      · exact ⟨.M, by simp [reach], (SD.suffix h).2 hpn⟩
    | M => exact ⟨.M, by simp [reach], AllDig.of_append_right h⟩

theorem ms_nil_of_reach {r : Rx} (hr : reach r .S = []) {s : Bytes} (h : SD s) : ms r s = [] := by
  cases hm : ms r s with
  | nil => rfl
  | cons x xs =>
    obtain ⟨q', hq', _⟩ := ms_reach r .S s h x (by simp [hm])
    simp [hr] at hq'

/-- an expression that cannot end a match on signed digits finds nothing in a decimal integer -/
theorem find_none_of_reach {r : Rx} (hr : reach r .S = []) : ∀ {s : Bytes}, SD s → find r s = none
  | [], h => by simp [find, matchAt, ms_nil_of_reach hr h]
  | x :: s, h => by
    have ht : SD s := (SD.tail_allDig h).sd
    simp [find, matchAt, ms_nil_of_reach hr h, find_none_of_reach hr ht]

/-! ## 2. formats whose expression can match digits but whose layout rejects them -/

/-- the layout starts with a two-digit month directly followed by a literal that begins with a byte which is neither a
digit nor a blank (`01.02.2006`): on digits the literal cannot be skipped -/
def digitsRejected (L : Layout) : Bool :=
  L.supported &&
  match L.items with
  | ([], .zeroMonth) :: (c :: _, _) :: _ => !isDig c && c != 32
  | _ => false

theorem getnum_rest_allDig {v r : Bytes} {fixed : Bool} {m : Int} (hv : SD v) (h : getnum v fixed = some (m, r)) : AllDig r := by
  match v, hv with
  | [], _ => cases h
  | [a], _ =>
    simp only [getnum] at h
    split at h
    · split at h <;> cases h; exact allDig_nil
    · cases h
  | a :: b :: t, hv =>
    have ht : AllDig (b :: t) := hv.tail_allDig
    simp only [getnum] at h
    split at h
    · split at h
      · cases h; exact ht.tail
      · split at h <;> cases h; exact ht
    · cases h

theorem skipLit_nondigit {c : UInt8} (hc : isDig c = false) (hb : c ≠ 32) (p : Bytes) {r : Bytes} (hr : AllDig r) :
    skipLit r (c :: p) = none := by
  have hb' : (c == 32) = false := beq_false_of_ne hb
  cases r with
  | nil => simp only [skipLit, skip, hb', Bool.false_eq_true, if_false]
  | cons d r' =>
    have hne : (d == c) = false := beq_false_of_ne fun e => by rw [← e, hr.head] at hc; cases hc
    simp only [skipLit, skip, hb', hne, Bool.false_eq_true, if_false]

theorem parseStd_zeroMonth_rest {v : Bytes} (hv : SD v) (next : Option Std) (f : F) :
    parseStd .zeroMonth next v f = none ∨ ∃ f' r, parseStd .zeroMonth next v f = some (f', r) ∧ AllDig r := by
  simp only [parseStd]
  cases hg : getnum v (Std.zeroMonth == Std.zeroMonth) with
  | none => exact Or.inl rfl
  | some mr =>
    simp only [Option.bind]
    split
    · exact Or.inl rfl
    · exact Or.inr ⟨_, _, rfl, getnum_rest_allDig hv hg⟩

theorem parseItems_digits_fail (tail : Bytes) (c : UInt8) (p : Bytes) (s1 : Std) (rest : List (Bytes × Std))
    (hc : isDig c = false) (hb : c ≠ 32) {v : Bytes} (hv : SD v) (f : F) :
    parseItems tail (([], .zeroMonth) :: (c :: p, s1) :: rest) v f = none := by
  rw [parseItems]
  show (match parseStd .zeroMonth (some s1) v f with
    | none => none
    | some (f', value') => parseItems tail ((c :: p, s1) :: rest) value' f') = none
  rcases parseStd_zeroMonth_rest hv (some s1) f with hm | ⟨f', r, hm, hr⟩
  · rw [hm]
  · rw [hm]; simp only [parseItems, skipLit_nondigit hc hb p hr]

/-! ## 3. decimal text of an integer -/

theorem dig_toNat (n : Nat) : (dig n).toNat = 48 + n % 10 := by
  simp only [dig, UInt8.toNat_ofNat']; omega

theorem isDig_dig (n : Nat) : isDig (dig n) = true := by
  have h := dig_toNat n
  simp only [isDig, Bool.and_eq_true, decide_eq_true_eq, UInt8.le_iff_toNat_le]
  constructor
  · show (48 : UInt8).toNat ≤ _; rw [h]; simp
  · show _ ≤ (57 : UInt8).toNat; rw [h]; simp; omega

theorem natDigitsAux_allDig : ∀ (fuel n : Nat) (acc : Bytes), AllDig acc → AllDig (natDigitsAux fuel n acc)
  | 0, _, _, h => h
  | fuel + 1, n, acc, h => by
    have hc : AllDig (dig n :: acc) := by
      intro c hc; rcases List.mem_cons.mp hc with e | e
      · subst e; exact isDig_dig n
      · exact h c e
    simp only [natDigitsAux]; split
    · exact hc
    · exact natDigitsAux_allDig fuel _ _ hc

theorem natDigitsAux_ne_nil : ∀ (fuel n : Nat) (acc : Bytes), acc ≠ [] → natDigitsAux fuel n acc ≠ []
  | 0, _, _, h => h
  | fuel + 1, n, acc, _ => by
    simp only [natDigitsAux]; split
    · simp
    · exact natDigitsAux_ne_nil fuel _ _ (by simp)

theorem natDecimal_ne_nil (n : Nat) : natDecimal n ≠ [] := by
  simp only [natDecimal, natDigitsAux]; split
  · simp
  · exact natDigitsAux_ne_nil _ _ _ (by simp)

theorem natDecimal_allDig (n : Nat) : AllDig (natDecimal n) := natDigitsAux_allDig _ _ _ allDig_nil

def dstep (a : Nat) (c : UInt8) : Nat := a * 10 + (c.toNat - 48)

theorem dstep_dig (a n : Nat) : dstep a (dig n) = a * 10 + n % 10 := by
  rw [dstep, dig_toNat, Nat.add_sub_cancel_left]

theorem natDigitsAux_value : ∀ (fuel n : Nat) (acc : Bytes), n < fuel →
    (natDigitsAux fuel n acc).foldl dstep 0 = acc.foldl dstep n
  | 0, _, _, h => by omega
  | fuel + 1, n, acc, h => by
    simp only [natDigitsAux]; split
    · rename_i h10
      rw [List.foldl_cons, dstep_dig, Nat.zero_mul, Nat.zero_add, Nat.mod_eq_of_lt h10]
    · rw [natDigitsAux_value fuel (n / 10) _ (by omega), List.foldl_cons, dstep_dig, Nat.div_add_mod']

theorem natOfDigits_natDecimal (n : Nat) : natOfDigits (natDecimal n) = n := by
  have := natDigitsAux_value (n + 1) n [] (by omega)
  simp only [natOfDigits, natDecimal]; exact this

theorem decimal_sd (n : Int) : SD (decimal n) := by
  cases n with
  | ofNat k => exact (natDecimal_allDig k).sd
  | negSucc k => exact Or.inr ⟨_, rfl, natDecimal_allDig _⟩

theorem decimal_ne_nil (n : Int) : decimal n ≠ [] := by
  cases n with
  | ofNat k => exact natDecimal_ne_nil k
  | negSucc k => simp [decimal]

/-- every byte of a signed digit string is a digit or `-` -/
theorem SD.bytes {s : Bytes} (h : SD s) : ∀ c ∈ s, isDig c = true ∨ c = 45 := by
  intro c hc
  rcases h with h | ⟨t, e, ht⟩
  · exact Or.inl (h c hc)
  · subst e; rcases List.mem_cons.mp hc with e | e
    · exact Or.inr e
    · exact Or.inl (ht c e)

theorem all_isDig_of_allDig {s : Bytes} (h : AllDig s) : s.all isDig = true := by
  rw [List.all_eq_true]; exact h

theorem parseInt64_digits {ds : Bytes} (hne : ds ≠ []) (h : AllDig ds) :
    parseInt64 ds = if (natOfDigits ds : Int) > 9223372036854775807 then none else some (natOfDigits ds : Int) := by
  cases ds with
  | nil => exact absurd rfl hne
  | cons c r =>
    have hc : isDig c = true := h.head
    have h45 : (c == 45) = false := beq_false_of_ne fun e => by subst e; cases hc
    have h43 : (c == 43) = false := beq_false_of_ne fun e => by subst e; cases hc
    have hlo : ¬ ((natOfDigits (c :: r) : Int) < -9223372036854775808) := by omega
    simp only [parseInt64, h45, h43, Bool.false_eq_true, if_false, List.isEmpty_cons, all_isDig_of_allDig h, Bool.not_true,
      Bool.or_self, hlo, decide_false, Bool.false_or, decide_eq_true_eq]

theorem parseInt64_neg_digits {ds : Bytes} (hne : ds ≠ []) (h : AllDig ds) :
    parseInt64 (45 :: ds) =
      if -(natOfDigits ds : Int) < -9223372036854775808 then none else some (-(natOfDigits ds : Int)) := by
  have hemp : ds.isEmpty = false := by cases ds <;> first | exact absurd rfl hne | rfl
  have hhi : ¬ (-(natOfDigits ds : Int) > 9223372036854775807) := by omega
  simp only [parseInt64, beq_self_eq_true, if_true, hemp, all_isDig_of_allDig h, Bool.not_true, Bool.or_self, Bool.false_eq_true,
    if_false, hhi, decide_false, Bool.or_false, decide_eq_true_eq]

theorem parseInt64_decimal (n : Int) (hlo : -9223372036854775808 ≤ n) (hhi : n ≤ 9223372036854775807) :
    parseInt64 (decimal n) = some n := by
  cases n with
  | ofNat k =>
    have hhi : (k : Int) ≤ 9223372036854775807 := hhi
    rw [decimal, parseInt64_digits (natDecimal_ne_nil k) (natDecimal_allDig k), natOfDigits_natDecimal, if_neg (by omega)]; rfl
  | negSucc k =>
    have hlo : -9223372036854775808 ≤ -((k + 1 : Nat) : Int) := hlo
    rw [decimal, parseInt64_neg_digits (natDecimal_ne_nil _) (natDecimal_allDig _), natOfDigits_natDecimal, if_neg (by omega)]; rfl

/-! ## 4. a decimal integer through `parseLqlDateTime` -/

theorem SD.prefix {m q : Bytes} (h : SD (m ++ q)) : SD m := by
  rcases h with h | ⟨t, e, ht⟩
  · exact Or.inl (fun c hc => h c (List.mem_append_left _ hc))
  · cases m with
    | nil => exact Or.inl allDig_nil
    | cons x m' =>
      simp only [List.cons_append, List.cons.injEq] at e
      obtain ⟨e1, e2⟩ := e
      subst e1; subst e2
      exact Or.inr ⟨m', rfl, fun c hc => ht c (List.mem_append_left _ hc)⟩

theorem findFrom_sub (g : Bool) (r : Rx) : ∀ (s : Bytes) (pd : Bool) (m : Bytes), findFrom g r pd s = some m → ∃ p q, s = p ++ m ++ q
  | [], pd, m, h => by
    simp only [findFrom] at h
    split at h
    · cases h
    · simp only [matchAt, Option.map_eq_some_iff] at h
      obtain ⟨_, _, hm⟩ := h
      exact ⟨[], [], by simp [← hm]⟩
  | x :: s, pd, m, h => by
    simp only [findFrom] at h
    split at h
    · rename_i m' hm
      cases h
      split at hm
      · cases hm
      · simp only [matchAt, Option.map_eq_some_iff] at hm
        obtain ⟨rem, _, hm⟩ := hm
        exact ⟨[], (x :: s).drop ((x :: s).length - rem.length), by rw [← hm]; simp⟩
    · obtain ⟨p, q, e⟩ := findFrom_sub g r s _ m h
      exact ⟨x :: p, q, by simp [e]⟩

theorem findFrom_false (r : Rx) : ∀ (s : Bytes) (pd : Bool), findFrom false r pd s = find r s
  | [], _ => rfl
  | x :: s, _ => by
    simp only [findFrom, find, Bool.false_and, Bool.false_eq_true, if_false, findFrom_false r s]

theorem find_sub (r : Rx) : ∀ (s m : Bytes), find r s = some m → ∃ p q, s = p ++ m ++ q :=
  fun s m h => findFrom_sub false r s false m (by rwa [findFrom_false])

/-- the guard only removes candidates: where the plain search finds nothing, the guarded one finds nothing -/
theorem findFrom_none_of_find (g : Bool) (r : Rx) : ∀ (s : Bytes) (pd : Bool), find r s = none → findFrom g r pd s = none
  | [], pd, h => by
    simp only [find] at h
    simp only [findFrom, h]; split <;> rfl
  | x :: s, pd, h => by
    simp only [find] at h
    split at h
    · cases h
    · rename_i hm
      simp only [findFrom, hm]
      have := findFrom_none_of_find g r s (decide (48 ≤ x) && decide (x ≤ 57)) h
      have e : (if (g && pd) = true then (none : Option Bytes) else none) = none := by split <;> rfl
      rw [e]; exact this

theorem findG_of_matchAt {g : Bool} {r : Rx} {s m : Bytes} (h : matchAt r s = some m) : findG g r s = some m := by
  cases s with
  | nil => simp [findG, findFrom, h]
  | cons x t => simp [findG, findFrom, h]

theorem SD.infix {p m q : Bytes} (h : SD (p ++ m ++ q)) : SD m := by
  rw [List.append_assoc] at h
  exact SD.prefix (SD.suffix h).1

def fmtRejectsDigits (cf : CFormat) : Bool :=
  match cf.rx with
  | none => false
  | some rx => (reach rx .S).isEmpty || digitsRejected cf.layout

theorem parseLayout_err_of_digitsRejected {L : Layout} (h : digitsRejected L = true) {v : Bytes} (hv : SD v) :
    parseLayout L v = .err := by
  simp only [digitsRejected, Bool.and_eq_true] at h
  obtain ⟨hsup, h⟩ := h
  simp only [parseLayout, hsup, Bool.not_true, Bool.false_eq_true, if_false]
  split at h
  · rename_i c p s1 rest hitems
    simp only [Bool.and_eq_true, Bool.not_eq_true', bne_iff_ne, ne_eq] at h
    rw [hitems, parseItems_digits_fail L.tail c p s1 rest h.1 h.2 hv]
  · cases h

theorem formatParse_err {adj : Adjust} {cf : CFormat} {now : Now} (h : fmtRejectsDigits cf = true) {s : Bytes} (hs : SD s) :
    formatParse adj cf now s = .err := by
  simp only [fmtRejectsDigits] at h
  simp only [formatParse]
  split at h
  · cases h
  · rename_i rx hrx
    simp only [hrx]
    rcases Bool.or_eq_true _ _ |>.mp h with h | h
    · have : reach rx .S = [] := by simpa using h
      simp only [findG]
      rw [findFrom_none_of_find _ _ _ _ (find_none_of_reach this hs)]
    · cases hf : findG cf.guard rx s with
      | none => rfl
      | some sub =>
        obtain ⟨p, q, e⟩ := findFrom_sub _ rx s _ sub hf
        have hsub : SD sub := by rw [e] at hs; exact SD.infix hs
        simp only [parseLayout_err_of_digitsRejected h hsub]

theorem parseFrom_err {adj : Adjust} {now : Now} {s : Bytes} (hs : SD s) :
    ∀ (fmts : List CFormat) (i : Nat), (∀ cf ∈ fmts, fmtRejectsDigits cf = true) → parseFrom adj now s i fmts = .err
  | [], _, _ => rfl
  | cf :: rest, i, h => by
    simp only [parseFrom, formatParse_err (h cf (List.mem_cons_self ..)) hs]
    exact parseFrom_err hs rest (i + 1) (fun c hc => h c (List.mem_cons_of_mem _ hc))

theorem dropWhile_id {p : UInt8 → Bool} : ∀ {s : Bytes}, (∀ c ∈ s, p c = false) → s.dropWhile p = s
  | [], _ => rfl
  | x :: s, h => by simp [List.dropWhile, h x (List.mem_cons_self ..)]

theorem trimBlanks_id {s : Bytes} (h : ∀ c ∈ s, c ≠ 32) : trimBlanks s = s := by
  have h1 : ∀ c ∈ s, (c == 32) = false := fun c hc => beq_false_of_ne (h c hc)
  have h2 : ∀ c ∈ s.reverse, (c == 32) = false := fun c hc => h1 c (List.mem_reverse.mp hc)
  simp only [trimBlanks]
  rw [dropWhile_id h1, dropWhile_id h2, List.reverse_reverse]

theorem toLowerAscii_id : ∀ {s : Bytes}, (∀ c ∈ s, isUpperB c = false) → toLowerAscii s = s
  | [], _ => rfl
  | x :: s, h => by
    have ih := toLowerAscii_id (s := s) (fun c hc => h c (List.mem_cons_of_mem _ hc))
    simp only [toLowerAscii] at ih ⊢
    simp [List.map, lowerB, h x (List.mem_cons_self ..), ih]

theorem sdByte_facts {c : UInt8} (h : isDig c = true ∨ c = 45) :
    c ≠ 32 ∧ isUpperB c = false ∧ c ≠ 109 ∧ c ≠ 104 ∧ c ≠ 100 := by
  rcases h with h | h
  · simp only [isDig, Bool.and_eq_true, decide_eq_true_eq, UInt8.le_iff_toNat_le] at h
    have h48 : (48 : UInt8).toNat = 48 := rfl
    have h57 : (57 : UInt8).toNat = 57 := rfl
    rw [h48, h57] at h
    refine ⟨?_, ?_, ?_, ?_, ?_⟩
    · intro e; subst e; simp at h
    · simp only [isUpperB, Bool.and_eq_false_iff, decide_eq_false_iff_not, UInt8.le_iff_toNat_le]
      have h65 : (65 : UInt8).toNat = 65 := rfl
      rw [h65]; left; omega
    · intro e; subst e; simp at h
    · intro e; subst e; simp at h
    · intro e; subst e; simp at h
  · subst h; decide

theorem relativeShape_none {s : Bytes} (h : ∀ c ∈ s, c ≠ 109 ∧ c ≠ 104 ∧ c ≠ 100) : relativeShape s = none := by
  cases s with
  | nil => rfl
  | cons c r =>
    simp only [relativeShape]
    split
    · rfl
    · cases hl : (c :: r).getLast? with
      | none => rfl
      | some dim =>
        have hm : dim ∈ c :: r := List.mem_of_getLast? hl
        obtain ⟨a, b, d⟩ := h dim hm
        simp [a, b, d]

theorem parseConstants_none {s : Bytes} (h : ∀ c ∈ s, isDig c = true ∨ c = 45) : parseConstants s = none := by
  have no : ∀ (k : Bytes) (x : UInt8), x ∈ k → ¬ (isDig x = true ∨ x = 45) → (s == k) = false := by
    intro k x hx hn
    apply beq_false_of_ne; intro e; subst e; exact hn (h x hx)
  simp only [parseConstants]
  rw [no bMinute 109 (by decide) (by decide), no bHour 104 (by decide) (by decide), no bDay 100 (by decide) (by decide),
      no bWeek 119 (by decide) (by decide)]
  simp

/-- **a decimal integer literal is taken as Unix nanoseconds**, whatever the switches, for any format list none of whose
formats can claim a signed digit string -/
theorem parseLql_decimal (cfg : LqlCfg) (fmts : List CFormat) (hf : ∀ cf ∈ fmts, fmtRejectsDigits cf = true) (now : Now)
    (n : Int) (hlo : -9223372036854775808 ≤ n) (hhi : n ≤ 9223372036854775807) :
    parseLql cfg fmts now (decimal n) = .unixNano n := by
  have hsd := decimal_sd n
  have hb := fun c hc => sdByte_facts (SD.bytes hsd c hc)
  have htrim : trimBlanks (decimal n) = decimal n := trimBlanks_id (fun c hc => (hb c hc).1)
  have hlow : toLowerAscii (decimal n) = decimal n := toLowerAscii_id (fun c hc => (hb c hc).2.1)
  simp only [parseLql, htrim, hlow, ite_self]
  rw [relativeShape_none (fun c hc => (hb c hc).2.2)]
  simp only [parseLqlRest, parseConstants_none (SD.bytes hsd), parseFirst, parseFrom_err hsd fmts 0 hf,
    parseInt64_decimal n hlo hhi]

/-! ## 5. the calendar -/

theorem daysIn_bounds (m y : Int) : 28 ≤ daysIn m y ∧ daysIn m y ≤ 31 ∧ daysIn m y ≤ daysIn m 0 := by
  simp only [daysIn, isLeap]
  by_cases h2 : (m == 2) = true
  · simp only [h2, if_true]
    have : ((0 : Int) % 4 == 0 && ((0 : Int) % 100 != 0 || (0 : Int) % 400 == 0)) = true := by decide
    simp only [this, if_true]
    by_cases hl : (y % 4 == 0 && (y % 100 != 0 || y % 400 == 0)) = true <;> simp [hl]
  · simp only [h2, Bool.false_eq_true, if_false]
    by_cases h4 : (m == 4 || m == 6 || m == 9 || m == 11) = true <;> simp [h4]

theorem daysIn_one (y : Int) : daysIn 1 y = 31 := by simp [daysIn]

theorem hour12Of_le (h : Nat) : 1 ≤ hour12Of h ∧ hour12Of h ≤ 12 := by
  by_cases h0 : h % 12 = 0 <;> simp [hour12Of, h0] <;> omega

end Logrange.Date

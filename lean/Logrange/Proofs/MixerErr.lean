import Logrange.Model.MixerErr
import Logrange.Proofs.Mixer
/-!
# The mixer never treats a failing source as an ended one

* `selectStateE_of_zero` — `selectStateE` from `st = 0`: the first source that is asked and fails ends it; otherwise it is
  `selectState` on the same answers. Everything else about `selectStateE` is read off this form.
* `selectStateE_noerr` — without errors `selectStateE` is `selectState` (the error model extends the proved model).
* `selectStateE_err1/2` — a source that answers a non-EOF error: the error is returned, `st` stays 0, the source's `eof` flag is
  not set (and the other source's flag is what it was).
* `getE_blocked` — tree level: while some source that the mixers would ask keeps failing, every `Get` of the tree fails; nothing
  is marked as ended on the way, so the next `Get` fails again — the tree never goes on to merge the remaining sources.
-/
namespace Logrange.Mixer

/-- an answer as the proved model sees it (an error has no counterpart there; it is never looked at) -/
def Res.toOption : Res → Option Ev
  | .ok e => some e
  | _ => none

theorem Res.toOption_ofOption (o : Option Ev) : (Res.ofOption o).toOption = o := by cases o <;> rfl

theorem Res.ofOption_toOption {r : Res} (h : r ≠ .err) : Res.ofOption r.toOption = r := by
  cases r <;> first | rfl | exact absurd rfl h

theorem Res.ofOption_ne_err (o : Option Ev) : Res.ofOption o ≠ .err := by
  cases o <;> exact Res.noConfusion

theorem MixSt.selectStateE_of_ne {α : Type} (m : MixSt) (a b : α) (ga gb : α × Res) (h : m.st ≠ 0) :
    m.selectStateE a b ga gb = (m, a, b, false) := if_pos h

theorem MixSt.selectStateE_of_zero {α : Type} (m : MixSt) (a b : α) (ga gb : α × Res) (h : m.st = 0) :
    m.selectStateE a b ga gb =
      if m.eof1 = false ∧ ga.2 = .err then ({ m with le1 := default }, ga.1, b, true)
      else if m.eof2 = false ∧ gb.2 = .err then
        ({ m.ask1 ga.2.toOption with le2 := default }, if m.eof1 then a else ga.1, gb.1, true)
      else ((m.selectState a b (ga.1, ga.2.toOption) (gb.1, gb.2.toOption)).1,
            (m.selectState a b (ga.1, ga.2.toOption) (gb.1, gb.2.toOption)).2.1,
            (m.selectState a b (ga.1, ga.2.toOption) (gb.1, gb.2.toOption)).2.2, false) := by
  rw [MixSt.selectState_of_zero _ _ _ _ _ h]
  unfold MixSt.selectStateE
  rw [if_neg (by rw [h]; exact fun c => c rfl)]
  -- on concrete flags and answers both sides compute; an error of the first source ends it before the second is looked at
  obtain ⟨st, e1, l1, e2, l2, bk⟩ := m
  obtain ⟨a', ra⟩ := ga
  obtain ⟨b', rb⟩ := gb
  cases e1
  · cases ra
    case err => rfl
    all_goals (cases e2; (cases rb <;> rfl); rfl)
  · cases e2
    · cases rb <;> rfl
    · rfl

theorem selectStateE_err1 {α : Type} (m : MixSt) (a b : α) (ga gb : α × Res)
    (h0 : m.st = 0) (he : m.eof1 = false) (hg : ga.2 = .err) :
    let t := m.selectStateE a b ga gb
    t.2.2.2 = true ∧ t.1.st = 0 ∧ t.1.eof1 = false ∧ t.1.eof2 = m.eof2 ∧ t.1.bkwd = m.bkwd ∧
    t.2.1 = ga.1 ∧ t.2.2.1 = b := by
  intro t
  have e : t = ({ m with le1 := default }, ga.1, b, true) := by
    rw [show t = _ from MixSt.selectStateE_of_zero m a b ga gb h0, if_pos ⟨he, hg⟩]
  rw [e]
  exact ⟨rfl, h0, he, rfl, rfl, rfl, rfl⟩

theorem selectStateE_err2 {α : Type} (m : MixSt) (a b : α) (ga gb : α × Res)
    (h0 : m.st = 0) (h1 : m.eof1 = true ∨ ga.2 ≠ .err) (he : m.eof2 = false) (hg : gb.2 = .err) :
    let t := m.selectStateE a b ga gb
    t.2.2.2 = true ∧ t.1.st = 0 ∧ t.1.eof2 = false ∧ t.1.bkwd = m.bkwd ∧ t.2.2.1 = gb.1 ∧
    (t.1.eof1 = true → m.eof1 = true ∨ ga.2 = .eof) := by
  intro t
  have n1 : ¬ (m.eof1 = false ∧ ga.2 = .err) := fun c => h1.elim (fun e => Bool.false_ne_true (c.1.symm.trans e)) (fun e => e c.2)
  have e : t = ({ m.ask1 ga.2.toOption with le2 := default }, if m.eof1 then a else ga.1, gb.1, true) := by
    rw [show t = _ from MixSt.selectStateE_of_zero m a b ga gb h0, if_neg n1, if_pos ⟨he, hg⟩]
  obtain ⟨r1, r2, r3, _⟩ := m.ask1_rest ga.2.toOption
  rw [e]
  refine ⟨rfl, r1.trans h0, r3.trans he, r2, rfl, fun h => ?_⟩
  -- the flag of the first source is set only by an `io.EOF` it answered
  have h' : (m.ask1 ga.2.toOption).eof1 = true := h
  unfold MixSt.ask1 at h'
  cases e1 : m.eof1
  · right
    rw [e1] at h'
    cases hr : ga.2 with
    | ok e => rw [hr] at h'; exact absurd (e1.symm.trans (show m.eof1 = true from h')) Bool.false_ne_true
    | eof => rfl
    | err => exact absurd ⟨e1, hr⟩ n1
  · exact Or.inl rfl

theorem selectStateE_flag {α : Type} (m : MixSt) (a b : α) (ga gb : α × Res)
    (h : (m.selectStateE a b ga gb).2.2.2 = true) :
    m.st = 0 ∧ ((m.eof1 = false ∧ ga.2 = .err) ∨ ((m.eof1 = true ∨ ga.2 ≠ .err) ∧ m.eof2 = false ∧ gb.2 = .err)) := by
  by_cases h0 : m.st = 0
  case neg => rw [MixSt.selectStateE_of_ne _ _ _ _ _ h0] at h; cases h
  refine ⟨h0, ?_⟩
  rw [MixSt.selectStateE_of_zero _ _ _ _ _ h0] at h
  by_cases c1 : m.eof1 = false ∧ ga.2 = .err
  · exact Or.inl c1
  · rw [if_neg c1] at h
    by_cases c2 : m.eof2 = false ∧ gb.2 = .err
    · refine Or.inr ⟨?_, c2⟩
      cases e1 : m.eof1
      · exact Or.inr fun e => c1 ⟨e1, e⟩
      · exact Or.inl rfl
    · rw [if_neg c2] at h; cases h

theorem selectStateE_noerr {α : Type} (m : MixSt) (a b : α) (a' b' : α) (oa ob : Option Ev) :
    m.selectStateE a b (a', Res.ofOption oa) (b', Res.ofOption ob) =
      ((m.selectState a b (a', oa) (b', ob)).1, (m.selectState a b (a', oa) (b', ob)).2.1,
       (m.selectState a b (a', oa) (b', ob)).2.2, false) := by
  by_cases h0 : m.st = 0
  case neg => rw [MixSt.selectStateE_of_ne _ _ _ _ _ h0, MixSt.selectState_of_ne _ _ _ _ _ h0]
  rw [MixSt.selectStateE_of_zero _ _ _ _ _ h0, if_neg fun c => Res.ofOption_ne_err oa c.2,
    if_neg fun c => Res.ofOption_ne_err ob c.2, Res.toOption_ofOption, Res.toOption_ofOption]

namespace It
variable {σ : Type} [SourceE σ]

/-- some source that the mixers would ask (every mixer above it has `st = 0` and has not marked it as ended) is in the set `P` -/
def Blocked (P : σ → Prop) : It σ → Prop
  | .leaf s => P s
  | .mix m a b => m.st = 0 ∧ ((m.eof1 = false ∧ a.Blocked P) ∨ (m.eof2 = false ∧ b.Blocked P))

/-- **a failing source blocks the tree and stays asked.** `P`: a set of source states in which `Get` fails with a non-EOF error
and leaves the source in the set (a record that cannot be read). If a source in `P` would be asked, `Get` of the tree answers
the error, and afterwards a source in `P` would still be asked: no mixer has marked anything as ended because of the error. -/
theorem getE_blocked (P : σ → Prop)
    (hP : ∀ s, P s → (SourceE.getE s).2 = .err ∧ P (SourceE.getE s).1)
    (it : It σ) (h : it.Blocked P) : it.getE.2 = .err ∧ it.getE.1.Blocked P := by
  induction it with
  | leaf s => exact hP s h
  | mix m a b iha ihb =>
    obtain ⟨h0, hb⟩ := h
    simp only [getE, Blocked]
    by_cases hea : m.eof1 = false ∧ a.getE.2 = .err
    · -- the first source is asked and fails
      obtain ⟨e1, e2, e3, e4, _, e6, e7⟩ := selectStateE_err1 m a b a.getE b.getE h0 hea.1 hea.2
      rw [e1, e6, e7]
      refine ⟨by simp, e2, ?_⟩
      rcases hb with ⟨_, ba⟩ | ⟨f2, bb⟩
      · exact Or.inl ⟨e3, (iha ba).2⟩
      · exact Or.inr ⟨by rw [e4]; exact f2, bb⟩
    · -- the first source is not asked or does not fail: then it is not the blocked one, the second is
      have hb2 : m.eof2 = false ∧ b.Blocked P := by
        rcases hb with ⟨f1, ba⟩ | hb2
        · exact absurd ⟨f1, (iha ba).1⟩ hea
        · exact hb2
      have h1 : m.eof1 = true ∨ a.getE.2 ≠ .err := by
        cases hm : m.eof1
        · right; intro he; exact hea ⟨hm, he⟩
        · left; rfl
      obtain ⟨e1, e2, e3, _, e5, _⟩ := selectStateE_err2 m a b a.getE b.getE h0 h1 hb2.1 (ihb hb2.2).1
      rw [e1, e5]
      exact ⟨by simp, e2, Or.inr ⟨e3, (ihb hb2.2).2⟩⟩

end It

/-- an unreadable record of the in-memory leaf that stays unreadable: the leaf stands on it and keeps failing -/
def LeafE.Stuck (s : LeafE) : Prop :=
  s.sticky = true ∧ s.l.clamp < s.l.les.length ∧ s.l.clamp ≥ 0 ∧ s.bad.contains s.l.clamp.toNat = true

theorem LeafE.clamp_idem (l : Leaf) : ({ l with idx := l.clamp } : Leaf).clamp = l.clamp := by
  unfold Leaf.clamp
  cases hb : l.bkwd <;> simp [hb] <;> split <;> (try split) <;> omega

theorem LeafE.getE_stuck (s : LeafE) (h : s.Stuck) :
    LeafE.getE s = ({ s with l := { s.l with idx := s.l.clamp } }, .err) := by
  unfold LeafE.getE
  rw [if_pos h.2, if_pos h.1]

theorem LeafE.stuck_getE (s : LeafE) (h : s.Stuck) : (SourceE.getE s).2 = .err ∧ (SourceE.getE s).1.Stuck := by
  show (LeafE.getE s).2 = .err ∧ (LeafE.getE s).1.Stuck
  rw [LeafE.getE_stuck s h]
  refine ⟨rfl, ?_⟩
  simp only [LeafE.Stuck, LeafE.clamp_idem]
  exact h

end Logrange.Mixer

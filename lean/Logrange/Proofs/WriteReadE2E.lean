import Logrange.Model.WriteReadE2E
import Logrange.Proofs.WireRT
import Logrange.Proofs.RdIterFwd
/-! # Lemmas for the end-to-end theorem of C01 (`Model/WriteReadE2E.lean`) -/
namespace Logrange.E2E
open Go Logrange.WireRT Logrange.JournalW Logrange.WriteLoopM

/-! ## the byte journal as C03's journal value -/

theorem sorted_of_ids {j : Rd.Journal} {cid n : Nat} (h : j.map (·.id) = List.range' cid n) : Rd.Sorted j :=
  List.pairwise_map.mp (h ▸ List.pairwise_lt_range')

theorem rdViewFrom_ids (cid off : Nat) (j : Journal) : (rdViewFrom cid off j).map (·.id) = List.range' cid j.length := by
  induction j generalizing cid off with
  | nil => rfl
  | cons x xs ih => simp only [rdViewFrom, List.map_cons, List.length_cons, List.range'_succ, ih]

theorem rdViewFrom_labels (cid off : Nat) (j : Journal) :
    (Rd.flat (rdViewFrom cid off j)).map (·.lbl) = List.range' off (readAll j).length := by
  induction j generalizing cid off with
  | nil => rfl
  | cons x xs ih =>
    have ih' := ih (cid + 1) (off + x.recs.length)
    simp only [Rd.flat, readAll] at ih' ⊢
    simp only [rdViewFrom, List.flatMap_cons, List.map_append, List.map_map, ih', List.length_append,
      ← List.range'_append_1, List.range'_eq_map_range (n := x.recs.length)]
    rfl

theorem flatIdx_head (j : Rd.Journal) : Rd.flatIdx j {} = 0 := by
  induction j with
  | nil => rfl
  | cons c cs ih =>
    simp only [Rd.flatIdx, ih]
    split
    · rename_i h; exact absurd h (Nat.not_lt_zero _)
    · split <;> simp

/-- **C03's iterator algebra, instantiated**: the un-ranged iterator drained from the head delivers every stored record of the
byte journal exactly once, in stored order -/
theorem iterLabels_eq (j : Journal) : iterLabels j = List.range (readAll j).length := by
  have hs : Rd.Sorted (rdView j) := sorted_of_ids (rdViewFrom_ids 1 0 j)
  have hlab := rdViewFrom_labels 1 0 j
  have hlen : (Rd.flat (rdView j)).length ≤ (readAll j).length :=
    Nat.le_of_eq ((List.length_map _).symm.trans ((congrArg List.length hlab).trans List.length_range'))
  rw [iterLabels, show Rd.setPos (rdView j) {} {} = {} from rfl,
    Rd.iter_enumerates (rdView j) {} (readAll j).length hs (by simp [Rd.WF]) rfl hlen,
    show Rd.effPos ({} : Rd.It) = {} from rfl, Rd.recordsFrom, flatIdx_head, List.drop_zero, rdView, hlab,
    List.range_eq_range']

/-! ## fetching and decoding -/

theorem fetchDecode_range' (maxRec : Nat) : ∀ (rest pre : List Bytes),
    fetchDecode maxRec (pre ++ rest) (List.range' pre.length rest.length) = decodeAll maxRec rest := by
  intro rest
  induction rest with
  | nil => intro pre; simp [fetchDecode, decodeAll]
  | cons r rs ih =>
    intro pre
    have hget : (pre ++ r :: rs)[pre.length]? = some r := by simp
    have hstep := ih (pre ++ [r])
    simp only [List.append_assoc, List.cons_append, List.nil_append, List.length_append, List.length_cons,
      List.length_nil, Nat.zero_add] at hstep
    simp only [List.length_cons, List.range'_succ, fetchDecode, hget, decodeAll]
    by_cases hl : r.length > maxRec
    · simp [hl]
    · simp only [hl, ↓reduceIte]
      cases hu : Event.unmarshal [] r with
      | ok p => obtain ⟨k, e⟩ := p; simp only [hstep]
      | err => rfl
      | panic => rfl

theorem fetchDecode_all (maxRec : Nat) (store : List Bytes) :
    fetchDecode maxRec store (List.range store.length) = decodeAll maxRec store := by
  have := fetchDecode_range' maxRec store []
  simpa [List.range_eq_range'] using this

/-! ## the query loop -/

theorem queryLoop_eq (asKV : Bytes → Bytes) (tagLine : Bytes)
    (h1 : Generated.C01.queryCacheRefreshOnAnyDifference = true) (h2 : Generated.C01.queryCacheKeepsCopy = true) :
    ∀ (es : List Event) (st : QCache),
    st.kvs = asKV st.flds → queryLoop asKV tagLine st es = es.map (returned asKV tagLine) := by
  intro es
  induction es with
  | nil => intro _ _; rfl
  | cons e es ih =>
    intro st hst
    have hc : cacheRefresh e st = decide (e.fields ≠ st.flds) := by simp [cacheRefresh, cacheDiffers, h1, h2]
    simp only [queryLoop, List.map_cons, hc]
    by_cases h : e.fields = st.flds
    · simp only [h, ne_eq, not_true_eq_false, decide_false, Bool.false_eq_true, ↓reduceIte]
      rw [ih st hst]
      simp [returned, hst, h]
    · simp only [ne_eq, h, not_false_eq_true, decide_true, ↓reduceIte]
      rw [ih ⟨e.fields, asKV e.fields⟩ rfl]
      simp [returned]

/-- every query starts with an empty cache -/
theorem queryLoop_fresh (asKV : Bytes → Bytes) (tagLine : Bytes) (hkv0 : asKV [] = []) (es : List Event) :
    queryLoop asKV tagLine {} es = es.map (returned asKV tagLine) :=
  queryLoop_eq asKV tagLine (by decide) (by decide) es {} hkv0.symm

/-! ## result pages -/

theorem decodeEvents_encode : ∀ (evs : List WEvent) (rest : Bytes), (∀ e ∈ evs, e.WF) →
    decodeEvents evs.length (encodeEvents evs ++ rest) = .ok evs := by
  intro evs
  induction evs with
  | nil => intro _ _; rfl
  | cons e es ih =>
    intro rest h
    simp only [List.length_cons, encodeEvents, decodeEvents, List.append_assoc]
    rw [decodeEvent_encode e _ (h e (by simp)), ]
    simp only [drop_encodeEvent]
    rw [ih rest (fun x hx => h x (by simp [hx]))]

theorem decodePage_encode (evs : List WEvent) (next : Bytes) (hn : evs.length < two32) (h : ∀ e ∈ evs, e.WF) :
    decodePage (encodePage evs next) = .ok evs := by
  unfold decodePage encodePage
  rw [Nat.mod_eq_of_lt hn, u32_be _ _ hn]
  simp only [drop_be]
  exact decodeEvents_encode evs next h

theorem pagesOf_flatten {α : Type} (lim : Nat) (hl : 1 ≤ lim) : ∀ (fuel : Nat) (l : List α), l.length ≤ fuel →
    (pagesOf lim fuel l).flatten = l := by
  intro fuel
  induction fuel with
  | zero => intro l h; cases l <;> simp_all [pagesOf]
  | succ f ih =>
    intro l h
    cases l with
    | nil => simp [pagesOf]
    | cons x xs =>
      simp only [pagesOf, List.flatten_cons]
      rw [ih ((x :: xs).drop lim) (by simp only [List.length_drop, List.length_cons] at h ⊢; omega)]
      exact List.take_append_drop lim (x :: xs)

theorem pagesOf_pages {α : Type} (lim : Nat) : ∀ (fuel : Nat) (l : List α), ∀ p ∈ pagesOf lim fuel l,
    p.length ≤ lim ∧ ∀ x ∈ p, x ∈ l := by
  intro fuel
  induction fuel with
  | zero => intro l p hp; simp [pagesOf] at hp
  | succ f ih =>
    intro l p hp
    cases l with
    | nil => simp [pagesOf] at hp
    | cons x xs =>
      simp only [pagesOf, List.mem_cons] at hp
      rcases hp with rfl | hp
      · exact ⟨by simp only [List.length_take]; omega, fun y hy => List.mem_of_mem_take hy⟩
      · obtain ⟨h1, h2⟩ := ih _ p hp
        exact ⟨h1, fun y hy => List.mem_of_mem_drop (h2 y hy)⟩

theorem clientPages_ok (next : Bytes) (env : Bytes → Bytes)
    (hfact : Generated.C01.pooledBuffersReleasedAfterLastUse = true) : ∀ (ps : List (List WEvent)),
    (∀ p ∈ ps, p.length < two32 ∧ ∀ e ∈ p, e.WF) → clientPages next env ps = some ps.flatten := by
  intro ps
  induction ps with
  | nil => intro _; rfl
  | cons p ps ih =>
    intro h
    obtain ⟨h1, h2⟩ := h p (by simp)
    simp only [clientPages, responseOnWire, hfact, ↓reduceIte, decodePage_encode p next h1 h2]
    rw [ih (fun q hq => h q (by simp [hq]))]
    simp

theorem clientRead_ok (lim : Nat) (next : Bytes) (env : Bytes → Bytes) (evs : List WEvent)
    (hfact : Generated.C01.pooledBuffersReleasedAfterLastUse = true)
    (hl : 1 ≤ lim) (hl2 : lim < two32) (h : ∀ e ∈ evs, e.WF) : clientRead lim next env evs = some evs := by
  unfold clientRead
  rw [clientPages_ok next env hfact]
  · rw [pagesOf_flatten lim hl evs.length evs (Nat.le_refl _)]
  · intro p hp
    obtain ⟨h1, h2⟩ := pagesOf_pages lim evs.length evs p hp
    exact ⟨by omega, fun e he => h e (h2 e he)⟩

theorem clientRead_returned (asKV : Bytes → Bytes) (tagLine next : Bytes) (env : Bytes → Bytes) (lim : Nat) (es : List Event)
    (hl : 1 ≤ lim) (hl2 : lim < two32) (hwf : ∀ e ∈ es, e.WF) (htl : Small tagLine) (hkv : ∀ e ∈ es, Small (asKV e.fields)) :
    clientRead lim next env (es.map (returned asKV tagLine)) = some (es.map (returned asKV tagLine)) := by
  apply clientRead_ok lim next env _ (by decide) hl hl2
  intro we hwe
  obtain ⟨e, he, rfl⟩ := List.mem_map.mp hwe
  exact ⟨(hwf e he).ts, (hwf e he).msg, htl, hkv e he⟩

/-! ## the strict decoder puts the write-level fields first -/

theorem strictLoop_shape (parseKV : Bytes → Option Bytes) (wf : Bytes) : ∀ (n : Nat) (rest : Bytes) (es : List Event),
    strictLoop parseKV wf n rest = some es →
    ∀ e ∈ es, ∃ (we : WEvent) (ef : Bytes), parseKV we.fields = some ef ∧ e = ⟨we.ts, we.msg, wf ++ ef⟩ := by
  intro n
  induction n with
  | zero => intro rest es h e he; obtain rfl := Option.some.inj h; exact absurd he List.not_mem_nil
  | succ n ih =>
    intro rest es h e he
    obtain ⟨k, we, ef, tl, _, hp, hs, rfl⟩ := strictLoop_succ_some h
    rcases List.mem_cons.mp he with rfl | he
    · exact ⟨we, ef, hp, rfl⟩
    · exact ih (rest.drop k) tl hs e he

/-! ## the LogEventIterator keeps nothing across calls -/

theorem leiGet_fresh (h : Generated.C01.leiKeepsNoEventAcrossCalls = true) (maxRec : Nat) (store : List Bytes) (l : Nat) :
    (leiGet maxRec store l {}).1 = {} := by
  unfold leiGet
  simp only [h, ↓reduceIte]
  split <;> rfl

end Logrange.E2E

import Logrange.Proofs.RdMergeN
import Logrange.Proofs.MixerJournal
import Logrange.Proofs.RdRngSource
import Logrange.Proofs.RdPaging
/-!
Instances of `Proofs/RdMergeN.lean` for the two journal iterators as leaves: the library iterator (`JSrc`, un-ranged queries)
and the ranged iterator (`RSrc`, queries with RANGE). The leaf invariant is "well formed, forward, reported position in sync
with the chunk iterator" (what `St … sy = true` is for one partition in `RdPaging.lean`); a new leaf from an exported position
is a fresh iterator positioned by `SetPos`.
-/
set_option linter.unusedVariables false
namespace Logrange.MergeN
open Logrange.Mixer Logrange.Rd

/-! ## library iterator -/

def PJ (s : JSrc) : Prop := JSrc.wf s ∧ s.it.bkwd = false ∧ Synced s.it
/-- `newCursor` + `applyStatePos` for this partition: a fresh iterator at the exported position -/
def refreshJ (s : JSrc) : JSrc := { s with it := Rd.setPos s.j {} s.it.pos }

theorem pj_get (s : JSrc) (h : PJ s) : PJ (Source.get s).1 := by
  obtain ⟨⟨hs, hp, hb, hw⟩, hd, hsy⟩ := h
  obtain ⟨_, g2, g3, _, g5, _⟩ := getFwd s.j s.it hs hw hd
  exact ⟨⟨hs, hp, hb, g2⟩, g3, g5 hsy⟩

theorem pj_next (s : JSrc) (h : PJ s) : PJ (Source.next s) := by
  obtain ⟨⟨hs, hp, hb, hw⟩, hd, hsy⟩ := h
  obtain ⟨n1, n2, n3, _⟩ := nextFwd s.j s.it hs hw hd
  exact ⟨⟨hs, hp, hb, n1⟩, n2, n3⟩

theorem pj_release (s : JSrc) (h : PJ s) : PJ (Source.release s) := by
  obtain ⟨⟨hs, hp, hb, hw⟩, hd, hsy⟩ := h
  obtain ⟨r1, _, r3, r4, _⟩ := pg_release_facts s.j s.it
  exact ⟨⟨hs, hp, hb, r1 hw⟩, by show (Rd.release s.it).bkwd = false; rw [r3, hd], r4 hsy⟩

theorem pj_refresh (s : JSrc) (h : PJ s) :
    PJ (refreshJ s) ∧ LawfulSource.wf (refreshJ s) ∧ LawfulSource.dir (refreshJ s) = false ∧
    LawfulSource.view (refreshJ s) = LawfulSource.view s := by
  obtain ⟨⟨hs, hp, hb, hw⟩, hd, hsy⟩ := h
  obtain ⟨f1, f2, f3⟩ := setPos_fresh s.j s.it.pos
  have hwf : JSrc.wf (refreshJ s) := ⟨hs, hp, hb, by show WF s.j (Rd.setPos s.j {} s.it.pos); unfold WF; rw [f1]; trivial⟩
  have hsyn : Synced (refreshJ s).it := by show Synced (Rd.setPos s.j {} s.it.pos); unfold Synced; rw [f1]; trivial
  refine ⟨⟨hwf, f3, hsyn⟩, hwf, f3, ?_⟩
  show JSrc.view (refreshJ s) = JSrc.view s
  have e1 : fIdx s.j (Rd.setPos s.j {} s.it.pos) = fIdx s.j s.it := by
    unfold fIdx
    rw [effPos_eq_pos hw hsy]
    unfold effPos; rw [f1]; simp [f2]
  simp only [JSrc.view, refreshJ, f3, hd, Bool.false_eq_true, if_false, e1]
  rfl

theorem built_J (srcs : List JSrc) (hne : srcs ≠ [])
    (hg : ∀ s ∈ srcs, (Sorted s.j ∧ PosIds s.j ∧ bw_ChunkBound s.j) ∧ s.it = {}) :
    ∃ t, MixTree.build srcs = some t ∧ InvN PJ t ∧ t.view.Perm (srcs.flatMap JSrc.all) ∧
      ∀ s ∈ srcs, s.all.Sublist t.view := by
  refine built_fresh PJ refreshJ pj_get pj_next pj_release pj_refresh JSrc.all srcs hne ?_ ?_
  · intro s hs
    obtain ⟨⟨_, hp, _⟩, hi⟩ := hg s hs
    obtain ⟨tags, j, it⟩ := s
    simp only at hi hp; subst hi
    exact JSrc.view_head tags j hp
  · intro s hs
    obtain ⟨⟨h1, h2, h3⟩, hi⟩ := hg s hs
    have hw : JSrc.wf s := ⟨h1, h2, h3, by rw [hi]; simp [Rd.WF]⟩
    exact ⟨⟨hw, by rw [hi], by rw [hi]; simp [Synced]⟩, hw, by show s.it.bkwd = false; rw [hi]⟩

/-! ## ranged iterator -/

def PR (s : RSrc) : Prop := RSrc.wf s ∧ s.it.bkwd = false ∧ RSynced s.it
def refreshR (s : RSrc) : RSrc := { s with it := Rd.rSetPos s.j {} s.it.pos }

theorem pr_get (s : RSrc) (h : PR s) : PR (Source.get s).1 := by
  obtain ⟨⟨hs, hp, hb, hw⟩, hd, hsy⟩ := h
  obtain ⟨_, g2, g3, _, g5, _⟩ := rGetFwd s.j s.it hs hw hd
  exact ⟨⟨hs, hp, hb, g2⟩, g3, g5 hsy⟩

theorem pr_next (s : RSrc) (h : PR s) : PR (Source.next s) := by
  obtain ⟨⟨hs, hp, hb, hw⟩, hd, hsy⟩ := h
  obtain ⟨n1, n2, n3, _⟩ := rNextFwd s.j s.it hs hw hd
  exact ⟨⟨hs, hp, hb, n1⟩, n2, n3⟩

theorem pr_release (s : RSrc) (h : PR s) : PR (Source.release s) := by
  obtain ⟨⟨hs, hp, hb, hw⟩, hd, hsy⟩ := h
  obtain ⟨r1, _, r3, r4, _, _⟩ := rw_release_facts s.j s.it
  exact ⟨⟨hs, hp, hb, r1 hw⟩, by show (Rd.rRelease s.it).bkwd = false; rw [r3, hd], r4 hsy⟩

theorem pr_refresh (s : RSrc) (h : PR s) :
    PR (refreshR s) ∧ LawfulSource.wf (refreshR s) ∧ LawfulSource.dir (refreshR s) = false ∧
    LawfulSource.view (refreshR s) = LawfulSource.view s := by
  obtain ⟨⟨hs, hp, hb, hw⟩, hd, hsy⟩ := h
  obtain ⟨f1, f2, f3, f4⟩ := rw_setPos_fresh s.j s.it.pos
  have hwf : RSrc.wf (refreshR s) :=
    ⟨hs, hp, hb, by show RWF s.j (Rd.rSetPos s.j {} s.it.pos); unfold RWF; rw [f1]; exact Or.inl f4⟩
  have hsyn : RSynced (refreshR s).it := by show RSynced (Rd.rSetPos s.j {} s.it.pos); unfold RSynced; rw [f1]; trivial
  refine ⟨⟨hwf, f3, hsyn⟩, hwf, f3, ?_⟩
  show RSrc.view (refreshR s) = RSrc.view s
  have e1 : wIdx s.j (Rd.rSetPos s.j {} s.it.pos) = wIdx s.j s.it := by
    unfold wIdx
    rw [rw_effPos_eq_pos hw hsy]
    unfold rEffPos; rw [f1]; simp [f2]
  simp only [RSrc.view, refreshR, f3, hd, Bool.false_eq_true, if_false, e1]
  rfl

theorem built_R (srcs : List RSrc) (hne : srcs ≠ [])
    (hg : ∀ s ∈ srcs, (Sorted s.j ∧ PosIds s.j ∧ bw_ChunkBound s.j) ∧ s.it = {}) :
    ∃ t, MixTree.build srcs = some t ∧ InvN PR t ∧ t.view.Perm (srcs.flatMap RSrc.all) ∧
      ∀ s ∈ srcs, s.all.Sublist t.view := by
  refine built_fresh PR refreshR pr_get pr_next pr_release pr_refresh RSrc.all srcs hne ?_ ?_
  · intro s hs
    obtain ⟨_, hi⟩ := hg s hs
    obtain ⟨tags, j, it⟩ := s
    simp only at hi; subst hi
    exact RSrc.view_head tags j
  · intro s hs
    obtain ⟨⟨h1, h2, h3⟩, hi⟩ := hg s hs
    have hw : RSrc.wf s := ⟨h1, h2, h3, by rw [hi]; simp [RWF, RStats]⟩
    exact ⟨⟨hw, by rw [hi], by rw [hi]; simp [RSynced]⟩, hw, by show s.it.bkwd = false; rw [hi]⟩

end Logrange.MergeN

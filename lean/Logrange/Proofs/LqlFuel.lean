import Logrange.Proofs.LqlEngineTop
/-!
# C12: the fuel of the direct LQL parsers always suffices, and the AST they return is small

* Part B (first, because the remainder lemmas follow from it): every direct parser returns an AST whose conversion
  measure (`cvIdent`/`cvExpr`/…, the fuel of the Val→AST conversion in `Proofs/LqlEngineTop.lean`) is bounded by the
  number of tokens it consumed: 2 units per token for identifiers, 3 per token for expressions
  (`dExpr_cv3 : cvExpr e + 3·|r| ≤ 3·|toks|`), hence `directExpr_cv : cvExpr e ≤ 8·|toks| + 50`.
* Part A.1: remainders are shorter than the input (strictly for the non-list parsers).
* Part A.2: fuel independence: with rank constants `4·|toks| + k` (k = 1 for `dIdent`, `dIdentTail`, `dCond`,
  `dAndTail`, `dOrTail`; 2 `dXBody`; 3 `dX`; 4 `dOr`; 5 `dExpr`) every recursive call goes to a strictly smaller
  bound, so two fuels above the bound give the same result (simultaneous induction on one of the fuels). As
  `directFuel toks = 4·|toks| + 16` dominates every rank and statement parsers hand their fuel only to suffixes of their
  input, `directLqlFuel dp f toks` does not depend on `f` once `directFuel toks ≤ f`.
* Corollaries: `directLql dp (toksLql rd l) = some l` and `directExpr (toksExpr e) = some e` at the *fixed* fuel the
  models use.
-/
namespace Logrange.Lql

/-! ## Part B: conversion measure vs consumed tokens -/

theorem ident_cv_all : ∀ f : Nat,
    (∀ toks i r, dIdent f toks = some (i, r) → cvIdent i + 2 * r.length ≤ 2 * toks.length) ∧
    (∀ toks is r, dIdentTail f toks = some (is, r) → cvIdents is + 2 * r.length ≤ 2 * toks.length + 1) := by
  intro f
  induction f using Nat.strongRecOn with
  | ind f ih =>
  constructor
  · intro toks i r
    -- one goal per branch of the parser, with the call replaced by what the branch returns; the branches that
    -- return `none` are closed together at the end
    fun_cases dIdent f toks
    case case3 f tk _ p rest' _ i1 r1 h1 is q r3 h2 _ =>
      intro h; cases h
      have a := (ih f (Nat.lt_succ_self f)).1 _ _ _ h1
      have b := (ih f (Nat.lt_succ_self f)).2 _ _ _ h2
      simp only [cvIdent, cvIdents, List.length_cons] at *; omega
    case case7 | case8 =>
      intro h; cases h
      simp only [cvIdent, cvIdents, List.length_cons, List.length_nil]; omega
    all_goals exact fun h => nomatch h
  · intro toks is r
    fun_cases dIdentTail f toks
    case case3 f tk rest _ i1 r1 h1 is r2 h2 =>
      intro h; cases h
      have a := (ih f (Nat.lt_succ_self f)).1 _ _ _ h1
      have b := (ih f (Nat.lt_succ_self f)).2 _ _ _ h2
      simp only [cvIdents, List.length_cons] at *; omega
    case case2 | case6 =>
      intro h; cases h
      simp only [cvIdents, List.length_cons, List.length_nil]; omega
    all_goals exact fun h => nomatch h

theorem dIdent_cv {f : Nat} {toks : List Tok} {i : Ident} {r : List Tok} (h : dIdent f toks = some (i, r)) :
    cvIdent i + 2 * r.length ≤ 2 * toks.length := (ident_cv_all f).1 toks i r h
theorem dIdentTail_cv {f : Nat} {toks : List Tok} {is : IdentList} {r : List Tok} (h : dIdentTail f toks = some (is, r)) :
    cvIdents is + 2 * r.length ≤ 2 * toks.length + 1 := (ident_cv_all f).2 toks is r h

theorem cvIdent_pos (i : Ident) : 1 ≤ cvIdent i := by
  cases i with
  | mk op ps => simp only [cvIdent]; omega
theorem cvExpr_pos (e : Expr) : 1 ≤ cvExpr e := by
  cases e with
  | mk ors => simp only [cvExpr]; omega

theorem dCond_cv {f : Nat} {toks : List Tok} {c : Cond} {r : List Tok} (h : dCond f toks = some (c, r)) :
    cvIdent c.ident + 2 * r.length + 4 ≤ 2 * toks.length := by
  revert h
  fun_cases dCond f toks
  case case1 i o v rest h1 _ =>
    intro h; cases h
    have a := dIdent_cv h1
    simp only [List.length_cons] at a ⊢; omega
  all_goals exact fun h => nomatch h

theorem expr_cv_all : ∀ f : Nat,
    (∀ toks e r, dExpr f toks = some (e, r) → cvExpr e + 3 * r.length ≤ 3 * toks.length) ∧
    (∀ toks os r, dOrTail f toks = some (os, r) → cvOrs os + 3 * r.length ≤ 3 * toks.length + 1) ∧
    (∀ toks o r, dOr f toks = some (o, r) → cvOr o + 3 * r.length + 3 ≤ 3 * toks.length) ∧
    (∀ toks xs r, dAndTail f toks = some (xs, r) → cvXs xs + 3 * r.length ≤ 3 * toks.length + 1) ∧
    (∀ toks x r, dX f toks = some (x, r) → cvX x + 3 * r.length + 5 ≤ 3 * toks.length) ∧
    (∀ neg toks x r, dXBody f neg toks = some (x, r) → cvX x + 3 * r.length + 5 ≤ 3 * toks.length) := by
  intro f
  induction f using Nat.strongRecOn with
  | ind f ih =>
  refine ⟨?_, ?_, ?_, ?_, ?_, ?_⟩
  · intro toks e r
    fun_cases dExpr f toks
    case case2 f o r1 os r2 h2 h1 =>
      intro h; cases h
      have a := (ih f (Nat.lt_succ_self f)).2.2.1 _ _ _ h1
      have b := (ih f (Nat.lt_succ_self f)).2.1 _ _ _ h2
      simp only [cvExpr, cvOrs] at *; omega
    all_goals exact fun h => nomatch h
  · intro toks os r
    fun_cases dOrTail f toks
    case case3 f t rr _ o r1 h1 os r2 h2 =>
      intro h; cases h
      have a := (ih f (Nat.lt_succ_self f)).2.2.1 _ _ _ h1
      have b := (ih f (Nat.lt_succ_self f)).2.1 _ _ _ h2
      simp only [cvOrs, List.length_cons] at *; omega
    case case2 | case6 =>
      intro h; cases h
      simp only [cvOrs, List.length_cons, List.length_nil]; omega
    all_goals exact fun h => nomatch h
  · intro toks o r
    fun_cases dOr f toks
    case case2 f x r1 xs r2 h2 h1 =>
      intro h; cases h
      have a := (ih f (Nat.lt_succ_self f)).2.2.2.2.1 _ _ _ h1
      have b := (ih f (Nat.lt_succ_self f)).2.2.2.1 _ _ _ h2
      simp only [cvOr, cvXs] at *; omega
    all_goals exact fun h => nomatch h
  · intro toks xs r
    fun_cases dAndTail f toks
    case case3 f t rr _ x r1 h1 xs r2 h2 =>
      intro h; cases h
      have a := (ih f (Nat.lt_succ_self f)).2.2.2.2.1 _ _ _ h1
      have b := (ih f (Nat.lt_succ_self f)).2.2.2.1 _ _ _ h2
      simp only [cvXs, List.length_cons] at *; omega
    case case2 | case6 =>
      intro h; cases h
      simp only [cvXs, List.length_cons, List.length_nil]; omega
    all_goals exact fun h => nomatch h
  · intro toks x r
    fun_cases dX f toks
    case case3 f t rr _ =>
      intro h
      have a := (ih f (Nat.lt_succ_self f)).2.2.2.2.2 _ _ _ _ h
      simp only [List.length_cons]; omega
    case case4 f t rr _ => exact (ih f (Nat.lt_succ_self f)).2.2.2.2.2 _ _ _ _
    all_goals exact fun h => nomatch h
  · intro neg toks x r
    fun_cases dXBody f neg toks
    case case3 f t rr _ c r1 h1 =>
      intro h; cases h
      have a := dCond_cv h1
      simp only [cvX, List.length_cons] at *; omega
    case case5 f t rr _ _ e q r2 h1 _ =>
      intro h; cases h
      have a := (ih f (Nat.lt_succ_self f)).1 _ _ _ h1
      simp only [cvX, List.length_cons] at *; omega
    all_goals exact fun h => nomatch h

/-- the tight form: three units per consumed token -/
theorem dExpr_cv3 {f : Nat} {toks : List Tok} {e : Expr} {r : List Tok} (h : dExpr f toks = some (e, r)) :
    cvExpr e + 3 * r.length ≤ 3 * toks.length := (expr_cv_all f).1 toks e r h
theorem dOrTail_cv {f : Nat} {toks : List Tok} {os : OrList} {r : List Tok} (h : dOrTail f toks = some (os, r)) :
    cvOrs os + 3 * r.length ≤ 3 * toks.length + 1 := (expr_cv_all f).2.1 toks os r h
theorem dOr_cv {f : Nat} {toks : List Tok} {o : OrCond} {r : List Tok} (h : dOr f toks = some (o, r)) :
    cvOr o + 3 * r.length + 3 ≤ 3 * toks.length := (expr_cv_all f).2.2.1 toks o r h
theorem dAndTail_cv {f : Nat} {toks : List Tok} {xs : XList} {r : List Tok} (h : dAndTail f toks = some (xs, r)) :
    cvXs xs + 3 * r.length ≤ 3 * toks.length + 1 := (expr_cv_all f).2.2.2.1 toks xs r h
theorem dX_cv {f : Nat} {toks : List Tok} {x : XCond} {r : List Tok} (h : dX f toks = some (x, r)) :
    cvX x + 3 * r.length + 5 ≤ 3 * toks.length := (expr_cv_all f).2.2.2.2.1 toks x r h
theorem dXBody_cv {f : Nat} {neg : Bool} {toks : List Tok} {x : XCond} {r : List Tok} (h : dXBody f neg toks = some (x, r)) :
    cvX x + 3 * r.length + 5 ≤ 3 * toks.length := (expr_cv_all f).2.2.2.2.2 neg toks x r h

theorem dExpr_cv {f : Nat} {toks : List Tok} {e : Expr} {r : List Tok} (h : dExpr f toks = some (e, r)) :
    cvExpr e + 8 * r.length ≤ 8 * toks.length + 8 := by
  have a := dExpr_cv3 h
  omega

/-! ## remainders -/

theorem dIdent_rest_lt {f : Nat} {toks : List Tok} {i : Ident} {r : List Tok} (h : dIdent f toks = some (i, r)) :
    r.length < toks.length := by
  have a := dIdent_cv h
  have b := cvIdent_pos i
  omega
theorem dIdentTail_rest_le {f : Nat} {toks : List Tok} {is : IdentList} {r : List Tok} (h : dIdentTail f toks = some (is, r)) :
    r.length ≤ toks.length := by
  have a := dIdentTail_cv h
  omega
theorem dCond_rest_lt {f : Nat} {toks : List Tok} {c : Cond} {r : List Tok} (h : dCond f toks = some (c, r)) :
    r.length < toks.length := by
  have a := dCond_cv h
  omega
theorem dExpr_rest_lt {f : Nat} {toks : List Tok} {e : Expr} {r : List Tok} (h : dExpr f toks = some (e, r)) :
    r.length < toks.length := by
  have a := dExpr_cv3 h
  have b := cvExpr_pos e
  omega
theorem dOrTail_rest_le {f : Nat} {toks : List Tok} {os : OrList} {r : List Tok} (h : dOrTail f toks = some (os, r)) :
    r.length ≤ toks.length := by
  have a := dOrTail_cv h
  omega
theorem dOr_rest_lt {f : Nat} {toks : List Tok} {o : OrCond} {r : List Tok} (h : dOr f toks = some (o, r)) :
    r.length < toks.length := by
  have a := dOr_cv h
  omega
theorem dAndTail_rest_le {f : Nat} {toks : List Tok} {xs : XList} {r : List Tok} (h : dAndTail f toks = some (xs, r)) :
    r.length ≤ toks.length := by
  have a := dAndTail_cv h
  omega
theorem dX_rest_lt {f : Nat} {toks : List Tok} {x : XCond} {r : List Tok} (h : dX f toks = some (x, r)) :
    r.length < toks.length := by
  have a := dX_cv h
  omega
theorem dXBody_rest_lt {f : Nat} {neg : Bool} {toks : List Tok} {x : XCond} {r : List Tok}
    (h : dXBody f neg toks = some (x, r)) : r.length < toks.length := by
  have a := dXBody_cv h
  omega
theorem dSource_rest_lt {f : Nat} {toks : List Tok} {s : Source} {r : List Tok} (h : dSource f toks = some (s, r)) :
    r.length < toks.length := by
  revert h
  fun_cases dSource f toks
  case case2 t r _ => cases KV.tagParse t.v <;> intro h <;> cases h; simp
  case case3 t r _ =>
    cases h1 : dExpr f (t :: r) with
    | none => exact fun h => nomatch h
    | some p => intro h; cases h; exact dExpr_rest_lt h1
  all_goals exact fun h => nomatch h

/-! ## fuel independence (expression level) -/

theorem ident_indep_all : ∀ f : Nat,
    (∀ f' toks, 4 * toks.length + 1 ≤ f → 4 * toks.length + 1 ≤ f' → dIdent f toks = dIdent f' toks) ∧
    (∀ f' toks, 4 * toks.length + 1 ≤ f → 4 * toks.length + 1 ≤ f' → dIdentTail f toks = dIdentTail f' toks) := by
  intro f
  induction f with
  | zero => constructor <;> intro f' toks h _ <;> omega
  | succ f ih =>
    obtain ⟨ihI, ihT⟩ := ih
    constructor
    · intro f' toks hf hf'
      obtain ⟨g, rfl⟩ : ∃ g, f' = g + 1 := ⟨f' - 1, by omega⟩
      cases toks with
      | nil => simp [dIdent]
      | cons tk rest =>
        cases rest with
        | nil => simp [dIdent]
        | cons p rest' =>
          simp only [List.length_cons] at hf hf'
          simp only [dIdent]
          rw [ihI g rest' (by omega) (by omega)]
          cases h1 : dIdent g rest' with
          | none => rfl
          | some pr =>
            obtain ⟨i1, r1⟩ := pr
            have l1 := dIdent_rest_lt h1
            simp only []
            rw [ihT g r1 (by omega) (by omega)]
    · intro f' toks hf hf'
      obtain ⟨g, rfl⟩ : ∃ g, f' = g + 1 := ⟨f' - 1, by omega⟩
      cases toks with
      | nil => simp [dIdentTail]
      | cons c rest =>
        simp only [List.length_cons] at hf hf'
        simp only [dIdentTail]
        rw [ihI g rest (by omega) (by omega)]
        cases h1 : dIdent g rest with
        | none => rfl
        | some pr =>
          obtain ⟨i1, r1⟩ := pr
          have l1 := dIdent_rest_lt h1
          simp only []
          rw [ihT g r1 (by omega) (by omega)]


theorem dCond_indep {f f' : Nat} {toks : List Tok} (h : 4 * toks.length + 1 ≤ f) (h' : 4 * toks.length + 1 ≤ f') :
    dCond f toks = dCond f' toks := by
  simp only [dCond]
  rw [(ident_indep_all f).1 f' toks h h']

theorem expr_indep_all : ∀ f : Nat,
    (∀ f' toks, 4 * toks.length + 5 ≤ f → 4 * toks.length + 5 ≤ f' → dExpr f toks = dExpr f' toks) ∧
    (∀ f' toks, 4 * toks.length + 1 ≤ f → 4 * toks.length + 1 ≤ f' → dOrTail f toks = dOrTail f' toks) ∧
    (∀ f' toks, 4 * toks.length + 4 ≤ f → 4 * toks.length + 4 ≤ f' → dOr f toks = dOr f' toks) ∧
    (∀ f' toks, 4 * toks.length + 1 ≤ f → 4 * toks.length + 1 ≤ f' → dAndTail f toks = dAndTail f' toks) ∧
    (∀ f' toks, 4 * toks.length + 3 ≤ f → 4 * toks.length + 3 ≤ f' → dX f toks = dX f' toks) ∧
    (∀ f' neg toks, 4 * toks.length + 2 ≤ f → 4 * toks.length + 2 ≤ f' → dXBody f neg toks = dXBody f' neg toks) := by
  intro f
  induction f with
  | zero => refine ⟨?_, ?_, ?_, ?_, ?_, ?_⟩ <;> intros <;> omega
  | succ f ih =>
    obtain ⟨ihE, ihOT, ihO, ihAT, ihX, ihXB⟩ := ih
    refine ⟨?_, ?_, ?_, ?_, ?_, ?_⟩
    · intro f' toks hf hf'
      obtain ⟨g, rfl⟩ : ∃ g, f' = g + 1 := ⟨f' - 1, by omega⟩
      simp only [dExpr]
      rw [ihO g toks (by omega) (by omega)]
      cases h1 : dOr g toks with
      | none => rfl
      | some pr =>
        obtain ⟨o, r1⟩ := pr
        have l1 := dOr_rest_lt h1
        simp only []
        rw [ihOT g r1 (by omega) (by omega)]
    · intro f' toks hf hf'
      obtain ⟨g, rfl⟩ : ∃ g, f' = g + 1 := ⟨f' - 1, by omega⟩
      cases toks with
      | nil => simp [dOrTail]
      | cons t rr =>
        simp only [List.length_cons] at hf hf'
        simp only [dOrTail]
        rw [ihO g rr (by omega) (by omega)]
        cases h1 : dOr g rr with
        | none => rfl
        | some pr =>
          obtain ⟨o, r1⟩ := pr
          have l1 := dOr_rest_lt h1
          simp only []
          rw [ihOT g r1 (by omega) (by omega)]
    · intro f' toks hf hf'
      obtain ⟨g, rfl⟩ : ∃ g, f' = g + 1 := ⟨f' - 1, by omega⟩
      simp only [dOr]
      rw [ihX g toks (by omega) (by omega)]
      cases h1 : dX g toks with
      | none => rfl
      | some pr =>
        obtain ⟨x, r1⟩ := pr
        have l1 := dX_rest_lt h1
        simp only []
        rw [ihAT g r1 (by omega) (by omega)]
    · intro f' toks hf hf'
      obtain ⟨g, rfl⟩ : ∃ g, f' = g + 1 := ⟨f' - 1, by omega⟩
      cases toks with
      | nil => simp [dAndTail]
      | cons t rr =>
        simp only [List.length_cons] at hf hf'
        simp only [dAndTail]
        rw [ihX g rr (by omega) (by omega)]
        cases h1 : dX g rr with
        | none => rfl
        | some pr =>
          obtain ⟨x, r1⟩ := pr
          have l1 := dX_rest_lt h1
          simp only []
          rw [ihAT g r1 (by omega) (by omega)]
    · intro f' toks hf hf'
      obtain ⟨g, rfl⟩ : ∃ g, f' = g + 1 := ⟨f' - 1, by omega⟩
      cases toks with
      | nil => simp [dX]
      | cons t rr =>
        simp only [List.length_cons] at hf hf'
        simp only [dX]
        rw [ihXB g true rr (by omega) (by omega), ihXB g false (t :: rr) (by simp only [List.length_cons]; omega)
          (by simp only [List.length_cons]; omega)]
    · intro f' neg toks hf hf'
      obtain ⟨g, rfl⟩ : ∃ g, f' = g + 1 := ⟨f' - 1, by omega⟩
      cases toks with
      | nil => simp [dXBody]
      | cons t rr =>
        simp only [List.length_cons] at hf hf'
        simp only [dXBody]
        rw [ihE g rr (by omega) (by omega),
          dCond_indep (f := f) (f' := g) (toks := t :: rr) (by simp only [List.length_cons]; omega)
            (by simp only [List.length_cons]; omega)]


theorem dIdent_fuel_indep (toks : List Tok) (f f' : Nat) (h : directFuel toks ≤ f) (h' : directFuel toks ≤ f') :
    dIdent f toks = dIdent f' toks := by
  simp only [directFuel] at h h'
  exact (ident_indep_all f).1 f' toks (by omega) (by omega)

theorem dCond_fuel_indep (toks : List Tok) (f f' : Nat) (h : directFuel toks ≤ f) (h' : directFuel toks ≤ f') :
    dCond f toks = dCond f' toks := by
  simp only [directFuel] at h h'
  exact dCond_indep (by omega) (by omega)

theorem dExpr_fuel_indep (toks : List Tok) (f f' : Nat) (h : directFuel toks ≤ f) (h' : directFuel toks ≤ f') :
    dExpr f toks = dExpr f' toks := by
  simp only [directFuel] at h h'
  exact (expr_indep_all f).1 f' toks (by omega) (by omega)

theorem dSource_fuel_indep (toks : List Tok) (f f' : Nat) (h : directFuel toks ≤ f) (h' : directFuel toks ≤ f') :
    dSource f toks = dSource f' toks := by
  cases toks with
  | nil => simp [dSource]
  | cons t r =>
    simp only [dSource]
    rw [dExpr_fuel_indep (t :: r) f f' h h']

theorem dOptSource_fuel_indep (toks : List Tok) (f f' : Nat) (h : directFuel toks ≤ f) (h' : directFuel toks ≤ f') :
    dOptSource f toks = dOptSource f' toks := by
  cases toks with
  | nil => simp [dOptSource]
  | cons t r =>
    simp only [dOptSource]
    rw [dExpr_fuel_indep (t :: r) f f' h h']

/-! ## statement level -/

theorem directFuel_mono {r toks : List Tok} (h : r.length ≤ toks.length) : directFuel r ≤ directFuel toks := by
  simp only [directFuel]; omega

theorem directFuel_tail {q r : List Tok} {t : Tok} {f : Nat} (hq : q.length ≤ r.length) (h : directFuel (t :: r) ≤ f) :
    directFuel q ≤ f :=
  Nat.le_trans (directFuel_mono (toks := t :: r) (Nat.le_succ_of_le hq)) h

theorem dKwClause_congr {α : Type} (kw : Bytes) (b b' : List Tok → Option (α × List Tok)) (n : Nat)
    (hb : ∀ r, r.length ≤ n → b r = b' r) (toks : List Tok) (hn : toks.length ≤ n) :
    dKwClause kw b toks = dKwClause kw b' toks := by
  cases toks with
  | nil => simp [dKwClause]
  | cons t r =>
    simp only [List.length_cons] at hn
    simp only [dKwClause]
    rw [hb r (by omega)]

theorem dKwClause_rest_le {α : Type} (kw : Bytes) (b : List Tok → Option (α × List Tok))
    (hb : ∀ r a r', b r = some (a, r') → r'.length ≤ r.length) {toks : List Tok} {a : Option α} {r' : List Tok}
    (h : dKwClause kw b toks = some (a, r')) : r'.length ≤ toks.length := by
  revert h
  fun_cases dKwClause kw b toks
  case case2 t r _ x r1 h1 => intro h; cases h; exact Nat.le_succ_of_le (hb _ _ _ h1)
  all_goals intro h; cases h
  all_goals simp

theorem dOptFormat_rest_le (toks : List Tok) : (dOptFormat toks).2.length ≤ toks.length := by
  cases toks with
  | nil => simp [dOptFormat]
  | cons t r =>
    simp only [dOptFormat]
    split <;> simp

theorem dOptLit_rest_le (kw : Bytes) (toks : List Tok) : (dOptLit kw toks).2.length ≤ toks.length := by
  cases toks with
  | nil => simp [dOptLit]
  | cons t r =>
    simp only [dOptLit]
    split <;> simp

theorem dDryRun_rest_le (toks : List Tok) : (dDryRun toks).2.length ≤ toks.length := by
  cases toks with
  | nil => simp [dDryRun]
  | cons t r =>
    simp only [dDryRun]
    split <;> simp

theorem dOptDate_rest_le (dp : Bytes → Option Int) {toks : List Tok} {a : Option Int} {r' : List Tok}
    (h : dOptDate dp toks = some (a, r')) : r'.length ≤ toks.length := by
  revert h
  fun_cases dOptDate dp toks
  all_goals intro h; cases h
  all_goals simp

theorem dRangeTail_rest_le (dp : Bytes → Option Int) {toks : List Tok} {a : Option Int} {r' : List Tok}
    (h : dRangeTail dp toks = some (a, r')) : r'.length ≤ toks.length := by
  revert h
  fun_cases dRangeTail dp toks
  all_goals intro h; cases h
  all_goals simp only [List.length_cons, List.length_nil]; omega

theorem dRangeBody_rest_le (dp : Bytes → Option Int) (toks : List Tok) (a : Range) (r' : List Tok)
    (h : dRangeBody dp toks = some (a, r')) : r'.length ≤ toks.length := by
  revert h
  fun_cases dRangeBody dp toks
  case case5 p1 t2 h1 p2 t3 h2 _ _ =>
    intro h; cases h
    have l0 := dOptLit_rest_le kwLBR toks
    have l1 := dOptDate_rest_le dp h1
    have l2 := dRangeTail_rest_le dp h2
    omega
  all_goals exact fun h => nomatch h

theorem dSelectBody_congr (dp : Bytes → Option Int) (f f' n : Nat)
    (hS : ∀ r : List Tok, r.length ≤ n → dSource f r = dSource f' r)
    (hE : ∀ r : List Tok, r.length ≤ n → dExpr f r = dExpr f' r)
    (toks : List Tok) (hn : toks.length ≤ n) : dSelectBody dp f toks = dSelectBody dp f' toks := by
  have l0 := dOptFormat_rest_le toks
  simp only [dSelectBody]
  rw [dKwClause_congr kwFROM (dSource f) (dSource f') n hS _ (by omega)]
  cases h1 : dKwClause kwFROM (dSource f') (dOptFormat toks).2 with
  | none => rfl
  | some pr =>
    obtain ⟨src, t1⟩ := pr
    have l1 := dKwClause_rest_le kwFROM (dSource f') (fun r a r' h => Nat.le_of_lt (dSource_rest_lt h)) h1
    simp only []
    cases h2 : dKwClause kwRANGE (dRangeBody dp) t1 with
    | none => rfl
    | some pr2 =>
      obtain ⟨rng, t2⟩ := pr2
      have l2 := dKwClause_rest_le kwRANGE (dRangeBody dp) (dRangeBody_rest_le dp) h2
      simp only []
      rw [dKwClause_congr kwWHERE (dExpr f) (dExpr f') n hE t2 (by omega)]

theorem dPipeBody_congr (f f' n : Nat)
    (hS : ∀ r : List Tok, r.length ≤ n → dSource f r = dSource f' r)
    (hE : ∀ r : List Tok, r.length ≤ n → dExpr f r = dExpr f' r)
    (toks : List Tok) (hn : toks.length ≤ n) : dPipeBody f toks = dPipeBody f' toks := by
  cases toks with
  | nil => simp [dPipeBody]
  | cons p r1 =>
    cases r1 with
    | nil => simp [dPipeBody]
    | cons nm r =>
      simp only [List.length_cons] at hn
      simp only [dPipeBody]
      rw [dKwClause_congr kwFROM (dSource f) (dSource f') n hS r (by omega)]
      cases h1 : dKwClause kwFROM (dSource f') r with
      | none => rfl
      | some pr =>
        obtain ⟨src, t1⟩ := pr
        have l1 := dKwClause_rest_le kwFROM (dSource f') (fun r a r' h => Nat.le_of_lt (dSource_rest_lt h)) h1
        simp only []
        rw [dKwClause_congr kwWHERE (dExpr f) (dExpr f') n hE t1 (by omega)]

theorem dTruncBody_congr (dp : Bytes → Option Int) (f f' n : Nat)
    (hO : ∀ r : List Tok, r.length ≤ n → dOptSource f r = dOptSource f' r)
    (toks : List Tok) (hn : toks.length ≤ n) : dTruncBody dp f toks = dTruncBody dp f' toks := by
  have l0 := dDryRun_rest_le toks
  simp only [dTruncBody]
  rw [hO _ (by omega)]

theorem dSrcOffLim_congr (f f' n : Nat)
    (hO : ∀ r : List Tok, r.length ≤ n → dOptSource f r = dOptSource f' r)
    (toks : List Tok) (hn : toks.length ≤ n) : dSrcOffLim f toks = dSrcOffLim f' toks := by
  simp only [dSrcOffLim]
  rw [hO _ hn]

theorem directTruncateFuel_indep (dp : Bytes → Option Int) (toks : List Tok) (f f' : Nat)
    (h : directFuel toks ≤ f) (h' : directFuel toks ≤ f') :
    directTruncateFuel dp f toks = directTruncateFuel dp f' toks := by
  cases toks with
  | nil => simp [directTruncateFuel]
  | cons t r =>
    simp only [directTruncateFuel]
    rw [dTruncBody_congr dp f f' r.length
      (fun q hq => dOptSource_fuel_indep q f f' (directFuel_tail hq h) (directFuel_tail hq h'))
      r (Nat.le_refl _)]

theorem directLqlFuel_indep (dp : Bytes → Option Int) (toks : List Tok) (f f' : Nat)
    (h : directFuel toks ≤ f) (h' : directFuel toks ≤ f') :
    directLqlFuel dp f toks = directLqlFuel dp f' toks := by
  cases toks with
  | nil => simp [directLqlFuel]
  | cons t r =>
    have hS : ∀ q : List Tok, q.length ≤ r.length → dSource f q = dSource f' q := fun q hq =>
      dSource_fuel_indep q f f' (directFuel_tail hq h) (directFuel_tail hq h')
    have hE : ∀ q : List Tok, q.length ≤ r.length → dExpr f q = dExpr f' q := fun q hq =>
      dExpr_fuel_indep q f f' (directFuel_tail hq h) (directFuel_tail hq h')
    have hO : ∀ q : List Tok, q.length ≤ r.length → dOptSource f q = dOptSource f' q := fun q hq =>
      dOptSource_fuel_indep q f f' (directFuel_tail hq h) (directFuel_tail hq h')
    have e1 : dSelectRest dp f r = dSelectRest dp f' r := by
      simp only [dSelectRest]
      rw [dSelectBody_congr dp f f' r.length hS hE r (Nat.le_refl _)]
    have e2 : dTruncateRest dp f r = dTruncateRest dp f' r := by
      simp only [dTruncateRest]
      rw [dTruncBody_congr dp f f' r.length hO r (Nat.le_refl _)]
    have e3 : dShowRest f r = dShowRest f' r := by
      cases r with
      | nil => simp [dShowRest]
      | cons k r' =>
        simp only [dShowRest]
        rw [dSrcOffLim_congr f f' (k :: r').length hO r' (by simp only [List.length_cons]; omega)]
    have e4 : dCreateRest f r = dCreateRest f' r := by
      cases r with
      | nil => simp [dCreateRest]
      | cons k r' =>
        simp only [dCreateRest]
        rw [dPipeBody_congr f f' (k :: r').length hS hE (k :: r') (Nat.le_refl _)]
    simp only [directLqlFuel]
    rw [e1, e2, e3, e4]

/-! ## corollaries -/

theorem directLql_of_fuel (dp : Bytes → Option Int) (toks : List Tok) (f : Nat) (l : Lql)
    (h : directLqlFuel dp f toks = some l) (hf : directFuel toks ≤ f) : directLql dp toks = some l := by
  rw [directLql, directLqlFuel_indep dp toks (directFuel toks) f (Nat.le_refl _) hf]
  exact h

theorem directLql_toksLql (dp : Bytes → Option Int) (rd : Int → Bytes) (l : Lql) (hw : wfLql rd l = true)
    (hc : LqlContract dp rd l) : directLql dp (toksLql rd l) = some l :=
  directLql_of_fuel dp (toksLql rd l) (max (lqlSz l) (directFuel (toksLql rd l))) l
    (directLql_toks dp rd l _ (Nat.le_max_left _ _) hw hc) (Nat.le_max_right _ _)

theorem directExpr_toksExpr (e : Expr) (hw : wfExpr e = true) : directExpr (toksExpr e) = some e := by
  have h1 := dExpr_toks e (max (szExpr e) (directFuel (toksExpr e))) [] (Nat.le_max_left _ _) hw
    (by simp [headNot]) (by simp [headNot])
  rw [List.append_nil] at h1
  rw [directExpr, dExpr_fuel_indep (toksExpr e) (directFuel (toksExpr e)) (max (szExpr e) (directFuel (toksExpr e)))
    (Nat.le_refl _) (Nat.le_max_right _ _), h1]

theorem directExpr_cv (toks : List Tok) (e : Expr) (h : directExpr toks = some e) : cvExpr e ≤ 8 * toks.length + 50 := by
  revert h
  fun_cases directExpr toks
  case case1 e' h1 =>
    intro h; cases h
    have a := dExpr_cv3 h1
    simp only [List.length_nil] at a; omega
  all_goals exact fun h => nomatch h

theorem directSource_cv (toks : List Tok) (s : Source) (h : directSource toks = some s) :
    cvSource s ≤ 8 * toks.length + 50 := by
  revert h
  fun_cases directSource toks
  case case1 s' h1 =>
    intro h; cases h
    revert h1
    fun_cases dSource (directFuel toks) toks
    case case2 t r _ => cases KV.tagParse t.v <;> intro h <;> cases h; simp [cvSource]
    case case3 t r _ =>
      cases h2 : dExpr (directFuel (t :: r)) (t :: r) with
      | none => exact fun h => nomatch h
      | some p =>
        obtain ⟨e, r1⟩ := p
        intro h; cases h
        have a := dExpr_cv3 h2
        simp only [cvSource, List.length_nil] at a ⊢; omega
    all_goals exact fun h => nomatch h
  all_goals exact fun h => nomatch h

/-! ## further remainder lemmas of the clause parsers (not needed above, kept for users) -/

theorem dOptSource_rest_le {f : Nat} {toks : List Tok} {a : Option Source} {r' : List Tok}
    (h : dOptSource f toks = some (a, r')) : r'.length ≤ toks.length := by
  revert h
  fun_cases dOptSource f toks
  case case2 t r _ => cases KV.tagParse t.v <;> intro h <;> cases h; simp
  case case3 t r _ e r1 h1 => intro h; cases h; exact Nat.le_of_lt (dExpr_rest_lt h1)
  all_goals intro h; cases h
  all_goals simp

theorem dIntTok_rest_lt {toks : List Tok} {a : Int} {r' : List Tok} (h : dIntTok toks = some (a, r')) :
    r'.length < toks.length := by
  revert h
  fun_cases dIntTok toks
  all_goals intro h; cases h
  all_goals simp

theorem dPosTok_rest_lt {toks : List Tok} {a : Bytes} {r' : List Tok} (h : dPosTok toks = some (a, r')) :
    r'.length < toks.length := by
  revert h
  fun_cases dPosTok toks
  all_goals intro h; cases h
  all_goals simp

theorem dSizeClause_rest_le (kw : Bytes) {toks : List Tok} {a : Option Nat} {r' : List Tok}
    (h : dSizeClause kw toks = some (a, r')) : r'.length ≤ toks.length := by
  revert h
  fun_cases dSizeClause kw toks
  case case2 t _ n rest' _ => cases parseBytes n.v <;> intro h <;> cases h; simp only [List.length_cons]; omega
  all_goals intro h; cases h
  all_goals simp

theorem dDateClause_rest_le (dp : Bytes → Option Int) (kw : Bytes) {toks : List Tok} {a : Option Int} {r' : List Tok}
    (h : dDateClause dp kw toks = some (a, r')) : r'.length ≤ toks.length := by
  revert h
  fun_cases dDateClause dp kw toks
  case case2 t _ n rest' _ => cases dp n.v <;> intro h <;> cases h; simp only [List.length_cons]; omega
  all_goals intro h; cases h
  all_goals simp

end Logrange.Lql

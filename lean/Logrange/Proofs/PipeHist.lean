import Logrange.Model.PipeHist
import Logrange.Proofs.ITree
import Logrange.Proofs.PartHist
import Logrange.Proofs.Reorder
import Logrange.Proofs.PipeScan
/-!
# C02 — the pipeline model refines the Points-level partition model (tree at any depth, rebuilds, whole histories)

`RefChk x c`: the chunk-index entry `x` of the pipeline model (`CIndex.Chk`: hull, `Recs`, `lastRec`, `corrupted`, block
tree) stands for the Points-level entry `c` (`ChunkHist.ChunkIdx`): same hull / counters / flags, the tree is well-formed
and its level-0 point list is `c.pts` (no tree ↔ no points).

Under `RefChk` the window `RangedIter.updatePoss` computes through `CIndex.grEqAns/lessAns` on the tree is `Points.window` on
the flat list; `CIndex.onWrite` on the last chunk refines `Reorder.notify` when the interval is append-only;
`CIndex.rebuildIntWith` on monotone data gives a well-formed tree whose points are `RebuildHist.rebuildPts`, and the scanned
hull; `PipeHist.run` refines `PipeHist.absRun`, which satisfies `PartHist.PartInv`.
-/
set_option linter.unusedSimpArgs false
namespace Logrange.PipeHist
open Logrange Logrange.Points Logrange.ChunkHist Logrange.RebuildHist Logrange.PartHist

structure RefChk (x : CIndex.Chk) (c : ChunkIdx) : Prop where
  hull : c.hull = some ⟨x.minTs, x.maxTs⟩
  corr : x.corrupted = c.corrupted
  lastRec : x.lastRec = c.lastRec
  recs : x.recs = c.n
  loaded : x.loaded = false
  rootNone : c.corrupted = false → x.root = none → c.pts = []
  rootSome : c.corrupted = false → ∀ t, x.root = some t → ITree.WF ITree.maxRecs t ∧ ITree.points t = c.pts ∧ c.pts ≠ []

theorem points_leaf_nil : ITree.points (.leaf []) = [] := by decide

/-! ## 1. the window -/

theorem grEq_ref {x : CIndex.Chk} {c : ChunkIdx} (h : RefChk x c) (s : CIndex.St) (cid : Nat)
    (hf : CIndex.findChk s cid = some x) (t : Int) :
    (match CIndex.grEqAns s cid t with | .ok p => p | _ => 0) = ciGrEq ⟨x.minTs, x.maxTs⟩ (idxOf c) t := by
  unfold CIndex.grEqAns ciGrEq idxOf
  rw [hf]
  simp only []
  by_cases h1 : x.maxTs < t
  · simp [h1]
  · by_cases h2 : x.minTs ≥ t
    · simp [h1, h2]
    · simp only [h1, h2, if_false]
      rw [h.corr]
      cases hc : c.corrupted with
      | true => simp
      | false =>
        simp only [Bool.false_eq_true, if_false]
        cases hr : x.root with
        | none => simp [h.rootNone hc hr, grEqPos, cntLE]
        | some tr =>
          obtain ⟨hwf, hp, hne⟩ := h.rootSome hc tr hr
          have hnl : tr ≠ .leaf [] := by
            intro e; rw [e, points_leaf_nil] at hp; exact hne hp.symm
          obtain ⟨l1, l2, _, _⟩ := ITree.tree_lookup_eq_points ITree.maxRecs tr t hwf
          simp only []
          cases hg : ITree.grEq tr t with
          | none =>
            have := (l1 hnl).mp hg
            rw [hp] at this
            simp [grEqPos, this]
          | some r =>
            have := l2 r hg
            rw [hp] at this
            simp [this]

theorem less_ref {x : CIndex.Chk} {c : ChunkIdx} (h : RefChk x c) (s : CIndex.St) (cid : Nat)
    (hf : CIndex.findChk s cid = some x) (t : Int) :
    (match CIndex.lessAns s cid t with | .ok p => p | _ => Selector.maxU32) = ciLess ⟨x.minTs, x.maxTs⟩ (idxOf c) t := by
  unfold CIndex.lessAns ciLess idxOf
  rw [hf]
  simp only []
  by_cases h1 : x.maxTs ≤ t
  · simp [h1, CIndex.maxU32, maxU32]
  · by_cases h2 : x.minTs ≥ t
    · simp [h1, h2, Selector.maxU32, maxU32]
    · simp only [h1, h2, if_false]
      rw [h.corr]
      cases hc : c.corrupted with
      | true => simp [Selector.maxU32, maxU32]
      | false =>
        simp only [Bool.false_eq_true, if_false]
        cases hr : x.root with
        | none => simp [h.rootNone hc hr, lessPos, cntLE, CIndex.maxU32, maxU32]
        | some tr =>
          obtain ⟨hwf, hp, hne⟩ := h.rootSome hc tr hr
          obtain ⟨_, _, l3, _⟩ := ITree.tree_lookup_eq_points ITree.maxRecs tr t hwf
          rw [hp] at l3
          simp only []
          rw [← l3]
          cases hg : ITree.less tr t with
          | none => simp [CIndex.maxU32, maxU32]
          | some r => simp

/-- **window_eq**: the window of the pipeline model (`updatePoss` through the chunk index on the block tree) is the
Points-level window of the entry it refines, whenever the index accounts for every confirmed record (`count ≤ Recs`;
otherwise the whole chunk is open — `unknown_tail_window_open`). -/
theorem window_eq {x : CIndex.Chk} {c : ChunkIdx} (h : RefChk x c) (s : RangedIter.St) (cid : Nat) (st : Selector.ChkSt)
    (hf : CIndex.findChk s.cidx (cid / 10) = some x) (hcnt : st.count ≤ x.recs) :
    ((RangedIter.updatePoss s cid st).1.minPos, (RangedIter.updatePoss s cid st).1.maxPos) =
        window ⟨x.minTs, x.maxTs⟩ (idxOf c) ⟨s.rmin, s.rmax⟩ ∧
      (RangedIter.updatePoss s cid st).1.count = st.count := by
  have hnot : ¬ (st.count > x.recs) := by omega
  have e1 : Generated.C02.updatePossLowerErrPos = 0 := by decide
  have e2 : Generated.C02.updatePossUpperErrPos = Selector.maxU32 := by decide
  unfold RangedIter.updatePoss
  rw [hf]
  simp only [hnot, decide_false, Bool.and_false, Bool.false_eq_true, if_false]
  unfold Selector.updatePossWith window
  rw [e1, e2]
  by_cases hout : s.rmax < x.minTs ∨ s.rmin > x.maxTs
  · have : (decide (s.rmax < x.minTs) || decide (s.rmin > x.maxTs)) = true := by simpa using hout
    simp [this, hout, Selector.maxU32, maxU32]
  · have : (decide (s.rmax < x.minTs) || decide (s.rmin > x.maxTs)) = false := by simpa using hout
    simp only [this, Bool.false_eq_true, if_false, hout, Selector.asks]
    have hg := grEq_ref h s.cidx (cid / 10) hf
    have hl := less_ref h s.cidx (cid / 10) hf
    by_cases a : s.rmin ≥ x.minTs <;> by_cases b : s.rmax ≤ x.maxTs
    · simp only [a, b, if_true]
      rw [← hg, ← hl]
      cases CIndex.grEqAns s.cidx (cid / 10) (lowerAsk s.rmin) <;> cases CIndex.lessAns s.cidx (cid / 10) s.rmax <;> simp
    · simp only [a, b, if_true, if_false]
      rw [← hg]
      cases CIndex.grEqAns s.cidx (cid / 10) (lowerAsk s.rmin) <;> simp [Selector.maxU32, maxU32]
    · simp only [a, b, if_true, if_false]
      rw [← hl]
      cases CIndex.lessAns s.cidx (cid / 10) s.rmax <;> simp
    · simp [a, b, Selector.maxU32, maxU32]

/-! ## 2. `onWrite` -/

theorem updLast_snoc (xs : List CIndex.Chk) (x : CIndex.Chk) (f : CIndex.Chk → CIndex.Chk) :
    CIndex.updLast (xs ++ [x]) f = xs ++ [f x] := by
  simp [CIndex.updLast]

theorem u32sub_eq {a b : Nat} (h1 : b ≤ a) (h2 : a ≤ 4294967295) : CIndex.u32sub a b = a - b := by
  unfold CIndex.u32sub; omega

theorem sparse_pos : 0 < CIndex.sparseSpace := by decide

theorem tree_first_interval (it : Iv) (hmm : it.p0.ts ≤ it.p1.ts) :
    ∃ t', ITree.add ITree.maxRecs (.leaf []) it = some t' ∧ ITree.WF ITree.maxRecs t' ∧ ITree.points t' = [it.p0, it.p1] := by
  obtain ⟨t', e1, e2, e3⟩ := ITree.tree_append_refines_add ITree.maxRecs (by decide) (.leaf []) it (Or.inl rfl)
    (by intro p hp'; rw [points_leaf_nil] at hp'; simp at hp') hmm
  exact ⟨t', e1, e2, by rw [e3, points_leaf_nil]; rfl⟩

open Logrange.Reorder in
/-- the code's Boolean test "late or too close behind the last indexed record" (uint32 subtraction) is `notify`'s -/
theorem skipTest_eq (c : ChunkIdx) (b : Note) (hn : b.l ≤ 4294967295) :
    (Generated.C02.onWriteLateByRecs && decide (b.l + 1 ≤ c.n) || decide (c.lastRec > 0) && (decide (b.l ≤ c.lastRec) ||
      decide (CIndex.u32sub b.l c.lastRec < CIndex.sparseSpace))) =
    decide (lateByRecs c b ∨ (c.lastRec > 0 ∧ (b.l ≤ c.lastRec ∨ b.l - c.lastRec < CIndex.sparseSpace))) := by
  by_cases hle : b.l ≤ c.lastRec
  · simp [lateByRecs, hle]
  · rw [u32sub_eq (by omega) hn]; simp [lateByRecs]

open Logrange.Reorder in
/-- any positions `f … l`; `hap` is asked only of an interval that gets as far as `addInterval` -/
theorem notify_last {xs : List CIndex.Chk} {x : CIndex.Chk} {c : ChunkIdx} (h : RefChk x c) (b : Note)
    (hn : b.l ≤ 4294967295) (hmm : b.mn ≤ b.mx)
    (hap : c.corrupted = false →
      ¬ (lateByRecs c b ∨ (c.lastRec > 0 ∧ (b.l ≤ c.lastRec ∨ b.l - c.lastRec < CIndex.sparseSpace))) →
      ∀ p ∈ c.pts, p.ts ≤ b.mn) :
    ∃ x', (CIndex.onWrite ⟨xs ++ [x]⟩ b.f b.l x.id b.mn b.mx).1.chunks = xs ++ [x'] ∧ x'.id = x.id ∧
      RefChk x' (notify CIndex.sparseSpace CIndex.bigGap c b) := by
  have f1 : Generated.C02.onWriteRecsNeverDecrease = true := by decide
  have f2 : Generated.C02.onWriteSkipsLateNotification = true := by decide
  have f3 : Generated.C02.onWriteSkipIsStrictLess = true := by decide
  have hrecs : max x.recs (b.l + 1) = max c.n (b.l + 1) := by rw [h.recs]
  have hhull : newHull c.hull b.mn b.mx = ⟨min x.minTs b.mn, max x.maxTs b.mx⟩ := by rw [h.hull]; rfl
  have hnone : ¬ (c.hull = none ∧ b.f > 0) := by rw [h.hull]; simp
  unfold CIndex.onWrite
  simp only [List.getLast?_append, List.getLast?_singleton, Option.some_or, bne_self_eq_false, Bool.false_eq_true, if_false,
    h.loaded, Bool.and_false, Bool.false_and, updLast_snoc, f1, f2, f3, if_true, Bool.true_and, hrecs]
  unfold notify
  simp only [hhull, hnone, if_false]
  rw [h.corr, h.lastRec, h.recs, skipTest_eq c b hn]
  cases hc : c.corrupted with
  | true =>
    simp only [if_true]
    refine ⟨_, rfl, rfl, ?_⟩
    constructor <;> simp [hc, h.corr, h.lastRec]
  | false =>
    simp only [Bool.false_eq_true, if_false]
    by_cases hskip : lateByRecs c b ∨ (c.lastRec > 0 ∧ (b.l ≤ c.lastRec ∨ b.l - c.lastRec < CIndex.sparseSpace))
    · simp only [hskip, decide_true, if_true]
      refine ⟨_, rfl, rfl, ?_⟩
      constructor <;> try (simp [hc, h.corr, h.lastRec])
      · exact h.rootNone hc
      · exact h.rootSome hc
    · have hle : c.lastRec ≤ b.l := by
        by_cases h0 : c.lastRec > 0
        · exact Nat.le_of_not_le fun hlt => hskip (Or.inr ⟨h0, Or.inl hlt⟩)
        · omega
      simp only [hskip, decide_false, Bool.false_eq_true, if_false]
      rw [u32sub_eq hle hn]
      cases hr : x.root with
      | none =>
        simp only [h.rootNone hc hr, true_and]
        by_cases hbig : b.l - c.lastRec > CIndex.bigGap
        · simp only [hbig, if_true]
          refine ⟨_, rfl, rfl, ?_⟩
          constructor <;> simp [hc, h.corr, h.lastRec]
        · simp only [hbig, if_false]
          refine ⟨_, rfl, rfl, ?_⟩
          obtain ⟨t', e1, e2, e3⟩ := tree_first_interval ⟨⟨b.mn, b.f⟩, ⟨b.mx, b.l⟩⟩ hmm
          constructor <;> try (simp [hc, h.corr, h.lastRec])
          · rw [e1]; simp
          · intro t ht
            rw [e1, Option.some.injEq] at ht
            subst ht
            exact ⟨e2, e3, by simp [add]⟩
      | some tr =>
        obtain ⟨hwf, hpts, hne⟩ := h.rootSome hc tr hr
        simp only [hne, false_and, if_false]
        obtain ⟨t', e1, e2, e3⟩ := ITree.tree_append_refines_add ITree.maxRecs (by decide) tr
            ⟨⟨b.mn, b.f⟩, ⟨b.mx, b.l⟩⟩ hwf (by intro p hp'; rw [hpts] at hp'; exact hap hc hskip p hp') hmm
        rw [e1]
        simp only []
        refine ⟨_, rfl, rfl, ?_⟩
        rw [hpts] at e3
        constructor <;> try (simp [hc, h.corr, h.lastRec])
        · exact ⟨e2, e3, add_ne_nil _ _⟩

theorem onWrite_new_eq (xs : List CIndex.Chk) (last cid : Nat) (mn mx : Int)
    (hx : ∀ l, xs.getLast? = some l → l.id ≠ cid) :
    CIndex.onWrite ⟨xs⟩ 0 last cid mn mx = CIndex.onWrite ⟨xs ++ [{ id := cid, minTs := mn, maxTs := mx }]⟩ 0 last cid mn mx := by
  unfold CIndex.onWrite
  cases hl : xs.getLast? with
  | none =>
    have : xs = [] := by simpa using hl
    subst this
    simp [CIndex.updLast]
  | some l =>
    have hne : (l.id != cid) = true := by simpa using hx l hl
    simp [hne, CIndex.updLast]

open Logrange.Reorder in
theorem notify_new (xs : List CIndex.Chk) (b : Note) (cid : Nat) (hx : ∀ l, xs.getLast? = some l → l.id ≠ cid)
    (hn : b.l ≤ 4294967295) (hmm : b.mn ≤ b.mx) :
    ∃ x', (CIndex.onWrite ⟨xs⟩ b.f b.l cid b.mn b.mx).1.chunks = xs ++ [x'] ∧ x'.id = cid ∧
      RefChk x' (notify CIndex.sparseSpace CIndex.bigGap {} b) := by
  by_cases hf : b.f = 0
  · have e0 : notify CIndex.sparseSpace CIndex.bigGap ({ hull := some ⟨b.mn, b.mx⟩ } : ChunkIdx) b =
        notify CIndex.sparseSpace CIndex.bigGap {} b := by
      simp [notify, newHull, hf, lateByRecs]
    have href : RefChk ({ id := cid, minTs := b.mn, maxTs := b.mx } : CIndex.Chk) ({ hull := some ⟨b.mn, b.mx⟩ } : ChunkIdx) := by
      constructor <;> simp
    have := notify_last (xs := xs) href b hn hmm (by intro _ _ p hp; simp at hp)
    rw [e0] at this
    rw [hf, onWrite_new_eq xs b.l cid b.mn b.mx hx]
    rw [hf] at this
    simpa using this
  · have hpos : b.f > 0 := by omega
    have f1 : Generated.C02.onWriteRecsNeverDecrease = true := by decide
    have hd : (decide (b.f > 0)) = true := by simpa using hpos
    unfold CIndex.onWrite
    cases hl : xs.getLast? with
    | none =>
      have : xs = [] := by simpa using hl
      subst this
      simp only [CIndex.updLast, List.reverse_cons, List.reverse_nil, List.nil_append, List.getLast?_singleton, f1, if_true,
        Bool.true_and, hd, Bool.false_eq_true, if_false]
      refine ⟨_, rfl, rfl, ?_⟩
      constructor <;> simp [notify, newHull, hpos]
    | some l =>
      have hne : (l.id != cid) = true := by simpa using hx l hl
      simp only [hne, if_true, updLast_snoc, List.getLast?_append, List.getLast?_singleton, Option.some_or, f1, Bool.true_and,
        hd, Bool.false_eq_true, if_false]
      refine ⟨_, rfl, rfl, ?_⟩
      constructor <;> simp [notify, newHull, hpos]

theorem onWrite_last {xs : List CIndex.Chk} {x : CIndex.Chk} {c : ChunkIdx} (h : RefChk x c) (k : Nat) (mn mx : Int)
    (hk : 0 < k) (hn : c.n + k - 1 ≤ 4294967295) (hmm : mn ≤ mx) (hap : c.corrupted = false → ∀ p ∈ c.pts, p.ts ≤ mn) :
    ∃ x', (CIndex.onWrite ⟨xs ++ [x]⟩ c.n (c.n + k - 1) x.id mn mx).1.chunks = xs ++ [x'] ∧ x'.id = x.id ∧
      RefChk x' (ChunkHist.onWrite CIndex.sparseSpace CIndex.bigGap c k mn mx) := by
  have := notify_last (xs := xs) h ⟨c.n, c.n + k - 1, mn, mx⟩ hn hmm (fun hc _ => hap hc)
  rwa [Reorder.notify_inorder CIndex.bigGap _ sparse_pos hk rfl (by show c.n + k - 1 + 1 = c.n + k; omega)
    (Or.inl (by rw [h.hull]; exact Option.some_ne_none _))] at this

theorem onWrite_new (xs : List CIndex.Chk) (k cid : Nat) (mn mx : Int) (hx : ∀ l, xs.getLast? = some l → l.id ≠ cid)
    (hk : 0 < k) (hn : k - 1 ≤ 4294967295) (hmm : mn ≤ mx) :
    ∃ x', (CIndex.onWrite ⟨xs⟩ 0 (k - 1) cid mn mx).1.chunks = xs ++ [x'] ∧ x'.id = cid ∧
      RefChk x' (ChunkHist.onWrite CIndex.sparseSpace CIndex.bigGap {} k mn mx) := by
  have := notify_new xs ⟨0, k - 1, mn, mx⟩ cid hx hn hmm
  rwa [Reorder.notify_inorder CIndex.bigGap _ sparse_pos hk rfl (by show k - 1 + 1 = 0 + k; omega) (Or.inr rfl)] at this

/-! ## 3. rebuilds -/

theorem tree_writeSeg {tr : ITree.T} {pts : List Pt} (hwf : ITree.WF ITree.maxRecs tr) (hp : ITree.points tr = pts)
    (segMin segMax : Int) (pos0 pos1 : Nat) (hall : pos0 ≠ pos1 → (∀ p ∈ pts, p.ts ≤ segMin) ∧ segMin ≤ segMax) :
    ∃ tr', CIndex.writeSeg (some tr) segMin segMax pos0 pos1 = some tr' ∧ ITree.WF ITree.maxRecs tr' ∧
      ITree.points tr' = RebuildHist.writeSeg pts segMin segMax pos0 pos1 := by
  unfold CIndex.writeSeg RebuildHist.writeSeg
  by_cases he : pos0 = pos1
  · simp [he, hwf, hp]
  · have hb : (pos0 == pos1) = false := by simpa using he
    simp only [hb, Bool.false_eq_true, if_false, he]
    obtain ⟨h1, h2⟩ := hall he
    obtain ⟨t', e1, e2, e3⟩ := ITree.tree_append_refines_add ITree.maxRecs (by decide) tr
      ⟨⟨segMin, pos0⟩, ⟨segMax, pos1⟩⟩ hwf (by intro p hp'; rw [hp] at hp'; exact h1 p hp') h2
    exact ⟨t', e1, e2, by rw [e3, hp]⟩

theorem writeSeg_ne_nil {pts : List Pt} (h : pts ≠ []) (a b : Int) (c d : Nat) : RebuildHist.writeSeg pts a b c d ≠ [] := by
  unfold RebuildHist.writeSeg
  split
  · exact h
  · exact add_ne_nil _ _

theorem go_ref {tsOf : Nat → Int} {m : Nat} {segMax0 : Int} (hmono : Monotone tsOf m)
    (hs0 : ∀ q, q < m → segMax0 ≤ tsOf q) (hhi : ∀ q, q < m → tsOf q ≤ RebuildHist.maxI64) :
    ∀ (k : Nat) (tr : ITree.T) (pts : List Pt) (pos0 pos1 : Nat) (segMin segMax mn mx : Int), pos1 + k = m → pos0 ≤ pos1 → 0 < m →
      pts ≠ [] → ITree.WF ITree.maxRecs tr → ITree.points tr = pts → (∀ p ∈ pts, RbPt tsOf m p ∧ p.idx ≤ pos0) →
      (pos0 < pos1 → segMin = tsOf pos0 ∧ segMax = tsOf (pos1 - 1)) →
      (pos0 = pos1 → segMin = RebuildHist.maxI64 ∧ segMax = segMax0) →
      ∃ tr', CIndex.rebuildIntWith.go segMax0 ((List.range' pos1 k).map tsOf) (some tr) mn mx segMin segMax pos0 pos1 =
          (some tr', ((List.range' pos1 k).map tsOf).foldl min mn, ((List.range' pos1 k).map tsOf).foldl max mx) ∧
        ITree.WF ITree.maxRecs tr' ∧
        ITree.points tr' = RebuildHist.scan CIndex.sparseSpace segMax0 ((List.range' pos1 k).map tsOf) pts pos0 pos1 segMin segMax ∧
        ITree.points tr' ≠ [] := by
  have fs : Generated.C02.rebuildSegmentIsStrictLess = true := by decide
  intro k
  induction k with
  | zero =>
    intro tr pts pos0 pos1 segMin segMax mn mx hk hle hm0 hne hwf hp H Hlt Heq
    have h : ScanInv tsOf m segMax0 pts pos0 pos1 segMin segMax := ⟨hle, hne, H, Hlt, Heq⟩
    simp only [List.range'_zero, List.map_nil, RebuildHist.scan, CIndex.rebuildIntWith.go, List.foldl_nil]
    obtain ⟨tr', e1, e2, e3⟩ := tree_writeSeg hwf hp segMin segMax pos0 pos1 (by
      intro he
      obtain ⟨e1, e2⟩ := Hlt (by omega)
      refine ⟨by rw [e1]; exact h.all_le hmono (by omega), ?_⟩
      have := hmono pos0 (pos1 - 1) (by omega) (by omega)
      omega)
    exact ⟨tr', by rw [e1], e2, e3, by rw [e3]; exact writeSeg_ne_nil hne _ _ _ _⟩
  | succ k ih =>
    intro tr pts pos0 pos1 segMin segMax mn mx hk hle hm0 hne hwf hp H Hlt Heq
    have h : ScanInv tsOf m segMax0 pts pos0 pos1 segMin segMax := ⟨hle, hne, H, Hlt, Heq⟩
    have hp1 : pos1 < m := by omega
    obtain ⟨hmin, hmax⟩ := h.see hmono hs0 hhi hp1
    rw [List.range'_succ, List.map_cons]
    simp only [RebuildHist.scan, CIndex.rebuildIntWith.go, List.foldl_cons, fs, if_true]
    rw [hmin, hmax]
    by_cases hseg : pos1 + 1 - pos0 < CIndex.sparseSpace
    · simp only [hseg, if_true]
      have h' := h.continue
      exact ih tr pts pos0 (pos1 + 1) _ _ _ _ (by omega) h'.le hm0 hne hwf hp H h'.cur h'.fresh
    · simp only [hseg, if_false]
      have hall := h.all_le hmono (by omega)
      obtain ⟨tr1, e1, e2, e3⟩ := tree_writeSeg hwf hp (tsOf pos0) (tsOf pos1) pos0 (pos1 + 1)
        (fun _ => ⟨hall, hmono pos0 pos1 hle hp1⟩)
      have h' := h.flush hp1
      rw [RebuildHist.writeSeg_append hne (by omega) hall] at e3 ⊢
      rw [e1]
      exact ih tr1 _ (pos1 + 1) (pos1 + 1) _ _ _ _ (by omega) h'.le hm0 h'.ne e2 e3 h'.rb h'.cur h'.fresh


/-- the tree `rebuildIndexInt` builds from the first `m` records of monotone data is well-formed, its points are the flat
rebuild, and the scanned hull is `scannedHull` -/
theorem rebuildInt_ref {tsOf : Nat → Int} {m : Nat} {segMax0 : Int} (hm0 : 0 < m) (hmono : Monotone tsOf m)
    (hs0 : ∀ q, q < m → segMax0 ≤ tsOf q) (hhi : ∀ q, q < m → tsOf q ≤ RebuildHist.maxI64) :
    ∃ tr, CIndex.rebuildIntWith segMax0 ((List.range m).map tsOf) =
        (some tr, (scannedHull ((List.range m).map tsOf)).minTs, (scannedHull ((List.range m).map tsOf)).maxTs) ∧
      ITree.WF ITree.maxRecs tr ∧
      ITree.points tr = rebuildPts CIndex.sparseSpace segMax0 ((List.range m).map tsOf) ∧
      rebuildPts CIndex.sparseSpace segMax0 ((List.range m).map tsOf) ≠ [] := by
  cases m with
  | zero => omega
  | succ k =>
    obtain ⟨t0, e1, e2, e3⟩ := tree_first_interval ⟨⟨tsOf 0, 0⟩, ⟨tsOf 0, 0⟩⟩ (Int.le_refl _)
    have hr := scanInv_root tsOf segMax0 (Nat.succ_pos k)
    obtain ⟨tr, g1, g2, g3, g4⟩ := go_ref hmono hs0 hhi (k + 1) t0 _ 0 0 RebuildHist.maxI64 segMax0 (tsOf 0) (tsOf 0)
      (by omega) hr.le (by omega) hr.ne e2 e3 hr.rb hr.cur hr.fresh
    rw [map_range_succ_eq]
    simp only [rebuildPts, scannedHull, CIndex.rebuildIntWith, e1]
    exact ⟨tr, g1, g2, g3, g3 ▸ g4⟩


theorem rebuildWith_ref (s : CIndex.St) (cid : Nat) {x0 : CIndex.Chk} (hf : CIndex.findChk s cid = some x0)
    {tsOf : Nat → Int} {m : Nat} {segMax0 : Int} (hmono : Monotone tsOf m)
    (hs0 : ∀ q, q < m → segMax0 ≤ tsOf q) (hhi : ∀ q, q < m → tsOf q ≤ RebuildHist.maxI64) :
    ∃ f : CIndex.Chk → CIndex.Chk,
      (CIndex.rebuildWith segMax0 s cid ((List.range m).map tsOf)).chunks = CIndex.updChk s.chunks cid f ∧
      (∀ x, (f x).id = x.id) ∧
      ∀ x c, RefChk x c → m ≤ c.n → RefChk (f x) (RebuildHist.rebuild CIndex.sparseSpace segMax0 c ((List.range m).map tsOf)) := by
  unfold CIndex.rebuildWith
  rw [hf]
  cases m with
  | zero =>
    simp only [List.range_zero, List.map_nil]
    refine ⟨_, rfl, fun _ => rfl, ?_⟩
    intro x c h _
    unfold RebuildHist.rebuild
    rw [h.hull]
    constructor <;> simp [rebuildPts, scannedHull, h.recs, h.loaded]
  | succ k =>
    obtain ⟨tr, e1, e2, e3, e4⟩ := rebuildInt_ref (segMax0 := segMax0) (by omega : 0 < k + 1) hmono hs0 hhi
    rw [e1]
    have hlen : ((List.range (k + 1)).map tsOf).length = k + 1 := by simp
    rw [map_range_succ_eq] at *
    simp only []
    refine ⟨_, rfl, fun _ => rfl, ?_⟩
    intro x c h hmn
    -- the rebuild scanned a prefix of what the entry accounts for: raising `Recs` to it changes nothing
    have hrecs : (if Generated.C02.rebuildRaisesRecs = true then max x.recs (tsOf 0 :: List.map tsOf (List.range' 1 k)).length else x.recs) = c.n := by
      rw [hlen, h.recs]; split <;> omega
    unfold RebuildHist.rebuild
    rw [h.hull]
    constructor <;> try (simp only [hrecs]) <;> try (simp [h.recs, h.loaded])
    · exact ⟨e2, e3, e4⟩

/-! ## 4. histories -/

/-- one notification on the chunk's entry: the facts `onWrite_last` needs follow from `SoundL`, monotonicity and the
`RollHull` of the notification -/
theorem chunk_ref_step {tsOf : Nat → Int} {xs : List CIndex.Chk} {x : CIndex.Chk} {c : ChunkIdx} (h : RefChk x c)
    (hs : SoundL tsOf c) (k : Nat) (mn mx : Int) (hk : 0 < k) (hm : Monotone tsOf (c.n + k))
    (he : RollHull tsOf c.n k mn mx) (hn : c.n + k - 1 ≤ 4294967295) :
    ∃ x', (CIndex.onWrite ⟨xs ++ [x]⟩ c.n (c.n + k - 1) x.id mn mx).1.chunks = xs ++ [x'] ∧ x'.id = x.id ∧
      RefChk x' (ChunkHist.onWrite CIndex.sparseSpace CIndex.bigGap c k mn mx) := by
  apply onWrite_last h k mn mx hk hn
  · have := he.1 c.n (Nat.le_refl _) (by omega); omega
  · exact hs.pts_le_min hm he

structure Ref (st : PSt) (p : List PChunk) : Prop where
  tss : st.tss = p.map (·.tss)
  len : st.cidx.chunks.length = p.length
  chk : ∀ i (h1 : i < st.cidx.chunks.length) (h2 : i < p.length),
    (st.cidx.chunks[i]).id = i + 1 ∧ RefChk (st.cidx.chunks[i]) (p[i]).idx

theorem ref_snoc {ys : List CIndex.Chk} {front : List PChunk} {tss : List (List Int)}
    (h : Ref ⟨⟨ys⟩, tss⟩ front) (x : CIndex.Chk) (c : PChunk) (hid : x.id = front.length + 1) (hr : RefChk x c.idx) :
    Ref ⟨⟨ys ++ [x]⟩, tss ++ [c.tss]⟩ (front ++ [c]) := by
  have hlen : ys.length = front.length := h.len
  have htss : tss = front.map (·.tss) := h.tss
  refine ⟨by simp [htss], by simp [hlen], ?_⟩
  intro i h1 h2
  by_cases hi : i < ys.length
  · have hi' : i < front.length := by omega
    simp only [List.getElem_append_left hi, List.getElem_append_left hi']
    exact h.chk i hi hi'
  · have : i = ys.length := by simp at h1; omega
    subst this
    simp only [List.getElem_append_right (Nat.le_refl _), Nat.sub_self, List.getElem_cons_zero]
    have e : (front ++ [c])[ys.length]'h2 = c := by
      rw [List.getElem_append_right (by omega)]; simp [hlen]
    rw [e]
    exact ⟨by omega, hr⟩

open Logrange.WriteLoop

theorem st_eq (s : CIndex.St) (l : List CIndex.Chk) (h : s.chunks = l) : s = ⟨l⟩ := by
  cases s; simp at h; rw [h]

theorem ref_unsnoc {ys : List CIndex.Chk} {front : List PChunk} {cur : PChunk} {tss : List (List Int)}
    (h : Ref ⟨⟨ys⟩, tss⟩ (front ++ [cur])) :
    ∃ ys' x, ys = ys' ++ [x] ∧ tss = front.map (·.tss) ++ [cur.tss] ∧ Ref ⟨⟨ys'⟩, front.map (·.tss)⟩ front ∧
      x.id = front.length + 1 ∧ RefChk x cur.idx := by
  have hlen : ys.length = (front ++ [cur]).length := h.len
  have hne : ys ≠ [] := by intro e; rw [e] at hlen; simp at hlen
  obtain ⟨ys', x, e⟩ : ∃ ys' x, ys = ys' ++ [x] := ⟨ys.dropLast, ys.getLast hne, (List.dropLast_concat_getLast hne).symm⟩
  subst e
  have hl' : ys'.length = front.length := by simp at hlen; exact hlen
  have htss : tss = (front ++ [cur]).map (·.tss) := h.tss
  refine ⟨ys', x, rfl, by simp [htss], ⟨rfl, hl', ?_⟩, ?_⟩
  · intro i h1 h2
    have := h.chk i (by simp; omega) (by simp; omega)
    simp only [List.getElem_append_left h1, List.getElem_append_left h2] at this
    exact this
  · have := h.chk ys'.length (by simp) (by simp; omega)
    simp only [List.getElem_append_right (Nat.le_refl _), Nat.sub_self, List.getElem_cons_zero] at this
    have e : (front ++ [cur])[ys'.length]'(by simp; omega) = cur := by
      rw [List.getElem_append_right (by omega)]; simp [hl']
    rw [e] at this
    exact ⟨by omega, this.2⟩

theorem pieceStep_ref (st : PSt) (p : List PChunk) (pre : List Int) (pc : Piece)
    (href : Ref st p) (hinv : PartInv p) (hsuf : ∃ u, flat p = u ++ pre) (hl : pc.l ≠ [])
    (hs : (flat p ++ pc.l).Pairwise (· ≤ ·)) (hlow : ∀ t ∈ flat p ++ pc.l, minI64 ≤ t)
    (hnc : pc.newChunk = false → pre = [] ∧ p ≠ [])
    (hsize : ∀ c ∈ (applyPiece CIndex.sparseSpace CIndex.bigGap (p, pre.foldl IW.see {}) pc).1, c.tss.length ≤ 4294967295) :
    Ref (pieceStep (st, pre.foldl IW.see {}) pc).1 (applyPiece CIndex.sparseSpace CIndex.bigGap (p, pre.foldl IW.see {}) pc).1 ∧
      (pieceStep (st, pre.foldl IW.see {}) pc).2 = (pre ++ pc.l).foldl IW.see {} := by
  obtain ⟨u, hu⟩ := hsuf
  have hs1 : (pre ++ pc.l).Pairwise (· ≤ ·) := by
    rw [hu, List.append_assoc] at hs
    exact (List.pairwise_append.mp hs).2.1
  have hlow1 : ∀ t ∈ pre ++ pc.l, minI64 ≤ t := by
    intro t ht
    apply hlow; rw [hu, List.append_assoc]; exact List.mem_append_right _ ht
  have hiw : pc.l.foldl IW.see (pre.foldl IW.see {}) = (pre ++ pc.l).foldl IW.see {} := List.foldl_append.symm
  have hlen : 0 < pc.l.length := List.length_pos_iff.mpr hl
  obtain ⟨⟨ys⟩, tss⟩ := st
  cases hb : pc.newChunk with
  | true =>
    have hroll := rollHull_piece pre [] pc.l hl hs1 hlow1 (Or.inl rfl)
    have hmm : ((pre ++ pc.l).foldl IW.see {}).minTs ≤ ((pre ++ pc.l).foldl IW.see {}).maxTs := by
      have := hroll.1 0 (Nat.le_refl _) (by simp; omega); omega
    have htss : tss = p.map (·.tss) := href.tss
    have htl : tss.length = p.length := by rw [htss]; simp
    have hyl : ys.length = p.length := href.len
    simp only [applyPiece, pieceStep, hb, hiw, if_true, List.nil_append, List.length_nil, Nat.zero_add] at hsize ⊢
    have hn : pc.l.length - 1 ≤ 4294967295 := by
      have := hsize _ (List.mem_append_right _ (List.mem_singleton.mpr rfl))
      simp at this; omega
    obtain ⟨x', e1, e2, e3⟩ := onWrite_new ys pc.l.length (tss.length + 1) _ _ (by
      intro l hl'
      obtain ⟨i, hi, e⟩ := List.mem_iff_getElem.mp (List.mem_of_getLast? hl')
      have := (href.chk i hi (by omega)).1
      simp only at this
      rw [← e, this]; omega) hlen hn hmm
    refine ⟨?_, trivial⟩
    rw [st_eq _ _ e1]
    exact ref_snoc href x' ⟨_, _⟩ (by rw [e2]; omega) e3
  | false =>
    obtain ⟨hpre, hp⟩ := hnc hb
    obtain ⟨front, cur, e⟩ : ∃ front cur, p = front ++ [cur] :=
      ⟨p.dropLast, p.getLast hp, (List.dropLast_concat_getLast hp).symm⟩
    subst e
    obtain ⟨ys', x, ey, et, hr0, hid, hrx⟩ := ref_unsnoc href
    subst ey et
    obtain ⟨hn, hsl⟩ : ChunkInv cur := hinv cur (by simp)
    rw [flat_concat, List.append_assoc] at hs
    have hs2 := (List.pairwise_append.mp hs).2.1
    have hroll := rollHull_piece pre cur.tss pc.l hl hs1 hlow1 (Or.inr hpre)
    have hs' : SoundL (tsOfList (cur.tss ++ pc.l)) cur.idx :=
      soundL_congr hsl (fun q hq => (tsOfList_append_left _ _ (by omega)).symm)
    simp only [applyPiece, pieceStep, hb, hiw, List.dropLast_concat, List.getLast?_concat, Option.getD_some,
      Bool.false_eq_true, if_false, List.length_map] at hsize ⊢
    have hnn : cur.idx.n + pc.l.length - 1 ≤ 4294967295 := by
      have := hsize _ (List.mem_append_right _ (List.mem_singleton.mpr rfl))
      simp at this; omega
    obtain ⟨x', e1, e2, e3⟩ := chunk_ref_step (xs := ys') hrx hs' pc.l.length _ _ hlen
      (by rw [hn, ← List.length_append]; exact monotone_of_sorted _ hs2) (by rw [hn]; exact hroll) hnn
    refine ⟨?_, trivial⟩
    rw [← hn, ← hid, st_eq _ _ e1]
    exact ref_snoc hr0 x' ⟨_, _⟩ (by rw [e2]; exact hid) e3


/-- no chunk holds more records than a uint32 position can name -/
def Small (p : List PChunk) : Prop := ∀ c ∈ p, c.tss.length ≤ 4294967295

theorem small_applyPiece (sparse bigGap : Nat) (s : List PChunk × IW) (pc : Piece)
    (h : Small (applyPiece sparse bigGap s pc).1) : Small s.1 := by
  intro c hc
  unfold applyPiece at h
  cases hb : pc.newChunk with
  | true =>
    simp only [hb, if_true] at h
    exact h c (List.mem_append_left _ hc)
  | false =>
    simp only [hb, Bool.false_eq_true, if_false] at h
    have hne : s.1 ≠ [] := by intro e; rw [e] at hc; simp at hc
    obtain ⟨front, cur, e⟩ : ∃ front cur, s.1 = front ++ [cur] :=
      ⟨s.1.dropLast, s.1.getLast hne, (List.dropLast_concat_getLast hne).symm⟩
    rw [e] at hc h
    simp only [List.dropLast_concat, List.getLast?_concat, Option.getD_some] at h
    rcases List.mem_append.mp hc with hc | hc
    · exact h c (List.mem_append_left _ hc)
    · simp at hc; subst hc
      have := h _ (List.mem_append_right _ (List.mem_singleton.mpr rfl))
      simp at this; omega

theorem small_foldPieces (sparse bigGap : Nat) : ∀ (pieces : List Piece) (s : List PChunk × IW),
    Small (pieces.foldl (applyPiece sparse bigGap) s).1 → Small s.1 := by
  intro pieces
  induction pieces with
  | nil => intro s h; exact h
  | cons pc rest ih => intro s h; exact small_applyPiece sparse bigGap s pc (ih _ h)

/-- the pieces of a call from any point on (`pre`: the records of the pieces already applied) -/
theorem pieces_ref_from : ∀ (pieces : List Piece) (st : PSt) (p : List PChunk) (pre : List Int),
    Ref st p → PartInv p → (∃ u, flat p = u ++ pre) → (flat p ++ flatL pieces).Pairwise (· ≤ ·) →
    (∀ t ∈ flat p ++ flatL pieces, minI64 ≤ t) → CallOK p pieces → (∀ pc ∈ pieces.head?, pc.newChunk = false → pre = []) →
    Small (pieces.foldl (applyPiece CIndex.sparseSpace CIndex.bigGap) (p, pre.foldl IW.see {})).1 →
    Ref (pieces.foldl pieceStep (st, pre.foldl IW.see {})).1
      (pieces.foldl (applyPiece CIndex.sparseSpace CIndex.bigGap) (p, pre.foldl IW.see {})).1 := by
  intro pieces
  induction pieces with
  | nil => intro st p pre href _ _ _ _ _ _ _; exact href
  | cons pc rest ih =>
    intro st p pre href hinv hsuf hs hlow hok hpre hsmall
    rw [flatL_cons, ← List.append_assoc] at hs hlow
    obtain ⟨hl, hp, hrest⟩ := hok
    have hnc : pc.newChunk = false → pre = [] ∧ p ≠ [] := fun h => ⟨hpre pc rfl h, hp h⟩
    have hs0 := (List.pairwise_append.mp hs).1
    have hlow0 : ∀ t ∈ flat p ++ pc.l, minI64 ≤ t := fun t ht => hlow t (List.mem_append_left _ ht)
    obtain ⟨h1, h2, h3⟩ := applyPiece_inv CIndex.sparseSpace CIndex.bigGap p pre pc hinv hsuf hl hs0 hlow0 hnc
    rw [List.foldl_cons] at hsmall
    obtain ⟨r1, r2⟩ := pieceStep_ref st p pre pc href hinv hsuf hl hs0 hlow0 hnc
      (small_foldPieces _ _ rest _ hsmall)
    have e : applyPiece CIndex.sparseSpace CIndex.bigGap (p, pre.foldl IW.see {}) pc =
        ((applyPiece CIndex.sparseSpace CIndex.bigGap (p, pre.foldl IW.see {}) pc).1, (pre ++ pc.l).foldl IW.see {}) := Prod.ext rfl h3
    have e' : pieceStep (st, pre.foldl IW.see {}) pc =
        ((pieceStep (st, pre.foldl IW.see {}) pc).1, (pre ++ pc.l).foldl IW.see {}) := Prod.ext rfl r2
    rw [List.foldl_cons, List.foldl_cons, e, e']
    rw [e] at hsmall
    obtain ⟨u, hu⟩ := hsuf
    exact ih _ _ (pre ++ pc.l) r1 h1 ⟨u, by rw [h2, hu, List.append_assoc]⟩ (by rw [h2]; exact hs) (by rw [h2]; exact hlow)
      (callOK_of_all_new _ hrest) (fun q hq hf => by
        rw [(hrest q (List.mem_of_mem_head? hq)).2] at hf; exact Bool.noConfusion hf) hsmall

theorem pieces_ref : ∀ (pieces : List Piece) (st : PSt) (p : List PChunk) (pre : List Int),
    Ref st p → PartInv p → (∃ u, flat p = u ++ pre) → (flat p ++ flatL pieces).Pairwise (· ≤ ·) →
    (∀ t ∈ flat p ++ flatL pieces, minI64 ≤ t) → (∀ q ∈ pieces, q.l ≠ [] ∧ q.newChunk = true) →
    Small (pieces.foldl (applyPiece CIndex.sparseSpace CIndex.bigGap) (p, pre.foldl IW.see {})).1 →
    Ref (pieces.foldl pieceStep (st, pre.foldl IW.see {})).1
      (pieces.foldl (applyPiece CIndex.sparseSpace CIndex.bigGap) (p, pre.foldl IW.see {})).1 :=
  fun pieces st p pre href hinv hsuf hs hlow hok hsmall =>
    pieces_ref_from pieces st p pre href hinv hsuf hs hlow (callOK_of_all_new p hok)
      (fun q hq hf => by rw [(hok q (List.mem_of_mem_head? hq)).2] at hf; exact Bool.noConfusion hf) hsmall

/-- **one `Service.Write` call keeps the refinement** -/
theorem call_ref (st : PSt) (p : List PChunk) (pieces : List Piece) (href : Ref st p) (hinv : PartInv p)
    (hs : (flat p ++ flatL pieces).Pairwise (· ≤ ·)) (hlow : ∀ t ∈ flat p ++ flatL pieces, minI64 ≤ t)
    (hok : CallOK p pieces) (hsmall : Small (writeCall CIndex.sparseSpace CIndex.bigGap p pieces)) :
    Ref (step st (.call pieces)) (writeCall CIndex.sparseSpace CIndex.bigGap p pieces) :=
  pieces_ref_from pieces st p [] href hinv ⟨flat p, (List.append_nil _).symm⟩ hs hlow hok (fun _ _ _ => rfl) hsmall


theorem ref_find {st : PSt} {p : List PChunk} (href : Ref st p) (i : Nat) (hi : i < p.length) :
    ∃ h : i < st.cidx.chunks.length, CIndex.findChk st.cidx (i + 1) = some st.cidx.chunks[i] ∧
      RefChk st.cidx.chunks[i] (p[i]).idx := by
  have hlen : st.cidx.chunks.length = p.length := href.len
  refine ⟨by omega, ?_, (href.chk i (by omega) hi).2⟩
  rw [CIndex.findChk, List.find?_eq_some_iff_getElem]
  refine ⟨by simp [(href.chk i (by omega) hi).1], i, by omega, rfl, fun j hj => ?_⟩
  have := (href.chk j (by omega) (by omega)).1
  simp [this]; omega

theorem ref_find_none {st : PSt} {p : List PChunk} (href : Ref st p) (k : Nat) (hk : p.length ≤ k) :
    CIndex.findChk st.cidx (k + 1) = none := by
  have hlen : st.cidx.chunks.length = p.length := href.len
  rw [CIndex.findChk, List.find?_eq_none]
  intro c hc
  obtain ⟨i, hi, e⟩ := List.getElem_of_mem hc
  have := (href.chk i hi (by omega)).1
  rw [e] at this
  simp [this]; omega

theorem take_eq_range (l : List Int) (m : Nat) : l.take m = (List.range (min m l.length)).map (tsOfList l) := by
  apply List.ext_getElem
  · simp
  · intro i h1 h2
    simp at h1 h2
    simp [tsOfList, List.getElem_take]
    have : i < l.length := by omega
    simp [this]

theorem sorted_of_mem {p : List PChunk} {c : PChunk} (hc : c ∈ p) (hs : (flat p).Pairwise (· ≤ ·)) : c.tss.Pairwise (· ≤ ·) :=
  List.Pairwise.sublist (List.sublist_flatten_of_mem (List.mem_map_of_mem hc)) hs

theorem mem_flat_of_mem {p : List PChunk} {c : PChunk} (hc : c ∈ p) {t : Int} (ht : t ∈ c.tss) : t ∈ flat p :=
  (List.sublist_flatten_of_mem (List.mem_map_of_mem (f := (·.tss)) hc)).subset ht

theorem chunkInv_rebuild {p : List PChunk} {c : PChunk} (hc : c ∈ p) (hinv : ChunkInv c) (m : Nat)
    (hs : (flat p).Pairwise (· ≤ ·)) (hlow : ∀ t ∈ flat p, minI64 ≤ t) (hhi : ∀ t ∈ flat p, t ≤ RebuildHist.maxI64) :
    ChunkInv (absRebuild m c) := by
  obtain ⟨hn, hsl⟩ := hinv
  have f : Generated.C02.rebuildSegmentMaxInit = minI64 := by decide
  have hb : ∀ q, q < c.idx.n → minI64 ≤ tsOfList c.tss q ∧ tsOfList c.tss q ≤ RebuildHist.maxI64 := by
    intro q hq
    have := mem_flat_of_mem hc (tsOfList_mem (by omega : q < c.tss.length))
    exact ⟨hlow _ this, hhi _ this⟩
  constructor
  · show (RebuildHist.rebuild _ _ c.idx _).n = c.tss.length
    rw [rebuild_n]; exact hn
  · show SoundL (tsOfList c.tss) (RebuildHist.rebuild _ _ c.idx (c.tss.take m))
    rw [take_eq_range, ← hn]
    exact rebuild_preservesL CIndex.sparseSpace (min m c.idx.n) hsl (Nat.min_le_right _ _)
      (by rw [hn]; exact monotone_of_sorted _ (sorted_of_mem hc hs)) (fun q hq => (hb q hq).1) (fun q hq => (hb q hq).2)
      (fun q hq => by rw [f]; exact (hb q hq).1)


theorem map_tss_modify (p : List PChunk) (k m : Nat) : (p.modify k (absRebuild m)).map (·.tss) = p.map (·.tss) := by
  apply List.ext_getElem
  · simp
  · intro i h1 h2
    simp only [List.getElem_map, List.getElem_modify]
    split <;> rfl

theorem small_of_map_eq {p q : List PChunk} (h : p.map (·.tss) = q.map (·.tss)) (hs : Small p) : Small q := by
  intro c hc
  have : c.tss ∈ p.map (·.tss) := by rw [h]; exact List.mem_map_of_mem hc
  obtain ⟨c', hc', e⟩ := List.mem_map.mp this
  have := hs c' hc'
  rw [← e]; exact this

theorem flat_of_map_eq {p q : List PChunk} (h : p.map (·.tss) = q.map (·.tss)) : flat p = flat q := by
  unfold flat; rw [h]

/-- **one rebuild of a confirmed prefix keeps the refinement and the invariant** -/
theorem rebuild_step_ref (st : PSt) (p : List PChunk) (k m : Nat) (href : Ref st p) (hinv : PartInv p)
    (hs : (flat p).Pairwise (· ≤ ·)) (hlow : ∀ t ∈ flat p, minI64 ≤ t) (hhi : ∀ t ∈ flat p, t ≤ RebuildHist.maxI64) :
    Ref (step st (.rebuild k m)) (absStep p (.rebuild k m)) ∧ PartInv (absStep p (.rebuild k m)) := by
  have f : Generated.C02.rebuildSegmentMaxInit = minI64 := by decide
  obtain ⟨⟨ys⟩, tss⟩ := st
  have htss : tss = p.map (·.tss) := href.tss
  have hlen : ys.length = p.length := href.len
  unfold step absStep
  simp only []
  by_cases hk : k < p.length
  · have hky : k < ys.length := by omega
    have hfind : CIndex.findChk ⟨ys⟩ (k + 1) = some ys[k] := (ref_find href k hk).2.1
    have hget : tss.getD k [] = (p[k]).tss := by rw [htss]; simp [hk]
    have hmem : p[k] ∈ p := List.getElem_mem hk
    obtain ⟨hn, hsl⟩ := hinv _ hmem
    have hb : ∀ q, q < (p[k]).tss.length → minI64 ≤ tsOfList (p[k]).tss q ∧ tsOfList (p[k]).tss q ≤ RebuildHist.maxI64 := by
      intro q hq
      have := mem_flat_of_mem hmem (tsOfList_mem hq)
      exact ⟨hlow _ this, hhi _ this⟩
    have hmono := monotone_of_sorted _ (sorted_of_mem hmem hs)
    obtain ⟨g, g1, g2, g3⟩ := rebuildWith_ref (segMax0 := Generated.C02.rebuildSegmentMaxInit) ⟨ys⟩ (k + 1) hfind
      (tsOf := tsOfList (p[k]).tss) (m := min m (p[k]).tss.length)
      (monotone_mono hmono (Nat.min_le_right _ _))
      (fun q hq => by rw [f]; exact (hb q (by omega)).1) (fun q hq => (hb q (by omega)).2)
    unfold CIndex.rebuild
    rw [hget, take_eq_range, st_eq _ _ g1]
    constructor
    · refine ⟨by simp only []; rw [map_tss_modify]; exact htss, by simp [CIndex.updChk, hlen], ?_⟩
      intro i h1 h2
      simp only [CIndex.updChk, List.getElem_map, List.getElem_modify]
      have hi : i < ys.length := by simpa [CIndex.updChk] using h1
      have hip : i < p.length := by omega
      obtain ⟨c1, c2⟩ := href.chk i hi hip
      simp only at c1 c2
      by_cases hik : k = i
      · subst hik
        simp only [c1, beq_self_eq_true, if_true]
        refine ⟨by rw [g2, c1], ?_⟩
        have := g3 _ _ c2 (by rw [hn]; exact Nat.min_le_right _ _)
        rw [← take_eq_range] at this
        exact this
      · have : (ys[i].id == k + 1) = false := by simp [c1]; omega
        simp only [this, hik, Bool.false_eq_true, if_false]
        exact ⟨c1, c2⟩
    · intro c hc
      obtain ⟨i, hi, e⟩ := List.getElem_of_mem hc
      rw [List.getElem_modify] at e
      have hip : i < p.length := by simpa using hi
      split at e
      · rw [← e]; exact chunkInv_rebuild (List.getElem_mem hip) (hinv _ (List.getElem_mem hip)) m hs hlow hhi
      · rw [← e]; exact hinv _ (List.getElem_mem hip)
  · have hfind : CIndex.findChk ⟨ys⟩ (k + 1) = none := ref_find_none href k (by omega)
    rw [List.modify_eq_self (by omega)]
    unfold CIndex.rebuild CIndex.rebuildWith
    rw [hfind]
    exact ⟨href, hinv⟩


/-- every `Write` call of the history is `CallOK` (non-empty pieces, only the first may continue the last chunk) w.r.t.
the partition it is applied to; rebuilds are unconstrained (any chunk index, any prefix length) -/
def EvsOK : List PChunk → List Ev → Prop
  | _, [] => True
  | p, .call c :: r => CallOK p c ∧ EvsOK (absStep p (.call c)) r
  | p, .rebuild k m :: r => EvsOK (absStep p (.rebuild k m)) r

theorem small_back : ∀ (evs : List Ev) (p : List PChunk), Small (evs.foldl absStep p) → Small p := by
  intro evs
  induction evs with
  | nil => intro p h; exact h
  | cons ev r ih =>
    intro p h
    have := ih _ h
    cases ev with
    | call c => exact small_foldPieces _ _ c (p, {}) this
    | rebuild k m => exact small_of_map_eq (map_tss_modify p k m) this

theorem allTs_call (c : List Piece) (r : List Ev) : allTs (.call c :: r) = flatL c ++ allTs r := rfl
theorem allTs_rebuild (k m : Nat) (r : List Ev) : allTs (.rebuild k m :: r) = allTs r := rfl

/-- **the pipeline state refines the Points-level partition over every monotone history of calls and rebuilds** -/
theorem run_ref : ∀ (evs : List Ev) (st : PSt) (p : List PChunk), Ref st p → PartInv p →
    (flat p ++ allTs evs).Pairwise (· ≤ ·) → (∀ t ∈ flat p ++ allTs evs, minI64 ≤ t ∧ t ≤ RebuildHist.maxI64) →
    EvsOK p evs → Small (evs.foldl absStep p) →
    Ref (evs.foldl step st) (evs.foldl absStep p) ∧ PartInv (evs.foldl absStep p) ∧
      flat (evs.foldl absStep p) = flat p ++ allTs evs := by
  intro evs
  induction evs with
  | nil => intro st p href hinv _ _ _ _; exact ⟨href, hinv, by simp [allTs]⟩
  | cons ev r ih =>
    intro st p href hinv hs hb hok hsmall
    rw [List.foldl_cons] at hsmall ⊢
    rw [List.foldl_cons]
    cases ev with
    | call c =>
      rw [allTs_call, ← List.append_assoc] at hs hb
      have hs0 := (List.pairwise_append.mp hs).1
      have hlow0 : ∀ t ∈ flat p ++ flatL c, minI64 ≤ t := fun t ht => (hb t (List.mem_append_left _ ht)).1
      obtain ⟨h1, h2⟩ := writeCall_inv CIndex.sparseSpace CIndex.bigGap p c hinv hs0 hlow0 hok.1
      have r1 := call_ref st p c href hinv hs0 hlow0 hok.1 (small_back r _ hsmall)
      obtain ⟨a1, a2, a3⟩ := ih _ _ r1 h1 (by show (flat (writeCall _ _ p c) ++ _).Pairwise _; rw [h2]; exact hs)
        (by show ∀ t ∈ flat (writeCall _ _ p c) ++ _, _; rw [h2]; exact hb) hok.2 hsmall
      refine ⟨a1, a2, ?_⟩
      show flat (List.foldl absStep (writeCall _ _ p c) r) = _
      rw [a3, h2, allTs_call, List.append_assoc]
    | rebuild k m =>
      rw [allTs_rebuild] at hs hb ⊢
      have hs0 := (List.pairwise_append.mp hs).1
      obtain ⟨r1, h1⟩ := rebuild_step_ref st p k m href hinv hs0 (fun t ht => (hb t (List.mem_append_left _ ht)).1)
        (fun t ht => (hb t (List.mem_append_left _ ht)).2)
      have h2 : flat (absStep p (.rebuild k m)) = flat p := flat_of_map_eq (map_tss_modify p k m)
      obtain ⟨a1, a2, a3⟩ := ih _ _ r1 h1 (by rw [h2]; exact hs) (by rw [h2]; exact hb) hok hsmall
      exact ⟨a1, a2, by rw [a3, h2]⟩

theorem ref_init : Ref {} [] := ⟨rfl, rfl, fun i h1 _ => by simp at h1⟩

/-! ## 5. the ranged read of the pipeline state -/

theorem journal_length (tss : List (List Int)) : (journal tss).length = tss.length := by simp [journal]

theorem journal_getElem (tss : List (List Int)) (i : Nat) (h : i < (journal tss).length) :
    (journal tss)[i] = ⟨(i + 1) * 10, (tss.getD i []).length⟩ := by
  simp [journal]

/-- `syncChunks` changes nothing when every index entry is live (`loaded = false`) and every chunk of the journal is
known with an entry that accounts for records, or is empty -/
theorem syncChunks_id_of (s : RangedIter.St) (h1 : ∀ c ∈ s.cidx.chunks, c.loaded = false)
    (h2 : ∀ i, i < s.cks.size → ∃ c, CIndex.findChk s.cidx ((s.cks[i]!).id / 10) = some c ∧
      (c.recs = 0 → (s.cks[i]!).cnt = 0)) : RangedIter.syncChunks s = s := by
  have f1 : Generated.C02.syncChunksDropsStaleEntries = true := by decide
  have f2 : Generated.C02.staleDropOnlyForSnapshotEntries = true := by decide
  unfold RangedIter.syncChunks
  simp only [f1, f2, if_true, Bool.not_true, Bool.false_or, Bool.true_and]
  have hf : ∀ f : CIndex.Chk → Bool, (∀ c ∈ s.cidx.chunks, f c = true) → s.cidx.chunks.filter f = s.cidx.chunks :=
    fun f h => List.filter_eq_self.mpr h
  have hm : ∀ g : CIndex.Chk → CIndex.Chk, (∀ c ∈ s.cidx.chunks, g c = c) → s.cidx.chunks.map g = s.cidx.chunks :=
    fun g hg => by conv => rhs; rw [← List.map_id s.cidx.chunks]
                   exact List.map_congr_left hg
  have hn : ∀ f : Nat → Bool, (∀ i ∈ List.range s.cks.size, f i = false) → (List.range s.cks.size).filter f = [] :=
    fun f h => List.filter_eq_nil_iff.mpr (fun i hi => by rw [h i hi]; simp)
  rw [hf, hm, hn]
  · cases s; simp
  · intro i hi
    obtain ⟨c, e1, e2⟩ := h2 i (by simpa using hi)
    have e1' : CIndex.findChk { chunks := s.cidx.chunks } (s.cks[i]!.id / 10) = some c := e1
    simp only [e1']
    by_cases hr : c.recs = 0
    · simp [e2 hr]
    · simp [hr]
  · intro c hc
    have := h1 c hc
    split
    · cases c; simp at this ⊢; exact this
    · rfl
  · intro c hc
    rw [h1 c hc]
    split <;> simp

theorem syncChunks_id {st : PSt} {p : List PChunk} (href : Ref st p) (hinv : PartInv p) (rmin rmax : Int) :
    RangedIter.syncChunks (toSt st rmin rmax) = toSt st rmin rmax := by
  have hlen : st.cidx.chunks.length = p.length := href.len
  have htss : st.tss = p.map (·.tss) := href.tss
  apply syncChunks_id_of
  · intro c hc
    have hc' : c ∈ st.cidx.chunks := hc
    obtain ⟨i, hi, e⟩ := List.getElem_of_mem hc'
    have := (href.chk i hi (by omega)).2.loaded
    rw [e] at this; exact this
  · intro i hi
    have hi' : i < (journal st.tss).length := by simpa [toSt] using hi
    have hip : i < p.length := by rw [journal_length, htss] at hi'; simpa using hi'
    obtain ⟨_, e1, e2⟩ := ref_find href i hip
    generalize st.cidx.chunks[i] = x at e1 e2
    have hget : ((toSt st rmin rmax).cks[i]!) = ⟨(i + 1) * 10, (st.tss.getD i []).length⟩ := by
      simp [toSt, hi', journal_getElem]
    rw [hget]
    refine ⟨x, ?_, ?_⟩
    · show CIndex.findChk st.cidx ((i + 1) * 10 / 10) = some x
      rw [Nat.mul_div_cancel _ (by decide)]; exact e1
    · intro hr
      have hn := (hinv _ (List.getElem_mem hip)).1
      rw [e2.recs] at hr
      simp [htss, hip]
      exact List.eq_nil_of_length_eq_zero (by omega)



/-- the statuses of a fresh selector: one `updatePoss` per chunk of the journal, in order -/
theorem statuses_eq (s : RangedIter.St) (hst : s.stats = []) (hsync : RangedIter.syncChunks s = s) :
    PipeRead.statuses s = s.cks.toList.map (fun c => (RangedIter.updatePoss s c.id { count := c.cnt }).1) := by
  rw [PipeScan.statuses_eq]
  apply List.map_congr_left
  intro c _
  rw [PipeScan.stFn, hsync, hst]
  rfl

theorem chkSt_ext {a b : Selector.ChkSt} (h1 : a.minPos = b.minPos) (h2 : a.maxPos = b.maxPos) (h3 : a.count = b.count) : a = b := by
  cases a; cases b; simp at h1 h2 h3; simp [h1, h2, h3]

/-- **the statuses the pipeline computes are the Points-level statuses** of the partition it refines -/
theorem statuses_ref {st : PSt} {p : List PChunk} (href : Ref st p) (hinv : PartInv p) (rmin rmax : Int) :
    PipeRead.statuses (toSt st rmin rmax) = (p.map metaOf).map (PartScan.statusOf ⟨rmin, rmax⟩) := by
  have htss : st.tss = p.map (·.tss) := href.tss
  rw [statuses_eq _ rfl (syncChunks_id href hinv rmin rmax)]
  show (journal st.tss).map _ = _
  apply List.ext_getElem
  · simp [journal_length, htss]
  · intro i h1 h2
    have hip : i < p.length := by simpa using h2
    simp only [List.getElem_map, journal_getElem]
    obtain ⟨_, e1, e2⟩ := ref_find href i hip
    generalize st.cidx.chunks[i] = x at e1 e2
    have hn := (hinv _ (List.getElem_mem hip)).1
    have hcnt : (st.tss.getD i []).length = (p[i]).tss.length := by simp [htss, hip]
    have hf : CIndex.findChk (toSt st rmin rmax).cidx ((i + 1) * 10 / 10) = some x := by
      rw [Nat.mul_div_cancel _ (by decide)]; exact e1
    obtain ⟨w1, w2⟩ := window_eq e2 (toSt st rmin rmax) ((i + 1) * 10) { count := (st.tss.getD i []).length } hf
      (by show (st.tss.getD i []).length ≤ x.recs; rw [e2.recs, hn, hcnt]; exact Nat.le_refl _)
    have hh : (metaOf p[i]).hull = ⟨x.minTs, x.maxTs⟩ := by simp [metaOf, e2.hull]
    apply chkSt_ext
    · have := congrArg Prod.fst w1
      simp only at this
      rw [this]; simp only [PartScan.statusOf, hh]; rfl
    · have := congrArg Prod.snd w1
      simp only at this
      rw [this]; simp only [PartScan.statusOf, hh]; rfl
    · rw [w2]; simp only [PartScan.statusOf, metaOf]; exact hcnt

theorem tsOfPos_eq {st : PSt} {p : List PChunk} (htss : st.tss = p.map (·.tss)) (rmin rmax : Int) (kp : Nat × Nat) :
    PipeRead.tsOfPos (toSt st rmin rmax) kp = partTs p kp.1 kp.2 := by
  simp only [PipeRead.tsOfPos, toSt, partTs, tsOfList, htss]
  by_cases hk : kp.1 < p.length
  · simp [hk]
  · simp [hk]

theorem fullPositions_eq : ∀ (p : List PChunk) (k : Nat), PartScan.fullPositions (p.map metaOf) k = fullRead (p.map (·.tss)) k := by
  intro p
  induction p with
  | nil => intro k; rfl
  | cons c r ih => intro k; simp only [List.map_cons, PartScan.fullPositions, fullRead, ih]; rfl

/-- **the ranged read of the pipeline state that refines a sound partition is the filter of the unbounded read** -/
theorem read_eq_filter {st : PSt} {p : List PChunk} (href : Ref st p) (hinv : PartInv p) (hsmall : Small p) (rmin rmax : Int) :
    read st rmin rmax = (fullRead st.tss 0).filter (fun kq => decide (rmin ≤ tsAt st.tss kq ∧ tsAt st.tss kq ≤ rmax)) := by
  have htss : st.tss = p.map (·.tss) := href.tss
  unfold read PipeRead.absScan
  rw [statuses_ref href hinv]
  have hall := allComplete_of_partInv p hinv hsmall
  have := PartScan.partition_read_eq_filter (partTs p) (p.map metaOf) ⟨rmin, rmax⟩ hall
  unfold PartScan.rangedRead at this
  have e : (fun kp => RangedIter.fitInRange (toSt st rmin rmax).rmin (toSt st rmin rmax).rmax (PipeRead.tsOfPos (toSt st rmin rmax) kp)) =
      (fun kp : Nat × Nat => RangedIter.fitInRange rmin rmax (partTs p kp.1 kp.2)) := by
    funext kp; rw [tsOfPos_eq htss]; rfl
  rw [e, this, fullPositions_eq, htss]
  apply List.filter_congr
  intro kq _
  simp only [tsAt, partTs, tsOfList, inRange]
  rfl


/-! ## 6. hypotheses stated on the pipeline model only -/

/-- a `Service.Write` call as the journal splits it: non-empty pieces, only the first may continue the last chunk -/
def CallOKt (tss : List (List Int)) : List Piece → Prop
  | [] => True
  | pc :: rest => pc.l ≠ [] ∧ (pc.newChunk = false → tss ≠ []) ∧ ∀ q ∈ rest, q.l ≠ [] ∧ q.newChunk = true

/-- every call of the history has that shape w.r.t. the state it meets; rebuilds are unconstrained -/
def HistOK : PSt → List Ev → Prop
  | _, [] => True
  | st, .call c :: r => CallOKt st.tss c ∧ HistOK (step st (.call c)) r
  | st, .rebuild k m :: r => HistOK (step st (.rebuild k m)) r

theorem pieceStep_tss (st : PSt) (p : List PChunk) (iw : IW) (pc : Piece) (h : st.tss = p.map (·.tss)) :
    (pieceStep (st, iw) pc).1.tss = (applyPiece CIndex.sparseSpace CIndex.bigGap (p, iw) pc).1.map (·.tss) ∧
      (pieceStep (st, iw) pc).2 = (applyPiece CIndex.sparseSpace CIndex.bigGap (p, iw) pc).2 := by
  refine ⟨?_, rfl⟩
  unfold pieceStep applyPiece
  cases hb : pc.newChunk with
  | true => simp [h]
  | false =>
    simp only [Bool.false_eq_true, if_false, h]
    cases hp : p.getLast? with
    | none =>
      have : p = [] := by simpa using hp
      subst this; simp
    | some l =>
      simp [List.getLast?_map, hp, List.map_dropLast]

theorem pieces_tss : ∀ (pieces : List Piece) (st : PSt) (p : List PChunk) (iw : IW), st.tss = p.map (·.tss) →
    (pieces.foldl pieceStep (st, iw)).1.tss = (pieces.foldl (applyPiece CIndex.sparseSpace CIndex.bigGap) (p, iw)).1.map (·.tss) := by
  intro pieces
  induction pieces with
  | nil => intro st p iw h; exact h
  | cons pc r ih =>
    intro st p iw h
    obtain ⟨h1, h2⟩ := pieceStep_tss st p iw pc h
    rw [List.foldl_cons, List.foldl_cons]
    have e : pieceStep (st, iw) pc = ((pieceStep (st, iw) pc).1, (applyPiece CIndex.sparseSpace CIndex.bigGap (p, iw) pc).2) :=
      Prod.ext rfl h2
    rw [e]
    exact ih _ _ _ h1

theorem step_tss (st : PSt) (p : List PChunk) (ev : Ev) (h : st.tss = p.map (·.tss)) :
    (step st ev).tss = (absStep p ev).map (·.tss) := by
  cases ev with
  | call c => exact pieces_tss c st p {} h
  | rebuild k m => show st.tss = _; rw [show absStep p (.rebuild k m) = p.modify k (absRebuild m) from rfl, map_tss_modify]; exact h

theorem run_tss : ∀ (evs : List Ev) (st : PSt) (p : List PChunk), st.tss = p.map (·.tss) →
    (evs.foldl step st).tss = (evs.foldl absStep p).map (·.tss) := by
  intro evs
  induction evs with
  | nil => intro st p h; exact h
  | cons ev r ih => intro st p h; exact ih _ _ (step_tss st p ev h)

theorem evsOK_of_histOK : ∀ (evs : List Ev) (st : PSt) (p : List PChunk), st.tss = p.map (·.tss) → HistOK st evs → EvsOK p evs := by
  intro evs
  induction evs with
  | nil => intro _ _ _ _; trivial
  | cons ev r ih =>
    intro st p h hok
    cases ev with
    | call c =>
      refine ⟨?_, ih _ _ (step_tss st p (.call c) h) hok.2⟩
      have := hok.1
      cases c with
      | nil => trivial
      | cons pc rest =>
        obtain ⟨a, b, d⟩ := this
        refine ⟨a, ?_, d⟩
        intro hn hp
        apply b hn
        rw [h, hp]; rfl
    | rebuild k m => exact ih _ _ (step_tss st p (.rebuild k m) h) hok

theorem small_of_tss {st : PSt} {p : List PChunk} (h : st.tss = p.map (·.tss)) (hs : ∀ l ∈ st.tss, l.length ≤ 4294967295) : Small p := by
  intro c hc
  exact hs _ (by rw [h]; exact List.mem_map_of_mem hc)

theorem run_sound (evs : List Ev) (hs : (allTs evs).Pairwise (· ≤ ·))
    (hb : ∀ t ∈ allTs evs, minI64 ≤ t ∧ t ≤ RebuildHist.maxI64) (hok : HistOK {} evs)
    (hsmall : ∀ l ∈ (run evs).tss, l.length ≤ 4294967295) :
    Ref (run evs) (absRun evs) ∧ PartInv (absRun evs) ∧ flat (absRun evs) = allTs evs ∧ Small (absRun evs) ∧
      (run evs).tss = (absRun evs).map (·.tss) := by
  have htss : (run evs).tss = (absRun evs).map (·.tss) := run_tss evs {} [] rfl
  have hsm : Small (absRun evs) := small_of_tss htss hsmall
  have := run_ref evs {} [] ref_init (fun c hc => by simp at hc) (by simpa [flat] using hs) (by simpa [flat] using hb)
    (evsOK_of_histOK evs {} [] rfl hok) hsm
  exact ⟨this.1, this.2.1, by simpa [flat, absRun] using this.2.2, hsm, htss⟩

/-- **everything together**: after any history of `Write` calls and rebuilds over monotone int64 data, the pipeline state
refines a sound Points-level partition, the journal holds the records in order, and every ranged read is the filter -/
theorem run_read_eq_filter (evs : List Ev) (hs : (allTs evs).Pairwise (· ≤ ·))
    (hb : ∀ t ∈ allTs evs, minI64 ≤ t ∧ t ≤ RebuildHist.maxI64) (hok : HistOK {} evs)
    (hsmall : ∀ l ∈ (run evs).tss, l.length ≤ 4294967295) (rmin rmax : Int) :
    read (run evs) rmin rmax =
        (fullRead (run evs).tss 0).filter (fun kq => decide (rmin ≤ tsAt (run evs).tss kq ∧ tsAt (run evs).tss kq ≤ rmax)) ∧
      (run evs).tss.flatten = allTs evs := by
  obtain ⟨r1, r2, r3, hsm, htss⟩ := run_sound evs hs hb hok hsmall
  refine ⟨read_eq_filter r1 r2 hsm rmin rmax, ?_⟩
  rw [htss]; exact r3


/-- per chunk: whatever status the selector held before (`cs`: any old window, any confirmed count), the window
`updatePoss` computes contains every in-range position of the chunk -/
theorem chunk_window_ref {st : PSt} {p : List PChunk} (href : Ref st p) (hinv : PartInv p) (hsmall : Small p)
    (rmin rmax : Int) (i : Nat) (hi : i < p.length) (cs : Selector.ChkSt) (q : Nat) (hq : q < (p[i]).tss.length)
    (hr : rmin ≤ tsOfList (p[i]).tss q ∧ tsOfList (p[i]).tss q ≤ rmax) :
    (RangedIter.updatePoss (toSt st rmin rmax) ((i + 1) * 10) cs).1.minPos ≤ q ∧
      q ≤ (RangedIter.updatePoss (toSt st rmin rmax) ((i + 1) * 10) cs).1.maxPos := by
  obtain ⟨_, e1, e2⟩ := ref_find href i hi
  generalize st.cidx.chunks[i] = x at e1 e2
  have hf : CIndex.findChk (toSt st rmin rmax).cidx ((i + 1) * 10 / 10) = some x := by
    rw [Nat.mul_div_cancel _ (by decide)]; exact e1
  have hmem := List.getElem_mem hi
  by_cases hc : cs.count ≤ x.recs
  · obtain ⟨w1, _⟩ := window_eq e2 (toSt st rmin rmax) ((i + 1) * 10) cs hf hc
    have hw := windowComplete_of_chunkInv _ (hinv _ hmem) (hsmall _ hmem) ⟨rmin, rmax⟩ q hq hr
    have hh : (metaOf p[i]).hull = ⟨x.minTs, x.maxTs⟩ := by simp [metaOf, e2.hull]
    rw [hh] at hw
    have w1' : ((RangedIter.updatePoss (toSt st rmin rmax) ((i + 1) * 10) cs).1.minPos,
        (RangedIter.updatePoss (toSt st rmin rmax) ((i + 1) * 10) cs).1.maxPos) =
        window ⟨x.minTs, x.maxTs⟩ (metaOf p[i]).idx ⟨rmin, rmax⟩ := w1
    rw [← w1'] at hw
    exact hw
  · have f : Generated.C02.updatePossOpensUnknownTail = true := by decide
    have hu : cs.count > x.recs := by omega
    simp only [RangedIter.updatePoss, hf, f, Bool.true_and, decide_eq_true hu, if_true]
    have := hsmall _ hmem
    exact ⟨Nat.zero_le _, by show q ≤ 4294967295; omega⟩

theorem run_chunk_window (evs : List Ev) (hs : (allTs evs).Pairwise (· ≤ ·))
    (hb : ∀ t ∈ allTs evs, minI64 ≤ t ∧ t ≤ RebuildHist.maxI64) (hok : HistOK {} evs)
    (hsmall : ∀ l ∈ (run evs).tss, l.length ≤ 4294967295) (rmin rmax : Int) (k : Nat) (cs : Selector.ChkSt) (q : Nat)
    (hq : q < ((run evs).tss.getD k []).length)
    (hr : rmin ≤ tsAt (run evs).tss (k, q) ∧ tsAt (run evs).tss (k, q) ≤ rmax) :
    (RangedIter.updatePoss (toSt (run evs) rmin rmax) ((k + 1) * 10) cs).1.minPos ≤ q ∧
      q ≤ (RangedIter.updatePoss (toSt (run evs) rmin rmax) ((k + 1) * 10) cs).1.maxPos := by
  obtain ⟨r1, r2, _, hsm, htss⟩ := run_sound evs hs hb hok hsmall
  have hk : k < (absRun evs).length := by
    apply Nat.lt_of_not_le
    intro hle
    rw [htss] at hq
    simp [hle] at hq
  have hget : (run evs).tss.getD k [] = ((absRun evs)[k]).tss := by rw [htss]; simp [hk]
  rw [hget] at hq
  refine chunk_window_ref r1 r2 hsm rmin rmax k hk cs q hq ?_
  simp only [tsAt, hget] at hr
  exact hr

/-! ## 7. notifications with arbitrary positions (concurrent writers): `CIndex.onWrite` refines `Reorder.notify` -/
open Logrange.Reorder

/-- the chunk index (tree model) after the notifications `ds` of chunk `cid`, in the order of the list -/
def deliverC (cid : Nat) (s : CIndex.St) (ds : List Note) : CIndex.St :=
  ds.foldl (fun s b => (CIndex.onWrite s b.f b.l cid b.mn b.mx).1) s

/-- `done`: what has been delivered before `ds` -/
theorem deliverC_ref {tsOf : Nat → Int} {n : Nat} (hm : Monotone tsOf n) (hn : n ≤ 4294967296) (xs : List CIndex.Chk) :
    ∀ (ds done : List Note) (c : ChunkIdx) (x : CIndex.Chk), Inv tsOf n done c → RefChk x c →
      (∀ b ∈ ds, NoteOk tsOf n b) → ds.Pairwise Disj → (∀ a ∈ done, ∀ b ∈ ds, Disj a b) →
      ∃ x', (deliverC x.id ⟨xs ++ [x]⟩ ds).chunks = xs ++ [x'] ∧ x'.id = x.id ∧
        RefChk x' (ds.foldl (notify CIndex.sparseSpace CIndex.bigGap) c) ∧
        Inv tsOf n (ds.reverse ++ done) (ds.foldl (notify CIndex.sparseSpace CIndex.bigGap) c) := by
  intro ds
  induction ds with
  | nil => intro done c x hi hr _ _ _; exact ⟨x, rfl, rfl, hr, hi⟩
  | cons b r ih =>
    intro done c x hi hr hok hp hd
    have hp' := List.pairwise_cons.mp hp
    have hb := hok b List.mem_cons_self
    have hdb : ∀ a ∈ done, Disj a b := fun a ha => hd a ha b List.mem_cons_self
    obtain ⟨x1, e1, e2, e3⟩ := notify_last (xs := xs) hr b (by have := hb.2.1; omega) (hb.mn_le_mx hm)
      (fun hc hs => (inv_append_only CIndex.sparseSpace hm hi b hb hdb hc hs).1)
    obtain ⟨x', g1, g2, g3, g4⟩ := ih (b :: done) _ x1 (notify_inv CIndex.sparseSpace CIndex.bigGap hm hi b hb hdb) e3
      (fun y hy => hok y (List.mem_cons_of_mem _ hy)) hp'.2 (by
        intro a ha y hy
        cases ha with
        | head => exact hp'.1 y hy
        | tail _ ha' => exact hd a ha' y (List.mem_cons_of_mem _ hy))
    refine ⟨x', ?_, by rw [g2, e2], g3, by rw [List.reverse_cons, List.append_assoc]; exact g4⟩
    show (deliverC x.id (CIndex.onWrite ⟨xs ++ [x]⟩ b.f b.l x.id b.mn b.mx).1 r).chunks = _
    rw [st_eq _ _ e1, ← e2]; exact g1

/-- every delivery order of the notifications of a NEW chunk `cid` (the entries `xs` of earlier chunks are untouched) -/
theorem deliverC_new {tsOf : Nat → Int} {n : Nat} (hm : Monotone tsOf n) (hn : n ≤ 4294967296) (xs : List CIndex.Chk)
    (cid : Nat) (hx : ∀ l, xs.getLast? = some l → l.id ≠ cid) (ds : List Note) (hne : ds ≠ [])
    (hok : ∀ b ∈ ds, NoteOk tsOf n b) (hp : ds.Pairwise Disj) :
    ∃ x ds', (deliverC cid ⟨xs⟩ ds).chunks = xs ++ [x] ∧ x.id = cid ∧
      RefChk x (deliver CIndex.sparseSpace CIndex.bigGap ds) ∧ (∀ b, b ∈ ds' ↔ b ∈ ds) ∧
      Inv tsOf n ds' (deliver CIndex.sparseSpace CIndex.bigGap ds) := by
  cases ds with
  | nil => exact absurd rfl hne
  | cons b r =>
    have hp' := List.pairwise_cons.mp hp
    have hb := hok b List.mem_cons_self
    obtain ⟨x1, e1, e2, e3⟩ := notify_new xs b cid hx (by have := hb.2.1; omega) (hb.mn_le_mx hm)
    obtain ⟨x', g1, g2, g3, g4⟩ := deliverC_ref hm hn xs r [b] _ x1
      (notify_inv CIndex.sparseSpace CIndex.bigGap hm (inv_init tsOf n) b hb (fun a ha => by simp at ha)) e3
      (fun y hy => hok y (List.mem_cons_of_mem _ hy)) hp'.2 (fun a ha y hy => by
        rw [List.mem_singleton.mp ha]; exact hp'.1 y hy)
    refine ⟨x', r.reverse ++ [b], ?_, by rw [g2, e2], g3, fun y => by simp [or_comm], g4⟩
    show (deliverC cid (CIndex.onWrite ⟨xs⟩ b.f b.l cid b.mn b.mx).1 r).chunks = _
    rw [st_eq _ _ e1, ← e2]; exact g1

/-! ## 8. minimum / maximum folds (lightFill over all records) -/
theorem foldl_min_max_bounds (l : List Int) : ∀ (a b : Int),
    l.foldl min a ≤ a ∧ b ≤ l.foldl max b ∧ ∀ x ∈ l, l.foldl min a ≤ x ∧ x ≤ l.foldl max b := by
  induction l with
  | nil => intro a b; simp
  | cons y ys ih =>
    intro a b
    obtain ⟨h1, h2, h3⟩ := ih (min a y) (max b y)
    simp only [List.foldl_cons]
    refine ⟨by omega, by omega, fun x hx => ?_⟩
    cases hx with
    | head => omega
    | tail _ hx' => exact h3 x hx'

end Logrange.PipeHist

import Logrange.Model.Registry
/-! Lemmas behind the C19 property theorems. -/
namespace Logrange.Registry
open Go

/-! ### sort.Search returns the least index with `f` true, when `f` is monotone on `[0,n)` -/

theorem sortSearchLoop_spec (f : Nat → Bool) (n : Nat)
    (hmono : ∀ a b, a ≤ b → b < n → f a = true → f b = true) :
    ∀ fuel i j, i ≤ j → j ≤ n → j - i < fuel →
      (∀ k, k < i → f k = false) → (∀ k, j ≤ k → k < n → f k = true) →
      (sortSearchLoop f fuel i j ≤ n ∧ (∀ k, k < sortSearchLoop f fuel i j → f k = false) ∧
        (∀ k, sortSearchLoop f fuel i j ≤ k → k < n → f k = true)) := by
  intro fuel
  induction fuel with
  | zero => intro i j _ _ h; omega
  | succ fuel ih =>
    intro i j hij hjn hfuel hlo hhi
    unfold sortSearchLoop
    by_cases hlt : i < j
    · simp only [hlt, if_true]
      have hh1 : i ≤ (i + j) / 2 := by omega
      have hh2 : (i + j) / 2 < j := by omega
      cases hf : f ((i + j) / 2) with
      | false =>
        simp only [Bool.not_false, if_true]
        apply ih ((i + j) / 2 + 1) j (by omega) hjn (by omega) _ hhi
        intro k hk
        cases hfk : f k with
        | false => rfl
        | true =>
          have := hmono k ((i + j) / 2) (by omega) (by omega) hfk
          rw [hf] at this; cases this
      | true =>
        simp only [Bool.not_true]
        apply ih i ((i + j) / 2) hh1 (by omega) (by omega) hlo
        intro k hk hkn
        exact hmono ((i + j) / 2) k hk hkn hf
    · simp only [hlt, if_false]
      have : i = j := by omega
      subst this
      exact ⟨hjn, hlo, hhi⟩

theorem sortSearch_spec (f : Nat → Bool) (n : Nat)
    (hmono : ∀ a b, a ≤ b → b < n → f a = true → f b = true) :
    sortSearch n f ≤ n ∧ (∀ k, k < sortSearch n f → f k = false) ∧
      (∀ k, sortSearch n f ≤ k → k < n → f k = true) := by
  unfold sortSearch
  apply sortSearchLoop_spec f n hmono (n+1) 0 n (by omega) (by omega) (by omega)
  · intro k hk; omega
  · intro k hk hkn; omega

/-! ### GetPipes -/

def Sorted (l : List Pipe) : Prop := l.Pairwise (fun a b => bytesLe a.name b.name = true)

/-- the loop invariant of `GetPipes` with the counter incremented -/
def GPInv (n : Nat) (s : GP) (done : List Pipe) : Prop :=
  ∃ filled, s.res = filled ++ List.replicate (n - s.cnt) default ∧ filled.length = s.cnt ∧ s.cnt ≤ n ∧
    Sorted filled ∧ filled.Perm done

/-- `copy(res[idx+1:], res[idx:]); res[idx] = p` on an array whose unused tail is padding -/
theorem insert_padded (l : List Pipe) (k idx : Nat) (d p : Pipe) (h : idx ≤ l.length) :
    (l ++ List.replicate (k+1) d).take idx ++ p :: ((l ++ List.replicate (k+1) d).drop idx).dropLast =
      (l.take idx ++ p :: l.drop idx) ++ List.replicate k d := by
  rw [List.take_append_of_le_length h, List.drop_append_of_le_length h, List.replicate_succ', ← List.append_assoc,
    List.dropLast_concat]
  simp

theorem sorted_insert (l : List Pipe) (p : Pipe) (idx : Nat) (hs : Sorted l)
    (hlo : ∀ a ∈ l.take idx, bytesLe p.name a.name = false) (hhi : ∀ b ∈ l.drop idx, bytesLe p.name b.name = true) :
    Sorted (l.take idx ++ p :: l.drop idx) := by
  refine List.pairwise_append.mpr ⟨hs.sublist (List.take_sublist _ _),
    List.pairwise_cons.mpr ⟨hhi, hs.sublist (List.drop_sublist _ _)⟩, fun a ha b hb => ?_⟩
  have hap : bytesLe a.name p.name = true := by
    rcases bytesLe_total a.name p.name with h | h
    · exact h
    · rw [hlo a ha] at h; cases h
  rcases List.mem_cons.mp hb with rfl | hb'
  · exact hap
  · exact bytesLe_trans _ _ _ hap (hhi b hb')

theorem gpStep_inv (n : Nat) (s : GP) (done : List Pipe) (p : Pipe)
    (h : GPInv n s done) (hlt : s.cnt < n) : GPInv n (gpStep true s p) (done ++ [p]) := by
  obtain ⟨filled, hres, hlen, _, hsorted, hperm⟩ := h
  -- the search predicate only looks at the filled part
  let f : Nat → Bool := fun i => bytesLe p.name (s.res.getD i default).name
  have hget : ∀ i, (hi : i < filled.length) → f i = bytesLe p.name filled[i].name := by
    intro i hi
    simp only [f, hres, List.getD_eq_getElem?_getD, List.getElem?_append_left hi, List.getElem?_eq_getElem hi,
      Option.getD_some]
  have hmono : ∀ a b, a ≤ b → b < s.cnt → f a = true → f b = true := by
    intro a b hab hb hfa
    rw [hget a (by omega)] at hfa
    rw [hget b (by omega)]
    rcases Nat.lt_or_ge a b with hlt' | hge
    · exact bytesLe_trans _ _ _ hfa (List.pairwise_iff_getElem.mp hsorted a b (by omega) (by omega) hlt')
    · have : a = b := by omega
      subst this; exact hfa
  obtain ⟨hle, hlo, hhi⟩ := sortSearch_spec f s.cnt hmono
  generalize hidxe : sortSearch s.cnt f = idx at hle hlo hhi
  have hstep : gpStep true s p = ⟨s.res.take idx ++ p :: (s.res.drop idx).dropLast, s.cnt + 1⟩ := by
    rw [← hidxe]; rfl
  have hk : n - s.cnt = (n - (s.cnt + 1)) + 1 := by omega
  rw [hstep]
  refine ⟨filled.take idx ++ p :: filled.drop idx, ?_, ?_, hlt, sorted_insert filled p idx hsorted ?_ ?_, ?_⟩
  · show s.res.take idx ++ p :: (s.res.drop idx).dropLast = _
    rw [hres, hk, insert_padded _ _ _ _ _ (by omega)]
  · show _ = s.cnt + 1
    simp only [List.length_append, List.length_cons, List.length_take, List.length_drop]; omega
  · intro a ha
    obtain ⟨k, hk', rfl⟩ := List.getElem_of_mem ha
    rw [List.length_take] at hk'
    rw [List.getElem_take, ← hget k (by omega)]
    exact hlo k (by omega)
  · intro b hb
    obtain ⟨k, hk', rfl⟩ := List.getElem_of_mem hb
    rw [List.length_drop] at hk'
    rw [List.getElem_drop, ← hget (idx + k) (by omega)]
    exact hhi (idx + k) (by omega) (by omega)
  · have h1 : (filled.take idx ++ p :: filled.drop idx).Perm (p :: (filled.take idx ++ filled.drop idx)) :=
      List.perm_middle
    rw [List.take_append_drop] at h1
    exact h1.trans ((List.Perm.cons p hperm).trans (List.perm_append_singleton p done).symm)

theorem getPipes_foldl_inv (n : Nat) :
    ∀ (todo : List Pipe) (s : GP) (done : List Pipe), GPInv n s done → s.cnt + todo.length ≤ n →
      GPInv n (todo.foldl (gpStep true) s) (done ++ todo) := by
  intro todo
  induction todo with
  | nil => intro s done h _; simpa using h
  | cons p ps ih =>
    intro s done h hlen
    simp only [List.foldl_cons, List.length_cons] at hlen ⊢
    have h' := gpStep_inv n s done p h (by omega)
    have hc : (gpStep true s p).cnt = s.cnt + 1 := by simp [gpStep]
    have := ih (gpStep true s p) (done ++ [p]) h' (by omega)
    simpa [List.append_assoc] using this

theorem getPipes_sorted_perm (order : List Pipe) :
    Sorted (getPipes true order) ∧ (getPipes true order).Perm order := by
  have h0 : GPInv order.length ⟨List.replicate order.length default, 0⟩ [] :=
    ⟨[], by simp, rfl, by simp, List.Pairwise.nil, List.Perm.refl _⟩
  have := getPipes_foldl_inv order.length order _ [] h0 (by simp)
  obtain ⟨filled, hres, hlen, hle, hs, hp⟩ := this
  have hc : filled.length = order.length := by
    have := hp.length_eq; simpa using this
  have : getPipes true order = filled := by
    unfold getPipes
    rw [hres]
    have : order.length - (List.foldl (gpStep true) ⟨List.replicate order.length default, 0⟩ order).cnt = 0 := by
      omega
    rw [this]; simp
  rw [this]
  exact ⟨hs, by simpa using hp⟩

/-! ### paging of SHOW PIPES -/

/-- for every limit and offset an `int` can hold (also when `lim+offs` wraps around) the page is
`(names.drop offs).take lim` -/
theorem showPipes_eq (names : List Bytes) (lim offs : Nat) (hl : 0 < lim)
    (hlm : (lim : Int) ≤ maxInt64) (hom : (offs : Int) ≤ maxInt64) :
    showPipes names (some lim) (some offs) = some ((names.drop offs).take lim) := by
  unfold showPipes
  have h0 : ¬ ((lim : Int) == 0) = true := by simp; omega
  simp only [Option.getD_some, h0, if_false, Bool.false_eq_true]
  have h1 : ¬ ((offs : Int) < 0) := by omega
  simp only [h1, if_false]
  by_cases hov : (lim : Int) + offs ≤ maxInt64
  · rw [show wrap64 ((lim : Int) + offs) = lim + offs by unfold wrap64 maxInt64 at *; omega]
    by_cases h2 : (lim : Int) + offs > names.length
    · simp only [h2, if_true]
      by_cases h3 : (names.length : Int) - offs < 0
      · simp only [h3, if_true]
        have : names.length ≤ offs := by omega
        simp [List.drop_eq_nil_of_le this]
      · simp only [h3, if_false]
        congr 1
        have e : ((names.length : Int) - offs).toNat = names.length - offs := by omega
        rw [e]
        simp only [Int.toNat_natCast]
        rw [List.take_of_length_le (by simp), List.take_of_length_le (by simp; omega)]
    · simp only [h2, if_false]
      simp
  · have hneg : wrap64 ((lim : Int) + offs) < 0 := by unfold wrap64 maxInt64 at *; omega
    have h2 : ¬ (wrap64 ((lim : Int) + offs) > names.length) := by omega
    simp only [h2, if_false]
    simp

/-- walking the listing with pages of `k` names starting at `offs` visits exactly `names.drop offs` -/
theorem pages_concat (names : List Bytes) (k : Nat) :
    ∀ (fuel offs : Nat), names.length ≤ offs + fuel * k →
      ((List.range fuel).map (fun i => (names.drop (offs + i * k)).take k)).flatten = names.drop offs := by
  intro fuel
  induction fuel with
  | zero =>
    intro offs h
    simp at h ⊢
    exact h
  | succ fuel ih =>
    intro offs h
    rw [List.range_succ_eq_map]
    simp only [List.map_cons, List.flatten_cons, List.map_map, Nat.zero_mul, Nat.add_zero]
    have := ih (offs + k) (by rw [Nat.succ_mul] at h; omega)
    have e : ((fun i => List.take k (List.drop (offs + i * k) names)) ∘ Nat.succ) =
        (fun i => List.take k (List.drop (offs + k + i * k) names)) := by
      funext i; simp [Nat.succ_mul]; congr 2; omega
    rw [e, this]
    rw [← List.drop_drop]
    exact List.take_append_drop k (names.drop offs)

/-! ### registry algebra -/

def Reg.Nodup (r : Reg) : Prop := (r.map (·.name)).Nodup

theorem find_erase_self (r : Reg) (n : Bytes) : (r.erase n).find n = none := by
  unfold Reg.find Reg.erase
  rw [List.find?_eq_none]
  intro p hp
  simp at hp
  simp [hp.2]

theorem find_cons_self (r : Reg) (p : Pipe) : Reg.find (p :: r) p.name = some p := by
  simp [Reg.find]

theorem create_after_delete (r : Reg) (p : Pipe) : (step (step r (.delete p.name)).1 (.create p true)).2 = .ok p := by
  cases hq : r.find p.name with
  | some q => simp [step, hq, create, find_erase_self]
  | none => simp [step, hq, create]

theorem find_some_name (r : Reg) (n : Bytes) (q : Pipe) (h : r.find n = some q) : q.name = n := by
  unfold Reg.find at h
  have := List.find?_some h
  simpa using this

theorem find_none_not_mem (r : Reg) (n : Bytes) (h : r.find n = none) : n ∉ r.map (·.name) := by
  unfold Reg.find at h
  rw [List.find?_eq_none] at h
  intro hm
  obtain ⟨p, hp, rfl⟩ := List.mem_map.mp hm
  have := h p hp
  simp at this

theorem erase_nodup (r : Reg) (n : Bytes) (h : r.Nodup) : (r.erase n).Nodup := by
  unfold Reg.Nodup Reg.erase at *
  exact (List.Nodup.sublist (List.Sublist.map _ (List.filter_sublist)) h)

theorem step_fst (r : Reg) (o : Op) :
    ((step r o).1 = r ∧ changes r o = false) ∨
    (∃ p, (o = .create p true ∨ o = .ensure p true) ∧ r.find p.name = none ∧ (step r o).1 = p :: r) ∨
    (∃ n, o = .delete n ∧ (step r o).1 = r.erase n) := by
  cases o with
  | create p ok =>
    simp only [step, create, changes]
    cases hf : r.find p.name with
    | some q => exact .inl ⟨rfl, rfl⟩
    | none => cases ok with
      | false => exact .inl ⟨rfl, rfl⟩
      | true => exact .inr (.inl ⟨p, .inl rfl, hf, rfl⟩)
  | ensure p ok =>
    simp only [step, ensure, changes]
    cases hf : r.find p.name with
    | some q => exact .inl ⟨by simp only []; split <;> rfl, rfl⟩
    | none => cases ok with
      | false => exact .inl ⟨rfl, rfl⟩
      | true => exact .inr (.inl ⟨p, .inr rfl, hf, rfl⟩)
  | delete n =>
    simp only [step, changes]
    cases r.find n with
    | some q => exact .inr (.inr ⟨n, rfl, rfl⟩)
    | none => exact .inl ⟨rfl, rfl⟩
  | get n =>
    simp only [step]
    cases r.find n <;> exact .inl ⟨rfl, rfl⟩

theorem step_nodup (r : Reg) (o : Op) (h : r.Nodup) : (step r o).1.Nodup := by
  rcases step_fst r o with ⟨e, _⟩ | ⟨p, _, hf, e⟩ | ⟨n, _, e⟩ <;> rw [e]
  · exact h
  · exact List.nodup_cons.mpr ⟨find_none_not_mem r _ hf, h⟩
  · exact erase_nodup r n h

theorem step_forall {P : Pipe → Prop} (r : Reg) (o : Op) (hr : ∀ q ∈ r, P q)
    (ho : ∀ p, o = .create p true ∨ o = .ensure p true → P p) : ∀ q ∈ (step r o).1, P q := by
  rcases step_fst r o with ⟨e, _⟩ | ⟨p, hp, _, e⟩ | ⟨n, _, e⟩ <;> rw [e]
  · exact hr
  · exact List.forall_mem_cons.mpr ⟨ho p hp, hr⟩
  · exact fun q hq => hr q (List.mem_filter.mp hq).1

/-! ### concurrent EnsurePipe with one common definition -/

/-- `p` has the name and the two conditions of the reference definition `d` -/
def SameDef (d p : Pipe) : Prop := p.name = d.name ∧ p.fltCond = d.fltCond ∧ p.tagsCond = d.tagsCond

def RegGood (d : Pipe) (reg : Reg) : Prop := ∀ q, reg.find d.name = some q → SameDef d q

/-- what every caller's program counter satisfies along the run -/
def Good (d : Pipe) (reg : Reg) (x : Pipe × Epc) : Prop :=
  SameDef d x.1 ∧
  match x.2 with
  | .get n => n ≤ 1 ∧ (n = 1 → (reg.find d.name).isSome = true)
  | .createStart n => n = 0
  | .createChecked n => n = 0
  | .done r => ∃ q, r = .ok q ∧ SameDef d q

def EInv (d : Pipe) (s : EState) : Prop := RegGood d s.reg ∧ ∀ x ∈ s.pcs, Good d s.reg x

theorem find_cons_same (reg : Reg) (p : Pipe) (n : Bytes) (h : p.name = n) : Reg.find (p :: reg) n = some p := by
  simp [Reg.find, h]

theorem good_mono (d p : Pipe) (reg : Reg) (x : Pipe × Epc) (hp : p.name = d.name)
    (h : Good d reg x) : Good d (p :: reg) x := by
  obtain ⟨h1, h2⟩ := h
  refine ⟨h1, ?_⟩
  cases hx : x.2 with
  | get n =>
    rw [hx] at h2; simp only [] at h2 ⊢
    exact ⟨h2.1, fun _ => by rw [find_cons_same reg p d.name hp]; rfl⟩
  | createStart n => rw [hx] at h2; exact h2
  | createChecked n => rw [hx] at h2; exact h2
  | done r => rw [hx] at h2; exact h2

theorem estep_inv (d : Pipe) (s s' : EState) (a : Nat) (h : EInv d s) (hs : estep s a = some s') : EInv d s' := by
  obtain ⟨hreg, hall⟩ := h
  unfold estep at hs
  cases hpa : s.pcs[a]? with
  | none => simp [hpa] at hs
  | some pp =>
    obtain ⟨p, pc⟩ := pp
    obtain ⟨(hsame : SameDef d p), hpc⟩ := hall (p, pc) (List.mem_of_getElem? hpa)
    have hname : p.name = d.name := hsame.1
    -- every entry of the updated list is the new one or an old one
    have others : ∀ (v : Pipe × Epc) (reg' : Reg), (∀ x ∈ s.pcs, Good d reg' x) → Good d reg' v →
        ∀ x ∈ s.pcs.set a v, Good d reg' x := by
      intro v reg' hold hv x hx
      rcases List.mem_or_eq_of_mem_set hx with h | h
      · exact hold x h
      · rw [h]; exact hv
    -- after a create that found or stored the name: attempt 1, which will find it
    have next : ∀ reg' : Reg, (reg'.find d.name).isSome = true → Good d reg' (p, nextAttempt 0) :=
      fun reg' hf => ⟨hsame, by omega, fun _ => hf⟩
    cases pc with
    | get n =>
      simp only [hpa] at hs
      simp only [] at hpc
      cases hf : s.reg.find p.name with
      | some q =>
        have hq : SameDef d q := hreg q (by rw [← hname]; exact hf)
        have hne : (q.fltCond != p.fltCond || q.tagsCond != p.tagsCond) = false := by
          simp [hq.2.1, hq.2.2, hsame.2.1, hsame.2.2]
        simp only [hf, hne, Bool.false_eq_true, if_false, Option.some.injEq] at hs
        subst hs
        exact ⟨hreg, others _ _ hall ⟨hsame, q, rfl, hq⟩⟩
      | none =>
        simp only [hf, Option.some.injEq] at hs; subst hs
        -- attempt 1 would find the pipe: so this is attempt 0
        have : n ≠ 1 := fun e => by have := hpc.2 e; rw [← hname, hf] at this; cases this
        exact ⟨hreg, others _ _ hall ⟨hsame, show n = 0 by omega⟩⟩
    | createStart n =>
      simp only [hpa] at hs
      cases hf : s.reg.find p.name with
      | some q =>
        simp only [hf, Option.some.injEq] at hs; subst hs
        exact ⟨hreg, others _ _ hall (hpc ▸ next s.reg (by rw [← hname, hf]; rfl))⟩
      | none =>
        simp only [hf, Option.some.injEq] at hs; subst hs
        exact ⟨hreg, others _ _ hall ⟨hsame, hpc⟩⟩
    | createChecked n =>
      simp only [hpa] at hs
      cases hf : s.reg.find p.name with
      | some q =>
        simp only [hf, Option.some.injEq] at hs; subst hs
        exact ⟨hreg, others _ _ hall (hpc ▸ next s.reg (by rw [← hname, hf]; rfl))⟩
      | none =>
        simp only [hf, Option.some.injEq] at hs; subst hs
        have hfc := find_cons_same s.reg p d.name hname
        refine ⟨fun q hq => ?_, others _ _ (fun x hx => good_mono d p s.reg x hname (hall x hx))
          (hpc ▸ next (p :: s.reg) (by rw [hfc]; rfl))⟩
        rw [hfc] at hq
        cases hq; exact hsame
    | done r => simp [hpa] at hs

theorem erun_inv (d : Pipe) (s : EState) (sched : List Nat) (h : EInv d s) : EInv d (erun s sched) := by
  induction sched generalizing s with
  | nil => simpa [erun] using h
  | cons a as ih =>
    simp only [erun]
    cases hs : estep s a with
    | none => exact ih s h
    | some s' => exact ih s' (estep_inv d s s' a h hs)

end Logrange.Registry

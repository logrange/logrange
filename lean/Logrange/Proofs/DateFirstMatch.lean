import Logrange.Proofs.DateRoundTripAll
/-!
# First match: a format whose text no earlier format of the list can even match is claimed by itself

`cleanIdx fmts k`: for every earlier format `j < k` the may-matcher finds nothing in any shape of format `k`'s texts
(kernel-evaluated); by `find_none_of_findS` the real search of format `j` then finds nothing in any text of format `k`, so
`Format.Parse` of `j` fails; format `k`'s own expression returns the whole text (`find_whole_of_ownMatchD`) and its layout
parses it back (`render_parse_all`). Who answers for the list is the first format that does not fail (`parseFrom_claimant`);
every first-match theorem, here and in the second stage, goes through that lemma and through `formatParse_own`.
-/
namespace Logrange.Date

/-- what `Format.Parse` does after a successful layout parse -/
def adjustRes (adj : Adjust) (cf : CFormat) (now : Now) (c : Civil) : FRes :=
  if cf.noDate then (if adj.date then .ok (adjustDate now c) else .ok c)
  else if !cf.hasYear then
    (if adj.year then
      (match c.zone with
       | .named _ disp => if disp != 0 then .unsupported 3 else .ok (adjustYear now c)
       | _ => .ok (adjustYear now c))
     else .ok c)
  else .ok c

theorem formatParse_of_find {adj : Adjust} {cf : CFormat} {now : Now} {txt : Bytes} {r : Rx} {c : Civil}
    (hr : cf.rx = some r) (hf : findG cf.guard r txt = some txt) (hp : parseLayout cf.layout txt = .ok c) :
    formatParse adj cf now txt = adjustRes adj cf now c := by
  simp only [formatParse, hr, hf, hp]; rfl

theorem formatParse_err_of_find {adj : Adjust} {cf : CFormat} {now : Now} {txt : Bytes} {r : Rx}
    (hr : cf.rx = some r) (hf : findG cf.guard r txt = none) : formatParse adj cf now txt = .err := by
  simp only [formatParse, hr, hf]

theorem formatParse_err_of_findSG {adj : Adjust} {cf : CFormat} {now : Now} {r : Rx} (hr : cf.rx = some r) {txt : Bytes}
    {sh : List BSet} (hs : hasShape txt sh) (hns : findSG cf.guard r false sh = false) : formatParse adj cf now txt = .err :=
  formatParse_err_of_find hr (findFrom_none_of_findSG cf.guard r txt sh false false hs id hns)

theorem ite_ne_err {p : Prop} [Decidable p] {a b : FRes} (ha : a ≠ .err) (hb : b ≠ .err) : (if p then a else b) ≠ .err := by
  split <;> assumption

theorem adjustRes_ne_err {adj : Adjust} {cf : CFormat} {now : Now} {c : Civil} : adjustRes adj cf now c ≠ .err :=
  ite_ne_err (ite_ne_err nofun nofun)
    (ite_ne_err (ite_ne_err (by split; exact ite_ne_err nofun nofun; exact nofun) nofun) nofun)

/-- the claim of format `k` as `parser.Parse` reports it -/
def claim (k : Nat) : FRes → PRes
  | .ok c => .ok k c
  | .err => .err
  | .unsupported w => .unsupported k w

theorem parseFrom_cons_err {adj : Adjust} {now : Now} {buf : Bytes} {cf : CFormat} (h : formatParse adj cf now buf = .err)
    (i0 : Nat) (rest : List CFormat) : parseFrom adj now buf i0 (cf :: rest) = parseFrom adj now buf (i0 + 1) rest := by
  simp only [parseFrom, h]

theorem parseFrom_cons_claim {adj : Adjust} {now : Now} {buf : Bytes} {cf : CFormat} (h : formatParse adj cf now buf ≠ .err)
    (i0 : Nat) (rest : List CFormat) : parseFrom adj now buf i0 (cf :: rest) = claim i0 (formatParse adj cf now buf) := by
  simp only [parseFrom]
  cases hfp : formatParse adj cf now buf with
  | err => exact absurd hfp h
  | ok c => rfl
  | unsupported w => rfl

theorem parseFrom_claimant {adj : Adjust} {now : Now} {buf : Bytes} :
    ∀ (fmts : List CFormat) (i0 k : Nat) (ck : CFormat), fmts[k]? = some ck → formatParse adj ck now buf ≠ .err →
      ∃ j' cj, j' ≤ k ∧ fmts[j']? = some cj ∧ formatParse adj cj now buf ≠ .err ∧
        parseFrom adj now buf i0 fmts = claim (i0 + j') (formatParse adj cj now buf)
  | [], _, _, _, h, _ => by cases h
  | cf :: rest, i0, k, ck, h, hne => by
    by_cases h0 : formatParse adj cf now buf = .err
    · cases k with
      | zero => cases h; exact absurd h0 hne
      | succ k =>
        obtain ⟨j', cj, hj, hcj, hnej, hp⟩ := parseFrom_claimant rest (i0 + 1) k ck h hne
        exact ⟨j' + 1, cj, Nat.succ_le_succ hj, hcj, hnej, by rw [parseFrom_cons_err h0, hp, Nat.add_right_comm, Nat.add_assoc]⟩
    · exact ⟨0, cf, Nat.zero_le k, rfl, h0, parseFrom_cons_claim h0 i0 rest⟩

theorem parseFrom_first {adj : Adjust} {now : Now} {buf : Bytes} (fmts : List CFormat) (i0 k : Nat) (ck : CFormat)
    (hk : fmts[k]? = some ck) (herr : ∀ j, j < k → ∀ cj, fmts[j]? = some cj → formatParse adj cj now buf = .err)
    (hne : formatParse adj ck now buf ≠ .err) : parseFrom adj now buf i0 fmts = claim (i0 + k) (formatParse adj ck now buf) := by
  obtain ⟨j', cj, hj, hcj, hnej, hp⟩ := parseFrom_claimant fmts i0 k ck hk hne
  rcases Nat.lt_or_eq_of_le hj with hlt | rfl
  · exact absurd (herr j' hlt cj hcj) hnej
  · rw [hk] at hcj; cases hcj; exact hp

/-- format `k`'s texts cannot be matched by the expression of any earlier format of the list -/
def cleanIdx (fmts : List CFormat) (k : Nat) : Bool :=
  match fmts[k]? with
  | none => false
  | some ck =>
    (List.range k).all (fun j =>
      match fmts[j]? with
      | none => true
      | some cj =>
        match cj.rx with
        | none => false
        | some r => (symLayout ck.layout).all (fun sh => !findSG cj.guard r false sh))

/-- format `k`'s own expression returns the whole of every text of the format, and its layout is well formed -/
def ownOK (cf : CFormat) : Bool :=
  ParseWF cf.layout && (match cf.rx with | some r => (symLayout cf.layout).all (ownMatchD r) | none => false)

/-- **own expression**: the format's expression, searched unanchored in the format's own text, returns the whole text -/
theorem own_regexp_whole {cf : CFormat} (hown : ownOK cf = true) {i : XInst} (hi : ValidX i) {txt : Bytes}
    (ht : renderLayout cf.layout i = some txt) : ∃ r, cf.rx = some r ∧ find r txt = some txt ∧ findG cf.guard r txt = some txt := by
  simp only [ownOK, Bool.and_eq_true] at hown
  obtain ⟨sh, hsh, hs⟩ := renderLayout_shape cf.layout i hi txt ht
  cases hr : cf.rx with
  | none => rw [hr] at hown; cases hown.2
  | some r =>
    rw [hr] at hown
    have ho := List.all_eq_true.mp hown.2 sh hsh
    exact ⟨r, rfl, find_whole_of_ownMatchD hs ho, findG_of_matchAt (matchAt_whole_of_ownMatchD hs ho)⟩

theorem formatParse_own {cf : CFormat} (hown : ownOK cf = true) (i : XInst) (hi : ValidX i) :
    ∃ txt c sh, renderLayout cf.layout i = some txt ∧ projectX cf.layout i = .ok c ∧ parseLayout cf.layout txt = .ok c ∧
      sh ∈ symLayout cf.layout ∧ hasShape txt sh ∧ ∀ adj now, formatParse adj cf now txt = adjustRes adj cf now c := by
  obtain ⟨txt, ht, hp⟩ := render_parse_all cf.layout (Bool.and_eq_true _ _ ▸ hown).1 i hi
  obtain ⟨c, hc⟩ := projectX_ok cf.layout i hi
  obtain ⟨r, hr, _, hf⟩ := own_regexp_whole hown hi ht
  obtain ⟨sh, hsh, hs⟩ := renderLayout_shape cf.layout i hi txt ht
  rw [hc] at hp
  exact ⟨txt, c, sh, ht, hc, hp, hsh, hs, fun _ _ => formatParse_of_find hr hf hp⟩

/-- **first match**: for a clean index the list's answer for the text of any valid instant is format `k`'s own claim of
exactly the fields the layout carries -/
theorem first_match_clean {adj : Adjust} {now : Now} {fmts : List CFormat} {k : Nat} {ck : CFormat} (hk : fmts[k]? = some ck)
    (hclean : cleanIdx fmts k = true) (hown : ownOK ck = true) (i : XInst) (hi : ValidX i) :
    ∃ txt c, renderLayout ck.layout i = some txt ∧ projectX ck.layout i = .ok c ∧
      parseFirst adj fmts now txt = claim k (adjustRes adj ck now c) := by
  obtain ⟨txt, c, sh, ht, hc, _, hsh, hs, hfp⟩ := formatParse_own hown i hi
  refine ⟨txt, c, ht, hc, ?_⟩
  have hearlier : ∀ j, j < k → ∀ cj, fmts[j]? = some cj → formatParse adj cj now txt = .err := by
    intro j hj cj hcj
    simp only [cleanIdx, hk, List.all_eq_true, List.mem_range] at hclean
    have hcl := hclean j hj
    rw [hcj] at hcl
    simp only at hcl
    cases hrj : cj.rx with
    | none => rw [hrj] at hcl; cases hcl
    | some rj =>
      rw [hrj] at hcl
      exact formatParse_err_of_findSG hrj hs (by simpa using List.all_eq_true.mp hcl sh hsh)
  have := parseFrom_first (adj := adj) (now := now) (buf := txt) fmts 0 k ck hk hearlier (by rw [hfp]; exact adjustRes_ne_err)
  rw [parseFirst, this, Nat.zero_add, hfp]

theorem relativeShape_minus (s : Bytes) {u : UInt8} (hu : u = 109 ∨ u = 104 ∨ u = 100) :
    relativeShape (45 :: (s ++ [u])) = some (u, s) := by
  have hlast : (45 :: (s ++ [u])).getLast? = some u := by rw [← List.cons_append, List.getLast?_append]; rfl
  have hlen : ((45 :: (s ++ [u])).drop 1).take ((45 :: (s ++ [u])).length - 2) = s := by simp
  simp only [relativeShape, hlast, hlen]
  rcases hu with rfl | rfl | rfl <;> rfl

theorem parseLql_relative (cfg : LqlCfg) (fmts : List CFormat) (now : Now) (s : Bytes) (hs : ∀ c ∈ s, c ≠ 32 ∧ isUpperB c = false)
    {u : UInt8} (hu : u = 109 ∨ u = 104 ∨ u = 100) : ∃ e, parseLql cfg fmts now (45 :: (s ++ [u])) = .rel u s e := by
  have hb : ∀ c ∈ 45 :: (s ++ [u]), c ≠ 32 ∧ isUpperB c = false := by
    intro c hc
    rcases List.mem_cons.mp hc with rfl | hc
    · decide
    · rcases List.mem_append.mp hc with hc | hc
      · exact hs c hc
      · rw [List.mem_singleton.mp hc]; rcases hu with rfl | rfl | rfl <;> decide
  have htrim := trimBlanks_id (fun c hc => (hb c hc).1)
  have hlow := toLowerAscii_id (fun c hc => (hb c hc).2)
  simp only [parseLql, htrim, hlow, ite_self, relativeShape_minus s hu]
  exact ⟨_, rfl⟩

/-! ## the LQL wrapper: a rendered text goes straight to the format list -/

/-- no blank at either end, no `-` in front, a digit somewhere — decided on the shape -/
def lqlShapeOK (sh : List BSet) : Bool :=
  (match sh.head? with | some x => !inCls x 32 && !inCls x 45 | none => false) &&
  (match sh.getLast? with | some x => !inCls x 32 | none => false) &&
  sh.any (fun x => within x dS)

theorem hasShape_getElem? {x : BSet} : ∀ (txt : Bytes) (sh : List BSet) (n : Nat), hasShape txt sh → sh[n]? = some x →
    ∃ c, txt[n]? = some c ∧ inCls x c = true := by
  intro txt
  induction txt with
  | nil =>
    intro sh n h hx
    cases sh with
    | nil => cases hx
    | cons _ _ => exact h.elim
  | cons c t ih =>
    intro sh n h hx
    cases sh with
    | nil => exact h.elim
    | cons y ys =>
      cases n with
      | zero => cases hx; exact ⟨c, rfl, h.1⟩
      | succ n => exact ih ys n h.2 hx

theorem lqlShape_ends {txt : Bytes} {sh : List BSet} (hs : hasShape txt sh) (hok : lqlShapeOK sh = true) :
    (∃ c, txt.head? = some c ∧ c ≠ 32 ∧ c ≠ 45) ∧ (∃ c, txt.getLast? = some c ∧ c ≠ 32) ∧ ∃ d ∈ txt, isDig d = true := by
  simp only [lqlShapeOK, Bool.and_eq_true, List.any_eq_true] at hok
  obtain ⟨⟨hhead, hlast⟩, y, hy, hyd⟩ := hok
  refine ⟨?_, ?_, ?_⟩
  · cases hh : sh.head? with
    | none => rw [hh] at hhead; cases hhead
    | some x =>
      rw [hh] at hhead
      rw [List.head?_eq_getElem?] at hh ⊢
      obtain ⟨c, hc, hin⟩ := hasShape_getElem? txt sh 0 hs hh
      refine ⟨c, hc, ?_, ?_⟩ <;> (rintro rfl; simp [hin] at hhead)
  · cases hl : sh.getLast? with
    | none => rw [hl] at hlast; cases hlast
    | some x =>
      rw [hl] at hlast
      rw [List.getLast?_eq_getElem?] at hl ⊢
      rw [hasShape_length hs]
      obtain ⟨c, hc, hin⟩ := hasShape_getElem? txt sh _ hs hl
      exact ⟨c, hc, by rintro rfl; simp [hin] at hlast⟩
  · obtain ⟨n, hn⟩ := List.getElem?_of_mem hy
    obtain ⟨d, hd, hin⟩ := hasShape_getElem? txt sh n hs hn
    exact ⟨d, List.mem_of_getElem? hd, by rw [← inCls_dS]; exact inCls_of_within hyd hin⟩

theorem lowerB_digit {d : UInt8} (h : isDig d = true) : lowerB d = d := by
  simp [lowerB, (sdByte_facts (Or.inl h)).2.1]

theorem lowerB_eq_minus {c : UInt8} (h : lowerB c = 45) : c = 45 := by
  simp only [lowerB] at h
  split at h
  · rename_i hu
    exfalso
    simp only [isUpperB, Bool.and_eq_true, decide_eq_true_eq, UInt8.le_iff_toNat_le] at hu
    have h2 : (c + 32).toNat = 45 := by rw [h]; rfl
    rw [UInt8.toNat_add] at h2
    have e65 : (65 : UInt8).toNat = 65 := rfl
    have e90 : (90 : UInt8).toNat = 90 := rfl
    have e32 : (32 : UInt8).toNat = 32 := rfl
    rw [e65, e90] at hu
    rw [e32] at h2
    omega
  · exact h

theorem relativeShape_none_of_head {s : Bytes} (h : s.head? ≠ some 45) : relativeShape s = none := by
  cases s with
  | nil => rfl
  | cons c r =>
    have : (c != 45) = true := by simpa using h
    simp only [relativeShape, this, if_true]

theorem parseConstants_none_of_digit {s : Bytes} (h : ∃ d ∈ s, isDig d = true) : parseConstants s = none := by
  obtain ⟨d, hd, hdd⟩ := h
  have no : ∀ (k : Bytes), (∀ x ∈ k, isDig x = false) → (s == k) = false := by
    intro k hk
    apply beq_false_of_ne; intro e; subst e
    rw [hk d hd] at hdd; cases hdd
  simp only [parseConstants]
  rw [no bMinute (by decide), no bHour (by decide), no bDay (by decide), no bWeek (by decide)]
  rfl

/-- a text with an LQL-safe shape, claimed by format `k` of the list, is what `parseLqlDateTime` answers — when the format
list is handed the literal as written (`fmtLower = false`, /repo ab30677) -/
theorem parseLql_of_list (cfg : LqlCfg) (hfl : cfg.fmtLower = false) (fmts : List CFormat) (now : Now) {txt : Bytes} {sh : List BSet}
    (hs : hasShape txt sh) (hok : lqlShapeOK sh = true) {k : Nat} {c : Civil}
    (hpf : parseFirst cfg.adj fmts now txt = .ok k c) : parseLql cfg fmts now txt = .abs k c := by
  obtain ⟨⟨c0, hc0, h32, h45⟩, ⟨c1, hc1, hl32⟩, hdigit⟩ := lqlShape_ends hs hok
  have htrim : trimBlanks txt = txt := by
    have h1 : txt.dropWhile (· == 32) = txt := cutspace_of_head (by rw [hc0]; simpa using h32)
    have h2 : txt.reverse.dropWhile (· == 32) = txt.reverse :=
      cutspace_of_head (by rw [List.head?_reverse, hc1]; simpa using hl32)
    simp only [trimBlanks, h1, h2, List.reverse_reverse]
  -- the text and its lower-cased form: no leading minus, a digit inside
  have hhead : txt.head? ≠ some 45 := by rw [hc0]; simpa using h45
  have hlowhead : (toLowerAscii txt).head? ≠ some 45 := by
    rw [toLowerAscii, List.head?_map, hc0]
    exact fun e => h45 (lowerB_eq_minus (Option.some.inj e))
  have hlowdig : ∃ d ∈ toLowerAscii txt, isDig d = true := by
    obtain ⟨d, hd, hdd⟩ := hdigit
    exact ⟨d, List.mem_map.mpr ⟨d, hd, lowerB_digit hdd⟩, hdd⟩
  have hdt1 : (if cfg.trim then trimBlanks txt else txt) = txt := by rw [htrim, ite_self]
  simp only [parseLql, hdt1, hfl, Bool.false_eq_true, if_false]
  cases cfg.lower
  · simp only [Bool.false_eq_true, if_false, relativeShape_none_of_head hhead, parseLqlRest,
      parseConstants_none_of_digit hdigit, hpf]
  · simp only [if_true, relativeShape_none_of_head hlowhead, parseLqlRest, parseConstants_none_of_digit hlowdig, hpf]

end Logrange.Date

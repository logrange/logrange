import Logrange.Proofs.ScanWorker
import Logrange.Proofs.ScanDrain
import Logrange.Proofs.ScanCrash
/-! The SIZE of the lag of a save whose marshal falls between a confirm rendez-vous and its `setOffset`
(pc `setting`): the stored offset lags behind the confirmed end by exactly the one event that was just confirmed —
at least 1 and at most `recsPerEvent` consecutive confirmed records. For the worker LTS (`Model/ScanWorker.lean`) and
for the split-save system (`Model/ScanCrash.lean`). -/
namespace Logrange.ScanWorker
open Logrange.LineReader

/-- `p` is the end of a prefix of `j` records of `conf`, `cp` the end of `j + m` of them; `m = 0` outside the window,
`1 ≤ m ≤ k` inside -/
def Lag (k start : Nat) (conf : List Bytes) (p cp : Nat) (w : Bool) : Prop :=
  ∃ j m, j + m ≤ conf.length ∧ m ≤ k ∧ p = start + bytesOf (conf.take j) ∧
    cp = start + bytesOf (conf.take (j + m)) ∧ (w = false → m = 0) ∧ (w = true → 1 ≤ m)

/-- prefix indices stay valid when the confirmed list grows -/
theorem lag_append {k start : Nat} {conf : List Bytes} {p cp : Nat} {w : Bool} (x : List Bytes)
    (h : Lag k start conf p cp w) : Lag k start (conf ++ x) p cp w := by
  obtain ⟨j, m, h1, h2, h3, h4, h5, h6⟩ := h
  refine ⟨j, m, by simp only [List.length_append]; omega, h2, ?_, ?_, h5, h6⟩
  · rw [List.take_append_of_le_length (by omega)]; exact h3
  · rw [List.take_append_of_le_length h1]; exact h4

/-- what a persist stores: the offset is the end of the confirmed records without the batch just confirmed (at pc
`setting`) or the confirmed end itself (elsewhere) -/
theorem lag_at_persist (k : Nat) (s : S) (hw : WInv s) (hb : batchOk k s) :
    Lag k s.start s.confirmed s.offset (confEnd s) (isSetting s.pc) := by
  cases hset : isSetting s.pc with
  | true =>
    obtain ⟨u, eof, hpc⟩ : ∃ u eof, s.pc = .setting u eof := by
      cases h : s.pc <;> simp [h, isSetting] at hset ⊢
    simp only [batchOk, hpc] at hb
    obtain ⟨hne, hle, pre, hpre⟩ := hb
    have hoff := (hw.window hset).2.2.1
    simp only [confEnd] at hoff
    have hpos : 1 ≤ s.recs.length := by
      cases hr : s.recs with
      | nil => exact absurd hr hne
      | cons a b => simp
    refine ⟨pre.length, s.recs.length, ?_, hle, ?_, ?_, (fun h => by cases h), fun _ => hpos⟩
    · rw [hpre]; simp
    · rw [hpre, List.take_left']
      · rw [hpre] at hoff; simp only [bytesOf_append] at hoff; omega
      · rfl
    · simp only [confEnd]
      rw [List.take_of_length_le]
      rw [hpre]; simp
  | false =>
    refine ⟨s.confirmed.length, 0, by omega, by omega, ?_, ?_, fun _ => rfl, fun h => by cases h⟩
    · rw [List.take_length]; exact (hw.idle hset).1
    · simp only [confEnd, Nat.add_zero, List.take_length]

/-- the lag invariant of a worker state -/
def lagOk (k : Nat) (s : S) : Prop :=
  Lag k s.start s.confirmed s.persisted s.confAtPersist s.persistInWindow

theorem lagOk_init (k start : Nat) : lagOk k (init start) :=
  ⟨0, 0, by simp [init], by omega, by simp [init], by simp [init], fun _ => rfl, fun h => by simp [init] at h⟩

theorem lagOk_step {c : Cfg} {s s' : S} {l : L} (hst : Step c s l s') (hw : WInv s)
    (hb : batchOk c.recsPerEvent s) (h : lagOk c.recsPerEvent s) : lagOk c.recsPerEvent s' := by
  cases hl : Logrange.ScanCrash.isPersistLabel l with
  | true =>
    obtain rfl := Logrange.ScanCrash.step_persist hst hl
    exact lag_at_persist c.recsPerEvent s hw hb
  | false =>
    obtain ⟨e1, e2, e3⟩ := Logrange.ScanCrash.step_nonpersist hst hl
    obtain ⟨g1, ⟨x, g2⟩, _⟩ := hst.grow
    unfold lagOk
    rw [e1, e2, e3, g1, g2]
    exact lag_append x h

def LagInv (k : Nat) (s : S) : Prop := WInv s ∧ batchOk k s ∧ lagOk k s

theorem laginv_init (k start : Nat) (hk : 1 ≤ k) : LagInv k (init start) :=
  ⟨winv_init start, batchOk_init k start hk, lagOk_init k start⟩

theorem laginv_step {c : Cfg} (hk : 1 ≤ c.recsPerEvent) {s s' : S} {l : L} (hst : Step c s l s')
    (h : LagInv c.recsPerEvent s) : LagInv c.recsPerEvent s' :=
  ⟨winv_step hst h.1, batchOk_step hk hst h.2.1, lagOk_step hst h.1 h.2.1 h.2.2⟩

/-- **the lag invariant**: what was persisted is the end of a prefix of `j` confirmed records, the confirmed end at
that persist the end of `j + m` of them, with `m = 0` outside the window and `1 ≤ m ≤ recsPerEvent` inside -/
theorem window_lag_is_one_event (c : Cfg) (hk : 1 ≤ c.recsPerEvent) (start : Nat) (tr : List L) :
    let s := run c (init start) tr
    ∃ j m, j + m ≤ s.confirmed.length ∧ m ≤ c.recsPerEvent ∧
      s.persisted = start + bytesOf (s.confirmed.take j) ∧
      s.confAtPersist = start + bytesOf (s.confirmed.take (j + m)) ∧
      (s.persistInWindow = false → m = 0) ∧ (s.persistInWindow = true → 1 ≤ m) := by
  intro s
  have h : lagOk c.recsPerEvent s := (run_inv c (laginv_step hk) tr _ (laginv_init _ start hk)).2.2
  unfold lagOk at h
  rw [run_start c tr (init start)] at h
  exact h

end Logrange.ScanWorker

namespace Logrange.ScanCrash
open Logrange.ScanWorker

/-- the lag invariant of the split-save system: the inner one, and the same for what `scanner.json` holds -/
structure CLag (k : Nat) (x : CS) : Prop where
  inner : LagInv k x.s
  disk : Lag k x.s.start x.s.confirmed x.disk x.diskConf x.diskWin

theorem clag_init (k start : Nat) (hk : 1 ≤ k) : CLag k (cinit start) :=
  ⟨laginv_init k start hk, lagOk_init k start⟩

theorem clag_step {c : Cfg} (hk : 1 ≤ c.recsPerEvent) {x x' : CS} (hs : CStep c x x')
    (h : CLag c.recsPerEvent x) : CLag c.recsPerEvent x' := by
  obtain ⟨hi, hd⟩ := h
  -- an inner step: the disk's `j`, `m` stay valid because `confirmed` only grows
  have inner : ∀ {l s'}, step c x.s l = some s' →
      LagInv c.recsPerEvent s' ∧ Lag c.recsPerEvent s'.start s'.confirmed x.disk x.diskConf x.diskWin := by
    intro l s' hst
    have hst := step_sound hst
    obtain ⟨g1, ⟨y, g2⟩, _⟩ := hst.grow
    exact ⟨laginv_step hk hst hi, by rw [g1, g2]; exact lag_append y hd⟩
  cases hs with
  | w _ hst => exact ⟨(inner hst).1, (inner hst).2⟩
  | saveBegin _ hst => exact ⟨(inner hst).1, (inner hst).2⟩
  | saveRename => exact ⟨hi, hi.2.2⟩

/-- **the same for the split-save system**: what `scanner.json` holds -/
theorem crash_window_lag_is_one_event (c : Cfg) (hk : 1 ≤ c.recsPerEvent) (start : Nat) (tr : List CL) :
    let x := crun c (cinit start) tr
    ∃ j m, j + m ≤ x.s.confirmed.length ∧ m ≤ c.recsPerEvent ∧
      x.disk = start + bytesOf (x.s.confirmed.take j) ∧
      x.diskConf = start + bytesOf (x.s.confirmed.take (j + m)) ∧
      (x.diskWin = false → m = 0) ∧ (x.diskWin = true → 1 ≤ m) := by
  intro x
  have h := (crun_inv c (clag_step hk) tr _ (clag_init _ start hk)).disk
  have hst : x.s.start = start := crun_start c tr (cinit start)
  have h : Lag c.recsPerEvent x.s.start x.s.confirmed x.disk x.diskConf x.diskWin := h
  rw [hst] at h
  exact h

end Logrange.ScanCrash

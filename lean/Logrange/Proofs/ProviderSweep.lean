import Logrange.Proofs.Provider
/-!
# What one `sweepByTime()` removes, and the halving bound

`e.Next()` returns `cle.prev`, so after unlinking an expired element the loop of `sweepByTime` steps over the
element in front of it. The loop counter is `len(p.curs)` and is decremented once per round, while a removal
consumes two ring elements: the rounds that are left over are spent on a **second (third, …) lap round the ring**
(`Prev()` of the head is the tail), which re-examines the elements skipped before. The exact description is
therefore the cyclic `cwalk` below (not the one-lap `walk`); `walk` is its first lap (`walk_sub_cwalk`).

* `sweepByTime_removes`  — the ring after the sweep is the old ring without `removed s`, the cursors of removed
  idle holders are closed, the other cursors are untouched;
* `sweep_closes_oldest`, `sweep_closes_examined`;
* `sweep_halves`, `Sorted_sweepByTime`, `sweeps_finish`, `sweeps_close` — under `Sorted` the number of expired ring
  elements is at least halved by every sweep, so `k` sweeps clear fewer than `2^k` expired elements.
-/
namespace Logrange.Provider
open Logrange.Ring

/-! ## pure lists -/
section Pure
variable (exp busy : Nat → Bool)

/-- the first lap, in examination order (tail first): an expired element is removed and the next one stepped
    over; a live busy one is passed; a live idle one ends the sweep -/
def walk : List Nat → List Nat
  | [] => []
  | [x] => if exp x then [x] else []
  | x :: y :: rest => if exp x then x :: walk rest else if busy x then walk (y :: rest) else []

/-- the whole loop: `cnt` rounds on the ring in examination order, starting with the element examined next;
    returns (removed, what is left — rotated). An examined element that stays is rotated to the back; after a
    removal the element stepped over is. -/
def cwalk : Nat → List Nat → List Nat × List Nat
  | 0, l => ([], l)
  | _ + 1, [] => ([], [])
  | c + 1, x :: rest =>
    if exp x then (x :: (cwalk c (rest.drop 1 ++ rest.take 1)).1, (cwalk c (rest.drop 1 ++ rest.take 1)).2)
    else if busy x then cwalk c (rest ++ [x])
    else ([], x :: rest)

theorem cwalk_zero (l : List Nat) : cwalk exp busy 0 l = ([], l) := by cases l <;> rfl

theorem cwalk_succ_cons (c x : Nat) (rest : List Nat) : cwalk exp busy (c + 1) (x :: rest) =
    if exp x then (x :: (cwalk exp busy c (rest.drop 1 ++ rest.take 1)).1, (cwalk exp busy c (rest.drop 1 ++ rest.take 1)).2)
    else if busy x then cwalk exp busy c (rest ++ [x])
    else ([], x :: rest) := rfl

theorem rot_perm (rest : List Nat) : (rest.drop 1 ++ rest.take 1).Perm rest := by
  have h := @List.perm_append_comm _ (rest.drop 1) (rest.take 1)
  rwa [List.take_append_drop] at h

theorem cwalk_spec : ∀ (c : Nat) (l : List Nat),
    l.Perm ((cwalk exp busy c l).1 ++ (cwalk exp busy c l).2) ∧ ∀ y ∈ (cwalk exp busy c l).1, exp y = true := by
  intro c
  induction c with
  | zero => intro l; simp [cwalk_zero]
  | succ c ih =>
    intro l
    cases l with
    | nil => simp [cwalk]
    | cons x rest =>
      rw [cwalk_succ_cons]
      by_cases hx : exp x = true
      · simp only [hx, if_true, List.cons_append]
        refine ⟨((rot_perm rest).symm.trans (ih _).1).cons x, fun y hy => ?_⟩
        rcases List.mem_cons.1 hy with rfl | h
        · exact hx
        · exact (ih _).2 y h
      · simp only [hx, Bool.false_eq_true, if_false]
        by_cases hb : busy x = true
        · simp only [hb, if_true]
          exact ⟨(List.perm_append_singleton x rest).symm.trans (ih _).1, (ih _).2⟩
        · simp [hb]

/-- expired elements before / after: removed ones are all expired -/
theorem cwalk_count (c : Nat) (l : List Nat) :
    l.countP exp = (cwalk exp busy c l).1.length + (cwalk exp busy c l).2.countP exp := by
  rw [(cwalk_spec exp busy c l).1.countP_eq exp, List.countP_append]
  congr 1
  exact List.countP_eq_length.2 (cwalk_spec exp busy c l).2

/-- nothing expired comes after a live idle element -/
def SortedL (l : List Nat) : Prop := l.Pairwise (fun x y => exp x = false ∧ busy x = false → exp y = false)

theorem countP_zero_of {l : List Nat} (h : ∀ y ∈ l, exp y = false) : l.countP exp = 0 := by
  rw [List.countP_eq_zero]; intro y hy; simp [h y hy]

/-- the expired elements that survive are paid for by removals: `todo` is what the first lap has not reached -/
theorem cwalk_halve_gen : ∀ (c : Nat) (todo done : List Nat), SortedL exp busy todo → todo.length ≤ c →
    (cwalk exp busy c (todo ++ done)).2.countP exp ≤ (cwalk exp busy c (todo ++ done)).1.length + done.countP exp := by
  intro c
  induction c with
  | zero =>
    intro todo done _ hl
    have : todo = [] := List.eq_nil_of_length_eq_zero (by omega)
    subst this; simp [cwalk_zero]
  | succ c ih =>
    intro todo done hs hl
    cases todo with
    | nil =>
      have := cwalk_count exp busy (c + 1) done
      simp only [List.nil_append]; omega
    | cons x t =>
      have hs' := List.pairwise_cons.1 hs
      simp only [List.cons_append]
      rw [cwalk_succ_cons]
      by_cases hx : exp x = true
      · simp only [hx, if_true, List.length_cons]
        cases t with
        | nil =>
          have h1 := cwalk_count exp busy c (done.drop 1 ++ done.take 1)
          have h2 := (rot_perm done).countP_eq exp
          simp only [List.nil_append]; omega
        | cons y t' =>
          have h1 := ih t' (done ++ [y]) (List.pairwise_cons.1 hs'.2).2 (by simp at hl; omega)
          have e1 : (y :: t' ++ done).drop 1 ++ (y :: t' ++ done).take 1 = t' ++ (done ++ [y]) := by simp
          rw [e1]
          have h2 : (done ++ [y]).countP exp ≤ done.countP exp + 1 := by
            simp only [List.countP_append, List.countP_cons, List.countP_nil]; split <;> omega
          omega
      · simp only [hx, Bool.false_eq_true, if_false]
        by_cases hb : busy x = true
        · simp only [hb, if_true]
          have h1 := ih t (done ++ [x]) hs'.2 (by simp at hl; omega)
          have e1 : t ++ done ++ [x] = t ++ (done ++ [x]) := by simp
          rw [e1]
          have h2 : (done ++ [x]).countP exp = done.countP exp := by
            simp [List.countP_append, hx]
          omega
        · simp only [hb, Bool.false_eq_true, if_false]
          have hx' : exp x = false := by simpa using hx
          have hb' : busy x = false := by simpa using hb
          have h0 : t.countP exp = 0 := countP_zero_of exp (fun y hy => hs'.1 y hy ⟨hx', hb'⟩)
          simp [List.countP_append, hx', h0]

/-- **halving** (pure): with enough rounds for one lap, the expired survivors are at most as many as the removed -/
theorem cwalk_halves (l : List Nat) (hs : SortedL exp busy l) (c : Nat) (hc : l.length ≤ c) :
    (cwalk exp busy c l).2.countP exp ≤ l.countP exp / 2 := by
  have h1 := cwalk_halve_gen exp busy c l [] hs hc
  have h2 := cwalk_count exp busy c l
  simp only [List.append_nil, List.countP_nil] at h1
  omega

/-- the first lap is part of what the loop removes -/
theorem walk_sub_cwalk : ∀ (c : Nat) (todo done : List Nat), todo.length ≤ c →
    ∀ y ∈ walk exp busy todo, y ∈ (cwalk exp busy c (todo ++ done)).1 := by
  intro c
  induction c with
  | zero =>
    intro todo done hl
    have : todo = [] := List.eq_nil_of_length_eq_zero (by omega)
    subst this; simp [walk]
  | succ c ih =>
    intro todo done hl
    match todo, hl with
    | [], _ => simp [walk]
    | [x], _ =>
      simp only [walk, List.cons_append, List.nil_append]
      rw [cwalk_succ_cons]
      by_cases hx : exp x = true
      · simp [hx]
      · simp [hx]
    | x :: y :: t', hl =>
      simp only [walk, List.cons_append]
      rw [cwalk_succ_cons]
      by_cases hx : exp x = true
      · simp only [hx, if_true]
        have e1 : (y :: (t' ++ done)).drop 1 ++ (y :: (t' ++ done)).take 1 = t' ++ (done ++ [y]) := by simp
        rw [e1]
        intro z hz
        rcases List.mem_cons.1 hz with rfl | h
        · exact List.mem_cons_self ..
        · exact List.mem_cons_of_mem _ (ih t' (done ++ [y]) (by simp at hl; omega) z h)
      · simp only [hx, Bool.false_eq_true, if_false]
        by_cases hb : busy x = true
        · simp only [hb, if_true]
          have e1 : y :: (t' ++ done) ++ [x] = (y :: t') ++ (done ++ [x]) := by simp
          rw [e1]
          exact ih (y :: t') (done ++ [x]) (by simp at hl ⊢; omega)
        · simp [hb]

end Pure

/-! ## the ring seen from the loop variable -/

/-- `L` is the ring `R` in examination order for the loop variable `e`: `L` starts with `Prev(e)` and ends with `e` -/
def Cyc (R : List Nat) (e : Nat) (L : List Nat) : Prop :=
  ∃ p q, R = q.reverse ++ e :: p.reverse ∧ L = q ++ (p ++ [e])

theorem Cyc_init (h : Nat) (t : List Nat) : Cyc (h :: t) h (h :: t).reverse :=
  ⟨t.reverse, [], by simp, by simp⟩

theorem Cyc_mem {R e L} (h : Cyc R e L) : e ∈ R := by
  obtain ⟨p, q, rfl, _⟩ := h; simp

theorem Cyc_perm {R e L} (h : Cyc R e L) : R.Perm L := by
  obtain ⟨p, q, rfl, rfl⟩ := h
  refine List.Perm.append (List.reverse_perm q) ?_
  exact ((List.reverse_perm p).cons e).trans (List.perm_append_singleton e p).symm

theorem prev_of_cyc {R : List Nat} {e x : Nat} {rest : List Nat} (hn : R.Nodup) (h : Cyc R e (x :: rest)) :
    prev R e = x := by
  obtain ⟨p, q, hR, hL⟩ := h
  have heq : e ∉ q.reverse := by
    intro he; rw [hR] at hn
    exact (List.nodup_append.1 hn).2.2 e he e (List.mem_cons_self ..) rfl
  unfold prev
  cases hl : R.getLast? with
  | none => rw [List.getLast?_eq_none_iff] at hl; rw [hl] at hR; simp at hR
  | some l =>
    simp only []
    rw [hR] at hl ⊢
    rw [Props.C15Ring.prevAux_mid e _ _ _ heq]
    cases q with
    | cons x' q' =>
      simp at hL
      simp [hL.1]
    | nil =>
      cases p with
      | nil => simp at hL hl ⊢; omega
      | cons y p' =>
        simp at hL hl ⊢
        rw [← List.cons_append, List.getLast?_concat] at hl
        simp at hl; omega

theorem Cyc_rot {R : List Nat} {e x : Nat} {rest : List Nat} (h : Cyc R e (x :: rest)) : Cyc R x (rest ++ [x]) := by
  obtain ⟨p, q, hR, hL⟩ := h
  cases q with
  | cons x' q' =>
    simp at hL
    obtain ⟨rfl, rfl⟩ := hL
    exact ⟨p ++ [e], q', by simp [hR], by simp⟩
  | nil =>
    cases p with
    | nil =>
      simp at hL
      obtain ⟨rfl, rfl⟩ := hL
      exact ⟨[], [], by simp [hR], by simp⟩
    | cons y p' =>
      simp at hL
      obtain ⟨rfl, rfl⟩ := hL
      exact ⟨[], p' ++ [e], by simp [hR], by simp⟩

theorem erase_mid {a b : List Nat} {x : Nat} (h : x ∉ a) : (a ++ x :: b).erase x = a ++ b := by
  rw [List.erase_append_right _ h, List.erase_cons_head]

theorem Cyc_erase {R : List Nat} {e x y : Nat} {rest : List Nat} (hn : R.Nodup) (h : Cyc R e (x :: y :: rest)) :
    Cyc (R.erase x) e (y :: rest) := by
  obtain ⟨p, q, hR, hL⟩ := h
  cases q with
  | cons x' q' =>
    simp at hL
    obtain ⟨rfl, hL⟩ := hL
    have e1 : R = q'.reverse ++ x :: (e :: p.reverse) := by simp [hR]
    have hx : x ∉ q'.reverse := by
      intro hx; rw [e1] at hn
      exact (List.nodup_append.1 hn).2.2 x hx x (List.mem_cons_self ..) rfl
    exact ⟨p, q', by rw [e1, erase_mid hx], hL⟩
  | nil =>
    cases p with
    | nil => simp at hL
    | cons x' p' =>
      simp at hL
      obtain ⟨rfl, hL⟩ := hL
      have e1 : R = (e :: p'.reverse) ++ x :: [] := by simp [hR]
      have hx : x ∉ e :: p'.reverse := by
        intro hx; rw [e1] at hn
        exact (List.nodup_append.1 hn).2.2 x hx x (List.mem_cons_self ..) rfl
      exact ⟨p', [], by rw [e1, erase_mid hx]; simp, by simpa using hL⟩

/-! ## the loop of the model -/

/-- the holder of `e` is expired at the model's clock -/
def expd (s : St) (e : Nat) : Bool := decide ((s.holders e).exp < s.now)
def busyd (s : St) (e : Nat) : Bool := (s.holders e).busy
/-- the cursor object gave back what it took (`close()` sets `closed := acquired`) -/
def Cl (s : St) (c : Nat) : Prop := (s.cursors c).closed = (s.cursors c).acquired

/-- what a run of removals `rm` changes -/
structure Frame (s s' : St) (rm : List Nat) : Prop where
  now : s'.now = s.now
  hexp : ∀ y, (s'.holders y).exp = (s.holders y).exp
  hbusy : ∀ y, (s'.holders y).busy = (s.holders y).busy
  ring : s'.ring = s.ring.filter (fun y => decide (y ∉ rm))
  hcur : ∀ y, y ∉ rm → (s'.holders y).cur = (s.holders y).cur
  hnone : ∀ y ∈ rm, (s'.holders y).cur = none
  mono : ∀ c, Cl s c → Cl s' c
  closed : ∀ y ∈ rm, (s.holders y).busy = false → ∀ c, (s.holders y).cur = some c → Cl s' c
  same : ∀ c, (∀ y ∈ rm, (s.holders y).cur ≠ some c) → s'.cursors c = s.cursors c
  acq : ∀ c, (s'.cursors c).acquired = (s.cursors c).acquired

theorem Frame_refl (s : St) : Frame s s [] := by
  refine ⟨rfl, fun _ => rfl, fun _ => rfl, (List.filter_eq_self.2 (by simp)).symm, fun _ _ => rfl, by simp, fun _ h => h, by simp, fun _ _ => rfl, fun _ => rfl⟩

theorem Frame_evict {s : St} {x : Nat} (k : K s) (hx : x ∈ s.ring) : Frame s (evict s x true) [x] := by
  obtain ⟨c, hc, _⟩ := k.j.e x hx
  rw [evict_some hc]
  refine ⟨rfl, fun y => ?_, fun y => ?_, ?_, fun y hy => ?_, fun y hy => ?_, fun c' hcl => ?_,
    fun y hy hb c' hc' => ?_, fun c' hne => ?_, fun c' => ?_⟩
  · by_cases hy : y = x <;> simp [hy]
  · by_cases hy : y = x <;> simp [hy]
  · show s.ring.erase x = _
    rw [List.Nodup.erase_eq_filter k.j.a]
    apply List.filter_congr; intro y _; by_cases hy : y = x <;> simp [hy]
  · simp [show y ≠ x by simpa using hy]
  · simp [show y = x by simpa using hy]
  · unfold Cl at hcl ⊢
    by_cases hb : (s.holders x).busy = true
    · simpa [hb] using hcl
    · by_cases hcc : c' = c
      · simp [hb, hcc, closeCur, setCur]
      · simpa [hb, hcc, closeCur, setCur] using hcl
  · have hy : y = x := by simpa using hy
    rw [hy, hc] at hc'
    rw [hy] at hb
    unfold Cl
    simp [hb, ← Option.some.inj hc', closeCur, setCur]
  · have : c' ≠ c := fun h => hne x (List.mem_cons_self ..) (h ▸ hc)
    by_cases hb : (s.holders x).busy = true <;> simp [hb, closeCur, setCur, this]
  · by_cases hb : (s.holders x).busy = true <;> by_cases hcc : c' = c <;> simp [hb, hcc, closeCur, setCur]

theorem Frame_trans {s s1 s2 : St} {r1 r2 : List Nat} (F1 : Frame s s1 r1) (F2 : Frame s1 s2 r2) :
    Frame s s2 (r1 ++ r2) := by
  refine ⟨F2.now.trans F1.now, fun y => (F2.hexp y).trans (F1.hexp y), fun y => (F2.hbusy y).trans (F1.hbusy y),
    ?_, ?_, ?_, fun c h => F2.mono c (F1.mono c h), ?_, ?_, fun c => (F2.acq c).trans (F1.acq c)⟩
  · rw [F2.ring, F1.ring, List.filter_filter]
    apply List.filter_congr; intro y _; simp only [List.mem_append, not_or, Bool.decide_and, decide_not]; exact Bool.and_comm _ _
  · intro y hy
    have h1 : y ∉ r1 := fun h => hy (List.mem_append_left _ h)
    have h2 : y ∉ r2 := fun h => hy (List.mem_append_right _ h)
    exact (F2.hcur y h2).trans (F1.hcur y h1)
  · intro y hy
    by_cases h2 : y ∈ r2
    · exact F2.hnone y h2
    · have h1 : y ∈ r1 := by rcases List.mem_append.1 hy with h | h; exact h; exact absurd h h2
      exact (F2.hcur y h2).trans (F1.hnone y h1)
  · intro y hy hb c hc
    by_cases h1 : y ∈ r1
    · exact F2.mono c (F1.closed y h1 hb c hc)
    · have h2 : y ∈ r2 := by rcases List.mem_append.1 hy with h | h; exact absurd h h1; exact h
      exact F2.closed y h2 ((F1.hbusy y).trans hb) c ((F1.hcur y h1).trans hc)
  · intro c hne
    rw [F2.same c, F1.same c]
    · intro y hy; exact hne y (List.mem_append_left _ hy)
    · intro y hy
      by_cases h1 : y ∈ r1
      · rw [F1.hnone y h1]; simp
      · rw [F1.hcur y h1]; exact hne y (List.mem_append_right _ hy)

theorem Frame_preds {s s' : St} {rm : List Nat} (F : Frame s s' rm) : expd s' = expd s ∧ busyd s' = busyd s := by
  constructor
  · funext y; simp [expd, F.now, F.hexp]
  · funext y; simp [busyd, F.hbusy]

/-- the loop of the model does what `cwalk` says -/
theorem loop_spec (cnt : Nat) : ∀ (s : St) (e : Nat) (L : List Nat), K s → Cyc s.ring e L → cnt ≤ L.length →
    Frame s (sweepByTimeLoop cnt s e) (cwalk (expd s) (busyd s) cnt L).1 ∧
    (sweepByTimeLoop cnt s e).ring.Perm (cwalk (expd s) (busyd s) cnt L).2 := by
  induction cnt with
  | zero =>
    intro s e L _ hc _
    rw [cwalk_zero]
    exact ⟨Frame_refl s, Cyc_perm hc⟩
  | succ cnt ih =>
    intro s e L k hcyc hlen
    cases L with
    | nil => simp at hlen
    | cons x rest =>
      have hpx : prev s.ring e = x := prev_of_cyc k.j.a hcyc
      have hx : x ∈ s.ring := hpx ▸ prev_mem (Cyc_mem hcyc)
      unfold sweepByTimeLoop
      simp only [hpx]
      rw [cwalk_succ_cons]
      by_cases hexp : (s.holders x).exp < s.now
      · have hE : expd s x = true := by simp [expd, hexp]
        simp only [hexp, hE, if_true]
        have hk := K_evict x true k hx
        have hF1 := Frame_evict k hx
        have hring := (Rest_evict x true k.j k.r hx).2
        simp only [hk.r.np, Bool.false_eq_true, if_false]
        cases rest with
        | nil =>
          have h0 : cnt = 0 := by simp at hlen; omega
          subst h0
          have hl1 : s.ring.length = 1 := (Cyc_perm hcyc).length_eq
          have hnil : (evict s x true).ring = [] := by
            apply List.eq_nil_of_length_eq_zero
            rw [hring, List.length_erase_of_mem hx, hl1]
          simp only [sweepByTimeLoop, List.drop_nil, List.take_nil, List.append_nil, cwalk_zero]
          exact ⟨hF1, by rw [hnil]⟩
        | cons y rest2 =>
          have e1 : (y :: rest2).drop 1 ++ (y :: rest2).take 1 = rest2 ++ [y] := by simp
          rw [e1]
          have hn1 : next s.ring x = y := prev_of_cyc k.j.a (Cyc_rot hcyc)
          rw [hn1]
          have hc2 : Cyc (evict s x true).ring y (rest2 ++ [y]) := by
            rw [hring]; exact Cyc_rot (Cyc_erase k.j.a hcyc)
          have h := ih (evict s x true) y (rest2 ++ [y]) hk hc2 (by simp at hlen ⊢; omega)
          rw [(Frame_preds hF1).1, (Frame_preds hF1).2] at h
          exact ⟨Frame_trans hF1 h.1, h.2⟩
      · have hE : expd s x = false := by simp [expd, hexp]
        simp only [hexp, hE, Bool.false_eq_true, if_false]
        by_cases hb : (s.holders x).busy = true
        · have hB : busyd s x = true := hb
          simp only [hb, hB, Bool.not_true, Bool.false_eq_true, if_false, if_true]
          exact ih s x (rest ++ [x]) k (Cyc_rot hcyc) (by simp at hlen ⊢; omega)
        · have hb' : (s.holders x).busy = false := by simpa using hb
          have hB : busyd s x = false := hb'
          simp only [hb', hB, Bool.not_false, Bool.false_eq_true, if_false, if_true]
          exact ⟨Frame_refl s, Cyc_perm hcyc⟩

/-- (removed, what is left) of one `sweepByTime`, computed on the initial state -/
def swept (s : St) : List Nat × List Nat := cwalk (expd s) (busyd s) s.ring.length s.ring.reverse
/-- the ring elements one `sweepByTime` unlinks, in the order of their removal -/
def removed (s : St) : List Nat := (swept s).1

theorem sweepByTime_spec {s : St} (k : K s) :
    Frame s (sweepByTime s) (removed s) ∧ (sweepByTime s).ring.Perm (swept s).2 := by
  unfold removed swept
  cases hr : s.ring with
  | nil => simp only [sweepByTime, hr, List.length_nil, List.reverse_nil, cwalk_zero]; exact ⟨Frame_refl s, List.Perm.refl _⟩
  | cons h t =>
    have hc : Cyc s.ring h (h :: t).reverse := hr ▸ Cyc_init h t
    have := loop_spec s.ring.length s h (h :: t).reverse k hc (by rw [hr]; simp)
    simp only [sweepByTime, hr, k.r.sz]
    rw [hr] at this
    exact this

/-! ## A. what one sweep removes -/

theorem removed_sub {s : St} : ∀ e ∈ removed s, e ∈ s.ring ∧ expd s e = true := by
  intro e he
  refine ⟨?_, (cwalk_spec _ _ _ _).2 e he⟩
  have hp := (cwalk_spec (expd s) (busyd s) s.ring.length s.ring.reverse).1
  have : e ∈ s.ring.reverse := hp.mem_iff.2 (List.mem_append_left _ he)
  simpa using this

/-- **A.** The ring after `sweepByTime` is the old ring (order kept) without `removed s` = the removals of the
    cyclic walk `cwalk` on the initial holders; every removed element was expired; the cursor of a removed idle
    holder has given its partitions back; cursors not cached by a removed holder are untouched. -/
theorem sweepByTime_removes {s : St} (k : K s) :
    (sweepByTime s).ring = s.ring.filter (fun y => decide (y ∉ removed s)) ∧
    (∀ e ∈ removed s, e ∈ s.ring ∧ (s.holders e).exp < s.now) ∧
    (∀ e ∈ removed s, (s.holders e).busy = false → ∀ c, (s.holders e).cur = some c →
        ((sweepByTime s).cursors c).closed = 1 ∧ ((sweepByTime s).cursors c).acquired = 1) ∧
    (∀ c, (∀ e ∈ removed s, (s.holders e).cur ≠ some c) → (sweepByTime s).cursors c = s.cursors c) ∧
    (∀ e, e ∉ removed s → (sweepByTime s).holders e = s.holders e) := by
  have F := (sweepByTime_spec k).1
  refine ⟨F.ring, ?_, ?_, F.same, ?_⟩
  · intro e he
    have := removed_sub e he
    exact ⟨this.1, by simpa [expd] using this.2⟩
  · intro e he hb c hc
    have h1 : Cl (sweepByTime s) c := F.closed e he hb c hc
    have h2 := (J_cached_acq k.j (removed_sub e he).1 hc).2.1
    have h3 := F.acq c
    unfold Cl at h1
    omega
  · intro e he
    have h1 := F.hexp e; have h2 := F.hbusy e; have h3 := F.hcur e he
    cases hh : (sweepByTime s).holders e; cases hh' : s.holders e
    simp_all

/-! ## B. the oldest cursor, the first lap -/

theorem removed_gone {s : St} (k : K s) {e : Nat} (he : e ∈ removed s) : e ∉ (sweepByTime s).ring := by
  rw [(sweepByTime_removes k).1]; simp [he]

/-- **B.** the tail of the ring (the holder touched longest ago), if expired and idle, is unlinked and its cursor closed -/
theorem sweep_closes_oldest {s : St} (k : K s) {e c : Nat} (hl : s.ring.getLast? = some e)
    (hexp : (s.holders e).exp < s.now) (hidle : (s.holders e).busy = false) (hc : (s.holders e).cur = some c) :
    e ∉ (sweepByTime s).ring ∧ ((sweepByTime s).cursors c).closed = 1 ∧ ((sweepByTime s).cursors c).acquired = 1 := by
  have he : e ∈ removed s := by
    unfold removed swept
    have hlen : s.ring.length = s.ring.reverse.length := by simp
    rw [hlen]
    rw [← List.head?_reverse] at hl
    cases hrev : s.ring.reverse with
    | nil => rw [hrev] at hl; simp at hl
    | cons x r =>
      rw [hrev] at hl
      have : x = e := by simpa using hl
      subst this
      have hE : expd s x = true := by simp [expd, hexp]
      simp only [List.length_cons]
      rw [cwalk_succ_cons]
      simp [hE]
  exact ⟨removed_gone k he, (sweepByTime_removes k).2.2.1 e he hidle c hc⟩

/-- everything the one-lap description `walk` removes is removed (the loop's later laps may remove more) -/
theorem walk_sub_removed {s : St} : ∀ e ∈ walk (expd s) (busyd s) s.ring.reverse, e ∈ removed s := by
  intro e he
  have := walk_sub_cwalk (expd s) (busyd s) s.ring.length s.ring.reverse [] (by simp) e he
  simpa [removed, swept] using this

theorem sweep_closes_examined {s : St} (k : K s) {e : Nat} (he : e ∈ walk (expd s) (busyd s) s.ring.reverse) :
    e ∉ (sweepByTime s).ring ∧
    ((s.holders e).busy = false → ∀ c, (s.holders e).cur = some c →
        ((sweepByTime s).cursors c).closed = 1 ∧ ((sweepByTime s).cursors c).acquired = 1) :=
  ⟨removed_gone k (walk_sub_removed e he), (sweepByTime_removes k).2.2.1 e (walk_sub_removed e he)⟩

/-! ## C. halving -/

/-- HYPOTHESIS of the halving bound: in examination order (tail first) nothing expired comes after a live idle
    holder (the ring is ordered by last touch; an idle holder expires `idleTo`, a busy one `busyTo ≥ idleTo` after it) -/
def Sorted (s : St) : Prop := SortedL (expd s) (busyd s) s.ring.reverse

theorem sweep_halves {s : St} (k : K s) (hs : Sorted s) :
    ((sweepByTime s).ring.filter (expd s)).length ≤ (s.ring.filter (expd s)).length / 2 := by
  rw [← List.countP_eq_length_filter, ← List.countP_eq_length_filter]
  rw [(sweepByTime_spec k).2.countP_eq, ← (List.reverse_perm s.ring).countP_eq]
  exact cwalk_halves (expd s) (busyd s) s.ring.reverse hs s.ring.length (by simp)

theorem preds_sweepByTime {s : St} (k : K s) : expd (sweepByTime s) = expd s ∧ busyd (sweepByTime s) = busyd s :=
  Frame_preds (sweepByTime_spec k).1

theorem Sorted_sweepByTime {s : St} (k : K s) (hs : Sorted s) : Sorted (sweepByTime s) := by
  unfold Sorted SortedL at hs ⊢
  rw [(preds_sweepByTime k).1, (preds_sweepByTime k).2, (sweepByTime_removes k).1, ← List.filter_reverse]
  exact hs.filter _

/-- the time of the last touch, recovered from the expiry time (`exp = touch + busyTo` resp. `+ idleTo`) -/
def touch (s : St) (e : Nat) : Int := (s.holders e).exp - (if (s.holders e).busy = true then s.busyTo else s.idleTo)

/-- `Sorted` follows from the ring being ordered by last touch (head = most recent) when `idleTo ≤ busyTo`.
    (That the steps of the provider keep the ring ordered by last touch is NOT proved here.) -/
theorem Sorted_of_touch_order {s : St} (hto : s.idleTo ≤ s.busyTo)
    (hord : s.ring.Pairwise (fun x y => touch s y ≤ touch s x)) : Sorted s := by
  unfold Sorted SortedL
  rw [List.pairwise_reverse]
  refine hord.imp ?_
  intro a b hab ⟨h1, h2⟩
  simp only [expd, busyd, touch, decide_eq_false_iff_not] at h1 h2 hab ⊢
  simp only [h2, Bool.false_eq_true, if_false] at hab
  split at hab <;> omega

/-- `n` sweeps at the same clock -/
def sweepN : Nat → St → St
  | 0, s => s
  | n + 1, s => sweepN n (sweepByTime s)

theorem sweepN_mono (n : Nat) : ∀ (s : St), K s →
    K (sweepN n s) ∧ (∀ c, Cl s c → Cl (sweepN n s) c) ∧ (∀ e, e ∉ s.ring → e ∉ (sweepN n s).ring) := by
  induction n with
  | zero => intro s k; exact ⟨k, fun _ h => h, fun _ h => h⟩
  | succ n ih =>
    intro s k
    have F := (sweepByTime_spec k).1
    obtain ⟨h1, h2, h3⟩ := ih (sweepByTime s) (K_sweepByTime k)
    refine ⟨h1, fun c h => h2 c (F.mono c h), fun e he => h3 e ?_⟩
    rw [F.ring]; intro hm; exact he (List.mem_filter.1 hm).1

/-- **C.** fewer than `2^n` expired holders are all unlinked by `n` sweeps, and the cursors of the idle ones are closed -/
theorem sweeps_close (n : Nat) : ∀ (s : St), K s → Sorted s → (s.ring.filter (expd s)).length < 2 ^ n →
    ∀ e ∈ s.ring, (s.holders e).exp < s.now →
      e ∉ (sweepN n s).ring ∧
      ((s.holders e).busy = false → ∀ c, (s.holders e).cur = some c →
        ((sweepN n s).cursors c).closed = ((sweepN n s).cursors c).acquired) := by
  induction n with
  | zero =>
    intro s _ _ hlt e he hexp
    have : e ∈ s.ring.filter (expd s) := List.mem_filter.2 ⟨he, by simp [expd, hexp]⟩
    have h0 : s.ring.filter (expd s) = [] := List.eq_nil_of_length_eq_zero (by simpa using hlt)
    rw [h0] at this; cases this
  | succ n ih =>
    intro s k hs hlt e he hexp
    have F := (sweepByTime_spec k).1
    have k1 := K_sweepByTime k
    have hh := sweep_halves k hs
    obtain ⟨m1, m2, m3⟩ := sweepN_mono n (sweepByTime s) k1
    by_cases hr : e ∈ removed s
    · refine ⟨m3 e (removed_gone k hr), ?_⟩
      intro hb c hc
      exact m2 c (F.closed e hr hb c hc)
    · have he1 : e ∈ (sweepByTime s).ring := by rw [F.ring]; exact List.mem_filter.2 ⟨he, by simpa using hr⟩
      have hlt1 : ((sweepByTime s).ring.filter (expd (sweepByTime s))).length < 2 ^ n := by
        rw [(preds_sweepByTime k).1]
        have : 2 ^ (n + 1) = 2 * 2 ^ n := by rw [Nat.pow_succ]; omega
        omega
      have hexp1 : ((sweepByTime s).holders e).exp < (sweepByTime s).now := by rw [F.hexp, F.now]; exact hexp
      have := ih (sweepByTime s) k1 (Sorted_sweepByTime k hs) hlt1 e he1 hexp1
      refine ⟨this.1, ?_⟩
      intro hb c hc
      exact this.2 ((F.hbusy e).trans hb) c ((F.hcur e hr).trans hc)

/-- **C.** with fewer than `2^n` expired holders, `n` sweeps leave no expired holder in the ring -/
theorem sweeps_finish (n : Nat) (s : St) (k : K s) (hs : Sorted s) (hlt : (s.ring.filter (expd s)).length < 2 ^ n) :
    (sweepN n s).ring.filter (expd s) = [] := by
  rw [List.filter_eq_nil_iff]
  intro e he hE
  have hin : e ∈ s.ring := Classical.byContradiction (fun h => (sweepN_mono n s k).2.2 e h he)
  exact (sweeps_close n s k hs hlt e hin (by simpa [expd] using hE)).1 he

/-! ## non-vacuity: states built with the model's own steps -/

/-- a request without id: `GetOrCreate` builds cursor object `c` with id `id`, caches it; then `Release` -/
def useOnce (s : St) (c id : Nat) : St :=
  (release false (getOrCreate true s 0 7 0 true .ok true c id).1 c).1

/-- two cursors used at time 0, one at time 50, clock at 70 (`idleTo = 60`): ring (head first) `[2, 1, 0]`,
    holders 0 and 1 expired, 2 live -/
def exA : St := age (useOnce (age (useOnce (useOnce (init 50000 60 300) 1 11) 2 12) 50) 3 13) 20
/-- three cursors used at time 0, clock at 100: all expired -/
def exB : St := age (useOnce (useOnce (useOnce (init 50000 60 300) 1 11) 2 12) 3 13) 100

/-- the oldest holder is unlinked and its cursor closed, the second oldest (expired too) is stepped over, the sweep
    stops at the live idle head; a second sweep gets the one stepped over -/
example : exA.ring = [2, 1, 0] ∧ removed exA = [0] ∧ walk (expd exA) (busyd exA) exA.ring.reverse = [0] ∧
    (sweepByTime exA).ring = [2, 1] ∧ ((sweepByTime exA).cursors 1).closed = 1 ∧
    ((sweepByTime exA).cursors 2).closed = 0 ∧ (sweepN 2 exA).ring = [2] ∧ ((sweepN 2 exA).cursors 2).closed = 1 := by
  decide +kernel

example : Sorted exA := by
  unfold Sorted SortedL; decide +kernel

/-- the one-lap `walk` is NOT the whole story: the rounds left on the counter go round the ring again and get the
    element stepped over (here everything is removed by one sweep, `walk` predicts that holder 1 stays) -/
example : exB.ring = [2, 1, 0] ∧ walk (expd exB) (busyd exB) exB.ring.reverse = [0, 2] ∧
    removed exB = [0, 2, 1] ∧ (sweepByTime exB).ring = [] ∧ ((sweepByTime exB).cursors 2).closed = 1 := by
  decide +kernel

end Logrange.Provider

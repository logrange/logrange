import Logrange.Model.Forwarder
/-! Invariant of the forwarder worker LTS (code configuration: position set after the sink accepted, rejected
batch retried). -/
namespace Logrange.Forwarder

def codeCfg : Cfg := { setAfterAccept := true, retryRejected := true }

theorem range'_extend {a p : Nat} (k : Nat) (h : a ≤ p) :
    List.range' a (p - a) ++ List.range' p k = List.range' a (p + k - a) := by
  obtain ⟨d, rfl⟩ := Nat.exists_eq_add_of_le h
  rw [Nat.add_sub_cancel_left, Nat.add_assoc, Nat.add_sub_cancel_left, List.range'_append_1]

theorem cover_extend {all : List Nat} {s0 high p : Nat} (k : Nat) (hcov : ∀ i, s0 ≤ i → i < high → i ∈ all)
    (hp : p ≤ high) : ∀ i, s0 ≤ i → i < max high (p + k) → i ∈ all ++ List.range' p k := by
  intro i h1 h2
  rw [List.mem_append, List.mem_range'_1]
  by_cases hi : i < high
  · exact Or.inl (hcov i h1 hi)
  · right; omega

theorem allLt_extend {all : List Nat} {s0 high p : Nat} (k : Nat) (hall : ∀ i ∈ all, s0 ≤ i ∧ i < high)
    (hs : s0 ≤ p) : ∀ i ∈ all ++ List.range' p k, s0 ≤ i ∧ i < max high (p + k) := by
  intro i hi
  rw [List.mem_append, List.mem_range'_1] at hi
  rcases hi with hi | hi
  · have := hall i hi; omega
  · omega

structure FInv (s : S) : Prop where
  descPos : s.desc = s.pos
  startLe : s.sessionStart ≤ s.pos
  posLe : s.pos ≤ s.n
  sessEq : s.sess = List.range' s.sessionStart (s.pos - s.sessionStart)
  perLe : s.persisted ≤ s.pos
  cover : ∀ i, s.start0 ≤ i → i < s.high → i ∈ s.all
  posHigh : s.pos ≤ s.high
  highLe : s.high ≤ s.n
  s0Per : s.start0 ≤ s.persisted
  s0Sess : s.start0 ≤ s.sessionStart
  allLt : ∀ i ∈ s.all, s.start0 ≤ i ∧ i < s.high
  accEq : s.pos = s.persisted + s.accSince

theorem finv_init (n start : Nat) (h : start ≤ n) : FInv (init n start) := by
  constructor <;> simp [init, h]

theorem step_start0 (c : Cfg) (s : S) (l : L) : (step c s l).start0 = s.start0 := by
  cases l with
  | page k acc => simp only [step]; split; rfl; cases acc <;> rfl
  | _ => rfl

theorem run_start0 (c : Cfg) : ∀ (tr : List L) (s : S), (run c s tr).start0 = s.start0
  | [], s => rfl
  | l :: ls, s => by simp only [run]; rw [run_start0 c ls, step_start0]

/-! ## quiet periods: queries answer, the sink accepts -/

/-- the position after a page of up to `k` events, then `q` more, capped at `n` -/
theorem min_add_min (p k q n : Nat) : min (min (p + k) n + q) n = min (p + (q + k)) n := by omega

theorem step_page (c : Cfg) (k : Nat) (s : S) (h : s.pos ≤ s.n) :
    (step c s (.page k true)).pos = min (s.pos + k) s.n ∧ (step c s (.page k true)).n = s.n := by
  simp only [step, ↓reduceIte]
  split
  · exact ⟨by omega, rfl⟩
  · exact ⟨(by omega : s.pos + min k (s.n - s.pos) = _), rfl⟩

theorem run_pages (c : Cfg) (k : Nat) : ∀ (m : Nat) (s : S), s.pos ≤ s.n →
    (run c s (List.replicate m (.page k true))).pos = min (s.pos + m * k) s.n ∧
    (run c s (List.replicate m (.page k true))).n = s.n
  | 0, s, h => ⟨by show s.pos = _; omega, rfl⟩
  | m+1, s, h => by
    obtain ⟨h1, h2⟩ := step_page c k s h
    obtain ⟨i1, i2⟩ := run_pages c k m (step c s (.page k true)) (by rw [h1, h2]; omega)
    refine ⟨?_, i2.trans h2⟩
    show (run c (step c s (.page k true)) _).pos = _
    rw [i1, h1, h2, Nat.succ_mul, min_add_min]

/-- `⟨true, true⟩`: both fixes applied -/
theorem startStep_alive (s : Start) (l : StartL) : s ≠ .dead → s ≠ .blind →
    startStep ⟨true, true⟩ s l ≠ .dead ∧ startStep ⟨true, true⟩ s l ≠ .blind := by
  cases s <;> cases l <;> decide

theorem startRun_alive : ∀ (tr : List StartL) (s : Start), s ≠ .dead → s ≠ .blind →
    startRun ⟨true, true⟩ s tr ≠ .dead ∧ startRun ⟨true, true⟩ s tr ≠ .blind
  | [], _, h1, h2 => ⟨h1, h2⟩
  | l :: ls, s, h1, h2 => startRun_alive ls _ (startStep_alive s l h1 h2).1 (startStep_alive s l h1 h2).2

theorem alive_recovers (s : Start) : s ≠ .dead → s ≠ .blind →
    startRun ⟨true, true⟩ s [.syncTick, .ensureOk] = .running := by
  cases s <;> decide

theorem startRun_stuck (c : StartCfg) (s : Start) (h : ∀ l, startStep c s l = s) :
    ∀ tr : List StartL, startRun c s tr = s
  | [] => rfl
  | l :: ls => by rw [startRun, h l]; exact startRun_stuck c s h ls

end Logrange.Forwarder

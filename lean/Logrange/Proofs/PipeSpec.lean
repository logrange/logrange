import Logrange.Proofs.PipeLts
/-!
# The pipe specification with the "start" hypothesis discharged by a ghost monitor (C10)

`Mon` runs alongside the pipe LTS (the model is not changed). Per source it records whether the schedule so far
was *clean* for the source — every notification since the pipe's creation processed in write order, none in flight at
the creation, none lost to a stale cache, every stop quiescent for the source — and where the next in-order
notification must start. `spec_of_clean`: at a quiescent state of a running service the pipe partition of a clean
source is exactly the specification (`specProj`), with no hypothesis about the final descriptor.
-/
namespace Logrange.PipeLts

/-! ### total length of the queued notifications of a source -/

def wlen (s : Nat) (we : WE) : Nat := if we.src = s then we.endPos - we.startPos else 0

def wsum (s : Nat) : List WE → Nat
  | [] => 0
  | we :: l => wlen s we + wsum s l

/-- no notification of source `s` in the list -/
def noneOf (s : Nat) (l : List WE) : Bool := l.all (fun we => we.src != s)

theorem wsum_append (s : Nat) (a b : List WE) : wsum s (a ++ b) = wsum s a + wsum s b := by
  induction a with
  | nil => simp [wsum]
  | cons x xs ih => simp only [List.cons_append, wsum, ih]; omega

theorem wsum_eraseIdx (s : Nat) (l : List WE) (i : Nat) (we : WE) (h : l[i]? = some we) :
    wsum s (l.eraseIdx i) + wlen s we = wsum s l := by
  induction l generalizing i with
  | nil => simp at h
  | cons x xs ih =>
    cases i with
    | zero =>
      simp only [List.getElem?_cons_zero, Option.some.injEq] at h; subst h
      simp only [List.eraseIdx_zero, List.tail_cons, wsum]; omega
    | succ j =>
      simp only [List.getElem?_cons_succ] at h
      have := ih j h
      simp only [List.eraseIdx_cons_succ, wsum]; omega

theorem wsum_noneOf (s : Nat) (l : List WE) (h : noneOf s l = true) : wsum s l = 0 := by
  induction l with
  | nil => rfl
  | cons x xs ih =>
    simp only [noneOf, List.all_cons, Bool.and_eq_true, bne_iff_ne, ne_eq] at h
    have h2 : noneOf s xs = true := h.2
    simp [wsum, wlen, h.1, ih h2]

/-! ### the monitor -/

structure Mon where
  /-- so far every notification of the source since the creation was processed in write order, none was in flight
  at the creation, none was lost, every stop was quiescent for it -/
  clean : Nat → Bool
  /-- end of the last in-order processed notification (`createdAt` before the first) -/
  nextExp : Nat → Nat

def mon0 : Mon := { clean := fun _ => false, nextExp := fun _ => 0 }

/-- a stop is quiescent for the descriptor: nothing behind `LastKnwnPos` -/
def haltOk (σ : SrcSt) : Bool := match σ.desc with
  | some d => !(decide (d.pos < d.lastKnown))
  | none => true

/-- the notificator takes `we` off the channel -/
def monNotify (st : State) (m : Mon) (we : WE) : Mon :=
  if st.pipe == .live && (st.srcs we.src).listens then
    if (pipesForSource st we.src).1 && we.startPos == m.nextExp we.src then
      { m with nextExp := upd m.nextExp we.src we.endPos }
    else { m with clean := upd m.clean we.src false }
  else m

/-- the monitor's move for a step `l` enabled in `st` -/
def monStep (st : State) (l : Label) (m : Mon) : Mon :=
  match l with
  | .create =>
    { clean := fun s => noneOf s (st.chan ++ st.pend), nextExp := fun s => (st.srcs s).log.length }
  | .notify =>
    match st.chan with
    | [] => m
    | we :: _ => monNotify st m we
  | .halt =>
    { m with clean := fun s => m.clean s && noneOf s (st.chan ++ st.pend) && haltOk (st.srcs s) }
  | _ => m

/-- the LTS and the monitor side by side (disabled labels are skipped, as in `run`) -/
def runM (cfg : Cfg) : State × Mon → List Label → State × Mon
  | x, [] => x
  | x, l :: ls => match step cfg x.1 l with
    | some st' => runM cfg (st', monStep x.1 l x.2) ls
    | none => runM cfg x ls

theorem runM_fst (cfg : Cfg) (x : State × Mon) (ls : List Label) : (runM cfg x ls).1 = run cfg x.1 ls := by
  induction ls generalizing x with
  | nil => rfl
  | cons l ls ih =>
    simp only [runM, run]
    cases step cfg x.1 l with
    | none => exact ih x
    | some st' => exact ih _

/-! ### the registry follows the pipe; an absent pipe has no descriptor -/

def PInv (st : State) : Prop :=
  st.reg = (st.pipe == .live) ∧
  (st.pipe = .absent → (∀ s, st.cache s ≠ some true) ∧ ∀ s, (st.srcs s).desc = none)

theorem pinv_init (n : Nat) (l : Nat → Bool) (p : Nat → Bytes) (f : Ev → Bool) (o : Bool) : PInv (init n l p f o) := by
  refine ⟨rfl, fun _ => ⟨?_, ?_⟩⟩
  · intro s; simp [init]
  · intro s; simp [init]

theorem pinv_frame (st st' : State) (h : PInv st) (e1 : st'.reg = st.reg) (e2 : st'.pipe = st.pipe)
    (e3 : st.pipe = .absent → ∀ s, st'.cache s ≠ some true)
    (e4 : st.pipe = .absent → ∀ s, (st'.srcs s).desc = none) : PInv st' := by
  refine ⟨by rw [e1, e2]; exact h.1, ?_⟩
  intro hp; rw [e2] at hp
  exact ⟨e3 hp, e4 hp⟩


theorem restart_pipe {cfg : Cfg} {st st' : State} (h : PInv st) (hs : Step cfg st .restart st') : st'.pipe = st.pipe := by
  cases hs with
  | restart hdn =>
    dsimp only; rw [h.1]
    cases hp : st.pipe <;> simp

theorem step_pinv {cfg : Cfg} (hC : cfg.saveOnCreate = true) (hD : cfg.saveOnDelete = true)
    {st st' : State} {l : Label} (hg : GInv cfg st) (h : PInv st) (hs : Step cfg st l st') : PInv st' := by
  have hcache := fun hp => (h.2 hp).1
  have hdesc := fun hp => (h.2 hp).2
  have ex : ∀ {α : Prop} s d, (st.srcs s).desc = some d → st.pipe = .absent → α := by
    intro α s d hd hp; have := hdesc hp s; rw [hd] at this; cases this
  have src : ∀ s σ', σ'.desc = (st.srcs s).desc → st.pipe = .absent → ∀ s', (upd st.srcs s σ' s').desc = none := by
    intro s σ' e hp s'
    by_cases e' : s' = s
    · subst e'; rw [upd_self, e]; exact hdesc hp s'
    · rw [upd_ne _ _ _ _ e']; exact hdesc hp s'
  have hrestart := fun (e : l = .restart) => restart_pipe h (e ▸ hs)
  cases hs with
  | write s b hup hlt => exact pinv_frame st _ h rfl rfl hcache (src s _ rfl)
  | enqueue i we hwe hup hcap => exact pinv_frame st _ h rfl rfl hcache hdesc
  | notifyHit we rest hup hcl hch hit =>
    refine pinv_frame st _ h rfl rfl (fun hp => (pfs_absent st we.src hp (hcache hp)).2) (fun hp => ?_)
    rw [(pfs_absent st we.src hp (hcache hp)).1] at hit; cases hit
  | notifyMiss we rest hup hcl hch hit =>
    exact pinv_frame st _ h rfl rfl (fun hp => (pfs_absent st we.src hp (hcache hp)).2) hdesc
  | wopen s d hwk hd => exact pinv_frame st _ h rfl rfl hcache (ex s d hd)
  | wcopy s k c hwk hcl hlive => exact pinv_frame st _ h rfl rfl hcache (src s _ rfl)
  | wsave s c d hwk hd => exact pinv_frame st _ h rfl rfl hcache (ex s d hd)
  | wtimeout s hwk => exact pinv_frame st _ h rfl rfl hcache (src s _ rfl)
  | wdone s d hwk hd => exact pinv_frame st _ h rfl rfl hcache (ex s d hd)
  | create hup hp => exact ⟨by simp [hC], fun hp => by cases hp⟩
  | delete hup hp => exact ⟨by simp [hD], fun hp => by cases hp⟩
  | shutdown hup hcl => exact pinv_frame st _ h rfl rfl hcache hdesc
  | halt hcl hup hidle =>
    refine pinv_frame st _ h ?_ rfl hcache hdesc
    dsimp only; split
    · exact h.1.symm
    · rfl
  | restart hdn =>
    refine pinv_frame st _ h rfl (hrestart rfl) (fun _ s => by simp) (fun hp s => ?_)
    have := ((hg.1 s).1 (hdesc hp s)).2.2
    simp [this]

/-! ### what a clean schedule guarantees about a source -/

/-- the descriptor of a clean source (`ca` = the source's `createdAt`, `ne` = the monitor's `nextExp`) -/
structure DV (ca ne : Nat) (down : Bool) (d : Desc) : Prop where
  start : d.start = ca
  lk : d.lastKnown ≤ ne
  dis : d.lastKnown = ne ∨ ne ≤ d.pos
  stale : d.stale = false
  dn : down = true → ne ≤ d.pos

/-- a clean source: `w` is the total length of its notifications in flight -/
structure VInv (σ : SrcSt) (ne w : Nat) (down : Bool) : Prop where
  v0 : σ.createdAt ≤ ne
  v1 : ne + w = σ.log.length
  v2 : σ.desc = none → ne = σ.createdAt
  v3 : ∀ d, σ.desc = some d → DV σ.createdAt ne down d
  v4 : ∀ sv, σ.saved = some sv → sv.lastKnown ≤ ne

def MInv (st : State) (m : Mon) : Prop :=
  ∀ s, m.clean s = true → st.pipe = .live → (st.srcs s).listens = true →
    VInv (st.srcs s) (m.nextExp s) (wsum s (st.chan ++ st.pend)) st.down

theorem minv_init (n : Nat) (l : Nat → Bool) (p : Nat → Bytes) (f : Ev → Bool) (o : Bool) : MInv (init n l p f o) mon0 := by
  intro s hc; simp [mon0] at hc

theorem vinv_congr (σ σ' : SrcSt) (ne w : Nat) (dn : Bool) (h1 : σ'.createdAt = σ.createdAt) (h2 : σ'.log = σ.log)
    (h3 : σ'.desc = σ.desc) (h4 : σ'.saved = σ.saved) (h : VInv σ ne w dn) : VInv σ' ne w dn := by
  obtain ⟨a0, a1, a2, a3, a4⟩ := h
  refine ⟨?_, ?_, ?_, ?_, ?_⟩
  · rw [h1]; exact a0
  · rw [h2]; exact a1
  · rw [h1, h3]; exact a2
  · rw [h1, h3]; exact a3
  · rw [h4]; exact a4

theorem vinv_of_dv {σ σ' : SrcSt} {d : Desc} {ne w : Nat} {dn : Bool} (hc : σ'.createdAt = σ.createdAt) (hl : σ'.log = σ.log)
    (hs : σ'.saved = σ.saved) (hd : σ'.desc = some d) (h0 : σ.createdAt ≤ ne) (h1 : ne + w = σ.log.length)
    (h3 : DV σ.createdAt ne dn d) (h4 : ∀ sv, σ.saved = some sv → sv.lastKnown ≤ ne) : VInv σ' ne w dn := by
  refine ⟨hc ▸ h0, hl ▸ h1, fun hn => ?_, fun d' hd' => ?_, hs ▸ h4⟩
  · rw [hd] at hn; cases hn
  · rw [hd] at hd'; cases hd'; exact hc ▸ h3

theorem vinv_startWorker (closed : Bool) (σ : SrcSt) (d : Desc) (ne w : Nat) (dn : Bool)
    (h0 : σ.createdAt ≤ ne) (h1 : ne + w = σ.log.length) (h3 : DV σ.createdAt ne dn d)
    (h4 : ∀ sv, σ.saved = some sv → sv.lastKnown ≤ ne) : VInv (startWorker closed σ d) ne w dn := by
  unfold startWorker
  split
  · exact vinv_of_dv rfl rfl rfl rfl h0 h1 ⟨h3.start, h3.lk, h3.dis, rfl, h3.dn⟩ h4
  · exact vinv_of_dv rfl rfl rfl rfl h0 h1 h3 h4

theorem startWorker_listens (closed : Bool) (σ : SrcSt) (d : Desc) : (startWorker closed σ d).listens = σ.listens := by
  unfold startWorker; split <;> rfl

theorem onWriteEvent_listens (closed : Bool) (σ : SrcSt) (we : WE) : (onWriteEvent closed σ we).listens = σ.listens := by
  unfold onWriteEvent; split <;> exact startWorker_listens _ _ _

/-- the in-order notification: it starts where the previous one ended -/
theorem vinv_onWriteEvent (closed : Bool) (σ : SrcSt) (we : WE) (w' : Nat)
    (h : VInv σ we.startPos ((we.endPos - we.startPos) + w') false) (hle : we.startPos ≤ we.endPos) :
    VInv (onWriteEvent closed σ we) we.endPos w' false := by
  obtain ⟨a0, a1, a2, a3, a4⟩ := h
  unfold onWriteEvent
  cases hd : σ.desc with
  | none =>
    refine vinv_startWorker _ _ _ _ _ _ (by omega) (by omega) ?_ ?_
    · exact ⟨a2 hd, Nat.le_refl _, Or.inl rfl, rfl, by intro x; cases x⟩
    · intro sv hsv; have := a4 sv hsv; omega
  | some d =>
    have hD := a3 d hd
    refine vinv_startWorker _ _ _ _ _ _ (by omega) (by omega) ?_ ?_
    · exact ⟨hD.start, Nat.le_refl _, Or.inl rfl, hD.stale, by intro x; cases x⟩
    · intro sv hsv; have := a4 sv hsv; omega

/-- a step that changes one source and nothing else the monitor looks at -/
theorem minv_upd (st st' : State) (m : Mon) (s : Nat) (σ' : SrcSt) (h : MInv st m)
    (e1 : st'.srcs = upd st.srcs s σ') (e2 : st'.chan = st.chan) (e3 : st'.pend = st.pend) (e4 : st'.pipe = st.pipe)
    (e5 : st'.down = st.down) (hli : σ'.listens = (st.srcs s).listens)
    (hv : ∀ w, VInv (st.srcs s) (m.nextExp s) w st.down → VInv σ' (m.nextExp s) w st.down) : MInv st' m := by
  intro s' hc hl hls
  rw [e1, e2, e3, e5]
  rw [e4] at hl
  rw [e1] at hls
  by_cases e : s' = s
  · subst e
    simp only [upd_self] at hls ⊢
    rw [hli] at hls
    exact hv _ (h s' hc hl hls)
  · rw [upd_ne _ _ _ _ e] at hls ⊢
    exact h s' hc hl hls


theorem monNotify_ne (st : State) (m : Mon) (we : WE) (s : Nat) (e : s ≠ we.src) :
    (monNotify st m we).clean s = m.clean s ∧ (monNotify st m we).nextExp s = m.nextExp s := by
  unfold monNotify; split
  · split
    · exact ⟨rfl, upd_ne _ _ _ _ e⟩
    · exact ⟨upd_ne _ _ _ _ e, rfl⟩
  · exact ⟨rfl, rfl⟩

theorem monNotify_clean {st : State} {m : Mon} {we : WE} (hl : st.pipe = .live) (hls : (st.srcs we.src).listens = true)
    (hc : (monNotify st m we).clean we.src = true) :
    (pipesForSource st we.src).1 = true ∧ we.startPos = m.nextExp we.src ∧ m.clean we.src = true ∧
      (monNotify st m we).nextExp we.src = we.endPos := by
  unfold monNotify at hc ⊢
  simp only [hl, hls, beq_self_eq_true, Bool.and_self, if_true] at hc ⊢
  by_cases hq : ((pipesForSource st we.src).1 && we.startPos == m.nextExp we.src) = true
  · rw [if_pos hq] at hc ⊢
    simp only [Bool.and_eq_true, beq_iff_eq] at hq
    exact ⟨hq.1, hq.2, hc, upd_self _ _ _⟩
  · rw [if_neg hq] at hc
    have hc' : upd m.clean we.src false we.src = true := hc
    rw [upd_self] at hc'; cases hc'

theorem vinv_pop {st : State} {m : Mon} {we : WE} {rest : List WE} {s : Nat} (h : MInv st m) (hch : st.chan = we :: rest)
    (e : s ≠ we.src) (hc : m.clean s = true) (hl : st.pipe = .live) (hls : (st.srcs s).listens = true) :
    VInv (st.srcs s) (m.nextExp s) (wsum s (rest ++ st.pend)) st.down := by
  have hv := h s hc hl hls
  rw [hch] at hv
  simpa [wsum, wlen, Ne.symm e] using hv

theorem wsum_write (s' s a : Nat) (chan pend : List WE) (batch : List Ev) :
    wsum s' (chan ++ (if batch.isEmpty then pend else pend ++ [⟨s, a, a + batch.length⟩])) =
      wsum s' (chan ++ pend) + (if s = s' then batch.length else 0) := by
  cases batch with
  | nil => simp
  | cons b bs =>
    simp only [List.isEmpty_cons, Bool.false_eq_true, if_false, wsum_append, wsum, wlen]
    split <;> omega

/-- `saveState` writes the whole map: the file clause follows from the descriptor clause -/
theorem vinv_resave {σ : SrcSt} {ne w : Nat} {dn : Bool} (h : VInv σ ne w dn) : VInv { σ with saved := σ.desc } ne w dn :=
  ⟨h.v0, h.v1, h.v2, h.v3, fun sv hsv => (h.v3 sv hsv).lk⟩

theorem vinv_halt {σ : SrcSt} {ne : Nat} {dn : Bool} (h : VInv σ ne 0 dn) (hok : haltOk σ = true) : VInv σ ne 0 true := by
  refine ⟨h.v0, h.v1, h.v2, fun d hd => ?_, h.v4⟩
  have hD := h.v3 d hd
  have hge : ¬ d.pos < d.lastKnown := by
    simp only [haltOk] at hok; rw [hd] at hok
    simpa using hok
  refine ⟨hD.start, hD.lk, hD.dis, hD.stale, fun _ => ?_⟩
  rcases hD.dis with h1 | h1
  · omega
  · exact h1

/-- `restart` of a stopped service: the descriptor that comes back from the file has the old `Pos` (the copy invariant's file
clauses), which had reached `nextExp`, and a `LastKnwnPos` not beyond it — so it is not stale -/
theorem vinv_restart {cfg : Cfg} {flt : Ev → Bool} {σ : SrcSt} {P : List Ev} {ne w : Nat} (hs : SInv cfg flt σ P)
    (h : VInv σ ne w true) :
    VInv { σ with desc := σ.saved.map (fun d => { d with charged := false, stale := decide (d.pos < d.lastKnown) }) } ne w false := by
  obtain ⟨a0, a1, a2, a3, a4⟩ := h
  refine ⟨a0, a1, fun hn => ?_, fun d' hd' => ?_, a4⟩
  · cases hd : σ.desc with
    | none => exact a2 hd
    | some d =>
      cases hsv : σ.saved with
      | none =>
        have hps := (hs.2 d hd).2.2.2.2.2.2.2 hsv
        have h1 := (a3 d hd).dn rfl
        have h2 := (a3 d hd).start
        show ne = σ.createdAt
        omega
      | some sv =>
        have hn' : σ.saved.map _ = none := hn
        rw [hsv] at hn'; cases hn'
  · have hd'' : σ.saved.map _ = some d' := hd'
    obtain ⟨sv, hsv, rfl⟩ := Option.map_eq_some_iff.mp hd''
    cases hd : σ.desc with
    | none => have := (hs.1 hd).2.2; rw [hsv] at this; cases this
    | some d =>
      obtain ⟨c1, c2⟩ := (hs.2 d hd).2.2.2.2.2.2.1 sv hsv
      have hD := a3 d hd
      have h1 := hD.dn rfl
      have h4 := a4 sv hsv
      refine ⟨c2 ▸ hD.start, h4, Or.inr (c1 ▸ h1), ?_, nofun⟩
      simp only [decide_eq_false_iff_not]; omega

theorem step_minv {cfg : Cfg} {st st' : State} {l : Label} (m : Mon) (hg : GInv cfg st) (hp : PInv st) (h : MInv st m)
    (hs : Step cfg st l st') : MInv st' (monStep st l m) := by
  have worker : ∀ s σ', σ'.createdAt = (st.srcs s).createdAt → σ'.log = (st.srcs s).log → σ'.desc = (st.srcs s).desc →
      σ'.saved = (st.srcs s).saved → σ'.listens = (st.srcs s).listens → MInv { st with srcs := upd st.srcs s σ' } m :=
    fun s σ' e1 e2 e3 e4 e5 =>
      minv_upd st _ m s σ' h rfl rfl rfl rfl rfl e5 (fun w hv => vinv_congr (st.srcs s) _ _ _ _ e1 e2 e3 e4 hv)
  have hrestart := fun (e : l = .restart) => restart_pipe hp (e ▸ hs)
  cases hs with
  | write s batch hup hlt =>
    change MInv _ m
    intro s' hc hl hls
    dsimp only at hl hls ⊢
    rw [wsum_write]
    by_cases e : s' = s
    · subst e
      simp only [upd_self, if_true] at hls ⊢
      obtain ⟨a0, a1, a2, a3, a4⟩ := h s' hc hl hls
      exact ⟨a0, by simp only [List.length_append]; omega, a2, a3, a4⟩
    · rw [upd_ne _ _ _ _ e] at hls ⊢
      simp only [Ne.symm e, if_false, Nat.add_zero]
      exact h s' hc hl hls
  | enqueue i we hwe hup hcap =>
    change MInv _ m
    intro s hc hl hls
    dsimp only at hl hls ⊢
    have hw : wsum s (st.chan ++ [we] ++ st.pend.eraseIdx i) = wsum s (st.chan ++ st.pend) := by
      have := wsum_eraseIdx s st.pend i we hwe
      simp only [wsum_append, wsum]; omega
    rw [hw]
    exact h s hc hl hls
  | notifyHit we rest hup hcl hch hit =>
    have hm : monStep st .notify m = monNotify st m we := by simp only [monStep, hch]
    rw [hm]
    have hweI : WEInv st we := hg.2.1 we (by simp [hch])
    intro s hc hl hls
    dsimp only at hl hls ⊢
    by_cases e : s = we.src
    · subst e
      simp only [upd_self] at hls ⊢
      rw [onWriteEvent_listens] at hls
      obtain ⟨_, hio, hc', hne⟩ := monNotify_clean hl hls hc
      -- in order: the notification starts where the previous one ended
      rw [hne]
      have hv := h we.src hc' hl hls
      rw [hch, hup] at hv
      simp only [List.cons_append, wsum, wlen, if_true] at hv
      rw [← hio] at hv
      rw [hup]
      exact vinv_onWriteEvent _ _ _ _ hv hweI.2.1
    · obtain ⟨o1, o2⟩ := monNotify_ne st m we s e
      rw [o1] at hc; rw [o2]
      rw [upd_ne _ _ _ _ e] at hls ⊢
      exact vinv_pop h hch e hc hl hls
  | notifyMiss we rest hup hcl hch hit =>
    have hm : monStep st .notify m = monNotify st m we := by simp only [monStep, hch]
    rw [hm]
    intro s hc hl hls
    dsimp only at hl hls ⊢
    by_cases e : s = we.src
    · subst e
      have := (monNotify_clean hl hls hc).1
      rw [hit] at this; cases this
    · obtain ⟨o1, o2⟩ := monNotify_ne st m we s e
      rw [o1] at hc; rw [o2]
      exact vinv_pop h hch e hc hl hls
  | wopen s d hwk hd => exact worker s _ rfl rfl rfl rfl rfl
  | wcopy s k c hwk hcl hlive =>
    exact minv_upd st _ m s _ h rfl rfl rfl rfl rfl rfl (fun w hv => vinv_congr (st.srcs s) _ _ _ _ rfl rfl rfl rfl hv)
  | wtimeout s hwk => exact worker s _ rfl rfl rfl rfl rfl
  | wsave s c d hwk hd =>
    -- the descriptor moves up to the cursor, which is not behind `Pos`; then the file is rewritten for every source
    change MInv _ m
    have hpc : d.pos ≤ c := by
      have := ((hg.1 s).2 d hd).2.1
      simpa [curOf, hwk] using this
    intro s' hc hl hls
    refine vinv_resave ?_
    by_cases e : s' = s
    · subst e
      have hls' : (st.srcs s').listens = true := by simpa using hls
      rw [upd_self]
      have hv := h s' hc hl hls'
      have hD := hv.v3 d hd
      exact vinv_of_dv rfl rfl rfl rfl hv.v0 hv.v1
        ⟨hD.start, hD.lk, hD.dis.imp_right (fun h1 => Nat.le_trans h1 hpc), hD.stale, fun hdn => Nat.le_trans (hD.dn hdn) hpc⟩ hv.v4
    · have hls' : (st.srcs s').listens = true := by simpa [upd_ne _ _ _ _ e] using hls
      rw [upd_ne _ _ _ _ e]
      exact h s' hc hl hls'
  | wdone s d hwk hd =>
    refine minv_upd st _ m s _ h rfl rfl rfl rfl rfl ?_ (fun w hv => ?_)
    · split
      · exact startWorker_listens _ _ _
      · rfl
    · have hD := hv.v3 d hd
      have hD' : DV (st.srcs s).createdAt (m.nextExp s) st.down { d with charged := false } :=
        ⟨hD.start, hD.lk, hD.dis, hD.stale, hD.dn⟩
      split
      · exact vinv_startWorker _ _ _ _ _ _ hv.v0 hv.v1 hD' hv.v4
      · exact vinv_of_dv rfl rfl rfl rfl hv.v0 hv.v1 hD' hv.v4
  | create hup hpa =>
    intro s hc hl hls
    simp only [monStep] at hc ⊢
    have hd : (st.srcs s).desc = none := (hp.2 hpa).2 s
    have hsv : (st.srcs s).saved = none := ((hg.1 s).1 hd).2.2
    refine ⟨Nat.le_refl _, ?_, fun _ => rfl, ?_, ?_⟩
    · rw [wsum_noneOf s _ hc]; rfl
    · intro d hd'; rw [hd] at hd'; cases hd'
    · intro sv hsv'; rw [hsv] at hsv'; cases hsv'
  | delete hup hpl => intro s _ hl; cases hl
  | shutdown hup hcl => exact h
  | halt hcl hup hidle =>
    intro s hc hl hls
    simp only [monStep, Bool.and_eq_true] at hc
    have hv := h s hc.1.1 hl hls
    rw [wsum_noneOf s _ hc.1.2] at hv
    exact vinv_halt hv hc.2
  | restart hdn =>
    change MInv _ m
    intro s hc hl hls
    rw [hrestart rfl] at hl
    have hv := h s hc hl hls
    rw [hdn] at hv
    exact vinv_restart (hg.1 s) hv

/-- everything that is carried along a run -/
structure AllInv (cfg : Cfg) (st : State) (m : Mon) : Prop where
  g : GInv cfg st
  ns : NS cfg st
  p : PInv st
  v : MInv st m

theorem step_allinv {cfg : Cfg} (hC : cfg.saveOnCreate = true) (hD : cfg.saveOnDelete = true) (hre : cfg.rearm = true)
    {st st' : State} {l : Label} {m : Mon} (h : AllInv cfg st m) (hs : Step cfg st l st') : AllInv cfg st' (monStep st l m) :=
  ⟨step_ginv h.g hs, step_ns hre h.g h.ns hs, step_pinv hC hD h.g h.p hs, step_minv m h.g h.p h.v hs⟩

theorem runM_inv (cfg : Cfg) (hC : cfg.saveOnCreate = true) (hD : cfg.saveOnDelete = true) (hre : cfg.rearm = true)
    (x : State × Mon) (ls : List Label) (h : AllInv cfg x.1 x.2) :
    AllInv cfg (runM cfg x ls).1 (runM cfg x ls).2 := by
  induction ls generalizing x with
  | nil => exact h
  | cons l ls ih =>
    simp only [runM]
    cases hs : step cfg x.1 l with
    | none => exact ih x h
    | some st' => exact ih (st', monStep x.1 l x.2) (step_allinv hC hD hre h (.of_step hs))

theorem allinv_init (cfg : Cfg) (n : Nat) (l : Nat → Bool) (p : Nat → Bytes) (f : Ev → Bool) (o : Bool) :
    AllInv cfg (init n l p f o) mon0 :=
  ⟨ginv_init cfg n l p f o, by intro s d h; simp [init] at h, pinv_init n l p f o, minv_init n l p f o⟩

/-- where the invariants meet: in a quiescent state of a running service with the pipe alive, a clean listening source has
its worker gone (`GInv`: the partition is the accepted part of `[start, Pos)`), nothing in flight (`MInv`: `nextExp` is the end
of the log, `start` the creation point) and nothing stranded (`NS`: `Pos` has reached `LastKnwnPos`, which is `nextExp`) -/
theorem spec_of_allinv {cfg : Cfg} (hf : cfg.applyFilter = true) {st : State} {m : Mon} (h : AllInv cfg st m) (s : Nat)
    (hq : quiescent st = true) (hcl : st.closed = false) (hl : st.pipe = .live) (hsn : s < st.n)
    (hls : (st.srcs s).listens = true) (hc : m.clean s = true) : proj s st.dest = specProj st s := by
  obtain ⟨hg, hns, _, hv⟩ := h
  simp only [quiescent, Bool.and_eq_true, List.isEmpty_iff] at hq
  obtain ⟨⟨hpe, hch⟩, hidle⟩ := hq
  obtain ⟨a0, a1, a2, a3, a4⟩ := hv s hc hl hls
  rw [hch, hpe] at a1
  have a1' : m.nextExp s = (st.srcs s).log.length := by simpa [wsum] using a1
  have hwk : (st.srcs s).wk = .none := allIdle_spec st hidle s hsn
  unfold specProj
  simp only [hls, if_true]
  cases hd : (st.srcs s).desc with
  | none =>
    have hca := a2 hd
    have hP := ((hg.1 s).1 hd).1
    rw [hP]
    rw [List.drop_eq_nil_of_le (a1' ▸ hca ▸ Nat.le_refl _)]; rfl
  | some d =>
    have hD' := a3 d hd
    obtain ⟨b1, b2, b3, b4, _, b6, _, _⟩ := (hg.1 s).2 d hd
    simp only [curOf, hwk] at b2 b3 b6
    have hchg : d.charged = false := b4.mpr hwk
    have hnostart : noStart cfg st = false := by simp [noStart, hcl, hl]
    have hpos : d.pos = (st.srcs s).log.length := by
      rcases hns s d hd with h1 | h1 | h1 | h1
      · rw [hnostart] at h1; cases h1
      · rw [hchg] at h1; cases h1
      · refine Nat.le_antisymm b3 ?_
        rw [← a1']
        rcases hD'.dis with h2 | h2
        · exact h2 ▸ Nat.not_lt.mp h1
        · exact h2
      · rw [hD'.stale] at h1; cases h1
    rw [b6, hD'.start, hpos]
    simp only [sel, hf, if_true]
    have hsl : slice (st.srcs s).log (st.srcs s).createdAt (st.srcs s).log.length =
        (st.srcs s).log.drop (st.srcs s).createdAt := by
      unfold slice
      apply List.take_of_length_le; simp
    rw [hsl]

/-- **the specification from a clean schedule**: in a quiescent state of a running service with the pipe alive, a
listening source whose schedule was clean has exactly the events written after the creation that pass the filter, once, in
stored order, provenance appended — in the pipe partition. No hypothesis about the descriptor. -/
theorem spec_of_clean (cfg : Cfg) (hC : cfg.saveOnCreate = true) (hD : cfg.saveOnDelete = true) (hre : cfg.rearm = true)
    (hf : cfg.applyFilter = true)
    (n : Nat) (l : Nat → Bool) (p : Nat → Bytes) (f : Ev → Bool) (o : Bool) (ls : List Label) (s : Nat) :
    let r := runM cfg (init n l p f o, mon0) ls
    quiescent r.1 = true → r.1.closed = false → r.1.down = false → r.1.pipe = .live → s < r.1.n →
    (r.1.srcs s).listens = true → r.2.clean s = true →
    proj s r.1.dest = specProj r.1 s := by
  intro r hq hcl _ hl hsn hls hc
  exact spec_of_allinv hf (runM_inv cfg hC hD hre (init n l p f o, mon0) ls (allinv_init cfg n l p f o)) s hq hcl hl hsn hls hc

end Logrange.PipeLts

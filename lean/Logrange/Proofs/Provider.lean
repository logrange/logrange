import Logrange.Model.Provider
import Logrange.Props.C15Ring
/-!
# Lemmas about the cursor provider model

* the labelled transition system of the provider (`Label`, `stepL`, `run`): every step of the model, with
  **unconstrained arguments** — split `lookup`/`create`/`insert` steps of any number of requests interleaved in
  any order, releases of anything, clock advances, both sweeps;
* the few states an operation can end in, as case lemmas: the invariants here and in ProviderTouch/ProviderRing/
  ProviderSweep are proved for these shapes and not by unfolding the operations again;
* the accounting invariant `CurOK` (`closed ≤ acquired ≤ 1` for every cursor object), all traces, both code shapes;
* the invariant `K` of the repaired provider, all well-formed traces: `J` (rings, map, life-cycle of a cursor object)
  and `Rest` (calls of `close()`, map size, no panic).
-/
namespace Logrange.Provider
open Logrange.Ring

inductive Label where
  | lookup (id query pos : Nat) (posOk : Bool)
  | create (id query pos : Nat) (kind : CreateKind) (newCur newId : Nat)
  | insert (c : Nat)
  | get (id query pos : Nat) (posOk : Bool) (kind : CreateKind) (cache : Bool) (newCur newId : Nat)
  | release (c : Nat) (commitPos : Nat)
  | age (d : Int)
  | sweepT
  | sweepS

/-- one step; `chk`/`byId` are the two code-shape facts (`insertChecksExisting`, `releaseLooksUpById`) -/
def stepL (chk byId : Bool) (s : St) : Label → St
  | .lookup id q p ok => (lookup s id q p ok).1
  | .create id q p k c n => (create s id q p k c n).1
  | .insert c => (insert chk s c).1
  | .get id q p ok k cache c n => (getOrCreate chk s id q p ok k cache c n).1
  | .release c cp => (release byId s c cp).1
  | .age d => age s d
  | .sweepT => sweepByTime s
  | .sweepS => sweepBySize s

def run (chk byId : Bool) (s : St) (tr : List Label) : St := tr.foldl (stepL chk byId) s

theorem append_single (e : Nat) (x : List Nat) : append [e] x = e :: x := by
  cases x <;> simp [append]

/-- the state after a hit and after an idle release -/
def touched (s : St) (e c : Nat) (i : CurI) (h : Holder) : St :=
  { s with cursors := fun x => if x = c then i else s.cursors x
           holders := fun x => if x = e then h else s.holders x
           ring := e :: s.ring.erase e }

theorem toHead_hset_setCur (s : St) (e c : Nat) (i : CurI) (h : Holder) :
    toHead (hset (setCur s c i) e h) e = touched s e c i h := by
  simp only [toHead, hset, setCur, tearOff, append_single, touched]

theorem lookup_cases (s : St) (id q p : Nat) (ok : Bool) :
    (∃ r id', lookup s id q p ok = (s, r, id') ∧ r ≠ .nilDeref ∧ ∀ c, r ≠ .hit c) ∨
    (∃ e, s.curs.get id = some e ∧ (s.holders e).cur = none ∧
      lookup s id q p ok = ({ s with panicked := true }, .nilDeref, id)) ∨
    ∃ e c, s.curs.get id = some e ∧ (s.holders e).cur = some c ∧
      lookup s id q p ok = (touched s e c { s.cursors c with pos := p, held := true }
        { s.holders e with busy := true, exp := s.now + s.busyTo }, .hit c, id) := by
  generalize hL : lookup s id q p ok = L
  unfold lookup at hL
  split at hL
  · split at hL
    · rename_i e hg
      simp only [] at hL
      split at hL
      · exact Or.inl ⟨.refused, _, hL.symm, nofun, nofun⟩
      · split at hL
        · rename_i hn; exact Or.inr (Or.inl ⟨e, hg, hn, hL.symm⟩)
        · rename_i c hc
          split at hL
          · exact Or.inl ⟨.applyFail, _, hL.symm, nofun, nofun⟩
          · exact Or.inr (Or.inr ⟨e, c, hg, hc, by rw [← hL, toHead_hset_setCur]; rfl⟩)
    · exact Or.inl ⟨.miss, _, hL.symm, nofun, nofun⟩
  · exact Or.inl ⟨.noId, _, hL.symm, nofun, nofun⟩

theorem release_cases (byId : Bool) (s : St) (c cp : Nat) :
    (release byId s c cp = (closeCur (setCur s c { s.cursors c with held := false, pos := cp }) c, .closed) ∧
      ∀ e, s.curs.get (s.cursors c).id = some e → byId = false ∧ (s.holders e).cur ≠ some c) ∨
    ∃ e, s.curs.get (s.cursors c).id = some e ∧ (byId = false → (s.holders e).cur = some c) ∧
      ((s.holders e).busy = false ∧ release byId s c cp =
          ({ setCur s c { s.cursors c with held := false, pos := cp } with panicked := true }, .panic) ∨
       (s.holders e).busy = true ∧ release byId s c cp =
          (touched s e c { s.cursors c with held := false, pos := cp }
            { s.holders e with busy := false, exp := s.now + s.idleTo }, .idle)) := by
  have hh : ∀ i, (setCur s c i).holders = s.holders := fun _ => rfl
  generalize hL : release byId s c cp = L
  unfold release at hL
  simp only [hh] at hL
  split at hL
  · rename_i hm
    exact Or.inl ⟨hL.symm, fun e he => by rw [show s.curs.get (s.cursors c).id = none from hm] at he; cases he⟩
  · rename_i e hm
    have hm : s.curs.get (s.cursors c).id = some e := hm
    split at hL
    · rename_i hne
      refine Or.inl ⟨hL.symm, fun e' he' => ?_⟩
      rw [hm] at he'; cases he'
      simpa using hne
    · rename_i hne
      refine Or.inr ⟨e, hm, fun hb => ?_, ?_⟩
      · subst hb; simpa using hne
      · split at hL
        · rename_i hb; exact Or.inl ⟨by simpa using hb, hL.symm⟩
        · rename_i hb; exact Or.inr ⟨by simpa using hb, by rw [← hL, toHead_hset_setCur]; rfl⟩

/-- the state after a successful `insert` -/
def cachedAt (s : St) (c e : Nat) : St :=
  { s with holders := fun x => if x = e then { busy := true, cur := some c, exp := s.now + s.busyTo } else s.holders x
           ring := e :: s.ring
           curs := s.curs.set (s.cursors c).id e }

theorem insert_cases (chk : Bool) (s : St) (c : Nat) :
    (chk = true ∧ (s.curs.get (s.cursors c).id).isSome = true ∧
      insert chk s c = (closeCur (setCur s c { s.cursors c with held := false }) c, .lateRefused)) ∨
    ((chk = true → s.curs.get (s.cursors c).id = none) ∧ ∃ e F' n' z,
      ((s.free = e :: F' ∧ n' = s.nextElem) ∨ (F' = s.free ∧ e = s.nextElem ∧ n' = s.nextElem + 1)) ∧
      insert chk s c = (cachedAt { s with free := F', freeSz := z, nextElem := n' } c e, .cached)) := by
  generalize hL : insert chk s c = L
  unfold insert at hL
  simp only [] at hL
  split at hL
  · rename_i h
    simp only [Bool.and_eq_true] at h
    exact Or.inl ⟨h.1, h.2, hL.symm⟩
  · rename_i h
    refine Or.inr ⟨fun hc => ?_, ?_⟩
    · subst hc; simpa using h
    · cases hf : s.free with
      | cons f rest =>
        exact ⟨f, rest, s.nextElem, s.freeSz - 1, Or.inl ⟨rfl, rfl⟩,
          by rw [← hL, hf]; simp only [hset, append_single, cachedAt]⟩
      | nil =>
        exact ⟨s.nextElem, [], s.nextElem + 1, s.freeSz, Or.inr ⟨rfl, rfl, rfl⟩,
          by rw [← hL, hf]; simp only [hset, append_single, cachedAt]⟩

theorem evict_none {s : St} {e : Nat} (hc : (s.holders e).cur = none) (r : Bool) :
    evict s e r = { s with panicked := true } := by
  unfold evict; simp only [hc]

theorem evict_some {s : St} {e c : Nat} (hc : (s.holders e).cur = some c) (r : Bool) :
    evict s e r =
      { s with
        cursors := if (s.holders e).busy = true then s.cursors else (closeCur s c).cursors
        curs := s.curs.del (s.cursors c).id
        holders := fun x => if x = e then { s.holders e with cur := none } else s.holders x
        ring := s.ring.erase e
        free := if (r && decide (s.freeSz < freePoolCap)) = true then e :: s.free else s.free
        freeSz := if (r && decide (s.freeSz < freePoolCap)) = true then s.freeSz + 1 else s.freeSz } := by
  unfold evict
  simp only [hc]
  cases (s.holders e).busy <;> cases r <;> by_cases hf : s.freeSz < freePoolCap <;>
    simp [hset, tearOff, append_single, closeCur, setCur, hf]

theorem sweeps_keep {P : St → Prop} (hev : ∀ {s : St} (e : Nat) (r : Bool), P s → P (evict s e r))
    (hp : ∀ {s : St}, P s → P { s with panicked := true }) {s : St} (h : P s) :
    P (sweepBySize s) ∧ P (sweepByTime s) := by
  have size : ∀ (fuel : Nat) {s : St}, P s → P (sweepBySizeLoop fuel s) := by
    intro fuel
    induction fuel with
    | zero => intro s h; exact h
    | succ n ih =>
      intro s h
      unfold sweepBySizeLoop
      split
      · split
        · exact hp h
        · simp only []
          split
          · exact hev _ _ h
          · exact ih (hev _ _ h)
      · exact h
  have time : ∀ (cnt : Nat) {s : St} (e : Nat), P s → P (sweepByTimeLoop cnt s e) := by
    intro cnt
    induction cnt with
    | zero => intro s e h; exact h
    | succ n ih =>
      intro s e h
      unfold sweepByTimeLoop
      simp only []
      split
      · split
        · exact hev _ _ h
        · exact ih _ (hev _ _ h)
      · split
        · exact h
        · exact ih _ h
  refine ⟨size _ h, ?_⟩
  unfold sweepByTime
  split
  · exact h
  · exact time _ _ h

/-! ## the composite `get` step as a refinement of its split parts -/

/-- the split steps a composite `GetOrCreate` consists of, for the given state and arguments -/
def getParts (s : St) (id q p : Nat) (ok : Bool) (k : CreateKind) (cache : Bool) (c n : Nat) : List Label :=
  match lookup s id q p ok with
  | (_, .refused, _) => [.lookup id q p ok]
  | (_, .nilDeref, _) => [.lookup id q p ok]
  | (_, .hit _, _) => [.lookup id q p ok]
  | (s1, _, id') =>
    match create s1 id' q p k c n with
    | (_, .cur c2) => if cache then [.lookup id q p ok, .create id' q p k c n, .insert c2]
                      else [.lookup id q p ok, .create id' q p k c n]
    | _ => [.lookup id q p ok, .create id' q p k c n]

/-- the composite `get` step is exactly the run of its split parts (both code shapes) -/
theorem get_refines_split (chk byId : Bool) (s : St) (id q p : Nat) (ok : Bool) (k : CreateKind) (cache : Bool) (c n : Nat) :
    run chk byId s (getParts s id q p ok k cache c n) = stepL chk byId s (.get id q p ok k cache c n) := by
  simp only [stepL, getOrCreate, getParts]
  split
  · rename_i e; simp [run, stepL, e]
  · rename_i e; simp [run, stepL, e]
  · rename_i e; simp [run, stepL, e]
  · rename_i s1 r id' h1 h2 h3 e
    split
    · rename_i s2 c2 e2
      cases cache
      · simp [run, stepL, e, e2]
      · simp only [run, stepL, e, e2, List.foldl, if_true]
        rcases hin : insert chk s2 c2 with ⟨s3, ir⟩
        cases ir <;> simp
    · rename_i hne
      rcases hcr : create s1 id' q p k c n with ⟨s2, cr⟩
      cases cr with
      | cur c2 => exact absurd hcr (hne s2 c2)
      | empty => simp [run, stepL, e, hcr]
      | error => simp [run, stepL, e, hcr]

/-- a label is one of the split steps (not the composite) -/
def Label.isSplit : Label → Bool
  | .get .. => false
  | _ => true

theorem getParts_sub (s : St) (id q p : Nat) (ok : Bool) (k : CreateKind) (cache : Bool) (c n : Nat) :
    ∀ l ∈ getParts s id q p ok k cache c n,
      l = .lookup id q p ok ∨ (∃ id', l = .create id' q p k c n) ∨ ∃ c2, l = .insert c2 := by
  intro l hl
  unfold getParts at hl
  repeat' split at hl
  all_goals
    simp only [List.mem_cons, List.not_mem_nil, or_false] at hl
    rcases hl with rfl | rfl | rfl
  all_goals first | exact Or.inl rfl | exact Or.inr (Or.inl ⟨_, rfl⟩) | exact Or.inr (Or.inr ⟨_, rfl⟩)

theorem getParts_split (s : St) (id q p : Nat) (ok : Bool) (k : CreateKind) (cache : Bool) (c n : Nat) :
    ∀ l ∈ getParts s id q p ok k cache c n, l.isSplit = true := by
  intro l hl
  rcases getParts_sub s id q p ok k cache c n l hl with rfl | ⟨_, rfl⟩ | ⟨_, rfl⟩ <;> rfl

/-- accounting of one cursor object: what was given back never exceeds what was taken, one partition set per cursor -/
def CurOKf (f : Nat → CurI) : Prop := ∀ c, (f c).closed ≤ (f c).acquired ∧ (f c).acquired ≤ 1
def CurOK (s : St) : Prop := CurOKf s.cursors

theorem curOK_init (m : Nat) (i b : Int) : CurOK (init m i b) := by
  intro c; simp [init]

theorem CurOKf_upd {f : Nat → CurI} (h : CurOKf f) (c : Nat) {i : CurI} (h1 : i.closed ≤ i.acquired) (h2 : i.acquired ≤ 1) :
    CurOKf (fun x => if x = c then i else f x) := by
  intro x
  show (if x = c then i else f x).closed ≤ (if x = c then i else f x).acquired ∧ (if x = c then i else f x).acquired ≤ 1
  split
  · exact ⟨h1, h2⟩
  · exact h x

theorem curOK_closeCur {s : St} (c : Nat) (h : CurOK s) : CurOK (closeCur s c) :=
  CurOKf_upd h c (Nat.le_refl _) (h c).2

theorem curOK_lookup {s : St} (id q p : Nat) (ok : Bool) (h : CurOK s) : CurOK (lookup s id q p ok).1 := by
  rcases lookup_cases s id q p ok with ⟨_, _, e, _⟩ | ⟨_, _, _, e⟩ | ⟨_, c, _, _, e⟩ <;> rw [e]
  · exact h
  · exact h
  · exact CurOKf_upd h c (h c).1 (h c).2

theorem curOK_create {s : St} (id q p : Nat) (k : CreateKind) (c n : Nat) (h : CurOK s) :
    CurOK (create s id q p k c n).1 := by
  unfold create
  cases k
  · exact CurOKf_upd h c (by simp) (by simp)
  · exact CurOKf_upd h c (by simp) (by simp)
  · exact h

theorem curOK_insert {s : St} (chk : Bool) (c : Nat) (h : CurOK s) : CurOK (insert chk s c).1 := by
  rcases insert_cases chk s c with ⟨_, _, e⟩ | ⟨_, _, _, _, _, _, e⟩ <;> rw [e]
  · exact curOK_closeCur c (CurOKf_upd h c (h c).1 (h c).2)
  · exact h

theorem curOK_release {s : St} (byId : Bool) (c cp : Nat) (h : CurOK s) : CurOK (release byId s c cp).1 := by
  have h1 : CurOK (setCur s c { s.cursors c with held := false, pos := cp }) := CurOKf_upd h c (h c).1 (h c).2
  rcases release_cases byId s c cp with ⟨e, _⟩ | ⟨_, _, _, ⟨_, e⟩ | ⟨_, e⟩⟩ <;> rw [e]
  · exact curOK_closeCur c h1
  · exact h1
  · exact h1

theorem curOK_evict {s : St} (e : Nat) (r : Bool) (h : CurOK s) : CurOK (evict s e r) := by
  cases hc : (s.holders e).cur with
  | none => rw [evict_none hc]; exact h
  | some c =>
    rw [evict_some hc]
    show CurOKf (if (s.holders e).busy = true then s.cursors else (closeCur s c).cursors)
    split
    · exact h
    · exact curOK_closeCur c h

theorem curOK_step (chk byId : Bool) {s : St} (l : Label) (h : CurOK s) : CurOK (stepL chk byId s l) := by
  have split : ∀ {s : St} (l : Label), l.isSplit = true → CurOK s → CurOK (stepL chk byId s l) := by
    intro s l hs h
    cases l with
    | lookup id q p ok => exact curOK_lookup id q p ok h
    | create id q p k c n => exact curOK_create id q p k c n h
    | insert c => exact curOK_insert chk c h
    | get id q p ok k cache c n => cases hs
    | release c cp => exact curOK_release byId c cp h
    | age d => exact h
    | sweepT => exact (sweeps_keep (fun e r => curOK_evict e r) (fun h => h) h).2
    | sweepS => exact (sweeps_keep (fun e r => curOK_evict e r) (fun h => h) h).1
  cases hl : l.isSplit
  · cases l with
    | get id q p ok k cache c n =>
      rw [← get_refines_split]
      have hp := getParts_split s id q p ok k cache c n
      generalize getParts s id q p ok k cache c n = tr at hp
      induction tr generalizing s with
      | nil => exact h
      | cons l tr ih =>
        exact ih (split l (hp l (List.mem_cons_self ..)) h) (fun x hx => hp x (List.mem_cons_of_mem _ hx))
    | _ => cases hl
  · exact split l hl h

theorem curOK_run (chk byId : Bool) (tr : List Label) : ∀ {s : St}, CurOK s → CurOK (run chk byId s tr) := by
  induction tr with
  | nil => intro s h; exact h
  | cons l tr ih => intro s h; exact ih (curOK_step chk byId l h)

/-! ## the invariant of the repaired provider (`insert` re-checks the map, `Release` compares the cursor object) -/

structure JJ (R F : List Nat) (n : Nat) (H : Nat → Holder) (G : Nat → Option Nat) (C : Nat → CurI) : Prop where
  a : R.Nodup
  b1 : F.Nodup
  b2 : ∀ e ∈ R, e ∉ F
  c : ∀ e, (e ∈ R ∨ e ∈ F) → e < n
  d : ∀ e, e ∉ R → (H e).cur = none
  e : ∀ e ∈ R, ∃ c, (H e).cur = some c ∧ G (C c).id = some e ∧
        (C c).acquired = 1 ∧ (C c).closed = 0 ∧ (C c).held = (H e).busy
  f : ∀ id e, G id = some e → e ∈ R ∧ ∃ c, (H e).cur = some c ∧ (C c).id = id
  h : ∀ c, ((C c).acquired = 0 → (C c).held = false ∧ (C c).closed = 0) ∧
        (C c).acquired ≤ 1 ∧
        ((C c).acquired = 1 → ((C c).closed = 1 ↔ ((C c).held = false ∧ ∀ e ∈ R, (H e).cur ≠ some c))) ∧
        (C c).closed ≤ 1

section
variable {R F : List Nat} {n : Nat} {H : Nat → Holder} {G : Nat → Option Nat} {C : Nat → CurI}

theorem JJ.cached (j : JJ R F n H G C) {e c : Nat} (he : e ∈ R) (hc : (H e).cur = some c) :
    G (C c).id = some e ∧ (C c).acquired = 1 ∧ (C c).closed = 0 ∧ (C c).held = (H e).busy := by
  obtain ⟨c', k1, k2⟩ := j.e e he
  rw [hc] at k1; cases k1; exact k2

theorem JJ.mem_of_cur (j : JJ R F n H G C) {e c : Nat} (hc : (H e).cur = some c) : e ∈ R :=
  Classical.byContradiction fun hn => by have := j.d e hn; rw [hc] at this; cases this

theorem JJ.other_id (j : JJ R F n H G C) {e c : Nat} (he : e ∈ R) (hc : (H e).cur = some c) :
    ∀ x ∈ R, x ≠ e → ∀ c', (H x).cur = some c' → (C c').id ≠ (C c).id := by
  intro x hx hxe c' hc' k
  have := (j.cached hx hc').1
  rw [k, (j.cached he hc).1] at this
  exact hxe (Option.some.inj this).symm

/-- One holder `e` is rewritten, caching `c` or nothing before and after: insert, evict and the move to the head are
    instances. `hin`/`hout`: the new record of `c` when it is cached / when it is not. -/
theorem JJ.update (j : JJ R F n H G C) (e c : Nat) (hx : Holder) (g : Option Nat) {R' F' : List Nat} {n' : Nat}
    {C' : Nat → CurI} (ho : (H e).cur = none ∨ (H e).cur = some c) (ho' : hx.cur = none ∨ hx.cur = some c)
    (hg0 : hx.cur = none → g = none) (hg1 : hx.cur = some c → g = some e)
    (hoth : ∀ x ∈ R, x ≠ e → ∀ c', (H x).cur = some c' → (C c').id ≠ (C c).id)
    (rn : R'.Nodup) (rm : ∀ x, x ≠ e → (x ∈ R' ↔ x ∈ R)) (re : e ∈ R' ↔ hx.cur = some c)
    (fn : F'.Nodup) (fd : ∀ x ∈ R', x ∉ F') (fb : ∀ x, x ∈ R' ∨ x ∈ F' → x < n')
    (hC : ∀ c', c' ≠ c → C' c' = C c') (hid : (C' c).id = (C c).id)
    (hin : hx.cur = some c → (C' c).acquired = 1 ∧ (C' c).closed = 0 ∧ (C' c).held = hx.busy)
    (hout : hx.cur = none → (C' c).acquired ≤ 1 ∧ ((C' c).acquired = 0 → (C' c).held = false ∧ (C' c).closed = 0) ∧
      ((C' c).acquired = 1 → ((C' c).closed = 1 ↔ (C' c).held = false)) ∧ (C' c).closed ≤ 1) :
    JJ R' F' n' (fun x => if x = e then hx else H x) (fun id => if id = (C c).id then g else G id) C' := by
  have hne : ∀ x ∈ R, x ≠ e → ∀ c', (H x).cur = some c' → c' ≠ c :=
    fun x hxR hxe c' hc' k => hoth x hxR hxe c' hc' (by rw [k])
  refine ⟨rn, fn, fd, fb, ?_, ?_, ?_, ?_⟩
  · intro x hxm
    by_cases hxe : x = e
    · rw [hxe] at hxm ⊢
      simp only [↓reduceIte]
      exact ho'.resolve_right (fun h => hxm (re.2 h))
    · simp only [if_neg hxe]; exact j.d x (fun k => hxm ((rm x hxe).2 k))
  · intro x hxm
    by_cases hxe : x = e
    · rw [hxe] at hxm ⊢
      have h := re.1 hxm
      obtain ⟨a1, a2, a3⟩ := hin h
      exact ⟨c, by simp only [↓reduceIte, h], by simp only [hid, ↓reduceIte, hg1 h], a1, a2, by simp only [↓reduceIte, a3]⟩
    · have hxR := (rm x hxe).1 hxm
      obtain ⟨c', k1, k2, k3, k4, k5⟩ := j.e x hxR
      refine ⟨c', ?_⟩
      simp only [if_neg hxe, hC c' (hne x hxR hxe c' k1), if_neg (hoth x hxR hxe c' k1)]
      exact ⟨k1, k2, k3, k4, k5⟩
  · intro id x hgx
    have hgx : (if id = (C c).id then g else G id) = some x := hgx
    split at hgx
    · next hidc =>
      rcases ho' with h | h
      · rw [hg0 h] at hgx; cases hgx
      · rw [hg1 h] at hgx; cases hgx
        exact ⟨re.2 h, c, by simp only [↓reduceIte, h], hid.trans hidc.symm⟩
    · next hidc =>
      obtain ⟨hxR, c', k1, k2⟩ := j.f id x hgx
      have hc'c : c' ≠ c := fun k => hidc (by rw [← k2, k])
      have hxe : x ≠ e := fun k => by
        rw [k] at k1
        rcases ho with h | h <;> rw [h] at k1
        · cases k1
        · exact hc'c (Option.some.inj k1).symm
      exact ⟨(rm x hxe).2 hxR, c', by simp only [if_neg hxe]; exact k1, by rw [hC c' hc'c]; exact k2⟩
  · intro c''
    by_cases hcc : c'' = c
    · rw [hcc]
      rcases ho' with h | h
      · obtain ⟨b1, b2, b3, b4⟩ := hout h
        refine ⟨b2, b1, fun ha => ?_, b4⟩
        rw [b3 ha]
        refine ⟨fun k => ⟨k, fun x hxm => ?_⟩, fun k => k.1⟩
        by_cases hxe : x = e
        · simp only [hxe, ↓reduceIte, h]; exact nofun
        · simp only [if_neg hxe]; exact fun k' => hne x ((rm x hxe).1 hxm) hxe c k' rfl
      · obtain ⟨a1, a2, a3⟩ := hin h
        refine ⟨fun k => by omega, by omega, fun _ => ⟨fun k => by omega, fun k => ?_⟩, by omega⟩
        exact absurd (by simp only [↓reduceIte, h]) (k.2 e (re.2 h))
    · rw [hC c'' hcc]
      have hh := j.h c''
      refine ⟨hh.1, hh.2.1, fun ha => ?_, hh.2.2.2⟩
      rw [hh.2.2.1 ha]
      have hoc : ∀ o : Option Nat, o = none ∨ o = some c → o ≠ some c'' := fun o h k => by
        rcases h with h | h <;> rw [h] at k
        · cases k
        · exact hcc (Option.some.inj k).symm
      refine ⟨fun k => ⟨k.1, fun x hxm => ?_⟩, fun k => ⟨k.1, fun x hxR => ?_⟩⟩
      · by_cases hxe : x = e
        · simp only [hxe, ↓reduceIte]; exact hoc _ ho'
        · simp only [if_neg hxe]; exact k.2 x ((rm x hxe).1 hxm)
      · by_cases hxe : x = e
        · rw [hxe]; exact hoc _ ho
        · have := k.2 x ((rm x hxe).2 hxR); simpa only [if_neg hxe] using this

theorem mem_toHead {R : List Nat} {e : Nat} (he : e ∈ R) (x : Nat) : x ∈ e :: R.erase e ↔ x ∈ R := by
  rw [List.mem_cons]
  constructor
  · rintro (rfl | h)
    · exact he
    · exact List.mem_of_mem_erase h
  · intro h
    by_cases hx : x = e
    · exact Or.inl hx
    · exact Or.inr ((List.mem_erase_of_ne hx).2 h)

theorem nodup_toHead {R : List Nat} (hn : R.Nodup) (e : Nat) : (e :: R.erase e).Nodup :=
  List.nodup_cons.2 ⟨fun h => ((List.Nodup.mem_erase_iff hn).1 h).1 rfl, hn.erase e⟩

end
theorem JJ_setCur {R F n H G C} (j : JJ R F n H G C) (c : Nat) (i : CurI)
    (hnc : ∀ e ∈ R, (H e).cur ≠ some c)
    (h1 : i.acquired ≤ 1) (h2 : i.acquired = 0 → i.held = false ∧ i.closed = 0)
    (h3 : i.acquired = 1 → (i.closed = 1 ↔ i.held = false)) (h4 : i.closed ≤ 1) :
    JJ R F n H G (fun x => if x = c then i else C x) := by
  obtain ⟨ja, jb1, jb2, jc, jd, je, jf, jh⟩ := j
  refine ⟨ja, jb1, jb2, jc, jd, ?_, ?_, ?_⟩
  · intro e he
    obtain ⟨c', k1, k2, k3, k4, k5⟩ := je e he
    have : c' ≠ c := by intro h; subst h; exact hnc e he k1
    exact ⟨c', k1, by simp [this, k2], by simp [this, k3], by simp [this, k4], by simp [this, k5]⟩
  · intro id e hg
    obtain ⟨k0, c', k1, k2⟩ := jf id e hg
    have : c' ≠ c := by intro h; subst h; exact hnc e k0 k1
    exact ⟨k0, c', k1, by simp [this, k2]⟩
  · intro c'
    by_cases hcc : c' = c
    · subst hcc; simp only [if_true]
      refine ⟨h2, h1, ?_, h4⟩
      intro ha; rw [h3 ha]; constructor
      · intro k; exact ⟨k, hnc⟩
      · intro k; exact k.1
    · simp only [hcc, if_false]; exact jh c'

/-- the invariant of the repaired provider -/
def J (s : St) : Prop := JJ s.ring s.free s.nextElem s.holders s.curs.get s.cursors

theorem J_init (m : Nat) (i b : Int) : J (init m i b) := by
  unfold J init
  refine ⟨List.nodup_nil, List.nodup_nil, ?_, ?_, ?_, ?_, ?_, ?_⟩ <;> simp

theorem J_cached_acq {s : St} (j : J s) {e c : Nat} (he : e ∈ s.ring) (hc : (s.holders e).cur = some c) :
    s.curs.get (s.cursors c).id = some e ∧ (s.cursors c).acquired = 1 ∧ (s.cursors c).closed = 0 ∧
    (s.cursors c).held = (s.holders e).busy :=
  JJ.cached j he hc

theorem J_held_acq {s : St} (j : J s) {c : Nat} (hh : (s.cursors c).held = true) : (s.cursors c).acquired = 1 := by
  have h := j.h c
  have h1 : (s.cursors c).acquired ≠ 0 := by intro k; have := (h.1 k).1; simp [hh] at this
  have := h.2.1; omega

theorem J_held_closed0 {s : St} (j : J s) {c : Nat} (hh : (s.cursors c).held = true) : (s.cursors c).closed = 0 := by
  have ha := J_held_acq j hh
  have h := j.h c
  have h1 : ¬ (s.cursors c).closed = 1 := by
    intro k; have := ((h.2.2.1 ha).1 k).1; rw [hh] at this; cases this
  have := h.2.2.2; omega

theorem J_fresh_uncached {s : St} (j : J s) {c : Nat} (hfresh : (s.cursors c).acquired = 0) :
    ∀ e ∈ s.ring, (s.holders e).cur ≠ some c := by
  intro e he hc; have := (J_cached_acq j he hc).2.1; omega

theorem J_insert_elem {s : St} (j : J s) {e n' : Nat} {F' : List Nat}
    (hF : (s.free = e :: F' ∧ n' = s.nextElem) ∨ (F' = s.free ∧ e = s.nextElem ∧ n' = s.nextElem + 1)) :
    e ∉ s.ring ∧ e ∉ F' ∧ F'.Nodup ∧ (∀ x ∈ F', x ∈ s.free) ∧ e < n' ∧ s.nextElem ≤ n' := by
  rcases hF with ⟨h, rfl⟩ | ⟨rfl, rfl, rfl⟩
  · have hn := j.b1; rw [h] at hn
    have he : e ∈ s.free := h ▸ List.mem_cons_self ..
    exact ⟨fun k => j.b2 e k he, (List.nodup_cons.1 hn).1, (List.nodup_cons.1 hn).2,
      fun x hx => h ▸ List.mem_cons_of_mem _ hx, j.c e (Or.inr he), Nat.le_refl _⟩
  · exact ⟨fun k => Nat.lt_irrefl _ (j.c _ (Or.inl k)), fun k => Nat.lt_irrefl _ (j.c _ (Or.inr k)), j.b1,
      fun _ h => h, Nat.lt_succ_self _, Nat.le_succ _⟩

theorem J_cachedAt {s : St} (j : J s) {c e n' z : Nat} {F' : List Nat}
    (hF : (s.free = e :: F' ∧ n' = s.nextElem) ∨ (F' = s.free ∧ e = s.nextElem ∧ n' = s.nextElem + 1))
    (hheld : (s.cursors c).held = true) (hg : s.curs.get (s.cursors c).id = none) :
    J (cachedAt { s with free := F', freeSz := z, nextElem := n' } c e) := by
  obtain ⟨heR, heF, hFn, hFs, hen, hnn⟩ := J_insert_elem j hF
  exact JJ.update j e c _ (some e) (Or.inl (j.d e heR)) (Or.inr rfl) (fun h => by cases h) (fun _ => rfl)
    (fun x hxR _ c' hc' k => by have := (J_cached_acq j hxR hc').1; rw [k, hg] at this; cases this)
    (List.nodup_cons.2 ⟨heR, j.a⟩) (fun x h => ⟨fun k => (List.mem_cons.1 k).resolve_left h, List.mem_cons_of_mem _⟩)
    ⟨fun _ => rfl, fun _ => List.mem_cons_self ..⟩ hFn
    (fun x hxm hxF => (List.mem_cons.1 hxm).elim (fun k => heF (k ▸ hxF)) (fun k => j.b2 x k (hFs x hxF)))
    (fun x h => h.elim
      (fun k => (List.mem_cons.1 k).elim (fun q => q ▸ hen) (fun q => Nat.lt_of_lt_of_le (j.c x (Or.inl q)) hnn))
      (fun k => Nat.lt_of_lt_of_le (j.c x (Or.inr (hFs x k))) hnn))
    (fun _ _ => rfl) rfl (fun _ => ⟨J_held_acq j hheld, J_held_closed0 j hheld, hheld⟩) (fun h => by cases h)

theorem J_touched {s : St} (j : J s) {e c : Nat} (he : e ∈ s.ring) (hc : (s.holders e).cur = some c)
    {i : CurI} {hx : Holder} (i1 : i.id = (s.cursors c).id) (i2 : i.acquired = (s.cursors c).acquired)
    (i3 : i.closed = (s.cursors c).closed) (i4 : i.held = hx.busy) (x1 : hx.cur = some c) :
    J (touched s e c i hx) := by
  obtain ⟨kg, kacq, kcl, _⟩ := J_cached_acq j he hc
  have no : hx.cur ≠ none := fun h => by rw [x1] at h; cases h
  have key := JJ.update j e c hx (some e) (R' := e :: s.ring.erase e) (C' := fun x => if x = c then i else s.cursors x)
    (Or.inr hc) (Or.inr x1) (fun h => absurd h no) (fun _ => rfl) (JJ.other_id j he hc)
    (nodup_toHead j.a e) (fun x _ => mem_toHead he x) ⟨fun _ => x1, fun _ => List.mem_cons_self ..⟩
    j.b1 (fun x hx' => j.b2 x ((mem_toHead he x).1 hx')) (fun x hx' => j.c x (hx'.imp_left (mem_toHead he x).1))
    (fun c' h => if_neg h) (by simp only [↓reduceIte, i1])
    (fun _ => by simp only [↓reduceIte, i2, i3, i4, kacq, kcl, and_self]) (fun h => absurd h no)
  -- the map entry of `c`'s id is `e` already
  have hG : (fun id => if id = (s.cursors c).id then some e else s.curs.get id) = s.curs.get :=
    funext fun id => by
      split
      · next h => rw [h, kg]
      · rfl
  rw [hG] at key
  exact key

theorem closeCur_setCur (s : St) (c : Nat) (i : CurI) :
    (closeCur (setCur s c i) c).cursors =
      fun x => if x = c then { i with closed := i.acquired, closeCalls := i.closeCalls + 1 } else s.cursors x := by
  funext x; by_cases hx : x = c <;> simp [closeCur, setCur, hx]

theorem J_evict {s : St} (e : Nat) (r : Bool) (j : J s) : J (evict s e r) := by
  cases hc : (s.holders e).cur with
  | none => rw [evict_none hc]; exact j
  | some c =>
    rw [evict_some hc]
    have he := JJ.mem_of_cur j hc
    obtain ⟨_, kacq, kcl, kheld⟩ := J_cached_acq j he hc
    have hm : ∀ x, x ∈ s.ring.erase e ↔ x ≠ e ∧ x ∈ s.ring := fun x => List.Nodup.mem_erase_iff j.a
    have hF : ∀ x, x ∈ (if (r && decide (s.freeSz < freePoolCap)) = true then e :: s.free else s.free) →
        x = e ∨ x ∈ s.free := fun x h => by
      split at h
      · exact List.mem_cons.1 h
      · exact Or.inr h
    refine JJ.update j e c _ none (Or.inr hc) (Or.inl rfl) (fun _ => rfl) (fun h => by cases h)
      (JJ.other_id j he hc) (j.a.erase e) (fun x h => List.mem_erase_of_ne h)
      ⟨fun k => absurd rfl ((hm e).1 k).1, fun h => by cases h⟩ ?_
      (fun x hx h => (hF x h).elim ((hm x).1 hx).1 (j.b2 x ((hm x).1 hx).2))
      (fun x h => h.elim (fun k => j.c x (Or.inl ((hm x).1 k).2))
        (fun k => (hF x k).elim (fun q => q ▸ j.c e (Or.inl he)) (fun q => j.c x (Or.inr q))))
      (fun c' hcc => ?_) ?_ (fun h => by cases h) (fun _ => ?_)
    · split
      · exact List.nodup_cons.2 ⟨j.b2 e he, j.b1⟩
      · exact j.b1
    · show (if (s.holders e).busy = true then s.cursors else (closeCur s c).cursors) c' = s.cursors c'
      split
      · rfl
      · simp [closeCur, setCur, hcc]
    · cases (s.holders e).busy <;> simp [closeCur, setCur]
    · cases hb : (s.holders e).busy <;> rw [hb] at kheld <;> simp [closeCur, setCur, kacq, kcl, kheld]

theorem J_sweepByTime {s : St} (j : J s) : J (sweepByTime s) :=
  (sweeps_keep (fun e r => J_evict e r) (fun j => j) j).2

theorem J_sweepBySize {s : St} (j : J s) : J (sweepBySize s) :=
  (sweeps_keep (fun e r => J_evict e r) (fun j => j) j).1

/-- protocol well-formedness of a label (NOT an id hypothesis): a created cursor object is fresh (also for the
    composite `get`); `insert c` only for a held, not yet cached cursor; `release c` only for a held cursor.
    Ids, new ids, interleaving, clock, knobs are arbitrary. -/
def wfLabel (s : St) : Label → Prop
  | .create _ _ _ _ c _ => (s.cursors c).acquired = 0
  | .insert c => (s.cursors c).held = true ∧ ∀ e ∈ s.ring, (s.holders e).cur ≠ some c
  | .release c _ => (s.cursors c).held = true
  | .get _ _ _ _ _ _ c _ => (s.cursors c).acquired = 0
  | _ => True

def WF : St → List Label → Prop
  | _, [] => True
  | s, l :: tr => wfLabel s l ∧ WF (stepL true false s l) tr

theorem lookup_fallthrough {s s1 : St} {id q p : Nat} {ok : Bool} {r : LookupRes} {id' : Nat}
    (e : lookup s id q p ok = (s1, r, id')) (h2 : r ≠ .nilDeref) (h3 : ∀ c, r ≠ .hit c) : s1 = s := by
  rcases lookup_cases s id q p ok with ⟨_, _, e', _⟩ | ⟨_, _, _, e'⟩ | ⟨_, c, _, _, e'⟩ <;> rw [e] at e' <;> cases e'
  · rfl
  · exact absurd rfl h2
  · exact absurd rfl (h3 c)

/-- the parts of a well-formed composite `get` form a well-formed trace of split steps -/
theorem get_parts_wf {s : St} (j : J s) (id q p : Nat) (ok : Bool) (k : CreateKind) (cache : Bool) (c n : Nat)
    (hfresh : (s.cursors c).acquired = 0) : WF s (getParts s id q p ok k cache c n) := by
  have hnc := J_fresh_uncached j hfresh
  unfold getParts
  split
  · simp [WF, wfLabel]
  · simp [WF, wfLabel]
  · simp [WF, wfLabel]
  · rename_i s1 r id' h1 h2 h3 e
    have hs1 : s1 = s := lookup_fallthrough e (fun h => h2 h) (fun c h => h3 c h)
    subst hs1
    have hst : stepL true false s1 (.lookup id q p ok) = s1 := by simp [stepL, e]
    split
    · rename_i s2 c2 e2
      have hc2 : c2 = c ∧ s2 = setCur s1 c { id := if id' = 0 then n else id', query := q, pos := p, acquired := 1, held := true, handed := true } := by
        unfold create at e2
        cases k <;> simp at e2
        exact ⟨e2.2.symm, e2.1.symm⟩
      obtain ⟨rfl, hs2⟩ := hc2
      have hst2 : stepL true false s1 (.create id' q p k c2 n) = s2 := by simp [stepL, e2]
      cases cache
      · simp [WF, wfLabel, hst, hfresh]
      · simp only [WF, wfLabel, hst, hst2, if_true, and_true, true_and]
        refine ⟨hfresh, ?_, ?_⟩
        · rw [hs2]; simp [setCur]
        · rw [hs2]; exact hnc
    · simp [WF, wfLabel, hst, hfresh]

/-! ## second invariant: `close()` calls, map size = ring length, no panic -/

/-- per cursor object: `close()` was called at most once, only a closed cursor had it called, and a cursor that was
    ever handed to a request and is closed had it called -/
def Mrec (i : CurI) : Prop :=
  i.closeCalls ≤ 1 ∧ (i.closeCalls = 1 → i.closed = 1) ∧ (i.handed = true → i.closed = 1 → i.closeCalls = 1)
def MOKf (f : Nat → CurI) : Prop := ∀ c, Mrec (f c)

theorem MOKf_upd {f : Nat → CurI} (h : MOKf f) (c : Nat) (i : CurI) (hi : Mrec i) :
    MOKf (fun x => if x = c then i else f x) := by
  intro x
  show Mrec (if x = c then i else f x)
  split
  · exact hi
  · exact h x

structure Rest (s : St) : Prop where
  m : MOKf s.cursors
  sz : s.curs.size = s.ring.length
  np : s.panicked = false

theorem closeCalls0 {f : Nat → CurI} (h : MOKf f) {c : Nat} (hc : (f c).closed = 0) : (f c).closeCalls = 0 := by
  have := h c
  have h1 : ¬ (f c).closeCalls = 1 := fun k => by have := this.2.1 k; omega
  have := this.1; omega

theorem toHead_len {r : List Nat} {e : Nat} (he : e ∈ r) : (e :: r.erase e).length = r.length := by
  have := List.length_pos_of_mem he
  rw [List.length_cons, List.length_erase_of_mem he]; omega

theorem Rest_init (m : Nat) (i b : Int) : Rest (init m i b) := by
  refine ⟨?_, rfl, rfl⟩
  intro c; simp [init, Mrec]

theorem Rest_touched {s : St} (r : Rest s) {e : Nat} (he : e ∈ s.ring) (c : Nat) {i : CurI} (hi : Mrec i) (hx : Holder) :
    Rest (touched s e c i hx) :=
  ⟨MOKf_upd r.m c i hi, r.sz.trans (toHead_len he).symm, r.np⟩

/-! ### the invariant of the repaired provider, complete -/

structure K (s : St) : Prop where
  j : J s
  r : Rest s

theorem K_close {s : St} (k : K s) {c : Nat} (hheld : (s.cursors c).held = true)
    (hnc : ∀ e ∈ s.ring, (s.holders e).cur ≠ some c) {i : CurI} (i1 : i.acquired = (s.cursors c).acquired)
    (i2 : i.held = false) (i3 : i.closeCalls = (s.cursors c).closeCalls) : K (closeCur (setCur s c i) c) := by
  have hacq := J_held_acq k.j hheld
  have hcc := closeCalls0 k.r.m (J_held_closed0 k.j hheld)
  refine ⟨?_, ?_, k.r.sz, k.r.np⟩
  · unfold J
    rw [closeCur_setCur]
    exact JJ_setCur k.j c _ hnc (by simp [i1, hacq]) (by simp [i1, hacq]) (by simp [i1, i2, hacq]) (by simp [i1, hacq])
  · rw [closeCur_setCur]
    exact MOKf_upd k.r.m c _ (by simp [Mrec, i1, i3, hacq, hcc])

theorem K_release {s : St} (c cp : Nat) (k : K s) (hheld : (s.cursors c).held = true) :
    K (release false s c cp).1 ∧ (release false s c cp).2 ≠ .panic := by
  rcases release_cases false s c cp with ⟨e, hn⟩ | ⟨x, hg, hc, ⟨hb, _⟩ | ⟨_, e⟩⟩
  · rw [e]
    exact ⟨K_close k hheld (fun x hx hc => (hn x (J_cached_acq k.j hx hc).1).2 hc) rfl rfl rfl, nofun⟩
  · have := (J_cached_acq k.j (k.j.f _ x hg).1 (hc rfl)).2.2.2
    rw [hheld, hb] at this; cases this
  · rw [e]
    have hx := (k.j.f _ x hg).1
    exact ⟨⟨J_touched k.j hx (hc rfl) rfl rfl rfl rfl (hc rfl),
      Rest_touched k.r hx c (i := { s.cursors c with held := false, pos := cp }) (k.r.m c) _⟩, nofun⟩

theorem K_lookup {s : St} (id q p : Nat) (ok : Bool) (k : K s) : K (lookup s id q p ok).1 := by
  rcases lookup_cases s id q p ok with ⟨_, _, e, _⟩ | ⟨x, hg, hn, _⟩ | ⟨x, c, hg, hc, e⟩
  · rw [e]; exact k
  · obtain ⟨_, c, hc, _⟩ := k.j.f id x hg
    rw [hn] at hc; cases hc
  · rw [e]
    have hx := (k.j.f id x hg).1
    exact ⟨J_touched k.j hx hc rfl rfl rfl rfl hc,
      Rest_touched k.r hx c (i := { s.cursors c with pos := p, held := true }) (k.r.m c) _⟩

theorem Rest_lookup {s : St} (id q p : Nat) (ok : Bool) (j : J s) (r : Rest s) : Rest (lookup s id q p ok).1 :=
  (K_lookup id q p ok ⟨j, r⟩).r

theorem K_create {s : St} (id q p : Nat) (kd : CreateKind) (c n : Nat) (k : K s)
    (hfresh : (s.cursors c).acquired = 0) : K (create s id q p kd c n).1 := by
  have hnc := J_fresh_uncached k.j hfresh
  unfold create
  cases kd
  · exact ⟨JJ_setCur k.j c _ hnc (by simp) (by simp) (by simp) (by simp), MOKf_upd k.r.m c _ (by simp [Mrec]), k.r.sz, k.r.np⟩
  · exact ⟨JJ_setCur k.j c _ hnc (by simp) (by simp) (by simp) (by simp), MOKf_upd k.r.m c _ (by simp [Mrec]), k.r.sz, k.r.np⟩
  · exact k

theorem K_insert {s : St} (c : Nat) (k : K s) (hheld : (s.cursors c).held = true)
    (hnc : ∀ e ∈ s.ring, (s.holders e).cur ≠ some c) : K (insert true s c).1 := by
  rcases insert_cases true s c with ⟨_, _, e⟩ | ⟨hg, x, _, _, _, hF, e⟩ <;> rw [e]
  · exact K_close k hheld hnc rfl rfl rfl
  · refine ⟨J_cachedAt k.j hF hheld (hg rfl), k.r.m, ?_, k.r.np⟩
    show (if (s.curs.get (s.cursors c).id).isSome = true then _ else _) = (x :: s.ring).length
    rw [hg rfl, if_neg (by simp), k.r.sz]; rfl

/-- evicting a ring member: the invariants hold and nothing panics -/
theorem Rest_evict {s : St} (e : Nat) (rc : Bool) (j : J s) (r : Rest s) (he : e ∈ s.ring) :
    Rest (evict s e rc) ∧ (evict s e rc).ring = s.ring.erase e := by
  obtain ⟨c, hc, hm, hacq, hcl, hheld⟩ := j.e e he
  have hcc := closeCalls0 r.m hcl
  rw [evict_some hc]
  refine ⟨⟨?_, ?_, r.np⟩, rfl⟩
  · show MOKf (if (s.holders e).busy = true then s.cursors else (closeCur s c).cursors)
    split
    · exact r.m
    · exact MOKf_upd r.m c _ (by simp [Mrec, hacq, hcc])
  · show (if (s.curs.get (s.cursors c).id).isSome = true then s.curs.size - 1 else s.curs.size) = (s.ring.erase e).length
    rw [hm, List.length_erase_of_mem he, ← r.sz]; rfl

/-! ### `Prev()` on a ring -/

theorem prev_mem {r : List Nat} {e : Nat} (he : e ∈ r) : prev r e ∈ r := Props.C15Ring.prev_mem r e he

/-- the predecessor is either `l` (when `e` heads the list) or a different member -/
theorem prevAux_ne (e : Nat) : ∀ (l : Nat) (xs : List Nat), e ∈ xs → xs.Nodup →
    (xs.head? = some e ∧ prevAux l xs e = l) ∨ prevAux l xs e ≠ e := by
  intro l xs
  induction xs generalizing l with
  | nil => intro h; cases h
  | cons x xs ih =>
    intro h hn
    unfold prevAux
    by_cases hx : x = e
    · left; simp [hx]
    · right
      simp only [hx, if_false]
      have he : e ∈ xs := by rcases List.mem_cons.1 h with h | h; exact absurd h.symm hx; exact h
      rcases ih x he (List.nodup_cons.1 hn).2 with ⟨_, h2⟩ | h
      · rw [h2]; exact hx
      · exact h

theorem prev_ne {r : List Nat} {e : Nat} (he : e ∈ r) (hn : r.Nodup) (hlen : 2 ≤ r.length) : prev r e ≠ e := by
  unfold prev
  match r, he, hn, hlen with
  | x :: y :: ys, he, hn, _ =>
    have hl : (x :: y :: ys).getLast? = some ((y :: ys).getLast (by simp)) := by
      rw [List.getLast?_cons_cons, List.getLast?_eq_some_getLast (by simp)]
    simp only [hl]
    rcases prevAux_ne e _ (x :: y :: ys) he hn with ⟨h1, h2⟩ | h
    · rw [h2]
      simp at h1; subst h1
      intro k
      have : x ∈ y :: ys := by rw [← k]; exact List.getLast_mem _
      exact (List.nodup_cons.1 hn).1 this
    · exact h

theorem K_evict {s : St} (e : Nat) (rc : Bool) (k : K s) (he : e ∈ s.ring) : K (evict s e rc) :=
  ⟨J_evict e rc k.j, (Rest_evict e rc k.j k.r he).1⟩

/-- the loop never finds the ring empty, because the map is as large as the ring -/
theorem K_sweepBySizeLoop_keep {P : St → Prop}
    (hev : ∀ {s : St} (e : Nat) (r : Bool), K s → e ∈ s.ring → P s → P (evict s e r)) (fuel : Nat) :
    ∀ {s : St}, K s → P s → K (sweepBySizeLoop fuel s) ∧ P (sweepBySizeLoop fuel s) := by
  induction fuel with
  | zero => intro s k h; exact ⟨k, h⟩
  | succ n ih =>
    intro s k h
    unfold sweepBySizeLoop
    split
    · rename_i hgt
      split
      · rename_i hnone
        rw [List.getLast?_eq_none_iff] at hnone
        have := k.r.sz; rw [hnone] at this; simp at this; omega
      · rename_i e hl
        have he : e ∈ s.ring := List.mem_of_mem_getLast? (by simp [hl])
        simp only []
        split
        · exact ⟨K_evict e false k he, hev e false k he h⟩
        · exact ih (K_evict e false k he) (hev e false k he h)
    · exact ⟨k, h⟩

/-- The loop variable stays in the ring: `Prev()` of a member is a member, and after an unlinking the loop goes on from
    `Prev()` of the unlinked cell, a different cell while two are left. -/
theorem K_sweepByTimeLoop_keep {P : St → Prop}
    (hev : ∀ {s : St} (e : Nat) (r : Bool), K s → e ∈ s.ring → P s → P (evict s e r)) (cnt : Nat) :
    ∀ {s : St} (e : Nat), K s → P s → cnt ≤ s.ring.length → (0 < cnt → e ∈ s.ring) →
      K (sweepByTimeLoop cnt s e) ∧ P (sweepByTimeLoop cnt s e) := by
  induction cnt with
  | zero => intro s e k h _ _; exact ⟨k, h⟩
  | succ n ih =>
    intro s e k h hlen hmem
    have he : e ∈ s.ring := hmem (Nat.succ_pos n)
    have he' : prev s.ring e ∈ s.ring := prev_mem he
    unfold sweepByTimeLoop
    simp only []
    split
    · have hk := K_evict (prev s.ring e) true k he'
      have hring := (Rest_evict (prev s.ring e) true k.j k.r he').2
      split
      · exact ⟨hk, hev _ true k he' h⟩
      · apply ih _ hk (hev _ true k he' h)
        · rw [hring, List.length_erase_of_mem he']; omega
        · intro hpos
          rw [hring]
          have h2 : 2 ≤ s.ring.length := by omega
          have hne : prev s.ring (prev s.ring e) ≠ prev s.ring e := prev_ne he' k.j.a h2
          exact (List.Nodup.mem_erase_iff k.j.a).2 ⟨hne, prev_mem he'⟩
    · split
      · exact ⟨k, h⟩
      · exact ih _ k h (by omega) (fun _ => he')

theorem K_sweepByTime_keep {P : St → Prop}
    (hev : ∀ {s : St} (e : Nat) (r : Bool), K s → e ∈ s.ring → P s → P (evict s e r)) {s : St} (k : K s) (h : P s) :
    K (sweepByTime s) ∧ P (sweepByTime s) := by
  unfold sweepByTime
  split
  · exact ⟨k, h⟩
  · rename_i head tl hr
    exact K_sweepByTimeLoop_keep hev _ _ k h (by rw [k.r.sz]; exact Nat.le_refl _) (fun _ => by rw [hr]; exact List.mem_cons_self ..)

theorem K_sweepBySizeLoop (fuel : Nat) : ∀ {s : St}, K s → K (sweepBySizeLoop fuel s) := by
  intro s k; exact (K_sweepBySizeLoop_keep (P := fun _ => True) (fun _ _ _ _ _ => trivial) fuel k trivial).1

theorem K_sweepByTimeLoop (cnt : Nat) : ∀ {s : St} (e : Nat), K s → cnt ≤ s.ring.length → (0 < cnt → e ∈ s.ring) →
    K (sweepByTimeLoop cnt s e) := by
  intro s e k hlen hmem
  exact (K_sweepByTimeLoop_keep (P := fun _ => True) (fun _ _ _ _ _ => trivial) cnt e k trivial hlen hmem).1

theorem K_sweepByTime {s : St} (k : K s) : K (sweepByTime s) :=
  (K_sweepByTime_keep (P := fun _ => True) (fun _ _ _ _ _ => trivial) k trivial).1

theorem K_init (m : Nat) (i b : Int) : K (init m i b) := ⟨J_init m i b, Rest_init m i b⟩

/-- one split step preserves the invariant -/
theorem K_step_split {s : St} (l : Label) (hs : l.isSplit = true) (k : K s) (wf : wfLabel s l) :
    K (stepL true false s l) := by
  cases l with
  | lookup id q p ok => exact K_lookup id q p ok k
  | create id q p kd c n => exact K_create id q p kd c n k wf
  | insert c => exact K_insert c k wf.1 wf.2
  | get id q p ok kd cache c n => cases hs
  | release c cp => exact (K_release c cp k wf).1
  | age d => exact ⟨k.j, k.r.m, k.r.sz, k.r.np⟩
  | sweepT => exact K_sweepByTime k
  | sweepS => exact K_sweepBySizeLoop _ k

/-- An invariant of the split steps holds on every well-formed trace: the composite `get` is the run of its parts,
    which are well-formed split steps (for that, `J`). `Q`: a side condition on labels that the parts of a `get` meet. -/
theorem inv_run {I : St → Prop} {Q : Label → Prop} (hJ : ∀ {s}, I s → J s)
    (hQ : ∀ s id q p ok k cache c n, ∀ l ∈ getParts s id q p ok k cache c n, Q l)
    (hstep : ∀ {s} (l : Label), l.isSplit = true → I s → wfLabel s l → Q l → I (stepL true false s l)) :
    ∀ (tr : List Label) {s : St}, I s → WF s tr → (∀ l ∈ tr, Q l) → I (run true false s tr) := by
  have split_run : ∀ (tr : List Label) {s : St}, I s → (∀ l ∈ tr, l.isSplit = true) → WF s tr → (∀ l ∈ tr, Q l) →
      I (run true false s tr) := by
    intro tr
    induction tr with
    | nil => intro s i _ _ _; exact i
    | cons l tr ih =>
      intro s i hs wf hq
      exact ih (hstep l (hs l (List.mem_cons_self ..)) i wf.1 (hq l (List.mem_cons_self ..)))
        (fun x hx => hs x (List.mem_cons_of_mem _ hx)) wf.2 (fun x hx => hq x (List.mem_cons_of_mem _ hx))
  intro tr
  induction tr with
  | nil => intro s i _ _; exact i
  | cons l tr ih =>
    intro s i wf hq
    refine ih ?_ wf.2 (fun x hx => hq x (List.mem_cons_of_mem _ hx))
    cases hl : l.isSplit
    · cases l with
      | get id q p ok kd cache c n =>
        rw [← get_refines_split]
        exact split_run _ i (getParts_split s id q p ok kd cache c n) (get_parts_wf (hJ i) id q p ok kd cache c n wf.1)
          (hQ s id q p ok kd cache c n)
      | _ => cases hl
    · exact hstep l hl i wf.1 (hq l (List.mem_cons_self ..))

theorem K_run (tr : List Label) {s : St} (k : K s) (wf : WF s tr) : K (run true false s tr) :=
  inv_run (Q := fun _ => True) K.j (fun _ _ _ _ _ _ _ _ _ _ _ => trivial) (fun l hs k wf _ => K_step_split l hs k wf)
    tr k wf (fun _ _ => trivial)

theorem K_run_split (tr : List Label) : ∀ {s : St}, K s → (∀ l ∈ tr, l.isSplit = true) → WF s tr →
    K (run true false s tr) :=
  fun k _ wf => K_run tr k wf

/-- every step, the composite `get` included (through its parts) -/
theorem K_step {s : St} (l : Label) (k : K s) (wf : wfLabel s l) : K (stepL true false s l) :=
  K_run [l] k ⟨wf, trivial⟩

theorem J_run (tr : List Label) {s : St} (j : K s) (wf : WF s tr) : J (run true false s tr) := (K_run tr j wf).j

end Logrange.Provider

import Logrange.Proofs.KV
import Logrange.Proofs.FieldsKV
import Logrange.Proofs.Fields
import Logrange.Proofs.WireFields
/-!
# Bridges from C13's models to the KV model of C08 and the field model of C05 (read-only imports)

C08's `KV` / `FieldsKV` models are total functions by structural recursion over the input list: they have no index
arithmetic at all, so "never panics" holds by construction and "never reads outside the input" can only mean that what they
return is made of the input's bytes, in place: `trimSpaces_infix`, `removeCurlyBraces_infix`. That the *code* (which does use
indices: `str[idx]`, `endIdx`, `str[i:j+1]`) behaves like these models — including on inputs where an index bug would
panic — is the correspondence C08's harness checks and C13's `robust` section repeats under `recover`.
-/
namespace Logrange.C13KV
open Go Logrange

theorem trimSpaces_infix (s : Bytes) : KV.trimSpaces s <:+: s := by
  unfold KV.trimSpaces
  refine List.IsInfix.trans (List.IsPrefix.isInfix ?_) (List.dropWhile_suffix (· == KV.SP)).isInfix
  rw [← List.reverse_suffix, List.reverse_reverse]
  exact List.dropWhile_suffix _

/-- what `RemoveCurlyBraces` returns is a contiguous piece of its argument -/
theorem removeCurlyBraces_infix (s t : Bytes) (h : KV.removeCurlyBraces s = some t) : t <:+: s := by
  unfold KV.removeCurlyBraces at h
  have hl := Proofs.KV.leadScan_suffix s 0
  split at h
  · split at h <;> cases h
    exact List.nil_infix
  · rename_i c tl cnt0 heq
    rw [heq] at hl
    have ht := Proofs.KV.trailScan_suffix tl.reverse cnt0
    split at h
    rename_i rem cnt hts
    rw [hts] at ht
    split at h <;> cases h
    refine List.IsInfix.trans (List.IsPrefix.isInfix ?_) hl.isInfix
    rw [List.prefix_cons_inj, ← List.reverse_suffix, List.reverse_reverse]
    exact ht

/-! ## field lists: C08's builder and C05's reader agree with C13's well-formedness -/

theorem encodeItems_eq (items : List Bytes) : FieldsKV.encodeItems items = WireFields.encodeItems items := by
  induction items with
  | nil => rfl
  | cons v r ih =>
    unfold FieldsKV.encodeItems at ih ⊢
    simp only [List.flatMap_cons, ih, FieldsKV.encPiece, WireFields.encodeItems]
    rfl

/-- `NewFieldsFromKVString` as modelled by C08 (the real split / trim / unquote) only yields well-formed lists -/
theorem fromKV_WF (hB : Generated.C08.fieldLimitBeforeUnquote = true) (hA : Generated.C08.fieldLimitAfterUnquote = true)
    (hM : Generated.C08.fieldMaxLen ≤ 255) (t f : Bytes) (h : FieldsKV.fromKV t = some f) : WireFields.WF f := by
  unfold FieldsKV.fromKV at h
  cases hi : FieldsKV.fromKVItems t with
  | none => simp [hi] at h
  | some items =>
    simp [hi] at h
    subst h
    refine ⟨items, ?_, Proofs.FieldsKV.fromKVItems_even t items hi, encodeItems_eq items⟩
    intro v hv
    have := Proofs.FieldsKV.fromKVItems_items_le hB hA t items hi v hv
    unfold FieldsKV.maxLen at this
    omega

/-- a list that is well-formed in C13's sense is well-formed in C05's sense (pairs of name and value) -/
theorem decode_encode : ∀ (its : List Bytes) (fuel : Nat), (∀ v ∈ its, v.length ≤ 255) → its.length % 2 = 0 →
    (WireFields.encodeItems its).length < fuel → ∃ ps, Fields.decode fuel (WireFields.encodeItems its) = some ps
  | _, 0, _, _, hf => nomatch hf
  | [], _ + 1, _, _, _ => ⟨[], rfl⟩
  | [_], _, _, hp, _ => nomatch hp
  | k :: v :: r, n + 1, hv, hp, hf => by
    rw [WireFields.encodeItems_length_cons, WireFields.encodeItems_length_cons] at hf
    obtain ⟨ps, hps⟩ := decode_encode r n (fun x hx => hv x (.tail _ (.tail _ hx)))
      ((Nat.add_mod_right r.length 2).symm.trans hp) (by omega)
    refine ⟨(k, v) :: ps, ?_⟩
    simp only [WireFields.encodeItems, Fields.decode]
    rw [WireFields.lenByte k (hv k (.head _)), if_neg (by simp), List.drop_left]
    simp only []
    rw [WireFields.lenByte v (hv v (.tail _ (.head _))), if_neg (by simp), List.drop_left, hps, List.take_left, List.take_left]
    rfl

theorem WF_bridge (f : Bytes) (h : WireFields.WF f) : Fields.WF f := by
  obtain ⟨its, h1, h2, rfl⟩ := h
  unfold Fields.WF Fields.pairs?
  exact decode_encode its _ h1 h2 (by omega)

end Logrange.C13KV

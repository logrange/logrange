import Logrange.Proofs.Quote
import Logrange.Model.KV
/-! What `strconv.Unquote` does to a text, step by step: a step copies, writes U+FFFD for an invalid byte, or decodes a
backslash escape that consumes no comma. From this: `Unquote` never returns its own argument (no fixed point), by counting
backslashes and double quotes; `TagsNecessityS2` reads off that a comma survives. -/
namespace Logrange.Proofs.UnquoteFix
open Go Logrange.Quote Logrange.KV Logrange.Proofs.Quote

/-- the number of backslash and double-quote bytes -/
def special (x : Bytes) : Nat := (x.filter (fun c => c == BS || c == DQ)).length

theorem special_nil : special [] = 0 := rfl

theorem special_cons (c : UInt8) (r : Bytes) :
    special (c :: r) = (if (c == BS || c == DQ) = true then 1 else 0) + special r := by
  unfold special
  by_cases h : (c == BS || c == DQ) = true
  · simp [h]; omega
  · simp [h]

theorem special_append (a b : Bytes) : special (a ++ b) = special a + special b := by
  unfold special; simp [List.filter_append]

theorem special_drop_le (n : Nat) (s : Bytes) : special (s.drop n) ≤ special s := by
  have := special_append (s.take n) (s.drop n)
  rw [List.take_append_drop] at this
  omega

theorem special_take_le (n : Nat) (s : Bytes) : special (s.take n) ≤ special s := by
  have := special_append (s.take n) (s.drop n)
  rw [List.take_append_drop] at this
  omega

theorem special_eq_zero (l : Bytes) (h : ∀ x ∈ l, x ≠ DQ ∧ x ≠ BS) : special l = 0 := by
  unfold special
  rw [List.length_eq_zero_iff, List.filter_eq_nil_iff]
  intro x hx
  obtain ⟨h1, h2⟩ := h x hx
  simp [h1, h2]

theorem special_single_le (c : UInt8) : special [c] ≤ 1 := by
  rw [special_cons]; split <;> simp [special_nil]

theorem special_outBytes_le (r : Nat) (mb : Bool) : special (outBytes r mb) ≤ 1 := by
  unfold outBytes
  split
  · exact special_single_le _
  · rename_i h
    have hr : ¬ r < 0x80 := by
      intro hlt; apply h; simp [hlt]
    rw [special_eq_zero _ (encodeRune_ne r (by omega) (by omega))]
    omega

theorem special_BS_cons (r : Bytes) : special (BS :: r) = 1 + special r := by
  rw [special_cons]; simp

theorem special_DQ_cons (r : Bytes) : special (DQ :: r) = 1 + special r := by
  rw [special_cons]; simp

theorem unhex_CM : unhex CM = none := by decide

theorem foldlM_unhex_noCM : ∀ (l : Bytes) (acc v : Nat),
    l.foldlM (fun acc c => (unhex c).map (fun x => acc * 16 + x)) acc = some v → CM ∉ l := by
  intro l
  induction l with
  | nil => intro _ _ _ h; cases h
  | cons a l ih =>
    intro acc v h hm
    rw [List.foldlM_cons] at h
    cases hu : unhex a with
    | none => rw [hu] at h; simp at h
    | some x =>
      rw [hu] at h
      simp only [Option.map_some, Option.bind_eq_bind, Option.bind_some] at h
      rcases List.mem_cons.mp hm with e | e
      · rw [← e, unhex_CM] at hu; cases hu
      · exact ih _ _ h e

theorem readHex_noCM (s : Bytes) (n v : Nat) (h : readHex s n = some v) : CM ∉ s.take n := by
  unfold readHex at h
  split at h
  · cases h
  · exact foldlM_unhex_noCM _ _ _ h

theorem letter_consumed {c1 k : UInt8} {s2 t : Bytes} {x y : Nat × Bool} (hk : k ≠ CM) (h : (c1 == k) = true)
    (hu : some (x.1, x.2, s2) = some (y.1, y.2, t)) : ∃ n, t = s2.drop n ∧ CM ∉ c1 :: s2.take n := by
  have e : s2 = t := by injection hu with hu; injection hu with _ hu; injection hu
  exact ⟨0, e ▸ rfl, by rw [beq_iff_eq.mp h]; simpa using hk.symm⟩

theorem hex_consumed {c1 k : UInt8} {s2 t : Bytes} {d v : Nat} (hk : k ≠ CM) (h : (c1 == k) = true)
    (hv : readHex s2 d = some v) (ht : t = s2.drop d) : ∃ n, t = s2.drop n ∧ CM ∉ c1 :: s2.take n :=
  ⟨d, ht, by
    rw [beq_iff_eq.mp h]; intro hm
    rcases List.mem_cons.mp hm with e | e
    · exact hk e.symm
    · exact readHex_noCM _ _ _ hv e⟩

theorem unquoteChar_BS (c1 : UInt8) (s2 : Bytes) (r : Nat) (mb : Bool) (t : Bytes)
    (hu : unquoteChar (BS :: c1 :: s2) DQ = some (r, mb, t)) : ∃ n, t = s2.drop n ∧ CM ∉ c1 :: s2.take n := by
  unfold unquoteChar at hu
  simp only [] at hu
  rw [if_neg (by decide), if_neg (by decide), if_neg (by decide)] at hu
  rcases ite_eq hu with ⟨h, hu⟩ | ⟨_, hu⟩
  · exact letter_consumed (x := (7, false)) (y := (r, mb)) (by decide) h hu
  rcases ite_eq hu with ⟨h, hu⟩ | ⟨_, hu⟩
  · exact letter_consumed (x := (8, false)) (y := (r, mb)) (by decide) h hu
  rcases ite_eq hu with ⟨h, hu⟩ | ⟨_, hu⟩
  · exact letter_consumed (x := (12, false)) (y := (r, mb)) (by decide) h hu
  rcases ite_eq hu with ⟨h, hu⟩ | ⟨_, hu⟩
  · exact letter_consumed (x := (10, false)) (y := (r, mb)) (by decide) h hu
  rcases ite_eq hu with ⟨h, hu⟩ | ⟨_, hu⟩
  · exact letter_consumed (x := (13, false)) (y := (r, mb)) (by decide) h hu
  rcases ite_eq hu with ⟨h, hu⟩ | ⟨_, hu⟩
  · exact letter_consumed (x := (9, false)) (y := (r, mb)) (by decide) h hu
  rcases ite_eq hu with ⟨h, hu⟩ | ⟨_, hu⟩
  · exact letter_consumed (x := (11, false)) (y := (r, mb)) (by decide) h hu
  rcases ite_eq hu with ⟨h, hu⟩ | ⟨_, hu⟩
  · simp only [Option.map_eq_some_iff, Prod.mk.injEq] at hu
    obtain ⟨v, hv, _, _, rfl⟩ := hu
    exact hex_consumed (by decide) h hv rfl
  rcases ite_eq hu with ⟨h, hu⟩ | ⟨_, hu⟩
  · simp only [Option.bind_eq_some_iff] at hu
    obtain ⟨v, hv, hu⟩ := hu
    rcases ite_eq hu with ⟨_, hu⟩ | ⟨_, hu⟩
    · cases hu; exact hex_consumed (by decide) h hv rfl
    · cases hu
  rcases ite_eq hu with ⟨h, hu⟩ | ⟨_, hu⟩
  · simp only [Option.bind_eq_some_iff] at hu
    obtain ⟨v, hv, hu⟩ := hu
    rcases ite_eq hu with ⟨_, hu⟩ | ⟨_, hu⟩
    · cases hu; exact hex_consumed (by decide) h hv rfl
    · cases hu
  rcases ite_eq hu with ⟨hoct, hu⟩ | ⟨_, hu⟩
  · -- three octal digits
    simp only [Bool.and_eq_true, decide_eq_true_eq] at hoct
    have h44 : CM.toNat = 44 := by decide
    have nd : ∀ d : UInt8, 48 ≤ d.toNat → d ≠ CM := fun d hd e => by rw [e, h44] at hd; omega
    rcases s2 with _ | ⟨d1, _ | ⟨d2, s3⟩⟩
    · cases hu
    · cases hu
    rcases ite_eq hu with ⟨hd, hu⟩ | ⟨_, hu⟩
    · simp only [Bool.and_eq_true, decide_eq_true_eq] at hd
      rcases ite_eq hu with ⟨_, hu⟩ | ⟨_, hu⟩
      · cases hu
      · cases hu
        refine ⟨2, rfl, ?_⟩
        simp only [List.take_succ_cons, List.take_zero, List.mem_cons, List.not_mem_nil, or_false, not_or]
        exact ⟨(nd c1 hoct.1).symm, (nd d1 hd.1.1.1).symm, (nd d2 hd.1.2).symm⟩
    · cases hu
  rcases ite_eq hu with ⟨h, hu⟩ | ⟨_, hu⟩
  · exact letter_consumed (x := (92, false)) (y := (r, mb)) (by decide) h hu
  rcases ite_eq hu with ⟨hq, hu⟩ | ⟨_, hu⟩
  · rcases ite_eq hu with ⟨_, hu⟩ | ⟨_, hu⟩
    · cases hu
    · have e : s2 = t := by injection hu with hu; injection hu with _ hu; injection hu
      refine ⟨0, e ▸ rfl, ?_⟩
      simp only [Bool.or_eq_true, beq_iff_eq] at hq
      rcases hq with rfl | rfl <;> (rw [List.take_zero, List.mem_singleton]; decide)
  · cases hu

theorem unquoteChar_step (c : UInt8) (rest : Bytes) (r : Nat) (mb : Bool) (t : Bytes) (hc : c ≠ DQ)
    (hu : unquoteChar (c :: rest) DQ = some (r, mb, t)) :
    (∃ w, outBytes r mb = (c :: rest).take w ∧ t = (c :: rest).drop w) ∨
    (c.toNat ≥ 0x80 ∧ t = rest ∧ ∀ x ∈ outBytes r mb, x.toNat ≥ 0x80) ∨
    (c = BS ∧ ∃ c1 s2 n, rest = c1 :: s2 ∧ t = s2.drop n ∧ CM ∉ c1 :: s2.take n) := by
  by_cases hbs : c = BS
  · subst hbs
    cases rest with
    | nil =>
      unfold unquoteChar at hu
      simp only [] at hu
      rw [if_neg (by decide), if_neg (by decide), if_neg (by decide)] at hu
      cases hu
    | cons c1 s2 =>
      obtain ⟨n, h1, h2⟩ := unquoteChar_BS c1 s2 r mb t hu
      exact Or.inr (Or.inr ⟨rfl, c1, s2, n, rfl, h1, h2⟩)
  · by_cases hge : c.toNat ≥ 0x80
    · rw [uq_multibyte c rest hge] at hu
      cases hd : decodeRune (c :: rest) with
      | mk r' w =>
        rw [hd] at hu
        simp only [Option.some.injEq, Prod.mk.injEq] at hu
        obtain ⟨rfl, rfl, rfl⟩ := hu
        by_cases hne : (w = 1 ∧ r' = runeError)
        · refine Or.inr (Or.inl ⟨hge, by rw [hne.1]; rfl, ?_⟩)
          rw [hne.2]
          exact (encodeRune_high runeError (Or.inl (by decide))).2
        · obtain ⟨h80, _, henc, _, _⟩ := decode_valid c rest hge r' w hd hne
          refine Or.inl ⟨w, ?_, rfl⟩
          unfold outBytes
          rw [if_neg (by simp; omega), henc]
    · rw [uq_plain c rest hc hbs (by omega)] at hu
      simp only [Option.some.injEq, Prod.mk.injEq] at hu
      obtain ⟨rfl, rfl, rfl⟩ := hu
      exact Or.inl ⟨1, by simp [outBytes, b_toNat], rfl⟩

theorem step_special (c : UInt8) (rest : Bytes) (r : Nat) (mb : Bool) (t : Bytes) (hc : c ≠ DQ)
    (hu : unquoteChar (c :: rest) DQ = some (r, mb, t)) :
    special (outBytes r mb) + special t ≤ special (c :: rest) := by
  rcases unquoteChar_step c rest r mb t hc hu with ⟨w, ho, rfl⟩ | ⟨_, rfl, hh⟩ | ⟨rfl, c1, s2, n, rfl, rfl, _⟩
  · rw [ho, ← special_append, List.take_append_drop]; exact Nat.le_refl _
  · rw [special_eq_zero _ (fun x hx => ⟨(high_ne x (hh x hx)).1, (high_ne x (hh x hx)).2.1⟩), special_cons]
    omega
  · have h1 := special_outBytes_le r mb
    have h2 := special_drop_le n s2
    rw [special_BS_cons, special_cons]
    omega

theorem loop_inv (Q : Bytes → Bytes → Prop)
    (hstep : ∀ c tl r mb t acc, c ≠ DQ → unquoteChar (c :: tl) DQ = some (r, mb, t) → Q acc (c :: tl) →
      Q (acc ++ outBytes r mb) t) :
    ∀ (fuel : Nat) (s acc out rem : Bytes), unquote.loop DQ fuel s acc = some (out, rem) → Q acc s → Q out (DQ :: rem) := by
  intro fuel
  induction fuel with
  | zero => intro s acc out rem h; simp [unquote.loop] at h
  | succ k ih =>
    intro s acc out rem h hq
    cases s with
    | nil => simp [unquote.loop] at h
    | cons c tl =>
      by_cases hc : c = DQ
      · subst hc
        rw [unquote.loop.eq_3, if_pos (by simp)] at h
        simp only [Option.some.injEq, Prod.mk.injEq, List.drop_succ_cons, List.drop_zero] at h
        obtain ⟨rfl, rfl⟩ := h
        exact hq
      · cases hu : unquoteChar (c :: tl) DQ with
        | none => rw [unquote.loop.eq_3, if_neg (by simpa using hc), hu] at h; cases h
        | some x =>
          obtain ⟨r, mb, t⟩ := x
          by_cases h10 : c = 10
          · rw [unquote.loop.eq_3, if_neg (by simpa using hc), hu] at h
            simp only [] at h
            rw [if_pos (by simpa using h10)] at h; cases h
          · rw [loop_step k c tl t acc r mb hc h10 hu] at h
            exact ih t _ out rem h (hstep c tl r mb t acc hc hu hq)

/-- strictly fewer: the closing quote alone accounts for one -/
theorem loop_special : ∀ (fuel : Nat) (s acc out rem : Bytes),
    unquote.loop DQ fuel s acc = some (out, rem) → special out + special rem + 1 ≤ special acc + special s := by
  intro fuel s acc out rem h
  have := loop_inv (fun a x => special a + special x ≤ special acc + special s)
    (fun c tl r mb t a hc hu hq => by
      have := step_special c tl r mb t hc hu
      rw [special_append]; omega)
    fuel s acc out rem h (Nat.le_refl _)
  rw [special_DQ_cons] at this
  omega

theorem indexOf_drop (s : Bytes) (c : UInt8) (e : Nat) (h : indexOf s c = some e) : ∃ tl, s.drop e = c :: tl := by
  unfold indexOf at h
  simp only [] at h
  split at h
  · rename_i hlt
    cases h
    have hp := List.findIdx_getElem (p := (· == c)) (xs := s) (w := hlt)
    have hc : s[List.findIdx (· == c) s] = c := by simpa using hp
    refine ⟨s.drop (List.findIdx (· == c) s + 1), ?_⟩
    rw [List.drop_eq_getElem_cons hlt, hc]
  · cases h

theorem tail_nil_of_drop {s : Bytes} {e : Nat} {c : UInt8} {tl : Bytes} (hd : s.drop e = c :: tl) (h : e + 1 = s.length) :
    tl = [] := by
  have := congrArg List.length hd
  simp only [List.length_drop, List.length_cons] at this
  exact List.eq_nil_of_length_eq_zero (by omega)

theorem unquote_DQ_cases (rest1 out : Bytes) (h : unquote (DQ :: rest1) = some out) :
    ∃ e tl, rest1.drop e = DQ :: tl ∧
      ((out = rest1.take e ∧ tl = []) ∨
       unquote.loop DQ ((DQ :: rest1).length + 1) rest1 [] = some (out, [])) := by
  unfold unquote at h
  simp only [] at h
  rcases ite_eq h with ⟨_, h⟩ | ⟨_, h⟩
  · cases h
  cases hi : indexOf rest1 DQ with
  | none => rw [hi] at h; cases h
  | some e =>
    rw [hi] at h
    simp only [] at h
    rw [if_neg (by decide), if_pos (by decide)] at h
    obtain ⟨tl, htl⟩ := indexOf_drop rest1 DQ e hi
    refine ⟨e, tl, htl, ?_⟩
    rcases ite_eq h with ⟨_, h⟩ | ⟨_, h⟩
    · rcases ite_eq h with ⟨hlen, h⟩ | ⟨_, h⟩
      · cases h
        simp only [List.length_cons, beq_iff_eq] at hlen
        exact Or.inl ⟨by simp, tail_nil_of_drop htl (by omega)⟩
      · cases h
    · simp only [List.drop_succ_cons, List.drop_zero] at h
      cases hl : unquote.loop DQ ((DQ :: rest1).length + 1) rest1 [] with
      | none => rw [hl] at h; cases h
      | some x =>
        obtain ⟨o, rem⟩ := x
        rw [hl] at h
        simp only [] at h
        rcases ite_eq h with ⟨hre, h⟩ | ⟨_, h⟩
        · cases h
          have : rem = [] := by simpa using hre
          exact Or.inr (by rw [this])
        · cases h

/-- **`Unquote` of a double-quoted text loses at least the two quotes**, counted in backslashes and double quotes -/
theorem unquote_DQ_special (rest1 out : Bytes) (h : unquote (DQ :: rest1) = some out) :
    special out + 2 ≤ special (DQ :: rest1) := by
  obtain ⟨e, tl, htl, ⟨rfl, _⟩ | hl⟩ := unquote_DQ_cases rest1 out h
  · have := special_append (rest1.take e) (rest1.drop e)
    rw [List.take_append_drop, htl, special_DQ_cons] at this
    rw [special_DQ_cons]; omega
  · have := loop_special _ _ _ _ _ hl
    rw [special_DQ_cons, special_nil] at *
    omega

theorem unquote_BQ_cases (rest1 out : Bytes) (h : unquote (BQ :: rest1) = some out) :
    ∃ e, rest1.drop e = [BQ] ∧ out = (rest1.take e).filter (· != 13) := by
  unfold unquote at h
  simp only [] at h
  rcases ite_eq h with ⟨_, h⟩ | ⟨_, h⟩
  · cases h
  cases hi : indexOf rest1 BQ with
  | none => rw [hi] at h; cases h
  | some e =>
    rw [hi] at h
    simp only [] at h
    rw [if_pos (by decide)] at h
    obtain ⟨tl, htl⟩ := indexOf_drop rest1 BQ e hi
    rcases ite_eq h with ⟨_, h⟩ | ⟨hlen, h⟩
    · cases h
    · cases h
      simp only [List.length_cons, bne_iff_ne, ne_eq, Decidable.not_not] at hlen
      exact ⟨e, by rw [htl, tail_nil_of_drop htl (by omega)], by simp⟩

/-- `Unquote` of a back-quoted text is at least two bytes shorter -/
theorem unquote_BQ_length (rest1 out : Bytes) (h : unquote (BQ :: rest1) = some out) :
    out.length + 2 ≤ (BQ :: rest1).length := by
  obtain ⟨e, hd, rfl⟩ := unquote_BQ_cases rest1 out h
  have h1 := List.length_filter_le (fun x : UInt8 => x != 13) (rest1.take e)
  have h2 := congrArg List.length (List.take_append_drop e rest1)
  rw [List.length_append, hd] at h2
  simp only [List.length_cons, List.length_nil] at h2 ⊢
  omega

theorem special_reverse (l : Bytes) : special l.reverse = special l := by
  unfold special; rw [List.filter_reverse, List.length_reverse]

theorem special_dropWhile_le (p : UInt8 → Bool) (l : Bytes) : special (l.dropWhile p) ≤ special l := by
  obtain ⟨t, ht⟩ := List.dropWhile_suffix (l := l) p
  have := special_append t (l.dropWhile p)
  rw [ht] at this; omega

theorem special_trimSpaces_le (v : Bytes) : special (trimSpaces v) ≤ special v := by
  unfold trimSpaces
  rw [special_reverse]
  have h1 := special_dropWhile_le (· == SP) (List.dropWhile (· == SP) v).reverse
  rw [special_reverse] at h1
  have h2 := special_dropWhile_le (· == SP) v
  omega

theorem length_trimSpaces_le (v : Bytes) : (trimSpaces v).length ≤ v.length := by
  unfold trimSpaces
  rw [List.length_reverse]
  have h1 := (List.dropWhile_suffix (l := (List.dropWhile (· == SP) v).reverse) (· == SP)).length_le
  have h2 := (List.dropWhile_suffix (l := v) (· == SP)).length_le
  rw [List.length_reverse] at h1
  omega

/-- **`strconv.Unquote` has no fixed point**, not even up to surrounding blanks: if the trimmed text `w` of `v` starts with
a double quote or a backquote, `Unquote w` is never `v` (what `kvstring.ToMap` would need to read an unquoted `v` back) -/
theorem unquote_trim_ne (v : Bytes) (h : (trimSpaces v).head? = some DQ ∨ (trimSpaces v).head? = some BQ) :
    unquote (trimSpaces v) ≠ some v := by
  intro hu
  rcases h with h | h
  · cases hw : trimSpaces v with
    | nil => rw [hw] at h; cases h
    | cons c r =>
      rw [hw] at h hu
      simp only [List.head?_cons, Option.some.injEq] at h
      subst h
      have h1 := unquote_DQ_special r v hu
      have h2 := special_trimSpaces_le v
      rw [hw] at h2
      omega
  · cases hw : trimSpaces v with
    | nil => rw [hw] at h; cases h
    | cons c r =>
      rw [hw] at h hu
      simp only [List.head?_cons, Option.some.injEq] at h
      subst h
      have h1 := unquote_BQ_length r v hu
      have h2 := length_trimSpaces_le v
      rw [hw] at h2
      omega

theorem unquote_ne_self (v : Bytes) (h : v.head? = some DQ ∨ v.head? = some BQ) : unquote v ≠ some v := by
  intro hu
  rcases h with h | h
  · cases v with
    | nil => cases h
    | cons c r =>
      simp only [List.head?_cons, Option.some.injEq] at h
      subst h
      have := unquote_DQ_special r _ hu
      omega
  · cases v with
    | nil => cases h
    | cons c r =>
      simp only [List.head?_cons, Option.some.injEq] at h
      subst h
      have := unquote_BQ_length r _ hu
      omega

end Logrange.Proofs.UnquoteFix

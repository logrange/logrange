import Logrange.Proofs.RdPaging
import Logrange.Proofs.RdOffsetStream
/-!
Paging over a MERGED cursor of two partitions (un-ranged, unfiltered, journals fixed): the two-source instance of the
generic mixer-tree interpreter of RdCursor.lean in explicit form (`cur2`), `Mixer.selectState/Get/Next/Release` on its
components, the abstraction `Abs2` (both journal iterators at flat indices a, b; the mixer's selection, if any, is
the head of the timestamp merge, ties to the first source), pages and chains.
-/
set_option linter.unusedSectionVars false
set_option linter.unusedVariables false
namespace Logrange.Rd

/-- a two-source, un-ranged, unfiltered cursor in explicit form -/
def cur2 (n1 n2 : Nat) (j1 j2 : Journal) (it1 it2 : It) (m m0 m1 : MixSt) : Cur :=
  { srcs := #[{ name := n1, jrnl := j1, it := .lib it1 }, { name := n2, jrnl := j2, it := .lib it2 }],
    nodes := #[.leaf 0, .leaf 1, .mix 0 1], mix := #[m0, m1, m], root := 2 }

theorem m2_mkCur (n1 n2 j1 j2) :
    mkCur [{ name := n1, jrnl := j1, it := .lib {} }, { name := n2, jrnl := j2, it := .lib {} }] false none none false
      = cur2 n1 n2 j1 j2 {} {} {} {} {} := by
  rfl

/-- what `selectState` does to the components when nothing is selected -/
def sel2 (j1 j2 : Journal) (it1 it2 : It) (m : MixSt) : It × It × MixSt :=
  let g1 := get j1 it1
  let it1' := if m.eof1 then it1 else g1.1
  let m1 : MixSt := if m.eof1 then m else
    match g1.2 with | some x => { m with le1 := some x } | none => { m with eof1 := true, le1 := none }
  let g2 := get j2 it2
  let it2' := if m1.eof2 then it2 else g2.1
  let m2 : MixSt := if m1.eof2 then m1 else
    match g2.2 with | some x => { m1 with le2 := some x } | none => { m1 with eof2 := true, le2 := none }
  let st :=
    if m2.eof1 && m2.eof2 then 3
    else if m2.eof1 then 2
    else if m2.eof2 then 1
    else
      let res := match m2.le1, m2.le2 with
        | some a, some b => decide (a.ts ≤ b.ts)
        | _, _ => true
      let res := if m2.bkwd then !res else res
      if res then 1 else 2
  (it1', it2', { m2 with st := st })

theorem cur2_node2 (n1 n2 j1 j2 it1 it2 m m0 m1) : (cur2 n1 n2 j1 j2 it1 it2 m m0 m1).nodes[2]! = .mix 0 1 := rfl
theorem cur2_mix2 (n1 n2 j1 j2 it1 it2 m m0 m1) : (cur2 n1 n2 j1 j2 it1 it2 m m0 m1).mix[2]! = m := rfl
theorem cur2_root (n1 n2 j1 j2 it1 it2 m m0 m1) : (cur2 n1 n2 j1 j2 it1 it2 m m0 m1).root = 2 := rfl
theorem cur2_depth (n1 n2 j1 j2 it1 it2 m m0 m1) : (cur2 n1 n2 j1 j2 it1 it2 m m0 m1).depth = 3 + 2 := rfl

theorem m2_nodeGet0 (f n1 n2 j1 j2 it1 it2 m m0 m1) :
    nodeGet (f + 1) (cur2 n1 n2 j1 j2 it1 it2 m m0 m1) 0 = (cur2 n1 n2 j1 j2 (get j1 it1).1 it2 m m0 m1, (get j1 it1).2) := by
  rw [nodeGet]; rfl
theorem m2_nodeGet1 (f n1 n2 j1 j2 it1 it2 m m0 m1) :
    nodeGet (f + 1) (cur2 n1 n2 j1 j2 it1 it2 m m0 m1) 1 = (cur2 n1 n2 j1 j2 it1 (get j2 it2).1 m m0 m1, (get j2 it2).2) := by
  rw [nodeGet]; rfl

/-! `selectState` of the model is one block; its three steps, named as in C04's copy of the mixer -/

def MixSt.fetch1 (m : MixSt) : Option Rec → MixSt
  | some x => { m with le1 := some x }
  | none => { m with eof1 := true, le1 := none }
def MixSt.fetch2 (m : MixSt) : Option Rec → MixSt
  | some x => { m with le2 := some x }
  | none => { m with eof2 := true, le2 := none }
def MixSt.choose (m : MixSt) : MixSt :=
  { m with st :=
      if m.eof1 && m.eof2 then 3
      else if m.eof1 then 2
      else if m.eof2 then 1
      else
        let res := match m.le1, m.le2 with
          | some a, some b => decide (a.ts ≤ b.ts)
          | _, _ => true
        let res := if m.bkwd then !res else res
        if res then 1 else 2 }

theorem selectState_mix (fuel : Nat) (s : Cur) (n l r : Nat) (hn : s.nodes[n]! = .mix l r)
    (h0 : ((s.mix[n]!).st != 0) = false) :
    selectState (fuel + 1) s n =
      let m := s.mix[n]!
      let p1 := if !m.eof1 then ((nodeGet fuel s l).1, m.fetch1 (nodeGet fuel s l).2) else (s, m)
      let p2 := if !p1.2.eof2 then ((nodeGet fuel p1.1 r).1, p1.2.fetch2 (nodeGet fuel p1.1 r).2) else p1
      { p2.1 with mix := p2.1.mix.set! n p2.2.choose } := by
  rw [selectState, hn, h0]; rfl

theorem sel2_eq (j1 j2 : Journal) (it1 it2 : It) (m : MixSt) :
    sel2 j1 j2 it1 it2 m =
      let m1 := if m.eof1 then m else m.fetch1 (get j1 it1).2
      let m2 := if m1.eof2 then m1 else m1.fetch2 (get j2 it2).2
      (if m.eof1 then it1 else (get j1 it1).1, if m1.eof2 then it2 else (get j2 it2).1, m2.choose) := rfl

theorem m2_selectState (f n1 n2 j1 j2 it1 it2 m m0 m1) :
    selectState (f + 2) (cur2 n1 n2 j1 j2 it1 it2 m m0 m1) 2 =
      if m.st != 0 then cur2 n1 n2 j1 j2 it1 it2 m m0 m1 else
      cur2 n1 n2 j1 j2 (sel2 j1 j2 it1 it2 m).1 (sel2 j1 j2 it1 it2 m).2.1 (sel2 j1 j2 it1 it2 m).2.2 m0 m1 := by
  cases h : m.st != 0
  · rw [selectState_mix _ _ 2 0 1 (cur2_node2 ..) (by rw [cur2_mix2]; exact h), sel2_eq, cur2_mix2]
    simp only [m2_nodeGet0]
    -- the state after the first fetch becomes a variable before the second is looked at
    cases m.eof1
    · simp only [Bool.not_false, if_true, Bool.false_eq_true, if_false]
      generalize m.fetch1 (get j1 it1).2 = mm
      simp only [m2_nodeGet1]
      cases mm.eof2 <;> rfl
    · simp only [Bool.not_true, Bool.false_eq_true, if_false, if_true]
      simp only [m2_nodeGet1]
      cases m.eof2 <;> rfl
  · rw [selectState, cur2_mix2, h]; rfl

/-- the mixer state after `selectState` -/
def selM (j1 j2 : Journal) (it1 it2 : It) (m : MixSt) : It × It × MixSt :=
  if m.st != 0 then (it1, it2, m) else sel2 j1 j2 it1 it2 m

theorem m2_selectState' (f n1 n2 j1 j2 it1 it2 m m0 m1) :
    selectState (f + 2) (cur2 n1 n2 j1 j2 it1 it2 m m0 m1) 2 =
      cur2 n1 n2 j1 j2 (selM j1 j2 it1 it2 m).1 (selM j1 j2 it1 it2 m).2.1 (selM j1 j2 it1 it2 m).2.2 m0 m1 := by
  rw [m2_selectState]; unfold selM; split <;> rfl

theorem m2_curGet (n1 n2 j1 j2 it1 it2 m m0 m1) :
    curGet (cur2 n1 n2 j1 j2 it1 it2 m m0 m1) =
      (cur2 n1 n2 j1 j2 (selM j1 j2 it1 it2 m).1 (selM j1 j2 it1 it2 m).2.1 (selM j1 j2 it1 it2 m).2.2 m0 m1,
       let s := (selM j1 j2 it1 it2 m).2.2
       if s.st == 1 then s.le1 else if s.st == 2 then s.le2 else none) := by
  show nodeGet (3 + 2) (cur2 n1 n2 j1 j2 it1 it2 m m0 m1) 2 = _
  rw [nodeGet, cur2_node2]
  simp only [m2_selectState', cur2_mix2]

/-- `Mixer.Next` on the components -/
def nextM (j1 j2 : Journal) (it1 it2 : It) (m : MixSt) : It × It × MixSt :=
  let s := selM j1 j2 it1 it2 m
  let it1' := if s.2.2.st == 1 then next j1 s.1 else s.1
  let it2' := if s.2.2.st == 1 then s.2.1 else if s.2.2.st == 2 then next j2 s.2.1 else s.2.1
  let m' := if s.2.2.st == 1 then { s.2.2 with le1 := none } else if s.2.2.st == 2 then { s.2.2 with le2 := none } else s.2.2
  (it1', it2', { m' with st := 0 })

theorem m2_nodeNext0 (f n1 n2 j1 j2 it1 it2 m m0 m1) :
    nodeNext (f + 1) (cur2 n1 n2 j1 j2 it1 it2 m m0 m1) 0 = cur2 n1 n2 j1 j2 (next j1 it1) it2 m m0 m1 := by
  rw [nodeNext]; rfl
theorem m2_nodeNext1 (f n1 n2 j1 j2 it1 it2 m m0 m1) :
    nodeNext (f + 1) (cur2 n1 n2 j1 j2 it1 it2 m m0 m1) 1 = cur2 n1 n2 j1 j2 it1 (next j2 it2) m m0 m1 := by
  rw [nodeNext]; rfl

theorem m2_nodeNext2 (f n1 n2 j1 j2 it1 it2 m m0 m1) :
    nodeNext (f + 3) (cur2 n1 n2 j1 j2 it1 it2 m m0 m1) 2 =
      cur2 n1 n2 j1 j2 (nextM j1 j2 it1 it2 m).1 (nextM j1 j2 it1 it2 m).2.1 (nextM j1 j2 it1 it2 m).2.2 m0 m1 := by
  rw [nodeNext, cur2_node2]
  simp only [m2_selectState']
  unfold nextM
  generalize selM j1 j2 it1 it2 m = s
  obtain ⟨a, b, c⟩ := s
  simp only [cur2_mix2]
  by_cases h1 : (c.st == 1) = true
  · simp only [h1, if_true, m2_nodeNext0, cur2_mix2]; rfl
  · by_cases h2 : (c.st == 2) = true
    · simp only [h1, h2, if_true, if_false, Bool.false_eq_true, m2_nodeNext1, cur2_mix2]; rfl
    · simp only [h1, h2, if_false, Bool.false_eq_true, cur2_mix2]; rfl

theorem m2_curNext (n1 n2 j1 j2 it1 it2 m m0 m1) :
    curNext (cur2 n1 n2 j1 j2 it1 it2 m m0 m1) =
      cur2 n1 n2 j1 j2 (nextM j1 j2 it1 it2 m).1 (nextM j1 j2 it1 it2 m).2.1 (nextM j1 j2 it1 it2 m).2.2 m0 m1 := by
  unfold curNext
  rw [cur2_depth, cur2_root, m2_nodeNext2]; rfl
def leTs (a b : Rec) : Bool := decide (a.ts ≤ b.ts)
/-- what a two-source cursor standing at flat indices `a`, `b` still has to deliver: the merge by timestamp,
ties to the first source -/
def R2 (j1 j2 : Journal) (a b : Nat) : List Rec := List.merge ((flat j1).drop a) ((flat j2).drop b) leTs

def MixOK (l1 l2 : List Rec) (m : MixSt) (a b : Nat) : Prop :=
  m.bkwd = false ∧ (m.eof1 = true → l1.length ≤ a) ∧ (m.eof2 = true → l2.length ≤ b) ∧
  (m.st = 0 ∨
   (m.st = 1 ∧ ∃ x, m.le1 = some x ∧ l1[a]? = some x ∧ (l2[b]? = none ∨ ∃ y, l2[b]? = some y ∧ x.ts ≤ y.ts)) ∨
   (m.st = 2 ∧ ∃ y, m.le2 = some y ∧ l2[b]? = some y ∧ (l1[a]? = none ∨ ∃ x, l1[a]? = some x ∧ ¬ x.ts ≤ y.ts)) ∨
   (m.st = 3 ∧ l1.length ≤ a ∧ l2.length ≤ b))

def ItOK (j : Journal) (it : It) (a : Nat) : Prop := WF j it ∧ it.bkwd = false ∧ Synced it ∧ fIdx j it = a

def outM (m : MixSt) : Option Rec := if m.st == 1 then m.le1 else if m.st == 2 then m.le2 else none

theorem m2_drop_some {l : List Rec} {a : Nat} {x : Rec} (h : l[a]? = some x) : l.drop a = x :: l.drop (a + 1) := by
  obtain ⟨hi, e⟩ := List.getElem?_eq_some_iff.mp h
  rw [List.drop_eq_getElem_cons hi, e]
theorem m2_drop_none {l : List Rec} {a : Nat} (h : l[a]? = none) : l.drop a = [] :=
  List.drop_eq_nil_of_le (List.getElem?_eq_none_iff.mp h)

theorem m2_R2_sel {j1 j2 : Journal} {m : MixSt} {a b : Nat} (h : MixOK (flat j1) (flat j2) m a b) (hst : m.st ≠ 0) :
    (m.st = 1 ∧ ∃ x, m.le1 = some x ∧ a < (flat j1).length ∧ R2 j1 j2 a b = x :: R2 j1 j2 (a + 1) b) ∨
    (m.st = 2 ∧ ∃ y, m.le2 = some y ∧ b < (flat j2).length ∧ R2 j1 j2 a b = y :: R2 j1 j2 a (b + 1)) ∨
    (m.st = 3 ∧ R2 j1 j2 a b = []) := by
  obtain ⟨_, _, _, hd⟩ := h
  unfold R2
  rcases hd with h0 | ⟨h1, x, hx, e1, e2⟩ | ⟨h2, y, hy, e2, e1⟩ | ⟨h3, e1, e2⟩
  · exact absurd h0 hst
  · refine Or.inl ⟨h1, x, hx, (List.getElem?_eq_some_iff.mp e1).1, ?_⟩
    rw [m2_drop_some e1]
    rcases e2 with e2 | ⟨y, e2, hle⟩
    · rw [m2_drop_none e2]; simp
    · rw [m2_drop_some e2, List.cons_merge_cons]; simp [leTs, hle]
  · refine Or.inr (Or.inl ⟨h2, y, hy, (List.getElem?_eq_some_iff.mp e2).1, ?_⟩)
    rw [m2_drop_some e2]
    rcases e1 with e1 | ⟨x, e1, hle⟩
    · rw [m2_drop_none e1]; simp
    · rw [m2_drop_some e1, List.cons_merge_cons]; simp [leTs, hle]
  · exact Or.inr (Or.inr ⟨h3, by rw [List.drop_eq_nil_of_le e1, List.drop_eq_nil_of_le e2]; simp⟩)

theorem m2_out_head {j1 j2 : Journal} {m : MixSt} {a b : Nat} (h : MixOK (flat j1) (flat j2) m a b) (hst : m.st ≠ 0) :
    outM m = (R2 j1 j2 a b).head? := by
  unfold outM
  rcases m2_R2_sel h hst with ⟨h1, x, hx, _, e⟩ | ⟨h2, y, hy, _, e⟩ | ⟨h3, e⟩ <;> rw [e]
  · simp [h1, hx]
  · simp [h2, hy]
  · simp [h3]

def Fetched : Bool → Option Rec → List Rec → Nat → Prop
  | true, _, l, a => l.length ≤ a
  | false, le, l, a => ∃ x, le = some x ∧ l[a]? = some x

theorem m2_fetched1 (m : MixSt) (l : List Rec) (a : Nat) (he : m.eof1 = true → l.length ≤ a) :
    let m' := if m.eof1 then m else m.fetch1 l[a]?
    Fetched m'.eof1 m'.le1 l a ∧ m'.eof2 = m.eof2 ∧ m'.le2 = m.le2 ∧ m'.bkwd = m.bkwd := by
  cases h : m.eof1 with
  | true => simpa [h, Fetched] using he h
  | false =>
    cases hv : l[a]? with
    | none => simpa [h, MixSt.fetch1, Fetched] using hv
    | some x => simpa [h, MixSt.fetch1, Fetched] using hv

theorem m2_fetched2 (m : MixSt) (l : List Rec) (b : Nat) (he : m.eof2 = true → l.length ≤ b) :
    let m' := if m.eof2 then m else m.fetch2 l[b]?
    Fetched m'.eof2 m'.le2 l b ∧ m'.eof1 = m.eof1 ∧ m'.le1 = m.le1 ∧ m'.bkwd = m.bkwd := by
  cases h : m.eof2 with
  | true => simpa [h, Fetched] using he h
  | false =>
    cases hv : l[b]? with
    | none => simpa [h, MixSt.fetch2, Fetched] using hv
    | some y => simpa [h, MixSt.fetch2, Fetched] using hv

theorem m2_choose_ok {l1 l2 : List Rec} {a b : Nat} (m : MixSt) (h1 : Fetched m.eof1 m.le1 l1 a)
    (h2 : Fetched m.eof2 m.le2 l2 b) (hb : m.bkwd = false) : MixOK l1 l2 m.choose a b ∧ m.choose.st ≠ 0 := by
  cases e1 : m.eof1 <;> cases e2 : m.eof2 <;> rw [e1] at h1 <;> rw [e2] at h2
  · obtain ⟨x, hx, ex⟩ := h1
    obtain ⟨y, hy, ey⟩ := h2
    by_cases hle : x.ts ≤ y.ts
    · simp [MixOK, MixSt.choose, e1, e2, hx, hy, hb, hle, ex, ey]
    · simp [MixOK, MixSt.choose, e1, e2, hx, hy, hb, hle, ex, ey]; omega
  · obtain ⟨x, hx, ex⟩ := h1
    have h2 : l2.length ≤ b := h2
    simp [MixOK, MixSt.choose, e1, e2, hx, hb, ex, h2]
  · obtain ⟨y, hy, ey⟩ := h2
    have h1 : l1.length ≤ a := h1
    simp [MixOK, MixSt.choose, e1, e2, hy, hb, ey, h1]
  · exact ⟨⟨hb, fun _ => h1, fun _ => h2, Or.inr (Or.inr (Or.inr ⟨by simp [MixSt.choose, e1, e2], h1, h2⟩))⟩,
      by simp [MixSt.choose, e1, e2]⟩

section sem
variable (HG : GetFwdSpec) (HN : NextFwdSpec)
include HG HN

theorem m2_get_ok {j : Journal} {it : It} {a : Nat} (hs : Sorted j) (h : ItOK j it a) :
    ItOK j (get j it).1 a ∧ (get j it).2 = (flat j)[a]? := by
  obtain ⟨hw, hb, hsy, hi⟩ := h
  obtain ⟨g1, g2, g3, g4, g5, _, _⟩ := HG j it hs hw hb
  exact ⟨⟨g2, g3, g5 hsy, by rw [g4, hi]⟩, by rw [g1, hi]⟩

theorem m2_next_ok {j : Journal} {it : It} {a : Nat} (hs : Sorted j) (h : ItOK j it a) (hlt : a < (flat j).length) :
    ItOK j (next j it) (a + 1) := by
  obtain ⟨hw, hb, hsy, hi⟩ := h
  obtain ⟨n1, n2, n3, n4⟩ := HN j it hs hw hb
  refine ⟨n1, n2, n3, ?_⟩
  rw [n4, hi]; omega

/-- `selectState`: afterwards something is selected, and it is the head of the merge -/
theorem m2_sel {j1 j2 : Journal} {it1 it2 : It} {m : MixSt} {a b : Nat} (hs1 : Sorted j1) (hs2 : Sorted j2)
    (h1 : ItOK j1 it1 a) (h2 : ItOK j2 it2 b) (hm : MixOK (flat j1) (flat j2) m a b) :
    ItOK j1 (selM j1 j2 it1 it2 m).1 a ∧ ItOK j2 (selM j1 j2 it1 it2 m).2.1 b ∧
    MixOK (flat j1) (flat j2) (selM j1 j2 it1 it2 m).2.2 a b ∧ (selM j1 j2 it1 it2 m).2.2.st ≠ 0 := by
  unfold selM
  by_cases hst : (m.st != 0) = true
  · rw [if_pos hst]; exact ⟨h1, h2, hm, by simpa using hst⟩
  · rw [if_neg hst, sel2_eq]
    obtain ⟨g1ok, g1⟩ := m2_get_ok HG HN hs1 h1
    obtain ⟨g2ok, g2⟩ := m2_get_ok HG HN hs2 h2
    obtain ⟨hbk, he1, he2, _⟩ := hm
    rw [g1, g2]
    obtain ⟨f1, p1, p2, p3⟩ := m2_fetched1 m (flat j1) a he1
    generalize (if m.eof1 then m else m.fetch1 (flat j1)[a]?) = mm at f1 p1 p2 p3 ⊢
    obtain ⟨f2, q1, q2, q3⟩ := m2_fetched2 mm (flat j2) b (by rw [p1]; exact he2)
    refine ⟨?_, ?_, m2_choose_ok _ (by rw [q1, q2]; exact f1) f2 (by rw [q3, p3, hbk])⟩
    · show ItOK j1 (if m.eof1 then it1 else (get j1 it1).1) a
      split
      · exact h1
      · exact g1ok
    · show ItOK j2 (if mm.eof2 then it2 else (get j2 it2).1) b
      split
      · exact h2
      · exact g2ok

/-- `Mixer.Next`: the head of the merge is consumed, whatever was or was not selected before -/
theorem m2_next {j1 j2 : Journal} {it1 it2 : It} {m : MixSt} {a b : Nat} (hs1 : Sorted j1) (hs2 : Sorted j2)
    (h1 : ItOK j1 it1 a) (h2 : ItOK j2 it2 b) (hm : MixOK (flat j1) (flat j2) m a b) :
    ∃ a' b', ItOK j1 (nextM j1 j2 it1 it2 m).1 a' ∧ ItOK j2 (nextM j1 j2 it1 it2 m).2.1 b' ∧
      MixOK (flat j1) (flat j2) (nextM j1 j2 it1 it2 m).2.2 a' b' ∧ R2 j1 j2 a' b' = (R2 j1 j2 a b).tail := by
  obtain ⟨s1, s2, sm, sst⟩ := m2_sel HG HN hs1 hs2 h1 h2 hm
  unfold nextM
  generalize selM j1 j2 it1 it2 m = s at s1 s2 sm sst
  obtain ⟨i1, i2, ms⟩ := s
  simp only at s1 s2 sm sst ⊢
  have ⟨hbk, he1, he2, _⟩ := sm
  rcases m2_R2_sel sm sst with ⟨c1, x, _, hlt, e⟩ | ⟨c2, y, _, hlt, e⟩ | ⟨c3, e⟩ <;> rw [e]
  · refine ⟨a + 1, b, ?_, ?_, ?_, rfl⟩ <;> simp only [c1, beq_self_eq_true, if_true]
    · exact m2_next_ok HG HN hs1 s1 hlt
    · exact s2
    · exact ⟨hbk, fun h => by have := he1 h; omega, he2, Or.inl rfl⟩
  · refine ⟨a, b + 1, ?_, ?_, ?_, rfl⟩ <;> simp only [c2, Nat.reduceBEq, Bool.false_eq_true, if_false, if_true]
    · exact s1
    · exact m2_next_ok HG HN hs2 s2 hlt
    · exact ⟨hbk, he1, fun h => by have := he2 h; omega, Or.inl rfl⟩
  · refine ⟨a, b, ?_, ?_, ?_, e⟩ <;> simp only [c3, Nat.reduceBEq, Bool.false_eq_true, if_false]
    · exact s1
    · exact s2
    · exact ⟨hbk, he1, he2, Or.inl rfl⟩

end sem

/-! ## the two-source cursor: abstraction, pages, chains -/

def Abs2 (n1 n2 : Nat) (j1 j2 : Journal) (c : Cur) (a b : Nat) : Prop :=
  ∃ it1 it2 m m0 m1, c = cur2 n1 n2 j1 j2 it1 it2 m m0 m1 ∧ ItOK j1 it1 a ∧ ItOK j2 it2 b ∧
    MixOK (flat j1) (flat j2) m a b

/-- the cursor still has to deliver `L` -/
def Rem2 (n1 n2 : Nat) (j1 j2 : Journal) (c : Cur) (L : List Rec) : Prop :=
  ∃ a b, Abs2 n1 n2 j1 j2 c a b ∧ R2 j1 j2 a b = L

theorem m2_curRelease (n1 n2 j1 j2 it1 it2 m m0 m1) :
    curRelease (cur2 n1 n2 j1 j2 it1 it2 m m0 m1) =
      cur2 n1 n2 j1 j2 (release it1) (release it2)
        { m with eof1 := false, eof2 := false, st := if m.st == 3 then 0 else m.st } m0 m1 := by
  unfold curRelease
  rw [cur2_depth, cur2_root, nodeRelease, cur2_node2]
  simp only
  rw [nodeRelease, nodeRelease]
  simp [cur2, Src.release, setSrc]

theorem m2_collectPos (n1 n2 j1 j2 it1 it2 m m0 m1) :
    collectPos (cur2 n1 n2 j1 j2 it1 it2 m m0 m1) = [(n1, it1.pos), (n2, it2.pos)] := by
  simp [collectPos, cur2, Src.pos]

def mk2 (n1 n2 : Nat) (j1 j2 : Journal) : Cur :=
  mkCur [{ name := n1, jrnl := j1, it := .lib {} }, { name := n2, jrnl := j2, it := .lib {} }] false none none false

theorem m2_applyStatePos (n1 n2 j1 j2 it1 it2 m m0 m1 p1 p2) (hne : n1 ≠ n2) :
    applyStatePos (cur2 n1 n2 j1 j2 it1 it2 m m0 m1) [(n1, p1), (n2, p2)] =
      cur2 n1 n2 j1 j2 (setPos j1 it1 p1) (setPos j2 it2 p2) m m0 m1 := by
  have h : (n1 == n2) = false := by simpa using hne
  simp [applyStatePos, cur2, Src.setPos, h]

theorem m2_applyCorner (n1 n2 j1 j2 it1 it2 m m0 m1) :
    applyCorner (cur2 n1 n2 j1 j2 it1 it2 m m0 m1) false =
      cur2 n1 n2 j1 j2 (setPos j1 it1 {}) (setPos j2 it2 {}) m m0 m1 := by
  simp [applyCorner, cur2, Src.setPos]

theorem m2_fresh_ok (j : Journal) (p : Pos) : ItOK j (setPos j {} p) (flatIdx j p) := by
  obtain ⟨h1, h2, h3⟩ := pg_setPos_fresh j p
  refine ⟨by unfold WF; rw [h1]; trivial, h3, by unfold Synced; rw [h1]; trivial, ?_⟩
  unfold fIdx effPos; rw [h1]; simp [h2]

theorem m2_mixOK_init (l1 l2 : List Rec) (a b : Nat) : MixOK l1 l2 {} a b :=
  ⟨rfl, (by intro h; cases h), (by intro h; cases h), Or.inl rfl⟩

theorem m2_fresh_abs (n1 n2 : Nat) (j1 j2 : Journal) (p1 p2 : Pos) (hne : n1 ≠ n2) :
    Abs2 n1 n2 j1 j2 (applyStatePos (mk2 n1 n2 j1 j2) [(n1, p1), (n2, p2)]) (flatIdx j1 p1) (flatIdx j2 p2) := by
  refine ⟨setPos j1 {} p1, setPos j2 {} p2, {}, {}, {}, ?_, m2_fresh_ok j1 p1, m2_fresh_ok j2 p2, m2_mixOK_init _ _ _ _⟩
  rw [mk2, m2_mkCur, m2_applyStatePos _ _ _ _ _ _ _ _ _ _ _ hne]

theorem m2_head_abs (n1 n2 : Nat) (j1 j2 : Journal) :
    Abs2 n1 n2 j1 j2 (applyCorner (mk2 n1 n2 j1 j2) false) 0 0 := by
  refine ⟨setPos j1 {} {}, setPos j2 {} {}, {}, {}, {}, by rw [mk2, m2_mkCur, m2_applyCorner], ?_, ?_, m2_mixOK_init _ _ _ _⟩
  · have := m2_fresh_ok j1 {}; rw [pg_flatIdx_zero] at this; exact this
  · have := m2_fresh_ok j2 {}; rw [pg_flatIdx_zero] at this; exact this

theorem m2_head_rem (n1 n2 : Nat) (j1 j2 : Journal) :
    Rem2 n1 n2 j1 j2 (applyCorner (mk2 n1 n2 j1 j2) false) (List.merge (flat j1) (flat j2) leTs) :=
  ⟨0, 0, m2_head_abs n1 n2 j1 j2, by simp [R2]⟩

theorem m2_release_ok {j : Journal} {it : It} {a : Nat} (h : ItOK j it a) :
    ItOK j (release it) a ∧ flatIdx j it.pos = a := by
  obtain ⟨w, b, sy, f⟩ := h
  obtain ⟨r1, r2, r3, r4, _⟩ := pg_release_facts j it
  exact ⟨⟨r1 w, by rw [r3, b], r4 sy, by unfold fIdx at f ⊢; rw [r2, f]⟩, by rw [← pg_effPos_eq_pos w sy]; exact f⟩

section sem2
variable (HG : GetFwdSpec) (HN : NextFwdSpec)
include HG HN

theorem m2_curGet_abs {n1 n2 j1 j2 c a b} (hs1 : Sorted j1) (hs2 : Sorted j2) (h : Abs2 n1 n2 j1 j2 c a b) :
    (curGet c).2 = (R2 j1 j2 a b).head? ∧ Abs2 n1 n2 j1 j2 (curGet c).1 a b := by
  obtain ⟨it1, it2, m, m0, m1, rfl, h1, h2, hm⟩ := h
  obtain ⟨s1, s2, sm, sst⟩ := m2_sel HG HN hs1 hs2 h1 h2 hm
  rw [m2_curGet]
  exact ⟨m2_out_head sm sst, _, _, _, _, _, rfl, s1, s2, sm⟩

theorem m2_curNext_abs {n1 n2 j1 j2 c a b} (hs1 : Sorted j1) (hs2 : Sorted j2) (h : Abs2 n1 n2 j1 j2 c a b) :
    ∃ a' b', Abs2 n1 n2 j1 j2 (curNext c) a' b' ∧ R2 j1 j2 a' b' = (R2 j1 j2 a b).tail := by
  obtain ⟨it1, it2, m, m0, m1, rfl, h1, h2, hm⟩ := h
  obtain ⟨a', b', x1, x2, xm, xr⟩ := m2_next HG HN hs1 hs2 h1 h2 hm
  rw [m2_curNext]
  exact ⟨a', b', ⟨_, _, _, _, _, rfl, x1, x2, xm⟩, xr⟩

theorem m2_delivers {n1 n2 j1 j2} (hs1 : Sorted j1) (hs2 : Sorted j2) :
    Delivers (Rem2 n1 n2 j1 j2) (Rem2 n1 n2 j1 j2) where
  get := by
    rintro c L ⟨a, b, ha, rfl⟩
    obtain ⟨g1, g2⟩ := m2_curGet_abs HG HN hs1 hs2 ha
    exact ⟨g1, a, b, g2, rfl⟩
  next := by
    rintro c L ⟨a, b, ha, rfl⟩
    exact m2_curNext_abs HG HN hs1 hs2 ha
  settled := id

/-- after `commit`: the cursor still has the same to deliver and reports positions of exactly these flat indices -/
theorem m2_commit {n1 n2 j1 j2 c L} (hs1 : Sorted j1) (hs2 : Sorted j2) (h : Rem2 n1 n2 j1 j2 c L) :
    Rem2 n1 n2 j1 j2 (commit c).1 L ∧
    ∃ p1 p2, (commit c).2 = [(n1, p1), (n2, p2)] ∧ R2 j1 j2 (flatIdx j1 p1) (flatIdx j2 p2) = L := by
  obtain ⟨a, b, ha, rfl⟩ := h
  obtain ⟨_, g2⟩ := m2_curGet_abs HG HN hs1 hs2 ha
  obtain ⟨it1, it2, m, m0, m1, e, i1, i2, hbk, he1, he2, hd⟩ := g2
  obtain ⟨k1, p1⟩ := m2_release_ok i1
  obtain ⟨k2, p2⟩ := m2_release_ok i2
  have hc : commit c = (curRelease (curGet c).1, collectPos (curGet c).1) := rfl
  rw [hc, e, m2_curRelease, m2_collectPos]
  refine ⟨⟨a, b, ⟨_, _, _, _, _, rfl, k1, k2, hbk, nofun, nofun, ?_⟩, rfl⟩, it1.pos, it2.pos, rfl, by rw [p1, p2]⟩
  -- `Release` clears the flags and keeps a selection
  rcases hd with c | ⟨c, x⟩ | ⟨c, x⟩ | ⟨c, _⟩
  · simp [c]
  · exact Or.inr (Or.inl ⟨by simp [c], x⟩)
  · exact Or.inr (Or.inr (Or.inl ⟨by simp [c], x⟩))
  · simp [c]

end sem2

/-! ### chains of pages over two partitions (fixed journals) -/

def resume2 (n1 n2 : Nat) (j1 j2 : Journal) (c : Cur) (pm : List (Nat × Pos)) : Choice → Cur
  | .same => c
  | .fresh => applyStatePos (mk2 n1 n2 j1 j2) pm

def chain2 (n1 n2 : Nat) (j1 j2 : Journal) : Cur → List (Nat × Pos) → List (Choice × Nat) → List (List Rec)
  | _, _, [] => []
  | c, pm, st :: rest =>
    (pageOn st.2 (resume2 n1 n2 j1 j2 c pm st.1)).2.1 ::
      chain2 n1 n2 j1 j2 (pageOn st.2 (resume2 n1 n2 j1 j2 c pm st.1)).1 (pageOn st.2 (resume2 n1 n2 j1 j2 c pm st.1)).2.2 rest

def pages2 (n1 n2 : Nat) (j1 j2 : Journal) (l0 : Nat) (steps : List (Choice × Nat)) : List (List Rec) :=
  (pageOn l0 (applyCorner (mk2 n1 n2 j1 j2) false)).2.1 ::
    chain2 n1 n2 j1 j2 (pageOn l0 (applyCorner (mk2 n1 n2 j1 j2) false)).1 (pageOn l0 (applyCorner (mk2 n1 n2 j1 j2) false)).2.2 steps

section sem3
variable (HG : GetFwdSpec) (HN : NextFwdSpec)
include HG HN

theorem m2_pageOn {n1 n2 j1 j2 c L} (hs1 : Sorted j1) (hs2 : Sorted j2) (lim : Nat) (h : Rem2 n1 n2 j1 j2 c L) :
    (pageOn lim c).2.1 = L.take lim ∧ Rem2 n1 n2 j1 j2 (pageOn lim c).1 (L.drop lim) ∧
    ∃ p1 p2, (pageOn lim c).2.2 = [(n1, p1), (n2, p2)] ∧ R2 j1 j2 (flatIdx j1 p1) (flatIdx j2 p2) = L.drop lim := by
  obtain ⟨q1, q2⟩ := (m2_delivers HG HN hs1 hs2).readLoop lim c L [] h
  obtain ⟨c1, p1, p2, c2, c3⟩ := m2_commit HG HN hs1 hs2 q2
  exact ⟨by simpa [pageOn] using q1, c1, p1, p2, c2, c3⟩

theorem m2_chain {n1 n2 j1 j2} (hs1 : Sorted j1) (hs2 : Sorted j2) (hne : n1 ≠ n2) :
    ∀ (steps : List (Choice × Nat)) (c : Cur) (L : List Rec) (p1 p2 : Pos),
    Rem2 n1 n2 j1 j2 c L → R2 j1 j2 (flatIdx j1 p1) (flatIdx j2 p2) = L →
    (chain2 n1 n2 j1 j2 c [(n1, p1), (n2, p2)] steps).flatten = L.take (steps.map (·.2)).sum := by
  intro steps
  induction steps with
  | nil => intro c L p1 p2 _ _; simp [chain2]
  | cons st rest ih =>
    intro c L p1 p2 h hp
    have hres : Rem2 n1 n2 j1 j2 (resume2 n1 n2 j1 j2 c [(n1, p1), (n2, p2)] st.1) L := by
      cases hc : st.1 with
      | same => simpa [resume2] using h
      | fresh => exact ⟨_, _, by simpa [resume2] using m2_fresh_abs n1 n2 j1 j2 p1 p2 hne, hp⟩
    obtain ⟨e1, r1, q1, q2, e2, e3⟩ := m2_pageOn HG HN hs1 hs2 st.2 hres
    rw [chain2, List.flatten_cons, e2, ih _ _ q1 q2 r1 e3, e1]
    simp only [List.map_cons, List.sum_cons]
    rw [List.take_add]

/-- **paging over a merged cursor of two partitions** (un-ranged, unfiltered, journals fixed) -/
theorem m2_paging {n1 n2 : Nat} {j1 j2 : Journal} (hs1 : Sorted j1) (hs2 : Sorted j2) (hne : n1 ≠ n2) (l0 : Nat)
    (steps : List (Choice × Nat)) :
    (pages2 n1 n2 j1 j2 l0 steps).flatten =
      (List.merge (flat j1) (flat j2) leTs).take (l0 + (steps.map (·.2)).sum) := by
  obtain ⟨e1, r1, q1, q2, e2, e3⟩ := m2_pageOn HG HN hs1 hs2 l0 (m2_head_rem n1 n2 j1 j2)
  rw [pages2, List.flatten_cons, e2, m2_chain HG HN hs1 hs2 hne steps _ _ q1 q2 r1 e3, e1, List.take_add]

end sem3

/-! ### what the merge is, in the property's words -/

theorem m2_sublist_left (le : Rec → Rec → Bool) : ∀ (l1 l2 : List Rec), l1.Sublist (List.merge l1 l2 le) := by
  intro l1
  induction l1 with
  | nil => intro l2; exact List.nil_sublist _
  | cons x xs ih =>
    intro l2
    induction l2 with
    | nil => rw [List.merge_right]; exact List.Sublist.refl _
    | cons y ys ih2 =>
      rw [List.cons_merge_cons]
      split
      · exact List.Sublist.cons₂ x (ih (y :: ys))
      · exact List.Sublist.cons y ih2

theorem m2_sublist_right (le : Rec → Rec → Bool) : ∀ (l1 l2 : List Rec), l2.Sublist (List.merge l1 l2 le) := by
  intro l1
  induction l1 with
  | nil => intro l2; rw [List.nil_merge]; exact List.Sublist.refl _
  | cons x xs ih =>
    intro l2
    induction l2 with
    | nil => exact List.nil_sublist _
    | cons y ys ih2 =>
      rw [List.cons_merge_cons]
      split
      · exact List.Sublist.cons x (ih (y :: ys))
      · exact List.Sublist.cons₂ y ih2
end Logrange.Rd

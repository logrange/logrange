import Logrange.Model.TIndexProg
import Logrange.Proofs.TIndexLts
/-! Lemmas behind the caller-program theorems of C14: how a step of one actor looks to another (frame), the local
invariant that ties an actor's control state to its tokens, its visit and its exclusive lock, and its preservation. -/
namespace Logrange.TIndexProg
open Logrange.TIndexLts

theorem relAll_isNone (a : Nat) : ∀ (l : List Nat) (parts : Nat → Option Part) (holds : List Tok) (x : Nat),
    ((relAll a l parts holds).1 x).isNone = (parts x).isNone := by
  intro l
  induction l with
  | nil => intro parts holds x; rfl
  | cons s ss ih =>
    intro parts holds x
    unfold relAll
    rw [ih, decDesc_isNone]

/-! ### how a step of another actor looks to actor `a` -/

def actorOf : Lbl → Option Nat
  | .getOrCreate a _ _ => some a
  | .getTags a _ _ => some a
  | .release a _ => some a
  | .lockX a _ => some a
  | .unlockX a _ => some a
  | .delete a _ => some a
  | .visitBegin a _ _ _ => some a
  | .visitTry a _ => some a
  | .visitCb a _ _ => some a
  | .visitEnd a => some a
  | .shutdown => none

/-- what actor `a` can see of the shared state: its tokens, its visit, the locks it holds, which sources are gone -/
structure Same (a : Nat) (st st' : St) : Prop where
  tok : ∀ s au, st'.c.holds.count ⟨a, s, au⟩ = st.c.holds.count ⟨a, s, au⟩
  vis : st'.vis a = st.vis a
  lck : ∀ s, st'.c.locker s = some a ↔ st.c.locker s = some a
  gone : ∀ s, st.c.parts s = none → s < st.c.next → st'.c.parts s = none
  next : st.c.next ≤ st'.c.next

theorem Same.refl (a : Nat) (st : St) : Same a st st := ⟨fun _ _ => rfl, rfl, fun _ => Iff.rfl, fun _ h _ => h, Nat.le_refl _⟩

theorem isNone_none {α : Type} {o : Option α} (h : o.isNone = true) : o = none := by
  cases o <;> simp_all

theorem cnt_cons_other (holds : List Tok) {a b : Nat} (h : b ≠ a) (s s' : Nat) (au au' : Bool) :
    ((⟨b, s', au'⟩ : Tok) :: holds).count ⟨a, s, au⟩ = holds.count ⟨a, s, au⟩ := by
  rw [List.count_cons_of_ne]; intro e; injection e with e1; exact h e1

theorem cnt_erase_other (holds : List Tok) {a b : Nat} (h : b ≠ a) (s s' : Nat) (au au' : Bool) :
    (holds.erase (⟨b, s', au'⟩ : Tok)).count ⟨a, s, au⟩ = holds.count ⟨a, s, au⟩ := by
  rw [List.count_erase_of_ne]; intro e; injection e with e1; exact h e1.symm

theorem gone_incDesc (parts : Nat → Option Part) (s : Nat) (p : Part) (hp : parts s = some p) (x : Nat)
    (hx : parts x = none) : incDesc parts s p x = none := by
  apply isNone_none; rw [incDesc_isNone _ _ _ hp]; simp [hx]

theorem gone_upd (parts : Nat → Option Part) (s : Nat) (v : Option Part) (x : Nat) (hs : parts s ≠ none ∨ v = none)
    (hx : parts x = none) : upd parts s v x = none := by
  by_cases e : x = s
  · subst e
    rcases hs with hs | hs
    · exact absurd hx hs
    · simp [upd_same, hs]
  · rw [upd_other _ _ _ _ e]; exact hx

theorem Same.setVis {a b : Nat} {st st' : St} (hab : b ≠ a) (o : Option Visit) (h : Same a st st') :
    Same a st (st'.setVis b o) :=
  ⟨h.tok, (upd_other _ _ _ _ (Ne.symm hab)).trans h.vis, h.lck, h.gone, h.next⟩

theorem same_acq {a b : Nat} (st : St) (hab : b ≠ a) {s : Nat} {p : Part} (hp : st.c.parts s = some p) (au : Bool) :
    Same a st (st.acq s p ⟨b, s, au⟩) :=
  ⟨fun _ _ => cnt_cons_other _ hab _ _ _ _, rfl, fun _ => Iff.rfl, fun x hx _ => gone_incDesc _ _ _ hp x hx, Nat.le_refl _⟩

theorem same_unlock {a b : Nat} (st : St) (hab : b ≠ a) {s : Nat} (hl : st.c.locker s = some b) (o : Option Part)
    (ho : st.c.parts s ≠ none ∨ o = none) : Same a st (st.unlock s o) := by
  refine ⟨fun _ _ => rfl, rfl, fun x => ?_, fun x hx _ => gone_upd _ _ _ _ ho hx, Nat.le_refl _⟩
  show upd st.c.locker s none x = some a ↔ _
  by_cases e : x = s
  · subst e; rw [upd_same, hl]
    exact ⟨(fun h => nomatch h), fun h => absurd (Option.some.inj h) hab⟩
  · rw [upd_other _ _ _ _ e]

/-- a critical section of another actor `b` changes nothing that actor `a` can see of its own -/
theorem frame {st st' : St} {l : Lbl} {a b : Nat} (hi : StInv st) (hs : step st l = some st')
    (hl : actorOf l = some b) (hab : b ≠ a) : Same a st st' := by
  cases step_eff hs with
  | skip | tryWait => exact Same.refl a st
  | shutdown => cases hl
  | panicRel h | panicUnl h => exact absurd hi.core h
  | acqTags s p hp | acqId p hp => cases hl; exact same_acq st hab hp false
  | create =>
    cases hl
    refine ⟨fun _ _ => cnt_cons_other _ hab _ _ _ _, rfl, fun _ => Iff.rfl, fun x hx hlt => ?_, Nat.le_succ _⟩
    exact (upd_other _ _ _ _ (Nat.ne_of_lt hlt)).trans hx
  | rel =>
    cases hl
    refine ⟨fun _ _ => cnt_erase_other _ hab _ _ _ _, rfl, fun _ => Iff.rfl, fun x hx _ => isNone_none ?_, Nat.le_refl _⟩
    exact (decDesc_isNone _ _ _).trans (by rw [hx]; rfl)
  | @lock b' s p au hp hx =>
    cases hl
    refine ⟨fun _ _ => rfl, rfl, fun x => ?_, fun x hn _ => gone_upd _ _ _ _ (Or.inl (by rw [hp]; simp)) hn, Nat.le_refl _⟩
    show upd st.c.locker s (some b) x = some a ↔ _
    by_cases e : x = s
    · subst e; rw [upd_same]
      refine ⟨fun h => absurd (Option.some.inj h) hab, fun h => ?_⟩
      obtain ⟨p', hp', hx'⟩ := hi.core.lck x a h
      rw [hp] at hp'; cases hp'; rw [hx] at hx'; cases hx'
    · rw [upd_other _ _ _ _ e]
  | unlock p hp hlk => cases hl; exact same_unlock st hab hlk _ (Or.inl (by rw [hp]; simp))
  | delete p _ _ hlk => cases hl; exact same_unlock st hab hlk _ (Or.inr rfl)
  | @start b' sel sk nr =>
    cases hl
    obtain ⟨_, f1, _, f2, _, _⟩ := snap_inv b sel sk st.c.next st.c.locker (List.range st.c.next) st.c.parts st.c.holds hi.core
    exact ⟨fun _ _ => f2 _ (Or.inl (Ne.symm hab)), upd_other _ _ _ _ (Ne.symm hab), fun _ => Iff.rfl,
      fun x hx _ => isNone_none ((f1 x).trans (by rw [hx]; rfl)), Nat.le_refl _⟩
  | tryDown | tryGone | cbKeep => cases hl; exact (Same.refl a st).setVis hab _
  | tryAcq v p _ _ _ hp => cases hl; exact (same_acq st hab hp true).setVis hab _
  | cbConv =>
    cases hl
    refine Same.setVis hab _ ⟨fun s' au => ?_, rfl, fun _ => Iff.rfl, fun _ hx _ => hx, Nat.le_refl _⟩
    show List.count _ (_ :: st.c.holds.erase _) = _
    rw [cnt_cons_other _ hab, cnt_erase_other _ hab]
  | @finish b' v hva hmay =>
    cases hl
    obtain ⟨_, i2, _⟩ := relAll_inv b st.c.next st.c.locker v.owed st.c.parts st.c.holds hi.core hmay (hi.visTok b v hva)
    exact ⟨fun _ _ => i2 _ (Or.inl (Ne.symm hab)), upd_other _ _ _ _ (Ne.symm hab), fun _ => Iff.rfl,
      fun x hx _ => isNone_none ((relAll_isNone _ _ _ _ _).trans (by rw [hx]; rfl)), Nat.le_refl _⟩

/-! ### the local invariant: control state ↔ tokens, visit, exclusive lock -/

def relK : Ctl → Prop
  | .fin => True
  | .idLoop _ _ _ => True
  | .vEnd _ _ => True
  | _ => False

/-- the continuations the programs build -/
def Shape : Ctl → Prop
  | .rel _ _ k => relK k
  | .dj _ s k => (∃ k', k = .rel s [] k' ∧ relK k') ∨ (∃ kind kept, k = .vRet kind s kept ∧ dnrOf kind = false)
  | .vRet kind _ _ => dnrOf kind = false      -- (only Truncate's visitor runs `deleteJournal`)
  | _ => True

def lockedAt : Ctl → Nat → Prop
  | .dj .delete s _, x => x = s
  | .dj .unlock s _, x => x = s
  | _, _ => False

def DjOK (a : Nat) (st : St) : Ctl → Prop
  | .dj .delete s _ => st.c.locker s = some a
  | .dj .unlock s _ => st.c.locker s = some a ∨ (st.c.parts s = none ∧ s < st.c.next)
  | _ => True

def PhaseOK (v : Visit) : VPhase → Prop
  | .pick => v.aborted = false ∧ v.cur = none
  | .cb s => cbOk v s = true
  | .fin => (v.pending = [] ∨ v.aborted = true) ∧ v.cur = none

def VisOK (a : Nat) (st : St) : Option (VKind × VPhase) → Prop
  | none => st.vis a = none
  | some (kind, ph) => ∃ v, st.vis a = some v ∧ v.skipping = skipOf kind ∧ v.noRelease = dnrOf kind ∧
      (skipOf kind = true → ∀ x, x ∈ v.pending → x ∈ v.owed) ∧ PhaseOK v ph

def owedCount (o : Option Visit) (s : Nat) : Nat :=
  match o with
  | some v => v.owed.count s
  | none => 0

/-- `o s`: the visit-owned acquisitions of `s` that a waiting `Visit` of this actor, interrupted by `Shutdown()`, left
behind (it returned without its final locked section); always 0 before `Shutdown()` -/
structure Local (o : Nat → Nat) (a : Nat) (c : Ctl) (st : St) : Prop where
  shape : Shape c
  cli : ∀ s, st.c.holds.count ⟨a, s, false⟩ = (heldOf c).count s
  aut : ∀ s, st.c.holds.count ⟨a, s, true⟩ = owedCount (st.vis a) s + o s
  vis : VisOK a st (visOf c)
  lck : ∀ s, st.c.locker s = some a → lockedAt c s
  dj : DjOK a st c

variable {o : Nat → Nat}

theorem visOK_same {a : Nat} {st st' : St} (h : st'.vis a = st.vis a) {o : Option (VKind × VPhase)}
    (hv : VisOK a st o) : VisOK a st' o := by
  cases o with
  | none => simp only [VisOK] at hv ⊢; rw [h]; exact hv
  | some kp => obtain ⟨kind, ph⟩ := kp; simp only [VisOK] at hv ⊢; rw [h]; exact hv

/-- a step of another actor keeps the local invariant -/
theorem local_frame {a : Nat} {c : Ctl} {st st' : St} (hs : Same a st st') (h : Local o a c st) : Local o a c st' := by
  refine ⟨h.shape, fun s => by rw [hs.tok]; exact h.cli s, fun s => by rw [hs.tok, hs.vis]; exact h.aut s,
    visOK_same hs.vis h.vis, fun s hl => h.lck s ((hs.lck s).mp hl), ?_⟩
  have hd := h.dj
  cases c with
  | dj ph s k =>
    cases ph with
    | lock => trivial
    | delete => exact (hs.lck s).mpr hd
    | unlock =>
      rcases hd with hd | ⟨h1, h2⟩
      · exact Or.inl ((hs.lck s).mpr hd)
      · exact Or.inr ⟨hs.gone s h1 h2, Nat.lt_of_lt_of_le h2 hs.next⟩
  | _ => trivial

theorem heldOf_relThen (l : List Nat) (k : Ctl) : heldOf (relThen l k) = l ++ heldOf k := by
  cases l <;> simp [relThen, heldOf]

theorem visOf_relThen (l : List Nat) (k : Ctl) : visOf (relThen l k) = visOf k := by
  cases l <;> simp [relThen, visOf]

theorem relK_idLoopOf (r : List Nat) (d : Bool) : relK (idLoopOf r d) := by cases r <;> simp [idLoopOf, relK]

theorem shape_relThen (l : List Nat) (k : Ctl) (hk : relK k) : Shape (relThen l k) := by
  cases l with
  | nil => cases k <;> simp_all [relThen, Shape, relK]
  | cons s r => simpa [relThen, Shape] using hk

theorem lockedAt_relK (k : Ctl) (hk : relK k) (x : Nat) : ¬ lockedAt k x := by
  cases k <;> simp_all [relK, lockedAt]

theorem lockedAt_relThen (l : List Nat) (k : Ctl) (hk : relK k) (x : Nat) : ¬ lockedAt (relThen l k) x := by
  cases l with
  | nil => exact lockedAt_relK k hk x
  | cons s r => exact id

theorem djOK_of_free {a : Nat} {st : St} {c : Ctl} (h : ∀ x, ¬ lockedAt c x) : DjOK a st c := by
  cases c with
  | dj ph s k =>
    cases ph with
    | lock => trivial
    | delete => exact absurd rfl (h s)
    | unlock => exact absurd rfl (h s)
  | _ => trivial

theorem Local.unlocked {a : Nat} {c : Ctl} {st : St} (h : Local o a c st) (hno : ∀ x, ¬ lockedAt c x) (x : Nat) :
    st.c.locker x ≠ some a :=
  fun hl => hno x (h.lck x hl)

/-- a control state between two critical sections in which no visit runs and no exclusive lock is held; `l`: what the
client still has to `Release` -/
structure Idle (c : Ctl) (l : List Nat) : Prop where
  shape : Shape c
  free : ∀ x, ¬ lockedAt c x
  vis : visOf c = none
  held : ∀ x, (heldOf c).count x = l.count x

theorem idle_entry {c : Ctl} (he : isEntry c) : Idle c [] := by
  cases c <;> simp only [isEntry] at he <;> exact ⟨trivial, fun _ => id, rfl, fun _ => rfl⟩

theorem idle_idLoopOf (r : List Nat) (d : Bool) : Idle (idLoopOf r d) [] := by
  cases r <;> exact ⟨trivial, fun _ => id, rfl, fun _ => rfl⟩

theorem idle_peekOf (r : List Nat) : Idle (peekOf r) [] := by
  cases r <;> exact ⟨trivial, fun _ => id, rfl, fun _ => rfl⟩

theorem idle_relThen {k : Ctl} (l : List Nat) (hk : relK k) (h : Idle k []) : Idle (relThen l k) l :=
  ⟨shape_relThen l k hk, lockedAt_relThen l k hk, (visOf_relThen l k).trans h.vis,
    fun x => by rw [heldOf_relThen, List.count_append, h.held x]; rfl⟩

/-- before `deleteJournal(s)` on an acquired partition (`truncateGlobally`) -/
theorem idle_dj {k : Ctl} (s : Nat) (hk : relK k) (h : Idle k []) : Idle (.dj .lock s (.rel s [] k)) [s] :=
  ⟨Or.inl ⟨k, rfl, hk⟩, fun _ => id, h.vis, (idle_relThen [s] hk h).held⟩

theorem idle_afterVisit (kind : VKind) (kept : List Nat) : Idle (afterVisit kind kept) kept := by
  cases kind with
  | partitions | getJournals => exact idle_relThen kept trivial (idle_entry trivial)
  | truncate items => exact idle_relThen kept (relK_idLoopOf _ _) (idle_idLoopOf _ _)

theorem local_idle {a : Nat} {c : Ctl} {l : List Nat} {st : St} (hc : Idle c l)
    (hcli : ∀ x, st.c.holds.count ⟨a, x, false⟩ = l.count x)
    (haut : ∀ x, st.c.holds.count ⟨a, x, true⟩ = owedCount (st.vis a) x + o x)
    (hv : st.vis a = none) (hl : ∀ x, st.c.locker x ≠ some a) : Local o a c st :=
  ⟨hc.shape, fun x => (hcli x).trans (hc.held x).symm, haut, by rw [hc.vis]; exact hv, fun x h => absurd h (hl x),
    djOK_of_free hc.free⟩

theorem Local.idle {a : Nat} {c c' : Ctl} {l : List Nat} {st : St} (h : Local o a c st) (hc : Idle c l) (hc' : Idle c' l) :
    Local o a c' st :=
  local_idle hc' (fun x => (h.cli x).trans (hc.held x)) h.aut (by have := h.vis; rw [hc.vis] at this; exact this)
    (h.unlocked hc.free)

/-! ### a step of the actor itself -/

theorem cnt_cons_self (holds : List Tok) (a s x : Nat) (au : Bool) :
    ((⟨a, s, au⟩ : Tok) :: holds).count ⟨a, x, au⟩ = holds.count ⟨a, x, au⟩ + (if s = x then 1 else 0) := by
  rw [List.count_cons]
  by_cases e : s = x <;> simp [e]

theorem cnt_cons_tf (holds : List Tok) (a s x : Nat) :
    ((⟨a, s, true⟩ : Tok) :: holds).count ⟨a, x, false⟩ = holds.count ⟨a, x, false⟩ := by
  rw [List.count_cons_of_ne]; simp

theorem cnt_erase_tf (holds : List Tok) (a s x : Nat) :
    (holds.erase (⟨a, s, true⟩ : Tok)).count ⟨a, x, false⟩ = holds.count ⟨a, x, false⟩ := by
  rw [List.count_erase_of_ne]; simp

theorem cnt_erase_self (holds : List Tok) (a s x : Nat) (au : Bool) :
    (holds.erase (⟨a, s, au⟩ : Tok)).count ⟨a, x, au⟩ = holds.count ⟨a, x, au⟩ - (if s = x then 1 else 0) := by
  by_cases e : s = x
  · subst e; rw [List.count_erase_self]; simp
  · rw [List.count_erase_of_ne (by simp; exact fun h => e h.symm)]; simp [e]

theorem cnt_list (l : List Nat) (s x : Nat) : (s :: l).count x = l.count x + (if s = x then 1 else 0) := by
  rw [List.count_cons]; by_cases e : s = x <;> simp [e]

/-- acquiring a client token of one's own -/
theorem Local.acq {a : Nat} {c c' : Ctl} {l : List Nat} {st : St} (h : Local o a c st) (hc : Idle c l) (s : Nat)
    (hc' : Idle c' (s :: l)) (st' : St) (hh : st'.c.holds = ⟨a, s, false⟩ :: st.c.holds) (hv : st'.vis = st.vis)
    (hl : st'.c.locker = st.c.locker) : Local o a c' st' := by
  have hva : st.vis a = none := by have := h.vis; rw [hc.vis] at this; exact this
  refine local_idle hc' ?_ ?_ (by rw [hv]; exact hva) (by rw [hl]; exact h.unlocked hc.free)
  · intro x; rw [hh, cnt_cons_self, h.cli x, hc.held x, cnt_list]
  · intro x; rw [hh, count_cons_false, hv]; exact h.aut x

theorem own_acqTags {a : Nat} {st : St} (tags : Nat) (create : Bool) (hd : st.done = false)
    (h : Local o a (.acqTags tags create) st) (l : Lbl) (c' : Ctl) (ho : (l, c') ∈ pnext a st (.acqTags tags create)) :
    ∃ st', step st l = some st' ∧ Local o a c' st' := by
  have hc : Idle (.acqTags tags create) [] := idle_entry trivial
  have hfin : Local o a .fin st := h.idle hc (idle_entry trivial)
  have hrel : ∀ s, Idle (.rel s [] .fin) [s] := fun s => idle_relThen [s] trivial (idle_entry trivial)
  simp only [pnext, hd, Bool.false_eq_true, if_false] at ho
  cases hf : findTags st.c.parts tags st.c.next with
  | some s =>
    simp only [hf] at ho
    cases hp : st.c.parts s with
    | some p =>
      simp only [hp] at ho
      by_cases hx : p.exclusive = true
      · simp only [hx, if_true, List.mem_singleton, Prod.mk.injEq] at ho
        obtain ⟨rfl, rfl⟩ := ho
        exact ⟨st, step_getOrCreate_wait hf hp hx _, h⟩
      · simp only [hx, Bool.false_eq_true, if_false, List.mem_singleton, Prod.mk.injEq] at ho
        obtain ⟨rfl, rfl⟩ := ho
        exact ⟨_, step_getOrCreate_acq hd hf hp (by simpa using hx) _, h.acq hc s (hrel s) _ rfl rfl rfl⟩
    | none =>
      simp only [hp, List.mem_singleton, Prod.mk.injEq] at ho
      obtain ⟨rfl, rfl⟩ := ho
      exact ⟨st, by simp [step, hd, hf, hp], hfin⟩
  | none =>
    simp only [hf] at ho
    cases create with
    | true =>
      simp only [if_true, List.mem_singleton, Prod.mk.injEq] at ho
      obtain ⟨rfl, rfl⟩ := ho
      exact ⟨_, step_getOrCreate_new hd hf, h.acq hc _ (hrel _) _ rfl rfl rfl⟩
    | false =>
      simp only [Bool.false_eq_true, if_false, List.mem_singleton, Prod.mk.injEq] at ho
      obtain ⟨rfl, rfl⟩ := ho
      exact ⟨st, step_getOrCreate_notFound hf, hfin⟩

theorem mem_of_count_pos {t : Tok} {l : List Tok} (h : 1 ≤ l.count t) : t ∈ l := List.one_le_count_iff.mp h

theorem own_rel {a : Nat} {st : St} (s : Nat) (l : List Nat) (k : Ctl) (hi : StInv st)
    (h : Local o a (.rel s l k) st) (lb : Lbl) (c' : Ctl) (ho : (lb, c') ∈ pnext a st (.rel s l k)) :
    ∃ st', step st lb = some st' ∧ Local o a c' st' := by
  simp only [pnext, List.mem_singleton, Prod.mk.injEq] at ho
  obtain ⟨rfl, rfl⟩ := ho
  have hnl := h.unlocked (fun _ => id)
  have hm : (⟨a, s, false⟩ : Tok) ∈ st.c.holds := by
    apply mem_of_count_pos; rw [h.cli s]; simp [heldOf]
  have hmay : mayRelease st.c a s = true := by
    simp only [mayRelease, Bool.or_eq_true]; right; simpa using hnl s
  have hk : relK k := h.shape
  refine ⟨_, step_release hi.core hm hmay, shape_relThen l k hk, ?_, ?_, ?_, fun x hl => absurd hl (hnl x),
    djOK_of_free (lockedAt_relThen l k hk)⟩
  · intro x
    show List.count _ (st.c.holds.erase _) = _
    rw [cnt_erase_self, h.cli x, heldOf_relThen]
    show (s :: (l ++ heldOf k)).count x - _ = _
    rw [cnt_list]; omega
  · intro x; exact (count_erase_false _ _ _ _ _).trans (h.aut x)
  · rw [visOf_relThen]; exact h.vis

theorem own_idLoop {a : Nat} {st : St} (s : Nat) (rest : List Nat) (del : Bool) (hd : st.done = false)
    (h : Local o a (.idLoop s rest del) st) (l : Lbl) (c' : Ctl) (ho : (l, c') ∈ pnext a st (.idLoop s rest del)) :
    ∃ st', step st l = some st' ∧ Local o a c' st' := by
  have hc : Idle (.idLoop s rest del) [] := idle_entry trivial
  have hk := idle_idLoopOf rest del
  have hskip : Local o a (idLoopOf rest del) st := h.idle hc hk
  simp only [pnext, acqById, hd, Bool.false_eq_true, if_false] at ho
  cases hp : st.c.parts s with
  | none =>
    simp only [hp, List.mem_singleton, Prod.mk.injEq] at ho
    obtain ⟨rfl, rfl⟩ := ho
    exact ⟨st, step_getTags_none hp _, hskip⟩
  | some p =>
    simp only [hp] at ho
    by_cases hx : p.exclusive = true
    · simp only [hx, if_true, List.mem_singleton, Prod.mk.injEq] at ho
      obtain ⟨rfl, rfl⟩ := ho
      exact ⟨st, step_getTags_wait hp hx _, h⟩
    · simp only [hx, Bool.false_eq_true, if_false] at ho
      have hstep := step_getTags_acq (a := a) hd hp (by simpa using hx)
      have hrel := h.acq hc s (idle_relThen [s] (relK_idLoopOf rest del) hk) (st.acq s p ⟨a, s, false⟩) rfl rfl rfl
      cases del with
      | true =>
        simp only [if_true, List.mem_cons, Prod.mk.injEq, List.not_mem_nil, or_false] at ho
        rcases ho with ⟨rfl, rfl⟩ | ⟨rfl, rfl⟩
        · exact ⟨_, hstep, h.acq hc s (idle_dj s (relK_idLoopOf rest true) hk) _ rfl rfl rfl⟩
        · exact ⟨_, hstep, hrel⟩
      | false =>
        simp only [Bool.false_eq_true, if_false, List.mem_singleton, Prod.mk.injEq] at ho
        obtain ⟨rfl, rfl⟩ := ho
        exact ⟨_, hstep, hrel⟩

theorem own_peek {a : Nat} {st : St} (s : Nat) (rest : List Nat)
    (h : Local o a (.peek s rest) st) (l : Lbl) (c' : Ctl) (ho : (l, c') ∈ pnext a st (.peek s rest)) :
    ∃ st', step st l = some st' ∧ Local o a c' st' := by
  have hskip : Local o a (peekOf rest) st := h.idle (idle_entry trivial) (idle_peekOf rest)
  simp only [pnext] at ho
  cases hacq : acqById st s <;> simp only [hacq, List.mem_singleton, Prod.mk.injEq] at ho <;> obtain ⟨rfl, rfl⟩ := ho
  · exact ⟨st, step_getTags_peek, hskip⟩
  · exact ⟨st, step_getTags_peek, hskip⟩
  · exact ⟨st, step_getTags_peek, h⟩
  · exact ⟨st, step_getTags_peek, hskip⟩

/-! ### deleteJournal -/

theorem Local.owed_mem {a : Nat} {c : Ctl} {st : St} (h : Local o a c st) {v : Visit} (hv : st.vis a = some v) {s : Nat}
    (hso : s ∈ v.owed) : (⟨a, s, true⟩ : Tok) ∈ st.c.holds := by
  apply mem_of_count_pos; rw [h.aut s, hv]
  exact Nat.le_trans (List.one_le_count_iff.mpr hso) (Nat.le_add_right _ _)

theorem holds_of_local_dj {a : Nat} {st : St} {ph : DjPh} {s : Nat} {k : Ctl} (h : Local o a (.dj ph s k) st) :
    holdsAny st.c.holds a s = true := by
  rcases h.shape with ⟨k', rfl, _⟩ | ⟨kind, kept, rfl, _⟩
  · have hm : (⟨a, s, false⟩ : Tok) ∈ st.c.holds := by
      apply mem_of_count_pos; rw [h.cli s]; simp [heldOf]
    simp [holdsAny, hm]
  · obtain ⟨v, hv, _, _, _, hph⟩ := h.vis
    simp [holdsAny, h.owed_mem hv (cbOk_owed hph)]

theorem Local.keep {a : Nat} {c c' : Ctl} {st st' : St} (h : Local o a c st) (hh : st'.c.holds = st.c.holds)
    (hv : st'.vis = st.vis) (hsh : Shape c') (hheld : ∀ x, (heldOf c').count x = (heldOf c).count x)
    (hvis : VisOK a st (visOf c')) (hl : ∀ x, st'.c.locker x = some a → lockedAt c' x) (hdj : DjOK a st' c') :
    Local o a c' st' :=
  ⟨hsh, fun x => by rw [hh, h.cli x, hheld x], fun x => by rw [hh, hv]; exact h.aut x,
    visOK_same (by rw [hv]) hvis, hl, hdj⟩

/-- going on with the continuation of `deleteJournal` when the actor holds no exclusive lock -/
theorem local_to_k {a : Nat} {c k : Ctl} {st st' : St} {s : Nat} (h : Local o a c st)
    (hh : st'.c.holds = st.c.holds) (hv : st'.vis = st.vis) (hnl : ∀ x, st'.c.locker x ≠ some a)
    (hsh : Shape (.dj .lock s k)) (hheld : ∀ x, (heldOf k).count x = (heldOf c).count x) (hvis : VisOK a st (visOf k)) :
    Local o a k st' := by
  have hk : Shape k ∧ ∀ x, ¬ lockedAt k x := by
    rcases hsh with ⟨k', rfl, hr⟩ | ⟨kind, kept, rfl, hdn⟩
    · exact ⟨hr, fun _ => id⟩
    · exact ⟨hdn, fun _ => id⟩
  exact h.keep hh hv hk.1 hheld hvis (fun x hl => absurd hl (hnl x)) (djOK_of_free hk.2)

theorem lock_step {a : Nat} {st : St} {c : Ctl} (h : Local o a c st) (hno : ∀ x, ¬ lockedAt c x)
    (s : Nat) (k : Ctl) (hany : holdsAny st.c.holds a s = true) (hsh : Shape (.dj .lock s k))
    (hheld : ∀ x, (heldOf k).count x = (heldOf c).count x) (hvis : VisOK a st (visOf k))
    (lb : Lbl) (c' : Ctl) (ho : (lb, c') ∈ djOpts a st .lock s k) :
    ∃ st', step st lb = some st' ∧ Local o a c' st' := by
  have hnl := h.unlocked hno
  have hfail : lockOk st s = false → ∃ st', step st lb = some st' ∧ Local o a c' st' := by
    intro hf
    simp only [djOpts, hf, Bool.false_eq_true, if_false, List.mem_singleton, Prod.mk.injEq] at ho
    obtain ⟨rfl, rfl⟩ := ho
    exact ⟨st, step_lockX_fail hany hf, local_to_k h rfl rfl hnl hsh hheld hvis⟩
  cases hp : st.c.parts s with
  | none => exact hfail (by simp [lockOk, lockRaw, hp])
  | some p =>
    by_cases hcnd : (!p.exclusive && p.readers == 1) = true
    · have hok : lockOk st s = true := by simp [lockOk, lockRaw, hp, hcnd]
      have hs : upd st.c.locker s (some a) s = some a := upd_same _ _ _
      have key : ∀ ph, ph ≠ DjPh.lock → Local o a (.dj ph s k) (st.lock s p a) := by
        intro ph hph
        refine h.keep rfl rfl hsh hheld hvis ?_ ?_
        · intro x hl
          by_cases e : x = s
          · subst e; cases ph <;> simp_all [lockedAt]
          · exact absurd ((upd_other _ _ _ _ e).symm.trans hl) (hnl x)
        · cases ph with
          | lock => exact absurd rfl hph
          | delete => exact hs
          | unlock => exact Or.inl hs
      simp only [djOpts, hok, if_true, List.mem_cons, Prod.mk.injEq, List.not_mem_nil, or_false] at ho
      rcases ho with ⟨rfl, rfl⟩ | ⟨rfl, rfl⟩
      · exact ⟨_, step_lockX hany hp hcnd, key _ (by simp)⟩
      · exact ⟨_, step_lockX hany hp hcnd, key _ (by simp)⟩
    · exact hfail (by simp [lockOk, lockRaw, hp, hcnd])

theorem own_dj {a : Nat} {st : St} (ph : DjPh) (s : Nat) (k : Ctl) (hi : StInv st)
    (h : Local o a (.dj ph s k) st) (lb : Lbl) (c' : Ctl) (ho : (lb, c') ∈ pnext a st (.dj ph s k)) :
    ∃ st', step st lb = some st' ∧ Local o a c' st' := by
  simp only [pnext] at ho
  -- once the lock on `s` is given up the actor holds none
  have hnl' : ph ≠ .lock → ∀ x, upd st.c.locker s none x ≠ some a := by
    intro hph x hlx
    by_cases e : x = s
    · subst e; rw [upd_same] at hlx; cases hlx
    · rw [upd_other _ _ _ _ e] at hlx
      have := h.lck x hlx
      cases ph <;> simp_all [lockedAt]
  cases ph with
  | lock => exact lock_step h (fun _ => id) s k (holds_of_local_dj h) h.shape (fun _ => rfl) h.vis lb c' ho
  | delete =>
    simp only [djOpts, List.mem_singleton, Prod.mk.injEq] at ho
    obtain ⟨rfl, rfl⟩ := ho
    have hl : st.c.locker s = some a := h.dj
    obtain ⟨p, hp, hx, _⟩ := locker_part hi.core hl
    have hlt : s < st.c.next := Nat.lt_of_not_le (fun h1 => by rw [hi.core.fresh s h1] at hp; cases hp)
    exact ⟨_, step_delete hl hp hx, h.keep rfl rfl h.shape (fun _ => rfl) h.vis
      (fun x hlx => absurd hlx (hnl' (by simp) x)) (Or.inr ⟨upd_same _ _ _, hlt⟩)⟩
  | unlock =>
    simp only [djOpts, List.mem_singleton, Prod.mk.injEq] at ho
    obtain ⟨rfl, rfl⟩ := ho
    cases hp : st.c.parts s with
    | none =>
      refine ⟨st, step_unlockX_none hp, local_to_k h rfl rfl ?_ h.shape (fun _ => rfl) h.vis⟩
      intro x hl
      have := h.lck x hl; simp only [lockedAt] at this; subst this
      obtain ⟨p, hp', _⟩ := hi.core.lck _ _ hl
      rw [hp] at hp'; cases hp'
    | some p0 =>
      have hl : st.c.locker s = some a := by
        rcases h.dj with hl | ⟨hn, _⟩
        · exact hl
        · rw [hp] at hn; cases hn
      obtain ⟨p, hp', hx, hr1⟩ := locker_part hi.core hl
      exact ⟨_, step_unlockX hl hp' hx hr1, local_to_k h rfl rfl (hnl' (by simp)) h.shape (fun _ => rfl) h.vis⟩

/-! ### Visit -/

/-- the final locked section -/
theorem end_step {a : Nat} {st : St} {c : Ctl} (hi : StInv st) (h : Local o a c st) (hno : ∀ x, ¬ lockedAt c x)
    (v : Visit) (hv : st.vis a = some v) (hfin : (v.pending.isEmpty || v.aborted) = true) (hcur : v.cur = none)
    (kind : VKind) (kept : List Nat) (hheld : ∀ x, (heldOf c).count x = kept.count x) :
    ∃ st', step st (.visitEnd a) = some st' ∧ Local o a (afterVisit kind kept) st' := by
  have hnl := h.unlocked hno
  have hmay : ∀ x, x ∈ v.owed → mayRelease st.c a x = true := by
    intro x _; simp only [mayRelease, Bool.or_eq_true]; right; simpa using hnl x
  have hcnt : ∀ x, v.owed.count x ≤ st.c.holds.count ⟨a, x, true⟩ := by
    intro x; rw [h.aut x, hv]; simp only [owedCount]; omega
  obtain ⟨_, i2, i3⟩ := relAll_inv a st.c.next st.c.locker v.owed st.c.parts st.c.holds hi.core hmay hcnt
  refine ⟨_, step_visitEnd hv hfin hcur hmay, local_idle (idle_afterVisit kind kept) ?_ ?_ (upd_same _ _ _) hnl⟩
  · intro x; exact (i2 _ (Or.inr rfl)).trans ((h.cli x).trans (hheld x))
  · intro x
    show List.count _ (relAll a v.owed st.c.parts st.c.holds).2 = owedCount (upd st.vis a none a) x + o x
    rw [upd_same]
    have := i3 x
    have h2 := h.aut x
    rw [hv] at h2
    simp only [owedCount] at h2 ⊢
    omega

theorem cnt_list_erase (l : List Nat) (s x : Nat) : (l.erase s).count x = l.count x - (if s = x then 1 else 0) := by
  by_cases e : s = x
  · subst e; rw [List.count_erase_self]; simp
  · rw [List.count_erase_of_ne (fun h => e h.symm)]; simp [e]

/-- the visitor returns (continue / abort), auto-release visits -/
theorem ret_step {a : Nat} {st : St} {c : Ctl} (h : Local o a c st) (hno : ∀ x, ¬ lockedAt c x)
    (v : Visit) (hv : st.vis a = some v) (kind : VKind) (hsk : v.skipping = skipOf kind) (hnr : v.noRelease = dnrOf kind)
    (hsub : skipOf kind = true → ∀ x, x ∈ v.pending → x ∈ v.owed) (hdn : dnrOf kind = false)
    (s : Nat) (hcb : cbOk v s = true) (kept : List Nat) (hheld : ∀ x, (heldOf c).count x = kept.count x)
    (lb : Lbl) (c' : Ctl) (ho : (lb, c') ∈ retOpts a kind s kept) :
    ∃ st', step st lb = some st' ∧ Local o a c' st' := by
  have hnl := h.unlocked hno
  have hnr' : v.noRelease = false := by rw [hnr, hdn]
  have key : ∀ (cont : Bool) (c'' : Ctl), Shape c'' → (∀ x, ¬ lockedAt c'' x) →
      (∀ x, (heldOf c'').count x = kept.count x) →
      visOf c'' = some (kind, if cont then VPhase.pick else VPhase.fin) →
      ∃ st', step st (.visitCb a s cont) = some st' ∧ Local o a c'' st' := by
    intro cont c'' h1 h2 h4 h5
    refine ⟨_, step_visitCb_keep hv hcb hnr' cont, h1, fun x => by rw [h4 x, ← hheld x]; exact h.cli x, ?_, ?_,
      fun x hl => absurd hl (hnl x), djOK_of_free h2⟩
    · intro x
      show List.count _ st.c.holds = owedCount (upd st.vis a _ a) x + o x
      rw [upd_same, h.aut x, hv]; rfl
    · rw [h5]
      refine ⟨_, upd_same _ _ _, hsk, hnr, ?_, ?_⟩
      · intro hs x hx; exact hsub hs x (List.mem_of_mem_erase hx)
      · cases cont <;> simp [PhaseOK]
  simp only [retOpts, List.mem_cons, Prod.mk.injEq, List.not_mem_nil, or_false] at ho
  rcases ho with ⟨rfl, rfl⟩ | ⟨rfl, rfl⟩
  · exact key true _ trivial (fun _ => id) (fun _ => rfl) rfl
  · exact key false _ trivial (fun _ => id) (fun _ => rfl) rfl

/-- the visitor of `GetJournals` returns: the entry becomes the client's (`VF_DO_NOT_RELEASE`) -/
theorem gj_step {a : Nat} {st : St} {c : Ctl} (h : Local o a c st) (hno : ∀ x, ¬ lockedAt c x)
    (v : Visit) (hv : st.vis a = some v) (hsk : v.skipping = false) (hnr : v.noRelease = true)
    (s : Nat) (hcb : cbOk v s = true) (kept : List Nat) (hheld : ∀ x, (heldOf c).count x = kept.count x)
    (lb : Lbl) (c' : Ctl) (ho : (lb, c') ∈ cbOpts a st .getJournals s kept) :
    ∃ st', step st lb = some st' ∧ Local o a c' st' := by
  have hnl := h.unlocked hno
  have key : ∀ (cont : Bool) (c'' : Ctl), Shape c'' → (∀ x, ¬ lockedAt c'' x) →
      (∀ x, (heldOf c'').count x = (s :: kept).count x) →
      visOf c'' = some (VKind.getJournals, if cont then VPhase.pick else VPhase.fin) →
      ∃ st', step st (.visitCb a s cont) = some st' ∧ Local o a c'' st' := by
    intro cont c'' h1 h2 h4 h5
    refine ⟨_, step_visitCb_conv hv hcb hnr cont, h1, ?_, ?_, ?_, fun x hl => absurd hl (hnl x), djOK_of_free h2⟩
    · intro x
      show List.count _ (_ :: st.c.holds.erase _) = _
      rw [cnt_cons_self, cnt_erase_tf, h.cli x, hheld x, h4 x, cnt_list]
    · intro x
      show List.count _ (_ :: st.c.holds.erase _) = owedCount (upd st.vis a _ a) x + o x
      rw [upd_same, count_cons_false, cnt_erase_self, h.aut x, hv]
      simp only [owedCount]; rw [cnt_list_erase]
      have h1 := List.one_le_count_iff.mpr (cbOk_owed hcb)
      by_cases e : s = x
      · subst e; simp only [if_true]; omega
      · simp only [e, if_false]; omega
    · rw [h5]
      refine ⟨_, upd_same _ _ _, hsk, hnr, by simp [skipOf], ?_⟩
      cases cont <;> simp [PhaseOK]
  simp only [cbOpts, List.mem_cons, Prod.mk.injEq, List.not_mem_nil, or_false] at ho
  rcases ho with ⟨rfl, rfl⟩ | ⟨rfl, rfl⟩ | ⟨rfl, rfl⟩
  · exact key true _ trivial (fun _ => id) (fun _ => rfl) rfl
  · exact key false _ trivial (fun _ => id) (fun _ => rfl) rfl
  · exact key false _ trivial (fun _ => id) (fun _ => by simp [heldOf]) rfl

theorem own_vStart {a : Nat} {st : St} (kind : VKind) (sel : List Nat) (hi : StInv st) (hd : st.done = false)
    (h : Local o a (.vStart kind sel) st) (lb : Lbl) (c' : Ctl) (ho : (lb, c') ∈ pnext a st (.vStart kind sel)) :
    ∃ st', step st lb = some st' ∧ Local o a c' st' := by
  simp only [pnext, hd, Bool.false_eq_true, if_false, List.mem_singleton, Prod.mk.injEq] at ho
  obtain ⟨rfl, rfl⟩ := ho
  have hv : st.vis a = none := h.vis
  obtain ⟨_, _, _, f2, f3, _⟩ :=
    snap_inv a sel (skipOf kind) st.c.next st.c.locker (List.range st.c.next) st.c.parts st.c.holds hi.core
  refine ⟨_, step_visitBegin hv hd sel _ _, trivial, ?_, ?_, ?_, fun x hl => absurd hl (h.unlocked (fun _ => id) x), trivial⟩
  · intro x
    show List.count _ (snap a sel (skipOf kind) (List.range st.c.next) st.c.parts st.c.holds).2.1 = _
    rw [f2 _ (Or.inr rfl), h.cli x]; rfl
  · intro x
    show List.count _ (snap a sel (skipOf kind) (List.range st.c.next) st.c.parts st.c.holds).2.1 = owedCount (upd st.vis a _ a) x + o x
    rw [upd_same, f3 x, h.aut x, hv]
    simp only [owedCount]
    cases skipOf kind <;> simp
  · refine ⟨_, upd_same _ _ _, rfl, rfl, ?_, by simp [PhaseOK]⟩
    intro hs x hx; simp only [hs, if_true] at hx ⊢; exact hx

theorem own_cb {a : Nat} {st : St} {c : Ctl} (hi : StInv st) (h : Local o a c st) (hno : ∀ x, ¬ lockedAt c x)
    (v : Visit) (hv : st.vis a = some v) (kind : VKind) (hsk : v.skipping = skipOf kind) (hnr : v.noRelease = dnrOf kind)
    (hsub : skipOf kind = true → ∀ x, x ∈ v.pending → x ∈ v.owed)
    (s : Nat) (hcb : cbOk v s = true) (kept : List Nat) (hheld : ∀ x, (heldOf c).count x = kept.count x)
    (lb : Lbl) (c' : Ctl) (ho : (lb, c') ∈ cbOpts a st kind s kept) :
    ∃ st', step st lb = some st' ∧ Local o a c' st' := by
  cases kind with
  | partitions => exact ret_step h hno v hv _ hsk hnr hsub rfl s hcb kept hheld lb c' ho
  | getJournals => exact gj_step h hno v hv hsk hnr s hcb kept hheld lb c' ho
  | truncate items =>
    simp only [cbOpts, List.mem_append] at ho
    rcases ho with ho | ho
    · exact ret_step h hno v hv _ hsk hnr hsub rfl s hcb kept hheld lb c' ho
    · exact lock_step h hno s _ (by simp [holdsAny, h.owed_mem hv (cbOk_owed hcb)]) (Or.inr ⟨_, _, rfl, rfl⟩)
        (fun x => (hheld x).symm) ⟨v, hv, hsk, hnr, hsub, hcb⟩ lb c' ho

theorem own_visit {a : Nat} {st : St} (c : Ctl) (hi : StInv st) (h : Local o a c st)
    (hc : (∃ kind kept, c = .vPick kind kept) ∨ (∃ kind s kept, c = .vCb kind s kept) ∨
          (∃ kind s kept, c = .vRet kind s kept) ∨ (∃ kind kept, c = .vEnd kind kept))
    (lb : Lbl) (c' : Ctl) (ho : (lb, c') ∈ pnext a st c) :
    ∃ st' o', step st lb = some st' ∧ Local o' a c' st' ∧ (st.done = false → o' = o) := by
  have lift : (∃ st', step st lb = some st' ∧ Local o a c' st') →
      ∃ st' o', step st lb = some st' ∧ Local o' a c' st' ∧ (st.done = false → o' = o) :=
    fun ⟨st', h1, h2⟩ => ⟨st', o, h1, h2, fun _ => rfl⟩
  rcases hc with ⟨kind, kept, rfl⟩ | ⟨kind, s, kept, rfl⟩ | ⟨kind, s, kept, rfl⟩ | ⟨kind, kept, rfl⟩
  · -- between callbacks
    obtain ⟨v, hv, hsk, hnr, hsub, hab, hcur⟩ := h.vis
    have hno : ∀ x, ¬ lockedAt (.vPick kind kept) x := fun _ => id
    simp only [pnext, hv] at ho
    by_cases hemp : v.pending.isEmpty = true
    · simp only [hemp, if_true, List.mem_singleton, Prod.mk.injEq] at ho
      obtain ⟨rfl, rfl⟩ := ho
      exact lift (end_step hi h hno v hv (by simp [hemp]) hcur kind kept (fun _ => rfl))
    · simp only [hemp, Bool.false_eq_true, if_false] at ho
      by_cases hskip : skipOf kind = true
      · simp only [hskip, if_true, List.mem_flatMap] at ho
        obtain ⟨s, hsp, ho⟩ := ho
        have hcb : cbOk v s = true := by
          simp [cbOk, hab, hsk, hskip, hsp, hsub hskip s hsp]
        exact lift (own_cb hi h hno v hv kind hsk hnr hsub s hcb kept (fun _ => rfl) lb c' ho)
      · simp only [hskip, Bool.false_eq_true, if_false] at ho
        have hsk' : v.skipping = false := by rw [hsk]; simpa using hskip
        by_cases hd : st.done = true
        · -- `Shutdown()` happened: the per-item section returns at once, the final locked section is skipped; what
          -- the visit still owed stays acquired (the orphans `o'`)
          simp only [hd, if_true, List.mem_map, Prod.mk.injEq] at ho
          obtain ⟨s, hsp, rfl, rfl⟩ := ho
          refine ⟨_, fun x => o x + v.owed.count x, step_visitTry_done hv ⟨hsk', hab, hcur, hsp⟩ hd,
            local_idle (idle_afterVisit kind kept) h.cli ?_ (upd_same _ _ _) (h.unlocked hno),
            fun h0 => by rw [hd] at h0; cases h0⟩
          intro x
          show List.count _ st.c.holds = owedCount (upd st.vis a none a) x + (o x + v.owed.count x)
          rw [upd_same, h.aut x, hv]; simp only [owedCount]; omega
        · have hd : st.done = false := by simpa using hd
          apply lift
          simp only [hd, Bool.false_eq_true, if_false, List.mem_flatMap] at ho
          obtain ⟨s, hsp, ho⟩ := ho
          cases hp : st.c.parts s with
          | none =>
            simp only [hp, List.mem_singleton, Prod.mk.injEq] at ho
            obtain ⟨rfl, rfl⟩ := ho
            refine ⟨_, step_visitTry_gone hv ⟨hsk', hab, hcur, hsp⟩ hd hp, h.shape, h.cli, ?_, ?_, h.lck, h.dj⟩
            · intro x
              show List.count _ st.c.holds = owedCount (upd st.vis a _ a) x + o x
              rw [upd_same, h.aut x, hv]; rfl
            · exact ⟨_, upd_same _ _ _, hsk, hnr, fun hs => absurd hs hskip, hab, hcur⟩
          | some p =>
            simp only [hp] at ho
            by_cases hx : p.exclusive = true
            · simp only [hx, if_true, List.mem_singleton, Prod.mk.injEq] at ho
              obtain ⟨rfl, rfl⟩ := ho
              exact ⟨st, step_visitTry_wait hv ⟨hsk', hab, hcur, hsp⟩ hd hp hx, h⟩
            · simp only [hx, Bool.false_eq_true, if_false, List.mem_singleton, Prod.mk.injEq] at ho
              obtain ⟨rfl, rfl⟩ := ho
              refine ⟨_, step_visitTry_acq hv ⟨hsk', hab, hcur, hsp⟩ hd hp (by simpa using hx), trivial, ?_, ?_, ?_,
                fun x hl => absurd hl (h.unlocked hno x), trivial⟩
              · intro x
                show List.count _ (_ :: st.c.holds) = _
                rw [cnt_cons_tf]; exact h.cli x
              · intro x
                show List.count _ (_ :: st.c.holds) = owedCount (upd st.vis a _ a) x + o x
                rw [upd_same, cnt_cons_self, h.aut x, hv]
                simp only [owedCount]; rw [cnt_list]; omega
              · refine ⟨_, upd_same _ _ _, hsk, hnr, fun hs => absurd hs hskip, ?_⟩
                simp [PhaseOK, cbOk, hab, hsk']
  · obtain ⟨v, hv, hsk, hnr, hsub, hcb⟩ := h.vis
    simp only [pnext] at ho
    exact lift (own_cb hi h (fun _ => id) v hv kind hsk hnr hsub s hcb kept (fun _ => rfl) lb c' ho)
  · obtain ⟨v, hv, hsk, hnr, hsub, hcb⟩ := h.vis
    simp only [pnext] at ho
    exact lift (ret_step h (fun _ => id) v hv kind hsk hnr hsub h.shape s hcb kept (fun _ => rfl) lb c' ho)
  · obtain ⟨v, hv, hsk, hnr, hsub, hfin, hcur⟩ := h.vis
    simp only [pnext, List.mem_singleton, Prod.mk.injEq] at ho
    obtain ⟨rfl, rfl⟩ := ho
    refine lift (end_step hi h (fun _ => id) v hv ?_ hcur kind kept (fun _ => rfl))
    rcases hfin with hf | hf
    · simp [hf]
    · simp [hf]

/-! ### after `Shutdown()`: every acquisition fails, the callers go on without it -/

theorem own_down {a : Nat} {st : St} {c : Ctl} (hd : st.done = true) (h : Local o a c st)
    (hc : (∃ t cr, c = .acqTags t cr) ∨ (∃ s r d, c = .idLoop s r d) ∨ (∃ s r, c = .peek s r) ∨ (∃ kind sel, c = .vStart kind sel))
    (lb : Lbl) (c' : Ctl) (ho : (lb, c') ∈ pnext a st c) : ∃ st', step st lb = some st' ∧ Local o a c' st' := by
  rcases hc with ⟨t, cr, rfl⟩ | ⟨s, r, d, rfl⟩ | ⟨s, r, rfl⟩ | ⟨kind, sel, rfl⟩
  · simp only [pnext, hd, if_true, List.mem_singleton, Prod.mk.injEq] at ho
    obtain ⟨rfl, rfl⟩ := ho
    exact ⟨st, step_getOrCreate_done hd _ _, h.idle (idle_entry trivial) (idle_entry trivial)⟩
  · simp only [pnext, acqById, hd, if_true, List.mem_singleton, Prod.mk.injEq] at ho
    obtain ⟨rfl, rfl⟩ := ho
    exact ⟨st, step_getTags_done hd _, h.idle (idle_entry trivial) (idle_idLoopOf r d)⟩
  · simp only [pnext, acqById, hd, if_true, List.mem_singleton, Prod.mk.injEq] at ho
    obtain ⟨rfl, rfl⟩ := ho
    exact ⟨st, step_getTags_done hd _, h.idle (idle_entry trivial) (idle_peekOf r)⟩
  · simp only [pnext, hd, if_true, List.mem_singleton, Prod.mk.injEq] at ho
    obtain ⟨rfl, rfl⟩ := ho
    exact ⟨st, step_visitBegin_done h.vis hd _ _ _, h.idle (idle_entry trivial) (idle_afterVisit kind [])⟩

/-! ### every control state; the system invariant -/

theorem own_step {a : Nat} {st : St} {c : Ctl} (hi : StInv st) (h : Local o a c st)
    (lb : Lbl) (c' : Ctl) (ho : (lb, c') ∈ pnext a st c) :
    ∃ st' o', step st lb = some st' ∧ Local o' a c' st' ∧ (st.done = false → o' = o) := by
  have lift : (∃ st', step st lb = some st' ∧ Local o a c' st') →
      ∃ st' o', step st lb = some st' ∧ Local o' a c' st' ∧ (st.done = false → o' = o) :=
    fun ⟨st', h1, h2⟩ => ⟨st', o, h1, h2, fun _ => rfl⟩
  cases c with
  | fin => simp [pnext] at ho
  | rel s l k => exact lift (own_rel s l k hi h lb c' ho)
  | dj ph s k => exact lift (own_dj ph s k hi h lb c' ho)
  | vPick kind kept => exact own_visit _ hi h (Or.inl ⟨_, _, rfl⟩) lb c' ho
  | vCb kind s kept => exact own_visit _ hi h (Or.inr (Or.inl ⟨_, _, _, rfl⟩)) lb c' ho
  | vRet kind s kept => exact own_visit _ hi h (Or.inr (Or.inr (Or.inl ⟨_, _, _, rfl⟩))) lb c' ho
  | vEnd kind kept => exact own_visit _ hi h (Or.inr (Or.inr (Or.inr ⟨_, _, rfl⟩))) lb c' ho
  | acqTags t cr =>
    rcases Bool.eq_false_or_eq_true st.done with hd | hd
    · exact lift (own_down hd h (Or.inl ⟨_, _, rfl⟩) lb c' ho)
    · exact lift (own_acqTags t cr hd h lb c' ho)
  | idLoop s r d =>
    rcases Bool.eq_false_or_eq_true st.done with hd | hd
    · exact lift (own_down hd h (Or.inr (Or.inl ⟨_, _, _, rfl⟩)) lb c' ho)
    · exact lift (own_idLoop s r d hd h lb c' ho)
  | peek s r => exact lift (own_peek s r h lb c' ho)
  | vStart kind sel =>
    rcases Bool.eq_false_or_eq_true st.done with hd | hd
    · exact lift (own_down hd h (Or.inr (Or.inr (Or.inr ⟨_, _, rfl⟩))) lb c' ho)
    · exact lift (own_vStart kind sel hi hd h lb c' ho)

theorem djOpts_actor (a : Nat) (st : St) (ph : DjPh) (s : Nat) (k : Ctl) (lb : Lbl) (c' : Ctl)
    (ho : (lb, c') ∈ djOpts a st ph s k) : actorOf lb = some a := by
  cases ph with
  | lock =>
    simp only [djOpts] at ho
    by_cases hk : lockOk st s = true
    · simp only [hk, if_true, List.mem_cons, Prod.mk.injEq, List.not_mem_nil, or_false] at ho
      rcases ho with ⟨rfl, _⟩ | ⟨rfl, _⟩ <;> rfl
    · simp only [hk, Bool.false_eq_true, if_false, List.mem_singleton, Prod.mk.injEq] at ho
      rcases ho with ⟨rfl, _⟩; rfl
  | delete => simp only [djOpts, List.mem_singleton, Prod.mk.injEq] at ho; rcases ho with ⟨rfl, _⟩; rfl
  | unlock => simp only [djOpts, List.mem_singleton, Prod.mk.injEq] at ho; rcases ho with ⟨rfl, _⟩; rfl

theorem cbOpts_actor (a : Nat) (st : St) (kind : VKind) (s : Nat) (kept : List Nat) (lb : Lbl) (c' : Ctl)
    (ho : (lb, c') ∈ cbOpts a st kind s kept) : actorOf lb = some a := by
  cases kind with
  | partitions => simp [cbOpts, retOpts] at ho; rcases ho with ⟨rfl, _⟩ | ⟨rfl, _⟩ <;> rfl
  | getJournals => simp [cbOpts] at ho; rcases ho with ⟨rfl, _⟩ | ⟨rfl, _⟩ | ⟨rfl, _⟩ <;> rfl
  | truncate items =>
    simp only [cbOpts, List.mem_append] at ho
    rcases ho with ho | ho
    · simp [retOpts] at ho; rcases ho with ⟨rfl, _⟩ | ⟨rfl, _⟩ <;> rfl
    · exact djOpts_actor a st _ s _ lb c' ho

theorem pnext_actor (a : Nat) (st : St) (c : Ctl) (lb : Lbl) (c' : Ctl) (ho : (lb, c') ∈ pnext a st c) :
    actorOf lb = some a := by
  cases c with
  | fin => simp [pnext] at ho
  | acqTags t cr =>
    simp only [pnext] at ho
    repeat' split at ho
    all_goals (simp at ho; rcases ho with ⟨rfl, _⟩; rfl)
  | rel s l k => simp [pnext] at ho; rcases ho with ⟨rfl, _⟩; rfl
  | idLoop s r d =>
    simp only [pnext] at ho
    have key : ∀ (l : List (Lbl × Ctl)), (∀ x, x ∈ l → x.1 = Lbl.getTags a s true) → (lb, c') ∈ l → actorOf lb = some a := by
      intro l hl hm; have := hl _ hm; simp only [] at this; rw [this]; rfl
    cases hacq : acqById st s <;> simp only [hacq] at ho
    · exact key _ (by simp) ho
    · exact key _ (by simp) ho
    · exact key _ (by simp) ho
    · cases d <;> simp only [Bool.false_eq_true, if_false, if_true] at ho
      · exact key _ (by simp) ho
      · exact key _ (by simp) ho
  | peek s r =>
    simp only [pnext] at ho
    repeat' split at ho
    all_goals (simp at ho; rcases ho with ⟨rfl, _⟩; rfl)
  | dj ph s k => exact djOpts_actor a st ph s k lb c' ho
  | vStart kind sel =>
    simp only [pnext] at ho
    split at ho <;> (simp at ho; rcases ho with ⟨rfl, _⟩; rfl)
  | vPick kind kept =>
    simp only [pnext] at ho
    split at ho
    · simp at ho
    · split at ho
      · simp at ho; rcases ho with ⟨rfl, _⟩; rfl
      · split at ho
        · simp only [List.mem_flatMap] at ho
          obtain ⟨s, _, ho⟩ := ho
          exact cbOpts_actor a st kind s kept lb c' ho
        · split at ho
          · simp only [List.mem_map, Prod.mk.injEq] at ho
            obtain ⟨s, _, rfl, _⟩ := ho; rfl
          · simp only [List.mem_flatMap] at ho
            obtain ⟨s, _, ho⟩ := ho
            repeat' split at ho
            all_goals (simp at ho; rcases ho with ⟨rfl, _⟩; rfl)
  | vCb kind s kept => exact cbOpts_actor a st kind s kept lb c' ho
  | vRet kind s kept => simp [pnext, retOpts] at ho; rcases ho with ⟨rfl, _⟩ | ⟨rfl, _⟩ <;> rfl
  | vEnd kind kept => simp [pnext] at ho; rcases ho with ⟨rfl, _⟩; rfl

/-- the system invariant. `orph a s`: the visit-owned acquisitions that waiting visits of `a`, interrupted by `Shutdown()`,
left behind (nothing before `Shutdown()`) -/
structure SysInv (x : Sys) : Prop where
  st : StInv x.st
  loc : ∃ orph : Nat → Nat → Nat, (x.st.done = false → ∀ a s, orph a s = 0) ∧ ∀ a, Local (orph a) a (x.ctl a) x.st

theorem SysInv.locE {x : Sys} (h : SysInv x) (a : Nat) : ∃ o, Local o a (x.ctl a) x.st := by
  obtain ⟨orph, _, hl⟩ := h.loc; exact ⟨orph a, hl a⟩

theorem SysInv.loc0 {x : Sys} (h : SysInv x) (hd : x.st.done = false) (a : Nat) : Local (fun _ => 0) a (x.ctl a) x.st := by
  obtain ⟨orph, h0, hl⟩ := h.loc
  have : orph a = fun _ => 0 := funext (fun s => h0 hd a s)
  rw [← this]; exact hl a

theorem sysInv_step {x y : Sys} (h : SysInv x) (s : SysStep x y) : SysInv y := by
  obtain ⟨a, l, c', ho, hs, hctl⟩ := s
  obtain ⟨orph, h0, hl⟩ := h.loc
  obtain ⟨st', o', hs', hloc, hsame⟩ := own_step h.st (hl a) l c' ho
  have e : st' = y.st := by rw [hs] at hs'; exact (Option.some.inj hs').symm
  subst e
  have hact := pnext_actor a x.st (x.ctl a) l c' ho
  refine ⟨step_inv _ _ _ h.st hs, upd orph a o', ?_, ?_⟩
  · intro hd b s
    have hdx : x.st.done = false := by
      rcases step_done hs with e | ⟨rfl, _⟩
      · rw [← e]; exact hd
      · cases hact
    by_cases e : b = a
    · subst e; rw [upd_same, hsame hdx]; exact h0 hdx b s
    · rw [upd_other _ _ _ _ e]; exact h0 hdx b s
  · intro b
    rw [hctl]
    by_cases e : b = a
    · subst e; rw [upd_same, upd_same]; exact hloc
    · rw [upd_other _ _ _ _ e, upd_other _ _ _ _ e]
      exact local_frame (frame h.st hs hact (Ne.symm e)) (hl b)

/-- `Shutdown()` changes nothing an actor can see of its own -/
theorem local_shutdown {a : Nat} {c : Ctl} {st : St} (h : Local o a c st) : Local o a c { st with done := true } := by
  refine ⟨h.shape, h.cli, h.aut, ?_, h.lck, ?_⟩
  · have hv := h.vis
    cases hvo : visOf c with
    | none => rw [hvo] at hv; exact hv
    | some kp => rw [hvo] at hv; obtain ⟨kind, ph⟩ := kp; exact hv
  · have hd := h.dj
    cases c with
    | dj ph s k => cases ph <;> exact hd
    | _ => trivial

theorem sysInv_reach {x : Sys} (h : Reach x) : SysInv x := by
  induction h with
  | start ctl he =>
    exact ⟨inv_init, fun _ _ => 0, fun _ _ _ => rfl, fun a =>
      local_idle (idle_entry (he a)) (fun _ => rfl) (fun _ => rfl) rfl (fun _ hl => nomatch hl)⟩
  | step _ s ih => exact sysInv_step ih s
  | call _ a c hf he ih =>
    obtain ⟨orph, h0, hl⟩ := ih.loc
    refine ⟨ih.st, orph, h0, fun b => ?_⟩
    show Local (orph b) b (upd _ a c b) _
    by_cases e : b = a
    · subst e; rw [upd_same]; exact (hf ▸ hl b).idle (idle_entry trivial) (idle_entry he)
    · rw [upd_other _ _ _ _ e]; exact hl b
  | shutdown _ ih =>
    obtain ⟨orph, _, hl⟩ := ih.loc
    exact ⟨step_inv _ _ .shutdown ih.st rfl, orph, fun hd => by simp at hd, fun b => local_shutdown (hl b)⟩

/-! ### progress -/

theorem ne_rel (s : Nat) (l : List Nat) (k : Ctl) : k ≠ Ctl.rel s l k := by
  intro e; have := congrArg sizeOf e; simp at this
theorem ne_dj (ph : DjPh) (s : Nat) (k : Ctl) : k ≠ Ctl.dj ph s k := by
  intro e; have := congrArg sizeOf e; simp at this
theorem idLoopOf_ne (s : Nat) (r : List Nat) (d : Bool) : idLoopOf r d ≠ Ctl.idLoop s r d := by
  cases r <;> simp [idLoopOf]
theorem peekOf_ne (s : Nat) (r : List Nat) : peekOf r ≠ Ctl.peek s r := by
  cases r <;> simp [peekOf]
theorem relThen_ne (s : Nat) (l : List Nat) (k : Ctl) : relThen l k ≠ Ctl.rel s l k := by
  cases l with
  | nil => exact ne_rel s [] k
  | cons x xs => simp [relThen]

theorem relThen_shape_ne (l : List Nat) (k c : Ctl) (hk : ∀ s l' k', k ≠ Ctl.rel s l' k' → True)
    (h1 : k ≠ c) (h2 : ∀ s l' k', c ≠ Ctl.rel s l' k') : relThen l k ≠ c := by
  cases l with
  | nil => exact h1
  | cons x xs => exact fun e => h2 _ _ _ e.symm

theorem afterVisit_ne_vis (kind : VKind) (kept : List Nat) (c : Ctl) (hv : (visOf c).isSome = true)
    (hr : ∀ s l' k', c ≠ Ctl.rel s l' k') : afterVisit kind kept ≠ c := by
  intro e
  have := (idle_afterVisit kind kept).vis
  rw [e] at this; rw [this] at hv; cases hv

/-- what it means that an option is not a pure wait: the control state or the shared state changes -/
def Moves (st : St) (c : Ctl) (l : Lbl) (c' : Ctl) : Prop :=
  ∃ st', step st l = some st' ∧ (c' ≠ c ∨ st' ≠ st)

theorem acqById_wait {st : St} {s : Nat} (h : acqById st s = .wait) :
    st.done = false ∧ ∃ s' p, s = s' ∧ st.c.parts s' = some p ∧ p.exclusive = true := by
  unfold acqById at h
  by_cases hd : st.done = true
  · rw [if_pos hd] at h; cases h
  rw [if_neg hd] at h
  cases hp : st.c.parts s with
  | none => simp only [hp] at h; cases h
  | some p =>
    simp only [hp] at h
    by_cases hx : p.exclusive = true
    · exact ⟨by simpa using hd, s, p, rfl, hp, hx⟩
    · rw [if_neg hx] at h; cases h

theorem moves_or_needs {a : Nat} {st : St} {c : Ctl} (hi : StInv st) (h : Local o a c st) (hc : c ≠ .fin) :
    (∃ l c', (l, c') ∈ pnext a st c ∧ Moves st c l c') ∨
      (st.done = false ∧ ∃ s p, needs a st c s ∧ st.c.parts s = some p ∧ p.exclusive = true) := by
  -- an option whose control state differs moves (it is enabled: the callers follow the protocol)
  have mv : ∀ l c', (l, c') ∈ pnext a st c → c' ≠ c → (∃ l c', (l, c') ∈ pnext a st c ∧ Moves st c l c') ∨
      (st.done = false ∧ ∃ s p, needs a st c s ∧ st.c.parts s = some p ∧ p.exclusive = true) := by
    intro l c' ho hne
    obtain ⟨st', _, hs, _⟩ := own_step hi h l c' ho
    exact Or.inl ⟨l, c', ho, st', hs, Or.inl hne⟩
  cases c with
  | fin => exact absurd rfl hc
  | acqTags t cr =>
    rcases Bool.eq_false_or_eq_true st.done with hd | hd
    · exact mv (.getOrCreate a t cr) .fin (by simp [pnext, hd]) (by simp)
    cases hf : findTags st.c.parts t st.c.next with
    | some s =>
      cases hp : st.c.parts s with
      | some p =>
        by_cases hx : p.exclusive = true
        · exact Or.inr ⟨hd, s, p, hf, hp, hx⟩
        · exact mv (.getOrCreate a t cr) (.rel s [] .fin) (by simp [pnext, hd, hf, hp, hx]) (by simp)
      | none => exact mv (.getOrCreate a t cr) .fin (by simp [pnext, hd, hf, hp]) (by simp)
    | none =>
      cases cr with
      | true => exact mv (.getOrCreate a t true) (.rel st.c.next [] .fin) (by simp [pnext, hd, hf]) (by simp)
      | false => exact mv (.getOrCreate a t false) .fin (by simp [pnext, hd, hf]) (by simp)
  | rel s l k => exact mv (.release a s) (relThen l k) (by simp [pnext]) (relThen_ne s l k)
  | idLoop s r d =>
    cases hacq : acqById st s with
    | wait => exact Or.inr (acqById_wait hacq)
    | ok =>
      refine mv (.getTags a s true) (.rel s [] (idLoopOf r d)) ?_ (by simp)
      cases d <;> simp [pnext, hacq]
    | down | notFound => exact mv (.getTags a s true) (idLoopOf r d) (by simp [pnext, hacq]) (idLoopOf_ne s r d)
  | peek s r =>
    cases hacq : acqById st s with
    | wait => exact Or.inr (acqById_wait hacq)
    | ok | down | notFound => exact mv (.getTags a s false) (peekOf r) (by simp [pnext, hacq]) (peekOf_ne s r)
  | dj ph s k =>
    cases ph with
    | lock =>
      by_cases hk : lockOk st s = true
      · exact mv (.lockX a s) (.dj .delete s k) (by simp [pnext, djOpts, hk]) (by simp)
      · exact mv (.lockX a s) k (by simp [pnext, djOpts, hk]) (ne_dj _ s k)
    | delete => exact mv (.delete a s) (.dj .unlock s k) (by simp [pnext, djOpts]) (by simp)
    | unlock => exact mv (.unlockX a s) k (by simp [pnext, djOpts]) (ne_dj _ s k)
  | vStart kind sel =>
    rcases Bool.eq_false_or_eq_true st.done with hd | hd
    · refine mv (.visitBegin a sel (skipOf kind) (dnrOf kind)) (afterVisit kind []) (by simp [pnext, hd]) ?_
      cases kind with
      | partitions => simp [afterVisit, relThen]
      | getJournals => simp [afterVisit, relThen]
      | truncate items => cases items <;> simp [afterVisit, relThen, idLoopOf]
    · exact mv (.visitBegin a sel (skipOf kind) (dnrOf kind)) (.vPick kind []) (by simp [pnext, hd]) (by simp)
  | vCb kind s kept =>
    refine mv (.visitCb a s false) (.vEnd kind (if dnrOf kind then s :: kept else kept)) ?_ (by simp)
    cases kind <;> simp [pnext, cbOpts, retOpts, dnrOf]
  | vRet kind s kept => exact mv (.visitCb a s false) (.vEnd kind kept) (by simp [pnext, retOpts]) (by simp)
  | vEnd kind kept =>
    exact mv (.visitEnd a) (afterVisit kind kept) (by simp [pnext]) (afterVisit_ne_vis _ _ _ rfl (by simp))
  | vPick kind kept =>
    obtain ⟨v, hv, hsk, hnr, hsub, hab, hcur⟩ := h.vis
    cases hpend : v.pending with
    | nil =>
      exact mv (.visitEnd a) (afterVisit kind kept) (by simp [pnext, hv, hpend])
        (afterVisit_ne_vis _ _ _ rfl (by simp))
    | cons s rest =>
      have hsp : s ∈ v.pending := by rw [hpend]; exact List.mem_cons_self
      by_cases hskip : skipOf kind = true
      · refine mv (.visitCb a s false) (.vEnd kind (if dnrOf kind then s :: kept else kept)) ?_ (by simp)
        simp only [pnext, hv, hpend, List.isEmpty_cons, Bool.false_eq_true, if_false, hskip, if_true, List.mem_flatMap]
        refine ⟨s, List.mem_cons_self, ?_⟩
        cases kind <;> simp [cbOpts, retOpts, dnrOf]
      · have hsk' : v.skipping = false := by rw [hsk]; simpa using hskip
        rcases Bool.eq_false_or_eq_true st.done with hd | hd
        · refine mv (.visitTry a s) (afterVisit kind kept) ?_ (afterVisit_ne_vis _ _ _ rfl (by simp))
          simp only [pnext, hv, hpend, List.isEmpty_cons, Bool.false_eq_true, if_false, hskip, hd, if_true, List.mem_map]
          exact ⟨s, List.mem_cons_self, rfl⟩
        cases hp : st.c.parts s with
        | some p =>
          by_cases hx : p.exclusive = true
          · exact Or.inr ⟨hd, s, p, ⟨by simpa using hskip, v, hv, by rw [hpend]; rfl⟩, hp, hx⟩
          · refine mv (.visitTry a s) (.vCb kind s kept) ?_ (by simp)
            simp only [pnext, hv, hpend, List.isEmpty_cons, Bool.false_eq_true, if_false, hskip, hd, List.mem_flatMap]
            exact ⟨s, List.mem_cons_self, by simp [hp, hx]⟩
        | none =>
          -- the entry is gone: it is dropped from the snapshot (the shared state changes)
          left
          refine ⟨.visitTry a s, .vPick kind kept, ?_, _, step_visitTry_gone hv ⟨hsk', hab, hcur, hsp⟩ hd hp, Or.inr ?_⟩
          · simp only [pnext, hv, hpend, List.isEmpty_cons, Bool.false_eq_true, if_false, hskip, hd, List.mem_flatMap]
            exact ⟨s, List.mem_cons_self, by simp [hp]⟩
          · intro e
            have e2 := (congrArg (fun t : St => t.vis a) e).trans hv
            rw [show (st.setVis a _).vis a = _ from upd_same _ _ _] at e2
            have e3 : v.pending.erase s = v.pending := congrArg Visit.pending (Option.some.inj e2)
            have := List.length_erase_of_mem hsp
            rw [e3, hpend] at this; simp at this

/-- after `Shutdown()` nobody waits: every unfinished caller has an option that changes its control state -/
theorem moves_down {a : Nat} {st : St} {c : Ctl} (hi : StInv st) (hd : st.done = true) (h : Local o a c st)
    (hc : c ≠ .fin) : ∃ l c', (l, c') ∈ pnext a st c ∧ Moves st c l c' := by
  rcases moves_or_needs hi h hc with hm | ⟨hd', _⟩
  · exact hm
  · rw [hd] at hd'; cases hd'

/-- an unfinished caller can move, unless the partition it needs next is exclusively locked -/
theorem moves_or_waits {a : Nat} {st : St} {c : Ctl} (hi : StInv st) (h : Local o a c st) (hc : c ≠ .fin) :
    (∃ l c', (l, c') ∈ pnext a st c ∧ Moves st c l c') ∨
      (∃ s p, needs a st c s ∧ st.c.parts s = some p ∧ p.exclusive = true) :=
  (moves_or_needs hi h hc).imp id And.right

/-- an unfinished caller can move, unless what it needs next is exclusively locked -/
theorem moves_or_excl {a : Nat} {st : St} {c : Ctl} (hi : StInv st) (h : Local o a c st) (hc : c ≠ .fin) :
    (∃ l c', (l, c') ∈ pnext a st c ∧ Moves st c l c') ∨ (∃ s p, st.c.parts s = some p ∧ p.exclusive = true) := by
  rcases moves_or_waits hi h hc with hm | ⟨s, p, _, hp, hx⟩
  · exact Or.inl hm
  · exact Or.inr ⟨s, p, hp, hx⟩

/-! ### bounded waiting -/

theorem SysStepBy.toStep {a : Nat} {x y : Sys} (h : SysStepBy a x y) : SysStep x y := by
  obtain ⟨l, c', h1, h2, h3⟩ := h; exact ⟨a, l, c', h1, h2, h3⟩

theorem needs_unique {a : Nat} {st : St} {c : Ctl} {s s' : Nat} (h : needs a st c s) (h' : needs a st c s') : s = s' := by
  cases c with
  | acqTags t cr => simp only [needs] at h h'; rw [h] at h'; exact Option.some.inj h'
  | idLoop x r d => simp only [needs] at h h'; rw [← h, ← h']
  | peek x r => simp only [needs] at h h'; rw [← h, ← h']
  | vPick kind kept =>
    obtain ⟨_, v, hv, hh⟩ := h
    obtain ⟨_, v', hv', hh'⟩ := h'
    rw [hv] at hv'; cases hv'; rw [hh] at hh'; exact Option.some.inj hh'
  | _ => simp [needs] at h

/-- a caller whose next partition is not exclusively locked can proceed -/
theorem waiter_moves_when_free {a : Nat} {st : St} {c : Ctl} (hi : StInv st) (h : Local o a c st) (hc : c ≠ .fin)
    (s : Nat) (hn : needs a st c s) (hfree : st.c.parts s = none ∨ ∃ p, st.c.parts s = some p ∧ p.exclusive = false) :
    ∃ l c', (l, c') ∈ pnext a st c ∧ Moves st c l c' := by
  rcases moves_or_waits hi h hc with hm | ⟨s', p, hn', hp, hx⟩
  · exact hm
  · have e := needs_unique hn hn'; subst e
    rcases hfree with hf | ⟨p', hp', hx'⟩
    · rw [hp] at hf; cases hf
    · rw [hp] at hp'; cases hp'; rw [hx] at hx'; cases hx'

/-- a step of another actor leaves the exclusive lock, its holder and the holder's control state alone -/
theorem lock_kept_by_others {x y : Sys} (h : SysInv x) {a b s : Nat} (hl : x.st.c.locker s = some b) (hab : a ≠ b)
    (hs : SysStepBy a x y) : y.st.c.locker s = some b ∧ y.ctl b = x.ctl b := by
  obtain ⟨l, c', ho, hst, hctl⟩ := hs
  have hact := pnext_actor a x.st (x.ctl a) l c' ho
  have hsame := frame h.st hst hact hab
  exact ⟨(hsame.lck s).mpr hl, by rw [hctl, upd_other _ _ _ _ (Ne.symm hab)]⟩

theorem holder_next {x : Sys} (h : SysInv x) {b s : Nat} (hl : x.st.c.locker s = some b) :
    ∃ k l c' st', (x.ctl b = .dj .delete s k ∨ x.ctl b = .dj .unlock s k) ∧ pnext b x.st (x.ctl b) = [(l, c')] ∧
      step x.st l = some st' ∧ (st'.c.parts s = none ∨ ∃ p', st'.c.parts s = some p' ∧ p'.exclusive = false) := by
  obtain ⟨ob, hloc⟩ := h.locE b
  obtain ⟨p, hp, hx, hr1⟩ := locker_part h.st.core hl
  have hat := hloc.lck s hl
  cases hc : x.ctl b with
  | dj ph s' k =>
    rw [hc] at hat
    cases ph with
    | lock => exact False.elim hat
    | delete => cases hat; exact ⟨k, _, _, _, Or.inl rfl, rfl, step_delete hl hp hx, Or.inl (upd_same _ _ _)⟩
    | unlock =>
      cases hat; exact ⟨k, _, _, _, Or.inr rfl, rfl, step_unlockX hl hp hx hr1, Or.inr ⟨_, upd_same _ _ _, rfl⟩⟩
  | _ => rw [hc] at hat; exact False.elim hat

/-- every step of the exclusive holder frees the partition -/
theorem holder_step_frees {x y : Sys} (h : SysInv x) {b s : Nat} (hl : x.st.c.locker s = some b)
    (hs : SysStepBy b x y) : y.st.c.parts s = none ∨ ∃ p', y.st.c.parts s = some p' ∧ p'.exclusive = false := by
  obtain ⟨l', c'', ho, hst, _⟩ := hs
  obtain ⟨k, l, c', st', _, hpn, hstep, hfree⟩ := holder_next h hl
  rw [hpn] at ho; cases List.mem_singleton.mp ho
  rw [hstep] at hst; cases hst; exact hfree

theorem reach_run {x z : Sys} {as : List Nat} (r : Run x as z) (h : Reach x) : Reach z := by
  induction r with
  | nil _ => exact h
  | cons s _ ih => exact ih (Reach.step h s.toStep)

/-- **Bounded waiting**: in any run segment in which the holder `b` of the exclusive lock on `s` is scheduled at least
once, `s` stays locked by `b` exactly until `b`'s FIRST step, and that step frees it (k = 1) -/
theorem first_holder_step_frees : ∀ (as : List Nat) (x z : Sys), Reach x → ∀ (b s : Nat), x.st.c.locker s = some b →
    Run x as z → b ∈ as →
    ∃ as1 as2 y y', as = as1 ++ b :: as2 ∧ b ∉ as1 ∧ Run x as1 y ∧ y.st.c.locker s = some b ∧ y.ctl b = x.ctl b ∧
      SysStepBy b y y' ∧ Run y' as2 z ∧
      (y'.st.c.parts s = none ∨ ∃ p', y'.st.c.parts s = some p' ∧ p'.exclusive = false) := by
  intro as
  induction as with
  | nil => intro x z _ b s _ _ hb; cases hb
  | cons a as ih =>
    intro x z hr b s hl r hb
    cases r with
    | cons st r' =>
      rename_i y
      by_cases e : a = b
      · subst e
        exact ⟨[], as, x, y, rfl, by simp, Run.nil x, hl, rfl, st, r', holder_step_frees (sysInv_reach hr) hl st⟩
      · have hb' : b ∈ as := by
          rcases List.mem_cons.mp hb with h1 | h1
          · exact absurd h1.symm e
          · exact h1
        obtain ⟨hl', hc'⟩ := lock_kept_by_others (sysInv_reach hr) hl e st
        obtain ⟨as1, as2, y1, y2, e1, n1, r1, l1, c1, s1, r2, f⟩ := ih y z (Reach.step hr st.toStep) b s hl' r' hb'
        refine ⟨a :: as1, as2, y1, y2, by rw [e1]; rfl, ?_, Run.cons st r1, l1, by rw [c1, hc'], s1, r2, f⟩
        intro hm
        rcases List.mem_cons.mp hm with h1 | h1
        · exact e h1.symm
        · exact n1 h1


end Logrange.TIndexProg

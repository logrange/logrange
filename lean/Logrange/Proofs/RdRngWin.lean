import Logrange.Proofs.RdRngFwd
import Logrange.Proofs.RdRngPaging
/-!
The window contract (C03/C16 with RANGE): when every record a filter `f` accepts lies inside its chunk's window
(`WinSoundF`; for `f` = "timestamp in the range (and WHERE)" this is `WinSound`, C02's statement about the time index),
filtering the ADMITTED records is filtering the STORED records — as a whole and from any position.
-/
set_option linter.unusedVariables false
namespace Logrange.Rd

def WinSoundF (j : Journal) (f : Rec → Bool) : Prop :=
  ∀ c ∈ j, ∀ (k : Nat) (r : Rec), c.recs[k]? = some r → f r = true → c.minPos ≤ k ∧ k ≤ c.maxPos

theorem WinSound.toF {j : Journal} {lo hi : Option Int} (h : WinSound j lo hi) {f : Rec → Bool}
    (hf : ∀ r, f r = true → inRange lo hi r = true) : WinSoundF j f :=
  fun c hc k r hr hfr => h c hc k r hr (hf r hfr)

theorem rwn_skip {α : Type} (f : α → Bool) (l : List α) : ∀ (d x : Nat),
    (∀ i, x ≤ i → i < x + d → ∀ e, l[i]? = some e → f e = false) →
    (l.drop x).filter f = (l.drop (x + d)).filter f := by
  intro d
  induction d with
  | zero => intro x _; rfl
  | succ d ih =>
    intro x h
    cases hx : l[x]? with
    | none =>
      have hlen : l.length ≤ x := List.getElem?_eq_none_iff.mp hx
      rw [List.drop_eq_nil_of_le hlen, List.drop_eq_nil_of_le (by omega)]
    | some e =>
      have hlt : x < l.length := (List.getElem?_eq_some_iff.mp hx).1
      have he : l[x] = e := (List.getElem?_eq_some_iff.mp hx).2
      rw [List.drop_eq_getElem_cons hlt, he, List.filter_cons, h x (Nat.le_refl _) (by omega) e hx]
      simp only [Bool.false_eq_true, if_false]
      have := ih (x + 1) (fun i h1 h2 e' he' => h i (by omega) (by omega) e' he')
      rw [this]; exact congrArg (fun d => (l.drop d).filter f) (by omega)

theorem rwn_take {α : Type} (f : α → Bool) : ∀ (l : List α) (n m : Nat),
    (∀ i, n ≤ i → ∀ e, l[i]? = some e → f e = false) →
    ((l.take n).drop m).filter f = (l.drop m).filter f := by
  intro l
  induction l with
  | nil => intro n m _; simp
  | cons e t ih =>
    intro n m h
    cases n with
    | zero =>
      have : ((e :: t).drop m).filter f = [] := by
        rw [List.filter_eq_nil_iff]
        intro a ha
        obtain ⟨i, hi⟩ := List.getElem?_of_mem ha
        rw [List.getElem?_drop] at hi
        simp [h (m + i) (Nat.zero_le _) a hi]
      rw [this]; simp
    | succ n =>
      have ht : ∀ i, n ≤ i → ∀ e', t[i]? = some e' → f e' = false :=
        fun i hi e' he' => h (i + 1) (by omega) e' (by simpa using he')
      cases m with
      | zero =>
        have := ih n 0 ht
        simp only [List.drop_zero] at this
        simp only [List.take_succ_cons, List.drop_zero, List.filter_cons, this]
      | succ m =>
        simp only [List.take_succ_cons, List.drop_succ_cons]
        exact ih n m ht

/-- one chunk: the admitted records from `wBefore k` on, filtered = the stored records from `k` on, filtered -/
theorem rwn_chunk (c : Chunk) (f : Rec → Bool)
    (hw : ∀ (k : Nat) (r : Rec), c.recs[k]? = some r → f r = true → c.minPos ≤ k ∧ k ≤ c.maxPos) (k : Nat) :
    (c.wrecs.drop (c.wBefore k)).filter f = (c.recs.drop k).filter f := by
  have hout : ∀ i e, c.recs[i]? = some e → (i < c.minPos ∨ c.maxPos < i) → f e = false := by
    intro i e he hi
    cases hf : f e with
    | false => rfl
    | true => have := hw i e he hf; omega
  unfold Chunk.wrecs
  -- what is dropped from `recs` on the left: up to the start of the window, or up to `k` clipped to its end
  obtain ⟨m, hm1, hm2⟩ : ∃ m, c.minPos + c.wBefore k = m ∧ m = max c.minPos (min k c.hi) :=
    ⟨_, rfl, by unfold Chunk.wBefore; omega⟩
  rw [List.drop_drop, hm1, rwn_take f c.recs (c.maxPos + 1) m (fun i hi e he => hout i e he (Or.inr (by omega)))]
  rcases Nat.le_total k m with hkm | hmk
  · obtain ⟨d, rfl⟩ : ∃ d, m = k + d := ⟨m - k, by omega⟩
    rw [← rwn_skip f c.recs d k]
    intro i h1 h2 e he
    exact hout i e he (Or.inl (by omega))
  · obtain ⟨d, rfl⟩ : ∃ d, k = m + d := ⟨k - m, by omega⟩
    rw [rwn_skip f c.recs d m]
    intro i h1 h2 e he
    have hlt : i < c.cnt := (List.getElem?_eq_some_iff.mp he).1
    refine hout i e he (Or.inr ?_)
    unfold Chunk.hi at hm2
    omega

theorem rwn_chunk_all (c : Chunk) (f : Rec → Bool)
    (hw : ∀ (k : Nat) (r : Rec), c.recs[k]? = some r → f r = true → c.minPos ≤ k ∧ k ≤ c.maxPos) :
    c.wrecs.filter f = c.recs.filter f := by
  have := rwn_chunk c f hw 0
  simpa [Chunk.wBefore] using this

/-- **the admitted records filtered = the stored records filtered** -/
theorem rwn_filter_wflat {j : Journal} {f : Rec → Bool} (hw : WinSoundF j f) :
    (wflat j).filter f = (flat j).filter f := by
  induction j with
  | nil => rfl
  | cons c r ih =>
    rw [rw_wflat_cons, flat_cons, List.filter_append, List.filter_append,
      rwn_chunk_all c f (hw c (List.mem_cons_self ..)), ih (fun x hx => hw x (List.mem_cons_of_mem _ hx))]

theorem WinSound.toPassR {j : Journal} {lo hi : Option Int} (h : WinSound j lo hi) (w : Bool) :
    WinSoundF j (passR lo hi w) :=
  h.toF fun r hr => by simp only [passR, Bool.and_eq_true] at hr; exact hr.2

/-- … and from any position -/
theorem rwn_filter_from {j : Journal} {f : Rec → Bool} (hs : Sorted j) (hw : WinSoundF j f) (p : Pos) :
    ((wflat j).drop (wflatIdx j p)).filter f = ((flat j).drop (flatIdx j p)).filter f := by
  induction j with
  | nil => rfl
  | cons c r ih =>
    have hwr : WinSoundF r f := fun x hx => hw x (List.mem_cons_of_mem _ hx)
    rw [rw_wflat_cons, flat_cons, wflatIdx_cons, flatIdx_cons]
    by_cases h1 : c.id < p.cid
    · have e1 : wfiTerm c p = c.wrecs.length := by rw [wfiTerm_lt h1, rw_wrecs_length]
      have e2 : fiTerm c p = c.recs.length := by simp only [fiTerm, h1, if_true, Chunk.cnt]
      have d1 : (c.wrecs ++ wflat r).drop (c.wrecs.length + wflatIdx r p) = (wflat r).drop (wflatIdx r p) := by
        rw [List.drop_append, List.drop_eq_nil_of_le (Nat.le_add_right _ _), Nat.add_sub_cancel_left, List.nil_append]
      have d2 : (c.recs ++ flat r).drop (c.recs.length + flatIdx r p) = (flat r).drop (flatIdx r p) := by
        rw [List.drop_append, List.drop_eq_nil_of_le (Nat.le_add_right _ _), Nat.add_sub_cancel_left, List.nil_append]
      rw [e1, e2, d1, d2]
      exact ih hs.tail hwr
    · have hlt := hs.head_lt
      have hbehind : ∀ x ∈ r, p.cid < x.id := fun x hx => Nat.lt_of_le_of_lt (Nat.not_lt.mp h1) (hlt x hx)
      rw [wflatIdx_of_lt hbehind, flatIdx_eq_zero_of_lt hbehind, Nat.add_zero, Nat.add_zero]
      have hk : ∃ k, wfiTerm c p = c.wBefore k ∧ fiTerm c p = min k c.cnt := by
        by_cases h2 : c.id = p.cid
        · exact ⟨p.idx, wfiTerm_eq h2, by simp [fiTerm, h2]⟩
        · exact ⟨0, (wfiTerm_gt (by omega)).trans (wBefore_low c (Nat.zero_le _)).symm, by simp [fiTerm, h1, h2]⟩
      obtain ⟨k, k1, k2⟩ := hk
      rw [k1, k2]
      have l1 : c.wBefore k ≤ c.wrecs.length := by rw [rw_wrecs_length]; exact rw_wBefore_le c k
      have l2 : min k c.cnt ≤ c.recs.length := by unfold Chunk.cnt; omega
      rw [List.drop_append_of_le_length l1, List.drop_append_of_le_length l2, List.filter_append, List.filter_append,
        rwn_chunk c f (hw c (List.mem_cons_self ..)) k, rwn_filter_wflat hwr]
      congr 2
      have hcnt : c.cnt = c.recs.length := rfl
      by_cases hkc : k ≤ c.cnt
      · rw [Nat.min_eq_left hkc]
      · rw [Nat.min_eq_right (by omega), List.drop_eq_nil_of_le (by omega), List.drop_eq_nil_of_le (by omega)]

/-- … and BEFORE any position (the backward walks) -/
theorem rwn_filter_upto {j : Journal} {f : Rec → Bool} (hs : Sorted j) (hw : WinSoundF j f) (p : Pos) :
    ((wflat j).take (wflatIdx j p)).filter f = ((flat j).take (flatIdx j p)).filter f := by
  have h1 := rwn_filter_wflat hw
  have h2 := rwn_filter_from hs hw p
  rw [← List.take_append_drop (wflatIdx j p) (wflat j), ← List.take_append_drop (flatIdx j p) (flat j),
    List.filter_append, List.filter_append, h2] at h1
  exact List.append_cancel_right h1

end Logrange.Rd

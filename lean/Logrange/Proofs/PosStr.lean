import Logrange.Model.PosStr
import Logrange.Proofs.Outcome
/-! Lemmas about position strings (C13): `ParsePos` and `applyStatePos` pass every bounds check, for all strings. -/
namespace Logrange.PosStr
open Go Logrange Outcome

theorem parsePos_noPanic (s : Bytes) : (parsePos s).isPanic = false := by
  unfold parsePos
  split
  · rfl
  · split
    · rfl
    · rw [slice_ok_of (by omega), bind_ok]
      split
      · rfl
      · rw [sliceFrom_ok_of (by omega), bind_ok]
        split <;> rfl

/-- `strings.Split` never returns an empty list -/
theorem splitByte_ne_nil (sep : UInt8) : ∀ s : Bytes, splitByte sep s ≠ []
  | [] => by simp [splitByte]
  | c :: r => by
    unfold splitByte
    split
    · simp
    · split <;> simp

theorem applyParts_noPanic : ∀ (vs : List Bytes) (m : List (Bytes × (Nat × Nat))), (applyParts vs m).isPanic = false
  | [], _ => rfl
  | v :: vs, m => by
    unfold applyParts
    simp only []
    generalize splitByte Generated.C13.posJrnlVal v = kv
    split
    · rfl
    · rw [index_ok kv 0 (by omega), bind_ok, index_ok kv 1 (by omega), bind_ok]
      exact bind_isPanic_false (parsePos_noPanic _) fun _ _ => applyParts_noPanic vs _

end Logrange.PosStr

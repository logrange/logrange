import Logrange.Proofs.TagsTight
import Logrange.Proofs.ParsedKeys
import Logrange.Proofs.UnquoteFix
/-! What `RemoveCurlyBraces`, `SplitString` and `ToMap` do to a line `k=e`: the facts behind the necessity of `safe` / `safeW` -/
namespace Logrange.Proofs.TagsNecessity
open Go Logrange.Quote Logrange.KV Logrange.Tags Logrange.Proofs.KV Logrange.Proofs.Tags Logrange.Proofs.ParsedKeys
  Logrange.Proofs.UnquoteFix

/-! ### RemoveCurlyBraces -/

theorem leadScan_decomp (s : Bytes) (cnt : Nat) (r : Bytes) (c : Nat) (h : leadScan s cnt = (r, c)) :
    ∃ pre, s = pre ++ r ∧ (∀ x ∈ pre, x = SP ∨ x = LB) ∧ r.head? ≠ some SP ∧ r.head? ≠ some LB := by
  fun_induction leadScan s cnt with
  | case1 cnt => cases h; exact ⟨[], rfl, nofun, nofun, nofun⟩
  | case2 a t cnt h1 ih =>
    obtain ⟨pre, hp, hall, hh⟩ := ih h
    exact ⟨a :: pre, by rw [hp]; rfl, fun x hx => (List.mem_cons.mp hx).elim (fun e => Or.inl (e ▸ beq_iff_eq.mp h1)) (hall x), hh⟩
  | case3 a t cnt h1 h2 ih =>
    obtain ⟨pre, hp, hall, hh⟩ := ih h
    exact ⟨a :: pre, by rw [hp]; rfl, fun x hx => (List.mem_cons.mp hx).elim (fun e => Or.inr (e ▸ beq_iff_eq.mp h2)) (hall x), hh⟩
  | case4 a t cnt h1 h2 =>
    cases h
    exact ⟨[], rfl, nofun, by simpa using h1, by simpa using h2⟩
theorem leadScan_id (x : UInt8) (tl : Bytes) (cnt : Nat) (h1 : x ≠ SP) (h2 : x ≠ LB) :
    leadScan (x :: tl) cnt = (x :: tl, cnt) := by
  simp [leadScan, h1, h2]

theorem rcb_head (t fine : Bytes) (h : removeCurlyBraces t = some fine) :
    fine = [] ∨ ∃ x tl, fine = x :: tl ∧ x ≠ SP ∧ x ≠ LB := by
  unfold removeCurlyBraces at h
  cases hl : leadScan t 0 with
  | mk r c =>
    rw [hl] at h
    cases r with
    | nil =>
      simp only [] at h
      split at h
      · cases h
      · cases h; exact Or.inl rfl
    | cons x tl =>
      simp only [] at h
      split at h
      · cases h
      · cases h
        obtain ⟨_, _, _, h1, h2⟩ := leadScan_decomp t 0 _ c hl
        exact Or.inr ⟨x, _, rfl, by simpa using h1, by simpa using h2⟩

theorem trailScan_neg (r : Bytes) (n : Int) (h : n < 0) : trailScan r n = (r, n) := by
  cases r with
  | nil => rfl
  | cons c r => unfold trailScan; rw [if_neg (by omega)]

theorem trailScan_zero : ∀ (r rem : Bytes), trailScan r 0 = (rem, 0) →
    rem = r.dropWhile (· == SP) ∧ rem.head? ≠ some RB := by
  intro r
  induction r with
  | nil => intro rem h; simp [trailScan] at h; subst h; simp
  | cons c r ih =>
    intro rem h
    unfold trailScan at h
    rw [if_pos (by omega)] at h
    by_cases h1 : (c == SP) = true
    · rw [if_pos h1] at h
      obtain ⟨a, b⟩ := ih rem h
      refine ⟨?_, b⟩
      simp only [List.dropWhile_cons, h1, if_true]; exact a
    · rw [if_neg h1] at h
      by_cases h2 : (c == RB) = true
      · rw [if_pos h2, trailScan_neg r (0 - 1) (by omega)] at h
        simp only [Prod.mk.injEq] at h
        omega
      · rw [if_neg h2] at h
        simp only [Prod.mk.injEq, and_true] at h
        subst h
        refine ⟨?_, ?_⟩
        · simp only [List.dropWhile_cons, h1, Bool.false_eq_true, if_false]
        · simpa using h2

theorem dropWhile_append_stop (p : UInt8 → Bool) (y : UInt8) (b : Bytes) (hy : p y = false) :
    ∀ a : Bytes, (a ++ y :: b).dropWhile p = a.dropWhile p ++ y :: b := by
  intro a
  induction a with
  | nil => simp [List.dropWhile_cons_of_neg, hy]
  | cons c a ih =>
    by_cases hc : p c = true
    · simp [List.dropWhile_cons_of_pos, hc, ih]
    · simp [List.dropWhile_cons_of_neg, hc]

/-- the text without trailing blanks -/
def stripR (e : Bytes) : Bytes := (e.reverse.dropWhile (· == SP)).reverse

/-- `RemoveCurlyBraces` on `k=e` when `k` starts with neither a blank nor `{`: the trailing blanks of `e` go, nothing else;
it fails when the last non-blank byte of `e` is `}` -/
theorem rcb_key_eq (x : UInt8) (k' e fine : Bytes) (h1 : x ≠ SP) (h2 : x ≠ LB)
    (h : removeCurlyBraces (x :: k' ++ EQ :: e) = some fine) :
    fine = x :: k' ++ EQ :: stripR e ∧ (stripR e).getLast? ≠ some RB := by
  unfold removeCurlyBraces at h
  rw [List.cons_append, leadScan_id x _ 0 h1 h2] at h
  simp only [] at h
  cases ht : trailScan (k' ++ EQ :: e).reverse ((0 : Nat) : Int) with
  | mk rem cnt =>
    rw [ht] at h
    simp only [] at h
    split at h
    · cases h
    · rename_i hc
      cases h
      simp only [Bool.or_eq_true, bne_iff_ne, ne_eq, not_or, Decidable.not_not] at hc
      obtain ⟨_, hcnt⟩ := hc
      subst hcnt
      obtain ⟨hrem, hhd⟩ := trailScan_zero _ _ ht
      have hrev : (k' ++ EQ :: e).reverse = e.reverse ++ EQ :: k'.reverse := by simp
      rw [hrev, dropWhile_append_stop (· == SP) EQ k'.reverse (by decide)] at hrem
      subst hrem
      refine ⟨by simp [stripR], ?_⟩
      unfold stripR
      rw [List.getLast?_reverse]
      intro hl
      apply hhd
      cases hd : List.dropWhile (· == SP) e.reverse with
      | nil => rw [hd] at hl; cases hl
      | cons a r => rw [hd] at hl; simpa using hl

/-! ### SplitString -/

/-- the piece under construction starts with what is in `cur`, continued by a prefix of the input -/
theorem splitGo_cur_prefix (rest : Bytes) (s : SS) (parts : List Bytes) (h : splitGo rest s = some parts) :
    ∃ z more, parts = s.out.reverse ++ (s.cur.reverse ++ z) :: more ∧ z <+: rest := by
  fun_induction splitGo rest s with
  | case1 s hs => cases h
  | case2 s hs => cases h; exact ⟨[], [], by simp, List.prefix_refl _⟩
  | case3 c rest s hq ih =>
    obtain ⟨z, more, hp, hz⟩ := ih h
    exact ⟨c :: z, more, by simpa [List.append_assoc] using hp, List.cons_prefix_cons.mpr ⟨rfl, hz⟩⟩
  | case4 c s hq hb => cases h
  | case5 c s hq hb d rest ih =>
    obtain ⟨z, more, hp, hz⟩ := ih h
    exact ⟨c :: d :: z, more, by simpa [List.append_assoc] using hp,
      List.cons_prefix_cons.mpr ⟨rfl, List.cons_prefix_cons.mpr ⟨rfl, hz⟩⟩⟩
  | case6 c rest s hq hb hs he => cases h
  | case7 c rest s hq hb hs he ih =>
    obtain ⟨z, more, hp, _⟩ := ih h
    exact ⟨[], z :: more, by simpa [List.append_assoc] using hp, List.nil_prefix⟩
  | case8 c rest s hq hb hs ih =>
    obtain ⟨z, more, hp, hz⟩ := ih h
    exact ⟨c :: z, more, by simpa [List.append_assoc] using hp, List.cons_prefix_cons.mpr ⟨rfl, hz⟩⟩

/-- a piece without separators on which `scan` fails makes the whole split fail -/
theorem split_none_of_scan (p : Bytes) (b : Bool) (hns : ∀ x ∈ p, x ≠ EQ ∧ x ≠ CM) (h : scan p b = none) (s : SS) :
    splitGo p { s with inStr := b } = none := by
  revert s
  fun_induction scan p b with
  | case1 => cases h
  | case2 c p b hq ih =>
    intro s; rw [splitGo_quote _ _ _ hq]
    exact ih (fun x hx => hns x (List.mem_cons_of_mem _ hx)) h { s with cur := c :: s.cur }
  | case3 c b hq hb => intro s; rw [splitGo.eq_def]; simp only [hq, hb, Bool.false_eq_true, if_true, if_false]
  | case4 c b hq hb d p ih =>
    intro s; rw [splitGo_esc _ _ _ _ hq hb]
    exact ih (fun x hx => hns x (List.mem_cons_of_mem _ (List.mem_cons_of_mem _ hx))) h { s with cur := d :: c :: s.cur }
  | case5 c p b hq hb hs =>
    have hc := hns c List.mem_cons_self
    simp [hc.1, hc.2] at hs
  | case6 c p b hq hb hs ih =>
    intro s; rw [splitGo_plain _ _ _ hq hb hs]
    exact ih (fun x hx => hns x (List.mem_cons_of_mem _ hx)) h { s with cur := c :: s.cur }

theorem split_scan_none : ∀ (n : Nat) (p : Bytes), p.length ≤ n → ∀ (b : Bool) (s : SS),
    (∀ x ∈ p, x ≠ EQ ∧ x ≠ CM) → scan p b = none → splitGo p { s with inStr := b } = none :=
  fun _ p _ b s hns h => split_none_of_scan p b hns h s

/-- the value piece of `k=e'` when `e'` holds no separator: the split succeeds only if `e'` is inert, and then the pieces
are `k` and `e'` -/
theorem split_key_nosep (k e' : Bytes) (parts : List Bytes) (hk : scan k false = some false)
    (hns : ∀ x ∈ e', x ≠ EQ ∧ x ≠ CM) (h : splitString (k ++ EQ :: e') = some parts) :
    scan e' false = some false ∧ parts = [k, e'] := by
  unfold splitString at h
  have hk' := split_key k e' [] hk
  have e0 : ({} : SS) = { inStr := false, expKV := true, cur := [], out := [] } := rfl
  rw [e0, hk'] at h
  cases hs : scan e' false with
  | none =>
    have := split_none_of_scan e' false hns hs { inStr := false, expKV := false, cur := [], out := [k] }
    rw [this] at h; cases h
  | some b =>
    cases b with
    | true =>
      have := split_inert e' false true [] { inStr := false, expKV := false, cur := [], out := [k] } hs
      simp only [List.append_nil] at this
      rw [this, splitGo.eq_def] at h
      simp at h
    | false =>
      rw [split_end e' false [k] hs] at h
      cases h
      exact ⟨rfl, by simp⟩

/-! ### names of the result -/

theorem insert_keys (k v k0 : Bytes) (m : Map) (h : k0 = k ∨ ∃ x, (k0, x) ∈ m) : ∃ x, (k0, x) ∈ Map.insert k v m := by
  fun_induction Map.insert k v m with
  | case1 => rcases h with rfl | ⟨x, hx⟩
             · exact ⟨v, List.mem_cons_self⟩
             · cases hx
  | case2 k' v' r h1 =>
    rcases h with rfl | ⟨x, hx⟩
    · exact ⟨v, List.mem_cons_self⟩
    · exact ⟨x, List.mem_cons_of_mem _ hx⟩
  | case3 v' r h1 =>
    rcases h with rfl | ⟨x, hx⟩
    · exact ⟨v, List.mem_cons_self⟩
    · rcases List.mem_cons.mp hx with e | e
      · exact ⟨v, by rw [(Prod.mk.inj e).1]; exact List.mem_cons_self⟩
      · exact ⟨x, List.mem_cons_of_mem _ e⟩
  | case4 k' v' r h1 h2 ih =>
    rcases h with rfl | ⟨x, hx⟩
    · obtain ⟨y, hy⟩ := ih (Or.inl rfl); exact ⟨y, List.mem_cons_of_mem _ hy⟩
    · rcases List.mem_cons.mp hx with e | e
      · exact ⟨x, by rw [e]; exact List.mem_cons_self⟩
      · obtain ⟨y, hy⟩ := ih (Or.inr ⟨x, e⟩); exact ⟨y, List.mem_cons_of_mem _ hy⟩

theorem foldl_insert_keys (ps : List (Bytes × Bytes)) : ∀ (acc : Map) (k0 : Bytes),
    ((∃ x, (k0, x) ∈ acc) ∨ ∃ p ∈ ps, p.1 = k0) →
    ∃ x, (k0, x) ∈ ps.foldl (fun m p => Map.insert p.1 p.2 m) acc := by
  induction ps with
  | nil => intro acc k0 h; exact h.resolve_right (fun ⟨_, hp, _⟩ => by cases hp)
  | cons p ps ih =>
    intro acc k0 h
    refine ih _ k0 ?_
    rcases h with h | ⟨q, hq, hk⟩
    · exact Or.inl (insert_keys p.1 p.2 k0 acc (Or.inr h))
    · rcases List.mem_cons.mp hq with rfl | hq
      · exact Or.inl (insert_keys q.1 q.2 k0 acc (Or.inl hk.symm))
      · exact Or.inr ⟨q, hq, hk⟩
/-- every name of `ps` is a name of `Map.ofPairs ps` -/
theorem ofPairs_has_key (ps : List (Bytes × Bytes)) (p : Bytes × Bytes) (hp : p ∈ ps) :
    ∃ x, (p.1, x) ∈ Map.ofPairs ps :=
  foldl_insert_keys ps [] p.1 (Or.inr ⟨p, hp, rfl⟩)

theorem dropWhile_snoc_stop (p : UInt8 → Bool) (x : UInt8) (hx : p x = false) :
    ∀ l : Bytes, ∃ l', (l ++ [x]).dropWhile p = l' ++ [x] := by
  intro l
  induction l with
  | nil => exact ⟨[], by simp [hx]⟩
  | cons c l ih =>
    by_cases hc : p c = true
    · obtain ⟨l', h⟩ := ih
      exact ⟨l', by simp only [List.cons_append, List.dropWhile_cons, hc, if_true]; exact h⟩
    · exact ⟨c :: l, by simp only [List.cons_append, List.dropWhile_cons, hc, Bool.false_eq_true, if_false]⟩

theorem trimSpaces_head (x : UInt8) (z : Bytes) (hx : x ≠ SP) : (trimSpaces (x :: z)).head? = some x := by
  unfold trimSpaces
  have h1 : (x == SP) = false := by simpa using hx
  simp only [List.dropWhile_cons, h1, Bool.false_eq_true, if_false, List.reverse_cons]
  obtain ⟨l', h⟩ := dropWhile_snoc_stop (· == SP) x h1 z.reverse
  rw [h]; simp

/-- the first name of a parsed non-empty text starts with neither a blank nor `{` -/
theorem toMap_first_name (t : Bytes) (k v : Bytes) (h : toMap t = some [(k, v)]) : k.head? ≠ some LB := by
  obtain ⟨fine, hr, ⟨_, hm⟩ | ⟨hne, parts, ps, hs, hp, h⟩⟩ := toMap_some t _ h
  · cases hm
  rcases rcb_head t fine hr with hf | ⟨x, tl, rfl, hx1, hx2⟩
  · exact absurd hf hne
  obtain ⟨z, more, hparts, hz⟩ := splitGo_cur_prefix (x :: tl) {} parts hs
  simp only [List.reverse_nil, List.nil_append] at hparts
  subst hparts
  -- the first name is `trimSpaces z`
  cases more with
  | nil => simp [toPairs] at hp
  | cons q2 rest =>
    obtain ⟨v', r, hke, _, _, rfl⟩ := toPairs_cons_some z q2 rest ps hp
    obtain ⟨xv, hmem⟩ := ofPairs_has_key ((trimSpaces z, v') :: r) (trimSpaces z, v') List.mem_cons_self
    rw [h] at hmem
    simp only [List.mem_singleton, Prod.mk.injEq] at hmem
    have hk : trimSpaces z = k := hmem.1
    cases z with
    | nil => exact absurd rfl hke
    | cons y z' =>
      obtain ⟨rfl, _⟩ := List.cons_prefix_cons.mp hz
      rw [← hk, trimSpaces_head y z' hx1]
      simpa using hx2

theorem needsQuote_false (v : Bytes) (h : needsQuote v = false) : v ≠ [] ∧ ∀ x ∈ v, x ≠ EQ ∧ x ≠ CM := by
  unfold needsQuote at h
  simp only [Logrange.Generated.C08.tagQuoteEmpty, Logrange.Generated.C08.tagQuoteBytes, Bool.true_and, List.any_cons,
    List.any_nil, Bool.or_false, Bool.or_eq_false_iff] at h
  obtain ⟨h1, h2, h3⟩ := h
  refine ⟨by intro e; simp [e] at h1, ?_⟩
  intro x hx
  refine ⟨?_, ?_⟩
  · intro e; subst e
    have : v.contains EQ = true := by simpa using hx
    have e61 : (EQ : UInt8) = 61 := by decide
    rw [e61] at this; rw [this] at h3; cases h3
  · intro e; subst e
    have : v.contains CM = true := by simpa using hx
    have e44 : (CM : UInt8) = 44 := by decide
    rw [e44] at this; rw [this] at h2; cases h2

/-- `Unquote w` is never `v` when `w` is no richer than `v` in backslashes/quotes and no longer -/
theorem unquote_shrunk_ne (w v : Bytes) (hs : special w ≤ special v) (hl : w.length ≤ v.length)
    (h : w.head? = some DQ ∨ w.head? = some BQ) : unquote w ≠ some v := by
  intro hu
  cases w with
  | nil => rcases h with h | h <;> cases h
  | cons c r =>
    rcases h with h | h
    · simp only [List.head?_cons, Option.some.injEq] at h
      subst h
      have := unquote_DQ_special r v hu
      omega
    · simp only [List.head?_cons, Option.some.injEq] at h
      subst h
      have := unquote_BQ_length r v hu
      omega

end Logrange.Proofs.TagsNecessity

import Logrange.Translated.Kvstring
import Logrange.Model.KV
/-!
# `kvstring.SplitString` as translated from the Go source = the hand-written model `KV.splitString`

`Kvstring.SplitString` (machine-generated, fuel loop over the `Int` index `endIdx`) never panics, never runs out of
fuel, and returns exactly what the structural model `KV.splitGo` computes.
-/
namespace Logrange.Proofs.TrKvSplit
open Go Go.Sem Logrange Logrange.Translated

/-- the Go-shaped result of the model -/
def out (o : Option (List Bytes)) : List Bytes × Error :=
  match o with
  | some l => (l, false)
  | none => ([], true)

theorem take_drop_succ (str : Bytes) (s e : Nat) (hse : s ≤ e) (hlt : e < str.length) :
    (str.drop s).take (e + 1 - s) = (str.drop s).take (e - s) ++ [str[e]] := by
  have h1 : e + 1 - s = (e - s) + 1 := by omega
  have h2 : s + (e - s) = e := by omega
  rw [h1, List.take_add_one, List.getElem?_drop, h2, List.getElem?_eq_getElem hlt]
  rfl

theorem natCast_succ (e : Nat) : (e : Int) + 1 = ((e + 1 : Nat) : Int) := by omega

theorem eq_ne_cm : (KV.CM == KV.EQ) = false := by decide

/-- one unfolding of the model on a non-empty rest -/
theorem splitGo_cons (c : UInt8) (rest : Bytes) (s : KV.SS) :
    KV.splitGo (c :: rest) s =
      if c == Quote.DQ then KV.splitGo rest { s with inStr := !s.inStr, cur := c :: s.cur }
      else if c == Quote.BS && s.inStr then
        match rest with
        | [] => none
        | d :: rest' => KV.splitGo rest' { s with cur := d :: c :: s.cur }
      else if (c == KV.EQ || c == KV.CM) && !s.inStr then
        if (c == KV.EQ) != s.expKV then none
        else KV.splitGo rest { s with expKV := !s.expKV, out := s.cur.reverse :: s.out, cur := [] }
      else KV.splitGo rest { s with cur := c :: s.cur } := by
  rw [KV.splitGo.eq_def]
  rfl

theorem splitGo_nil (s : KV.SS) :
    KV.splitGo [] s = if s.inStr then none else some ((s.cur.reverse :: s.out).reverse) := by
  rw [KV.splitGo.eq_def]

theorem loop_eq (str : Bytes) (fuel : Nat) :
    ∀ (e s : Nat) (st : KV.SS) (buf : List Bytes) (inStr : Bool) (expCC : UInt8),
      s ≤ e → e ≤ str.length → str.length - e < fuel →
      st.cur.reverse = (str.drop s).take (e - s) →
      buf = st.out.reverse → inStr = st.inStr → expCC = (if st.expKV then KV.EQ else KV.CM) →
      Kvstring.SplitString_loop1 str KV.EQ KV.CM fuel buf inStr expCC (s : Int) (e : Int)
        = .ok (out (KV.splitGo (str.drop e) st)) := by
  induction fuel with
  | zero => intro e s st buf inStr expCC _ _ hf; omega
  | succ f ih =>
    intro e s st buf inStr expCC hse hel hf hcur hbuf hin hexp
    subst hbuf hin
    rw [Kvstring.SplitString_loop1]
    by_cases hlt : e < str.length
    · have hg : decide ((e : Int) < len str) = true := by
        simp only [len, decide_eq_true_eq]; omega
      simp only [hg, if_true]
      rw [index_ok str e hlt]
      simp only [Sem.bind]
      rw [List.drop_eq_getElem_cons hlt, splitGo_cons]
      have hcur1 := take_drop_succ str s e hse hlt
      generalize str[e] = c at hcur1 ⊢
      simp only [Quote.DQ, Quote.BS]
      by_cases h1 : (c == (34 : UInt8)) = true
      · -- a quote toggles `inStr`
        simp only [h1, if_true]
        rw [natCast_succ]
        exact ih (e + 1) s _ _ _ _ (by omega) (by omega) (by omega)
          (by simp only [List.reverse_cons, hcur, hcur1]) rfl rfl hexp
      · simp only [h1, if_false, Bool.false_eq_true]
        by_cases h2 : ((c == (92 : UInt8)) && st.inStr) = true
        · -- backslash inside a string: two bytes
          simp only [h2, if_true]
          by_cases hlt2 : e + 1 < str.length
          · rw [List.drop_eq_getElem_cons hlt2]
            simp only []
            rw [natCast_succ, natCast_succ]
            refine ih (e + 1 + 1) s _ _ _ _ (by omega) (by omega) (by omega) ?_ rfl rfl hexp
            have := take_drop_succ str s (e + 1) (by omega) hlt2
            simp only [List.reverse_cons, hcur, hcur1, this, List.append_assoc]
          · -- the backslash is the last byte: `endIdx = len+1`, the loop ends inside the string
            have hnil : List.drop (e + 1) str = [] := List.drop_eq_nil_of_le (by omega)
            rw [hnil]
            simp only [out]
            cases f with
            | zero => omega
            | succ f' =>
              rw [Kvstring.SplitString_loop1]
              have hg2 : decide ((e : Int) + 1 + 1 < len str) = false := by
                simp only [len, decide_eq_false_iff_not]; omega
              have hi : st.inStr = true := by
                simp only [Bool.and_eq_true] at h2; exact h2.2
              simp only [hg2, Kvstring.SplitString_after1, hi, if_true, Bool.false_eq_true, if_false]
        · simp only [h2, Bool.false_eq_true, if_false]
          by_cases h3 : (((c == KV.EQ) || (c == KV.CM)) && !st.inStr) = true
          · -- a separator outside a string
            simp only [h3, if_true]
            simp only [Bool.and_eq_true, Bool.or_eq_true, beq_iff_eq] at h3
            have h4' : (c != expCC) = ((c == KV.EQ) != st.expKV) := by
              rcases h3.1 with hc | hc <;> cases hk : st.expKV <;> simp only [hc, hexp, hk] <;> decide
            rw [h4']
            by_cases h4 : ((c == KV.EQ) != st.expKV) = true
            · simp only [h4, if_true, out]
            · simp only [h4, Bool.false_eq_true, if_false]
              rw [slice_ok str s e hse (by omega)]
              dsimp only [Sem.bind]
              rw [natCast_succ]
              refine ih (e + 1) (e + 1) _ _ _ _ (by omega) (by omega) (by omega) (by simp)
                (by simp only [List.reverse_cons, hcur]) rfl ?_
              cases hk : st.expKV <;> simp [hexp, hk, eq_ne_cm]
          · simp only [h3, Bool.false_eq_true, if_false]
            rw [natCast_succ]
            exact ih (e + 1) s _ _ _ _ (by omega) (by omega) (by omega)
              (by simp only [List.reverse_cons, hcur, hcur1]) rfl rfl hexp
    · have he : e = str.length := by omega
      have hg : decide ((e : Int) < len str) = false := by
        simp only [len, decide_eq_false_iff_not]; omega
      simp only [hg, Bool.false_eq_true, if_false]
      rw [List.drop_eq_nil_of_le (by omega), splitGo_nil, Kvstring.SplitString_after1]
      cases hk : st.inStr
      · rw [slice_ok str s e hse hel]
        simp only [Sem.bind, Bool.false_eq_true, if_false, out, hcur, List.reverse_cons]
      · simp only [if_true, out]

theorem splitString_eq (str : Bytes) :
    Kvstring.SplitString str KV.EQ KV.CM [] =
      .ok (match KV.splitString str with | some l => (l, false) | none => ([], true)) := by
  have h := loop_eq str (dist 0 (len str)) 0 0 {} [] false KV.EQ (Nat.le_refl _) (Nat.zero_le _)
    (by simp only [dist, len]; omega) (by simp) rfl rfl rfl
  simpa only [Kvstring.SplitString, KV.splitString, out, List.drop_zero, Int.natCast_zero, Int.cast_ofNat_Int] using h

end Logrange.Proofs.TrKvSplit

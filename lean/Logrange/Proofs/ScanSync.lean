import Logrange.Model.ScanSync
/-!
# `Scanner.sync` against replacements of the watched file: the invariant of `Model/ScanSync.lean`, for every `Cfg`

`YInv c` holds at `init` / `initWith off` and is preserved by every `step c`, hence along every trace (`yinv_run`),
for the code with the file-id check after the open (`c.checksId = true`, fix 5ccf34b) and for the code before.
The key facts:

* scanned values only grow (a scan stores `cur`, `cur` only grows), every key in `descs` is `≤` a pending scan result,
  every retired key is `<` every key in `descs`, `<` a pending scan result and `< cur`: a retired key never comes back
  (`YInv.keysDistinct` — holds for every `c`, WITHOUT `hit = false`);
* the inode the parser opened (`probe = some x`) lies between every key of the set and `cur`; the id check starts a
  worker only under a key `= cur`, so `key ≤ x ≤ cur = key`: the worker reads the inode of its key whatever the timing
  of replacements (`openedEq` with `c.checksId = true`);
* without the check: unless a replacement fell into a scan-to-open window (`hit`), a pending scan result is `cur`, the
  not-yet-opened descriptor between merge and open names `cur`, and so every worker opened the inode of its key
  (`openedEq` with `hit = false`).
-/
namespace Logrange.ScanSync

structure YInv (c : Cfg) (w : W) : Prop where
  curLt : w.cur < w.next
  descsLe : w.descs.length ≤ 1
  /-- a key is an inode that was under the name at some scan -/
  keysLe : ∀ d ∈ w.descs, d.key ≤ w.cur
  retiredLtCur : ∀ r ∈ w.retired, r.key < w.cur
  scannedLe : ∀ i, w.scanned = some i → i ≤ w.cur
  /-- a pending scan result is the current inode unless a replacement fell into the window -/
  scannedEq : w.hit = false → ∀ i, w.scanned = some i → i = w.cur
  scannedInSync : ∀ i, w.scanned = some i → w.inSync = true
  /-- scan results only grow: a pending one is `≥` every known key -/
  descsLeScan : ∀ d ∈ w.descs, ∀ i, w.scanned = some i → d.key ≤ i
  /-- a retired key is older than every key in the set … -/
  retiredLt : ∀ r ∈ w.retired, ∀ d ∈ w.descs, r.key < d.key
  /-- … and older than a pending scan result -/
  retiredLtScan : ∀ r ∈ w.retired, ∀ i, w.scanned = some i → r.key < i
  retiredDistinct : w.retired.Pairwise (fun a b => a.key ≠ b.key)
  /-- between merge and the end of the sync the not-yet-opened descriptor names the current inode (no `hit`) -/
  pendingOk : w.hit = false → w.inSync = true → w.scanned = none →
    ∀ d ∈ w.descs, d.opened = none → d.key = w.cur
  /-- only the code with the id check ever holds an opened parser back -/
  probeCfg : ∀ x, w.probe = some x → c.checksId = true
  /-- the inode the parser opened was under the name after the merge of this sync: it is `≥` every key of the set -/
  probeOk : ∀ x, w.probe = some x →
    x ≤ w.cur ∧ w.inSync = true ∧ w.scanned = none ∧ ∀ d ∈ w.descs, d.key ≤ x
  probeEq : w.hit = false → ∀ x, w.probe = some x → x = w.cur
  /-- outside a sync a descriptor without a worker is the state file's never-synced one, or (id check only) one whose
  open was rejected because the name was replaced inside the sync: an old key, forgotten by the next merge -/
  unopenedOutside : w.inSync = false → ∀ d ∈ w.descs, d.opened = none →
    (d.key = 0 ∧ w.retired = []) ∨ (c.checksId = true ∧ w.hit = true ∧ d.key < w.cur)
  /-- with the id check ALWAYS, without it unless a replacement fell into a window -/
  openedEq : (c.checksId = true ∨ w.hit = false) → ∀ d ∈ workers w, ∀ o, d.opened = some o → o = d.key
  offZero : ∀ d ∈ workers w, d.key ≠ 0 → d.offset0 = 0

theorem len_le_one {α : Type} (l : List α) (h : l.length ≤ 1) : l = [] ∨ ∃ a, l = [a] := by
  match l, h with
  | [], _ => exact Or.inl rfl
  | [a], _ => exact Or.inr ⟨a, rfl⟩
  | _ :: _ :: _, h => simp only [List.length_cons] at h; omega

theorem yinv_initWith (c : Cfg) (off : Nat) : YInv c (initWith off) := by
  constructor <;> simp [initWith, init, workers]

theorem yinv_init (c : Cfg) : YInv c init := by
  constructor <;> simp [init, workers]

/-! ## replace -/

theorem yinv_replace {c : Cfg} {w : W} (h : YInv c w) : YInv c (step c w .replace) :=
  have hc := h.curLt
  -- no `hit` after the replacement: it fell outside every scan-to-open window
  have out : (w.hit || w.inSync) = false → w.inSync = true → False := fun hh hin => by
    rw [hin, Bool.or_true] at hh; cases hh
  { h with
    curLt := Nat.lt_succ_self _
    keysLe := fun d hd => Nat.le_trans (h.keysLe d hd) (Nat.le_of_lt hc)
    retiredLtCur := fun r hr => Nat.lt_trans (h.retiredLtCur r hr) hc
    scannedLe := fun i hi => Nat.le_trans (h.scannedLe i hi) (Nat.le_of_lt hc)
    scannedEq := fun hh i hi => (out hh (h.scannedInSync i hi)).elim
    pendingOk := fun hh hin => (out hh hin).elim
    probeOk := fun x hx => ⟨Nat.le_trans (h.probeOk x hx).1 (Nat.le_of_lt hc), (h.probeOk x hx).2⟩
    probeEq := fun hh x hx => (out hh (h.probeOk x hx).2.1).elim
    unopenedOutside := fun hin d hd hdo => (h.unopenedOutside hin d hd hdo).imp id
      fun ⟨h1, h2, h3⟩ => ⟨h1, (by rw [h2]; rfl : (w.hit || w.inSync) = true), Nat.lt_trans h3 hc⟩
    openedEq := fun hh => h.openedEq (hh.imp id fun hh => (Bool.or_eq_false_iff.mp hh).1) }

/-! ## scan -/

theorem yinv_scan {c : Cfg} {w : W} (h : YInv c w) : YInv c (step c w .scan) :=
  { h with
    scannedLe := fun | _, rfl => Nat.le_refl _
    scannedEq := fun | _, _, rfl => rfl
    scannedInSync := fun _ _ => rfl
    descsLeScan := fun | d, hd, _, rfl => h.keysLe d hd
    retiredLtScan := fun | r, hr, _, rfl => h.retiredLtCur r hr
    pendingOk := fun _ _ hs => nomatch hs
    probeCfg := fun _ hx => nomatch hx
    probeOk := fun _ hx => nomatch hx
    probeEq := fun _ _ hx => nomatch hx
    unopenedOutside := fun hin => nomatch hin }

/-! ## merge -/

theorem pairwise_of_le_one {α : Type} {R : α → α → Prop} (l : List α) (h : l.length ≤ 1) : l.Pairwise R := by
  rcases len_le_one l h with rfl | ⟨a, rfl⟩
  · exact List.Pairwise.nil
  · exact List.pairwise_singleton _ _

/-- the result of `merge` when a scan result `i` is pending and the set has at most one descriptor: the set becomes
`[x]` with `x.key = i` (`x` the kept descriptor or a new one from offset 0), the descriptors under other keys are retired -/
theorem merge_shape {c : Cfg} {w : W} {i : Nat} (hs : w.scanned = some i) (hl : w.descs.length ≤ 1) :
    ∃ x, step c w .merge = { w with scanned := none, descs := [x],
                                    retired := w.retired ++ w.descs.filter (fun d => !(d.key == i)) } ∧
      x.key = i ∧ (x ∈ w.descs ∨ x = ⟨i, none, 0⟩) := by
  rcases len_le_one w.descs hl with hd | ⟨d, hd⟩
  · exact ⟨⟨i, none, 0⟩, by simp [step, hs, hd], rfl, Or.inr rfl⟩
  · by_cases hk : d.key = i
    · exact ⟨d, by simp [step, hs, hd, hk], hk, Or.inl (by simp [hd])⟩
    · exact ⟨⟨i, none, 0⟩, by simp [step, hs, hd, hk], rfl, Or.inr rfl⟩

theorem yinv_merge {c : Cfg} {w : W} (h : YInv c w) : YInv c (step c w .merge) := by
  cases hs : w.scanned with
  | none => simp only [step, hs]; exact h
  | some i =>
    obtain ⟨x, e, hx, hxo⟩ := merge_shape (c := c) hs h.descsLe
    rw [e]
    generalize hg : w.descs.filter (fun d => !(d.key == i)) = g
    have hile := h.scannedLe i hs
    have hnp : ∀ y, w.probe = some y → False := fun y hy => nomatch hs.symm.trans (h.probeOk y hy).2.2.1
    have hgm : ∀ r ∈ g, r ∈ w.descs ∧ r.key ≠ i := fun r hr => by
      rw [← hg] at hr; simpa using List.mem_filter.mp hr
    have hgr : ∀ r ∈ g, r.key < i := fun r hr =>
      Nat.lt_of_le_of_ne (h.descsLeScan r (hgm r hr).1 i hs) (hgm r hr).2
    have hall : ∀ {P : D → Prop}, (∀ d ∈ workers w, P d) → P ⟨i, none, 0⟩ → ∀ d ∈ [x] ++ (w.retired ++ g), P d := by
      intro P hw hn d hd
      simp only [List.mem_append, List.mem_singleton] at hd
      rcases hd with rfl | hd | hd
      · exact hxo.elim (fun m => hw _ (List.mem_append.mpr (Or.inl m))) (· ▸ hn)
      · exact hw d (List.mem_append.mpr (Or.inr hd))
      · exact hw d (List.mem_append.mpr (Or.inl (hgm d hd).1))
    have hx1 : ∀ d ∈ [x], d = x := fun d hd => List.mem_singleton.mp hd
    exact { h with
      descsLe := Nat.le_refl 1
      keysLe := fun d hd => by rw [hx1 d hd, hx]; exact hile
      retiredLtCur := fun r hr => (List.mem_append.mp hr).elim (h.retiredLtCur r)
        fun hr => Nat.lt_of_lt_of_le (hgr r hr) hile
      scannedLe := fun _ hj => nomatch hj
      scannedEq := fun _ _ hj => nomatch hj
      scannedInSync := fun _ hj => nomatch hj
      descsLeScan := fun _ _ _ hj => nomatch hj
      retiredLt := fun r hr d hd => by
        rw [hx1 d hd, hx]
        exact (List.mem_append.mp hr).elim (fun hr => h.retiredLtScan r hr i hs) (hgr r)
      retiredLtScan := fun _ _ _ hj => nomatch hj
      retiredDistinct := by
        show (w.retired ++ g).Pairwise (fun a b => a.key ≠ b.key)
        rw [List.pairwise_append]
        exact ⟨h.retiredDistinct,
          pairwise_of_le_one g (hg ▸ Nat.le_trans (List.length_filter_le _ _) h.descsLe),
          fun a ha b hb => Nat.ne_of_lt (h.retiredLt a ha b (hgm b hb).1)⟩
      pendingOk := fun hh _ _ d hd _ => by rw [hx1 d hd, hx]; exact h.scannedEq hh i hs
      probeOk := fun y hy => (hnp y hy).elim
      probeEq := fun _ y hy => (hnp y hy).elim
      unopenedOutside := fun hin => nomatch (h.scannedInSync i hs).symm.trans hin
      openedEq := fun hh => hall (h.openedEq hh) fun _ ho => nomatch ho
      offZero := hall h.offZero fun _ => rfl }

/-! ## open, check: what they do to one descriptor -/

theorem startOn_key (i : Nat) (d : D) : (startOn i d).key = d.key := by
  unfold startOn; split <;> rfl

theorem startOn_off (i : Nat) (d : D) : (startOn i d).offset0 = d.offset0 := by
  unfold startOn; split <;> rfl

theorem startOn_opened_ne (i : Nat) (d : D) : (startOn i d).opened ≠ none := by
  unfold startOn; split <;> simp_all

theorem startOn_opened {i : Nat} {d : D} {o : Nat} (h : (startOn i d).opened = some o) :
    d.opened = some o ∨ (d.opened = none ∧ o = i) := by
  unfold startOn at h; split at h
  · next hn => exact Or.inr ⟨hn, (Option.some.inj h).symm⟩
  · exact Or.inl h

/-- what `check` does to one descriptor: the name shows `cur` now, the parser has inode `x` open -/
def checkD (cur x : Nat) (d : D) : D := if d.key == cur then startOn x d else d

theorem checkD_pos {cur x : Nat} {d : D} (h : d.key = cur) : checkD cur x d = startOn x d := by
  simp [checkD, h]

theorem checkD_neg {cur x : Nat} {d : D} (h : d.key ≠ cur) : checkD cur x d = d := by
  simp [checkD, h]

theorem checkD_key (cur x : Nat) (d : D) : (checkD cur x d).key = d.key := by
  by_cases h : d.key = cur
  · rw [checkD_pos h, startOn_key]
  · rw [checkD_neg h]

theorem checkD_off (cur x : Nat) (d : D) : (checkD cur x d).offset0 = d.offset0 := by
  by_cases h : d.key = cur
  · rw [checkD_pos h, startOn_off]
  · rw [checkD_neg h]

theorem checkD_opened {cur x : Nat} {d : D} {o : Nat} (h : (checkD cur x d).opened = some o) :
    d.opened = some o ∨ (d.opened = none ∧ o = x ∧ d.key = cur) := by
  by_cases hk : d.key = cur
  · rw [checkD_pos hk] at h
    exact (startOn_opened h).imp id fun ⟨h1, h2⟩ => ⟨h1, h2, hk⟩
  · rw [checkD_neg hk] at h
    exact Or.inl h

theorem checkD_unopened {cur x : Nat} {d : D} (h : (checkD cur x d).opened = none) :
    d.opened = none ∧ d.key ≠ cur := by
  by_cases hk : d.key = cur
  · rw [checkD_pos hk] at h
    exact absurd h (startOn_opened_ne _ _)
  · rw [checkD_neg hk] at h
    exact ⟨h, hk⟩

theorem map_key {f : D → D} (hk : ∀ d, (f d).key = d.key) {l : List D} {P : Nat → Prop}
    (h : ∀ d ∈ l, P d.key) : ∀ d ∈ l.map f, P d.key := by
  intro d hd
  obtain ⟨a, ha, rfl⟩ := List.mem_map.mp hd
  rw [hk]; exact h a ha

theorem workers_map {f : D → D} {ds rs : List D} {P : D → Prop} (h : ∀ d ∈ ds ++ rs, P d)
    (hf : ∀ a ∈ ds, P a → P (f a)) : ∀ d ∈ ds.map f ++ rs, P d := by
  intro d hd
  rcases List.mem_append.mp hd with hd | hd
  · obtain ⟨a, ha, rfl⟩ := List.mem_map.mp hd
    exact hf a ha (h a (List.mem_append.mpr (Or.inl ha)))
  · exact h d (List.mem_append.mpr (Or.inr hd))

/-! ## open -/

theorem step_open_true {c : Cfg} {w : W} (hc : c.checksId = true)
    (hin : w.inSync = true) (hs : w.scanned = none) (hp : w.probe = none) :
    step c w .open = { w with probe := some w.cur } := by
  simp only [step, hin, hs, hp, hc, Option.isNone_none, Bool.and_self, ↓reduceIte]

theorem step_open_false {c : Cfg} {w : W} (hc : c.checksId = false)
    (hin : w.inSync = true) (hs : w.scanned = none) (hp : w.probe = none) :
    step c w .open = { w with descs := w.descs.map (startOn w.cur), inSync := false } := by
  simp only [step, hin, hs, hp, hc, Option.isNone_none, Bool.and_self, ↓reduceIte, Bool.false_eq_true]

theorem step_open_neg {c : Cfg} {w : W} (hn : ¬ (w.inSync = true ∧ w.scanned = none ∧ w.probe = none)) :
    step c w .open = w := by
  have hn' : ¬ ((w.inSync && w.scanned.isNone && w.probe.isNone) = true) := by simpa [and_assoc] using hn
  simp only [step, hn', Bool.false_eq_true, ↓reduceIte]

theorem yinv_open {c : Cfg} {w : W} (h : YInv c w) : YInv c (step c w .open) := by
  by_cases hfire : w.inSync = true ∧ w.scanned = none ∧ w.probe = none
  · obtain ⟨hin, hs, hp⟩ := hfire
    cases hc : c.checksId with
    | true =>
      -- the parser opens the path: the worker is not started yet
      rw [step_open_true hc hin hs hp]
      exact { h with
        probeCfg := fun _ _ => hc
        probeOk := fun | _, rfl => ⟨Nat.le_refl _, hin, hs, h.keysLe⟩
        probeEq := fun | _, _, rfl => rfl }
    | false =>
      rw [step_open_false hc hin hs hp]
      exact { h with
        descsLe := Nat.le_trans (Nat.le_of_eq (List.length_map _)) h.descsLe
        keysLe := map_key (P := (· ≤ w.cur)) (startOn_key _) h.keysLe
        scannedInSync := fun _ hi => nomatch hs.symm.trans hi
        descsLeScan := fun _ _ _ hi => nomatch hs.symm.trans hi
        retiredLt := fun r hr => map_key (P := (r.key < ·)) (startOn_key _) (h.retiredLt r hr)
        pendingOk := fun _ hin' => nomatch hin'
        probeCfg := fun _ hy => nomatch hp.symm.trans hy
        probeOk := fun _ hy => nomatch hp.symm.trans hy
        probeEq := fun _ _ hy => nomatch hp.symm.trans hy
        unopenedOutside := fun _ d hd hdo => by
          obtain ⟨a, _, rfl⟩ := List.mem_map.mp hd
          exact absurd hdo (startOn_opened_ne _ _)
        openedEq := fun hh => by
          have hh' : w.hit = false := hh.elim (fun hh => by rw [hc] at hh; cases hh) id
          refine workers_map (h.openedEq (Or.inr hh')) fun a ha ih o ho => ?_
          rw [startOn_key]
          rcases startOn_opened ho with h1 | ⟨h1, rfl⟩
          · exact ih o h1
          · exact (h.pendingOk hh' hin hs a ha h1).symm
        offZero := workers_map h.offZero fun a _ ih hk => by
          rw [startOn_key] at hk; rw [startOn_off]; exact ih hk }
  · rw [step_open_neg hfire]; exact h

/-! ## check -/

theorem step_check_some {c : Cfg} {w : W} {x : Nat} (hp : w.probe = some x) :
    step c w .check =
      { w with probe := none, inSync := false, descs := w.descs.map (checkD w.cur x) } := by
  simp only [step, hp]
  rfl

theorem step_check_none {c : Cfg} {w : W} (hp : w.probe = none) : step c w .check = w := by
  simp only [step, hp]

theorem yinv_check {c : Cfg} {w : W} (h : YInv c w) : YInv c (step c w .check) := by
  cases hp : w.probe with
  | none => rw [step_check_none hp]; exact h
  | some x =>
    rw [step_check_some hp]
    obtain ⟨hxle, hin, hs, hkx⟩ := h.probeOk x hp
    have hcfg := h.probeCfg x hp
    exact { h with
      descsLe := Nat.le_trans (Nat.le_of_eq (List.length_map _)) h.descsLe
      keysLe := map_key (P := (· ≤ w.cur)) (checkD_key _ _) h.keysLe
      scannedInSync := fun _ hi => nomatch hs.symm.trans hi
      descsLeScan := fun _ _ _ hi => nomatch hs.symm.trans hi
      retiredLt := fun r hr => map_key (P := (r.key < ·)) (checkD_key _ _) (h.retiredLt r hr)
      pendingOk := fun _ hin' => nomatch hin'
      probeCfg := fun _ hy => nomatch hy
      probeOk := fun _ hy => nomatch hy
      probeEq := fun _ _ hy => nomatch hy
      unopenedOutside := fun _ d hd hdo => by
        -- a descriptor the check did not start: its key is not the inode under the name — a rejected open
        obtain ⟨a, ha, rfl⟩ := List.mem_map.mp hd
        obtain ⟨hao, hak⟩ := checkD_unopened hdo
        refine Or.inr ⟨hcfg, ?_, ?_⟩
        · show w.hit = true
          cases hh : w.hit with
          | true => rfl
          | false => exact absurd (h.pendingOk hh hin hs a ha hao) hak
        · rw [checkD_key]
          exact Nat.lt_of_le_of_ne (h.keysLe a ha) hak
      openedEq := fun hh => workers_map (h.openedEq hh) fun a ha ih o ho => by
        rw [checkD_key]
        rcases checkD_opened ho with h1 | ⟨_, rfl, h3⟩
        · exact ih o h1
        · -- started by the check: key = cur, and key ≤ (the inode the parser opened) ≤ cur
          exact Nat.le_antisymm (h3 ▸ hxle) (hkx a ha)
      offZero := workers_map h.offZero fun a _ ih hk => by
        rw [checkD_key] at hk; rw [checkD_off]; exact ih hk }

/-! ## every step, every trace -/

theorem yinv_step {c : Cfg} {w : W} (h : YInv c w) (l : L) : YInv c (step c w l) := by
  cases l with
  | replace => exact yinv_replace h
  | scan => exact yinv_scan h
  | merge => exact yinv_merge h
  | «open» => exact yinv_open h
  | check => exact yinv_check h

theorem yinv_run {c : Cfg} {w : W} (h : YInv c w) (tr : List L) : YInv c (run c w tr) := by
  induction tr generalizing w with
  | nil => exact h
  | cons l ls ih => exact ih (yinv_step h l)

/-! ## consequences -/

/-- every key (current or retired) is an inode that exists -/
theorem YInv.keysLt {c : Cfg} {w : W} (h : YInv c w) : ∀ d ∈ workers w, d.key < w.next := by
  intro d hd
  have hc := h.curLt
  rcases List.mem_append.mp hd with hd | hd
  · have := h.keysLe d hd; omega
  · have := h.retiredLtCur d hd; omega

/-- no two descriptors (current or retired) were ever stored under the same inode — for every `c`, with or without
`hit` -/
theorem YInv.keysDistinct {c : Cfg} {w : W} (h : YInv c w) :
    (workers w).Pairwise (fun a b => a.key ≠ b.key) := by
  show (w.descs ++ w.retired).Pairwise (fun a b => a.key ≠ b.key)
  rw [List.pairwise_append]
  refine ⟨pairwise_of_le_one _ h.descsLe, h.retiredDistinct, ?_⟩
  · intro a ha b hb
    have := h.retiredLt b hb a ha
    omega

/-- with the id check always, without it unless a replacement fell into a scan-to-open window: no inode is open in two
workers -/
theorem YInv.openedDistinct {c : Cfg} {w : W} (h : YInv c w) (hh : c.checksId = true ∨ w.hit = false) :
    (workers w).Pairwise (fun a b => ∀ o, a.opened = some o → b.opened ≠ some o) := by
  refine List.Pairwise.imp_of_mem ?_ h.keysDistinct
  intro a b ha hb hab o hao hbo
  have h1 := h.openedEq hh a ha o hao
  have h2 := h.openedEq hh b hb o hbo
  omega

/-- `open` then `check` with nothing in between, after a merge (every descriptor of the set names the inode under the
name): with the id check the parser's inode is the descriptor's, the worker is started; without, it is started at once -/
theorem open_check_quiet {c : Cfg} {w : W} (hin : w.inSync = true) (hs : w.scanned = none) (hp : w.probe = none)
    (hk : ∀ d ∈ w.descs, d.key = w.cur) :
    step c (step c w .open) .check =
      { w with descs := w.descs.map (startOn w.cur), inSync := false, probe := none } := by
  cases hc : c.checksId with
  | true =>
    rw [step_open_true hc hin hs hp, step_check_some (x := w.cur) rfl]
    show { w with probe := none, inSync := false, descs := w.descs.map (checkD w.cur w.cur) } = _
    rw [List.map_congr_left fun d hd => checkD_pos (hk d hd)]
  | false =>
    rw [step_open_false hc hin hs hp, step_check_none (by exact hp)]
    cases w; cases hp; rfl

theorem startOn_opened_eq {i : Nat} {d : D} (h : ∀ o, d.opened = some o → o = i) :
    (startOn i d).opened = some i := by
  unfold startOn
  split
  · rfl
  · next o ho => rw [ho, h o ho]

/-- one complete sync without a replacement inside, from ANY state that satisfies the invariant — with the id check
whatever happened before (`hit` or not, a rejected open, a parser still open); without the check from a state without
`hit` —: exactly one descriptor, for the inode under the name, opened on it, read from 0 unless it is still the inode of
the state file -/
theorem YInv.quiet_sync {c : Cfg} {w0 : W} (h : YInv c w0) (hh : c.checksId = true ∨ w0.hit = false) :
    (run c w0 sync).hit = w0.hit ∧ (run c w0 sync).cur = w0.cur ∧
      ∃ d, (run c w0 sync).descs = [d] ∧ d.key = (run c w0 sync).cur ∧ d.opened = some (run c w0 sync).cur ∧
        ((run c w0 sync).cur ≠ 0 → d.offset0 = 0) := by
  obtain ⟨x, e, hx, hxo⟩ := merge_shape (c := c) (w := step c w0 .scan) (i := w0.cur) rfl (yinv_scan h).descsLe
  have h2 := yinv_merge (yinv_scan h)
  rw [e] at h2
  rw [show run c w0 sync = step c (step c (step c (step c w0 .scan) .merge) .open) .check from rfl, e,
    open_check_quiet rfl rfl rfl fun d hd => by rw [List.mem_singleton.mp hd]; exact hx]
  refine ⟨rfl, rfl, startOn w0.cur x, rfl, (startOn_key _ _).trans hx, ?_, fun hne => ?_⟩
  · exact startOn_opened_eq fun o ho =>
      (h2.openedEq hh x (List.mem_append.mpr (Or.inl (List.mem_singleton.mpr rfl))) o ho).trans hx
  · rw [startOn_off]
    rcases hxo with hxo | rfl
    · exact h.offZero x (List.mem_append.mpr (Or.inl hxo)) (by rw [hx]; exact hne)
    · rfl

end Logrange.ScanSync

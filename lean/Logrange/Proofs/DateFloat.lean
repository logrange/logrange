import Logrange.Model.DateFloat
import Logrange.Proofs.Date
/-!
# The float64 model of `-<num>(m|h|d)`: exactness on small integers, monotonicity, non-negativity

No floating point contract is assumed: `f64Round` is a function on naturals and everything below is arithmetic.

* `rne_mono`: rounding `x / y` to the nearest integer (ties to even) is monotone in the rational `x / y`;
* `rawVal_mono`: so is rounding to 53 significant bits (binade by binade; across binades the power of two between
  them separates the results);
* `f64Round_mono`, `f64MulNat_mono`, `f64ToDur_mono`, `relDur_mono`.
-/
/- 2^1074 and 2^2098 occur as literals; let the elaborator evaluate them (GMP) instead of refusing and unfolding `Nat.pow` -/
set_option exponentiation.threshold 4096

namespace Logrange.Date

/-! ## 1. round to the nearest integer -/

theorem rne_eq (x y : Nat) :
    rne x y = x / y + if y < 2 * (x % y) ∨ (y ≤ 2 * (x % y) ∧ x / y % 2 = 1) then 1 else 0 := by
  unfold rne
  generalize x / y = q
  generalize x % y = r
  by_cases h1 : 2 * r < y
  · rw [if_pos h1, if_neg (by omega)]; rfl
  · rw [if_neg h1]
    by_cases h2 : y < 2 * r
    · rw [if_pos h2, if_pos (Or.inl h2)]
    · rw [if_neg h2]
      by_cases h3 : q % 2 = 0
      · rw [if_pos h3, if_neg (by omega)]; rfl
      · rw [if_neg h3, if_pos (Or.inr ⟨by omega, by omega⟩)]

theorem rne_ge_div (x y : Nat) : x / y ≤ rne x y := by
  rw [rne_eq]; exact Nat.le_add_right _ _

theorem rne_le_div_succ (x y : Nat) : rne x y ≤ x / y + 1 := by
  rw [rne_eq]; split <;> omega

theorem div_le_div_of_cross {x y x' y' : Nat} (hy : 0 < y) (hy' : 0 < y') (h : x * y' ≤ x' * y) :
    x / y ≤ x' / y' := by
  rw [Nat.le_div_iff_mul_le hy']
  have h1 : x / y * y ≤ x := Nat.div_mul_le_self x y
  have h2 : x / y * y' * y ≤ x' * y :=
    calc x / y * y' * y = x / y * y * y' := Nat.mul_right_comm ..
      _ ≤ x * y' := Nat.mul_le_mul_right _ h1
      _ ≤ x' * y := h
  exact Nat.le_of_mul_le_mul_right h2 hy

theorem cross_lt {y r y' r' : Nat} (hy' : 0 < y') (hr : r * y' ≤ r' * y) (h : y < 2 * r) : y' < 2 * r' := by
  apply Nat.lt_of_not_le; intro hc
  have a : y * y' < 2 * r * y' := Nat.mul_lt_mul_of_pos_right h hy'
  have b : 2 * r' * y ≤ y' * y := Nat.mul_le_mul_right y hc
  rw [Nat.mul_assoc] at a b
  rw [Nat.mul_comm y' y] at b
  omega

theorem cross_le {y r y' r' : Nat} (hy : 0 < y) (hr : r * y' ≤ r' * y) (h : y ≤ 2 * r) : y' ≤ 2 * r' := by
  apply Nat.le_of_not_lt; intro hc
  have a : y * y' ≤ 2 * r * y' := Nat.mul_le_mul_right y' h
  have b : 2 * r' * y < y' * y := Nat.mul_lt_mul_of_pos_right hc hy
  rw [Nat.mul_assoc] at a b
  rw [Nat.mul_comm y' y] at b
  omega

/-- rounding to nearest, ties to even, is monotone: `x / y ≤ x' / y'` (as rationals) gives `rne x y ≤ rne x' y'` -/
theorem rne_mono {x y x' y' : Nat} (hy : 0 < y) (hy' : 0 < y') (h : x * y' ≤ x' * y) : rne x y ≤ rne x' y' := by
  have hq := div_le_div_of_cross hy hy' h
  rcases Nat.lt_or_eq_of_le hq with hlt | heq
  · have := rne_le_div_succ x y
    have := rne_ge_div x' y'
    omega
  · have hx := Nat.div_add_mod x y
    have hx' := Nat.div_add_mod x' y'
    have hr : (x % y) * y' ≤ (x' % y') * y := by
      rw [← hx, ← hx', ← heq] at h
      rw [Nat.add_mul, Nat.add_mul] at h
      have e : y * (x / y) * y' = y' * (x / y) * y := by
        rw [Nat.mul_comm y (x / y), Nat.mul_comm y' (x / y), Nat.mul_right_comm]
      omega
    have F1 := cross_lt (y := y) (r := x % y) (y' := y') (r' := x' % y') hy' hr
    have F2 := cross_le (y := y) (r := x % y) (y' := y') (r' := x' % y') hy hr
    -- same quotient: rounding `x / y` up forces rounding `x' / y'` up
    rw [rne_eq, rne_eq, ← heq]
    apply Nat.add_le_add_left
    by_cases c : y < 2 * (x % y) ∨ (y ≤ 2 * (x % y) ∧ x / y % 2 = 1)
    · rw [if_pos c, if_pos (c.elim (fun h => Or.inl (F1 h)) (fun h => Or.inr ⟨F2 h.1, h.2⟩))]
      exact Nat.le_refl _
    · rw [if_neg c]; exact Nat.zero_le _

theorem rne_one (t : Nat) : rne t 1 = t := by
  simp [rne, Nat.mod_one]

theorem rne_mul_self (t : Nat) {y : Nat} (hy : 0 < y) : rne (t * y) y = t := by
  simp [rne, Nat.mul_mod_left, Nat.mul_div_cancel t hy, hy]

theorem rne_le_of_le {x y t : Nat} (hy : 0 < y) (h : x ≤ t * y) : rne x y ≤ t := by
  have := rne_mono (x := x) (y := y) (x' := t) (y' := 1) hy (by omega) (by omega)
  rwa [rne_one] at this

theorem le_rne_of_le {x y t : Nat} (hy : 0 < y) (h : t * y ≤ x) : t ≤ rne x y := by
  have := rne_mono (x := t) (y := 1) (x' := x) (y' := y) (by omega) hy (by omega)
  rwa [rne_one] at this

/-! ## 2. round to 53 significant bits -/

theorem log2Floor_mono {a b : Nat} (h : a ≤ b) : log2Floor a ≤ log2Floor b := by
  unfold log2Floor
  by_cases ha : a = 0
  · subst ha; simp
  · have h1 := Nat.log2_self_le ha
    have h2 := Nat.lt_log2_self (n := b)
    have h3 : 2 ^ a.log2 < 2 ^ (b.log2 + 1) := by omega
    have := (Nat.pow_lt_pow_iff_right (by omega : 1 < 2)).mp h3
    omega

/-- the rounded value, scaled by 2^1074 -/
def rawVal (N D : Nat) : Nat := rne N (D * 2 ^ binade N D) * 2 ^ binade N D

theorem binade_mono {N D N' D' : Nat} (hD : 0 < D) (hD' : 0 < D') (h : N * D' ≤ N' * D) :
    binade N D ≤ binade N' D' := by
  have := log2Floor_mono (div_le_div_of_cross hD hD' h)
  unfold binade; omega

/-- everything in the binade `k` is below `2^(k+53)` -/
theorem binade_upper {N D : Nat} (hD : 0 < D) : N < 2 ^ 53 * (D * 2 ^ binade N D) := by
  have h1 := Nat.lt_log2_self (n := N / D)
  have h2 : (N / D).log2 + 1 ≤ binade N D + 53 := by unfold binade log2Floor; omega
  have h3 : N / D < 2 ^ (binade N D + 53) := Nat.lt_of_lt_of_le h1 (Nat.pow_le_pow_right (by omega) h2)
  have h4 := (Nat.div_lt_iff_lt_mul hD).mp h3
  have e : 2 ^ (binade N D + 53) * D = 2 ^ 53 * (D * 2 ^ binade N D) := by
    rw [Nat.pow_add, Nat.mul_comm D, ← Nat.mul_assoc, Nat.mul_comm (2 ^ binade N D)]
  omega

/-- everything in a binade `k > 0` is at least `2^(k+52)` -/
theorem binade_lower {N D : Nat} (hD : 0 < D) (hk : 0 < binade N D) : 2 ^ 52 * (D * 2 ^ binade N D) ≤ N := by
  have hne : N / D ≠ 0 := by
    intro h0; unfold binade log2Floor at hk; rw [h0] at hk; simp at hk
  have h1 := Nat.log2_self_le hne
  have h2 : (N / D).log2 = binade N D + 52 := by unfold binade log2Floor at hk ⊢; omega
  rw [h2] at h1
  have h4 := (Nat.le_div_iff_mul_le hD).mp h1
  have e : 2 ^ (binade N D + 52) * D = 2 ^ 52 * (D * 2 ^ binade N D) := by
    rw [Nat.pow_add, Nat.mul_comm D, ← Nat.mul_assoc, Nat.mul_comm (2 ^ binade N D)]
  omega

theorem rawVal_mono {N D N' D' : Nat} (hD : 0 < D) (hD' : 0 < D') (h : N * D' ≤ N' * D) :
    rawVal N D ≤ rawVal N' D' := by
  have hk := binade_mono hD hD' h
  unfold rawVal
  rcases Nat.lt_or_eq_of_le hk with hlt | heq
  · have hp : 0 < 2 ^ binade N D := Nat.two_pow_pos _
    have hp' : 0 < 2 ^ binade N' D' := Nat.two_pow_pos _
    have hu : rne N (D * 2 ^ binade N D) ≤ 2 ^ 53 :=
      rne_le_of_le (Nat.mul_pos hD hp) (Nat.le_of_lt (binade_upper hD))
    have hl : 2 ^ 52 ≤ rne N' (D' * 2 ^ binade N' D') :=
      le_rne_of_le (Nat.mul_pos hD' hp') (binade_lower hD' (by omega))
    calc rne N (D * 2 ^ binade N D) * 2 ^ binade N D
        ≤ 2 ^ 53 * 2 ^ binade N D := Nat.mul_le_mul_right _ hu
      _ = 2 ^ (53 + binade N D) := (Nat.pow_add ..).symm
      _ ≤ 2 ^ (52 + binade N' D') := Nat.pow_le_pow_right (by omega) (by omega)
      _ = 2 ^ 52 * 2 ^ binade N' D' := Nat.pow_add ..
      _ ≤ rne N' (D' * 2 ^ binade N' D') * 2 ^ binade N' D' := Nat.mul_le_mul_right _ hl
  · rw [← heq]
    have hp : 0 < 2 ^ binade N D := Nat.two_pow_pos _
    apply Nat.mul_le_mul_right
    apply rne_mono (Nat.mul_pos hD hp) (Nat.mul_pos hD' hp)
    rw [← Nat.mul_assoc, ← Nat.mul_assoc]
    exact Nat.mul_le_mul_right _ h

/-! ## 3. `f64Round`: order, monotonicity, exactness -/

/-- the order of the values; +Inf is the top -/
def F64.le : F64 → F64 → Prop
  | .fin m k, .fin m' k' => m * 2 ^ k ≤ m' * 2 ^ k'
  | .fin _ _, .inf => True
  | .inf, .fin _ _ => False
  | .inf, .inf => True

/-- the value is the natural number `n` -/
def F64.eqNat (v : F64) (n : Nat) : Prop := v.scaled = some (n * 2 ^ 1074)

theorem F64.le_inf (v : F64) : F64.le v .inf := by cases v <;> trivial

theorem F64.le_refl (v : F64) : F64.le v v := by cases v <;> simp [F64.le]

theorem f64Round_eq (n d : Nat) :
    f64Round n d = if rawVal (n * 2 ^ 1074) d < ovfScaled then
      .fin (rne (n * 2 ^ 1074) (d * 2 ^ binade (n * 2 ^ 1074) d)) (binade (n * 2 ^ 1074) d) else .inf := rfl

/-- correctly rounded conversion is monotone -/
theorem f64Round_mono {a b c d : Nat} (hb : 0 < b) (hd : 0 < d) (h : a * d ≤ c * b) :
    F64.le (f64Round a b) (f64Round c d) := by
  have h' : a * 2 ^ 1074 * d ≤ c * 2 ^ 1074 * b := by
    rw [Nat.mul_right_comm a, Nat.mul_right_comm c]; exact Nat.mul_le_mul_right _ h
  have hm := rawVal_mono hb hd h'
  rw [f64Round_eq, f64Round_eq]
  generalize ovfScaled = B
  split
  · split
    · exact hm
    · trivial
  · split
    · omega
    · trivial

theorem scaled_lt_pow {a E F : Nat} (ha : a < 2 ^ 53) (h : 53 + E ≤ F) : a * 2 ^ E < 2 ^ F := by
  have h1 : a * 2 ^ E < 2 ^ 53 * 2 ^ E := Nat.mul_lt_mul_of_pos_right ha (Nat.two_pow_pos _)
  have h2 : 2 ^ 53 * 2 ^ E = 2 ^ (53 + E) := (Nat.pow_add ..).symm
  have h3 : 2 ^ (53 + E) ≤ 2 ^ F := Nat.pow_le_pow_right (by omega) h
  omega

theorem ovfScaled_eq : ovfScaled = 2 ^ 2098 := rfl

theorem f64Round_exact' (a d : Nat) (hd : 0 < d) (ha : a < 2 ^ 53) :
    ∃ m k, f64Round (a * d) d = .fin m k ∧ m * 2 ^ k = a * 2 ^ 1074 := by
  have eN : a * d * 2 ^ 1074 = a * 2 ^ 1074 * d := Nat.mul_right_comm ..
  have hdiv : a * d * 2 ^ 1074 / d = a * 2 ^ 1074 := by rw [eN]; exact Nat.mul_div_cancel _ hd
  have hlt : a * 2 ^ 1074 < 2 ^ 1127 := scaled_lt_pow ha (by omega)
  have hk : binade (a * d * 2 ^ 1074) d ≤ 1074 := by
    unfold binade log2Floor; rw [hdiv]
    by_cases h0 : a * 2 ^ 1074 = 0
    · rw [h0]; simp
    · have := (Nat.log2_lt h0).mpr hlt
      omega
  obtain ⟨k, hkdef⟩ : ∃ k, binade (a * d * 2 ^ 1074) d = k := ⟨_, rfl⟩
  rw [hkdef] at hk
  have e2 : 2 ^ (1074 - k) * 2 ^ k = (2 : Nat) ^ 1074 := by
    rw [← Nat.pow_add, Nat.sub_add_cancel hk]
  have hp : 0 < d * 2 ^ k := Nat.mul_pos hd (Nat.two_pow_pos _)
  have eN' : a * d * 2 ^ 1074 = a * 2 ^ (1074 - k) * (d * 2 ^ k) := by
    rw [← e2]; ac_rfl
  have hr : rne (a * d * 2 ^ 1074) (d * 2 ^ k) = a * 2 ^ (1074 - k) := by
    rw [eN']; exact rne_mul_self _ hp
  have hv : a * 2 ^ (1074 - k) * 2 ^ k = a * 2 ^ 1074 := by rw [Nat.mul_assoc, e2]
  have hov : a * 2 ^ 1074 < ovfScaled := by
    rewrite [ovfScaled_eq]; exact scaled_lt_pow ha (by omega)
  refine ⟨a * 2 ^ (1074 - k), k, ?_, hv⟩
  rw [f64Round_eq]; unfold rawVal
  rw [hkdef, hr, hv, if_pos hov]

/-- integers below 2^53 are represented exactly -/
theorem f64Round_exact (n : Nat) (h : n < 2 ^ 53) : F64.eqNat (f64Round n 1) n := by
  obtain ⟨m, k, e, hv⟩ := f64Round_exact' n 1 (by omega) h
  rw [Nat.mul_one] at e
  rw [e]; simp only [F64.eqNat, F64.scaled, hv]

/-! ## 4. multiplication and conversion to a duration -/

theorem f64MulNat_inf (mult : Nat) : f64MulNat .inf mult = .inf := rfl

theorem f64MulNat_fin (m k mult : Nat) : f64MulNat (.fin m k) mult = f64Round (m * 2 ^ k * mult) (2 ^ 1074) := rfl

theorem f64MulNat_mono {v v' : F64} {ma mb : Nat} (hv : F64.le v v') (hm : ma ≤ mb) :
    F64.le (f64MulNat v ma) (f64MulNat v' mb) := by
  match v, v', hv with
  | _, .inf, _ => exact F64.le_inf _
  | .fin m k, .fin m' k', hv =>
    have hle : m * 2 ^ k ≤ m' * 2 ^ k' := hv
    rw [f64MulNat_fin, f64MulNat_fin]
    exact f64Round_mono (Nat.two_pow_pos _) (Nat.two_pow_pos _) (Nat.mul_le_mul_right _ (Nat.mul_le_mul hle hm))

theorem durBound_eq : durBound = 2 ^ 63 * 2 ^ 1074 := rfl

theorem f64ToDur_fin (ovf m k : Nat) :
    f64ToDur ovf (.fin m k) = if m * 2 ^ k < durBound then m * 2 ^ k / 2 ^ 1074 else ovf := rfl

theorem f64ToDur_cases (ovf : Nat) (v : F64) : f64ToDur ovf v = ovf ∨ f64ToDur ovf v < 9223372036854775808 := by
  cases v with
  | inf => exact Or.inl rfl
  | fin m k =>
    rewrite [f64ToDur_fin]
    split
    · next h =>
      rewrite [durBound_eq] at h
      have h2 := (Nat.div_lt_iff_lt_mul (Nat.two_pow_pos 1074)).mpr h
      have e : (2 : Nat) ^ 63 = 9223372036854775808 := by decide
      exact Or.inr (by omega)
    · exact Or.inl rfl

theorem f64ToDur_le_ovf {ovf : Nat} (hovf : 9223372036854775807 ≤ ovf) (v : F64) : f64ToDur ovf v ≤ ovf := by
  rcases f64ToDur_cases ovf v with h | h <;> omega

theorem f64ToDur_mono {ovf : Nat} (hovf : 9223372036854775807 ≤ ovf) {v v' : F64} (hv : F64.le v v') :
    f64ToDur ovf v ≤ f64ToDur ovf v' := by
  cases v' with
  | inf => exact f64ToDur_le_ovf hovf v
  | fin m' k' =>
    cases v with
    | inf => exact absurd hv (by simp [F64.le])
    | fin m k =>
      have hle : m * 2 ^ k ≤ m' * 2 ^ k' := hv
      have h1 := f64ToDur_le_ovf hovf (.fin m k)
      simp only [f64ToDur] at h1 ⊢
      generalize durBound = B at *
      split
      · split
        · exact Nat.div_le_div_right hle
        · next h => rw [if_pos ‹_›] at h1; exact h1
      · split
        · omega
        · exact Nat.le_refl _

/-! ## 5. `decValue`, `parseFloatDec`, `relDur` -/

theorem takeWhile_allDig {s : Bytes} (h : AllDig s) : s.takeWhile isDig = s := by
  have := takeWhile_digits s [] h (Or.inl rfl)
  rwa [List.append_nil] at this

theorem dropWhile_allDig : ∀ {s : Bytes}, AllDig s → s.dropWhile isDig = []
  | [], _ => rfl
  | c :: r, h => by
    rw [List.dropWhile_cons, AllDig.head h]; simp only [if_true]
    exact dropWhile_allDig (AllDig.tail h)

theorem decValue_allDig {s : Bytes} (h : AllDig s) (hne : s ≠ []) : decValue s = some (natOfDigits s, 1) := by
  unfold decValue
  rw [dropWhile_allDig h, takeWhile_allDig h]
  cases s with
  | nil => exact absurd rfl hne
  | cons c r => rfl

theorem decValue_natDecimal (n : Nat) : decValue (natDecimal n) = some (n, 1) := by
  rw [decValue_allDig (natDecimal_allDig n) (natDecimal_ne_nil n), natOfDigits_natDecimal]

theorem decValue_den_pos {s : Bytes} {n d : Nat} (h : decValue s = some (n, d)) : 0 < d := by
  unfold decValue at h
  split at h
  · split at h
    · cases h
    · cases h; omega
  · split at h
    · cases h; exact Nat.pow_pos (by omega)
    · cases h

theorem parseFloatDec_of_decValue {s : Bytes} {n d : Nat} (hv : decValue s = some (n, d)) :
    parseFloatDec s = F64.finite? (f64Round n d) := by
  unfold parseFloatDec
  rewrite [hv, Option.bind_some]
  rfl

theorem finite?_eq_some {w v : F64} (h : F64.finite? w = some v) : w = v ∧ v ≠ .inf := by
  cases w with
  | inf => cases h
  | fin m k => cases h; exact ⟨rfl, fun e => by cases e⟩

theorem parseFloatDec_eq {s : Bytes} {n d : Nat} {v : F64} (hv : decValue s = some (n, d))
    (h : parseFloatDec s = some v) : f64Round n d = v ∧ v ≠ .inf := by
  rewrite [parseFloatDec_of_decValue hv] at h
  exact finite?_eq_some h
theorem relDur_eq {ovf : Nat} {s : Bytes} {mult : Nat} {r : Int} (h : relDur ovf s mult = some r) :
    ∃ v, parseFloatDec s = some v ∧ r = ((f64ToDur ovf (f64MulNat v mult) : Nat) : Int) := by
  unfold relDur at h
  cases hp : parseFloatDec s with
  | none => rw [hp] at h; cases h
  | some v => rw [hp] at h; cases h; exact ⟨v, rfl, rfl⟩

theorem relDur_of_parse {ovf : Nat} {s : Bytes} {mult : Nat} {v : F64} (h : parseFloatDec s = some v) :
    relDur ovf s mult = some ((f64ToDur ovf (f64MulNat v mult) : Nat) : Int) := by
  unfold relDur; rewrite [h]; rfl

/-- small integer amounts are exact: no rounding anywhere -/
theorem relDur_exact_small (ovf n mult : Nat) (hm : 0 < mult) (h : n * mult < 9007199254740992) :
    relDur ovf (natDecimal n) mult = some ((n * mult : Nat) : Int) := by
  have e53 : (2 : Nat) ^ 53 = 9007199254740992 := by decide
  have hn : n < 2 ^ 53 := by
    have : n * 1 ≤ n * mult := Nat.mul_le_mul_left n hm
    omega
  obtain ⟨m, k, e1, hv1⟩ := f64Round_exact' n 1 (by omega) hn
  rw [Nat.mul_one] at e1
  obtain ⟨m2, k2, e2, hv2⟩ := f64Round_exact' (n * mult) (2 ^ 1074) (Nat.two_pow_pos _) (by omega)
  have hp : parseFloatDec (natDecimal n) = some (.fin m k) := by
    rewrite [parseFloatDec_of_decValue (decValue_natDecimal n), e1]; rfl
  have hmul : f64MulNat (.fin m k) mult = .fin m2 k2 := by
    rw [f64MulNat_fin, hv1, Nat.mul_right_comm, e2]
  have hlt : m2 * 2 ^ k2 < durBound := by
    rewrite [hv2, durBound_eq]
    have h63 : n * mult < 2 ^ 63 := by omega
    exact Nat.mul_lt_mul_of_pos_right h63 (Nat.two_pow_pos _)
  have hdur : f64ToDur ovf (.fin m2 k2) = n * mult := by
    rewrite [f64ToDur_fin, if_pos hlt, hv2]; exact Nat.mul_div_cancel _ (Nat.two_pow_pos _)
  rewrite [relDur_of_parse hp, hmul, hdur]; rfl

/-- a larger amount of a larger unit never gives a smaller duration -/
theorem relDur_mono (ovf : Nat) (hovf : 9223372036854775807 ≤ ovf) (sa sb : Bytes) (na da nb db ma mb : Nat)
    (hva : decValue sa = some (na, da)) (hvb : decValue sb = some (nb, db)) (hle : na * db ≤ nb * da)
    (hm : ma ≤ mb) (ra rb : Int) (ha : relDur ovf sa ma = some ra) (hb : relDur ovf sb mb = some rb) :
    ra ≤ rb := by
  obtain ⟨va, hpa, era⟩ := relDur_eq ha
  obtain ⟨vb, hpb, erb⟩ := relDur_eq hb
  obtain ⟨ea, _⟩ := parseFloatDec_eq hva hpa
  obtain ⟨eb, _⟩ := parseFloatDec_eq hvb hpb
  have h1 : F64.le va vb := by
    rw [← ea, ← eb]; exact f64Round_mono (decValue_den_pos hva) (decValue_den_pos hvb) hle
  have h2 := f64ToDur_mono hovf (f64MulNat_mono h1 hm)
  rw [era, erb]; exact Int.ofNat_le.mpr h2

theorem relDur_mono_nat (ovf : Nat) (hovf : 9223372036854775807 ≤ ovf) (a b ma mb : Nat) (hab : a ≤ b)
    (hm : ma ≤ mb) (ra rb : Int) (ha : relDur ovf (natDecimal a) ma = some ra)
    (hb : relDur ovf (natDecimal b) mb = some rb) : ra ≤ rb :=
  relDur_mono ovf hovf _ _ a 1 b 1 ma mb (decValue_natDecimal a) (decValue_natDecimal b) (by omega) hm ra rb ha hb

theorem relDur_nonneg (ovf : Nat) (s : Bytes) (m : Nat) (r : Int) (h : relDur ovf s m = some r) : 0 ≤ r := by
  obtain ⟨v, _, e⟩ := relDur_eq h
  rw [e]; exact Int.natCast_nonneg _

/-- whatever the text: the amount is at most 2^63 - 1 ns (a conversion inside the int64 range) or it is the
platform's out-of-range result -/
theorem relDur_le_ovf (ovf : Nat) (hovf : 9223372036854775807 ≤ ovf) (s : Bytes) (m : Nat) (r : Int)
    (h : relDur ovf s m = some r) : r ≤ (ovf : Int) := by
  obtain ⟨v, _, e⟩ := relDur_eq h
  rw [e]; exact Int.ofNat_le.mpr (f64ToDur_le_ovf hovf _)

/-- a literal is rejected (range error / outside the model), or the amount is inside the int64 range, or it is
exactly the platform's out-of-range result: nothing else can come out -/
theorem relDur_overflow_rejected_or_saturated (ovf : Nat) (s : Bytes) (m : Nat) :
    relDur ovf s m = none ∨
      ∃ r : Nat, relDur ovf s m = some (r : Int) ∧ (r = ovf ∨ r < 9223372036854775808) := by
  cases hp : parseFloatDec s with
  | none => left; unfold relDur; rewrite [hp]; rfl
  | some v => exact Or.inr ⟨_, relDur_of_parse hp, f64ToDur_cases ovf _⟩

/-! ## 6. the model on concrete texts (reference: Python `int(float(s) * mult)`, IEEE binary64) -/

-- "0.1" minutes
example : relDur amd64Ovf [48, 46, 49] 60000000000 = some 6000000000 := by decide +kernel
-- "0.3" minutes: 0.3 is 0.299999999999999988897769753748…, the product rounds back to 18000000000
example : relDur amd64Ovf [48, 46, 51] 60000000000 = some 18000000000 := by decide +kernel
-- "1.5" hours
example : relDur amd64Ovf [49, 46, 53] 3600000000000 = some 5400000000000 := by decide +kernel
-- "4.35" minutes: 260999999999, one below 261000000000 (4.35 is not a binary fraction)
example : relDur amd64Ovf [52, 46, 51, 53] 60000000000 = some 260999999999 := by decide +kernel
-- "106751" days is the last whole day inside the int64 range, "106752" days saturates
example : relDur amd64Ovf [49, 48, 54, 55, 53, 49] 86400000000000 = some 9223286400000000000 := by decide +kernel
example : relDur amd64Ovf [49, 48, 54, 55, 53, 50] 86400000000000 = some 9223372036854775808 := by decide +kernel
example : relDur 9223372036854775807 [49, 48, 54, 55, 53, 50] 86400000000000 = some 9223372036854775807 := by
  decide +kernel
-- "9007199254740993" = 2^53 + 1 is a tie and rounds to the even 2^53
example : parseFloatDec [57, 48, 48, 55, 49, 57, 57, 50, 53, 52, 55, 52, 48, 57, 57, 51] =
    some (.fin 4503599627370496 1075) := by decide +kernel
-- "5." and ".5" are accepted, "." and "1e3" are outside the modelled texts
example : relDur amd64Ovf [53, 46] 60000000000 = some 300000000000 := by decide +kernel
example : relDur amd64Ovf [46, 53] 60000000000 = some 30000000000 := by decide +kernel
example : decValue [46] = none := by decide +kernel
example : decValue [49, 101, 51] = none := by decide +kernel
-- a 310 digit number is a range error of ParseFloat
example : parseFloatDec (49 :: List.replicate 309 48) = none := by decide +kernel

end Logrange.Date

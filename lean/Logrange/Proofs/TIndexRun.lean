import Logrange.Proofs.TIndexId
import Logrange.Proofs.Quote
/-!
# The tag index along runs: fast path, reachable states, racing first writers, persisted keys

Everything here is instantiated with the proved `quoteContract`, so no theorem carries a `QuoteContract` hypothesis.
-/
namespace Logrange.Proofs.TIndexRun
open Go Logrange.KV Logrange.Tags Logrange.TagsEval Logrange.TIndexId Logrange.Proofs.KV Logrange.Proofs.Tags
  Logrange.Proofs.TIndexId Logrange.Proofs.Quote

/-! ## 1. fast path -/

/-- a raw text that hits the map is the canonical line of the stored set and denotes exactly that set -/
theorem fast_path_sound (s : St) (hinv : TInv s) (hsafe : SafeSt s) (raw : Bytes) (td : Desc)
    (h : lookup s.tmap raw = some td) : raw = line td.tags ∧ parse raw = some td.tags := by
  obtain ⟨e, he, hek, hed⟩ := lookup_some h
  have hre := keys_reparse quoteContract s hinv hsafe e he
  rw [hek, hed] at hre
  exact ⟨by rw [← hek, (hinv.1 e he).1, hed], hre⟩

/-! ## 4. persisted keys -/

theorem tindex_keys_reparse (s : St) (hinv : TInv s) (hsafe : SafeSt s) :
    ∀ e ∈ s.tmap, parse e.1 = some e.2.tags :=
  keys_reparse quoteContract s hinv hsafe

theorem loadEntries_map (l : List (Bytes × Desc)) (h : ∀ e ∈ l, parse e.1 = some e.2.tags) :
    loadEntries (l.map (fun e => (e.1, e.2.src))) = some l := by
  induction l with
  | nil => rfl
  | cons x r ih =>
    have hr := ih (fun e he => h e (List.mem_cons_of_mem _ he))
    have hx := h x List.mem_cons_self
    obtain ⟨k, src, tags⟩ := x
    have hx' : parse k = some tags := hx
    simp only [List.map_cons, loadEntries, hx', hr]

theorem load_save (s : St) (hinv : TInv s) (hsafe : SafeSt s) : loadEntries (saveState s) = some s.tmap :=
  loadEntries_map s.tmap (tindex_keys_reparse s hinv hsafe)

/-! ## 2. reachable states -/

/-- every text of the history that the parser accepts denotes a Safe set -/
def SafeOps (ops : List (Bytes × Bool)) : Prop := ∀ op ∈ ops, ∀ m, parse op.1 = some m → safe m = true

theorem safeSt_run (s : St) (ops : List (Bytes × Bool)) (h : SafeSt s) (ho : SafeOps ops) :
    SafeSt (run s ops) := by
  induction ops generalizing s with
  | nil => exact h
  | cons op ops ih =>
    obtain ⟨raw, create⟩ := op
    simp only [run]
    exact ih _ (safeSt_step s raw create h (ho (raw, create) List.mem_cons_self))
      (fun x hx => ho x (List.mem_cons_of_mem _ hx))

theorem safeSt_init : SafeSt {} := by
  intro e he; cases he

theorem reachable_inv (ops : List (Bytes × Bool)) (ho : SafeOps ops) :
    TInv (run {} ops) ∧ SafeSt (run {} ops) :=
  ⟨tinv_run {} ops tinv_init, safeSt_run {} ops safeSt_init ho⟩

theorem same_partition_reachable (ops : List (Bytes × Bool)) (ho : SafeOps ops) (t1 t2 : Bytes) (m1 m2 : Map)
    (hp1 : parse t1 = some m1) (hp2 : parse t2 = some m2) (hne1 : m1 ≠ []) (hne2 : m2 ≠ [])
    (hs1 : safe m1 = true) (hs2 : safe m2 = true) :
    ∃ i j, (getOrCreate (run {} ops) t1 true).2 = .ok i ∧
      (getOrCreate (getOrCreate (run {} ops) t1 true).1 t2 true).2 = .ok j ∧ (i = j ↔ m1 = m2) :=
  same_partition_iff quoteContract (run {} ops) (reachable_inv ops ho).1 (reachable_inv ops ho).2
    t1 t2 m1 m2 hp1 hp2 hne1 hne2 hs1 hs2

/-! ## 3. racing first writers -/

/-- writer `w`: its raw text and the set it denotes -/
def Writers (ws : List (Bytes × Map)) : Prop := ∀ w ∈ ws, parse w.1 = some w.2 ∧ w.2 ≠ [] ∧ safe w.2 = true

theorem runRes_cons (s : St) (raw : Bytes) (ts : List Bytes) :
    runRes s (raw :: ts) = ((runRes (getOrCreate s raw true).1 ts).1,
      (getOrCreate s raw true).2 :: (runRes (getOrCreate s raw true).1 ts).2) := rfl

/-- `runRes` and `run` agree on the state -/
theorem runRes_fst (s : St) (ts : List Bytes) : (runRes s ts).1 = run s (ts.map (fun t => (t, true))) := by
  induction ts generalizing s with
  | nil => rfl
  | cons t ts ih =>
    rw [runRes_cons, List.map_cons]
    simp only [run]
    exact ih _

theorem runRes_length (s : St) (ts : List Bytes) : (runRes s ts).2.length = ts.length := by
  induction ts generalizing s with
  | nil => rfl
  | cons t ts ih =>
    rw [runRes_cons]
    simp only [List.length_cons]
    rw [ih]

/-- the schedule induction: everything the two theorems below need, about the final state of the schedule -/
theorem racing_core (ws : List (Bytes × Map)) : Writers ws → ∀ s, TInv s → SafeSt s →
    TInv (runRes s (ws.map (·.1))).1 ∧ SafeSt (runRes s (ws.map (·.1))).1 ∧
    (∀ e ∈ s.tmap, e ∈ (runRes s (ws.map (·.1))).1.tmap) ∧
    (∀ e ∈ (runRes s (ws.map (·.1))).1.tmap, e ∈ s.tmap ∨ ∃ w ∈ ws, e.2.tags = w.2) ∧
    (∀ w ∈ ws, ∃ e ∈ (runRes s (ws.map (·.1))).1.tmap, e.2.tags = w.2) ∧
    ∃ ids : List Nat, (runRes s (ws.map (·.1))).2 = ids.map Res.ok ∧ ids.length = ws.length ∧
      ∀ (a : Nat) (w : Bytes × Map) (ia : Nat), ws[a]? = some w → ids[a]? = some ia →
        ∃ e ∈ (runRes s (ws.map (·.1))).1.tmap, e.2.src = ia ∧ e.2.tags = w.2 := by
  induction ws with
  | nil =>
    intro _ s hinv hsafe
    refine ⟨hinv, hsafe, fun e he => he, fun e he => Or.inl he, (fun w hw => by cases hw), [], rfl, rfl, ?_⟩
    intro a w ia h
    simp at h
  | cons w ws ih =>
    intro hw s hinv hsafe
    obtain ⟨hp, hne, hs⟩ := hw w List.mem_cons_self
    have hw' : Writers ws := fun x hx => hw x (List.mem_cons_of_mem _ hx)
    obtain ⟨i, hi, ⟨e0, he0, he0s, he0t⟩, _, hmono1⟩ := getOrCreate_spec s hinv
      (keys_reparse quoteContract s hinv hsafe) w.1 w.2 hp hne (roundtrip_core quoteContract w.2 (parse_WF w.1 w.2 hp) hs)
    have hinv1 := tinv_step s w.1 true hinv
    have hsafe1 := safeSt_step s w.1 true hsafe fun _ hm => Option.some.inj (hp.symm.trans hm) ▸ hs
    have hnew1 : ∀ e ∈ (getOrCreate s w.1 true).1.tmap, e ∈ s.tmap ∨ e.2.tags = w.2 :=
      all_step s w.1 true (fun _ he => Or.inl he) fun _ hm _ _ => Or.inr (Option.some.inj (hp.symm.trans hm)).symm
    obtain ⟨hinvF, hsafeF, hmonoF, hnewF, hallF, ids, hids, hlen, hidx⟩ := ih hw' _ hinv1 hsafe1
    rw [List.map_cons, runRes_cons]
    refine ⟨hinvF, hsafeF, fun e he => hmonoF e (hmono1 e he), ?_, ?_, i :: ids, ?_, ?_, ?_⟩
    · intro e he
      rcases hnewF e he with h | ⟨x, hx, hxe⟩
      · rcases hnew1 e h with h' | h'
        · exact Or.inl h'
        · exact Or.inr ⟨w, List.mem_cons_self, h'⟩
      · exact Or.inr ⟨x, List.mem_cons_of_mem _ hx, hxe⟩
    · intro x hx
      rcases List.mem_cons.mp hx with hx | hx
      · rw [hx]; exact ⟨e0, hmonoF e0 he0, he0t⟩
      · exact hallF x hx
    · show (getOrCreate s w.1 true).2 :: _ = _
      rw [hi, hids]
      rfl
    · simp only [List.length_cons, hlen]
    · intro a x ia hx hia
      cases a with
      | zero => cases hx; cases hia; exact ⟨e0, hmonoF e0 he0, he0s, he0t⟩
      | succ a => exact hidx a x ia hx hia

/-- for every schedule: every writer gets a partition id, two writers get the same id iff their sets are equal -/
theorem racing_writers_ids (s : St) (hinv : TInv s) (hsafe : SafeSt s) (ws : List (Bytes × Map))
    (hw : Writers ws) :
    ∃ ids : List Nat, (runRes s (ws.map (·.1))).2 = ids.map Res.ok ∧ ids.length = ws.length ∧
      ∀ a b (ha : a < ws.length) (hb : b < ws.length) (ia ib : Nat), ids[a]? = some ia → ids[b]? = some ib →
        (ia = ib ↔ (ws[a]).2 = (ws[b]).2) := by
  obtain ⟨hinvF, _, _, _, _, ids, hids, hlen, hidx⟩ := racing_core ws hw s hinv hsafe
  refine ⟨ids, hids, hlen, ?_⟩
  intro a b ha hb ia ib hia hib
  obtain ⟨ea, hea, heas, heat⟩ := hidx a ws[a] ia (List.getElem?_eq_getElem ha) hia
  obtain ⟨eb, heb, hebs, hebt⟩ := hidx b ws[b] ib (List.getElem?_eq_getElem hb) hib
  constructor
  · intro h
    have := eq_of_nodup_map (·.2.src) _ hinvF.2.2 ea hea eb heb
      (by show ea.2.src = eb.2.src; rw [heas, hebs, h])
    rw [← heat, ← hebt, this]
  · intro h
    have := entry_unique _ hinvF ea eb hea heb (by rw [heat, hebt, h])
    rw [← heas, ← hebs, this]

/-- … and afterwards the index holds exactly one partition for every writer's set; sets stored before stay where
they were; no partition exists for a set nobody wrote -/
theorem racing_writers_one_partition (s : St) (hinv : TInv s) (hsafe : SafeSt s) (ws : List (Bytes × Map))
    (hw : Writers ws) :
    let s' := (runRes s (ws.map (·.1))).1
    TInv s' ∧ SafeSt s' ∧ (∀ e ∈ s.tmap, e ∈ s'.tmap) ∧
    (∀ w ∈ ws, ∃ e ∈ s'.tmap, e.2.tags = w.2 ∧ ∀ e' ∈ s'.tmap, e'.2.tags = w.2 → e' = e) ∧
    (∀ e ∈ s'.tmap, e ∈ s.tmap ∨ ∃ w ∈ ws, e.2.tags = w.2) := by
  intro s'
  obtain ⟨hinvF, hsafeF, hmonoF, hnewF, hallF, _⟩ := racing_core ws hw s hinv hsafe
  refine ⟨hinvF, hsafeF, hmonoF, ?_, hnewF⟩
  intro w hwm
  obtain ⟨e, he, het⟩ := hallF w hwm
  refine ⟨e, he, het, ?_⟩
  intro e' he' he't
  exact entry_unique s' hinvF e' e he' he (by rw [he't, het])

end Logrange.Proofs.TIndexRun

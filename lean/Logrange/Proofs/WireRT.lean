import Logrange.Model.WireRT
/-!
# Lemmas for the C01 wire round trip (`Logrange/Model/WireRT.lean`)
-/
namespace Logrange.WireRT
open Go

/-! ## fixed-width integers -/

theorem be_length (n k : Nat) : (be n k).length = k := by
  induction k with
  | zero => rfl
  | succ k ih => simp [be, ih]

theorem foldl_be (n : Nat) : ∀ (k acc : Nat),
    (be n k).foldl (fun a (x : UInt8) => a * 256 + x.toNat) acc = acc * 256 ^ k + n % 256 ^ k := by
  intro k
  induction k with
  | zero => intro acc; simp [be, Nat.mod_one]
  | succ k ih =>
    intro acc
    have hlt : n / 256 ^ k % 256 < 256 := Nat.mod_lt _ (by decide)
    have h1 : (UInt8.ofNat (n / 256 ^ k % 256)).toNat = n / 256 ^ k % 256 := by
      rw [UInt8.toNat_ofNat']; exact Nat.mod_eq_of_lt hlt
    simp only [be, List.foldl_cons, h1, ih]
    rw [Nat.mod_pow_succ, Nat.pow_succ]
    grind

theorem fromBE_be (n k : Nat) (h : n < 256 ^ k) : fromBE (be n k) = n := by
  unfold fromBE
  rw [foldl_be, Nat.mod_eq_of_lt h]; simp

theorem fromBE_take_be (n k : Nat) (rest : Bytes) (h : n < 256 ^ k) : fromBE ((be n k ++ rest).take k) = n := by
  rw [List.take_left' (be_length n k), fromBE_be n k h]

theorem u64_be (ts : Nat) (rest : Bytes) (h : ts < two64) : u64 (be ts 8 ++ rest) = .ok (8, ts) := by
  have hlen : ¬ (be ts 8 ++ rest).length < 8 := by rw [List.length_append, be_length]; omega
  rw [u64, if_neg hlen, fromBE_take_be ts 8 rest h]

theorem u32_be (n : Nat) (rest : Bytes) (h : n < two32) : u32 (be n 4 ++ rest) = .ok (4, n) := by
  have hlen : ¬ (be n 4 ++ rest).length < 4 := by rw [List.length_append, be_length]; omega
  rw [u32, if_neg hlen, fromBE_take_be n 4 rest h]

theorem drop_be (n k : Nat) (rest : Bytes) : (be n k ++ rest).drop k = rest :=
  List.drop_left' (be_length n k)

/-! ## varint -/

theorem or_eq_add_of_lt (res x shft : Nat) (h : res < 2 ^ shft) : res ||| (x * 2 ^ shft) = res + x * 2 ^ shft := by
  have := Nat.shiftLeft_add_eq_or_of_lt h x
  rw [Nat.shiftLeft_eq] at this
  rw [Nat.or_comm, ← this, Nat.add_comm]

theorem addTerm (x shft : Nat) (h : x * 2 ^ shft < two64) :
    (if shft ≥ 64 then 0 else (x * 2 ^ shft) % two64) = x * 2 ^ shft := by
  by_cases hs : shft ≥ 64
  · rw [if_pos hs]
    have hp : two64 ≤ 2 ^ shft := Nat.pow_le_pow_right (n := 2) (by decide) hs
    cases x with
    | zero => simp
    | succ x =>
      have : 2 ^ shft ≤ (x + 1) * 2 ^ shft := Nat.le_mul_of_pos_left _ (by omega)
      omega
  · rw [if_neg hs, Nat.mod_eq_of_lt h]

theorem toNat_ofNat_lt (x : Nat) (h : x < 256) : (UInt8.ofNat x).toNat = x := by
  rw [UInt8.toNat_ofNat']; exact Nat.mod_eq_of_lt h

/-- the byte is `b + g`: `b` the continuation bit, `g` the 7-bit payload -/
theorem uvarintGo_cons (b g idx shft res : Nat) (r : Bytes) (hb : b = 0 ∨ b = 128) (hg : g < 128)
    (h64 : g * 2 ^ shft < two64) (hres : res < 2 ^ shft) :
    uvarintGo (UInt8.ofNat (b + g) :: r) idx shft res =
      if b = 0 then .ok (idx + 1, res + g * 2 ^ shft) else uvarintGo r (idx + 1) (shft + 7) (res + g * 2 ^ shft) := by
  -- the facts about the byte first, with the hypotheses about powers out of sight: with them in the context every `omega` call
  -- costs several times as much
  have hbyte : (UInt8.ofNat (b + g)).toNat = b + g ∧ (b + g) % 128 = g ∧ ((b + g ≤ 127) = (b = 0)) := by
    clear h64 hres
    refine ⟨toNat_ofNat_lt _ (by omega), by omega, by simp only [eq_iff_iff]; omega⟩
  simp only [uvarintGo, hbyte.1, hbyte.2.1, addTerm g shft h64, or_eq_add_of_lt res g shft hres, hbyte.2.2]

theorem group_split (v d : Nat) : v % 128 * d + v / 128 * (d * 128) = v * d := by
  conv => rhs; rw [← Nat.mod_add_div v 128]
  rw [Nat.add_mul, Nat.mul_comm d 128, Nat.mul_assoc, Nat.mul_left_comm]

theorem group_bound (res g d : Nat) (hres : res < d) (hg : g < 128) : res + g * d < d * 128 := by
  have : g * d ≤ 127 * d := Nat.mul_le_mul_right d (by omega)
  omega

/-- decoding the varint image of `v` (at most `fuel+1` groups) in the middle of a decode: position, shift and
accumulator advance as if `v` were added at the current shift -/
theorem uvarint_marshal : ∀ (fuel v idx shft res : Nat) (rest : Bytes),
    v < 128 ^ (fuel + 1) → v * 2 ^ shft < two64 → res < 2 ^ shft →
    uvarintGo (marshalUvarintGo (fuel + 1) v ++ rest) idx shft res
      = .ok (idx + (marshalUvarintGo (fuel + 1) v).length, res + v * 2 ^ shft) := by
  intro fuel
  induction fuel with
  | zero =>
    intro v idx shft res rest hv h64 hres
    have hv' : ¬ v > 127 := Nat.not_lt.mpr (Nat.le_of_lt_succ hv)
    have := uvarintGo_cons 0 v idx shft res rest (Or.inl rfl) hv h64 hres
    simpa [marshalUvarintGo, hv'] using this
  | succ fuel ih =>
    intro v idx shft res rest hv h64 hres
    rw [marshalUvarintGo]
    by_cases hgt : v > 127
    · have hp7 : 2 ^ (shft + 7) = 2 ^ shft * 128 := Nat.pow_add 2 shft 7
      have hdm := group_split v (2 ^ shft)
      have hm := Nat.mod_lt v (show 128 > 0 by decide)
      have hv2 : v / 128 < 128 ^ (fuel + 1) := Nat.div_lt_of_lt_mul (by rw [Nat.pow_succ, Nat.mul_comm] at hv; exact hv)
      rw [if_pos hgt, List.cons_append,
        uvarintGo_cons 128 (v % 128) idx shft res _ (Or.inr rfl) hm
          (Nat.lt_of_le_of_lt (Nat.mul_le_mul_right _ (Nat.mod_le v 128)) h64) hres,
        if_neg (by decide),
        ih (v / 128) (idx + 1) (shft + 7) (res + v % 128 * 2 ^ shft) rest hv2
          (by rw [hp7]; exact Nat.lt_of_le_of_lt (hdm ▸ Nat.le_add_left _ _) h64)
          (by rw [hp7]; exact group_bound res _ _ hres hm),
        hp7, List.length_cons, Nat.add_assoc res, hdm, Nat.add_assoc idx, Nat.add_comm 1]
    · have := uvarintGo_cons 0 v idx shft res rest (Or.inl rfl) (Nat.lt_succ_of_le (Nat.not_lt.mp hgt)) h64 hres
      simpa [hgt] using this

theorem marshalUvarint_length_le (fuel v : Nat) : (marshalUvarintGo fuel v).length ≤ fuel := by
  induction fuel generalizing v with
  | zero => simp [marshalUvarintGo]
  | succ fuel ih =>
    rw [marshalUvarintGo]
    split
    · simp only [List.length_cons]; have := ih (v / 128); omega
    · simp

theorem uvarLen_le (v : Nat) : uvarLen v ≤ 10 := marshalUvarint_length_le 10 _

theorem uvarint_roundtrip (v : Nat) (rest : Bytes) (h : v < two64) :
    uvarint (marshalUvarint v ++ rest) = .ok (uvarLen v, v) := by
  unfold uvarint marshalUvarint uvarLen marshalUvarint
  rw [Nat.mod_eq_of_lt h]
  have := uvarint_marshal 9 v 0 0 0 rest (Nat.lt_trans h (by decide)) (by simpa using h) (by decide)
  simpa using this

/-! ## length-prefixed bytes -/

theorem wrap64_natCast (n : Nat) (h : n < two63) : wrap64 (n : Int) = n := by
  unfold two63 at h
  have hm : (n : Int) % (two64 : Int) = n := Int.emod_eq_of_lt (Int.natCast_nonneg n) (by unfold two64; omega)
  simp only [wrap64, hm]
  exact if_neg (by unfold two63; omega)

theorem marshalBytes_length (b : Bytes) : (marshalBytes b).length = uvarLen b.length + b.length :=
  List.length_append

/-- a byte string is "small" when its length plus the longest varint fits an int64 — every Go slice is -/
def Small (b : Bytes) : Prop := b.length + 10 < two63

theorem Small.lt_two64 {b : Bytes} (h : Small b) : b.length < two64 :=
  Nat.lt_trans (Nat.lt_of_le_of_lt (Nat.le_add_right _ 10) h) (by decide)

theorem uvarint_marshalBytes (b rest : Bytes) (h : Small b) :
    uvarint (marshalBytes b ++ rest) = .ok (uvarLen b.length, b.length) := by
  rw [marshalBytes, List.append_assoc, uvarint_roundtrip _ _ h.lt_two64]

theorem bytesField_marshal (b rest : Bytes) (h : Small b) :
    bytesField (marshalBytes b ++ rest) = .ok ((marshalBytes b).length, b) := by
  have hl := uvarLen_le b.length
  have hs : b.length + 10 < two63 := h
  have w1 : wrap64 (b.length : Int) = b.length := wrap64_natCast _ (by omega)
  have w2 : wrap64 ((b.length : Int) + ((uvarLen b.length : Nat) : Int)) = ((uvarLen b.length + b.length : Nat) : Int) := by
    rw [← Int.natCast_add, Nat.add_comm]; exact wrap64_natCast _ (by omega)
  have hdrop : (marshalBytes b ++ rest).drop (uvarLen b.length) = b ++ rest := by
    rw [marshalBytes, List.append_assoc]; exact List.drop_left
  have c1 : ¬ (marshalBytes b ++ rest).length < uvarLen b.length + b.length := by
    rw [List.length_append, marshalBytes_length]; omega
  have c2 : ¬ uvarLen b.length + b.length < uvarLen b.length := by omega
  unfold bytesField
  rw [uvarint_marshalBytes b rest h]
  simp only [w1, w2, Int.ofNat_lt, Int.toNat_natCast, if_neg c1, if_neg c2, hdrop, Nat.add_sub_cancel_left,
    List.take_left, marshalBytes_length]

theorem rpcString_marshal (b rest : Bytes) (h : Small b) :
    rpcString (marshalBytes b ++ rest) = .ok ((marshalBytes b).length, b) := by
  unfold rpcString
  split
  · have : ¬ b.length > (marshalBytes b ++ rest).length - uvarLen b.length := by
      rw [List.length_append, marshalBytes_length]; omega
    rw [uvarint_marshalBytes b rest h]
    simp only [if_neg this]
    exact bytesField_marshal b rest h
  · exact bytesField_marshal b rest h

theorem drop_marshalBytes (b rest : Bytes) : (marshalBytes b ++ rest).drop (marshalBytes b).length = rest :=
  List.drop_left

/-! ## the record codec -/

/-- the events Go can hold: the timestamp is a 64-bit value, message and fields are Go slices/strings -/
structure Event.WF (e : Event) : Prop where
  ts : e.ts < two64
  msg : Small e.msg
  fields : Small e.fields

theorem header_facts :
    Generated.C01.recVersion ||| Generated.C01.headerFieldsBit < 256 ∧ Generated.C01.recVersion < 256 ∧
    (Generated.C01.recVersion ||| Generated.C01.headerFieldsBit) &&& Generated.C01.marshalFieldsMask ≠ 0 ∧
    (Generated.C01.recVersion ||| Generated.C01.headerFieldsBit) &&& Generated.C01.unmarshalFieldsMask ≠ 0 ∧
    Generated.C01.recVersion &&& Generated.C01.marshalFieldsMask = 0 ∧
    Generated.C01.recVersion &&& Generated.C01.unmarshalFieldsMask = 0 := by decide

theorem header_tests (e : Event) :
    (e.header &&& Generated.C01.marshalFieldsMask != 0) = decide (e.fields.length > 0) ∧
    ((UInt8.ofNat e.header).toNat &&& Generated.C01.unmarshalFieldsMask != 0) = decide (e.fields.length > 0) := by
  obtain ⟨h1, h2, h3, h4, h5, h6⟩ := header_facts
  unfold Event.header
  by_cases hf : e.fields.length > 0
  · simp only [hf, ↓reduceIte, toNat_ofNat_lt _ h1, bne_iff_ne, ne_eq, h3, h4, not_false_eq_true, decide_true, and_self]
  · simp only [hf, ↓reduceIte, toNat_ofNat_lt _ h2, h5, h6, bne_self_eq_false, decide_false, and_self]

theorem marshal_eq (e : Event) (rest : Bytes) :
    e.marshal ++ rest = UInt8.ofNat e.header :: (be e.ts 8 ++ (marshalBytes e.msg ++
      ((if e.fields.length > 0 then marshalBytes e.fields else []) ++ rest))) := by
  simp only [Event.marshal, (header_tests e).1, decide_eq_true_eq, List.cons_append, List.nil_append, List.append_assoc]

theorem marshal_length (e : Event) : e.marshal.length =
    1 + 8 + (marshalBytes e.msg).length + (if e.fields.length > 0 then (marshalBytes e.fields).length else 0) := by
  have := congrArg List.length (marshal_eq e [])
  simp only [List.append_nil, List.length_cons, List.length_append, be_length] at this
  rw [this]; split <;> simp <;> omega

/-- `Unmarshal(Marshal(e))` into an event whose `Fields` is `prev`: the event comes back, except that an event
without fields keeps `prev` (the header bit is clear and `Unmarshal` leaves `le.Fields` alone). -/
theorem unmarshal_marshal (e : Event) (prev rest : Bytes) (h : e.WF) :
    Event.unmarshal prev (e.marshal ++ rest)
      = .ok (e.marshal.length, ⟨e.ts, e.msg, if e.fields.length > 0 then e.fields else prev⟩) := by
  rw [marshal_eq, marshal_length]
  simp only [Event.unmarshal, u64_be _ _ h.ts, drop_be, bytesField_marshal _ _ h.msg, drop_marshalBytes,
    (header_tests e).2, decide_eq_true_eq]
  by_cases hf : e.fields.length > 0
  · simp only [hf, ↓reduceIte, bytesField_marshal _ _ h.fields]
  · simp only [hf, ↓reduceIte, Nat.add_zero]

/-- a released event has `prev = []` -/
theorem unmarshal_marshal_released (e : Event) (h : e.WF) : Event.unmarshal [] e.marshal = .ok (e.marshal.length, e) := by
  have := unmarshal_marshal e [] [] h
  rw [List.append_nil] at this
  rw [this]
  by_cases hf : e.fields.length > 0
  · rw [if_pos hf]
  · rw [if_neg hf, ← List.eq_nil_of_length_eq_zero (Nat.eq_zero_of_not_pos hf)]

/-- the size `LogEvent.WritableSize()` computes is the number of bytes `LogEvent.Marshal` writes, for every event -/
theorem writableSize_eq_marshal_length (e : Event) : e.writableSize = e.marshal.length := by
  rw [marshal_length, Event.writableSize, marshalBytes_length, marshalBytes_length]

/-! ## the write packet -/

structure WEvent.WF (e : WEvent) : Prop where
  ts : e.ts < two64
  msg : Small e.msg
  tags : Small e.tags
  fields : Small e.fields

theorem encodeEvent_eq (e : WEvent) (rest : Bytes) :
    encodeEvent e ++ rest = be e.ts 8 ++ (marshalBytes e.msg ++ (marshalBytes e.tags ++ (marshalBytes e.fields ++ rest))) := by
  simp only [encodeEvent, List.append_assoc]

theorem encodeEvent_length (e : WEvent) :
    (encodeEvent e).length = 8 + (marshalBytes e.msg).length + (marshalBytes e.tags).length + (marshalBytes e.fields).length := by
  simp only [encodeEvent, List.length_append, be_length]

theorem decodeEvent_encode (e : WEvent) (rest : Bytes) (h : e.WF) :
    decodeEvent (encodeEvent e ++ rest) = .ok ((encodeEvent e).length, e) := by
  rw [encodeEvent_eq, encodeEvent_length]
  simp only [decodeEvent, u64_be _ _ h.ts, ← List.drop_drop, drop_be, rpcString_marshal _ _ h.msg, drop_marshalBytes,
    rpcString_marshal _ _ h.tags, rpcString_marshal _ _ h.fields]

theorem drop_encodeEvent (e : WEvent) (rest : Bytes) : (encodeEvent e ++ rest).drop (encodeEvent e).length = rest :=
  List.drop_left

theorem decodeEvent_ok_len (buf : Bytes) (k : Nat) (e : WEvent) (h : decodeEvent buf = .ok (k, e)) :
    8 ≤ buf.length ∧ 8 ≤ k := by
  unfold decodeEvent u64 at h
  by_cases hl : buf.length < 8
  · simp [hl] at h
  · simp only [hl, ↓reduceIte] at h
    repeat' split at h
    all_goals first
      | (simp at h; done)
      | (simp only [Out.ok.injEq, Prod.mk.injEq] at h; exact ⟨by omega, by omega⟩)

theorem encodeEvents_length_ge (evs : List WEvent) : evs.length ≤ (encodeEvents evs).length := by
  induction evs with
  | nil => exact Nat.le_refl _
  | cons e es ih =>
    simp only [encodeEvents, List.length_append, List.length_cons, encodeEvent_length]
    omega

theorem wpFields_eq' (wf ef : Bytes) : wpFields wf ef = wf ++ ef := by
  have h1 : Generated.C01.concatReceiverFirst = true := by decide
  have h2 : Generated.C01.wpConcatReceiverIsWriteLevel = true := by decide
  simp [wpFields, concat, h1, h2]

theorem wpLoop_end (parseKV : Bytes → Option Bytes) (f : Nat) (it : WpIter) (hr : it.read = false)
    (h : it.cur ≥ it.recs) : wpLoop parseKV (f + 1) it = .ok [] := by
  simp only [wpLoop, wpGet, hr, h, Bool.false_eq_true, ↓reduceIte]

theorem wpLoop_cons (parseKV : Bytes → Option Bytes) (f : Nat) (it : WpIter) (k : Nat) (we : WEvent)
    (hr : it.read = false) (h : ¬ it.cur ≥ it.recs) (hd : decodeEvent it.rest = .ok (k, we)) :
    wpLoop parseKV (f + 1) it =
      match wpLoop parseKV f { it with cur := it.cur + 1, rest := it.rest.drop k, pos := it.pos + k,
                                       read := false, lge := storedModel parseKV it.flds we } with
      | .ok es => .ok (storedModel parseKV it.flds we :: es)
      | .err => .err
      | .panic => .panic := by
  simp only [wpLoop, wpGet, hr, h, hd, Bool.false_eq_true, ↓reduceIte, wpNext]
  rfl

/-- the server-side iterator enumerates the encoded events, one `Get`/`Next` per event -/
theorem wpLoop_encode (parseKV : Bytes → Option Bytes) : ∀ (evs : List WEvent) (it : WpIter) (fuel : Nat),
    it.read = false → it.rest = encodeEvents evs → it.cur + evs.length = it.recs → evs.length < fuel →
    (∀ e ∈ evs, e.WF) →
    wpLoop parseKV fuel it = .ok (evs.map (storedModel parseKV it.flds)) := by
  intro evs
  induction evs with
  | nil =>
    intro it fuel hr _ hc hf _
    obtain ⟨f, rfl⟩ := Nat.exists_eq_add_one_of_ne_zero (Nat.ne_of_gt hf)
    exact wpLoop_end parseKV f it hr (Nat.le_of_eq hc.symm)
  | cons e es ih =>
    intro it fuel hr hrest hc hf hwf
    obtain ⟨f, rfl⟩ := Nat.exists_eq_add_one_of_ne_zero (Nat.ne_of_gt (Nat.zero_lt_of_lt hf))
    rw [encodeEvents] at hrest
    rw [List.length_cons] at hc
    have hd : decodeEvent it.rest = .ok ((encodeEvent e).length, e) :=
      hrest ▸ decodeEvent_encode e (encodeEvents es) (hwf e List.mem_cons_self)
    have hdrop : it.rest.drop (encodeEvent e).length = encodeEvents es := hrest ▸ drop_encodeEvent e (encodeEvents es)
    rw [wpLoop_cons parseKV f it _ e hr (by omega) hd,
      ih _ f rfl hdrop (by show it.cur + 1 + es.length = it.recs; omega)
        (Nat.lt_of_succ_lt_succ hf) (fun x hx => hwf x (List.mem_cons_of_mem _ hx))]
    simp only [List.map_cons]

theorem strictLoop_succ_some {parseKV : Bytes → Option Bytes} {wf : Bytes} {n : Nat} {rest : Bytes} {es : List Event}
    (h : strictLoop parseKV wf (n + 1) rest = some es) :
    ∃ k we ef es1, decodeEvent rest = .ok (k, we) ∧ parseKV we.fields = some ef ∧
      strictLoop parseKV wf n (rest.drop k) = some es1 ∧ es = ⟨we.ts, we.msg, wf ++ ef⟩ :: es1 := by
  simp only [strictLoop] at h
  split at h
  · rename_i k we hd
    split at h
    · rename_i ef hp
      obtain ⟨es1, hs, he⟩ := Option.map_eq_some_iff.mp h
      exact ⟨k, we, ef, es1, hd, hp, hs, he.symm⟩
    · exact absurd h (by simp)
  · exact absurd h (by simp)

/-- the validation pass of the repaired `init` accepts a complete packet whose field texts all parse -/
theorem strictLoop_encode (parseKV : Bytes → Option Bytes) (wf : Bytes) : ∀ (evs : List WEvent),
    (∀ e ∈ evs, e.WF) → (∀ e ∈ evs, (parseKV e.fields).isSome) →
    strictLoop parseKV wf evs.length (encodeEvents evs) = some (evs.map (storedModel parseKV wf)) := by
  intro evs
  induction evs with
  | nil => intro _ _; rfl
  | cons e es ih =>
    intro hwf hok
    obtain ⟨ef, hpe⟩ := Option.isSome_iff_exists.mp (hok e List.mem_cons_self)
    simp only [List.length_cons, strictLoop, encodeEvents, decodeEvent_encode e _ (hwf e List.mem_cons_self), hpe,
      drop_encodeEvent, ih (fun x hx => hwf x (List.mem_cons_of_mem _ hx)) (fun x hx => hok x (List.mem_cons_of_mem _ hx)),
      Option.map_some, List.map_cons, storedModel, wpFields_eq', Option.getD_some]

theorem strictLoop_len (parseKV : Bytes → Option Bytes) (wf : Bytes) : ∀ (n : Nat) (rest : Bytes) (es : List Event),
    strictLoop parseKV wf n rest = some es → n ≤ rest.length := by
  intro n
  induction n with
  | zero => intro rest es _; exact Nat.zero_le _
  | succ n ih =>
    intro rest es h
    obtain ⟨k, we, _, es1, hd, _, hs, _⟩ := strictLoop_succ_some h
    have := ih _ _ hs
    have ⟨h8, hk⟩ := decodeEvent_ok_len rest k we hd
    simp only [List.length_drop] at this
    omega

/-- what the validation pass accepted is exactly what the iterator then hands over -/
theorem strict_implies_loop (parseKV : Bytes → Option Bytes) : ∀ (n : Nat) (it : WpIter) (es : List Event) (fuel : Nat),
    strictLoop parseKV it.flds n it.rest = some es → it.read = false → it.cur + n = it.recs → n < fuel →
    wpLoop parseKV fuel it = .ok es := by
  intro n
  induction n with
  | zero =>
    intro it es fuel h hr hc hf
    obtain ⟨f, rfl⟩ := Nat.exists_eq_add_one_of_ne_zero (Nat.ne_of_gt hf)
    rw [wpLoop_end parseKV f it hr (Nat.le_of_eq hc.symm)]
    exact congrArg Out.ok (Option.some.inj h)
  | succ n ih =>
    intro it es fuel h hr hc hf
    obtain ⟨f, rfl⟩ := Nat.exists_eq_add_one_of_ne_zero (Nat.ne_of_gt (Nat.zero_lt_of_lt hf))
    obtain ⟨k, we, ef, es1, hd, hp, hs, rfl⟩ := strictLoop_succ_some h
    rw [wpLoop_cons parseKV f it k we hr (by omega) hd, ih _ es1 f hs rfl (by show it.cur + 1 + n = it.recs; omega) (Nat.lt_of_succ_lt_succ hf)]
    simp only [storedModel, hp, Option.getD_some, wpFields_eq']

theorem wpInit_encode (parseKV : Bytes → Option Bytes) (tags flds wf : Bytes) (evs : List WEvent)
    (ht : Small tags) (hf : Small flds) (hp : parseKV flds = some wf) (hn : evs.length < two32)
    (hwf : ∀ e ∈ evs, e.WF)
    (hval : Generated.C01.wpInitValidatesEvents = true → ∀ e ∈ evs, (parseKV e.fields).isSome) :
    ∃ it, wpInit parseKV (wpEncode tags flds evs) = .ok it ∧ it.tags = tags ∧ it.flds = wf ∧
      it.rest = encodeEvents evs ∧ it.recs = evs.length ∧ it.cur = 0 ∧ it.read = false := by
  unfold wpInit wpEncode
  simp only [rpcString_marshal _ _ ht, drop_marshalBytes, rpcString_marshal _ _ hf, ← List.drop_drop,
    Nat.mod_eq_of_lt hn, u32_be _ _ hn, hp, drop_be]
  by_cases hfact : Generated.C01.wpInitValidatesEvents = true
  · simp only [hfact, ↓reduceIte, strictLoop_encode parseKV wf evs hwf (hval hfact)]
    exact ⟨_, rfl, rfl, rfl, rfl, rfl, rfl, rfl⟩
  · simp only [hfact, Bool.false_eq_true, ↓reduceIte]
    exact ⟨_, rfl, rfl, rfl, rfl, rfl, rfl, rfl⟩

end Logrange.WireRT

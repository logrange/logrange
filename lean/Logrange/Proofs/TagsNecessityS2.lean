import Logrange.Proofs.TagsNecessityN
/-!
# Towards necessity of `safeW` without `rawInert`

`TagsNecessityN.safeW_necessary_inert` needs every raw value to be inert. Here: what happens at the FIRST raw value that is not.
* `unquote_DQ_keeps_comma` / `unquote_BQ_keeps_comma` / `decode_keeps_comma`: a comma in a piece survives `ToMap`'s decoding.
* `diverged_piece_ne` (S2a): the piece that starts at a raw value and swallows the joiner behind it is never read as that value.
* `split_lockstep`, `split_diverge`: the splitter follows the printed pairs while they are inert, then swallows the joiner.
* `last_raw_not_inert` (S2b): if the offending raw value is the last value, the line does not read back.
* `safeW_necessary_initInert`: hence `safeW` is necessary as soon as all raw values but the last are inert.
* `diverged_core` / `later_pair` (reduction): otherwise a pair of the set standing at or before the offending one must be
  produced again by the pieces cut AFTER the diverged piece. OPEN: refuting that (`not_rawInert_no_roundtrip` in general).
-/
namespace Logrange.Proofs.TagsNecessityS2
open Go Logrange.Quote Logrange.KV Logrange.Tags Logrange.Proofs.KV Logrange.Proofs.Tags Logrange.Proofs.ParsedKeys
  Logrange.Proofs.UnquoteFix Logrange.Proofs.TagsNecessity Logrange.Proofs.TagsNecessityN Logrange.Proofs.Quote

/-! ### a comma inside a quoted text survives `Unquote` -/

/-- one step of `UnquoteChar` inside double quotes: a comma among the bytes it looks at is appended or still to come -/
theorem step_comma (c : UInt8) (rest : Bytes) (r : Nat) (mb : Bool) (t : Bytes) (hc : c ≠ DQ)
    (hu : unquoteChar (c :: rest) DQ = some (r, mb, t)) (hm : CM ∈ c :: rest) :
    CM ∈ outBytes r mb ∨ CM ∈ t := by
  rcases unquoteChar_step c rest r mb t hc hu with ⟨w, ho, rfl⟩ | ⟨hge, rfl, _⟩ | ⟨rfl, c1, s2, n, rfl, rfl, hn⟩
  · rw [ho]; rw [← List.take_append_drop w (c :: rest)] at hm; exact List.mem_append.mp hm
  · rcases List.mem_cons.mp hm with e | e
    · exfalso; rw [← e] at hge; revert hge; decide
    · exact Or.inr e
  · right
    rcases List.mem_cons.mp hm with e | e
    · exact absurd e (by decide)
    · rw [← List.take_append_drop n s2, ← List.cons_append] at e
      exact (List.mem_append.mp e).resolve_left hn

theorem loop_comma (fuel : Nat) (s acc out rem : Bytes) (h : unquote.loop DQ fuel s acc = some (out, rem))
    (hm : CM ∈ acc ∨ CM ∈ s) : CM ∈ out ∨ CM ∈ rem := by
  have := loop_inv (fun a x => CM ∈ a ∨ CM ∈ x)
    (fun c tl r mb t a hc hu hq => by
      rcases hq with hq | hq
      · exact Or.inl (List.mem_append_left _ hq)
      · exact (step_comma c tl r mb t hc hu hq).imp (List.mem_append_right _) id)
    fuel s acc out rem h hm
  exact this.imp id (fun e => (List.mem_cons.mp e).resolve_left (by decide))

theorem mem_take_of_drop {s : Bytes} {e : Nat} {c x : UInt8} (hd : s.drop e = [c]) (hx : x ∈ s) (hne : x ≠ c) :
    x ∈ s.take e := by
  rw [← List.take_append_drop e s, hd] at hx
  exact (List.mem_append.mp hx).resolve_right (fun h => hne (List.mem_singleton.mp h))

/-- **a comma inside a double-quoted text survives `Unquote`** (it is never part of an escape sequence) -/
theorem unquote_DQ_keeps_comma (rest1 out : Bytes) (h : unquote (DQ :: rest1) = some out) (hm : CM ∈ rest1) :
    CM ∈ out := by
  obtain ⟨e, tl, htl, ⟨rfl, rfl⟩ | hl⟩ := unquote_DQ_cases rest1 out h
  · exact mem_take_of_drop htl hm (by decide)
  · exact (loop_comma _ _ _ _ _ hl (Or.inr hm)).resolve_right (by simp)

theorem unquote_BQ_keeps_comma (rest1 out : Bytes) (h : unquote (BQ :: rest1) = some out) (hm : CM ∈ rest1) :
    CM ∈ out := by
  obtain ⟨e, hd, rfl⟩ := unquote_BQ_cases rest1 out h
  exact List.mem_filter.mpr ⟨mem_take_of_drop hd hm (by decide), by decide⟩

/-! ### the piece that starts at a non-inert raw value -/

theorem mem_dropWhile_SP (x : UInt8) (hx : x ≠ SP) : ∀ l : Bytes, x ∈ l → x ∈ l.dropWhile (· == SP) := by
  intro l
  induction l with
  | nil => intro h; cases h
  | cons c r ih =>
    intro h
    by_cases hc : c = SP
    · subst hc
      rcases List.mem_cons.mp h with e | e
      · exact absurd e hx
      · simpa using ih e
    · simpa [hc] using h

theorem mem_trimSpaces (x : UInt8) (hx : x ≠ SP) (w : Bytes) (h : x ∈ w) : x ∈ trimSpaces w := by
  unfold trimSpaces
  rw [List.mem_reverse]
  apply mem_dropWhile_SP x hx
  rw [List.mem_reverse]
  exact mem_dropWhile_SP x hx w h

/-- what `ToMap` reads from a piece that holds a comma holds a comma -/
theorem decode_keeps_comma (w x : Bytes) (hd : decodeValue (trimSpaces w) = some x) (hm : CM ∈ w) : CM ∈ x := by
  have hm' := mem_trimSpaces CM (by decide) w hm
  generalize trimSpaces w = t at hd hm'
  cases t with
  | nil => cases hm'
  | cons c r =>
    unfold decodeValue at hd
    simp only [] at hd
    split at hd
    · rename_i hq
      simp only [Bool.or_eq_true, beq_iff_eq] at hq
      rcases hq with hq | hq
      · subst hq
        rcases List.mem_cons.mp hm' with e | e
        · exact absurd e (by decide)
        · exact unquote_DQ_keeps_comma r x hd e
      · subst hq
        rcases List.mem_cons.mp hm' with e | e
        · exact absurd e (by decide)
        · exact unquote_BQ_keeps_comma r x hd e
    · simp only [Option.some.injEq] at hd
      rw [← hd]; exact hm'

/-- **S2a**: the piece that starts at a raw value `v` and runs past the joiner that follows it is never read as `v` -/
theorem diverged_piece_ne (v z x : Bytes) (hv : CM ∉ v) (hd : decodeValue (trimSpaces (v ++ CM :: z)) = some x) :
    x ≠ v := by
  intro e
  subst e
  exact hv (decode_keeps_comma _ _ hd (by simp))

/-! ### the splitter is in lockstep with the printed pairs as long as they are inert -/

/-- what follows a printed value: nothing, or the joiner and the remaining printed pairs -/
def tailOf : List (Bytes × Bytes) → Bytes
  | [] => []
  | q :: R => CM :: joinItems ((q :: R).map (item id))

theorem join_head (k w : Bytes) (E2 : List (Bytes × Bytes)) :
    joinItems (((k, w) :: E2).map (item id)) = k ++ EQ :: (w ++ tailOf E2) := by
  cases E2 <;> simp [joinItems, item, tailOf]

theorem split_lockstep : ∀ (E1 : List (Bytes × Bytes)) (o : List Bytes) (k w : Bytes) (E2 : List (Bytes × Bytes)),
    (∀ p ∈ E1, scan p.1 false = some false ∧ scan p.2 false = some false) → scan k false = some false →
    splitGo (joinItems ((E1 ++ (k, w) :: E2).map (item id))) { inStr := false, expKV := true, cur := [], out := o } =
      splitGo (w ++ tailOf E2)
        { inStr := false, expKV := false, cur := [], out := k :: ((E1.flatMap (fun p => [p.1, p.2])).reverse ++ o) } := by
  intro E1
  induction E1 with
  | nil =>
    intro o k w E2 _ hk
    rw [List.nil_append, join_head, split_key _ _ _ hk]
    simp
  | cons p E1 ih =>
    intro o k w E2 hin hk
    obtain ⟨hpk, hpv⟩ := hin p List.mem_cons_self
    have e : joinItems ((p :: E1 ++ (k, w) :: E2).map (item id)) =
        p.1 ++ EQ :: (p.2 ++ CM :: joinItems ((E1 ++ (k, w) :: E2).map (item id))) := by
      rw [List.cons_append, List.map_cons, joinItems_cons_ne _ _ (by simp)]
      simp [item]
    rw [e, split_key _ _ _ hpk, split_val _ _ _ hpv,
      ih _ k w E2 (fun x hx => hin x (List.mem_cons_of_mem _ hx)) hk]
    simp

theorem split_bad_end (w : Bytes) (ex : Bool) (o : List Bytes) (hns : ∀ x ∈ w, x ≠ EQ ∧ x ≠ CM)
    (hb : scan w false ≠ some false) :
    splitGo w { inStr := false, expKV := ex, cur := [], out := o } = none := by
  cases hs : scan w false with
  | none =>
    exact split_none_of_scan w false hns hs { inStr := false, expKV := ex, cur := [], out := o }
  | some b =>
    cases b with
    | false => exact absurd hs hb
    | true =>
      have := split_inert w false true [] { inStr := false, expKV := ex, cur := [], out := o } hs
      simp only [List.append_nil] at this
      rw [this, splitGo.eq_def]
      simp

/-- a raw value on which the automaton does not come back outside a string swallows the joiner that follows it -/
theorem split_diverges (w : Bytes) (b : Bool) (hns : ∀ x ∈ w, x ≠ EQ ∧ x ≠ CM) (hb : scan w b ≠ some false) :
    ∀ (ex : Bool) (cur : Bytes) (o : List Bytes) (T : Bytes) (parts : List Bytes),
    splitGo (w ++ CM :: T) ⟨b, ex, cur, o⟩ = some parts →
    ∃ z more, parts = o.reverse ++ (cur.reverse ++ w ++ CM :: z) :: more := by
  fun_induction scan w b with
  | case1 b =>
    intro ex cur o T parts h
    have hbt : b = true := by cases b <;> simp at hb ⊢
    subst hbt
    rw [List.nil_append, splitGo_plain _ _ _ (by decide) (by simp [CM_ne_BS]) (by simp)] at h
    obtain ⟨z, more, hp, _⟩ := splitGo_cur_prefix T _ parts h
    exact ⟨z, more, by simpa using hp⟩
  | case2 c w b hq ih =>
    intro ex cur o T parts h
    rw [List.cons_append, splitGo_quote _ _ _ hq] at h
    obtain ⟨z, more, hp⟩ := ih (fun x hx => hns x (List.mem_cons_of_mem _ hx)) hb ex (c :: cur) o T parts h
    exact ⟨z, more, by simpa using hp⟩
  | case3 c b hq hbs =>
    intro ex cur o T parts h
    rw [List.cons_append, List.nil_append, splitGo_esc _ _ _ _ hq hbs] at h
    obtain ⟨z, more, hp, _⟩ := splitGo_cur_prefix T _ parts h
    exact ⟨z, more, by simpa using hp⟩
  | case4 c b hq hbs d w ih =>
    intro ex cur o T parts h
    rw [List.cons_append, List.cons_append, splitGo_esc _ _ _ _ hq hbs] at h
    obtain ⟨z, more, hp⟩ := ih (fun x hx => hns x (List.mem_cons_of_mem _ (List.mem_cons_of_mem _ hx))) hb ex
      (d :: c :: cur) o T parts h
    exact ⟨z, more, by simpa using hp⟩
  | case5 c w b hq hbs hs =>
    have hc := hns c List.mem_cons_self
    simp [hc.1, hc.2] at hs
  | case6 c w b hq hbs hs ih =>
    intro ex cur o T parts h
    rw [List.cons_append, splitGo_plain _ _ _ hq hbs hs] at h
    obtain ⟨z, more, hp⟩ := ih (fun x hx => hns x (List.mem_cons_of_mem _ hx)) hb ex (c :: cur) o T parts h
    exact ⟨z, more, by simpa using hp⟩

theorem split_diverge : ∀ (n : Nat) (w : Bytes), w.length ≤ n → ∀ (b ex : Bool) (cur : Bytes) (o : List Bytes)
    (T : Bytes) (parts : List Bytes), (∀ x ∈ w, x ≠ EQ ∧ x ≠ CM) → scan w b ≠ some false →
    splitGo (w ++ CM :: T) ⟨b, ex, cur, o⟩ = some parts →
    ∃ z more, parts = o.reverse ++ (cur.reverse ++ w ++ CM :: z) :: more :=
  fun _ w _ b ex cur o T parts hns hb h => split_diverges w b hns hb ex cur o T parts h

theorem setLastVal_append (e : Bytes) : ∀ (X : List (Bytes × Bytes)) (y : Bytes × Bytes) (Y : List (Bytes × Bytes)),
    setLastVal e (X ++ y :: Y) = X ++ setLastVal e (y :: Y) := by
  intro X
  induction X with
  | nil => intro y Y; rfl
  | cons a X ih =>
    intro y Y
    cases X with
    | nil => rw [List.cons_append, List.nil_append, setLastVal_cons2]; rfl
    | cons b X' =>
      rw [List.cons_append, List.cons_append, setLastVal_cons2, ← List.cons_append, ih y Y]
      rfl

/-- cutting blanks and `}` off the end of a text the automaton does not leave outside a string does not repair it -/
theorem cut_not_inert (v en' suf : Bytes) (hv : v = en' ++ suf) (hsuf : ∀ x ∈ suf, x = SP ∨ x = RB)
    (hb : scan v false ≠ some false) : scan en' false ≠ some false := by
  intro h
  apply hb
  rw [hv, scan_append en' suf false false h]
  exact scan_neutral suf (fun x hx => (hsuf x hx).imp id Or.inr) false

/-- the split fails when the last printed value, cut, holds no separator and is not inert while everything before it is -/
theorem split_last_bad (E1 : List (Bytes × Bytes)) (k' e en' : Bytes)
    (hE1 : ∀ p ∈ E1, scan p.1 false = some false ∧ scan p.2 false = some false) (hk : scan k' false = some false)
    (hns : ∀ x ∈ en', x ≠ EQ ∧ x ≠ CM) (hb : scan en' false ≠ some false) :
    splitString (joinItems ((setLastVal en' (E1 ++ [(k', e)])).map (item id))) = none := by
  rw [setLastVal_append]
  have e1 : setLastVal en' [(k', e)] = [(k', en')] := rfl
  rw [e1]
  unfold splitString
  have e0 : ({} : SS) = { inStr := false, expKV := true, cur := [], out := [] } := rfl
  rw [e0, split_lockstep E1 [] k' en' [] hE1 hk]
  have e2 : en' ++ tailOf [] = en' := by simp [tailOf]
  rw [e2]
  exact split_bad_end en' false _ hns hb

/-- **S2b**: when the only raw value that is not inert is the last value of the set, the line does not read back (the split
fails: the text ends inside a string) -/
theorem last_raw_not_inert (A : Map) (k v : Bytes) (hwf : Map.WF (A ++ [(k, v)])) (hA : rawInert A = true)
    (hn : needsQuote v = false) (hv : inert v = false) :
    parse (line (A ++ [(k, v)])) ≠ some (A ++ [(k, v)]) := by
  intro h
  have hkey : ∀ x ∈ A ++ [(k, v)], scan x.1 false = some false := by
    intro x hx
    obtain ⟨_, _, c⟩ := parsed_names_readable _ _ h x hx
    simpa [inert] using c
  have hencA := rawInert_enc A hA
  obtain ⟨_, hns⟩ := needsQuote_false v hn
  have hev : encTag v = v := by unfold encTag; simp [hn]
  have hvb : scan v false ≠ some false := by
    intro e; simp [inert, e] at hv
  cases A with
  | nil =>
    simp only [List.nil_append] at h hwf hkey
    obtain ⟨pre, suf, k1', en', q, parts, ps, _, rfl, hk1, hpre, hsuf, hq, hq2, hs, _⟩ := parse_shape k v [] hwf h
    simp only [List.map_nil, List.getLast?_singleton, Option.some.injEq] at hq
    subst hq
    simp only [hev] at hq2
    have hk1' : scan k1' false = some false := by
      have := hkey (k, v) List.mem_cons_self
      simp only [] at this
      rw [hk1, scan_neutral_prefix pre k1' false hpre] at this
      exact this
    have := split_last_bad [] k1' (encTag v) en' (by intro p hp; cases hp) hk1'
      (fun x hx => hns x (by rw [hq2]; exact List.mem_append_left _ hx)) (cut_not_inert v en' suf hq2 hsuf hvb)
    simp only [List.nil_append, List.map_nil] at this hs
    rw [this] at hs; cases hs
  | cons a A2 =>
    obtain ⟨ka, va⟩ := a
    simp only [List.cons_append] at h hwf hkey
    obtain ⟨pre, suf, k1', en', q, parts, ps, _, rfl, hk1, hpre, hsuf, hq, hq2, hs, _⟩ :=
      parse_shape ka va (A2 ++ [(k, v)]) hwf h
    have eE : (k1', encTag va) :: (A2 ++ [(k, v)]).map encP = ((k1', encTag va) :: A2.map encP) ++ [(k, encTag v)] := by
      simp [encP]
    rw [eE] at hq hs
    rw [List.getLast?_concat] at hq
    simp only [Option.some.injEq] at hq
    subst hq
    simp only [hev] at hq2
    have hk1' : scan k1' false = some false := by
      have := hkey (ka, va) List.mem_cons_self
      simp only [] at this
      rw [hk1, scan_neutral_prefix pre k1' false hpre] at this
      exact this
    have hE1 : ∀ p ∈ (k1', encTag va) :: A2.map encP, scan p.1 false = some false ∧ scan p.2 false = some false := by
      intro p hp
      rcases List.mem_cons.mp hp with hp | hp
      · rw [hp]; exact ⟨hk1', hencA (ka, va) List.mem_cons_self⟩
      · obtain ⟨x, hx, hxe⟩ := List.mem_map.mp hp
        rw [← hxe]
        exact ⟨hkey x (List.mem_cons_of_mem _ (List.mem_append_left _ hx)), hencA x (List.mem_cons_of_mem _ hx)⟩
    have := split_last_bad ((k1', encTag va) :: A2.map encP) k (encTag v) en' hE1
      (hkey (k, v) (List.mem_cons_of_mem _ (List.mem_append_right _ List.mem_cons_self)))
      (fun x hx => hns x (by rw [hq2]; exact List.mem_append_left _ hx)) (cut_not_inert v en' suf hq2 hsuf hvb)
    rw [this] at hs; cases hs

/-! ### the general case, reduced to the pieces after the diverged piece -/

theorem toPairs_lockstep : ∀ (E1 : List (Bytes × Bytes)) (k' W : Bytes) (more : List Bytes) (ps : List (Bytes × Bytes)),
    toPairs (E1.flatMap (fun p => [p.1, p.2]) ++ k' :: W :: more) = some ps →
    ∃ x ps2, decodeValue (trimSpaces W) = some x ∧ toPairs more = some ps2 ∧
      ∀ q ∈ ps, (∃ p ∈ E1, decP p = some q) ∨ q = (trimSpaces k', x) ∨ q ∈ ps2
  | [], k', W, more, ps, h => by
    obtain ⟨x, ps2, _, hd, hr, rfl⟩ := toPairs_cons_some k' W more ps h
    exact ⟨x, ps2, hd, hr, fun q hq => Or.inr (List.mem_cons.mp hq)⟩
  | p :: E1, k', W, more, ps, h => by
    obtain ⟨y, r', _, hd, hr, rfl⟩ := toPairs_cons_some p.1 p.2 _ ps h
    obtain ⟨x, ps2, h1, h2, h3⟩ := toPairs_lockstep E1 k' W more r' hr
    refine ⟨x, ps2, h1, h2, fun q hq => ?_⟩
    rcases List.mem_cons.mp hq with e | e
    · exact Or.inl ⟨p, List.mem_cons_self, by simp [decP, hd, e]⟩
    · rcases h3 q e with ⟨p', hp', hdp⟩ | h4
      · exact Or.inl ⟨p', List.mem_cons_of_mem _ hp', hdp⟩
      · exact Or.inr h4

/-- **the diverged piece**: the printed pairs `E1` are inert, then comes a name `k'` and a raw value `w` that the automaton
does not leave outside a string, then more pairs. If the split succeeds, its pieces are those of `E1`, `k'`, ONE piece
`w ++ , ++ z` that `ToMap` never reads as `w`, and further pieces `more`; every pair read comes from `E1`, is
`(k', x)` with `x ≠ w`, or is read from `more` -/
theorem diverged_core (E1 E2 : List (Bytes × Bytes)) (k' w : Bytes) (parts : List Bytes) (ps : List (Bytes × Bytes))
    (hE1 : ∀ p ∈ E1, scan p.1 false = some false ∧ scan p.2 false = some false) (hk : scan k' false = some false)
    (hns : ∀ x ∈ w, x ≠ EQ ∧ x ≠ CM) (hb : scan w false ≠ some false) (hE2 : E2 ≠ [])
    (hs : splitString (joinItems ((E1 ++ (k', w) :: E2).map (item id))) = some parts) (hp : toPairs parts = some ps) :
    ∃ z more x ps2, parts = E1.flatMap (fun p => [p.1, p.2]) ++ k' :: (w ++ CM :: z) :: more ∧
      decodeValue (trimSpaces (w ++ CM :: z)) = some x ∧ x ≠ w ∧ toPairs more = some ps2 ∧
      ∀ q ∈ ps, (∃ p ∈ E1, decP p = some q) ∨ q = (trimSpaces k', x) ∨ q ∈ ps2 := by
  unfold splitString at hs
  have e0 : ({} : SS) = { inStr := false, expKV := true, cur := [], out := [] } := rfl
  rw [e0, split_lockstep E1 [] k' w E2 hE1 hk] at hs
  obtain ⟨T, hT⟩ : ∃ T, tailOf E2 = CM :: T := by
    cases E2 with
    | nil => exact absurd rfl hE2
    | cons q R => exact ⟨_, rfl⟩
  rw [hT] at hs
  obtain ⟨z, more, hparts⟩ := split_diverges w false hns hb false [] _ T parts hs
  have hparts' : parts = E1.flatMap (fun p => [p.1, p.2]) ++ k' :: (w ++ CM :: z) :: more := by
    rw [hparts]; simp
  rw [hparts'] at hp
  obtain ⟨x, ps2, h1, h2, h3⟩ := toPairs_lockstep E1 k' (w ++ CM :: z) more ps hp
  exact ⟨z, more, x, ps2, hparts', h1, diverged_piece_ne w z x (fun hm => (hns CM hm).2 rfl) h1, h2, h3⟩

theorem decP_fst (p q : Bytes × Bytes) (h : decP p = some q) : q.1 = trimSpaces p.1 := by
  unfold decP at h
  cases hd : decodeValue (trimSpaces p.2) with
  | none => rw [hd] at h; cases h
  | some y =>
    rw [hd] at h
    simp only [Option.map_some, Option.some.injEq] at h
    rw [← h]

theorem length_flat (E : List (Bytes × Bytes)) : (E.flatMap (fun p => [p.1, p.2])).length = 2 * E.length := by
  induction E with
  | nil => rfl
  | cons p E ih => simp only [List.flatMap_cons, List.length_append, List.length_cons, List.length_nil, ih]; omega

/-- **Reduction of the general case**: let `(k, v)` be the first pair whose raw value is not inert, with pairs `B ≠ []` behind
it. If the line reads back as the set, then the brace-stripped line `fine` splits into the pieces of the pairs before, the
name, ONE piece `v ++ , ++ z`, and pieces `more`; and `ToMap`'s loop over `more` alone yields a pair of the set that stands at
or before `(k, v)`. What is left for `rawInert`-free necessity is to refute this: no pair cut out of the text behind a diverged
value is `(k, v)` (nor the first pair of the set). -/
theorem later_pair (A B : Map) (k v : Bytes) (hB : B ≠ []) (hwf : Map.WF (A ++ (k, v) :: B)) (hA : rawInert A = true)
    (hn : needsQuote v = false) (hv : inert v = false)
    (h : parse (line (A ++ (k, v) :: B)) = some (A ++ (k, v) :: B)) :
    ∃ (fine : Bytes) (parts : List Bytes) (z : Bytes) (more : List Bytes) (ps2 : List (Bytes × Bytes)),
      removeCurlyBraces (line (A ++ (k, v) :: B)) = some fine ∧ splitString fine = some parts ∧
      parts.drop (2 * A.length + 1) = (v ++ CM :: z) :: more ∧ toPairs more = some ps2 ∧
      ∃ p ∈ A ++ [(k, v)], p ∈ ps2 := by
  have hkey : ∀ x ∈ A ++ (k, v) :: B, trimSpaces x.1 = x.1 ∧ scan x.1 false = some false := by
    intro x hx
    obtain ⟨_, b, c⟩ := parsed_names_readable _ _ h x hx
    exact ⟨trimSpaces_of_trimmed _ b, by simpa [inert] using c⟩
  have hencA := rawInert_enc A hA
  obtain ⟨_, hns⟩ := needsQuote_false v hn
  have hev : encTag v = v := by unfold encTag; simp [hn]
  have hvb : scan v false ≠ some false := by
    intro e; simp [inert, e] at hv
  obtain ⟨b0, B', rfl⟩ : ∃ b0 B', B = b0 :: B' := by
    cases B with
    | nil => exact absurd rfl hB
    | cons b0 B' => exact ⟨b0, B', rfl⟩
  have hneA : ∀ x ∈ A, x.1 ≠ k := by
    intro x hx
    exact bytesLt_ne ((List.pairwise_append.mp hwf).2.2 x hx (k, v) List.mem_cons_self)
  cases A with
  | nil =>
    simp only [List.nil_append] at h hwf hkey ⊢
    obtain ⟨pre, suf, k1', en', q, parts, ps, _, rfl, hk1, hpre, hsuf, _, _, hs, hp, hof, hrcb, _⟩ := parse_shape k v _ hwf h
    have hk1' : scan k1' false = some false := by
      have := (hkey (k, v) List.mem_cons_self).2
      simp only [] at this
      rw [hk1, scan_neutral_prefix pre k1' false hpre] at this
      exact this
    have eE : setLastVal en' ((k1', encTag v) :: (b0 :: B').map encP) =
        [] ++ (k1', v) :: setLastVal en' ((b0 :: B').map encP) := by
      rw [List.map_cons, setLastVal_cons2, hev]; rfl
    rw [eE] at hs hrcb
    obtain ⟨z, more, x, ps2, hparts, _, hx, hp2, hall⟩ := diverged_core [] _ k1' v parts ps
      (by intro p hp; cases hp) hk1' hns hvb (setLastVal_ne _ _ (by simp)) hs hp
    refine ⟨_, parts, z, more, ps2, hrcb, hs, by rw [hparts]; simp, hp2, (k, v), List.mem_cons_self, ?_⟩
    have hmem : (k, v) ∈ ps := mem_ofPairs ps _ (by rw [hof]; exact List.mem_cons_self)
    rcases hall _ hmem with ⟨p, hp', _⟩ | e | e
    · cases hp'
    · simp only [Prod.mk.injEq] at e
      exact absurd e.2.symm hx
    · exact e
  | cons a A2 =>
    obtain ⟨ka, va⟩ := a
    simp only [List.cons_append] at h hwf hkey ⊢
    obtain ⟨pre, suf, k1', en', q, parts, ps, _, rfl, hk1, hpre, hsuf, _, _, hs, hp, hof, hrcb, _⟩ := parse_shape ka va _ hwf h
    have hk1' : scan k1' false = some false := by
      have := (hkey (ka, va) List.mem_cons_self).2
      simp only [] at this
      rw [hk1, scan_neutral_prefix pre k1' false hpre] at this
      exact this
    have eE : setLastVal en' ((k1', encTag va) :: (A2 ++ (k, v) :: b0 :: B').map encP) =
        ((k1', encTag va) :: A2.map encP) ++ (k, v) :: setLastVal en' ((b0 :: B').map encP) := by
      have e1 : (k1', encTag va) :: (A2 ++ (k, v) :: b0 :: B').map encP =
          ((k1', encTag va) :: A2.map encP) ++ (k, encTag v) :: (encP b0 :: B'.map encP) := by simp [encP]
      rw [e1, setLastVal_append, setLastVal_cons2, hev]; rfl
    rw [eE] at hs hrcb
    have hE1 : ∀ p ∈ (k1', encTag va) :: A2.map encP, scan p.1 false = some false ∧ scan p.2 false = some false := by
      intro p hp
      rcases List.mem_cons.mp hp with hp | hp
      · rw [hp]; exact ⟨hk1', hencA (ka, va) List.mem_cons_self⟩
      · obtain ⟨y, hy, hye⟩ := List.mem_map.mp hp
        rw [← hye]
        exact ⟨(hkey y (List.mem_cons_of_mem _ (List.mem_append_left _ hy))).2, hencA y (List.mem_cons_of_mem _ hy)⟩
    have hkk := hkey (k, v) (List.mem_cons_of_mem _ (List.mem_append_right _ List.mem_cons_self))
    simp only [] at hkk
    obtain ⟨z, more, x, ps2, hparts, _, hx, hp2, hall⟩ := diverged_core _ _ k v parts ps
      hE1 hkk.2 hns hvb (setLastVal_ne _ _ (by simp)) hs hp
    have hdrop : parts.drop (2 * (A2.length + 1) + 1) = (v ++ CM :: z) :: more := by
      have hl := length_flat ((k1', encTag va) :: A2.map encP)
      simp only [List.length_cons, List.length_map] at hl
      have e2 : parts = (((k1', encTag va) :: A2.map encP).flatMap (fun p => [p.1, p.2]) ++ [k]) ++
          (v ++ CM :: z) :: more := by rw [hparts]; simp
      rw [e2]
      exact List.drop_left' (by rw [List.length_append, hl]; simp)
    have hka_ne : ka ≠ k := hneA (ka, va) List.mem_cons_self
    -- names of the pairs read from the pieces before the diverged one
    have hfromE1 : ∀ q : Bytes × Bytes, (∃ p ∈ (k1', encTag va) :: A2.map encP, decP p = some q) →
        q.1 = trimSpaces k1' ∨ ∃ y ∈ A2, q.1 = y.1 := by
      intro q ⟨p, hp', hd⟩
      have h1 := decP_fst p q hd
      rcases List.mem_cons.mp hp' with e | e
      · left; rw [h1, e]
      · right
        obtain ⟨y, hy, hye⟩ := List.mem_map.mp e
        refine ⟨y, hy, ?_⟩
        rw [h1, ← hye]
        exact (hkey y (List.mem_cons_of_mem _ (List.mem_append_left _ hy))).1
    have hmemk : (k, v) ∈ ps :=
      mem_ofPairs ps _ (by rw [hof]; exact List.mem_cons_of_mem _ (List.mem_append_right _ List.mem_cons_self))
    have hmema : (ka, va) ∈ ps := mem_ofPairs ps _ (by rw [hof]; exact List.mem_cons_self)
    have hA2ka : ∀ y ∈ A2, y.1 ≠ ka := by
      intro y hy e
      exact bytesLt_ne ((List.pairwise_cons.mp hwf).1 y (List.mem_append_left _ hy)) e.symm
    refine ⟨_, parts, z, more, ps2, hrcb, hs, hdrop, hp2, ?_⟩
    rcases hall _ hmemk with hE | e | e
    · rcases hfromE1 _ hE with e1 | ⟨y, hy, e1⟩
      · -- the first name, cut, reads as `k`: then the first pair of the set comes from `more`
        rcases hall _ hmema with hE' | e' | e'
        · rcases hfromE1 _ hE' with e2 | ⟨y, hy, e2⟩
          · exfalso; apply hka_ne
            simp only [] at e1 e2
            rw [e1, e2]
          · exact absurd e2.symm (hA2ka y hy)
        · simp only [Prod.mk.injEq] at e'
          exfalso; apply hka_ne; rw [e'.1, hkk.1]
        · exact ⟨(ka, va), List.mem_cons_self, e'⟩
      · exact absurd e1.symm (hneA y (List.mem_cons_of_mem _ hy))
    · simp only [Prod.mk.injEq] at e
      exact absurd e.2.symm hx
    · exact ⟨(k, v), List.mem_cons_of_mem _ (List.mem_append_right _ List.mem_cons_self), e⟩

/-- **Necessity of `safeW` when at most the LAST raw value is not inert** (`rawInert` asked of all pairs but the last) -/
theorem safeW_necessary_initInert (A : Map) (k v : Bytes) (hwf : Map.WF (A ++ [(k, v)])) (hA : rawInert A = true)
    (h : parse (line (A ++ [(k, v)])) = some (A ++ [(k, v)])) : safeW (A ++ [(k, v)]) = true := by
  by_cases hi : rawInert (A ++ [(k, v)]) = true
  · exact safeW_necessary_inert _ hwf hi h
  · exfalso
    have hl : (needsQuote v || inert v) = false := by
      unfold rawInert at hi hA
      rw [List.all_append, hA] at hi
      simpa using hi
    simp only [Bool.or_eq_false_iff] at hl
    exact last_raw_not_inert A k v hwf hA hl.1 hl.2 h

end Logrange.Proofs.TagsNecessityS2

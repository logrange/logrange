import Logrange.Proofs.LqlEngineStmt
/-!
# C12: engine = direct parser at statement level — TRUNCATE and SHOW

`engine_direct_truncate`, `engine_direct_show`: the participle-engine interpreter on the regenerated grammar (root `Lql`), followed by
the typed application of the captures and the post-check, equals `dTruncateRest` / `dShowRest`.

A generic chain of guarded clauses `("KW" @Tok)?` is simulated against a raw (unconverted) reading `rawKw`/`rawChain`; the
unguarded `(@@)?` source in front of such a chain has the delicate point that a HARD error of the source attempt
kills the engine's parse while `dOptSource` just returns "no source": `source_shallow` shows that outside the token configurations
`deepStart` (NOT…, `(`…, operand followed by `(` or an operator) the attempt fails within one token, and `deep4`/`deep2` show that on
those configurations the direct clause chain fails too — for `BEFORE` this needs the hypothesis `hdp` (the opaque date parser rejects
the texts `(` and the ten operators; `cex_truncate_dp` shows the statement is false without it).
-/
namespace Logrange.Lql
open Logrange.Generated.C12

def truncateBody : Node := .seq [optG (.capture "DryRun" (.lit kwDRYRUN)), optG (.capture "Source" (.strct "Source")),
  optG (kwSeq kwMINSIZE "MinSize" (.ref .number)), optG (kwSeq kwMAXSIZE "MaxSize" (.ref .number)),
  optG (kwSeq kwBEFORE "Before" (.ref .string)), optG (kwSeq kwMAXDBSIZE "MaxDbSize" (.ref .number))]
def showBody : Node := .group (.disj [kwAlt kwPARTITIONS "Partitions" "Partitions", kwAlt kwPIPES "Pipes" "Pipes"]) .once
def partitionsBody : Node := .seq [optG (.capture "Source" (.strct "Source")), optG (kwSeq kwOFFSET "Offset" (.ref .number)), optG (kwSeq kwLIMIT "Limit" (.ref .number))]
def pipesBody : Node := .seq [optG (.capture "Void" (.strct "Source")), optG (kwSeq kwOFFSET "Offset" (.ref .number)), optG (kwSeq kwLIMIT "Limit" (.ref .number))]
theorem g_truncate : grammar "Truncate" = some truncateBody := rfl
theorem g_show : grammar "Show" = some showBody := rfl
theorem g_partitions : grammar "Partitions" = some partitionsBody := by rw [grammar]; rfl
theorem g_pipes : grammar "Pipes" = some pipesBody := by rw [grammar]; rfl

/-! ## a chain of guarded optional clauses `("KW" @Tok)?` -/
abbrev Cl := Bytes × String × TT
def clNode (x : Cl) : Node := optG (kwSeq x.1 x.2.1 (.ref x.2.2))

/-- the raw (unconverted) direct reading of one guarded clause -/
def rawKw (kw : Bytes) (ty : TT) : List Tok → Option (Option Bytes × List Tok)
  | [] => some (none, [])
  | t :: rest =>
    if litMatch t kw then
      match rest with
      | n :: rest' => if n.t == ty then some (some n.v, rest') else none
      | [] => none
    else some (none, t :: rest)

def rawChain : List Cl → List Tok → Option (List (Option Bytes) × List Tok)
  | [], toks => some ([], toks)
  | x :: cls, toks =>
    match rawKw x.1 x.2.2 toks with
    | none => none
    | some (ob, rest) => (match rawChain cls rest with | none => none | some (obs, rest') => some (ob :: obs, rest'))

def rawCaps : List Cl → List (Option Bytes) → Caps
  | [], _ => []
  | x :: cls, obs =>
    match obs with
    | [] => []
    | ob :: obs' => obCaps x.2.1 ob ++ rawCaps cls obs'

theorem clause_step (c : Ctx) (kw : Bytes) (fl : String) (ty : TT) (f cur : Nat) (hcl : cur ≤ c.toks.length) :
    ∃ vals cp cur', parse c (f+7) (optG (kwSeq kw fl (.ref ty))) cur = .ok vals cp cur' ∧
      match rawKw kw ty (c.toks.drop cur) with
      | some (ob, rest) => cp = obCaps fl ob ∧ rest = c.toks.drop cur' ∧ cur ≤ cur' ∧ cur' ≤ c.toks.length
      | none => cur' = cur ∧ cp = [] ∧ ∃ t, c.toks[cur]? = some t ∧ litMatch t kw = true := by
  cases hn : c.toks[cur]? with
  | none =>
    rw [drop_of_none hn]
    exact ⟨[], [], cur, clause_none c kw fl _ (f+2) cur hn, by simp [obCaps], by simp [drop_of_none hn], Nat.le_refl _, hcl⟩
  | some t =>
    have hlt := lt_of_get hn
    rw [drop_of_get hn]
    cases hc : litMatch t kw with
    | false =>
      refine ⟨[], [], cur, clause_nolit c kw fl _ (f+2) cur t hn hc, ?_⟩
      simp only [rawKw, hc, Bool.false_eq_true, if_false]
      exact ⟨rfl, (drop_of_get hn).symm, Nat.le_refl _, hcl⟩
    | true =>
      rw [clause_lit c kw fl _ f cur t hn hc, parse_ref]
      simp only [rawKw, hc, if_true, peek]
      cases hn2 : c.toks[cur+1]? with
      | none =>
        rw [drop_of_none hn2]
        exact ⟨_, _, _, rfl, rfl, rfl, t, rfl, hc⟩
      | some n =>
        have hlt2 := lt_of_get hn2
        rw [drop_of_get hn2]
        by_cases hty : n.t = ty
        · simp only [hty, beq_self_eq_true, if_true]
          exact ⟨_, _, _, rfl, by simp [obCaps], rfl, by omega, by omega⟩
        · have hty' : (n.t == ty) = false := by simpa using hty
          simp only [hty', Bool.false_eq_true, if_false]
          exact ⟨_, _, _, rfl, rfl, rfl, t, rfl, hc⟩

theorem isEmpty_app {α : Type} {a : List α} (b : List α) (h : a.isEmpty = false) : (a ++ b).isEmpty = false := by
  cases a with
  | nil => simp at h
  | cons _ _ => rfl

def exclB (a b : Bytes) : Bool := !(a == b) && !(eqFold a b)
theorem litMatch_exclB (tk : Tok) (a b : Bytes) (h : exclB a b = true) (ha : litMatch tk a = true) : litMatch tk b = false := by
  simp only [exclB, Bool.and_eq_true, Bool.not_eq_true'] at h
  exact litMatch_excl tk a b h.1 h.2 ha

def ExclKw : List Cl → Bool
  | [] => true
  | x :: cls => cls.all (fun y => exclB x.1 y.1) && ExclKw cls

theorem chain_skip (c : Ctx) (t : Tok) (cur : Nat) (hn : c.toks[cur]? = some t) :
    ∀ (cls : List Cl), (∀ x ∈ cls, litMatch t x.1 = false) → ∀ (fe : Nat) (first : Bool) (vals : List Val) (caps : Caps),
      cls.length + 6 ≤ fe → vals.isEmpty = false →
      parseSeq c fe (cls.map clNode) cur first vals caps = .ok vals caps cur
  | [], _, fe, first, vals, caps, hfe, hv => by
    obtain ⟨g, rfl⟩ := Nat.exists_eq_add_of_le' (show 1 ≤ fe by simp at hfe; omega)
    simp [parseSeq_nil, hv]
  | x :: cls, hx, fe, first, vals, caps, hfe, hv => by
    obtain ⟨g, rfl⟩ := Nat.exists_eq_add_of_le' (show 6 ≤ fe by simp at hfe; omega)
    have h1 : litMatch t x.1 = false := hx x List.mem_cons_self
    have ih := chain_skip c t cur hn cls (fun y hy => hx y (List.mem_cons_of_mem _ hy)) (g+5) false vals caps (by simp at hfe; omega) hv
    simp only [List.map_cons, parseSeq_cons, clNode]
    rw [clause_nolit c x.1 x.2.1 _ g cur t hn h1]
    simpa using ih

theorem chain_sim (c : Ctx) : ∀ (cls : List Cl), ExclKw cls = true → ∀ (cur fe : Nat) (first : Bool) (vals : List Val) (caps : Caps),
    cur ≤ c.toks.length → cls.length + 8 ≤ fe → vals.isEmpty = false →
    ∃ vals' caps' cur', parseSeq c fe (cls.map clNode) cur first vals caps = .ok vals' caps' cur' ∧ vals'.isEmpty = false ∧
      match rawChain cls (c.toks.drop cur) with
      | some (obs, rest) => caps' = caps ++ rawCaps cls obs ∧ rest = c.toks.drop cur' ∧ cur' ≤ c.toks.length
      | none => cur' < c.toks.length
  | [], _, cur, fe, first, vals, caps, hcl, hfe, hv => by
    obtain ⟨g, rfl⟩ := Nat.exists_eq_add_of_le' (show 1 ≤ fe by simp at hfe; omega)
    exact ⟨vals, caps, cur, by simp [parseSeq_nil, hv], hv, by simp [rawCaps], rfl, hcl⟩
  | x :: cls, hex, cur, fe, first, vals, caps, hcl, hfe, hv => by
    obtain ⟨g, rfl⟩ := Nat.exists_eq_add_of_le' (show 8 ≤ fe by simp at hfe; omega)
    simp only [ExclKw, Bool.and_eq_true, List.all_eq_true] at hex
    obtain ⟨vals1, cp, cur1, heq, hcls⟩ := clause_step c x.1 x.2.1 x.2.2 g cur hcl
    simp only [List.map_cons, parseSeq_cons, clNode]
    rw [heq]
    simp only [rawChain]
    cases hr : rawKw x.1 x.2.2 (c.toks.drop cur) with
    | none =>
      rw [hr] at hcls
      obtain ⟨rfl, rfl, t, hn, hc⟩ := hcls
      have hsk := chain_skip c t cur1 hn cls (fun y hy => litMatch_exclB t x.1 y.1 (hex.1 y hy) hc) (g+7) false (vals ++ vals1) (caps ++ [])
        (by simp at hfe; omega) (isEmpty_app _ hv)
      exact ⟨_, _, _, hsk, isEmpty_app _ hv, lt_of_get hn⟩
    | some p =>
      obtain ⟨ob, rest⟩ := p
      rw [hr] at hcls
      obtain ⟨rfl, rfl, h1, h2⟩ := hcls
      obtain ⟨vals', caps', cur', heq2, hv2, hm⟩ := chain_sim c cls hex.2 cur1 (g+7) false (vals ++ vals1) (caps ++ obCaps x.2.1 ob) h2
        (by simp at hfe; omega) (isEmpty_app _ hv)
      refine ⟨vals', caps', cur', heq2, hv2, ?_⟩
      simp only []
      cases hr2 : rawChain cls (c.toks.drop cur1) with
      | none => rw [hr2] at hm; exact hm
      | some q =>
        obtain ⟨obs, rest'⟩ := q
        rw [hr2] at hm
        obtain ⟨rfl, hrest, hle⟩ := hm
        exact ⟨by simp [rawCaps], hrest, hle⟩

/-! ## the unguarded source: when the attempt fails softly -/

/-- the token configurations in which the `Source` attempt can get further than one token -/
def deepStart : List Tok → Bool
  | [] => false
  | t :: rest => litMatch t kwNOT || litMatch t LP ||
      (isOperandTok t && (match rest with | n :: _ => litMatch n LP || isOpTok n | [] => false))

theorem ident_nonop (c : Ctx) (hg : c.grammar = grammar) (g cur : Nat)
    (h : ∀ tk, c.toks[cur]? = some tk → isOperandTok tk = false) : parse c (g+20) (.strct "Identifier") cur = .noMatch := by
  rw [parse_strct c _ "Identifier" identBody cur (hg ▸ g_ident)]
  cases hn : c.toks[cur]? with
  | none => simp only [identBody, parse_seq, parseSeq_cons, op_step_none c _ cur hn, if_true]
  | some tk => simp only [identBody, parse_seq, parseSeq_cons, op_step c _ cur tk hn, h tk hn, if_true, Bool.false_eq_true, if_false]

theorem ident_plain (c : Ctx) (hg : c.grammar = grammar) (g cur : Nat) (tk : Tok) (hn : c.toks[cur]? = some tk)
    (hop : isOperandTok tk = true) (hnx : ∀ p, c.toks[cur+1]? = some p → litMatch p LP = false) :
    parse c (g+20) (.strct "Identifier") cur = .ok [.node "Identifier" [("Operand", [.str tk.v])]] [] (cur+1) := by
  rw [parse_strct c _ "Identifier" identBody cur (hg ▸ g_ident)]
  cases hnext : c.toks[cur+1]? with
  | none =>
    simp [identBody, parse_seq, parseSeq_cons, parseSeq_nil, op_step c _ cur tk hn, hop, parse_opt, parse_once, parse_lit, peek, hnext]
  | some p =>
    have hlp : litMatch p [40] = false := hnx p hnext
    simp [identBody, parse_seq, parseSeq_cons, parseSeq_nil, op_step c _ cur tk hn, hop, parse_opt, parse_once, parse_lit, peek, hnext, hlp]

theorem cond_nonop (c : Ctx) (hg : c.grammar = grammar) (g cur : Nat)
    (h : ∀ tk, c.toks[cur]? = some tk → isOperandTok tk = false) : parse c (g+40) (.strct "Condition") cur = .noMatch := by
  rw [parse_strct c _ "Condition" condBody cur (hg ▸ g_cond)]
  have hi : parse c (g+36) (.strct "Identifier") cur = .noMatch := ident_nonop c hg (g+16) cur h
  simp only [condBody, parse_seq, parseSeq_cons, parse_capture, hi, if_true]

theorem cond_plain (c : Ctx) (hg : c.grammar = grammar) (g cur : Nat) (tk : Tok) (hn : c.toks[cur]? = some tk)
    (hop : isOperandTok tk = true) (hnx : ∀ p, c.toks[cur+1]? = some p → litMatch p LP = false ∧ isOpTok p = false) :
    parse c (g+40) (.strct "Condition") cur = .err (cur+1) true := by
  rw [parse_strct c _ "Condition" condBody cur (hg ▸ g_cond)]
  have hi : parse c (g+36) (.strct "Identifier") cur = _ := ident_plain c hg (g+16) cur tk hn hop (fun p hp => (hnx p hp).1)
  cases hnext : c.toks[cur+1]? with
  | none =>
    have ho : parse c (g+36) opGroup (cur+1) = .noMatch := opGroup_none c (g+20) (cur+1) hnext
    simp [condBody, parse_seq, parseSeq_cons, parse_capture, hi, ho]
  | some p =>
    have ho : parse c (g+36) opGroup (cur+1) = .noMatch := by
      have h := opGroup_some c (g+20) (cur+1) p hnext; simp [(hnx p hnext).2] at h; exact h
    simp [condBody, parse_seq, parseSeq_cons, parse_capture, hi, ho]

theorem x_shallow (c : Ctx) (hg : c.grammar = grammar) (g cur : Nat) (hsh : deepStart (c.toks.drop cur) = false) :
    ∃ k, parse c (g+50) (.strct "XCondition") cur = .err k true ∧ k ≤ cur + 1 := by
  rw [parse_strct c _ "XCondition" xBody cur (hg ▸ g_x)]
  simp only [xBody, parse_seq, parseSeq_cons, notGroup, parse_opt, parse_capture, parse_lit, peek]
  cases hn : c.toks[cur]? with
  | none =>
    have hc : parse c (g+42) (.strct "Condition") cur = .noMatch := cond_nonop c hg (g+2) cur (fun tk h => by rw [hn] at h; cases h)
    have hp : parse c (g+42) parenSeq cur = .noMatch := paren_none c (g+39) cur hn
    exact ⟨cur, by simp [altGroup, parse_once, parse_disj, parseDisj_cons, parseDisj_nil, parse_capture, hc, hp], by omega⟩
  | some t =>
    rw [drop_of_get hn] at hsh
    simp only [deepStart, Bool.or_eq_false_iff, Bool.and_eq_false_iff] at hsh
    obtain ⟨⟨hnot, hlp⟩, hop⟩ := hsh
    have hnot' : litMatch t [78, 79, 84] = false := hnot
    have hp : parse c (g+42) parenSeq cur = .noMatch := paren_nolit c (g+39) cur t hn hlp
    cases hot : isOperandTok t with
    | false =>
      have hc : parse c (g+42) (.strct "Condition") cur = .noMatch :=
        cond_nonop c hg (g+2) cur (fun tk h => by rw [hn] at h; cases h; exact hot)
      exact ⟨cur, by simp [altGroup, parse_once, parse_disj, parseDisj_cons, parseDisj_nil, parse_capture, hc, hp, hnot'], by omega⟩
    | true =>
      have hnx : ∀ p, c.toks[cur+1]? = some p → litMatch p LP = false ∧ isOpTok p = false := by
        intro p hp
        rw [drop_of_get hp] at hop
        rcases hop with h | h
        · rw [hot] at h; cases h
        · simpa using h
      have hc : parse c (g+42) (.strct "Condition") cur = .err (cur+1) true := cond_plain c hg (g+2) cur t hn hot hnx
      exact ⟨cur+1, by simp [altGroup, parse_once, parse_disj, parseDisj_cons, parseDisj_nil, parse_capture, hc, hp, hnot', lookahead], by omega⟩

theorem source_shallow (c : Ctx) (hg : c.grammar = grammar) (g cur : Nat) (hsh : deepStart (c.toks.drop cur) = false)
    (hnt : ∀ t, c.toks[cur]? = some t → t.t ≠ TT.tags) :
    ∃ k, parse c (g+71) (.strct "Source") cur = .err k true ∧ k ≤ cur + 1 := by
  obtain ⟨k, hx, hk⟩ := x_shallow c hg (g+8) cur hsh
  have hx' : parse c (g+58) (.strct "XCondition") cur = .err k true := hx
  have ho : parse c (g+62) (.strct "OrCondition") cur = .err k true := by
    rw [parse_strct c _ "OrCondition" orBody cur (hg ▸ g_or)]
    simp [orBody, parse_seq, parseSeq_cons, parse_capture, hx']
  have he : parse c (g+66) (.strct "Expression") cur = .err k true := by
    rw [parse_strct c _ "Expression" exprBody cur (hg ▸ g_expr)]
    simp [exprBody, parse_seq, parseSeq_cons, parse_capture, ho]
  refine ⟨k, ?_, hk⟩
  rw [parse_strct c _ "Source" sourceBody cur (hg ▸ g_source)]
  have hkk : ¬ (k > cur + lookahead) := by simp only [lookahead]; omega
  cases hn : c.toks[cur]? with
  | none => simp [sourceBody, parse_disj, parseDisj_cons, parseDisj_nil, parse_capture, parse_ref, peek, hn, he, hkk]
  | some t =>
    have ht : (t.t == TT.tags) = false := by simpa using hnt t hn
    simp [sourceBody, parse_disj, parseDisj_cons, parseDisj_nil, parse_capture, parse_ref, peek, hn, he, hkk, ht]

theorem src_step_ok (c : Ctx) (fl : String) (ns : List Node) (g s : Nat) (first : Bool) (vals0 : List Val) (caps0 : Caps)
    (v : Val) (cur' : Nat) (h : parse c g (.strct "Source") s = .ok [v] [] cur') :
    parseSeq c (g+4) (optG (.capture fl (.strct "Source")) :: ns) s first vals0 caps0
      = parseSeq c (g+3) ns cur' false (vals0 ++ [.str []]) (caps0 ++ [(fl, [v])]) := by
  simp [parseSeq_cons, parse_optG, parse_capture, h]
theorem src_step_soft (c : Ctx) (fl : String) (ns : List Node) (g s : Nat) (first : Bool) (vals0 : List Val) (caps0 : Caps)
    (k : Nat) (h : parse c g (.strct "Source") s = .err k true) (hk : k ≤ s + 1) :
    parseSeq c (g+4) (optG (.capture fl (.strct "Source")) :: ns) s first vals0 caps0
      = parseSeq c (g+3) ns s false (vals0 ++ [.str []]) caps0 := by
  have hkk : ¬ (k > s + lookahead) := by simp only [lookahead]; omega
  simp [parseSeq_cons, parse_optG, parse_capture, h, hkk]
theorem src_step_hard (c : Ctx) (fl : String) (ns : List Node) (g s : Nat) (first : Bool) (vals0 : List Val) (caps0 : Caps)
    (k : Nat) (h : parse c g (.strct "Source") s = .err k true) (hk : s + 1 < k) :
    parseSeq c (g+4) (optG (.capture fl (.strct "Source")) :: ns) s first vals0 caps0 = .err k true := by
  have hkk : k > s + lookahead := by simp only [lookahead]; omega
  simp [parseSeq_cons, parse_optG, parse_capture, h, hkk]

/-- the clause chain run to its end: either tokens are left (and the raw direct chain does not consume everything either), or
everything is consumed with exactly the raw chain's captures -/
theorem chain_finish (c : Ctx) (cls : List Cl) (hex : ExclKw cls = true) (cur fe : Nat) (vals : List Val) (caps : Caps)
    (hcl : cur ≤ c.toks.length) (hfe : cls.length + 8 ≤ fe) (hv : vals.isEmpty = false) :
    (∃ vals' caps' cur', parseSeq c fe (cls.map clNode) cur false vals caps = .ok vals' caps' cur' ∧ cur' < c.toks.length ∧
        ∀ obs, rawChain cls (c.toks.drop cur) ≠ some (obs, []))
    ∨ (∃ vals' obs, parseSeq c fe (cls.map clNode) cur false vals caps = .ok vals' (caps ++ rawCaps cls obs) c.toks.length ∧
        vals'.isEmpty = false ∧ rawChain cls (c.toks.drop cur) = some (obs, [])) := by
  obtain ⟨vals', caps', cur', heq, hv', hm⟩ := chain_sim c cls hex cur fe false vals caps hcl hfe hv
  cases hr : rawChain cls (c.toks.drop cur) with
  | none =>
    rw [hr] at hm
    left; exact ⟨vals', caps', cur', heq, hm, fun obs h => by cases h⟩
  | some p =>
    obtain ⟨obs, rest⟩ := p
    rw [hr] at hm
    obtain ⟨rfl, hrest, hle⟩ := hm
    by_cases hc : cur' = c.toks.length
    · subst hc
      right; refine ⟨vals', obs, heq, hv', ?_⟩
      rw [hrest]; simp
    · left; refine ⟨vals', _, cur', heq, by omega, fun obs' h => ?_⟩
      simp only [Option.some.injEq, Prod.mk.injEq] at h
      have : (c.toks.drop cur').length = 0 := by rw [← hrest, h.2]; rfl
      simp only [List.length_drop] at this; omega

def srcCaps (fl : String) : List Val → Caps
  | [] => []
  | v :: vs => [(fl, v :: vs)]
/-- the source field as `optSource` converts it -/
def srcConv (ft : Nat) : List Val → Option (Option Source)
  | [] => some none
  | [v] => (toSource ft v).map some
  | _ => none

/-- the outcome of `(@@)? clauses…` run by the engine vs `dOptSource` and the raw chain -/
def SrcChainRel (c : Ctx) (fl : String) (cls : List Cl) (s fd ft : Nat) (caps0 : Caps) (R : Res) : Prop :=
  (((∃ k hv, R = .err k hv ∧ s + 1 < k) ∨ (∃ vals' caps' cur', R = .ok vals' caps' cur' ∧ cur' < c.toks.length)) ∧
    (dOptSource fd (c.toks.drop s) = none
     ∨ (dOptSource fd (c.toks.drop s) = some (none, c.toks.drop s) ∧ deepStart (c.toks.drop s) = true)
     ∨ (∃ osrc rest, dOptSource fd (c.toks.drop s) = some (osrc, rest) ∧ ∀ obs, rawChain cls rest ≠ some (obs, []))))
  ∨ (∃ vals' sv rest obs, R = .ok vals' (caps0 ++ srcCaps fl sv ++ rawCaps cls obs) c.toks.length ∧ vals'.isEmpty = false ∧
      dOptSource fd (c.toks.drop s) = (srcConv ft sv).map (fun o => (o, rest)) ∧ rawChain cls rest = some (obs, []))

theorem src_chain (c : Ctx) (hg : c.grammar = grammar) (hH : OperandNotParen c.toks) (fl : String) (cls : List Cl)
    (hex : ExclKw cls = true) (hao : ∀ x ∈ cls, exclB kwAND x.1 = true ∧ exclB kwOR x.1 = true)
    (s : Nat) (hs : s ≤ c.toks.length) (first : Bool) (vals0 : List Val) (caps0 : Caps)
    (fe fd ft : Nat) (hfe : 60 * (c.toks.length - s) + cls.length + 90 ≤ fe) (hfd : 4 * (c.toks.length - s) + 5 ≤ fd)
    (hft : 8 * (c.toks.length - s) + 8 ≤ ft) :
    SrcChainRel c fl cls s fd ft caps0 (parseSeq c fe (optG (.capture fl (.strct "Source")) :: cls.map clNode) s first vals0 caps0) := by
  obtain ⟨g, rfl⟩ := Nat.exists_eq_add_of_le' (show 75 ≤ fe by omega)
  have hv1 : (vals0 ++ [Val.str []]).isEmpty = false := by simp
  -- the soft-error continuation, shared
  have soft : ∀ k, parse c (g+71) (.strct "Source") s = .err k true → k ≤ s + 1 →
      dOptSource fd (c.toks.drop s) = some (none, c.toks.drop s) →
      SrcChainRel c fl cls s fd ft caps0 (parseSeq c (g+71+4) (optG (.capture fl (.strct "Source")) :: cls.map clNode) s first vals0 caps0) := by
    intro k hR hk hd
    rw [src_step_soft c fl _ (g+71) s first vals0 caps0 k hR hk]
    rcases chain_finish c cls hex s (g+71+3) (vals0 ++ [.str []]) caps0 hs (by omega) hv1 with
      ⟨vals', caps', cur', heq, hlt, hno⟩ | ⟨vals', obs, heq, hv', hr⟩
    · left; exact ⟨Or.inr ⟨vals', caps', cur', heq, hlt⟩, Or.inr (Or.inr ⟨none, _, hd, hno⟩)⟩
    · right; exact ⟨vals', [], c.toks.drop s, obs, by simpa [srcCaps] using heq, hv', by simp [srcConv, hd], hr⟩
  -- the continuation after a matched source
  have okc : ∀ v cur', parse c (g+71) (.strct "Source") s = .ok [v] [] cur' → cur' ≤ c.toks.length →
      dOptSource fd (c.toks.drop s) = (srcConv ft [v]).map (fun o => (o, c.toks.drop cur')) →
      SrcChainRel c fl cls s fd ft caps0 (parseSeq c (g+71+4) (optG (.capture fl (.strct "Source")) :: cls.map clNode) s first vals0 caps0) := by
    intro v cur' hR hle hd
    rw [src_step_ok c fl _ (g+71) s first vals0 caps0 v cur' hR]
    rcases chain_finish c cls hex cur' (g+71+3) (vals0 ++ [.str []]) (caps0 ++ [(fl, [v])]) hle (by omega) hv1 with
      ⟨vals', caps', cur2, heq, hlt, hno⟩ | ⟨vals', obs, heq, hv', hr⟩
    · left; refine ⟨Or.inr ⟨vals', caps', cur2, heq, hlt⟩, ?_⟩
      cases hsc : srcConv ft [v] with
      | none => left; rw [hd, hsc]; rfl
      | some o => right; right; exact ⟨o, _, by rw [hd, hsc]; rfl, hno⟩
    · right; exact ⟨vals', [v], c.toks.drop cur', obs, by simpa [srcCaps] using heq, hv', hd, hr⟩
  show SrcChainRel c fl cls s fd ft caps0 (parseSeq c (g+71+4) _ s first vals0 caps0)
  cases hn : c.toks[s]? with
  | none =>
    have hdrop := drop_of_none hn
    obtain ⟨k, hR, hk⟩ := source_shallow c hg g s (by rw [hdrop]; rfl) (fun t h => by rw [hn] at h; cases h)
    exact soft k hR hk (by rw [hdrop]; rfl)
  | some t =>
    have hlt := lt_of_get hn
    have hdrop := drop_of_get hn
    by_cases ht : t.t = TT.tags
    · have hR : parse c (g+71) (.strct "Source") s = .ok [.node "Source" [("Tags", [.str t.v])]] [] (s+1) := by
        rw [parse_strct c _ "Source" sourceBody s (hg ▸ g_source)]
        simp [sourceBody, parse_disj, parseDisj_cons, parse_capture, parse_ref, peek, hn, ht]
      refine okc _ (s+1) hR (by omega) ?_
      rw [hdrop]
      simp only [dOptSource, ht, beq_self_eq_true, if_true, srcConv]
      cases hp : KV.tagParse t.v <;> simp [toSource, fv, fieldVals, strs, hp]
    · have ht' : (t.t == TT.tags) = false := by simpa using ht
      have he := simExpr c hg hH _ s (Nat.le_refl _) hs (g+66) fd (by omega) hfd
      have hdo : dOptSource fd (c.toks.drop s) = (match dExpr fd (c.toks.drop s) with
          | some (e, r') => some (some (.expr e), r') | none => some (none, c.toks.drop s)) := by
        rw [hdrop]; simp only [dOptSource, ht', Bool.false_eq_true, if_false]
        cases dExpr fd (t :: List.drop (s + 1) c.toks) <;> rfl
      have notdeep : ∀ r, parse c (g+71) (.strct "Source") s = r → (∀ k, r ≠ .err k true) → deepStart (c.toks.drop s) = true := by
        intro r hr hne
        cases hds : deepStart (c.toks.drop s) with
        | true => rfl
        | false =>
          obtain ⟨k', hR', _⟩ := source_shallow c hg g s hds (fun t' h => by rw [hn] at h; cases h; exact ht)
          exact absurd (hr.symm.trans hR') (hne k')
      cases hd : dExpr fd (c.toks.drop s) with
      | some res =>
        obtain ⟨e, rest⟩ := res
        rw [hd] at he hdo
        obtain ⟨v, cur', hRe, hrel, hrest, h1, h2⟩ := he
        have hR : parse c (g+71) (.strct "Source") s = .ok [.node "Source" [("Expr", [v])]] [] cur' := by
          rw [parse_strct c _ "Source" sourceBody s (hg ▸ g_source)]
          simp [sourceBody, parse_disj, parseDisj_cons, parse_capture, parse_ref, peek, hn, ht', hRe]
        refine okc _ cur' hR h2 ?_
        have hcv := dExpr_cv hd
        simp only [List.length_drop] at hcv
        have hcs : toSource ft (.node "Source" [("Expr", [v])]) = some (.expr e) :=
          convSource (.expr e) _ ft ⟨v, rfl, hrel⟩ (by simp only [cvSource]; omega)
        simp only [hdo, srcConv, hcs, Option.map_some, hrest]
      | none =>
        rw [hd] at he hdo
        simp only [SimExpr] at he
        rcases he with ⟨k, hRe, hk⟩ | ⟨v, cur', hRe, hlt', hst⟩
        · have hR : parse c (g+71) (.strct "Source") s = .err k true := by
            rw [parse_strct c _ "Source" sourceBody s (hg ▸ g_source)]
            by_cases hgt : k > s + lookahead <;>
              simp [sourceBody, parse_disj, parseDisj_cons, parseDisj_nil, parse_capture, parse_ref, peek, hn, ht', hRe, hgt]
          by_cases hks : k ≤ s + 1
          · exact soft k hR hks hdo
          · rw [src_step_hard c fl _ (g+71) s first vals0 caps0 k hR (by omega)]
            left
            refine ⟨Or.inl ⟨k, true, rfl, by omega⟩, Or.inr (Or.inl ⟨hdo, ?_⟩)⟩
            cases hds : deepStart (c.toks.drop s) with
            | true => rfl
            | false =>
              obtain ⟨k', hR', hk'⟩ := source_shallow c hg g s hds (fun t' h => by rw [hn] at h; cases h; exact ht)
              rw [hR] at hR'
              simp only [Res.err.injEq, and_true] at hR'
              omega
        · have hR : parse c (g+71) (.strct "Source") s = .ok [.node "Source" [("Expr", [v])]] [] cur' := by
            rw [parse_strct c _ "Source" sourceBody s (hg ▸ g_source)]
            simp [sourceBody, parse_disj, parseDisj_cons, parse_capture, parse_ref, peek, hn, ht', hRe]
          have hdeep := notdeep _ hR (fun k h => by cases h)
          obtain ⟨q, hq, hqm⟩ : ∃ q, c.toks[cur']? = some q ∧ (litMatch q kwAND = true ∨ litMatch q kwOR = true) := by
            rcases hst with ⟨q, hq, h⟩ | ⟨q, hq, h⟩
            · exact ⟨q, hq, Or.inl h⟩
            · exact ⟨q, hq, Or.inr h⟩
          have hsk := chain_skip c q cur' hq cls (fun x hx => by
            rcases hqm with h | h
            · exact litMatch_exclB q _ _ (hao x hx).1 h
            · exact litMatch_exclB q _ _ (hao x hx).2 h) (g+71+3) false (vals0 ++ [.str []]) (caps0 ++ [(fl, [.node "Source" [("Expr", [v])]])])
            (by omega) hv1
          rw [src_step_ok c fl _ (g+71) s first vals0 caps0 _ cur' hR, hsk]
          left
          exact ⟨Or.inr ⟨_, _, cur', rfl, lt_of_get hq⟩, Or.inr (Or.inl ⟨hdo, hdeep⟩)⟩

theorem parseBytes_deep : ∀ b ∈ LP :: condOps, parseBytes b = none := by decide
theorem parseInt0_deep : ∀ b ∈ LP :: condOps, parseInt0 b = none := by decide

theorem deep_val (n : Tok) (hk : n.t ≠ TT.keyword) (h : litMatch n LP = true ∨ isOpTok n = true) : n.v ∈ LP :: condOps := by
  have hk' : (n.t == TT.keyword) = false := by simpa using hk
  rcases h with h | h
  · simp only [litMatch, hk', Bool.false_eq_true, if_false, beq_iff_eq] at h
    rw [h]; exact List.mem_cons_self
  · simp only [isOpTok, List.any_eq_true] at h
    obtain ⟨l, hl, hm⟩ := h
    simp only [litMatch, hk', Bool.false_eq_true, if_false, beq_iff_eq] at hm
    rw [hm]; exact List.mem_cons_of_mem _ hl

/-! ## the direct clause readers as raw reading + conversion -/
def convCl {α : Type} (conv : Bytes → Option α) (x : Option (Option Bytes × List Tok)) : Option (Option α × List Tok) :=
  match x with
  | none => none
  | some (ob, r) => (cvo conv ob).map (fun v => (v, r))

theorem dSize_raw (kw : Bytes) (toks : List Tok) : dSizeClause kw toks = convCl parseBytes (rawKw kw .number toks) := by
  cases toks with
  | nil => rfl
  | cons t rest =>
    simp only [dSizeClause, rawKw]
    cases litMatch t kw with
    | false => rfl
    | true =>
      cases rest with
      | nil => rfl
      | cons n r' =>
        by_cases hty : n.t = TT.number
        · simp only [hty, beq_self_eq_true, if_true, convCl, cvo]; cases parseBytes n.v <;> rfl
        · have hty' : (n.t == TT.number) = false := by simpa using hty
          simp [hty', convCl]

theorem dDate_raw (dp : Bytes → Option Int) (kw : Bytes) (toks : List Tok) : dDateClause dp kw toks = convCl dp (rawKw kw .string toks) := by
  cases toks with
  | nil => rfl
  | cons t rest =>
    simp only [dDateClause, rawKw]
    cases litMatch t kw with
    | false => rfl
    | true =>
      cases rest with
      | nil => rfl
      | cons n r' =>
        by_cases hty : n.t = TT.string
        · simp only [hty, beq_self_eq_true, if_true, convCl, cvo]; cases dp n.v <;> rfl
        · have hty' : (n.t == TT.string) = false := by simpa using hty
          simp [hty', convCl]

theorem dInt_raw (kw : Bytes) (toks : List Tok) : dKwClause kw dIntTok toks = convCl parseInt0 (rawKw kw .number toks) := by
  cases toks with
  | nil => rfl
  | cons t rest =>
    simp only [dKwClause, rawKw]
    cases litMatch t kw with
    | false => rfl
    | true =>
      cases rest with
      | nil => rfl
      | cons n r' =>
        simp only [dIntTok, if_true]
        cases hty : n.t == TT.number with
        | false => simp [convCl]
        | true => simp only [if_true, convCl, cvo]; cases parseInt0 n.v <;> rfl

/-! ## TRUNCATE: the four clauses -/
def cls4 : List Cl := [(kwMINSIZE, "MinSize", .number), (kwMAXSIZE, "MaxSize", .number), (kwBEFORE, "Before", .string), (kwMAXDBSIZE, "MaxDbSize", .number)]

def dChain4 (dp : Bytes → Option Int) (t2 : List Tok) : Option (Option Nat × Option Nat × Option Int × Option Nat) :=
  match dSizeClause kwMINSIZE t2 with
  | none => none
  | some (mn, t3) =>
    match dSizeClause kwMAXSIZE t3 with
    | none => none
    | some (mx, t4) =>
      match dDateClause dp kwBEFORE t4 with
      | none => none
      | some (bf, t5) =>
        match dSizeClause kwMAXDBSIZE t5 with
        | none => none
        | some (db, r) => (match r with | [] => some (mn, mx, bf, db) | _ :: _ => none)

def mkTrunc (dry : Bool) (src : Option Source) (q : Option Nat × Option Nat × Option Int × Option Nat) : Truncate :=
  { dryRun := dry, source := src, minSize := q.1, maxSize := q.2.1, before := q.2.2.1, maxDbSize := q.2.2.2 }

theorem dTruncBody_eq (dp : Bytes → Option Int) (f : Nat) (toks : List Tok) :
    dTruncBody dp f toks = (match dOptSource f (dDryRun toks).2 with
      | none => none
      | some (src, t2) => (dChain4 dp t2).map (mkTrunc (dDryRun toks).1 src)) := by
  unfold dTruncBody dChain4
  cases dOptSource f (dDryRun toks).2 with
  | none => rfl
  | some p =>
    obtain ⟨src, t2⟩ := p
    simp only []
    cases dSizeClause kwMINSIZE t2 with
    | none => rfl
    | some p1 =>
      obtain ⟨mn, t3⟩ := p1
      simp only []
      cases dSizeClause kwMAXSIZE t3 with
      | none => rfl
      | some p2 =>
        obtain ⟨mx, t4⟩ := p2
        simp only []
        cases dDateClause dp kwBEFORE t4 with
        | none => rfl
        | some p3 =>
          obtain ⟨bf, t5⟩ := p3
          simp only []
          cases dSizeClause kwMAXDBSIZE t5 with
          | none => rfl
          | some p4 =>
            obtain ⟨db, r⟩ := p4
            cases r <;> rfl

def conv4 (dp : Bytes → Option Int) (o1 o2 o3 o4 : Option Bytes) : Option (Option Nat × Option Nat × Option Int × Option Nat) :=
  (cvo parseBytes o1).bind fun mn => (cvo parseBytes o2).bind fun mx => (cvo dp o3).bind fun bf => (cvo parseBytes o4).bind fun db =>
    some (mn, mx, bf, db)

theorem glue4 (dp : Bytes → Option Int) (t2 : List Tok) :
    (∃ o1 o2 o3 o4, rawChain cls4 t2 = some ([o1, o2, o3, o4], []) ∧ dChain4 dp t2 = conv4 dp o1 o2 o3 o4)
    ∨ ((∀ obs, rawChain cls4 t2 ≠ some (obs, [])) ∧ dChain4 dp t2 = none) := by
  simp only [dChain4, dSize_raw, dDate_raw, rawChain, cls4]
  cases k1 : rawKw kwMINSIZE TT.number t2 with
  | none => right; simp [convCl]
  | some p1 =>
    obtain ⟨o1, r1⟩ := p1
    simp only []
    cases k2 : rawKw kwMAXSIZE TT.number r1 with
    | none => right; cases h : cvo parseBytes o1 <;> simp [convCl, h, k2]
    | some p2 =>
      obtain ⟨o2, r2⟩ := p2
      simp only []
      cases k3 : rawKw kwBEFORE TT.string r2 with
      | none => right; cases h : cvo parseBytes o1 <;> cases h2 : cvo parseBytes o2 <;> simp [convCl, h, h2, k2, k3]
      | some p3 =>
        obtain ⟨o3, r3⟩ := p3
        simp only []
        cases k4 : rawKw kwMAXDBSIZE TT.number r3 with
        | none => right; cases h : cvo parseBytes o1 <;> cases h2 : cvo parseBytes o2 <;> cases h3 : cvo dp o3 <;> simp [convCl, h, h2, h3, k2, k3, k4]
        | some p4 =>
          obtain ⟨o4, r4⟩ := p4
          simp only []
          cases r4 with
          | nil =>
            left; refine ⟨o1, o2, o3, o4, rfl, ?_⟩
            cases h : cvo parseBytes o1 <;> cases h2 : cvo parseBytes o2 <;> cases h3 : cvo dp o3 <;> cases h4 : cvo parseBytes o4 <;>
              simp [convCl, conv4, h, h2, h3, h4, k2, k3, k4]
          | cons q r5 =>
            right
            cases h : cvo parseBytes o1 <;> cases h2 : cvo parseBytes o2 <;> cases h3 : cvo dp o3 <;> cases h4 : cvo parseBytes o4 <;>
              simp [convCl, h, h2, h3, h4, k2, k3, k4]

theorem convCl_deep {α : Type} (conv : Bytes → Option α) (kw : Bytes) (ty : TT) (toks : List Tok) (hd : deepStart toks = true)
    (he1 : exclB kwNOT kw = true) (he2 : exclB LP kw = true) (hty : ty ≠ TT.keyword) (hconv : ∀ b ∈ LP :: condOps, conv b = none) :
    convCl conv (rawKw kw ty toks) = some (none, toks) ∨ convCl conv (rawKw kw ty toks) = none := by
  cases toks with
  | nil => simp [deepStart] at hd
  | cons t rest =>
    cases hm : litMatch t kw with
    | false => left; simp [rawKw, hm, convCl, cvo]
    | true =>
      right
      have h1 : litMatch t kwNOT = false := by
        cases h : litMatch t kwNOT with
        | false => rfl
        | true => rw [litMatch_exclB t _ _ he1 h] at hm; cases hm
      have h2 : litMatch t LP = false := by
        cases h : litMatch t LP with
        | false => rfl
        | true => rw [litMatch_exclB t _ _ he2 h] at hm; cases hm
      cases rest with
      | nil => simp [rawKw, hm, convCl]
      | cons n r' =>
        simp only [deepStart, h1, h2, Bool.false_or, Bool.and_eq_true, Bool.or_eq_true] at hd
        by_cases hnt : n.t = ty
        · have hv := hconv n.v (deep_val n (by rw [hnt]; exact hty) hd.2)
          simp [rawKw, hm, hnt, convCl, cvo, hv]
        · have hnt' : (n.t == ty) = false := by simpa using hnt
          simp [rawKw, hm, hnt', convCl]

theorem deep4 (dp : Bytes → Option Int) (hdp : ∀ b ∈ LP :: condOps, dp b = none) (toks : List Tok) (hd : deepStart toks = true) :
    dChain4 dp toks = none := by
  simp only [dChain4, dSize_raw, dDate_raw]
  rcases convCl_deep parseBytes kwMINSIZE .number toks hd (by decide) (by decide) (by decide) parseBytes_deep with h | h <;> rw [h]
  simp only []
  rcases convCl_deep parseBytes kwMAXSIZE .number toks hd (by decide) (by decide) (by decide) parseBytes_deep with h | h <;> rw [h]
  simp only []
  rcases convCl_deep dp kwBEFORE .string toks hd (by decide) (by decide) (by decide) hdp with h | h <;> rw [h]
  simp only []
  rcases convCl_deep parseBytes kwMAXDBSIZE .number toks hd (by decide) (by decide) (by decide) parseBytes_deep with h | h <;> rw [h]
  cases toks with
  | nil => simp [deepStart] at hd
  | cons _ _ => rfl

/-! ## typed application of the captures -/
theorem fieldVals_srcCaps (fl f : String) (sv : List Val) : fieldVals (srcCaps fl sv) f = if fl = f then sv else [] := by
  by_cases h : fl = f <;> cases sv <;> simp [srcCaps, fieldVals, h]
theorem optSource_sv (ft : Nat) (N : String) (caps : Caps) (f : String) (sv : List Val)
    (h : fieldVals caps f = sv) : optSource ft (.node N caps) f = srcConv ft sv := by
  subst h
  simp only [optSource, fv]
  cases hh : fieldVals caps f with
  | nil => rfl
  | cons v vs => cases vs <;> rfl

theorem truncConv_caps (dp : Bytes → Option Int) (ft : Nat) (caps0 : Caps) (sv : List Val) (o1 o2 o3 o4 : Option Bytes)
    (h1 : fieldVals caps0 "Source" = []) (h2 : fieldVals caps0 "MinSize" = []) (h3 : fieldVals caps0 "MaxSize" = [])
    (h4 : fieldVals caps0 "Before" = []) (h5 : fieldVals caps0 "MaxDbSize" = []) :
    truncConv dp ft (.node "Truncate" (caps0 ++ srcCaps "Source" sv ++ rawCaps cls4 [o1, o2, o3, o4])) =
      (srcConv ft sv).bind fun src => (conv4 dp o1 o2 o3 o4).map (mkTrunc (!(fieldVals caps0 "DryRun").isEmpty) src) := by
  have hS : fieldVals (caps0 ++ srcCaps "Source" sv ++ rawCaps cls4 [o1, o2, o3, o4]) "Source" = sv := by
    simp only [fieldVals_append, rawCaps, cls4, fieldVals_srcCaps, fieldVals_obCaps, fieldVals_nil, String.reduceEq, ↓reduceIte, h1,
      List.append_nil, List.nil_append]
  have hD : fieldVals (caps0 ++ srcCaps "Source" sv ++ rawCaps cls4 [o1, o2, o3, o4]) "DryRun" = fieldVals caps0 "DryRun" := by
    simp only [fieldVals_append, rawCaps, cls4, fieldVals_srcCaps, fieldVals_obCaps, fieldVals_nil, String.reduceEq, ↓reduceIte,
      List.append_nil]
  have hMn : fieldVals (caps0 ++ srcCaps "Source" sv ++ rawCaps cls4 [o1, o2, o3, o4]) "MinSize" = obVals o1 := by
    simp only [fieldVals_append, rawCaps, cls4, fieldVals_srcCaps, fieldVals_obCaps, fieldVals_nil, String.reduceEq, ↓reduceIte, h2,
      List.append_nil, List.nil_append]
  have hMx : fieldVals (caps0 ++ srcCaps "Source" sv ++ rawCaps cls4 [o1, o2, o3, o4]) "MaxSize" = obVals o2 := by
    simp only [fieldVals_append, rawCaps, cls4, fieldVals_srcCaps, fieldVals_obCaps, fieldVals_nil, String.reduceEq, ↓reduceIte, h3,
      List.append_nil, List.nil_append]
  have hBf : fieldVals (caps0 ++ srcCaps "Source" sv ++ rawCaps cls4 [o1, o2, o3, o4]) "Before" = obVals o3 := by
    simp only [fieldVals_append, rawCaps, cls4, fieldVals_srcCaps, fieldVals_obCaps, fieldVals_nil, String.reduceEq, ↓reduceIte, h4,
      List.append_nil, List.nil_append]
  have hDb : fieldVals (caps0 ++ srcCaps "Source" sv ++ rawCaps cls4 [o1, o2, o3, o4]) "MaxDbSize" = obVals o4 := by
    simp only [fieldVals_append, rawCaps, cls4, fieldVals_srcCaps, fieldVals_obCaps, fieldVals_nil, String.reduceEq, ↓reduceIte, h5,
      List.append_nil, List.nil_append]
  simp only [truncConv, optSource_sv ft _ _ _ sv hS, optConv_ob _ _ _ _ o1 hMn, optConv_ob _ _ _ _ o2 hMx, optConv_ob _ _ _ _ o3 hBf,
    optConv_ob _ _ _ _ o4 hDb, fv, hD, conv4, Option.bind_eq_bind, Option.pure_def, Option.map_bind, Function.comp_def, Option.map_some]
  rfl

theorem trunc_tail (dp : Bytes → Option Int) (hdp : ∀ b ∈ LP :: condOps, dp b = none) (ft : Nat) (c : Ctx) (hg : c.grammar = grammar)
    (hH : OperandNotParen c.toks) (s : Nat) (hs1 : 1 ≤ s) (hs : s ≤ c.toks.length) (first : Bool) (vals0 : List Val) (caps0 : Caps) (dry : Bool)
    (hcaps : (caps0 = [] ∧ dry = false) ∨ ∃ x, caps0 = [("DryRun", [Val.str x])] ∧ dry = true)
    (fe fd : Nat) (hfe : 60 * (c.toks.length - s) + 100 ≤ fe) (hfd : 4 * (c.toks.length - s) + 5 ≤ fd) (hft : 8 * (c.toks.length - s) + 8 ≤ ft) :
    (topRes c.toks (altRes "Lql" "Truncate" 0 (strctRes "Truncate"
        (parseSeq c fe (optG (.capture "Source" (.strct "Source")) :: cls4.map clNode) s first vals0 caps0)))).bind (toLqlChecked dp ft)
      = (match dOptSource fd (c.toks.drop s) with
         | none => none
         | some (src, t2) => (dChain4 dp t2).map (mkTrunc dry src)).map (fun tr => ({ truncate := some tr } : Lql)) := by
  have hsc := src_chain c hg hH "Source" cls4 (by decide) (by decide) s hs first vals0 caps0 fe fd ft (by simp [cls4]; omega) hfd hft
  generalize parseSeq c fe _ s first vals0 caps0 = R at hsc ⊢
  rcases hsc with ⟨hE, hD⟩ | ⟨vals', sv, rest, obs, hR, hv, hdo, hrc⟩
  · have hl : topRes c.toks (altRes "Lql" "Truncate" 0 (strctRes "Truncate" R)) = none := by
      rcases hE with ⟨k, hv, rfl, hk⟩ | ⟨vals', caps', cur', rfl, hlt⟩
      · have hk2 : k > 0 + 1 + lookahead := by simp only [lookahead]; omega
        simp [strctRes, altRes, topRes, hk2]
      · have hne : (cur' == c.toks.length) = false := by simp; omega
        simp [strctRes, altRes, topRes, hne]
    rw [hl]
    rcases hD with h | ⟨h, hdeep⟩ | ⟨osrc, rest, h, hno⟩
    · rw [h]; rfl
    · rw [h]; simp [deep4 dp hdp _ hdeep]
    · rw [h]
      rcases glue4 dp rest with ⟨o1, o2, o3, o4, hrc, _⟩ | ⟨_, hnone⟩
      · exact absurd hrc (hno _)
      · simp [hnone]
  · rcases glue4 dp rest with ⟨o1, o2, o3, o4, hrc', hch⟩ | ⟨hno, _⟩
    · rw [hrc] at hrc'
      simp only [Option.some.injEq, Prod.mk.injEq, and_true] at hrc'
      subst hrc'
      rw [hR]
      simp only [strctRes, altRes, topRes, beq_self_eq_true, if_true, List.nil_append, Option.bind_some, checked_trunc]
      have hD : dry = !(fieldVals caps0 "DryRun").isEmpty := by
        rcases hcaps with ⟨rfl, rfl⟩ | ⟨x, rfl, rfl⟩ <;> simp [fieldVals]
      have h0 : ∀ f, ("DryRun" == f) = false → fieldVals caps0 f = [] := fun f hf => by
        rcases hcaps with ⟨rfl, _⟩ | ⟨x, rfl, _⟩ <;> simp [fieldVals, hf]
      rw [truncConv_caps dp ft caps0 sv o1 o2 o3 o4 (h0 _ (by decide)) (h0 _ (by decide)) (h0 _ (by decide)) (h0 _ (by decide))
        (h0 _ (by decide)), hdo, ← hD]
      cases srcConv ft sv with
      | none => rfl
      | some o => simp [hch]
    · exact absurd hrc (hno _)

/-- **engine = direct parser on TRUNCATE statements.** Extra hypothesis `hdp` (needed: the statement is false without it, see
`cex_truncate_dp`): the date parser rejects the texts `(` and the ten condition operators. -/
theorem engine_direct_truncate (dp : Bytes → Option Int) (hdp : ∀ b ∈ LP :: condOps, dp b = none) (ft : Nat) (t : Tok) (r : List Tok)
    (hH : OperandNotParen (t :: r)) (hft : 8 * (t :: r).length + 50 ≤ ft)
    (h1 : litMatch t kwSELECT = false) (h2 : litMatch t kwDESCRIBE = false) (h3 : litMatch t kwTRUNCATE = true) :
    (runEngine grammar "Lql" (t :: r)).bind (toLqlChecked dp ft) = dTruncateRest dp (directFuel (t :: r)) r := by
  rw [run_lql]
  obtain ⟨g, hg⟩ : ∃ g, 60 * (t :: r).length + 200 = (g + 17) + 5 + 3 + 2 + 3 := ⟨60 * (t :: r).length + 170, rfl⟩
  rw [hg, lql_hit t r (lqlAlts.take 2) _ kwTRUNCATE "Truncate" "Truncate" rfl (by simp [lqlAlts, h1, h2]) h3 2 rfl,
    parse_strct _ _ "Truncate" truncateBody 1 g_truncate]
  have hb : truncateBody = .seq (optG (.capture "DryRun" (.lit kwDRYRUN)) :: optG (.capture "Source" (.strct "Source")) :: cls4.map clNode) := rfl
  have hd : dTruncateRest dp (directFuel (t :: r)) r = (dTruncBody dp (directFuel (t :: r)) r).map (fun tr => ({ truncate := some tr } : Lql)) := by
    unfold dTruncateRest; cases dTruncBody dp (directFuel (t :: r)) r <;> rfl
  rw [hb, parse_seq, hd, dTruncBody_eq, parseSeq_cons, parse_optG, parse_capture, parse_lit, peek]
  have hgl : g = 60 * (r.length + 1) + 170 := by simp only [List.length_cons] at hg; omega
  simp only [List.length_cons] at hft
  cases r with
  | nil =>
    have hn : (⟨[t], grammar⟩ : Ctx).toks[1]? = none := rfl
    simp only [hn]
    exact trunc_tail dp hdp ft ⟨[t], grammar⟩ rfl hH 1 (Nat.le_refl _) (by simp) false _ _ false (Or.inl ⟨rfl, rfl⟩) (g+15) (directFuel [t])
      (by simp; omega) (by simp [directFuel]) (by simp at hft ⊢; omega)
  | cons p r1 =>
    have hn : (⟨t :: p :: r1, grammar⟩ : Ctx).toks[1]? = some p := rfl
    cases hp : litMatch p kwDRYRUN with
    | false =>
      simp only [hn, hp, dDryRun, Bool.false_eq_true, if_false]
      exact trunc_tail dp hdp ft ⟨t :: p :: r1, grammar⟩ rfl hH 1 (Nat.le_refl _) (by simp) false _ _ false (Or.inl ⟨rfl, rfl⟩) (g+15) (directFuel (t :: p :: r1))
        (by simp at hgl ⊢; omega) (by simp [directFuel]; omega) (by simp at hft ⊢; omega)
    | true =>
      simp only [hn, hp, dDryRun, if_true]
      exact trunc_tail dp hdp ft ⟨t :: p :: r1, grammar⟩ rfl hH 2 (by omega) (by simp) false _ _ true (Or.inr ⟨p.v, rfl, rfl⟩) (g+15) (directFuel (t :: p :: r1))
        (by simp at hgl ⊢; omega) (by simp [directFuel]; omega) (by simp at hft ⊢; omega)

/-! ## SHOW -/
def cls2 : List Cl := [(kwOFFSET, "Offset", .number), (kwLIMIT, "Limit", .number)]

def dChain2 (t1 : List Tok) : Option (Option Int × Option Int) :=
  match dKwClause kwOFFSET dIntTok t1 with
  | none => none
  | some (off, t2) =>
    match dKwClause kwLIMIT dIntTok t2 with
    | none => none
    | some (lim, r) => (match r with | [] => some (off, lim) | _ :: _ => none)

theorem dSrcOffLim_eq (f : Nat) (toks : List Tok) :
    dSrcOffLim f toks = (match dOptSource f toks with
      | none => none
      | some (src, t1) => (dChain2 t1).map (fun q => (src, q.1, q.2))) := by
  unfold dSrcOffLim dChain2
  cases dOptSource f toks with
  | none => rfl
  | some p =>
    obtain ⟨src, t1⟩ := p
    simp only []
    cases dKwClause kwOFFSET dIntTok t1 with
    | none => rfl
    | some p1 =>
      obtain ⟨off, t2⟩ := p1
      simp only []
      cases dKwClause kwLIMIT dIntTok t2 with
      | none => rfl
      | some p2 =>
        obtain ⟨lim, r⟩ := p2
        cases r <;> rfl

def conv2 (o1 o2 : Option Bytes) : Option (Option Int × Option Int) :=
  (cvo parseInt0 o1).bind fun a => (cvo parseInt0 o2).bind fun b => some (a, b)

theorem glue2 (t1 : List Tok) :
    (∃ o1 o2, rawChain cls2 t1 = some ([o1, o2], []) ∧ dChain2 t1 = conv2 o1 o2)
    ∨ ((∀ obs, rawChain cls2 t1 ≠ some (obs, [])) ∧ dChain2 t1 = none) := by
  simp only [dChain2, dInt_raw, rawChain, cls2]
  cases k1 : rawKw kwOFFSET TT.number t1 with
  | none => right; simp [convCl]
  | some p1 =>
    obtain ⟨o1, r1⟩ := p1
    simp only []
    cases k2 : rawKw kwLIMIT TT.number r1 with
    | none => right; cases h : cvo parseInt0 o1 <;> simp [convCl, h, k2]
    | some p2 =>
      obtain ⟨o2, r2⟩ := p2
      simp only []
      cases r2 with
      | nil =>
        left; refine ⟨o1, o2, rfl, ?_⟩
        cases h : cvo parseInt0 o1 <;> cases h2 : cvo parseInt0 o2 <;> simp [convCl, conv2, h, h2, k2]
      | cons q r3 =>
        right
        cases h : cvo parseInt0 o1 <;> cases h2 : cvo parseInt0 o2 <;> simp [convCl, h, h2, k2]

theorem deep2 (toks : List Tok) (hd : deepStart toks = true) : dChain2 toks = none := by
  simp only [dChain2, dInt_raw]
  rcases convCl_deep parseInt0 kwOFFSET .number toks hd (by decide) (by decide) (by decide) parseInt0_deep with h | h <;> rw [h]
  simp only []
  rcases convCl_deep parseInt0 kwLIMIT .number toks hd (by decide) (by decide) (by decide) parseInt0_deep with h | h <;> rw [h]
  cases toks with
  | nil => simp [deepStart] at hd
  | cons _ _ => rfl

theorem polConv_caps (fl : String) (ft : Nat) (N : String) (sv : List Val) (o1 o2 : Option Bytes)
    (e1 : fl ≠ "Offset") (e2 : fl ≠ "Limit") :
    polConv fl ft (.node N (srcCaps fl sv ++ rawCaps cls2 [o1, o2])) =
      (srcConv ft sv).bind fun src => (conv2 o1 o2).map (fun q => (src, q.1, q.2)) := by
  have hS : fieldVals (srcCaps fl sv ++ rawCaps cls2 [o1, o2]) fl = sv := by
    simp only [fieldVals_append, rawCaps, cls2, fieldVals_srcCaps, fieldVals_obCaps, fieldVals_nil, ↓reduceIte, Ne.symm e1, Ne.symm e2,
      List.append_nil]
  have hO : fieldVals (srcCaps fl sv ++ rawCaps cls2 [o1, o2]) "Offset" = obVals o1 := by
    simp only [fieldVals_append, rawCaps, cls2, fieldVals_srcCaps, fieldVals_obCaps, fieldVals_nil, String.reduceEq, ↓reduceIte, e1,
      List.append_nil, List.nil_append]
  have hL : fieldVals (srcCaps fl sv ++ rawCaps cls2 [o1, o2]) "Limit" = obVals o2 := by
    simp only [fieldVals_append, rawCaps, cls2, fieldVals_srcCaps, fieldVals_obCaps, fieldVals_nil, String.reduceEq, ↓reduceIte, e2,
      List.append_nil, List.nil_append]
  simp only [polConv, optSource_sv ft _ _ _ sv hS, optConv_ob _ _ _ _ o1 hO, optConv_ob _ _ _ _ o2 hL, conv2, Option.bind_eq_bind,
    Option.pure_def, Option.map_bind, Function.comp_def, Option.map_some]

theorem pol_tail (dp : Bytes → Option Int) (ft : Nat) (c : Ctx) (hg : c.grammar = grammar) (hH : OperandNotParen c.toks)
    (hlen : 2 ≤ c.toks.length) (F N fl : String) (mk : Option Source × Option Int × Option Int → Lql)
    (e1 : fl ≠ "Offset") (e2 : fl ≠ "Limit")
    (hconv : ∀ p, toLqlChecked dp ft (.node "Lql" [("Show", [.node "Show" [(F, [p])]])]) = (polConv fl ft p).map mk)
    (fe fd : Nat) (hfe : 60 * (c.toks.length - 2) + 100 ≤ fe) (hfd : 4 * (c.toks.length - 2) + 5 ≤ fd) (hft : 8 * (c.toks.length - 2) + 8 ≤ ft) :
    (topRes c.toks (altRes "Lql" "Show" 0 (altRes "Show" F 1 (strctRes N
        (parseSeq c fe (optG (.capture fl (.strct "Source")) :: cls2.map clNode) 2 true [] []))))).bind (toLqlChecked dp ft)
      = (dSrcOffLim fd (c.toks.drop 2)).map mk := by
  rw [dSrcOffLim_eq]
  have hsc := src_chain c hg hH fl cls2 (by decide) (by decide) 2 hlen true [] [] fe fd ft (by simp [cls2]; omega) hfd hft
  generalize parseSeq c fe _ 2 true [] [] = R at hsc ⊢
  rcases hsc with ⟨hE, hD⟩ | ⟨vals', sv, rest, obs, hR, hv, hdo, hrc⟩
  · have hl : topRes c.toks (altRes "Lql" "Show" 0 (altRes "Show" F 1 (strctRes N R))) = none := by
      rcases hE with ⟨k, hv, rfl, hk⟩ | ⟨vals', caps', cur', rfl, hlt⟩
      · have hk1 : k > 1 + 1 + lookahead := by simp only [lookahead]; omega
        have hk2 : k > 0 + 1 + lookahead := by simp only [lookahead]; omega
        simp [strctRes, altRes, topRes, hk1, hk2]
      · have hne : (cur' == c.toks.length) = false := by simp; omega
        simp [strctRes, altRes, topRes, hne]
    rw [hl]
    rcases hD with h | ⟨h, hdeep⟩ | ⟨osrc, rest, h, hno⟩
    · rw [h]; rfl
    · rw [h]; simp [deep2 _ hdeep]
    · rw [h]
      rcases glue2 rest with ⟨o1, o2, hrc, _⟩ | ⟨_, hnone⟩
      · exact absurd hrc (hno _)
      · simp [hnone]
  · rcases glue2 rest with ⟨o1, o2, hrc', hch⟩ | ⟨hno, _⟩
    · rw [hrc] at hrc'
      simp only [Option.some.injEq, Prod.mk.injEq, and_true] at hrc'
      subst hrc'
      simp only [List.nil_append] at hR
      rw [hR]
      simp only [strctRes, altRes, topRes, beq_self_eq_true, if_true, List.nil_append, Option.bind_some, hconv]
      rw [polConv_caps fl ft N sv o1 o2 e1 e2, hdo]
      cases srcConv ft sv with
      | none => rfl
      | some o => simp [hch]
    · exact absurd hrc (hno _)

def showAlts : List Alt := [(kwPARTITIONS, "Partitions", "Partitions"), (kwPIPES, "Pipes", "Pipes")]

/-- **engine = direct parser on SHOW statements** -/
theorem engine_direct_show (dp : Bytes → Option Int) (ft : Nat) (t : Tok) (r : List Tok)
    (hH : OperandNotParen (t :: r)) (hft : 8 * (t :: r).length + 50 ≤ ft)
    (h1 : litMatch t kwSELECT = false) (h2 : litMatch t kwDESCRIBE = false) (h3 : litMatch t kwTRUNCATE = false)
    (h4 : litMatch t kwSHOW = true) :
    (runEngine grammar "Lql" (t :: r)).bind (toLqlChecked dp ft) = dShowRest (directFuel (t :: r)) r := by
  rw [run_lql]
  obtain ⟨g, hg⟩ : ∃ g, 60 * (t :: r).length + 200 = (g + 12) + 5 + 3 + 3 + 3 := ⟨60 * (t :: r).length + 174, rfl⟩
  rw [hg, lql_hit t r (lqlAlts.take 3) _ kwSHOW "Show" "Show" rfl (by simp [lqlAlts, h1, h2, h3]) h4 3 rfl]
  have hgl : g = 60 * (r.length + 1) + 174 := by simp only [List.length_cons] at hg; omega
  simp only [List.length_cons] at hft
  cases r with
  | nil =>
    rw [show parse ⟨[t], grammar⟩ (g + 12 + 1) (.strct "Show") 1 = _ from
      alts_miss ⟨[t], grammar⟩ "Show" showAlts g_show 1 (fun _ h => by cases h) 2 rfl (g+5)]
    simp [altRes, topRes, dShowRest, checked_nil]
  | cons k r' =>
    have hn : (⟨t :: k :: r', grammar⟩ : Ctx).toks[1]? = some k := rfl
    cases hk : litMatch k kwPARTITIONS with
    | true =>
      rw [show parse ⟨t :: k :: r', grammar⟩ (g + 12 + 1) (.strct "Show") 1 = _ from
        alts_hit _ "Show" showAlts g_show 1 k hn [] _ kwPARTITIONS "Partitions" "Partitions" rfl (fun _ h => nomatch h) hk 0 rfl (g+2),
        parse_strct' _ _ "Partitions" partitionsBody 2 g_partitions]
      have hb : partitionsBody = .seq (optG (.capture "Source" (.strct "Source")) :: cls2.map clNode) := rfl
      rw [hb, parse_seq]
      have hd : dShowRest (directFuel (t :: k :: r')) (k :: r') = (dSrcOffLim (directFuel (t :: k :: r')) r').map mkPart := by
        simp only [dShowRest, hk, if_true]
        cases dSrcOffLim (directFuel (t :: k :: r')) r' with
        | none => rfl
        | some q => obtain ⟨s, o, l⟩ := q; rfl
      rw [hd]
      exact pol_tail dp ft ⟨t :: k :: r', grammar⟩ rfl hH (by simp) "Partitions" "Partitions" "Source" mkPart (by decide) (by decide)
        (checked_show_part dp ft) (g+1) (directFuel (t :: k :: r')) (by simp at hgl ⊢; omega) (by simp [directFuel]; omega) (by simp at hft ⊢; omega)
    | false =>
      cases hk2 : litMatch k kwPIPES with
      | true =>
        rw [show parse ⟨t :: k :: r', grammar⟩ (g + 12 + 1) (.strct "Show") 1 = _ from
          alts_hit _ "Show" showAlts g_show 1 k hn (showAlts.take 1) _ kwPIPES "Pipes" "Pipes" rfl (by simp [showAlts, hk]) hk2 1 rfl (g+1),
          parse_strct' _ _ "Pipes" pipesBody 2 g_pipes]
        have hb : pipesBody = .seq (optG (.capture "Void" (.strct "Source")) :: cls2.map clNode) := rfl
        rw [hb, parse_seq]
        have hd : dShowRest (directFuel (t :: k :: r')) (k :: r') = (dSrcOffLim (directFuel (t :: k :: r')) r').map mkPipes := by
          simp only [dShowRest, hk, hk2, if_true, Bool.false_eq_true, if_false]
          cases dSrcOffLim (directFuel (t :: k :: r')) r' with
          | none => rfl
          | some q => obtain ⟨s, o, l⟩ := q; rfl
        rw [hd]
        exact pol_tail dp ft ⟨t :: k :: r', grammar⟩ rfl hH (by simp) "Pipes" "Pipes" "Void" mkPipes (by decide) (by decide)
          (checked_show_pipes dp ft) g (directFuel (t :: k :: r')) (by simp at hgl ⊢; omega) (by simp [directFuel]; omega) (by simp at hft ⊢; omega)
      | false =>
        rw [show parse ⟨t :: k :: r', grammar⟩ (g + 12 + 1) (.strct "Show") 1 = _ from
          alts_miss _ "Show" showAlts g_show 1 (fun _ h => by cases h; simp [showAlts, hk, hk2]) 2 rfl (g+5)]
        simp [altRes, topRes, dShowRest, hk, hk2]

/-! ## why `engine_direct_truncate` needs `hdp` -/
/-- the tokens of `TRUNCATE BEFORE "(" MAXDBSIZE 10` (String tokens are unquoted by the lexer) -/
def cexTruncToks : List Tok := [⟨.keyword, kwTRUNCATE⟩, ⟨.keyword, kwBEFORE⟩, ⟨.string, [40]⟩, ⟨.keyword, kwMAXDBSIZE⟩, ⟨.number, [49, 48]⟩]

/-- with a date parser that accepts the text `(` the engine rejects (the unguarded `Source` attempt reads `BEFORE ( MAXDBSIZE` as an
`Identifier` with parameters and fails two tokens in: a hard error) while the direct parser accepts: without `hdp` the statement of
`engine_direct_truncate` is false -/
theorem cex_truncate_dp :
    OperandNotParen cexTruncToks ∧
    ((runEngine grammar "Lql" cexTruncToks).bind (toLqlChecked (fun _ => some 0) 1000)).isSome = false ∧
    (dTruncateRest (fun _ => some 0) (directFuel cexTruncToks) cexTruncToks.tail).isSome = true := by
  refine ⟨?_, ?_, ?_⟩
  · intro t ht; revert t; decide
  · decide +kernel
  · decide +kernel

end Logrange.Lql

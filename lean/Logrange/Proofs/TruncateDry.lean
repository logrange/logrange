import Logrange.Proofs.TruncateSort
/-! The whole command: phase I as three passes over the visiting order, look-ups in the partition list, what the two
phase-I calls (dry and real) leave for the MAXDBSIZE pass, the front the pass takes. -/
namespace Logrange.Truncate
variable {acct : Bool}

/-! ### phase I as three independent passes over the visiting order -/

theorem phase1_foldl (strict : Bool) (p : Params) : ∀ (order : List Part) (st : St),
    order.foldl (phase1Step strict p) st =
      { db := st.db ++ order.filterMap (fun q => (phase1Part strict p q).part)
        reports := st.reports ++ order.filterMap (fun q => (phase1Part strict p q).report)
        infos := (order.filterMap (fun q => (phase1Part strict p q).info)).foldl insertInfo st.infos } := by
  intro order
  induction order with
  | nil => intro st; simp only [List.foldl_nil, List.filterMap_nil, List.append_nil]
  | cons q rest ih =>
    intro st
    rw [List.foldl_cons, ih]
    unfold phase1Step
    simp only [List.filterMap_cons]
    generalize phase1Part strict p q = r
    obtain ⟨pt, rp, inf⟩ := r
    cases pt <;> cases rp <;> cases inf <;>
      simp only [List.append_assoc, List.singleton_append, List.foldl_cons]

theorem phase1_eq (strict : Bool) (p : Params) (order : List Part) :
    phase1 strict p order =
      { db := order.filterMap (fun q => (phase1Part strict p q).part)
        reports := order.filterMap (fun q => (phase1Part strict p q).report)
        infos := sortInfos (order.filterMap (fun q => (phase1Part strict p q).info)) } := by
  unfold phase1
  rw [phase1_foldl]
  simp [sortInfos]

theorem filterMap_congr_mem {α β : Type} (f g : α → Option β) : ∀ (l : List α), (∀ x ∈ l, f x = g x) →
    l.filterMap f = l.filterMap g := by
  intro l
  induction l with
  | nil => intro _; rfl
  | cons x xs ih =>
    intro h
    simp only [List.filterMap_cons, h x (by simp)]
    rw [ih (fun y hy => h y (List.mem_cons_of_mem _ hy))]

theorem phase1_dry_db (strict : Bool) (p : Params) (hd : p.dryRun = true) (order : List Part) :
    (phase1 strict p order).db = order := by
  rw [phase1_eq]
  exact (filterMap_congr_mem _ some order (fun q _ => phase1Part_dry strict p hd q)).trans List.filterMap_some

theorem p1_infos_nodup (strict : Bool) (p : Params) (order : List Part) (hnd : (order.map (·.src)).Nodup) :
    ((order.filterMap (fun q => (phase1Part strict p q).info)).map (·.src)).Nodup := by
  rw [List.Nodup, List.pairwise_map] at hnd ⊢
  exact hnd.filterMap _ (fun a a' hne b hb b' hb' => by
    rw [(p1_info_src strict p a b hb).2, (p1_info_src strict p a' b' hb').2]; exact hne)

theorem mem_phase1_infos (strict : Bool) (p : Params) (order : List Part) (hnd : (order.map (·.src)).Nodup)
    (ti : Info) : ti ∈ sortInfos (order.filterMap (fun q => (phase1Part strict p q).info)) ↔
      ∃ q ∈ order, (phase1Part strict p q).info = some ti := by
  rw [(insert_perm_invariant _ _ (List.Perm.refl _) (p1_infos_nodup strict p order hnd)).2.2.mem_iff,
    List.mem_filterMap]

/-! ### look-ups in the partition list -/

theorem dbFind_filterMap (f : Part → Option Part) (hf : ∀ x y, f x = some y → y.src = x.src) :
    ∀ (l : List Part), (l.map (·.src)).Nodup → ∀ q ∈ l, ∀ q', f q = some q' →
      dbFind (l.filterMap f) q.src = some q' := by
  intro l
  induction l with
  | nil => intro _ q hq; cases hq
  | cons x xs ih =>
    intro hnd q hq q' hfq
    rw [List.map_cons, List.nodup_cons] at hnd
    rcases List.mem_cons.mp hq with rfl | hq
    · have e := hf q q' hfq
      simp [List.filterMap_cons, hfq, dbFind, e]
    · have hne : x.src ≠ q.src := by
        intro e; apply hnd.1; rw [e]; exact List.mem_map_of_mem hq
      cases hfx : f x with
      | none => simp only [List.filterMap_cons, hfx]; exact ih hnd.2 q hq q' hfq
      | some y =>
        have ey := hf x y hfx
        simp only [List.filterMap_cons, hfx, dbFind]
        rw [List.find?_cons_of_neg (by simp [ey, hne])]
        exact ih hnd.2 q hq q' hfq

theorem dbFind_of_mem (l : List Part) (hnd : (l.map (·.src)).Nodup) (q : Part) (hq : q ∈ l) :
    dbFind l q.src = some q := by
  have := dbFind_filterMap some (by intro x y h; cases h; rfl) l hnd q hq q rfl
  rwa [List.filterMap_some] at this

/-- what one iteration of the pass may do to the partition list -/
def PassWrite (s : Nat) (db db1 : List Part) : Prop :=
  db1 = db ∨ db1 = dbRemove db s ∨ ∃ cks, db1 = dbSet db s cks

theorem passStep_write (strict : Bool) (gMin gMax : Nat) (p : Params) (ti : Info) (ts : Nat) (db : List Part) :
    PassWrite ti.src db (passStep acct strict gMin gMax p ti ts db).2.2 := by
  unfold passStep
  split
  · cases dbFind db ti.src with
    | none => exact Or.inl rfl
    | some part =>
      simp only []
      generalize (p.dryRun || canDelete part.users
        (truncate strict { dryRun := p.dryRun, minSrc := gMin, maxSrc := gMax } part.chunks).chunks) = D
      have hw : PassWrite ti.src db (if p.dryRun = true then db else if D = true then dbRemove db ti.src else
          dbSet db ti.src (truncate strict { dryRun := p.dryRun, minSrc := gMin, maxSrc := gMax } part.chunks).chunks) := by
        split
        · exact Or.inl rfl
        · split
          · exact Or.inr (Or.inl rfl)
          · exact Or.inr (Or.inr ⟨_, rfl⟩)
      cases D
      · cases acct <;> exact hw
      · exact hw
  · exact Or.inl rfl

theorem dbFind_dbRemove_ne (db : List Part) (s t : Nat) (h : s ≠ t) : dbFind (dbRemove db s) t = dbFind db t := by
  unfold dbFind dbRemove
  induction db with
  | nil => rfl
  | cons x xs ih =>
    by_cases hx : x.src = s
    · have : ¬ x.src = t := by omega
      simp [List.filter_cons, hx, List.find?_cons, this, h]
      simpa [hx] using ih
    · simp only [List.filter_cons, hx, beq_iff_eq, Bool.not_false, if_true, List.find?_cons, Bool.not_eq_true']
      simp only [show (x.src == s) = false from by simp [hx], Bool.not_false, if_true, List.find?_cons]
      split
      · rfl
      · exact ih

theorem dbFind_dbSet_ne (db : List Part) (s t : Nat) (cks : List Chunk) (h : s ≠ t) :
    dbFind (dbSet db s cks) t = dbFind db t := by
  unfold dbFind dbSet
  induction db with
  | nil => rfl
  | cons x xs ih =>
    simp only [List.map_cons, List.find?_cons]
    by_cases hx : x.src = s
    · have hxt : ¬ x.src = t := by omega
      simp only [hx, if_true]
      have e1 : (s == t) = false := by simp [h]
      simp only [e1]
      exact ih
    · simp only [hx, if_false]
      cases hb : (x.src == t) with
      | true => rfl
      | false => exact ih

theorem passWrite_find_ne (s t : Nat) (db db1 : List Part) (hw : PassWrite s db db1) (h : s ≠ t) :
    dbFind db1 t = dbFind db t := by
  rcases hw with rfl | rfl | ⟨cks, rfl⟩
  · rfl
  · exact dbFind_dbRemove_ne db s t h
  · exact dbFind_dbSet_ne db s t cks h


/-! ### DRYRUN = run, phase I, one partition (generic in the comparison operator) -/

theorem choose_dryRun (strict : Bool) (p : Params) (b : Bool) (cks : List Chunk) :
    choose strict { p with dryRun := b } cks = choose strict p cks := rfl

theorem phase1Part_dry_eq_run (strict : Bool) (p : Params) (part : Part) (hu : part.users = 0) (hs : Ascending part.chunks) :
    (phase1Part strict { p with dryRun := true } part).report = (phase1Part strict { p with dryRun := false } part).report ∧
    (phase1Part strict { p with dryRun := true } part).info = (phase1Part strict { p with dryRun := false } part).info := by
  rcases Bool.eq_false_or_eq_true part.sel with hsel | hsel
  · by_cases hz : psize part.chunks = 0
    · rw [phase1Part_empty strict _ part hsel hz, phase1Part_empty strict _ part hsel hz]
      have hc : canDelete part.users part.chunks = true := by rw [canDelete, hu, hz]; rfl
      refine ⟨?_, rfl⟩
      simp only [hc, or_true, if_true]
    · rw [phase1Part_data_asc strict _ part hsel hz hs, phase1Part_data_asc strict _ part hsel hz hs, hu]
      exact ⟨rfl, rfl⟩
  · rw [phase1Part_unsel strict _ part hsel, phase1Part_unsel strict _ part hsel]
    exact ⟨rfl, rfl⟩

/-- a partition whose dry phase-I entry still shows data (`after > 0`) is kept by the real phase I with the chunks
`truncate` left: the chunk list minus the `chunksDeleted` oldest -/
theorem p1_linked (strict : Bool) (p : Params) (q : Part) (ti : Info) (hs : Ascending q.chunks)
    (h : (phase1Part strict { p with dryRun := true } q).info = some ti) (ha : 0 < ti.after) :
    (phase1Part strict { p with dryRun := false } q).part = some { q with chunks := q.chunks.drop ti.chunksDeleted } ∧
    ti.chunksDeleted ≤ q.chunks.length ∧ psize q.chunks ≠ 0 := by
  have hsel := (p1_info_src strict _ q ti h).1
  by_cases hz : psize q.chunks = 0
  · rw [phase1Part_empty strict _ q hsel hz] at h; cases h
  · rw [phase1Part_data_asc strict _ q hsel hz hs, choose_dryRun] at h
    rw [phase1Part_data_asc strict _ q hsel hz hs, choose_dryRun]
    cases Option.some.inj h
    have hsum := psize_take_add_drop q.chunks (choose strict p q.chunks).n
    have hne : ¬ psize (q.chunks.take (choose strict p q.chunks).n) = psize q.chunks := fun e => by
      have : 0 < psize (q.chunks.drop (choose strict p q.chunks).n) := ha
      omega
    exact ⟨if_neg (fun hc => by rw [decide_eq_false hne] at hc; cases hc.1), choose_n_le strict p q.chunks, hz⟩

/-- a partition holds no data at all, or no chunk of it is smaller than two bytes (a stored record takes at least
14; a chunk without a confirmed byte exists only in a partition created by a write request without events) -/
def WellSized (q : Part) : Prop := psize q.chunks = 0 ∨ ∀ c ∈ q.chunks, 2 ≤ c.size

theorem phase1_linked (strict : Bool) (p : Params) (o1 o2 : List Part) (hp : o1.Perm o2)
    (hnd : (o1.map (·.src)).Nodup) (hasc : ∀ q ∈ o1, Ascending q.chunks) (ti : Info)
    (hti : ti ∈ sortInfos (o1.filterMap (fun q => (phase1Part strict { p with dryRun := true } q).info)))
    (ha : 0 < ti.after) :
    ∃ q ∈ o1, dbFind (o1.filterMap (fun q => (phase1Part strict { p with dryRun := true } q).part)) ti.src = some q ∧
      dbFind (o2.filterMap (fun q => (phase1Part strict { p with dryRun := false } q).part)) ti.src =
        some { q with chunks := q.chunks.drop ti.chunksDeleted } ∧
      ti.chunksDeleted ≤ q.chunks.length ∧ psize q.chunks ≠ 0 := by
  obtain ⟨q, hq, hqi⟩ := (mem_phase1_infos strict _ o1 hnd ti).mp hti
  obtain ⟨hpart, hcd, hnz⟩ := p1_linked strict p q ti (hasc q hq) hqi ha
  rw [(p1_info_src strict _ q ti hqi).2]
  exact ⟨q, hq,
    dbFind_filterMap _ (fun x y h => p1_part_src strict _ x y h) o1 hnd q hq q (phase1Part_dry strict _ rfl q),
    dbFind_filterMap _ (fun x y h => p1_part_src strict _ x y h) o2 ((hp.map _).nodup_iff.mp hnd) q
      (hp.mem_iff.mp hq) _ hpart, hcd, hnz⟩

theorem run_reports (strict : Bool) (gMin gMax : Nat) (p : Params) (order : List Part) :
    (run acct strict gMin gMax p order).reports =
      order.filterMap (fun q => (phase1Part strict p q).report) ++
        (globalLoop acct strict gMin gMax p (sortInfos (order.filterMap (fun q => (phase1Part strict p q).info)))
          (totalAfter (sortInfos (order.filterMap (fun q => (phase1Part strict p q).info))))
          (order.filterMap (fun q => (phase1Part strict p q).part))).1.filter (fun ti => ti.after != ti.before) := by
  unfold run phase2
  rw [phase1_eq]

/-! ### the MAXDBSIZE pass takes the front of the sorted list and stops as soon as the total fits -/

/-- how many entries of `sortedInfos` the loop of `truncateGlobally` visits: it goes on while the running total
exceeds MAXDBSIZE; every visited entry leaves with `after = 0`, so the total shrinks by its `after` -/
def passLen (maxDB : Nat) : List Info → Nat → Nat
  | [], _ => 0
  | ti :: rest, ts => if maxDB < ts then passLen maxDB rest (sub64 ts ti.after) + 1 else 0

theorem globalLoop_dry_front (strict : Bool) (gMin gMax : Nat) (p : Params) (hd : p.dryRun = true) (db : List Part) :
    ∀ (I : List Info) (ts : Nat), (∀ ti ∈ I, 0 < ti.after → (dbFind db ti.src).isSome = true) →
      (∀ x ∈ (globalLoop acct strict gMin gMax p I ts db).1.take (passLen p.maxDB I ts), x.after = 0) ∧
      (globalLoop acct strict gMin gMax p I ts db).1.drop (passLen p.maxDB I ts) = I.drop (passLen p.maxDB I ts) := by
  intro I
  induction I with
  | nil => intro ts _; exact ⟨fun x hx => absurd hx List.not_mem_nil, rfl⟩
  | cons ti rest ih =>
    intro ts hfound
    unfold passLen
    by_cases h1 : p.maxDB < ts
    · -- a visited entry leaves with nothing left: taken whole, or already emptied by phase I
      have hstep : (passStep acct strict gMin gMax p ti ts db).1.after = 0 ∧
          (passStep acct strict gMin gMax p ti ts db).2 = (sub64 ts ti.after, db) := by
        by_cases ha : 0 < ti.after
        · cases hf : dbFind db ti.src with
          | none => have := hfound ti (List.mem_cons_self ..) ha; rw [hf] at this; cases this
          | some part => rw [passStep_dry strict gMin gMax p hd ti ts db part ha hf]; exact ⟨rfl, rfl⟩
        · have h0 := Nat.eq_zero_of_not_pos ha
          rw [passStep_skip strict gMin gMax p ti ts db (Or.inl h0)]
          exact ⟨h0, by rw [h0, sub64_of_le (Nat.zero_le _)]; rfl⟩
      obtain ⟨a, b⟩ := ih (sub64 ts ti.after) (fun tj h => hfound tj (List.mem_cons_of_mem _ h))
      rw [if_pos h1, globalLoop_step_fst strict gMin gMax p ti rest ts db h1, passRest, hstep.2]
      exact ⟨fun x hx => (List.mem_cons.mp hx).elim (fun e => e ▸ hstep.1) (a x), b⟩
    · rw [if_neg h1, globalLoop_idle strict gMin gMax p _ ts db (Nat.le_of_not_lt h1)]
      exact ⟨fun x hx => absurd hx List.not_mem_nil, rfl⟩

end Logrange.Truncate

import Logrange.Model.WriteLoopM
/-!
# Lemmas for the C01 write loop (`Model/JournalW.lean`, `Model/WriteLoopM.lean`)
-/
namespace Logrange.JournalW

/-- what one `Chunk.write` call does, for every chunk state, record list and iterator state -/
theorem chunkWrite_spec {σ : Type} (maxSize : Nat) (see : σ → Rec → σ) :
    ∀ (recs : List Rec) (c : Chunk) (st : σ) (n : Nat),
    ∃ k, k ≤ recs.length ∧
      (chunkWrite maxSize see c recs st n).1.recs = c.recs ++ (recs.take k).map (·.data) ∧
      (chunkWrite maxSize see c recs st n).2.1 = n + k ∧
      (chunkWrite maxSize see c recs st n).2.2.1 = recs.drop k ∧
      ((chunkWrite maxSize see c recs st n).2.2.2.2 = false → k = recs.length) ∧
      (c.size < maxSize → recs ≠ [] → 1 ≤ k) ∧
      (maxSize ≤ c.size → k = 0 ∧ (chunkWrite maxSize see c recs st n).2.2.2.2 = true ∧
        (chunkWrite maxSize see c recs st n).1 = c) := by
  intro recs
  induction recs with
  | nil =>
    intro c st n
    refine ⟨0, by simp, ?_⟩
    by_cases h : c.size ≥ maxSize
    · simp [chunkWrite, h]
    · simp [chunkWrite, h] <;> omega
  | cons r rest ih =>
    intro c st n
    by_cases h : c.size ≥ maxSize
    · refine ⟨0, by simp, ?_⟩
      simp [chunkWrite, h] <;> omega
    · obtain ⟨k, hk, h1, h2, h3, h4, _, _⟩ :=
        ih ⟨c.recs ++ [r.data], c.size + hdrSize + r.data.length⟩ (see st r) (n + 1)
      refine ⟨k + 1, by simp; omega, ?_⟩
      simp only [chunkWrite, h, ↓reduceIte]
      refine ⟨?_, ?_, ?_, ?_, ?_, ?_⟩
      · rw [h1]; simp
      · rw [h2]; omega
      · rw [h3]; simp
      · intro hf; have := h4 hf; simp; omega
      · intro _ _; omega
      · intro hc; exact hc.elim

/-- the flag `true` is `MaxSizeReached` -/
theorem chunkWrite_full {σ : Type} (maxSize : Nat) (see : σ → Rec → σ) {c : Chunk} (h : maxSize ≤ c.size) (recs : List Rec)
    (st : σ) (n : Nat) : chunkWrite maxSize see c recs st n = (c, n, recs, st, true) := by
  cases recs <;> simp only [chunkWrite, ge_iff_le, h, ↓reduceIte]

theorem readAll_append (a b : Journal) : readAll (a ++ b) = readAll a ++ readAll b := by
  simp [readAll]

theorem readAll_single (c : Chunk) : readAll [c] = c.recs := by simp [readAll]

theorem positionsFrom_append : ∀ (a b : Journal) (s : Nat),
    positionsFrom s (a ++ b) = positionsFrom s a ++ positionsFrom (s + a.length) b := by
  intro a
  induction a with
  | nil => intro b s; simp [positionsFrom]
  | cons c cs ih =>
    intro b s
    simp only [List.cons_append, positionsFrom, ih, List.length_cons, List.append_assoc]
    congr 3; omega

theorem getLastD_concat (pre : Journal) (c d : Chunk) : (pre ++ [c]).getLastD d = c := by
  rw [List.getLastD_eq_getLast?]; simp

theorem dropLast_concat' (pre : Journal) (c : Chunk) : (pre ++ [c]).dropLast = pre := by simp

theorem positions_concat (pre : Journal) (c : Chunk) :
    positions (pre ++ [c]) = positions pre ++ (List.range c.recs.length).map (fun i => (pre.length + 1, i)) := by
  simp [positions, positionsFrom_append, positionsFrom, Nat.add_comm]

/-- what a `journal.Write` call announces and stores, relative to the journal `j0` it found -/
structure WSpec {σ : Type} (j0 : Journal) (recs : List Rec) (r : WRes σ) (k : Nat) : Prop where
  le : k ≤ recs.length
  err : r.err = false
  n : r.n = k
  rest : r.rest = recs.drop k
  pos1 : recs ≠ [] → 1 ≤ k
  read : readAll r.j = readAll j0 ++ (recs.take k).map (·.data)
  poss : 1 ≤ k → k ≤ r.pos.2 ∧
    positions r.j = positions j0 ++ (List.range k).map (fun i => (r.pos.1, r.pos.2 - k + i))
  pos0 : k = 0 → positions r.j = positions j0

/-- one pass of the loop body when the chunk chosen for writing is not full -/
theorem attempt_lt {σ : Type} (maxSize : Nat) (see : σ → Rec → σ) (fuel : Nat) (j pre : Journal) (c : Chunk)
    (excl : Nat) (recs : List Rec) (st : σ) (hc : c.size < maxSize) (hj : getChunkForWrite j excl = pre ++ [c]) :
    ∃ k, WSpec (pre ++ [c]) recs (journalWriteGo maxSize see (fuel + 1) j excl recs st) k := by
  obtain ⟨k, hk, h1, h2, h3, h4, h5, _⟩ := chunkWrite_spec maxSize see recs c st 0
  refine ⟨k, ?_⟩
  simp only [journalWriteGo, hj, getLastD_concat, dropLast_concat']
  cases recs with
  | nil =>
    obtain rfl : k = 0 := Nat.le_zero.mp hk
    simp only [chunkWrite, Nat.not_le.mpr hc, ↓reduceIte, Nat.lt_irrefl, Bool.false_eq_true]
    exact ⟨Nat.le_refl _, rfl, rfl, rfl, fun h => absurd rfl h, (List.append_nil _).symm, fun h => absurd h (by decide),
      fun _ => rfl⟩
  | cons x xs =>
    have hn := h5 hc (List.cons_ne_nil x xs)
    generalize chunkWrite maxSize see c (x :: xs) st 0 = res at h1 h2 h3 h4
    obtain ⟨c', n, rest, st', full⟩ := res
    simp only [Nat.zero_add] at h1 h2 h3 h4
    subst h2 h3
    have hk' : n ≤ xs.length + 1 := hk
    simp only [show n > 0 from hn, ↓reduceIte]
    refine ⟨hk, rfl, rfl, rfl, fun _ => hn, ?_, ?_, fun h0 => absurd hn (by omega)⟩
    · simp [readAll_append, readAll_single, h1, List.append_assoc]
    · intro _
      refine ⟨by simp [h1, Nat.min_eq_left hk'], ?_⟩
      rw [positions_concat, positions_concat, h1]
      simp only [List.length_append, List.length_map, List.length_take, List.length_cons, Nat.min_eq_left hk',
        List.length_nil, List.append_assoc, List.append_cancel_left_eq]
      rw [List.range_add, List.map_append, List.map_map]
      congr 1
      apply List.map_congr_left
      intro i _
      simp only [Function.comp]
      congr 1; omega

theorem getChunkForWrite_nil (excl : Nat) : getChunkForWrite [] excl = [] ++ [⟨[], 0⟩] := by
  simp [getChunkForWrite]

theorem getChunkForWrite_excl (j : Journal) : getChunkForWrite j j.length = j ++ [⟨[], 0⟩] := by
  simp [getChunkForWrite]

theorem getChunkForWrite_zero (pre : Journal) (c : Chunk) : getChunkForWrite (pre ++ [c]) 0 = pre ++ [c] := by
  simp [getChunkForWrite]

theorem WSpec_fresh {σ : Type} (j : Journal) (recs : List Rec) (r : WRes σ) (k : Nat)
    (h : WSpec (j ++ [⟨[], 0⟩]) recs r k) : WSpec j recs r k := by
  have e1 : readAll (j ++ [(⟨[], 0⟩ : Chunk)]) = readAll j := by simp [readAll_append, readAll_single]
  have e2 : positions (j ++ [(⟨[], 0⟩ : Chunk)]) = positions j := by simp [positions_concat]
  exact ⟨h.le, h.err, h.n, h.rest, h.pos1, by rw [← e1]; exact h.read, by rw [← e2]; exact h.poss,
    by rw [← e2]; exact h.pos0⟩

/-- **`journal.Write`, every case**: for any journal (empty, last chunk with room, last chunk full), any record
list and any `maxChunkSize ≥ 1` the call succeeds, writes a non-empty prefix of a non-empty list into ONE chunk,
appends exactly that prefix to the stored sequence, and the returned position delimits it. -/
theorem journalWrite_spec {σ : Type} (maxSize : Nat) (see : σ → Rec → σ) (hm : 1 ≤ maxSize)
    (j : Journal) (recs : List Rec) (st : σ) :
    ∃ k, WSpec j recs (journalWrite maxSize see j recs st) k := by
  unfold journalWrite
  rcases List.eq_nil_or_concat j with hj | ⟨pre, c, hj⟩
  · subst hj
    obtain ⟨k, h⟩ := attempt_lt maxSize see 2 [] [] ⟨[], 0⟩ 0 recs st (by simp; omega) (getChunkForWrite_nil 0)
    exact ⟨k, WSpec_fresh [] recs _ k (by simpa using h)⟩
  · rw [List.concat_eq_append] at hj
    subst hj
    by_cases hc : c.size < maxSize
    · exact attempt_lt maxSize see 2 _ pre c 0 recs st hc (getChunkForWrite_zero pre c)
    · -- the last chunk is full: MaxSizeReached with n = 0, exclude it, a new chunk is created
      obtain ⟨k, h⟩ := attempt_lt maxSize see 1 (pre ++ [c]) (pre ++ [c]) ⟨[], 0⟩ (pre ++ [c]).length recs st
        (by simp; omega) (getChunkForWrite_excl _)
      refine ⟨k, WSpec_fresh _ recs _ k ?_⟩
      rw [journalWriteGo]
      simp only [getChunkForWrite_zero, getLastD_concat, dropLast_concat', chunkWrite_full maxSize see (Nat.le_of_not_lt hc),
        Nat.lt_irrefl, ↓reduceIte]
      rw [if_neg (by simp)]
      exact h

end Logrange.JournalW

namespace Logrange.WriteLoopM
open Logrange.JournalW

/-- one past a position -/
def after (p : Nat × Nat) : Nat × Nat := (p.1, p.2 + 1)

/-- what the `Service.Write` loop has done when it ends, relative to the state it started from -/
structure LoopSpec (j j' : Journal) (recs : List Rec) (o o' : WOut) : Prop where
  err : o'.err = o.err
  read : readAll j' = readAll j ++ recs.map (·.data)
  calls : ∃ nc, o'.calls = o.calls ++ nc ∧ positions j' = positions j ++ callPositions nc ∧
    o'.start = o.start.or (callPositions nc).head? ∧
    o'.endp = ((callPositions nc).getLast?.map after).or o.endp

theorem callPositions_append (a b : List IndexCall) : callPositions (a ++ b) = callPositions a ++ callPositions b := by
  simp [callPositions]

/-- the notification `Service.Write` issues after a `journal.Write` that wrote `r.n > 0` records -/
def callOf (r : WRes IW) : IndexCall := ⟨r.pos.2 - r.n, r.pos.2 - 1, r.pos.1, r.st.minTs, r.st.maxTs⟩

theorem noteWrite_pos (o : WOut) (r : WRes IW) (h : r.n > 0) :
    noteWrite o r = { o with calls := o.calls ++ [callOf r], start := o.start.or (some (r.pos.1, r.pos.2 - r.n)),
                             endp := some r.pos } := by
  simp only [noteWrite, h, ↓reduceIte, callOf]
  cases o.start <;> rfl

theorem noteWrite_zero (o : WOut) (r : WRes IW) (h : ¬ r.n > 0) : noteWrite o r = o := if_neg h

theorem callOf_count (r : WRes IW) (h1 : 1 ≤ r.n) (hp : r.n ≤ r.pos.2) : (callOf r).last + 1 - (callOf r).first = r.n := by
  show r.pos.2 - 1 + 1 - (r.pos.2 - r.n) = r.n
  rw [Nat.sub_add_cancel (Nat.le_trans h1 hp), Nat.sub_sub_self hp]

theorem callPositions_callOf (r : WRes IW) (h1 : 1 ≤ r.n) (hp : r.n ≤ r.pos.2) :
    callPositions [callOf r] = (List.range r.n).map (fun i => (r.pos.1, r.pos.2 - r.n + i)) := by
  simp only [callPositions, List.flatMap_cons, List.flatMap_nil, List.append_nil, callOf_count r h1 hp]
  rfl

theorem LoopSpec.idle {j j' : Journal} (o : WOut) (hr : readAll j' = readAll j) (hp : positions j' = positions j) :
    LoopSpec j j' [] o o :=
  ⟨rfl, by rw [hr, List.map_nil, List.append_nil], [], (List.append_nil _).symm, by rw [hp]; exact (List.append_nil _).symm,
    (Option.or_none).symm, rfl⟩

theorem LoopSpec.trans {j j' j'' : Journal} {a b c : List Rec} {o o' o'' : WOut}
    (h1 : LoopSpec j j' a o o') (h2 : LoopSpec j' j'' b o' o'') (e : a ++ b = c) : LoopSpec j j'' c o o'' := by
  subst e
  obtain ⟨e1, r1, nc1, c1, p1, s1, n1⟩ := h1
  obtain ⟨e2, r2, nc2, c2, p2, s2, n2⟩ := h2
  refine ⟨e2.trans e1, by rw [r2, r1, List.map_append, List.append_assoc], nc1 ++ nc2,
    by rw [c2, c1, List.append_assoc], by rw [p2, p1, callPositions_append, List.append_assoc], ?_, ?_⟩
  · rw [s2, s1, callPositions_append, List.head?_append, Option.or_assoc]
  · rw [n2, n1, callPositions_append, List.getLast?_append]
    cases (callPositions nc2).getLast? <;> rfl

theorem LoopSpec.one {j : Journal} {recs : List Rec} {r : WRes IW} (o : WOut) (hs : WSpec j recs r r.n) (hk : 1 ≤ r.n) :
    LoopSpec j r.j (recs.take r.n) o (noteWrite o r) := by
  obtain ⟨hp2, hpos⟩ := hs.poss hk
  have hcp := callPositions_callOf r hk hp2
  have hne : ¬ r.n = 0 := Nat.ne_of_gt hk
  rw [noteWrite_pos o r hk]
  refine ⟨rfl, hs.read, [callOf r], rfl, by rw [hpos, hcp], ?_, ?_⟩
  · rw [hcp, List.head?_map, List.head?_range, if_neg hne]; rfl
  · rw [hcp, List.getLast?_map, List.getLast?_range, if_neg hne]
    show some r.pos = some (r.pos.1, r.pos.2 - r.n + (r.n - 1) + 1)
    rw [show r.pos.2 - r.n + (r.n - 1) + 1 = r.pos.2 by omega]

end Logrange.WriteLoopM

namespace Logrange.JournalW

theorem WSpec.rest_length {σ : Type} {j0 : Journal} {recs : List Rec} {r : WRes σ} {k : Nat} (hs : WSpec j0 recs r k) :
    r.rest.length = recs.length - k := by rw [hs.rest, List.length_drop]

theorem WSpec.rest_lt {σ : Type} {j0 : Journal} {recs : List Rec} {r : WRes σ} {k fuel : Nat} (hs : WSpec j0 recs r k)
    (hk : 1 ≤ k) (hf : recs.length < fuel + 1) : r.rest.length < fuel := by
  have := hs.le
  rw [hs.rest_length]
  omega

theorem WSpec.eq_nil {σ : Type} {j0 : Journal} {recs : List Rec} {r : WRes σ} {k : Nat} (hs : WSpec j0 recs r k)
    (hk : ¬ 1 ≤ k) : recs = [] := Classical.byContradiction fun h => hk (hs.pos1 h)

theorem WSpec.take_append_rest {σ : Type} {j0 : Journal} {recs : List Rec} {r : WRes σ} {k : Nat} (hs : WSpec j0 recs r k) :
    recs.take k ++ r.rest = recs := by rw [hs.rest, List.take_append_drop]

end Logrange.JournalW

namespace Logrange.WriteLoopM
open Logrange.JournalW

theorem serviceWriteLoop_spec (maxSize : Nat) (hm : 1 ≤ maxSize) : ∀ (fuel : Nat) (j : Journal) (recs : List Rec)
    (iw : IW) (o : WOut), recs.length < fuel →
    LoopSpec j (serviceWriteLoop maxSize fuel j recs iw o).1 recs o (serviceWriteLoop maxSize fuel j recs iw o).2 := by
  intro fuel
  induction fuel with
  | zero => intro j recs iw o h; exact absurd h (Nat.not_lt_zero _)
  | succ fuel ih =>
    intro j recs iw o hf
    obtain ⟨k, hs⟩ := journalWrite_spec maxSize IW.see hm j recs iw
    simp only [serviceWriteLoop]
    generalize journalWrite maxSize IW.see j recs iw = r at hs
    obtain rfl := hs.n
    simp only [hs.err, Bool.false_eq_true, ↓reduceIte]
    by_cases hk : 1 ≤ r.n
    · have h1 := LoopSpec.one o hs hk
      have hcat := hs.take_append_rest
      cases hrest : r.rest with
      | nil => exact h1.trans (LoopSpec.idle _ rfl rfl) (by rw [← hrest]; exact hcat)
      | cons x xs =>
        have hi := ih r.j r.rest (r.st.see x) (noteWrite o r) (hs.rest_lt hk hf)
        rw [hrest] at hi hcat
        exact h1.trans hi hcat
    · have hnil := hs.eq_nil hk
      subst hnil
      have hrest : r.rest = [] := hs.rest.trans List.drop_nil
      simp only [hrest, noteWrite_zero o r hk]
      exact LoopSpec.idle o (by rw [hs.read, List.take_nil]; exact List.append_nil _) (hs.pos0 (by omega))

end Logrange.WriteLoopM

namespace Logrange.JournalW

theorem positionsFrom_length : ∀ (j : Journal) (s : Nat), (positionsFrom s j).length = (readAll j).length := by
  intro j
  induction j with
  | nil => intro s; simp [positionsFrom, readAll]
  | cons c cs ih =>
    intro s
    have := ih (s + 1)
    simp only [positionsFrom, List.length_append, List.length_map, List.length_range, this]
    simp [readAll]

theorem positions_length (j : Journal) : (positions j).length = (readAll j).length := positionsFrom_length j 1

end Logrange.JournalW

namespace Logrange.WriteLoopM
open Logrange.JournalW

/-- `w` holds the exact timestamp hull of the (non-empty) list `l` -/
def HullExact (w : IW) (l : List Rec) : Prop :=
  w.tsSet = true ∧ (∀ r ∈ l, w.minTs ≤ r.ts ∧ r.ts ≤ w.maxTs) ∧ (∃ r ∈ l, r.ts = w.minTs) ∧ (∃ r ∈ l, r.ts = w.maxTs)

theorem unsetIsFlag : Generated.C01.iwrapperUnsetIsFlag = true := by decide

theorem see_of_set (w : IW) (r : Rec) (h : w.tsSet = true) :
    w.see r = ⟨if w.minTs > r.ts then r.ts else w.minTs, if w.maxTs < r.ts then r.ts else w.maxTs, true⟩ := by
  simp only [IW.see, unsetIsFlag, h, ↓reduceIte, Bool.true_eq_false, or_false]

theorem see_bounds (w : IW) (r : Rec) : (w.see r).minTs ≤ r.ts ∧ r.ts ≤ (w.see r).maxTs := by
  simp only [IW.see]
  constructor <;> split <;> omega

theorem see_first (w : IW) (r : Rec) (h : w.tsSet = false) : HullExact (w.see r) [r] := by
  simp [HullExact, IW.see, unsetIsFlag, h]

theorem see_next (w : IW) (l : List Rec) (r : Rec) (h : HullExact w l) : HullExact (w.see r) (l ++ [r]) := by
  obtain ⟨hs, hall, ⟨a, ha, hamin⟩, ⟨b, hb, hbmax⟩⟩ := h
  have hle : w.minTs ≤ w.maxTs := by have := hall a ha; omega
  rw [see_of_set w r hs]
  simp only [HullExact]
  refine ⟨trivial, ?_, ?_, ?_⟩
  · intro x hx
    rcases List.mem_append.mp hx with hx | hx
    · have := hall x hx
      constructor <;> split <;> omega
    · simp at hx; subst hx
      constructor <;> split <;> omega
  · by_cases hc : w.minTs > r.ts
    · exact ⟨r, by simp, by simp [hc]⟩
    · exact ⟨a, by simp [ha], by simp [hc, hamin]⟩
  · by_cases hc : w.maxTs < r.ts
    · exact ⟨r, by simp, by simp [hc]⟩
    · exact ⟨b, by simp [hb], by simp [hc, hbmax]⟩

theorem fold_exact : ∀ (rs : List Rec) (w : IW) (l : List Rec), HullExact w l → HullExact (rs.foldl IW.see w) (l ++ rs) := by
  intro rs
  induction rs with
  | nil => intro w l h; simpa using h
  | cons r rs ih =>
    intro w l h
    have := ih (w.see r) (l ++ [r]) (see_next w l r h)
    simpa [List.append_assoc] using this

/-- handing the same record out again (`Get` without `Next`, the peek of `Service.Write`) changes nothing -/
theorem see_idem (w : IW) (r : Rec) : (w.see r).see r = w.see r := by
  obtain ⟨h1, h2⟩ := see_bounds w r
  rw [see_of_set (w.see r) r rfl, if_neg (Int.not_lt.mpr h1), if_neg (Int.not_lt.mpr h2)]
  rfl

end Logrange.WriteLoopM

/-! ## the hull carried by every notification -/

namespace Logrange.JournalW

/-- the iterator state after one `Chunk.write` call: every record it wrote has been handed out (`see`) once, in order -/
theorem chunkWrite_state {σ : Type} (maxSize : Nat) (see : σ → Rec → σ) :
    ∀ (recs : List Rec) (c : Chunk) (st : σ) (n : Nat),
      n ≤ (chunkWrite maxSize see c recs st n).2.1 ∧
      (chunkWrite maxSize see c recs st n).2.2.2.1
        = (recs.take ((chunkWrite maxSize see c recs st n).2.1 - n)).foldl see st := by
  intro recs
  induction recs with
  | nil => intro c st n; by_cases h : c.size ≥ maxSize <;> simp [chunkWrite, h]
  | cons r rest ih =>
    intro c st n
    by_cases h : c.size ≥ maxSize
    · simp [chunkWrite, h]
    · obtain ⟨h1, h2⟩ := ih ⟨c.recs ++ [r.data], c.size + hdrSize + r.data.length⟩ (see st r) (n + 1)
      simp only [chunkWrite, h, ↓reduceIte]
      refine ⟨by omega, ?_⟩
      rw [h2]
      generalize (chunkWrite maxSize see ⟨c.recs ++ [r.data], c.size + hdrSize + r.data.length⟩ rest (see st r) (n + 1)).2.1 = n' at h1 ⊢
      have : n' - n = (n' - (n + 1)) + 1 := by omega
      rw [this, List.take_succ_cons, List.foldl_cons]

/-- … and after one `journal.Write` call (any fuel, any exclusion) -/
theorem journalWriteGo_state {σ : Type} (maxSize : Nat) (see : σ → Rec → σ) :
    ∀ (fuel : Nat) (j : Journal) (excl : Nat) (recs : List Rec) (st : σ),
      (journalWriteGo maxSize see fuel j excl recs st).st
        = (recs.take (journalWriteGo maxSize see fuel j excl recs st).n).foldl see st := by
  intro fuel
  induction fuel with
  | zero => intro j excl recs st; simp [journalWriteGo]
  | succ fuel ih =>
    intro j excl recs st
    obtain ⟨k, _, _, h2, h3, _, _, _⟩ :=
      chunkWrite_spec maxSize see recs ((getChunkForWrite j excl).getLastD default) st 0
    obtain ⟨_, hs⟩ := chunkWrite_state maxSize see recs ((getChunkForWrite j excl).getLastD default) st 0
    simp only [journalWriteGo]
    generalize chunkWrite maxSize see ((getChunkForWrite j excl).getLastD default) recs st 0 = res at h2 h3 hs
    obtain ⟨c', n, rest, st', full⟩ := res
    simp only [Nat.zero_add, Nat.sub_zero] at h2 h3 hs
    subst h2
    by_cases hn : n > 0
    · simp only [hn, ↓reduceIte]; exact hs
    · have hk : n = 0 := by omega
      subst hk
      simp only [List.take_zero, List.foldl_nil, List.drop_zero] at hs h3
      subst hs h3
      simp only [Nat.lt_irrefl, ↓reduceIte]
      split
      · split
        · simp
        · exact ih _ _ _ _
      · simp

end Logrange.JournalW

namespace Logrange.WriteLoopM
open Logrange.JournalW

/-- the `iwrapper` state after handing out `l` (from a fresh wrapper) -/
def hullOf (l : List Rec) : IW := l.foldl IW.see {}

/-- every notification carries the hull of ALL records of the batch handed out up to its last record: `seen` are the
records written before, `rest` the records still to write, a notification for `n = last+1-first` records covers
`seen ++ rest.take n` -/
def CallsHull : List Rec → List Rec → List IndexCall → Prop
  | _, _, [] => True
  | seen, rest, c :: cs =>
    c.minTs = (hullOf (seen ++ rest.take (c.last + 1 - c.first))).minTs ∧
    c.maxTs = (hullOf (seen ++ rest.take (c.last + 1 - c.first))).maxTs ∧
    CallsHull (seen ++ rest.take (c.last + 1 - c.first)) (rest.drop (c.last + 1 - c.first)) cs

theorem hullOf_append (a b : List Rec) : hullOf (a ++ b) = b.foldl IW.see (hullOf a) := by
  simp [hullOf, List.foldl_append]

theorem serviceWriteLoop_hull (maxSize : Nat) (hm : 1 ≤ maxSize) : ∀ (fuel : Nat) (j : Journal) (recs : List Rec)
    (iw : IW) (o : WOut) (seen : List Rec), recs.length < fuel →
    (∀ x rest', recs = x :: rest' → iw.see x = (hullOf seen).see x) →
    ∃ nc, (serviceWriteLoop maxSize fuel j recs iw o).2.calls = o.calls ++ nc ∧ CallsHull seen recs nc := by
  intro fuel
  induction fuel with
  | zero => intro j recs iw o seen h; exact absurd h (Nat.not_lt_zero _)
  | succ fuel ih =>
    intro j recs iw o seen hf hiw
    obtain ⟨k, hs⟩ := journalWrite_spec maxSize IW.see hm j recs iw
    have hst : (journalWrite maxSize IW.see j recs iw).st
        = (recs.take (journalWrite maxSize IW.see j recs iw).n).foldl IW.see iw := journalWriteGo_state maxSize IW.see 3 j 0 recs iw
    simp only [serviceWriteLoop]
    generalize journalWrite maxSize IW.see j recs iw = r at hs hst
    obtain rfl := hs.n
    simp only [hs.err, Bool.false_eq_true, ↓reduceIte]
    by_cases hk : 1 ≤ r.n
    · have hcnt := callOf_count r hk (hs.poss hk).1
      -- the state after the write is the hull of everything handed out so far
      have hhull : r.st = hullOf (seen ++ recs.take r.n) := by
        obtain ⟨k1, hk1⟩ := Nat.exists_eq_add_one_of_ne_zero (Nat.ne_of_gt hk)
        cases hrecs : recs with
        | nil => have := hs.le; rw [hrecs] at this; exact absurd this (by simp only [List.length_nil]; omega)
        | cons x rest' =>
          rw [hst, hrecs, hk1, List.take_succ_cons, List.foldl_cons, hiw x rest' hrecs, hullOf_append, List.foldl_cons]
      have hcalls : (noteWrite o r).calls = o.calls ++ [callOf r] := by rw [noteWrite_pos o r hk]
      have hhead : CallsHull seen recs [callOf r] ∧ ∀ nc, CallsHull (seen ++ recs.take r.n) r.rest nc →
          CallsHull seen recs (callOf r :: nc) := by
        simp only [CallsHull, hcnt]
        exact ⟨⟨congrArg IW.minTs hhull, congrArg IW.maxTs hhull, trivial⟩,
          fun nc h => ⟨congrArg IW.minTs hhull, congrArg IW.maxTs hhull, hs.rest ▸ h⟩⟩
      cases hrest : r.rest with
      | nil => exact ⟨[callOf r], hcalls, hhead.1⟩
      | cons y ys =>
        obtain ⟨nc, e1, e2⟩ := ih r.j r.rest (r.st.see y) (noteWrite o r) (seen ++ recs.take r.n)
          (hs.rest_lt hk hf) (by
            intro x rest' hx
            obtain rfl : y = x := List.head_eq_of_cons_eq (hrest.symm.trans hx)
            rw [see_idem, hhull])
        rw [hrest] at e1
        exact ⟨callOf r :: nc, by rw [e1, hcalls, List.append_assoc]; rfl, hhead.2 nc e2⟩
    · have hnil := hs.eq_nil hk
      subst hnil
      have hrest : r.rest = [] := hs.rest.trans List.drop_nil
      simp only [hrest, noteWrite_zero o r hk]
      exact ⟨[], (List.append_nil _).symm, trivial⟩

end Logrange.WriteLoopM

/-! ## the write loop under faults: acknowledged ⇒ the whole batch was handed to a chunk -/
namespace Logrange.WriteLoopM
open Logrange.JournalW

theorem noteWrite_err (o : WOut) (r : WRes IW) : (noteWrite o r).err = o.err := by
  unfold noteWrite; split <;> rfl

theorem serviceWriteLoopF_spec (faultAt : Nat → Journal → Bool) (maxSize : Nat) (hm : 1 ≤ maxSize)
    (hg : Generated.C01.writeErrGuardIsNLeZero = true) :
    ∀ (fuel w : Nat) (j : Journal) (recs : List Rec) (iw : IW) (o : WOut), recs.length < fuel → o.err = false →
    ∃ k, k ≤ recs.length ∧
      readAll (serviceWriteLoopF faultAt maxSize fuel w j recs iw o).1 = readAll j ++ (recs.take k).map (·.data) ∧
      ((serviceWriteLoopF faultAt maxSize fuel w j recs iw o).2.err = false → k = recs.length) := by
  intro fuel
  induction fuel with
  | zero => intro w j recs iw o h; exact absurd h (Nat.not_lt_zero _)
  | succ fuel ih =>
    intro w j recs iw o hf ho
    simp only [serviceWriteLoopF]
    by_cases hfa : faultAt w j = true
    · -- the iteration fails with nothing written: reported, whatever was written before
      refine ⟨0, Nat.zero_le _, ?_, ?_⟩
      · simp [hfa]
      · simp [hfa, errGuard, hg]
    · simp only [hfa, Bool.false_eq_true, ↓reduceIte]
      obtain ⟨k, hs⟩ := journalWrite_spec maxSize IW.see hm j recs iw
      generalize journalWrite maxSize IW.see j recs iw = r at hs
      simp only [hs.err, Bool.false_eq_true, ↓reduceIte]
      have hlen := hs.rest_length
      have hle := hs.le
      cases hrest : r.rest with
      | nil =>
        rw [hrest] at hlen
        exact ⟨k, hle, hs.read, fun _ => by simp only [List.length_nil] at hlen; omega⟩
      | cons x xs =>
        have hk1 : 1 ≤ k := hs.pos1 (by intro hn; rw [hs.rest, hn] at hrest; exact absurd hrest (by simp))
        obtain ⟨k2, hk2, hr2, he2⟩ := ih (w + r.n) r.j r.rest (r.st.see x) (noteWrite o r) (hs.rest_lt hk1 hf)
          ((noteWrite_err o r).trans ho)
        rw [hrest] at hk2 hr2 he2
        rw [hrest] at hlen
        refine ⟨k + k2, by omega, ?_, fun he => by have := he2 he; omega⟩
        rw [hr2, hs.read, ← hrest, hs.rest, List.append_assoc, ← List.map_append, List.take_add]

end Logrange.WriteLoopM

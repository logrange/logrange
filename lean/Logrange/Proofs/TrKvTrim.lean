import Logrange.Translated.Kvstring
import Logrange.Model.KV
import Logrange.Proofs.TrField
/-!
# The translated `kvstring.TrimSpaces` computes the hand-written model `KV.trimSpaces`

`Kvstring.TrimSpaces` is generated from the Go source; `KV.trimSpaces` is the `dropWhile`-based model. The translated
function never panics and never runs out of fuel.
-/
set_option linter.unusedSimpArgs false
namespace Logrange.Proofs.TrKvTrim
open Go Go.Sem Logrange Logrange.Translated Logrange.Proofs.TrField

/-- the blank test of the model -/
def isSP (x : UInt8) : Bool := x == KV.SP

theorem trimSpaces_def (s : Bytes) :
    KV.trimSpaces s = ((s.dropWhile isSP).reverse.dropWhile isSP).reverse := rfl

/-! ## facts about `dropWhile` -/

theorem dropWhile_head (p : UInt8 → Bool) : ∀ (l : Bytes) (c : UInt8) (tl : Bytes),
    l.dropWhile p = c :: tl → p c = false
  | [], c, tl, h => by simp at h
  | x :: r, c, tl, h => by
    by_cases hx : p x = true
    · rw [List.dropWhile_cons_of_pos hx] at h
      exact dropWhile_head p r c tl h
    · rw [List.dropWhile_cons_of_neg hx] at h
      have hxc : x = c := (List.cons.inj h).1
      rw [← hxc]
      simpa using hx

theorem dropWhile_snoc (p : UInt8 → Bool) (c : UInt8) (hc : p c = false) : ∀ (l : Bytes),
    (l ++ [c]).dropWhile p = l.dropWhile p ++ [c]
  | [] => by simp [hc]
  | x :: r => by
    by_cases hx : p x = true
    · rw [List.cons_append, List.dropWhile_cons_of_pos hx, List.dropWhile_cons_of_pos hx]
      exact dropWhile_snoc p c hc r
    · rw [List.cons_append, List.dropWhile_cons_of_neg hx, List.dropWhile_cons_of_neg hx]
      rfl

theorem dist_last (pre : Bytes) (c : UInt8) (tl : Bytes) :
    dist (pre.length : Int) (len (pre ++ c :: tl) - 1) = tl.length + 1 ∧
      len (pre ++ c :: tl) - 1 = (pre.length : Int) + (tl.length : Int) := by
  simp only [dist, len, List.length_append, List.length_cons]; omega

/-- the text ends at `pre`: the backward loop does not run, and the final slice is empty -/
theorem at_end (pre : Bytes) : dist (pre.length : Int) (len pre - 1) = 1 ∧ ¬ (len pre - 1 > (pre.length : Int)) ∧
    ¬ (len pre - 1 = (pre.length : Int)) ∧ Sem.slice pre (pre.length : Int) (len pre - 1 + 1) = Res.ok [] := by
  have e : len pre - 1 + 1 = (pre.length : Int) := by simp only [len]; omega
  refine ⟨by simp only [dist, len]; omega, by simp only [len]; omega, by simp only [len]; omega, ?_⟩
  rw [e, slice_ok _ _ _ (Nat.le_refl _) (Nat.le_refl _)]
  simp

theorem slice_mid (pre : Bytes) (c : UInt8) (rem junk : Bytes) :
    Sem.slice (pre ++ c :: (rem.reverse ++ junk)) (pre.length : Int) ((pre.length : Int) + (rem.length : Int) + 1)
      = Res.ok (c :: rem.reverse) := by
  have : (pre.length : Int) + (rem.length : Int) + 1 = ((pre.length + rem.length + 1 : Nat) : Int) := by omega
  rw [this, slice_ok _ _ _ (by omega)
    (by simp only [List.length_append, List.length_cons, List.length_reverse]; omega)]
  have hk : pre.length + rem.length + 1 - pre.length = rem.length + 1 := by omega
  rw [hk]
  simp

/-! ## first loop -/

theorem loop1_eq (str : Bytes) : ∀ (fuel i : Nat), i ≤ str.length → str.length - i < fuel →
    Kvstring.TrimSpaces_loop1 str fuel (i : Int) =
      Kvstring.TrimSpaces_after1 str
        ((str.length - ((str.drop i).dropWhile isSP).length : Nat) : Int) := by
  intro fuel
  induction fuel with
  | zero => intro i _ h; omega
  | succ fuel ih =>
    intro i hi hf
    rw [Kvstring.TrimSpaces_loop1]
    cases h : str.drop i with
    | nil =>
      have he : i = str.length := Nat.le_antisymm hi (List.drop_eq_nil_iff.mp h)
      rw [if_neg (by simp [len, he]), List.dropWhile_nil, List.length_nil, Nat.sub_zero, he]
    | cons c rest =>
      have hl := length_of_drop_cons h
      rw [if_pos (decide_eq_true (Int.ofNat_lt.mpr (lt_of_drop_cons h))), index_drop, h]
      show (if (c == (32 : UInt8)) = true then _ else _) = _
      by_cases hc : (c == (32 : UInt8)) = true
      · have hr : str.drop (i + 1) = rest := drop_step h 0
        rw [if_pos hc, List.dropWhile_cons_of_pos (show isSP c = true from hc), ← hr]
        exact ih (i + 1) (by omega) (by omega)
      · rw [if_neg hc, List.dropWhile_cons_of_neg (show ¬ isSP c = true from hc), List.length_cons]
        congr 2; omega

/-! ## second loop -/

theorem loop2_eq (str : Bytes) (i : Nat) : ∀ (m fuel : Nat),
    (m ≠ 0 → i + m < str.length) → m < fuel →
    Kvstring.TrimSpaces_loop2 str (i : Int) fuel ((i : Int) + (m : Int)) =
      Kvstring.TrimSpaces_after2 str (i : Int)
        ((i : Int) + ((((str.drop (i + 1)).take m).reverse.dropWhile isSP).length : Int)) := by
  intro m
  induction m with
  | zero =>
    intro fuel _ hf
    obtain ⟨fuel, rfl⟩ : ∃ f, fuel = f + 1 := ⟨fuel - 1, by omega⟩
    unfold Kvstring.TrimSpaces_loop2
    simp
  | succ m ih =>
    intro fuel hb hf
    obtain ⟨fuel, rfl⟩ : ∃ f, fuel = f + 1 := ⟨fuel - 1, by omega⟩
    have hb' : i + (m + 1) < str.length := hb (by omega)
    have hlt : i + 1 + m < str.length := by omega
    have hrev : ((str.drop (i + 1)).take (m + 1)).reverse
        = str[i + 1 + m] :: ((str.drop (i + 1)).take m).reverse := by
      rw [List.take_add_one, List.getElem?_drop, List.getElem?_eq_getElem hlt]
      simp
    have et : (i : Int) + ((m + 1 : Nat) : Int) = ((i + 1 + m : Nat) : Int) := by omega
    have et' : ((i + 1 + m : Nat) : Int) - 1 = (i : Int) + (m : Int) := by omega
    rw [hrev]
    unfold Kvstring.TrimSpaces_loop2
    rw [et]
    have hgt : ((i + 1 + m : Nat) : Int) > (i : Int) := by omega
    simp only [hgt, decide_true, if_true, index_ok str _ hlt, Go.Sem.bind]
    by_cases h1 : (str[i + 1 + m] == (32 : UInt8)) = true
    · have h1' : isSP str[i + 1 + m] = true := h1
      rw [List.dropWhile_cons_of_pos h1']
      simp only [h1, ↓reduceIte]
      rw [et']
      exact ih fuel (by omega) (by omega)
    · have h1' : ¬ isSP str[i + 1 + m] = true := h1
      rw [List.dropWhile_cons_of_neg h1']
      simp only [h1, ↓reduceIte, Bool.false_eq_true]
      congr 1
      simp only [List.length_cons, List.length_reverse, List.length_take, List.length_drop]
      omega

/-! ## the whole function -/

theorem trimSpaces_eq (str : Bytes) : Kvstring.TrimSpaces str = .ok (KV.trimSpaces str) := by
  have h1 := loop1_eq str (dist 0 (len str)) 0 (by omega) (by simp only [dist, len]; omega)
  simp only [Int.natCast_zero, List.drop_zero] at h1
  simp only [Kvstring.TrimSpaces, h1]
  clear h1
  rw [trimSpaces_def]
  obtain ⟨pre, hpre⟩ := List.dropWhile_suffix isSP (l := str)
  have hhead := dropWhile_head isSP str
  generalize str.dropWhile isSP = rest at hpre hhead
  subst hpre
  have hidx : (pre ++ rest).length - rest.length = pre.length := by
    simp only [List.length_append]; omega
  rw [hidx]
  simp only [Kvstring.TrimSpaces_after1]
  cases rest with
  | nil =>
    simp only [List.append_nil]
    obtain ⟨hfuel, hg, _, hsl⟩ := at_end pre
    rw [hfuel]
    unfold Kvstring.TrimSpaces_loop2
    simp only [hg, decide_false, Bool.false_eq_true, ↓reduceIte]
    unfold Kvstring.TrimSpaces_after2
    rw [hsl]
    simp
  | cons c tl =>
    have hc : isSP c = false := hhead c tl rfl
    obtain ⟨hfuel, htidx⟩ := dist_last pre c tl
    have hdrop : ((pre ++ c :: tl).drop (pre.length + 1)).take tl.length = tl := by
      simp
    have h2 := loop2_eq (pre ++ c :: tl) pre.length tl.length (tl.length + 1)
      (by intro _; simp only [List.length_append, List.length_cons]; omega) (by omega)
    rw [hdrop] at h2
    rw [hfuel, htidx, h2]
    clear h2
    rw [List.reverse_cons, dropWhile_snoc isSP c hc, List.reverse_append]
    obtain ⟨pre2, hpre2⟩ := List.dropWhile_suffix isSP (l := tl.reverse)
    generalize tl.reverse.dropWhile isSP = rem at hpre2
    have htl : tl = rem.reverse ++ pre2.reverse := by
      have := congrArg List.reverse hpre2
      simpa using this.symm
    unfold Kvstring.TrimSpaces_after2
    rw [htl, slice_mid]
    simp

end Logrange.Proofs.TrKvTrim

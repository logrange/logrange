import Logrange.Proofs.Date
import Logrange.Model.DateText
/-!
# Round trip `time.Parse ∘ time.Format` on civil fields, for layouts of literals and numeric fixed-width elements

Covered elements: `2006` (longYear), `01` (zeroMonth), `02` (zeroDay), `15` (hour), `04` (zeroMinute), `05` (zeroSecond),
with arbitrary literal text between them, provided the literal that follows a seconds element does not begin with `.` or
`,` (Go would read a fractional second there).

What an element reads back is proved on numbers; the instant and its validity come in at the last step. The lemmas on
literals, on digit strings, on one turn of the loop of `parse` and on the day-of-month test of the epilogue hold for any
element: the round trip for all elements (`DateRoundTripAll.lean`) rests on the same ones.
-/
namespace Logrange.Date

def numericStd (s : Std) : Bool :=
  s == .longYear || s == .zeroMonth || s == .zeroDay || s == .hour || s == .zeroMinute || s == .zeroSecond

def litOK (afterSec : Bool) (l : Bytes) : Bool :=
  !afterSec || !(match l with | c :: _ => commaOrPeriod c | [] => false)

def numericItems (afterSec : Bool) : List (Bytes × Std) → Bytes → Bool
  | [], tail => litOK afterSec tail
  | (pre, s) :: rest, tail => litOK afterSec pre && numericStd s && numericItems (s == .zeroSecond) rest tail

/-- the layout consists of literals and numeric fixed-width elements only (decidable) -/
def NumericLayout (L : Layout) : Bool := numericItems false L.items L.tail

/-- civil fields of a real instant (the calendar's day-of-month rule included); years up to 9999 -/
def ValidInst (i : Inst) : Prop :=
  i.year ≤ 9999 ∧ 1 ≤ i.month ∧ i.month ≤ 12 ∧ 1 ≤ i.day ∧ (i.day : Int) ≤ daysIn i.month i.year ∧
  i.hour < 24 ∧ i.min < 60 ∧ i.sec < 60

instance (i : Inst) : Decidable (ValidInst i) := by unfold ValidInst; infer_instance

/-- the field an element carries, written into Go's locals -/
def setStd (s : Std) (i : Inst) (f : F) : F :=
  match s with
  | .longYear => { f with year := i.year }
  | .zeroMonth => { f with month := i.month }
  | .zeroDay => { f with day := i.day }
  | .hour => { f with hour := i.hour }
  | .zeroMinute => { f with min := i.min }
  | .zeroSecond => { f with sec := i.sec }
  | _ => f

def projectF (items : List (Bytes × Std)) (i : Inst) (f : F) : F := items.foldl (fun f it => setStd it.2 i f) f

/-- defaults of `time.Parse` for what the layout does not carry: month 1, day 1, everything else 0, default zone -/
def civilOf (f : F) : Civil :=
  ⟨f.year, if f.month < 0 then 1 else f.month, if f.day < 0 then 1 else f.day, f.hour, f.min, f.sec, f.nsec, .dflt⟩

/-- **the fields of `i` the layout carries**, all others at `time.Parse`'s defaults -/
def project (L : Layout) (i : Inst) : Civil := civilOf (projectF L.items i {})

/-! ### literals -/

theorem cutspace_of_head {l : Bytes} (h : l.head? ≠ some 32) : cutspace l = l := by
  cases l with
  | nil => rfl
  | cons x t =>
    have : (x == 32) = false := beq_false_of_ne fun e => h (by rw [e]; rfl)
    simp only [cutspace, List.dropWhile_cons, this]; rfl

theorem plain_vals {txt R : Bytes} (hne : txt ≠ []) (hh : txt.head? ≠ some 32) {val : Bytes}
    (hv : val = txt ++ R ∨ val = cutspace (txt ++ R)) : val = txt ++ R := by
  rcases hv with h | h
  · exact h
  · cases txt with
    | nil => exact absurd rfl hne
    | cons c t => rw [h]; exact cutspace_of_head hh

theorem cutspace_append (l r : Bytes) :
    cutspace (l ++ r) = if cutspace l = [] then cutspace r else cutspace l ++ r := by
  simp only [cutspace, List.dropWhile_append, List.isEmpty_iff]
  congr

theorem getLast?_blank_cons : ∀ (l : Bytes),
    ((32 : UInt8) :: l).getLast? = if cutspace l = [] then some 32 else (cutspace l).getLast?
  | [] => rfl
  | x :: t => by
    rw [List.getLast?_cons_cons]
    by_cases hx : x = 32
    · subst hx; exact getLast?_blank_cons t
    · have : cutspace (x :: t) = x :: t := cutspace_of_head (by simpa using hx)
      rw [this, if_neg (List.cons_ne_nil _ _)]

/-- when the literal ends with a blank Go eats the blanks that follow too -/
theorem skip_lit_gen (rest : Bytes) :
    ∀ (fuel : Nat) (pre : Bytes), pre.length < fuel →
      skip fuel (pre ++ rest) pre = some (if pre.getLast? = some 32 then cutspace rest else rest)
  | 0, _, h => by omega
  | fuel + 1, [], _ => by simp [skip]
  | fuel + 1, p :: prest, h => by
    simp only [List.length_cons] at h
    by_cases hp : p = 32
    · subst hp
      have hlen : (cutspace prest).length < fuel :=
        Nat.lt_of_le_of_lt (List.dropWhile_suffix _).length_le (by omega)
      have step : skip (fuel + 1) ((32 : UInt8) :: prest ++ rest) (32 :: prest) =
          skip fuel (cutspace (prest ++ rest)) (cutspace prest) := by
        simp only [List.cons_append, skip, beq_self_eq_true, if_true, bne_self_eq_false, Bool.false_eq_true, if_false]; rfl
      rw [step, cutspace_append, getLast?_blank_cons]
      by_cases hq : cutspace prest = []
      · rw [if_pos hq, if_pos hq, hq, if_pos rfl]
        cases fuel with
        | zero => omega
        | succ n => rfl
      · rw [if_neg hq, if_neg hq]
        exact skip_lit_gen rest fuel (cutspace prest) hlen
    · have hp' : (p == 32) = false := beq_false_of_ne hp
      simp only [List.cons_append, skip, hp', Bool.false_eq_true, if_false, beq_self_eq_true, if_true]
      rw [skip_lit_gen rest fuel prest (by omega)]
      cases prest with
      | nil => simp [hp]
      | cons q t => rw [List.getLast?_cons_cons]

theorem skipLit_gen (pre rest : Bytes) :
    skipLit (pre ++ rest) pre = some (if pre.getLast? = some 32 then cutspace rest else rest) :=
  skip_lit_gen rest _ pre (by omega)

theorem skipLit_plain (pre : Bytes) {rest : Bytes} (h : rest.head? ≠ some 32) : skipLit (pre ++ rest) pre = some rest := by
  rw [skipLit_gen, cutspace_of_head h, ite_self]

theorem parseItems_nil_tail (tail : Bytes) (f : F) : parseItems tail [] tail f = some f := by
  have := skipLit_plain (rest := []) tail (fun e => nomatch e)
  simp only [List.append_nil] at this
  simp only [parseItems, this]

/-- one turn of the loop of `parse` on `literal ++ element text ++ rest`: the literal is skipped, possibly together with
the blanks the element text begins with, so the element has to be read from both forms of what is left -/
theorem parseItems_cons_text {tail pre : Bytes} {s : Std} {rest : List (Bytes × Std)} {txt R : Bytes} {f f' : F}
    (h : ∀ val, (val = txt ++ R ∨ val = cutspace (txt ++ R)) → parseStd s (rest.head?.map (·.2)) val f = some (f', R)) :
    parseItems tail ((pre, s) :: rest) (pre ++ (txt ++ R)) f = parseItems tail rest R f' := by
  have hval := h (if pre.getLast? = some 32 then cutspace (txt ++ R) else txt ++ R) (by split <;> simp)
  simp only [parseItems, skipLit_gen, hval]

/-! ### digits -/

theorem dval_dig (n : Nat) : dval (dig n) = ((n % 10 : Nat) : Int) := by
  simp only [dval, dig_toNat]; omega

theorem dig_ne_of_lt (n : Nat) {c : UInt8} (hc : c.toNat < 48) : dig n ≠ c := by
  intro e
  have := dig_toNat n
  rw [e] at this
  omega

theorem dig_ne_blank (n : Nat) : dig n ≠ 32 := dig_ne_of_lt n (by decide)

theorem commaOrPeriod_dig (n : Nat) : commaOrPeriod (dig n) = false := by
  simp only [commaOrPeriod, Bool.or_eq_false_iff]
  exact ⟨beq_false_of_ne (dig_ne_of_lt n (by decide)), beq_false_of_ne (dig_ne_of_lt n (by decide))⟩

theorem getnum_pad2 (n : Nat) (hn : n < 100) (fixed : Bool) (v : Bytes) :
    getnum (pad2 n ++ v) fixed = some ((n : Int), v) := by
  simp only [pad2, List.cons_append, List.nil_append, getnum, isDig_dig, if_true, dval_dig]
  congr 2
  omega

theorem padN_length : ∀ (k n : Nat), (padN k n).length = k
  | 0, _ => rfl
  | k + 1, n => by simp [padN, padN_length k]

theorem padN_allDig : ∀ (k n : Nat), AllDig (padN k n)
  | 0, _, c, h => by simp [padN] at h
  | k + 1, n, c, h => by
    simp only [padN, List.mem_append, List.mem_singleton] at h
    rcases h with h | h
    · exact padN_allDig k _ c h
    · subst h; exact isDig_dig n

theorem foldl_padN : ∀ (k n : Nat) (a : Int),
    (padN k n).foldl (fun a c => a * 10 + dval c) a = a * (10 : Int) ^ k + ((n % 10 ^ k : Nat) : Int)
  | 0, n, a => by simp [padN, Nat.mod_one]
  | k + 1, n, a => by
    rw [padN, List.foldl_append, foldl_padN k (n / 10) a]
    simp only [List.foldl_cons, List.foldl_nil, dval_dig]
    have e : n % 10 ^ (k + 1) = (n / 10 % 10 ^ k) * 10 + n % 10 := by
      rw [Nat.pow_succ, Nat.mul_comm, Nat.mod_mul, Nat.add_comm, Nat.mul_comm]
    rw [e, Int.pow_succ]
    push_cast
    rw [Int.add_mul, Int.mul_assoc, Int.add_assoc]

theorem atoi_digits {ds : Bytes} (hne : ds ≠ []) (h : AllDig ds) :
    atoi ds = some (ds.foldl (fun a c => a * 10 + dval c) 0) := by
  cases ds with
  | nil => exact absurd rfl hne
  | cons c r =>
    have hc : isDig c = true := h.head
    have h45 : (c == 45) = false := beq_false_of_ne fun e => by subst e; cases hc
    have h43 : (c == 43) = false := beq_false_of_ne fun e => by subst e; cases hc
    simp only [atoi, h45, h43, Bool.false_eq_true, if_false, List.isEmpty_cons, all_isDig_of_allDig h, Bool.not_true, Bool.or_self]

theorem atoi_padN (k n : Nat) (hk : 1 ≤ k) (hn : n < 10 ^ k) : atoi (padN k n) = some (n : Int) := by
  have hne : padN k n ≠ [] := fun e => by have := padN_length k n; rw [e] at this; simp at this; omega
  rw [atoi_digits hne (padN_allDig k n), foldl_padN, Nat.mod_eq_of_lt hn]; simp

theorem pad4_eq (y : Nat) : pad4 y = padN 4 y := by
  simp only [pad4, padN, List.nil_append, List.cons_append, Nat.div_div_eq_div_mul]

theorem atoi_pad2 (n : Nat) (hn : n < 100) : atoi (pad2 n) = some (n : Int) := atoi_padN 2 n (by omega) hn
theorem atoi_pad4 (y : Nat) (hy : y ≤ 9999) : atoi (pad4 y) = some (y : Int) := by
  rw [pad4_eq]; exact atoi_padN 4 y (by omega) (by omega)



section elements
variable (next : Option Std) (R : Bytes) (f : F)

theorem parseStd_longYear (y : Nat) (hy : y ≤ 9999) :
    parseStd .longYear next (pad4 y ++ R) f = some ({ f with year := y }, R) := by
  have hlen : ¬ ((pad4 y ++ R).length < 4) := by simp [pad4]
  have hdig : isDigitAt (pad4 y ++ R) 0 = true := by simp [pad4, isDigitAt, isDig_dig]
  have htake : (pad4 y ++ R).take 4 = pad4 y := by simp [pad4]
  have hdrop : (pad4 y ++ R).drop 4 = R := by simp [pad4]
  simp only [parseStd, hlen, hdig, htake, hdrop, atoi_pad4 y hy]
  simp

theorem parseStd_zeroMonth (n : Nat) (h1 : 1 ≤ n) (h12 : n ≤ 12) :
    parseStd .zeroMonth next (pad2 n ++ R) f = some ({ f with month := n }, R) := by
  have hr : (decide ((n : Int) ≤ 0) || decide ((12 : Int) < n)) = false := by simp; omega
  simp only [parseStd, beq_self_eq_true, getnum_pad2 n (by omega), Option.bind, hr]; rfl

theorem parseStd_zeroDay (n : Nat) (h : n < 100) :
    parseStd .zeroDay next (pad2 n ++ R) f = some ({ f with day := n }, R) := by
  have hne : ((pad2 n ++ R).head? == some 32) = false := by
    simp only [pad2, List.cons_append, List.head?_cons]
    exact beq_false_of_ne fun e => dig_ne_blank _ (Option.some.inj e)
  simp [parseStd, getnum_pad2 n h]

theorem parseStd_hour (n : Nat) (h : n < 24) :
    parseStd .hour next (pad2 n ++ R) f = some ({ f with hour := n }, R) := by
  have hr : (decide ((n : Int) < 0) || decide ((24 : Int) ≤ n)) = false := by simp; omega
  simp only [parseStd, getnum_pad2 n (by omega), Option.bind, hr]; rfl

theorem parseStd_zeroMinute (n : Nat) (h : n < 60) :
    parseStd .zeroMinute next (pad2 n ++ R) f = some ({ f with min := n }, R) := by
  have hr : (decide ((n : Int) < 0) || decide ((60 : Int) ≤ n)) = false := by simp; omega
  simp only [parseStd, beq_self_eq_true, getnum_pad2 n (by omega), Option.bind, hr]; rfl


theorem parseStd_zeroSecond (n : Nat) (h : n < 60)
    (hR : commaOrPeriod (R.headD 0) = false ∨ ∃ k, next = some (.frac9 k)) :
    parseStd .zeroSecond next (pad2 n ++ R) f = some ({ f with sec := n }, R) := by
  have hr : (decide ((n : Int) < 0) || decide ((60 : Int) ≤ n)) = false := by simp; omega
  simp only [parseStd, beq_self_eq_true, getnum_pad2 n (by omega), hr, Bool.false_eq_true, if_false]
  rcases hR with hR | ⟨k, rfl⟩
  · simp only [hR, Bool.and_false, Bool.false_and, Bool.false_eq_true, if_false]
  · exact ite_self _

end elements

theorem headD_append_dig (n : Nat) (a b : Bytes) : (pad2 n ++ a ++ b).headD 0 = dig (n / 10) := by simp [pad2]

/-- `hv`: the rest does not begin with a fractional-second separator (only needed after seconds) -/
theorem parseStd_format (s : Std) (hs : numericStd s = true) (i : Inst) (hi : ValidInst i) (next : Option Std) (v : Bytes) (f : F)
    (hv : s = .zeroSecond → commaOrPeriod (v.headD 0) = false) :
    ∃ d t, formatStd s i = some (dig d :: t) ∧ parseStd s next (dig d :: t ++ v) f = some (setStd s i f, v) := by
  obtain ⟨hy, hm1, hm12, hd1, hdd, hh, hmi, hse⟩ := hi
  have hd31 : i.day ≤ 31 := by have := (daysIn_bounds i.month i.year).2.1; omega
  simp only [numericStd, Bool.or_eq_true, beq_iff_eq] at hs
  rcases hs with ((((rfl | rfl) | rfl) | rfl) | rfl) | rfl
  · exact ⟨_, _, rfl, parseStd_longYear next v f i.year hy⟩
  · exact ⟨_, _, rfl, parseStd_zeroMonth next v f i.month hm1 hm12⟩
  · exact ⟨_, _, rfl, parseStd_zeroDay next v f i.day (by omega)⟩
  · exact ⟨_, _, rfl, parseStd_hour next v f i.hour hh⟩
  · exact ⟨_, _, rfl, parseStd_zeroMinute next v f i.min hmi⟩
  · exact ⟨_, _, rfl, parseStd_zeroSecond next v f i.sec hse (Or.inl (hv rfl))⟩

/-! ### the whole layout -/

theorem parseItems_format (tail : Bytes) (i : Inst) (hi : ValidInst i) :
    ∀ (items : List (Bytes × Std)) (afterSec : Bool) (f : F), numericItems afterSec items tail = true →
      ∃ body, formatItems items i = some body ∧
        (afterSec = true → commaOrPeriod ((body ++ tail).headD 0) = false) ∧
        parseItems tail items (body ++ tail) f = some (projectF items i f)
  | [], afterSec, f, h => by
    refine ⟨[], rfl, ?_, ?_⟩
    · intro ha
      simp only [numericItems, litOK, ha, Bool.not_true, Bool.false_or, Bool.not_eq_true'] at h
      cases tail with
      | nil => rfl
      | cons c t => exact h
    · exact parseItems_nil_tail tail f
  | (pre, s) :: rest, afterSec, f, h => by
    simp only [numericItems, Bool.and_eq_true] at h
    obtain ⟨⟨hlit, hs⟩, hrest⟩ := h
    obtain ⟨body', hb', hcp', hparse'⟩ := parseItems_format tail i hi rest (s == .zeroSecond) (setStd s i f) hrest
    obtain ⟨d, t, hfmt, hstd⟩ := parseStd_format s hs i hi (rest.head?.map (·.2)) (body' ++ tail) f
      (fun e => hcp' (by rw [e]; rfl))
    refine ⟨pre ++ (dig d :: t) ++ body', ?_, ?_, ?_⟩
    · simp only [formatItems, hfmt, hb']
    · intro ha
      cases pre with
      | nil => exact commaOrPeriod_dig d
      | cons c p =>
        simp only [litOK, ha, Bool.not_true, Bool.false_or, Bool.not_eq_true'] at hlit
        exact hlit
    · have e : pre ++ (dig d :: t) ++ body' ++ tail = pre ++ (dig d :: t ++ (body' ++ tail)) := by
        simp only [List.append_assoc]
      have hh : (dig d :: t).head? ≠ some 32 := fun e => dig_ne_blank d (Option.some.inj e)
      rw [e, parseItems_cons_text (f' := setStd s i f) fun val hv => by rw [plain_vals (List.cons_ne_nil _ _) hh hv]; exact hstd]
      exact hparse'

/-! ### the epilogue -/

/-- some of the fields may still be at their defaults; `hy`: the year in the locals gives the month at least the days it has
in `y` -/
theorem dayTest_ok {m d : Nat} {y fy fm fd : Int} (hm1 : 1 ≤ m) (hd1 : 1 ≤ d) (hdd : (d : Int) ≤ daysIn m y)
    (hy : daysIn m y ≤ daysIn m fy) (hm : fm = -1 ∨ fm = m) (hd : fd = -1 ∨ fd = d) :
    ¬ ((if fd < 0 then 1 else fd) < 1 ∨ (if fd < 0 then 1 else fd) > daysIn (if fm < 0 then 1 else fm) fy) := by
  have b := daysIn_bounds m y
  rcases hd with hd | hd
  · have b' := daysIn_bounds (if fm < 0 then 1 else fm) fy
    rw [hd, if_pos (by decide)]; omega
  · rw [hd, if_neg (by omega)]
    rcases hm with hm | hm
    · rw [hm, if_pos (by decide), daysIn_one]; omega
    · rw [hm, if_neg (by omega)]; omega

structure FInv (i : Inst) (f : F) : Prop where
  year : f.year = 0 ∨ f.year = i.year
  month : f.month = -1 ∨ f.month = i.month
  day : f.day = -1 ∨ f.day = i.day
  am : f.am = false
  pm : f.pmS = false
  z : f.zUTC = false
  zo : f.zoneOffset = none
  zn : f.zoneName = none

theorem FInv.setStd {i : Inst} {f : F} (h : FInv i f) (s : Std) : FInv i (setStd s i f) := by
  cases s
  case longYear => exact { h with year := Or.inr rfl }
  case zeroMonth => exact { h with month := Or.inr rfl }
  case zeroDay => exact { h with day := Or.inr rfl }
  all_goals exact { h with }

theorem FInv.projectF {i : Inst} : ∀ (items : List (Bytes × Std)) {f : F}, FInv i f → FInv i (projectF items i f)
  | [], _, h => h
  | it :: rest, _, h => FInv.projectF rest (h.setStd it.2)

theorem finish_of_inv {i : Inst} (hi : ValidInst i) {f : F} (h : FInv i f) : finish f = .ok (civilOf f) := by
  obtain ⟨_, hm1, _, hd1, hdd, _, _, _⟩ := hi
  have hy : daysIn i.month i.year ≤ daysIn i.month f.year := by
    rcases h.year with e | e <;> rw [e]
    · exact (daysIn_bounds _ _).2.2
    · exact Int.le_refl _
  have key := dayTest_ok hm1 hd1 hdd hy h.month h.day
  simp only [finish, h.pm, h.am, Bool.false_and, Bool.false_eq_true, if_false, h.z, h.zo, h.zn, civilOf]
  rw [if_neg (by simpa using key)]

theorem numericStd_supported {s : Std} (hs : numericStd s = true) : (s != .unsupported) = true := by
  cases s <;> first | rfl | cases hs

theorem numericItems_supported : ∀ (items : List (Bytes × Std)) (a : Bool) (tail : Bytes), numericItems a items tail = true →
    items.all (fun it => it.2 != .unsupported) = true
  | [], _, _, _ => rfl
  | (pre, s) :: rest, a, tail, h => by
    simp only [numericItems, Bool.and_eq_true] at h
    simp only [List.all_cons, numericItems_supported rest _ tail h.2, numericStd_supported h.1.2, Bool.and_true]

/-- the generic round trip -/
theorem format_parse_numeric (L : Layout) (hL : NumericLayout L = true) (i : Inst) (hi : ValidInst i) :
    ∃ txt, formatLayout L i = some txt ∧ parseLayout L txt = .ok (project L i) := by
  obtain ⟨body, hb, _, hp⟩ := parseItems_format L.tail i hi L.items false {} hL
  refine ⟨body ++ L.tail, by simp [formatLayout, hb], ?_⟩
  have hsup : L.supported = true := numericItems_supported L.items false L.tail hL
  simp only [parseLayout, hsup, Bool.not_true, Bool.false_eq_true, if_false, hp]
  exact finish_of_inv hi (FInv.projectF L.items ⟨Or.inl rfl, Or.inl rfl, Or.inl rfl, rfl, rfl, rfl, rfl, rfl⟩)

end Logrange.Date

import Logrange.Model.PipeLts
/-! Lemmas behind the C10 property theorems: the copy invariant of the pipe LTS, step by step. -/
namespace Logrange.PipeLts

/-! ### lists -/

theorem slice_append_left {α : Type} (l m : List α) (a b : Nat) (h : b ≤ l.length) :
    slice (l ++ m) a b = slice l a b := by
  unfold slice
  by_cases hab : a ≤ l.length
  · rw [List.drop_append_of_le_length hab, List.take_append_of_le_length (by simp; omega)]
  · have h0 : b - a = 0 := by omega
    simp [h0]

theorem slice_append_slice {α : Type} (l : List α) (a b c : Nat) (h1 : a ≤ b) (h2 : b ≤ c) :
    slice l a b ++ slice l b c = slice l a c := by
  unfold slice
  have e : c - a = (b - a) + (c - b) := by omega
  rw [e, List.take_add]
  congr 1
  rw [List.drop_drop]
  congr 2
  omega

theorem slice_self {α : Type} (l : List α) (a : Nat) : slice l a a = [] := by simp [slice]

theorem sel_append (cfg : Cfg) (f : Ev → Bool) (a b : List Ev) : sel cfg f (a ++ b) = sel cfg f a ++ sel cfg f b := by
  unfold sel; split <;> simp

theorem sel_nil (cfg : Cfg) (f : Ev → Bool) : sel cfg f [] = [] := by unfold sel; split <;> simp

theorem proj_append_map_self (s : Nat) (dest : List (Nat × Ev)) (evs : List Ev) (f : Ev → Ev) :
    proj s (dest ++ evs.map (fun e => (s, f e))) = proj s dest ++ evs.map f := by
  unfold proj
  rw [List.filter_append, List.map_append]
  congr 1
  induction evs with
  | nil => rfl
  | cons e es ih => simp [ih]

theorem proj_append_map_ne (s s' : Nat) (dest : List (Nat × Ev)) (evs : List Ev) (f : Ev → Ev) (h : s' ≠ s) :
    proj s' (dest ++ evs.map (fun e => (s, f e))) = proj s' dest := by
  unfold proj
  rw [List.filter_append, List.map_append]
  have : (evs.map (fun e => (s, f e))).filter (fun x => x.1 == s') = [] := by
    induction evs with
    | nil => rfl
    | cons e es ih =>
      have hn : (s == s') = false := by simpa using (Ne.symm h)
      simp [hn, ih]
  rw [this]; simp

theorem ite_lt_mono {a b t x fa fb : Nat} (h : a ≤ b) (hx : x ≤ fb) (hf : fa ≤ fb) :
    (if a < t then x else fa) ≤ (if b < t then x else fb) := by
  by_cases hb : b < t
  · rw [if_pos hb, if_pos (Nat.lt_of_le_of_lt h hb)]; exact Nat.le_refl _
  · rw [if_neg hb]
    by_cases ha : a < t
    · rw [if_pos ha]; exact hx
    · rw [if_neg ha]; exact hf

theorem le_ite {c : Prop} [Decidable c] {x y z : Nat} (h1 : x ≤ y) (h2 : x ≤ z) : x ≤ if c then y else z := by
  split <;> assumption

/-! `step` is a function with its guards folded into `if`s and `match`es. `Step` is the same LTS as a relation: one constructor
per enabled branch, the guard as hypotheses, the successor written out. Every proof by cases on the label goes through
`Step.of_step`, so the guards are analysed once. -/
inductive Step (cfg : Cfg) (st : State) : Label → State → Prop
  | write (s : Nat) (batch : List Ev) (hup : st.down = false) (hs : s < st.n) :
      Step cfg st (.write s batch)
        { st with srcs := upd st.srcs s { st.srcs s with log := (st.srcs s).log ++ batch },
                  pend := if batch.isEmpty then st.pend
                          else st.pend ++ [⟨s, (st.srcs s).log.length, (st.srcs s).log.length + batch.length⟩] }
  | enqueue (i : Nat) (we : WE) (hwe : st.pend[i]? = some we) (hup : st.down = false)
      (hcap : st.chan.length < cfg.chanCap) :
      Step cfg st (.enqueue i) { st with pend := st.pend.eraseIdx i, chan := st.chan ++ [we] }
  | notifyHit (we : WE) (rest : List WE) (hup : st.down = false) (hcl : st.closed = false) (hch : st.chan = we :: rest)
      (hit : (pipesForSource st we.src).1 = true) :
      Step cfg st .notify
        { st with chan := rest, cache := (pipesForSource st we.src).2,
                  srcs := upd st.srcs we.src (onWriteEvent (noStart cfg st) (st.srcs we.src) we) }
  | notifyMiss (we : WE) (rest : List WE) (hup : st.down = false) (hcl : st.closed = false) (hch : st.chan = we :: rest)
      (hit : (pipesForSource st we.src).1 = false) :
      Step cfg st .notify { st with chan := rest, cache := (pipesForSource st we.src).2 }
  | wopen (s : Nat) (d : Desc) (hwk : (st.srcs s).wk = .starting) (hd : (st.srcs s).desc = some d) :
      Step cfg st (.wopen s) { st with srcs := upd st.srcs s { st.srcs s with wk := .opened d.pos } }
  | wcopy (s k c : Nat) (hwk : (st.srcs s).wk = .opened c) (hcl : st.closed = false) (hlive : st.pipe = .live) :
      Step cfg st (.wcopy s k)
        { st with dest := st.dest ++ (sel cfg st.flt (slice (st.srcs s).log c (min (c + k) (st.srcs s).log.length))).map
                            (fun e => (s, addProv (st.srcs s).prov e)),
                  srcs := upd st.srcs s { st.srcs s with wk := .written (min (c + k) (st.srcs s).log.length) } }
  | wsave (s c : Nat) (d : Desc) (hwk : (st.srcs s).wk = .written c) (hd : (st.srcs s).desc = some d) :
      Step cfg st (.wsave s)
        { st with srcs := fun s' =>
            { upd st.srcs s { st.srcs s with wk := .opened c, desc := some { d with pos := c } } s' with
              saved := (upd st.srcs s { st.srcs s with wk := .opened c, desc := some { d with pos := c } } s').desc } }
  | wtimeout (s : Nat) (hwk : (st.srcs s).wk = .starting ∨ ∃ c, (st.srcs s).wk = .opened c) :
      Step cfg st (.wtimeout s) { st with srcs := upd st.srcs s { st.srcs s with wk := .finishing } }
  | wdone (s : Nat) (d : Desc) (hwk : (st.srcs s).wk = .finishing) (hd : (st.srcs s).desc = some d) :
      Step cfg st (.wdone s)
        { st with srcs := upd st.srcs s (if cfg.rearm then
            startWorker (noStart cfg st) { st.srcs s with wk := .none, desc := some { d with charged := false } }
              { d with charged := false }
          else { st.srcs s with wk := .none, desc := some { d with charged := false } }) }
  | create (hup : st.down = false) (hp : st.pipe = .absent) :
      Step cfg st .create
        { st with pipe := .live, cache := if cfg.dropOnCreate then fun _ => none else st.cache,
                  reg := if cfg.saveOnCreate then true else st.reg,
                  srcs := fun s => { st.srcs s with createdAt := (st.srcs s).log.length } }
  | delete (hup : st.down = false) (hp : st.pipe = .live) :
      Step cfg st .delete
        { st with pipe := .deleted, cache := if cfg.dropOnDelete then fun _ => none else st.cache,
                  reg := if cfg.saveOnDelete then false else st.reg }
  | shutdown (hup : st.down = false) (hcl : st.closed = false) : Step cfg st .shutdown { st with closed := true }
  | halt (hcl : st.closed = true) (hup : st.down = false) (hidle : allIdle st = true) :
      Step cfg st .halt
        { st with down := true, chan := [], pend := [], reg := if cfg.saveOnShutdown then st.pipe == .live else st.reg }
  | restart (hdn : st.down = true) :
      Step cfg st .restart
        { st with down := false, closed := false, cache := fun _ => none,
                  pipe := if st.reg then .live else (match st.pipe with | .live => .absent | p => p),
                  srcs := fun s => { st.srcs s with
                    desc := (st.srcs s).saved.map (fun d => { d with charged := false, stale := decide (d.pos < d.lastKnown) }) } }

theorem Step.of_step {cfg : Cfg} {st st' : State} {l : Label} (h : step cfg st l = some st') : Step cfg st l st' := by
  cases l with
  | write s batch =>
    simp only [step, Option.ite_none_left_eq_some, Bool.or_eq_true, decide_eq_true_eq, not_or, Bool.not_eq_true, Nat.not_le,
      Option.some.injEq] at h
    obtain ⟨hg, rfl⟩ := h
    exact .write s batch hg.1 hg.2
  | enqueue i =>
    simp only [step] at h
    split at h
    · cases h
    · rename_i we hwe
      simp only [Option.ite_none_left_eq_some, Bool.or_eq_true, decide_eq_true_eq, not_or, Bool.not_eq_true, Nat.not_le,
        Option.some.injEq] at h
      obtain ⟨hg, rfl⟩ := h
      exact .enqueue i we hwe hg.1 hg.2
  | notify =>
    simp only [step, Option.ite_none_left_eq_some, Bool.or_eq_true, not_or, Bool.not_eq_true] at h
    obtain ⟨hg, h⟩ := h
    split at h
    · cases h
    · rename_i we rest hch
      split at h
      · rename_i hit; cases h; exact .notifyHit we rest hg.1 hg.2 hch hit
      · rename_i hit; cases h; exact .notifyMiss we rest hg.1 hg.2 hch (by simpa using hit)
  | wopen s =>
    simp only [step] at h
    split at h
    · rename_i d hwk hd; cases h; exact .wopen s d hwk hd
    · cases h
  | wcopy s k =>
    simp only [step] at h
    split at h
    · rename_i c hwk
      simp only [Option.ite_none_left_eq_some, Bool.or_eq_true, bne_iff_ne, ne_eq, not_or, Bool.not_eq_true,
        Decidable.not_not, Option.some.injEq] at h
      obtain ⟨hg, rfl⟩ := h
      exact .wcopy s k c hwk hg.1 hg.2
    · cases h
  | wsave s =>
    simp only [step] at h
    split at h
    · rename_i c d hwk hd; cases h; exact .wsave s c d hwk hd
    · cases h
  | wtimeout s =>
    simp only [step] at h
    split at h
    · rename_i c hwk; cases h; exact .wtimeout s (.inr ⟨c, hwk⟩)
    · rename_i hwk; cases h; exact .wtimeout s (.inl hwk)
    · cases h
  | wdone s =>
    simp only [step] at h
    split at h
    · rename_i d hwk hd; cases h; exact .wdone s d hwk hd
    · cases h
  | create =>
    simp only [step, Option.ite_none_left_eq_some, Bool.or_eq_true, bne_iff_ne, ne_eq, not_or, Bool.not_eq_true,
      Decidable.not_not, Option.some.injEq] at h
    obtain ⟨hg, rfl⟩ := h
    exact .create hg.1 hg.2
  | delete =>
    simp only [step, Option.ite_none_left_eq_some, Bool.or_eq_true, bne_iff_ne, ne_eq, not_or, Bool.not_eq_true,
      Decidable.not_not, Option.some.injEq] at h
    obtain ⟨hg, rfl⟩ := h
    exact .delete hg.1 hg.2
  | shutdown =>
    simp only [step, Option.ite_none_left_eq_some, Bool.or_eq_true, not_or, Bool.not_eq_true, Option.some.injEq] at h
    obtain ⟨hg, rfl⟩ := h
    exact .shutdown hg.1 hg.2
  | halt =>
    simp only [step, Option.ite_none_right_eq_some, Bool.and_eq_true, Bool.not_eq_true', Option.some.injEq] at h
    obtain ⟨hg, rfl⟩ := h
    exact .halt hg.1.1 hg.1.2 hg.2
  | restart =>
    simp only [step, Option.ite_none_right_eq_some, Option.some.injEq] at h
    obtain ⟨hdn, rfl⟩ := h
    exact .restart hdn

theorem Step.to_step {cfg : Cfg} {st st' : State} {l : Label} (h : Step cfg st l st') : step cfg st l = some st' := by
  cases h with
  | write s batch hup hs => simp [step, hup, Nat.not_le.mpr hs]
  | enqueue i we hwe hup hcap => simp [step, hwe, hup, Nat.not_le.mpr hcap]
  | wtimeout s hwk => rcases hwk with hwk | ⟨c, hwk⟩ <;> simp [step, hwk]
  | restart hdn => simp only [step, hdn, if_true]; rfl
  | _ => simp [step, *]

theorem run_append (cfg : Cfg) (st : State) (a b : List Label) : run cfg st (a ++ b) = run cfg (run cfg st a) b := by
  induction a generalizing st with
  | nil => rfl
  | cons l ls ih =>
    simp only [List.cons_append, run]
    cases step cfg st l <;> exact ih _

theorem upd_upd {α : Type} (f : Nat → α) (s : Nat) (a b : α) : upd (upd f s a) s b = upd f s b := by
  funext x
  simp only [upd]
  split <;> rfl

theorem state_ext' (a b : State) (h1 : a.n = b.n) (h2 : a.srcs = b.srcs) (h3 : a.dest = b.dest) (h4 : a.chan = b.chan)
    (h5 : a.pend = b.pend) (h6 : a.pipe = b.pipe) (h7 : a.cache = b.cache) (h8 : a.others = b.others) (h9 : a.flt = b.flt)
    (h10 : a.closed = b.closed) (h11 : a.down = b.down) (h12 : a.reg = b.reg) : a = b := by
  cases a; cases b; simp_all

theorem run_inv {cfg : Cfg} {P : State → Prop} (hstep : ∀ st l st', P st → Step cfg st l st' → P st')
    (st : State) (ls : List Label) (h : P st) : P (run cfg st ls) := by
  induction ls generalizing st with
  | nil => exact h
  | cons l ls ih =>
    simp only [run]
    cases hs : step cfg st l with
    | none => exact ih st h
    | some st' => exact ih st' (hstep st l st' h (.of_step hs))

/-! ### the invariant -/

/-- where the worker's cursor stands: after `Journals.Write` returned it is ahead of the saved `Pos` -/
def curOf (σ : SrcSt) (d : Desc) : Nat := match σ.wk with
  | .written c => c
  | _ => d.pos

def DInv (cfg : Cfg) (flt : Ev → Bool) (σ : SrcSt) (d : Desc) (P : List Ev) : Prop :=
  d.start ≤ d.pos ∧ d.pos ≤ curOf σ d ∧ curOf σ d ≤ σ.log.length ∧
  (d.charged = false ↔ σ.wk = .none) ∧
  (∀ c, σ.wk = .opened c → c = d.pos) ∧
  P = (sel cfg flt (slice σ.log d.start (curOf σ d))).map (addProv σ.prov) ∧
  (∀ sv, σ.saved = some sv → sv.pos = d.pos ∧ sv.start = d.start) ∧
  (σ.saved = none → d.pos = d.start)

def SInv (cfg : Cfg) (flt : Ev → Bool) (σ : SrcSt) (P : List Ev) : Prop :=
  (σ.desc = none → P = [] ∧ σ.wk = .none ∧ σ.saved = none) ∧
  (∀ d, σ.desc = some d → DInv cfg flt σ d P)

def WEInv (st : State) (we : WE) : Prop :=
  we.src < st.n ∧ we.startPos ≤ we.endPos ∧ we.endPos ≤ (st.srcs we.src).log.length

/-- the invariant of the pipe LTS -/
def GInv (cfg : Cfg) (st : State) : Prop :=
  (∀ s, SInv cfg st.flt (st.srcs s) (proj s st.dest)) ∧
  (∀ we, we ∈ st.chan ++ st.pend → WEInv st we) ∧
  (∀ s, st.n ≤ s → (st.srcs s).desc = none) ∧
  (st.down = true → ∀ s, (st.srcs s).wk = .none)

/-- `no_stranded_data`: a descriptor with data behind `LastKnwnPos` has a worker (outside shutdown; `stale` marks a
descriptor loaded by a restart from a stop that was not quiescent) -/
def NS (cfg : Cfg) (st : State) : Prop :=
  ∀ s d, (st.srcs s).desc = some d → noStart cfg st = true ∨ d.charged = true ∨ ¬ d.pos < d.lastKnown ∨ d.stale = true

theorem ginv_init (cfg : Cfg) (n : Nat) (l : Nat → Bool) (p : Nat → Bytes) (f : Ev → Bool) (o : Bool) :
    GInv cfg (init n l p f o) := by
  refine ⟨?_, ?_, ?_, ?_⟩
  · intro s; constructor
    · intro _; simp [init, proj]
    · intro d h; simp [init] at h
  · intro we h; simp [init] at h
  · intro s _; simp [init]
  · intro hd; simp [init] at hd

/-- an `SInv` that does not depend on the fields a step changed -/
theorem sinv_congr (cfg : Cfg) (flt : Ev → Bool) (σ σ' : SrcSt) (P : List Ev)
    (h1 : σ'.desc = σ.desc) (h2 : σ'.wk = σ.wk) (h3 : σ'.saved = σ.saved) (h4 : σ'.log = σ.log) (h5 : σ'.prov = σ.prov)
    (h : SInv cfg flt σ P) : SInv cfg flt σ' P := by
  unfold SInv DInv curOf at *
  rw [h1, h2, h3, h4, h5]; exact h


theorem curOf_of_not_written {σ : SrcSt} {d : Desc} (h : ∀ c, σ.wk ≠ .written c) : curOf σ d = d.pos := by
  unfold curOf; split
  · rename_i c hc; exact absurd hc (h c)
  · rfl

theorem sinv_of_dinv {cfg : Cfg} {flt : Ev → Bool} {σ : SrcSt} {d : Desc} {P : List Ev} (hd : σ.desc = some d)
    (h : DInv cfg flt σ d P) : SInv cfg flt σ P := by
  constructor
  · intro hn; rw [hd] at hn; cases hn
  · intro d' hd'; rw [hd] at hd'; cases hd'; exact h

theorem dinv_startWorker (cfg : Cfg) (flt : Ev → Bool) (closed : Bool) (σ : SrcSt) (d : Desc) (P : List Ev)
    (h : DInv cfg flt { σ with desc := some d } d P) :
    SInv cfg flt (startWorker closed σ d) P := by
  unfold startWorker
  split
  · rename_i hc
    simp only [Bool.and_eq_true, Bool.not_eq_true', decide_eq_true_eq] at hc
    obtain ⟨a1, a2, a3, a4, a5, a6, a7, a8⟩ := h
    have hwk : σ.wk = .none := a4.mp hc.1.2
    simp only [curOf, hwk] at a2 a3 a6
    exact sinv_of_dinv rfl ⟨a1, a2, a3, by simp, (by intro c hc; cases hc), a6, a7, a8⟩
  · exact sinv_of_dinv rfl h

theorem sinv_onWriteEvent (cfg : Cfg) (flt : Ev → Bool) (closed : Bool) (σ : SrcSt) (we : WE) (P : List Ev)
    (h : SInv cfg flt σ P) (h1 : we.startPos ≤ we.endPos) (h2 : we.endPos ≤ σ.log.length) :
    SInv cfg flt (onWriteEvent closed σ we) P := by
  unfold onWriteEvent
  cases hd : σ.desc with
  | none =>
    obtain ⟨hP, hwk, hsv⟩ := h.1 hd
    apply dinv_startWorker
    refine ⟨Nat.le_refl _, by simp [curOf, hwk], by simp [curOf, hwk]; omega, by simp [hwk], by simp [hwk], ?_, by simp [hsv], by simp⟩
    simp [curOf, hwk, slice_self, sel_nil, hP]
  | some d => exact dinv_startWorker _ _ _ _ _ _ (h.2 d hd)

theorem sinv_grow {cfg : Cfg} {flt : Ev → Bool} {σ : SrcSt} {P : List Ev} (batch : List Ev) (h : SInv cfg flt σ P) :
    SInv cfg flt { σ with log := σ.log ++ batch } P := by
  refine ⟨h.1, fun d hd => ?_⟩
  obtain ⟨a1, a2, a3, a4, a5, a6, a7, a8⟩ := h.2 d hd
  refine ⟨a1, a2, ?_, a4, a5, ?_, a7, a8⟩
  · exact Nat.le_trans a3 (by simp)
  · show P = (sel cfg flt (slice (σ.log ++ batch) d.start (curOf σ d))).map (addProv σ.prov)
    rw [slice_append_left _ _ _ _ a3]; exact a6

/-- `wopen`, `wtimeout`: the program counter moves between states in which the cursor stands at the saved `Pos` -/
theorem sinv_pc {cfg : Cfg} {flt : Ev → Bool} {σ : SrcSt} {P : List Ev} (wk' : Wk) (h : SInv cfg flt σ P)
    (h0 : σ.wk ≠ .none) (h1 : ∀ c, σ.wk ≠ .written c) (h0' : wk' ≠ .none) (h1' : ∀ c, wk' ≠ .written c)
    (h2 : ∀ c d, wk' = .opened c → σ.desc = some d → c = d.pos) : SInv cfg flt { σ with wk := wk' } P := by
  constructor
  · intro hn; exact absurd (h.1 hn).2.1 h0
  · intro d hd
    obtain ⟨a1, a2, a3, a4, a5, a6, a7, a8⟩ := h.2 d hd
    have e' : curOf { σ with wk := wk' } d = d.pos := curOf_of_not_written h1'
    rw [curOf_of_not_written h1] at a3 a6
    refine ⟨a1, ?_, ?_, ⟨fun hc => absurd (a4.mp hc) h0, fun hw => absurd hw h0'⟩, fun c hc => h2 c d hc hd, ?_, a7, a8⟩
    · rw [e']; exact Nat.le_refl _
    · rw [e']; exact a3
    · rw [e']; exact a6

theorem sinv_wcopy {cfg : Cfg} {flt : Ev → Bool} {σ : SrcSt} {P : List Ev} (c k : Nat) (h : SInv cfg flt σ P)
    (hwk : σ.wk = .opened c) :
    SInv cfg flt { σ with wk := .written (min (c + k) σ.log.length) }
      (P ++ (sel cfg flt (slice σ.log c (min (c + k) σ.log.length))).map (addProv σ.prov)) := by
  constructor
  · intro hn; have := (h.1 hn).2.1; rw [hwk] at this; cases this
  · intro d hd
    obtain ⟨a1, a2, a3, a4, a5, a6, a7, a8⟩ := h.2 d hd
    have hcp : c = d.pos := a5 c hwk
    subst hcp
    simp only [curOf, hwk] at a3 a6
    have hle : d.pos ≤ min (d.pos + k) σ.log.length := by omega
    refine ⟨a1, hle, Nat.min_le_right _ _, ⟨fun hc => ?_, fun hw => (by cases hw)⟩, fun c hc => (by cases hc), ?_, a7, a8⟩
    · have := a4.mp hc; rw [hwk] at this; cases this
    · show _ = (sel cfg flt (slice σ.log d.start (min (d.pos + k) σ.log.length))).map (addProv σ.prov)
      rw [← slice_append_slice _ _ _ _ a1 hle, sel_append, List.map_append, a6]

/-- the per-source invariant without the two conjuncts about the positions file -/
def SInvW (cfg : Cfg) (flt : Ev → Bool) (σ : SrcSt) (P : List Ev) : Prop :=
  (σ.desc = none → P = [] ∧ σ.wk = .none) ∧
  (∀ d, σ.desc = some d → d.start ≤ d.pos ∧ d.pos ≤ curOf σ d ∧ curOf σ d ≤ σ.log.length ∧
    (d.charged = false ↔ σ.wk = .none) ∧ (∀ c, σ.wk = .opened c → c = d.pos) ∧
    P = (sel cfg flt (slice σ.log d.start (curOf σ d))).map (addProv σ.prov))

theorem sinvw_of_sinv (cfg : Cfg) (flt : Ev → Bool) (σ : SrcSt) (P : List Ev) (h : SInv cfg flt σ P) : SInvW cfg flt σ P := by
  constructor
  · intro hd; obtain ⟨b1, b2, _⟩ := h.1 hd; exact ⟨b1, b2⟩
  · intro d hd; obtain ⟨a1, a2, a3, a4, a5, a6, _, _⟩ := h.2 d hd; exact ⟨a1, a2, a3, a4, a5, a6⟩

/-- `savePipeInfo` writes the whole map: afterwards the file agrees with the descriptors -/
theorem sinv_resave (cfg : Cfg) (flt : Ev → Bool) (σ : SrcSt) (P : List Ev) (h : SInvW cfg flt σ P) :
    SInv cfg flt { σ with saved := σ.desc } P := by
  constructor
  · intro hd
    obtain ⟨b1, b2⟩ := h.1 hd
    exact ⟨b1, b2, hd⟩
  · intro d hd
    obtain ⟨a1, a2, a3, a4, a5, a6⟩ := h.2 d hd
    have hd' : σ.desc = some d := hd
    refine ⟨a1, a2, a3, a4, a5, a6, ?_, ?_⟩
    · intro sv hsv
      have : σ.desc = some sv := hsv
      rw [hd'] at this; cases this; exact ⟨rfl, rfl⟩
    · intro hn
      have : σ.desc = none := hn
      rw [hd'] at this; cases this

theorem sinvw_wsave {cfg : Cfg} {flt : Ev → Bool} {σ : SrcSt} {P : List Ev} {c : Nat} {d : Desc} (h : SInv cfg flt σ P)
    (hwk : σ.wk = .written c) (hd : σ.desc = some d) :
    SInvW cfg flt { σ with wk := .opened c, desc := some { d with pos := c } } P := by
  obtain ⟨a1, a2, a3, a4, _, a6, _, _⟩ := h.2 d hd
  simp only [curOf, hwk] at a2 a3 a6
  constructor
  · intro hn; cases hn
  · intro d' hd'
    cases hd'
    refine ⟨Nat.le_trans a1 a2, Nat.le_refl _, a3, ⟨fun hc => ?_, fun hw => (by cases hw)⟩, fun c' hc' => (by cases hc'; rfl), a6⟩
    have := a4.mp hc; rw [hwk] at this; cases this

theorem dinv_wdone {cfg : Cfg} {flt : Ev → Bool} {σ : SrcSt} {P : List Ev} {d : Desc} (h : SInv cfg flt σ P)
    (hwk : σ.wk = .finishing) (hd : σ.desc = some d) :
    DInv cfg flt { σ with wk := .none, desc := some { d with charged := false } } { d with charged := false } P := by
  obtain ⟨a1, a2, a3, _, _, a6, a7, a8⟩ := h.2 d hd
  simp only [curOf, hwk] at a2 a3 a6
  exact ⟨a1, Nat.le_refl _, a3, by simp, (by intro c hc; cases hc), a6, a7, a8⟩

theorem sinv_restart {cfg : Cfg} {flt : Ev → Bool} {σ : SrcSt} {P : List Ev} (h : SInv cfg flt σ P) (hwk : σ.wk = .none) :
    SInv cfg flt { σ with desc := σ.saved.map (fun d => { d with charged := false, stale := decide (d.pos < d.lastKnown) }) } P := by
  cases hsv : σ.saved with
  | none =>
    refine ⟨fun _ => ⟨?_, hwk, rfl⟩, fun d' hd' => by cases hd'⟩
    cases hd : σ.desc with
    | none => exact (h.1 hd).1
    | some d =>
      obtain ⟨_, _, _, _, _, a6, _, a8⟩ := h.2 d hd
      simp only [curOf, hwk] at a6
      rw [a6, a8 hsv, slice_self, sel_nil]; rfl
  | some sv =>
    cases hd : σ.desc with
    | none => have := (h.1 hd).2.2; rw [hsv] at this; cases this
    | some d =>
      obtain ⟨a1, _, a3, _, _, a6, a7, _⟩ := h.2 d hd
      obtain ⟨c1, c2⟩ := a7 sv hsv
      simp only [curOf, hwk] at a3 a6
      refine sinv_of_dinv rfl ⟨by simp only [c1, c2]; exact a1, by simp [curOf, hwk], by simp only [curOf, hwk, c1]; exact a3,
        by simp [hwk], by simp [hwk], by simp only [curOf, hwk, c1, c2]; exact a6, ?_, ?_⟩
      · intro sv' hsv'; cases hsv'; exact ⟨rfl, rfl⟩
      · intro hn; cases hn

/-! ### the steps -/

/-- a step that changes one source (and appends only that source's copies to the pipe partition) -/
theorem ginv_upd (cfg : Cfg) (st : State) (s : Nat) (σ' : SrcSt) (dest' : List (Nat × Ev)) (chan' pend' : List WE)
    (cache' : Nat → Option Bool)
    (h : GInv cfg st)
    (hs : SInv cfg st.flt σ' (proj s dest'))
    (hother : ∀ s', s' ≠ s → proj s' dest' = proj s' st.dest)
    (hlog : (st.srcs s).log.length ≤ σ'.log.length)
    (hwe : ∀ we, we ∈ chan' ++ pend' → we ∈ st.chan ++ st.pend ∨
      (we.src = s ∧ s < st.n ∧ we.startPos ≤ we.endPos ∧ we.endPos ≤ σ'.log.length))
    (hn : st.n ≤ s → σ'.desc = none)
    (hdn : st.down = true → σ'.wk = .none) :
    GInv cfg { st with srcs := upd st.srcs s σ', dest := dest', chan := chan', pend := pend', cache := cache' } := by
  obtain ⟨g1, g2, g3, g4⟩ := h
  refine ⟨?_, ?_, ?_, ?_⟩
  rotate_left 3
  · intro hd s'
    by_cases e : s' = s
    · subst e; simpa using hdn hd
    · simpa [upd_ne _ _ _ _ e] using g4 hd s'
  · intro s'
    by_cases e : s' = s
    · subst e; simpa using hs
    · simp only [upd_ne _ _ _ _ e, hother s' e]; exact g1 s'
  · intro we hw
    rcases hwe we hw with hold | ⟨e1, e2, e3, e4⟩
    · obtain ⟨b1, b2, b3⟩ := g2 we hold
      refine ⟨b1, b2, ?_⟩
      by_cases e : we.src = s
      · simp only [e, upd_self]; rw [e] at b3; omega
      · simpa [upd_ne _ _ _ _ e] using b3
    · refine ⟨by simpa [e1] using e2, e3, ?_⟩
      simp only [e1, upd_self]; exact e4
  · intro s' hs'
    by_cases e : s' = s
    · subst e; simpa using hn hs'
    · simpa [upd_ne _ _ _ _ e] using g3 s' hs'

theorem ginv_worker (cfg : Cfg) (st : State) (s : Nat) (σ' : SrcSt) (dest' : List (Nat × Ev)) (h : GInv cfg st)
    (hne : (st.srcs s).wk ≠ .none) (hs : SInv cfg st.flt σ' (proj s dest'))
    (hother : ∀ s', s' ≠ s → proj s' dest' = proj s' st.dest) (hlog : σ'.log = (st.srcs s).log) :
    GInv cfg { st with srcs := upd st.srcs s σ', dest := dest' } := by
  refine ginv_upd cfg st s σ' dest' st.chan st.pend st.cache h hs hother (by rw [hlog]; exact Nat.le_refl _)
    (fun _ hw => Or.inl hw) ?_ ?_
  · intro hn; exact absurd ((h.1 s).1 (h.2.2.1 s hn)).2.1 hne
  · intro hdn; exact absurd (h.2.2.2 hdn s) hne

theorem allIdle_spec (st : State) (h : allIdle st = true) (s : Nat) (hs : s < st.n) : (st.srcs s).wk = .none := by
  unfold allIdle at h
  rw [List.all_eq_true] at h
  have := h s (List.mem_range.mpr hs)
  simpa using this

theorem pfs_absent (st : State) (s : Nat) (hp : st.pipe = .absent) (hc : ∀ s, st.cache s ≠ some true) :
    (pipesForSource st s).1 = false ∧ ∀ s', (pipesForSource st s).2 s' ≠ some true := by
  unfold pipesForSource
  split
  · exact ⟨rfl, hc⟩
  · split
    · rename_i b hb
      refine ⟨?_, hc⟩
      cases b with
      | true => exact absurd hb (hc s)
      | false => rfl
    · refine ⟨by simp [hp], ?_⟩
      intro s'
      by_cases e : s' = s
      · subst e; simp [hp]
      · simp only [upd_ne _ _ _ _ e]; exact hc s'

theorem startWorker_start (σ : SrcSt) (d : Desc) (hc : d.charged = false) (hlt : d.pos < d.lastKnown) :
    startWorker false σ d = { σ with desc := some { d with charged := true, stale := false }, wk := .starting } := by
  simp [startWorker, hc, hlt]

theorem startWorker_skip (c : Bool) (σ : SrcSt) (d : Desc) (h : c = true ∨ d.charged = true ∨ ¬ d.pos < d.lastKnown) :
    startWorker c σ d = { σ with desc := some d } := by
  rcases h with h | h | h <;> simp [startWorker, h]

theorem startWorker_log (c : Bool) (σ : SrcSt) (d : Desc) : (startWorker c σ d).log = σ.log := by
  unfold startWorker; split <;> rfl

theorem onWriteEvent_log (c : Bool) (σ : SrcSt) (we : WE) : (onWriteEvent c σ we).log = σ.log := by
  unfold onWriteEvent; split <;> exact startWorker_log _ _ _

theorem step_ginv {cfg : Cfg} {st st' : State} {l : Label} (h : GInv cfg st) (hs : Step cfg st l st') : GInv cfg st' := by
  obtain ⟨g1, g2, g3, g4⟩ := h
  cases hs with
  | write s batch hup hlt =>
    refine ginv_upd cfg st s _ st.dest st.chan _ st.cache ⟨g1, g2, g3, g4⟩ (sinv_grow batch (g1 s)) (fun _ _ => rfl) (by simp)
      ?_ (fun hn => absurd hlt (Nat.not_lt.mpr hn)) (fun hd => g4 hd s)
    intro we hw
    cases batch with
    | nil => exact Or.inl hw
    | cons b bs =>
      simp only [List.isEmpty_cons, Bool.false_eq_true, if_false, ← List.append_assoc, List.mem_append, List.mem_singleton] at hw
      rcases hw with hw | hw
      · exact Or.inl (List.mem_append.mpr hw)
      · subst hw; exact Or.inr ⟨rfl, hlt, by simp, by simp⟩
  | enqueue i we hwe hup hcap =>
    refine ⟨g1, fun w hw => g2 w ?_, g3, g4⟩
    simp only [List.mem_append, List.mem_singleton] at hw ⊢
    rcases hw with (hw | hw) | hw
    · exact Or.inl hw
    · subst hw; exact Or.inr (List.mem_of_getElem? hwe)
    · exact Or.inr (List.mem_of_mem_eraseIdx hw)
  | notifyHit we rest hup hcl hch hit =>
    have hweI : WEInv st we := g2 we (by simp [hch])
    refine ginv_upd cfg st we.src _ st.dest rest st.pend _ ⟨g1, g2, g3, g4⟩
      (sinv_onWriteEvent cfg st.flt _ _ we _ (g1 we.src) hweI.2.1 hweI.2.2) (fun _ _ => rfl)
      (by rw [onWriteEvent_log]; exact Nat.le_refl _) ?_ (fun hn => absurd hweI.1 (Nat.not_lt.mpr hn))
      (fun hd => by rw [hup] at hd; cases hd)
    intro w hw; left; rw [hch]
    simp only [List.mem_append, List.mem_cons] at hw ⊢
    rcases hw with hw | hw
    · exact Or.inl (Or.inr hw)
    · exact Or.inr hw
  | notifyMiss we rest hup hcl hch hit =>
    refine ⟨g1, fun w hw => g2 w ?_, g3, g4⟩
    rw [hch]
    simp only [List.mem_append, List.mem_cons] at hw ⊢
    rcases hw with hw | hw
    · exact Or.inl (Or.inr hw)
    · exact Or.inr hw
  | wopen s d hwk hd =>
    refine ginv_worker cfg st s _ st.dest ⟨g1, g2, g3, g4⟩ (by rw [hwk]; simp) ?_ (fun _ _ => rfl) rfl
    refine sinv_pc _ (g1 s) (by rw [hwk]; simp) (by rw [hwk]; simp) (by simp) (by simp) ?_
    intro c d' hc hd'; rw [hd] at hd'; cases hd'; cases hc; rfl
  | wcopy s k c hwk hcl hlive =>
    refine ginv_worker cfg st s _ _ ⟨g1, g2, g3, g4⟩ (by rw [hwk]; simp) ?_ (fun s' hne => proj_append_map_ne s s' _ _ _ hne) rfl
    rw [proj_append_map_self]; exact sinv_wcopy c k (g1 s) hwk
  | wsave s c d hwk hd =>
    refine ⟨fun s' => sinv_resave _ _ _ _ ?_, fun we hw => ?_, fun s' hs' => ?_, fun hdn => ?_⟩
    · by_cases e : s' = s
      · subst e; rw [upd_self]; exact sinvw_wsave (g1 s') hwk hd
      · rw [upd_ne _ _ _ _ e]; exact sinvw_of_sinv _ _ _ _ (g1 s')
    · obtain ⟨b1, b2, b3⟩ := g2 we hw
      refine ⟨b1, b2, ?_⟩
      by_cases e : we.src = s
      · simp only [e, upd_self]; rw [e] at b3; exact b3
      · simpa [upd_ne _ _ _ _ e] using b3
    · by_cases e : s' = s
      · subst e; have := g3 s' hs'; rw [hd] at this; cases this
      · simpa [upd_ne _ _ _ _ e] using g3 s' hs'
    · have := g4 hdn s; rw [hwk] at this; cases this
  | wtimeout s hwk =>
    have h01 : (st.srcs s).wk ≠ .none ∧ ∀ c, (st.srcs s).wk ≠ .written c := by
      rcases hwk with hwk | ⟨c, hwk⟩ <;> rw [hwk] <;> simp
    exact ginv_worker cfg st s _ st.dest ⟨g1, g2, g3, g4⟩ h01.1
      (sinv_pc _ (g1 s) h01.1 h01.2 (by simp) (by simp) (by intro c d hc; cases hc)) (fun _ _ => rfl) rfl
  | wdone s d hwk hd =>
    have hD := dinv_wdone (g1 s) hwk hd
    refine ginv_worker cfg st s _ st.dest ⟨g1, g2, g3, g4⟩ (by rw [hwk]; simp) ?_ (fun _ _ => rfl) ?_
    · split
      · exact dinv_startWorker cfg st.flt _ _ _ _ hD
      · exact sinv_of_dinv rfl hD
    · split
      · exact startWorker_log _ _ _
      · rfl
  | create hup hp =>
    exact ⟨fun s => sinv_congr cfg st.flt (st.srcs s) _ _ rfl rfl rfl rfl rfl (g1 s), g2, g3, g4⟩
  | delete hup hp => exact ⟨g1, g2, g3, g4⟩
  | shutdown hup hcl => exact ⟨g1, g2, g3, g4⟩
  | halt hcl hup hidle =>
    refine ⟨g1, fun we hw => (by cases hw), g3, fun _ s => ?_⟩
    by_cases e : s < st.n
    · exact allIdle_spec st hidle s e
    · exact ((g1 s).1 (g3 s (by omega))).2.1
  | restart hdn =>
    refine ⟨fun s => sinv_restart (g1 s) (g4 hdn s), g2, fun s hs' => ?_, fun hd => (by cases hd)⟩
    have := ((g1 s).1 (g3 s hs')).2.2
    simp [this]

theorem run_ginv (cfg : Cfg) (st : State) (ls : List Label) (h : GInv cfg st) : GInv cfg (run cfg st ls) :=
  run_inv (fun _ _ _ h hs => step_ginv h hs) st ls h

/-! ### no stranded data -/

def NSd (closed : Bool) (d : Desc) : Prop :=
  closed = true ∨ d.charged = true ∨ ¬ d.pos < d.lastKnown ∨ d.stale = true

theorem ns_startWorker (closed : Bool) (σ : SrcSt) (d d' : Desc) (h : (startWorker closed σ d).desc = some d') :
    NSd closed d' := by
  unfold startWorker at h
  split at h
  · cases h; exact Or.inr (Or.inl rfl)
  · rename_i hc
    cases h
    simp only [Bool.and_eq_true, Bool.not_eq_true', decide_eq_true_eq, not_and] at hc
    cases hcl : closed with
    | true => exact Or.inl rfl
    | false =>
      cases hch : d.charged with
      | true => exact Or.inr (Or.inl hch)
      | false => exact Or.inr (Or.inr (Or.inl (hc ⟨hcl, hch⟩)))

theorem ns_onWriteEvent (closed : Bool) (σ : SrcSt) (we : WE) (d' : Desc) (h : (onWriteEvent closed σ we).desc = some d') :
    NSd closed d' := by
  unfold onWriteEvent at h
  split at h <;> exact ns_startWorker _ _ _ _ h

/-- a step that changes the descriptor of at most one source to a non-stranded one -/
theorem ns_upd (cfg : Cfg) (st : State) (s : Nat) (σ' : SrcSt) (h : NS cfg st)
    (hs : ∀ d, σ'.desc = some d → NSd (noStart cfg st) d) :
    ∀ s' d, (upd st.srcs s σ' s').desc = some d → NSd (noStart cfg st) d := by
  intro s' d hd
  by_cases e : s' = s
  · subst e; simp only [upd_self] at hd; exact hs d hd
  · rw [upd_ne _ _ _ _ e] at hd; exact h s' d hd

theorem nsd_mono (b b' : Bool) (d : Desc) (hb : b = true → b' = true) (h : NSd b d) : NSd b' d := by
  rcases h with h | h
  · exact Or.inl (hb h)
  · exact Or.inr h

theorem step_ns {cfg : Cfg} (hre : cfg.rearm = true) {st st' : State} {l : Label} (hg : GInv cfg st) (h : NS cfg st)
    (hs : Step cfg st l st') : NS cfg st' := by
  have same : ∀ σ' : SrcSt, ∀ s, σ'.desc = (st.srcs s).desc → ∀ d, σ'.desc = some d → NSd (noStart cfg st) d := by
    intro σ' s e d hd; rw [e] at hd; exact h s d hd
  cases hs with
  | write s b hup hlt => exact ns_upd cfg st s _ h (same _ s rfl)
  | enqueue i we hwe hup hcap => exact h
  | notifyHit we rest hup hcl hch hit => exact ns_upd cfg st _ _ h (fun d hd => ns_onWriteEvent _ _ _ d hd)
  | notifyMiss we rest hup hcl hch hit => exact h
  | wopen s d hwk hd => exact ns_upd cfg st s _ h (same _ s rfl)
  | wcopy s k c hwk hcl hlive => exact ns_upd cfg st s _ h (same _ s rfl)
  | wsave s c d hwk hd =>
    -- a worker between its write and `saveState` is charged
    refine ns_upd cfg st s _ h ?_
    intro d2 hd2; cases hd2
    cases hch : d.charged with
    | true => exact Or.inr (Or.inl rfl)
    | false => have := ((hg.1 s).2 d hd).2.2.2.1.mp hch; rw [hwk] at this; cases this
  | wtimeout s hwk => exact ns_upd cfg st s _ h (same _ s rfl)
  | wdone s d hwk hd =>
    simp only [hre, if_true]
    exact ns_upd cfg st s _ h (fun d hd => ns_startWorker _ _ _ d hd)
  | create hup hp =>
    intro s d hd
    refine nsd_mono _ _ d ?_ (h s d hd)
    simp [noStart, hp]
  | delete hup hp =>
    intro s d hd
    refine nsd_mono _ _ d ?_ (h s d hd)
    simp only [noStart, Bool.or_eq_true, hp]
    rintro (hb | hb)
    · exact Or.inl hb
    · simp at hb
  | shutdown hup hcl => intro s d _; exact Or.inl (by simp [noStart])
  | halt hcl hup hidle => exact h
  | restart hdn =>
    intro s d hd
    cases hsv : (st.srcs s).saved with
    | none => simp [hsv] at hd
    | some sv =>
      simp only [hsv, Option.map_some, Option.some.injEq] at hd; subst hd
      by_cases hlt : sv.pos < sv.lastKnown
      · exact Or.inr (Or.inr (Or.inr (by simp [hlt])))
      · exact Or.inr (Or.inr (Or.inl hlt))

theorem run_ns (cfg : Cfg) (hre : cfg.rearm = true) (st : State) (ls : List Label) (hg : GInv cfg st) (h : NS cfg st) :
    NS cfg (run cfg st ls) :=
  (run_inv (P := fun st => GInv cfg st ∧ NS cfg st) (fun _ _ _ h hs => ⟨step_ginv h.1 hs, step_ns hre h.1 h.2 hs⟩) st ls ⟨hg, h⟩).2

end Logrange.PipeLts

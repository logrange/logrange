import Logrange.Proofs.Mixer
import Logrange.Proofs.MixerJournal
import Logrange.Proofs.RdRngFwd
import Logrange.Proofs.RdRngBwd
/-!
# The RANGED journal iterator is a lawful source of the mixer (C04/C09 on partitions read with RANGE)

`RSrc` is what `newCursor` makes of one partition when the query has a RANGE: `LogEventIterator{tags, it}` over
`partition.JIterator` (`Logrange.Rd.RIt`, `Model/RdSelector.lean`). Its stream (`view`) is the list of records the chunk
windows ADMIT (`wflat`), from the iterator's index on (forward) or at/before its position in reverse (backward); the range
re-check happens above the mixer tree, in the `fiterator`. `instLawfulRSrc` discharges C04's leaf contract `LawfulSource`
(read-only import of `Proofs/Mixer.lean`) from `rGetFwd`/`rNextFwd`/`rGetBwd`/`rNextBwd`/`rw_release_facts`, exactly as
`instLawfulJSrc` does for the library iterator.
-/
namespace Logrange.Mixer
open Logrange.Rd

/-- `LogEventIterator{tags, it}` over a `partition.JIterator` on journal `j` (chunk values carry their windows) -/
structure RSrc where
  tags : Nat
  j : Journal
  it : Rd.RIt := {}

instance : Inhabited RSrc := ⟨⟨0, [], {}⟩⟩

namespace RSrc

def ev (s : RSrc) (r : Rd.Rec) : Ev := ⟨r.ts, r.lbl, s.tags⟩

def get (s : RSrc) : RSrc × Option Ev := ({ s with it := (Rd.rGet s.j s.it).1 }, (Rd.rGet s.j s.it).2.map s.ev)
def next (s : RSrc) : RSrc := { s with it := Rd.rNext s.j s.it }
def release (s : RSrc) : RSrc := { s with it := Rd.rRelease s.it }
def setBackward (bk : Bool) (s : RSrc) : RSrc := { s with it := Rd.rSetBackward s.it bk }

instance : Source RSrc := ⟨get, next, release, setBackward⟩

/-- everything the windows of the partition admit, in stored order, as events under its tag line -/
def all (s : RSrc) : List Ev := (wflat s.j).map s.ev

def view (s : RSrc) : List Ev :=
  if s.it.bkwd then (((wflat s.j).take (wbCount s.j s.it)).reverse).map s.ev
  else ((wflat s.j).drop (wIdx s.j s.it)).map s.ev

def wf (s : RSrc) : Prop := Sorted s.j ∧ PosIds s.j ∧ bw_ChunkBound s.j ∧ RWF s.j s.it

theorem view_of (s : RSrc) (it' : Rd.RIt) :
    ({ s with it := it' } : RSrc).view =
      if it'.bkwd then (((wflat s.j).take (wbCount s.j it')).reverse).map s.ev
      else ((wflat s.j).drop (wIdx s.j it')).map s.ev := rfl

theorem view_eq (s : RSrc) : s.view = (rSpecDrain s.j s.it).map s.ev := by
  unfold view
  cases hb : s.it.bkwd with
  | false => rw [rSpecDrain_fwd hb]; rfl
  | true => rw [rSpecDrain_bwd hb]; rfl

theorem get_spec (s : RSrc) (h : s.wf) :
    s.get.2 = s.view.head? ∧ s.get.1.view = s.view ∧ s.get.1.wf ∧ s.get.1.it.bkwd = s.it.bkwd := by
  obtain ⟨hs, hp, hb, hw⟩ := h
  obtain ⟨g1, g2, g3, g4⟩ := rGet_view hs (fun _ => ⟨hp, hb⟩) hw
  rw [view_eq, view_eq, List.head?_map]
  exact ⟨congrArg (Option.map s.ev) g1, congrArg (List.map s.ev) g2, ⟨hs, hp, hb, g3⟩, g4⟩

theorem next_spec (s : RSrc) (h : s.wf) :
    s.next.view = s.view.tail ∧ s.next.wf ∧ s.next.it.bkwd = s.it.bkwd := by
  obtain ⟨hs, hp, hb, hw⟩ := h
  obtain ⟨n1, n2, n3⟩ := rNext_view hs (fun _ => ⟨hp, hb⟩) hw
  rw [view_eq, view_eq, ← List.map_tail]
  exact ⟨congrArg (List.map s.ev) n1, ⟨hs, hp, hb, n2⟩, n3⟩

theorem release_spec (s : RSrc) (h : s.wf) :
    s.release.view = s.view ∧ s.release.wf ∧ s.release.it.bkwd = s.it.bkwd := by
  obtain ⟨hs, hp, hb, hw⟩ := h
  obtain ⟨r1, r2, r3, _, _, r6⟩ := rw_release_facts s.j s.it
  simp only [release, view_of]
  refine ⟨?_, ⟨hs, hp, hb, r1 hw⟩, r3⟩
  simp only [view, r3, wIdx, r2, r6]

/-- **the ranged journal iterator under `LogEventIterator` meets the mixer's leaf contract** -/
instance instLawfulRSrc : LawfulSource RSrc where
  view := view
  dir s := s.it.bkwd
  wf := wf
  settled _ := True          -- `JIterator.Next` starts with a `Get` of its own
  get_spec s h := by
    obtain ⟨a, b, c, d⟩ := get_spec s h
    exact ⟨a, b, c, d, trivial⟩
  next_spec s h _ := next_spec s h
  release_spec s h := by
    obtain ⟨a, b, c⟩ := release_spec s h
    exact ⟨a, b, c, fun _ => trivial⟩
  setBackward_spec bk s h := ⟨⟨h.1, h.2.1, h.2.2.1, (rw_setBackward_facts s.j s.it bk).1 h.2.2.2⟩, rfl⟩

/-- a new cursor's ranged iterator ("head"): everything the windows admit is still to come -/
theorem view_head (tags : Nat) (j : Journal) : (⟨tags, j, {}⟩ : RSrc).view = (⟨tags, j, {}⟩ : RSrc).all := by
  simp [view, all, wIdx, rEffPos, Rd.RIt.pos, rw_wflatIdx_zero j]

/-- a ranged iterator placed behind every chunk (`tail`) and switched backward: all admitted records, newest first -/
theorem view_tail_backward (tags : Nat) (j : Journal) (cid idx : Nat) (h : ∀ c ∈ j, c.id < cid) :
    (setBackward true (⟨tags, j, { cid := cid, idx := idx }⟩ : RSrc)).view = (⟨tags, j, {}⟩ : RSrc).all.reverse := by
  have hb : wbCount j { cid := cid, idx := idx, bkwd := true } = (wflat j).length := by
    exact (wbCount_none rfl).trans (wflatIdx_of_gt h)
  simp only [setBackward, Rd.rSetBackward, view, all, hb, if_true, List.take_length, List.map_reverse]
  rfl

end RSrc
end Logrange.Mixer

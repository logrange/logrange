import Logrange.Model.Quote
/-! Runes and hex digits of the `strconv` model: `utf8.AppendRune` / `utf8.DecodeRune` invert each other; `readHex` reads
`hexN` for the `\x`, `\u`, `\U` escapes (2, 4, 8 digits) by one induction on the number of digits. -/
namespace Logrange.Proofs.Quote
open Go Logrange.Quote

theorem ne_of_toNat_ne {x y : UInt8} (h : x.toNat ≠ y.toNat) : x ≠ y := fun e => h (by rw [e])

theorem b_toNat (x : UInt8) : b x.toNat = x := by simp [b]
theorem toNat_b (n : Nat) (h : n < 256) : (b n).toNat = n := by simp [b, UInt8.toNat_ofNat']; omega

theorem validRune_iff (r : Nat) : validRune r = true ↔ r < 0xD800 ∨ (0xE000 ≤ r ∧ r ≤ 0x10FFFF) := by
  simp [validRune]

theorem encodeRune_of_valid (r : Nat) (hv : validRune r = true) : encodeRune r =
    if r < 0x80 then [b r]
    else if r < 0x800 then [b (0xC0 + r / 64), b (0x80 + r % 64)]
    else if r < 0x10000 then [b (0xE0 + r / 4096), b (0x80 + (r / 64) % 64), b (0x80 + r % 64)]
    else [b (0xF0 + r / 262144), b (0x80 + (r / 4096) % 64), b (0x80 + (r / 64) % 64), b (0x80 + r % 64)] := by
  unfold encodeRune; simp only [hv, if_true]

theorem encodeRune_1 (r : Nat) (h : r < 0x80) : encodeRune r = [b r] := by
  rw [encodeRune_of_valid r ((validRune_iff r).mpr (by omega)), if_pos h]
theorem encodeRune_2 (r : Nat) (h0 : 0x80 ≤ r) (h : r < 0x800) : encodeRune r = [b (0xC0 + r / 64), b (0x80 + r % 64)] := by
  rw [encodeRune_of_valid r ((validRune_iff r).mpr (by omega)), if_neg (by omega), if_pos h]
theorem encodeRune_3 (r : Nat) (hv : validRune r = true) (h0 : 0x800 ≤ r) (h : r < 0x10000) :
    encodeRune r = [b (0xE0 + r / 4096), b (0x80 + (r / 64) % 64), b (0x80 + r % 64)] := by
  rw [encodeRune_of_valid r hv, if_neg (by omega), if_neg (by omega), if_pos h]
theorem encodeRune_4 (r : Nat) (hv : validRune r = true) (h0 : 0x10000 ≤ r) :
    encodeRune r = [b (0xF0 + r / 262144), b (0x80 + (r / 4096) % 64), b (0x80 + (r / 64) % 64), b (0x80 + r % 64)] := by
  rw [encodeRune_of_valid r hv, if_neg (by omega), if_neg (by omega), if_neg (by omega)]

/-! The UTF-8 arithmetic, on plain naturals so that `omega` sees nothing else: `digitsN` reads the base-64 digits off a rune
built from them, `undigitsN` rebuilds a rune from its digits, `rangeN` is where the decoder's bounds on the second byte
(`lo`/`hi`: no overlong forms, no surrogates, nothing above U+10FFFF) put the rune. -/

theorem digits2 (a x : Nat) (hx : x < 64) : (a * 64 + x) / 64 = a ∧ (a * 64 + x) % 64 = x := by omega
theorem digits3 (a x y : Nat) (hx : x < 64) (hy : y < 64) :
    (a * 4096 + x * 64 + y) / 4096 = a ∧ (a * 4096 + x * 64 + y) / 64 % 64 = x ∧ (a * 4096 + x * 64 + y) % 64 = y := by
  omega
theorem digits4 (a x y z : Nat) (hx : x < 64) (hy : y < 64) (hz : z < 64) :
    (a * 262144 + x * 4096 + y * 64 + z) / 262144 = a ∧ (a * 262144 + x * 4096 + y * 64 + z) / 4096 % 64 = x ∧
    (a * 262144 + x * 4096 + y * 64 + z) / 64 % 64 = y ∧ (a * 262144 + x * 4096 + y * 64 + z) % 64 = z := by
  omega

theorem undigits2 (r : Nat) (h0 : 0x80 ≤ r) (h1 : r < 0x800) :
    2 ≤ r / 64 ∧ r / 64 < 32 ∧ r / 64 * 64 + r % 64 = r := by omega
theorem undigits3 (r : Nat) (h0 : 0x800 ≤ r) (h1 : r < 0x10000) (hv : r < 0xD800 ∨ 0xE000 ≤ r) :
    r / 4096 < 16 ∧ (r / 4096 = 0 → 32 ≤ r / 64 % 64) ∧ (r / 4096 = 13 → r / 64 % 64 < 32) ∧
    r / 4096 * 4096 + r / 64 % 64 * 64 + r % 64 = r := by omega
theorem undigits4 (r : Nat) (h0 : 0x10000 ≤ r) (h1 : r ≤ 0x10FFFF) :
    r / 262144 < 5 ∧ (r / 262144 = 0 → 16 ≤ r / 4096 % 64) ∧ (r / 262144 = 4 → r / 4096 % 64 < 16) ∧
    r / 262144 * 262144 + r / 4096 % 64 * 4096 + r / 64 % 64 * 64 + r % 64 = r := by omega

theorem range2 (c0 c1 : Nat) (h0 : ¬ c0 < 0xC2) (h0' : c0 < 0xE0) (h1 : 0x80 ≤ c1) (h1' : c1 ≤ 0xBF) :
    0xC0 ≤ c0 ∧ c1 - 0x80 < 64 ∧ 0x80 ≤ (c0 - 0xC0) * 64 + (c1 - 0x80) ∧ (c0 - 0xC0) * 64 + (c1 - 0x80) < 0x800 := by omega
theorem range3 (c0 c1 c2 : Nat) (h0 : ¬ c0 < 0xE0) (h0' : c0 < 0xF0) (h1 : 0x80 ≤ c1) (h1' : c1 ≤ 0xBF)
    (hlo : (c0 == 0xE0) = true → 0xA0 ≤ c1) (hhi : (c0 == 0xED) = true → c1 ≤ 0x9F) (h2 : 0x80 ≤ c2) (h2' : c2 ≤ 0xBF) :
    0xE0 ≤ c0 ∧ c1 - 0x80 < 64 ∧ c2 - 0x80 < 64 ∧
    0x800 ≤ (c0 - 0xE0) * 4096 + (c1 - 0x80) * 64 + (c2 - 0x80) ∧
    (c0 - 0xE0) * 4096 + (c1 - 0x80) * 64 + (c2 - 0x80) < 0x10000 ∧
    ((c0 - 0xE0) * 4096 + (c1 - 0x80) * 64 + (c2 - 0x80) < 0xD800 ∨
      0xE000 ≤ (c0 - 0xE0) * 4096 + (c1 - 0x80) * 64 + (c2 - 0x80)) := by
  simp only [beq_iff_eq] at hlo hhi
  omega
theorem range4 (c0 c1 c2 c3 : Nat) (h0 : ¬ c0 < 0xF0) (h0' : c0 < 0xF5) (h1 : 0x80 ≤ c1) (h1' : c1 ≤ 0xBF)
    (hlo : (c0 == 0xF0) = true → 0x90 ≤ c1) (hhi : (c0 == 0xF4) = true → c1 ≤ 0x8F) (h2 : 0x80 ≤ c2) (h2' : c2 ≤ 0xBF)
    (h3 : 0x80 ≤ c3) (h3' : c3 ≤ 0xBF) :
    0xF0 ≤ c0 ∧ c1 - 0x80 < 64 ∧ c2 - 0x80 < 64 ∧ c3 - 0x80 < 64 ∧
    0x10000 ≤ (c0 - 0xF0) * 262144 + (c1 - 0x80) * 4096 + (c2 - 0x80) * 64 + (c3 - 0x80) ∧
    (c0 - 0xF0) * 262144 + (c1 - 0x80) * 4096 + (c2 - 0x80) * 64 + (c3 - 0x80) ≤ 0x10FFFF := by
  simp only [beq_iff_eq] at hlo hhi
  omega

theorem ite_le_imp {p : Prop} [Decidable p] {a b x : Nat} (hba : b ≤ a) (h : (if p then a else b) ≤ x) :
    b ≤ x ∧ (p → a ≤ x) := by
  by_cases hp : p
  · rw [if_pos hp] at h; exact ⟨Nat.le_trans hba h, fun _ => h⟩
  · rw [if_neg hp] at h; exact ⟨h, fun q => absurd q hp⟩
theorem le_ite_imp {p : Prop} [Decidable p] {a b x : Nat} (hab : a ≤ b) (h : x ≤ if p then a else b) :
    x ≤ b ∧ (p → x ≤ a) := by
  by_cases hp : p
  · rw [if_pos hp] at h; exact ⟨Nat.le_trans h hab, fun _ => h⟩
  · rw [if_neg hp] at h; exact ⟨h, fun q => absurd q hp⟩

theorem ite_eq {α : Type} {c : Prop} [Decidable c] {x y z : α} (h : (if c then x else y) = z) :
    c ∧ x = z ∨ ¬ c ∧ y = z := by
  by_cases hc : c
  · exact Or.inl ⟨hc, by rwa [if_pos hc] at h⟩
  · exact Or.inr ⟨hc, by rwa [if_neg hc] at h⟩

theorem b_add_sub (x : UInt8) (k : Nat) (h : k ≤ x.toNat) : b (k + (x.toNat - k)) = x := by
  rw [Nat.add_sub_cancel' h, b_toNat]

theorem decode_valid (c : UInt8) (rest : Bytes) (hc : c.toNat ≥ 0x80) (r w : Nat)
    (hd : decodeRune (c :: rest) = (r, w)) (hne : ¬ (w = 1 ∧ r = runeError)) :
    0x80 ≤ r ∧ validRune r = true ∧ encodeRune r = (c :: rest).take w ∧ 1 ≤ w ∧ w ≤ (c :: rest).length := by
  have bad : (runeError, 1) = (r, w) → False := fun h => hne ⟨(Prod.mk.inj h).2.symm, (Prod.mk.inj h).1.symm⟩
  unfold decodeRune at hd
  simp only [] at hd
  rw [if_neg (Nat.not_lt.mpr hc)] at hd
  rcases ite_eq hd with ⟨_, hd⟩ | ⟨h1, hd⟩
  · exact (bad hd).elim
  rcases ite_eq hd with ⟨h2, hd⟩ | ⟨h2, hd⟩
  · cases rest with
    | nil => exact (bad hd).elim
    | cons b1 rest1 =>
      rcases ite_eq hd with ⟨hb, hd⟩ | ⟨_, hd⟩
      · simp only [Bool.and_eq_true, decide_eq_true_eq] at hb
        obtain ⟨rfl, rfl⟩ := Prod.mk.inj hd
        obtain ⟨h0, hx, hr1, hr2⟩ := range2 c.toNat b1.toNat h1 h2 hb.1 hb.2
        obtain ⟨d0, d1⟩ := digits2 (c.toNat - 0xC0) (b1.toNat - 0x80) hx
        refine ⟨hr1, (validRune_iff _).mpr (Or.inl (Nat.lt_trans hr2 (by decide))), ?_, by decide, by simp⟩
        rw [encodeRune_2 _ hr1 hr2, d0, d1, b_add_sub c _ h0, b_add_sub b1 _ hb.1]
        rfl
      · exact (bad hd).elim
  rcases ite_eq hd with ⟨h3, hd⟩ | ⟨h3, hd⟩
  · rcases rest with _ | ⟨b1, _ | ⟨b2, rest2⟩⟩
    · exact (bad hd).elim
    · exact (bad hd).elim
    rcases ite_eq hd with ⟨hb, hd⟩ | ⟨_, hd⟩
    · simp only [Bool.and_eq_true, decide_eq_true_eq] at hb
      obtain ⟨rfl, rfl⟩ := Prod.mk.inj hd
      obtain ⟨hb1, hlo⟩ := ite_le_imp (by decide) hb.1.1.1
      obtain ⟨hb1', hhi⟩ := le_ite_imp (by decide) hb.1.1.2
      obtain ⟨h0, hx, hy, hr1, hr2, hr3⟩ := range3 c.toNat b1.toNat b2.toNat h2 h3 hb1 hb1' hlo hhi hb.1.2 hb.2
      have hv := (validRune_iff _).mpr (hr3.imp id (fun h => ⟨h, Nat.le_trans (Nat.le_of_lt hr2) (by decide)⟩))
      obtain ⟨d0, d1, d2⟩ := digits3 (c.toNat - 0xE0) (b1.toNat - 0x80) (b2.toNat - 0x80) hx hy
      refine ⟨Nat.le_trans (by decide) hr1, hv, ?_, by decide, by simp⟩
      rw [encodeRune_3 _ hv hr1 hr2, d0, d1, d2, b_add_sub c _ h0, b_add_sub b1 _ hb1, b_add_sub b2 _ hb.1.2]
      rfl
    · exact (bad hd).elim
  rcases ite_eq hd with ⟨h4, hd⟩ | ⟨_, hd⟩
  · rcases rest with _ | ⟨b1, _ | ⟨b2, _ | ⟨b3, rest3⟩⟩⟩
    · exact (bad hd).elim
    · exact (bad hd).elim
    · exact (bad hd).elim
    rcases ite_eq hd with ⟨hb, hd⟩ | ⟨_, hd⟩
    · simp only [Bool.and_eq_true, decide_eq_true_eq] at hb
      obtain ⟨rfl, rfl⟩ := Prod.mk.inj hd
      obtain ⟨hb1, hlo⟩ := ite_le_imp (by decide) hb.1.1.1.1.1
      obtain ⟨hb1', hhi⟩ := le_ite_imp (by decide) hb.1.1.1.1.2
      obtain ⟨h0, hx, hy, hz, hr1, hr2⟩ :=
        range4 c.toNat b1.toNat b2.toNat b3.toNat h3 h4 hb1 hb1' hlo hhi hb.1.1.1.2 hb.1.1.2 hb.1.2 hb.2
      have hv := (validRune_iff _).mpr (Or.inr ⟨Nat.le_trans (by decide) hr1, hr2⟩)
      obtain ⟨d0, d1, d2, d3⟩ := digits4 (c.toNat - 0xF0) (b1.toNat - 0x80) (b2.toNat - 0x80) (b3.toNat - 0x80) hx hy hz
      refine ⟨Nat.le_trans (by decide) hr1, hv, ?_, by decide, by simp⟩
      rw [encodeRune_4 _ hv hr1, d0, d1, d2, d3, b_add_sub c _ h0, b_add_sub b1 _ hb1, b_add_sub b2 _ hb.1.1.1.2,
        b_add_sub b3 _ hb.1.2]
      rfl
    · exact (bad hd).elim
  · exact (bad hd).elim

theorem high_ne (x : UInt8) (h : x.toNat ≥ 0x80) : x ≠ DQ ∧ x ≠ BS ∧ x ≠ 10 :=
  ⟨fun e => by subst e; exact absurd h (by decide), fun e => by subst e; exact absurd h (by decide),
    fun e => by subst e; exact absurd h (by decide)⟩

theorem ite_le_of {p : Prop} [Decidable p] {a b x : Nat} (h1 : p → a ≤ x) (h2 : b ≤ x) : (if p then a else b) ≤ x := by
  split
  · exact h1 ‹p›
  · exact h2
theorem le_ite_of {p : Prop} [Decidable p] {a b x : Nat} (h1 : p → x ≤ a) (h2 : x ≤ b) : x ≤ (if p then a else b) := by
  split
  · exact h1 ‹p›
  · exact h2

theorem encode_decode (r : Nat) (hv : validRune r = true) (h0 : 0x80 ≤ r) (t : Bytes) :
    decodeRune (encodeRune r ++ t) = (r, (encodeRune r).length) ∧ encodeRune r ≠ [] ∧
      ∀ x ∈ encodeRune r, x.toNat ≥ 0x80 := by
  have hv' := (validRune_iff r).mp hv
  by_cases h2 : r < 0x800
  · obtain ⟨ha, ha', hr⟩ := undigits2 r h0 h2
    have hx : r % 64 < 64 := Nat.mod_lt _ (by decide)
    rw [encodeRune_2 r h0 h2]
    generalize r / 64 = a at *
    generalize r % 64 = x at *
    have e0 := toNat_b (0xC0 + a) (by omega)
    have e1 := toNat_b (0x80 + x) (by omega)
    refine ⟨?_, List.cons_ne_nil _ _, fun _ hx => by
      simp only [List.mem_cons, List.not_mem_nil, or_false] at hx; rcases hx with rfl | rfl <;> omega⟩
    simp only [List.cons_append, List.nil_append, decodeRune, e0, e1]
    rw [if_neg (by omega), if_neg (by omega), if_pos (by omega),
      if_pos (by simp only [Bool.and_eq_true, decide_eq_true_eq]; omega), Nat.add_sub_cancel_left,
      Nat.add_sub_cancel_left, hr]
    rfl
  by_cases h3 : r < 0x10000
  · obtain ⟨ha, hlo, hhi, hr⟩ := undigits3 r (Nat.le_of_not_lt h2) h3 (hv'.imp id And.left)
    have hx : r / 64 % 64 < 64 := Nat.mod_lt _ (by decide)
    have hy : r % 64 < 64 := Nat.mod_lt _ (by decide)
    rw [encodeRune_3 r hv (Nat.le_of_not_lt h2) h3]
    generalize r / 4096 = a at *
    generalize r / 64 % 64 = x at *
    generalize r % 64 = y at *
    have e0 := toNat_b (0xE0 + a) (by omega)
    have e1 := toNat_b (0x80 + x) (by omega)
    have e2 := toNat_b (0x80 + y) (by omega)
    refine ⟨?_, List.cons_ne_nil _ _, fun _ hx => by
      simp only [List.mem_cons, List.not_mem_nil, or_false] at hx; rcases hx with rfl | rfl | rfl <;> omega⟩
    simp only [List.cons_append, List.nil_append, decodeRune, e0, e1, e2]
    have hc : ((if (0xE0 + a == 0xE0) = true then 0xA0 else 0x80) ≤ 0x80 + x ∧
        0x80 + x ≤ if (0xE0 + a == 0xED) = true then 0x9F else 0xBF) ∧ 0x80 ≤ 0x80 + y ∧ 0x80 + y ≤ 0xBF :=
      ⟨⟨ite_le_of (fun e => by have := beq_iff_eq.mp e; omega) (by omega),
        le_ite_of (fun e => by have := beq_iff_eq.mp e; omega) (by omega)⟩, by omega, by omega⟩
    rw [if_neg (by omega), if_neg (by omega), if_neg (by omega), if_pos (by omega),
      if_pos (by simp only [Bool.and_eq_true, decide_eq_true_eq]; exact ⟨⟨hc.1, hc.2.1⟩, hc.2.2⟩),
      Nat.add_sub_cancel_left, Nat.add_sub_cancel_left, Nat.add_sub_cancel_left, hr]
    rfl
  · have h4 : r ≤ 0x10FFFF := by omega
    obtain ⟨ha, hlo, hhi, hr⟩ := undigits4 r (Nat.le_of_not_lt h3) h4
    have hx : r / 4096 % 64 < 64 := Nat.mod_lt _ (by decide)
    have hy : r / 64 % 64 < 64 := Nat.mod_lt _ (by decide)
    have hz : r % 64 < 64 := Nat.mod_lt _ (by decide)
    rw [encodeRune_4 r hv (Nat.le_of_not_lt h3)]
    generalize r / 262144 = a at *
    generalize r / 4096 % 64 = x at *
    generalize r / 64 % 64 = y at *
    generalize r % 64 = z at *
    have e0 := toNat_b (0xF0 + a) (by omega)
    have e1 := toNat_b (0x80 + x) (by omega)
    have e2 := toNat_b (0x80 + y) (by omega)
    have e3 := toNat_b (0x80 + z) (by omega)
    refine ⟨?_, List.cons_ne_nil _ _, fun _ hx => by
      simp only [List.mem_cons, List.not_mem_nil, or_false] at hx; rcases hx with rfl | rfl | rfl | rfl <;> omega⟩
    simp only [List.cons_append, List.nil_append, decodeRune, e0, e1, e2, e3]
    have hc : ((if (0xF0 + a == 0xF0) = true then 0x90 else 0x80) ≤ 0x80 + x ∧
        0x80 + x ≤ if (0xF0 + a == 0xF4) = true then 0x8F else 0xBF) ∧ 0x80 ≤ 0x80 + y ∧ 0x80 + y ≤ 0xBF ∧
        0x80 ≤ 0x80 + z ∧ 0x80 + z ≤ 0xBF :=
      ⟨⟨ite_le_of (fun e => by have := beq_iff_eq.mp e; omega) (by omega),
        le_ite_of (fun e => by have := beq_iff_eq.mp e; omega) (by omega)⟩, by omega, by omega, by omega, by omega⟩
    rw [if_neg (by omega), if_neg (by omega), if_neg (by omega), if_neg (by omega), if_pos (by omega),
      if_pos (by simp only [Bool.and_eq_true, decide_eq_true_eq]
                 exact ⟨⟨⟨⟨hc.1, hc.2.1⟩, hc.2.2.1⟩, hc.2.2.2.1⟩, hc.2.2.2.2⟩),
      Nat.add_sub_cancel_left, Nat.add_sub_cancel_left, Nat.add_sub_cancel_left, Nat.add_sub_cancel_left, hr]
    rfl

theorem encodeRune_high (r : Nat) (h : 0x80 ≤ r ∨ validRune r = false) : encodeRune r ≠ [] ∧ ∀ x ∈ encodeRune r, x.toNat ≥ 0x80 := by
  by_cases hv : validRune r = true
  · exact (encode_decode r hv (h.resolve_right (by simp [hv])) []).2
  · have e : encodeRune r = encodeRune runeError := by unfold encodeRune; simp only [hv]; rfl
    rw [e]; exact (encode_decode runeError (by decide) (by decide) []).2

theorem unhex_hexDigit (n : Nat) (h : n < 16) : unhex (hexDigit n) = some n :=
  (by decide : ∀ n : Fin 16, unhex (hexDigit n.val) = some n.val) ⟨n, h⟩

theorem hexN_succ (r d : Nat) : hexN r (d + 1) = hexDigit (r / 16 ^ d % 16) :: hexN r d := by
  simp only [hexN, List.range_succ, List.reverse_append, List.reverse_cons, List.reverse_nil, List.nil_append,
    List.cons_append, List.map_cons]

theorem length_hexN (r d : Nat) : (hexN r d).length = d := by
  simp only [hexN, List.length_map, List.length_reverse, List.length_range]

/-- one digit at a time, by `Nat.mod_pow_succ` -/
theorem foldlM_hexN (r : Nat) : ∀ (d acc : Nat),
    (hexN r d).foldlM (fun acc c => (unhex c).map (fun x => acc * 16 + x)) acc = some (acc * 16 ^ d + r % 16 ^ d)
  | 0, acc => by simp [hexN, Nat.mod_one]
  | d + 1, acc => by
    rw [hexN_succ, List.foldlM_cons, unhex_hexDigit _ (Nat.mod_lt _ (by decide))]
    simp only [Option.map_some, Option.bind_eq_bind, Option.bind_some]
    rw [foldlM_hexN r d, Nat.mod_pow_succ, Nat.pow_succ, Nat.add_mul, Nat.mul_assoc, Nat.add_assoc,
      Nat.mul_comm (r / 16 ^ d % 16), Nat.add_comm (16 ^ d * _), Nat.mul_comm 16 (16 ^ d)]

theorem readHex_hexN (r d : Nat) (t : Bytes) (h : r < 16 ^ d) : readHex (hexN r d ++ t) d = some r := by
  unfold readHex
  rw [if_neg (by rw [List.length_append, length_hexN]; omega),
    List.take_left' (length_hexN r d), foldlM_hexN, Nat.zero_mul, Nat.zero_add, Nat.mod_eq_of_lt h]

theorem drop_hexN (r d : Nat) (t : Bytes) : (hexN r d ++ t).drop d = t := List.drop_left' (length_hexN r d)

theorem uq_x (s2 : Bytes) : unquoteChar (BS :: 120 :: s2) DQ = (readHex s2 2).map (fun v => (v, false, s2.drop 2)) := by
  rfl
theorem uq_u (s2 : Bytes) : unquoteChar (BS :: 117 :: s2) DQ =
    (readHex s2 4).bind (fun v => if validRune v then some (v, true, s2.drop 4) else none) := by
  rfl
theorem uq_U (s2 : Bytes) : unquoteChar (BS :: 85 :: s2) DQ =
    (readHex s2 8).bind (fun v => if validRune v then some (v, true, s2.drop 8) else none) := by
  rfl

theorem uq_plain (c : UInt8) (t : Bytes) (h1 : c ≠ DQ) (h2 : c ≠ BS) (h3 : c.toNat < 0x80) :
    unquoteChar (c :: t) DQ = some (c.toNat, false, t) := by
  unfold unquoteChar
  simp [h1, h2]
  omega

theorem uq_multibyte (c : UInt8) (t : Bytes) (h : 0x80 ≤ c.toNat) :
    unquoteChar (c :: t) DQ = some ((decodeRune (c :: t)).1, true, (c :: t).drop (decodeRune (c :: t)).2) := by
  unfold unquoteChar
  simp [(high_ne c h).1, h]

end Logrange.Proofs.Quote

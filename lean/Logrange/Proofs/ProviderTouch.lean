import Logrange.Proofs.ProviderSweep
/-!
# The ring is ordered by last touch — `Sorted` is an invariant, not a hypothesis

`touch s e` (ProviderSweep) recovers the time of the last touch of a holder from its expiry time. Every operation that
writes a holder's `expTime`/`busy` (`GetOrCreate` hit, insert, `Release`) writes `now + busyTo` resp. `now + idleTo`
and moves the element to the head of the ring; the sweeps only unlink; the clock only grows. So the ring is ordered by
last touch (head = most recent) and no touch lies in the future: `TouchInv`. With `idleTo ≤ busyTo` this gives `Sorted`
(`Sorted_of_touch_order`), hence the halving bound of ProviderSweep for every reachable state: `sweeper_bound`.
-/
namespace Logrange.Provider
open Logrange.Ring

def TouchInv (s : St) : Prop :=
  s.ring.Pairwise (fun x y => touch s y ≤ touch s x) ∧ ∀ e ∈ s.ring, touch s e ≤ s.now

def clockOKL : Label → Prop
  | .age d => 0 ≤ d
  | _ => True

/-- the clock never goes back -/
def ClockOK (tr : List Label) : Prop := ∀ l ∈ tr, clockOKL l

/-- the touch order together with the (never modified) knobs -/
def TK (s : St) (i b : Int) : Prop := TouchInv s ∧ s.idleTo = i ∧ s.busyTo = b

/-! ## two generic shapes of a step: unlink some elements / put one element at the head with touch = now -/

theorem TK_aux {s s' : St} (h : TouchInv s) (hi : s'.idleTo = s.idleTo) (hb : s'.busyTo = s.busyTo)
    (hnow : s.now ≤ s'.now) (r : List Nat) (hsub : r.Sublist s.ring)
    (hsame : ∀ y ∈ r, (s'.holders y).exp = (s.holders y).exp ∧ (s'.holders y).busy = (s.holders y).busy) :
    r.Pairwise (fun x y => touch s' y ≤ touch s' x) ∧ ∀ e ∈ r, touch s' e ≤ s'.now := by
  have ht : ∀ y ∈ r, touch s' y = touch s y := by
    intro y hy; obtain ⟨h1, h2⟩ := hsame y hy
    simp only [touch, h1, h2, hi, hb]
  constructor
  · refine (List.Pairwise.sublist hsub h.1).imp_of_mem ?_
    intro x y hx hy hxy; rw [ht x hx, ht y hy]; exact hxy
  · intro e he; rw [ht e he]
    have := h.2 e (hsub.subset he); omega

theorem TK_sub {s s' : St} {i b : Int} (h : TK s i b) (hi : s'.idleTo = s.idleTo) (hb : s'.busyTo = s.busyTo)
    (hnow : s.now ≤ s'.now) (hsub : s'.ring.Sublist s.ring)
    (hsame : ∀ y ∈ s'.ring, (s'.holders y).exp = (s.holders y).exp ∧ (s'.holders y).busy = (s.holders y).busy) :
    TK s' i b :=
  ⟨TK_aux h.1 hi hb hnow s'.ring hsub hsame, hi.trans h.2.1, hb.trans h.2.2⟩

theorem TK_head {s s' : St} {i b : Int} (h : TK s i b) (hi : s'.idleTo = s.idleTo) (hb : s'.busyTo = s.busyTo)
    (hnow : s'.now = s.now) (e : Nat) (r : List Nat) (hx : Holder) (hring : s'.ring = e :: r) (hsub : r.Sublist s.ring)
    (her : e ∉ r) (hh : s'.holders = fun x => if x = e then hx else s.holders x)
    (ht : hx.exp - (if hx.busy = true then s.busyTo else s.idleTo) = s.now) : TK s' i b := by
  have hsame : ∀ y ∈ r, (s'.holders y).exp = (s.holders y).exp ∧ (s'.holders y).busy = (s.holders y).busy :=
    fun y hy => by simp only [hh, if_neg (fun k : y = e => her (k ▸ hy)), and_self]
  have ht' : touch s' e = s'.now := by simp only [touch, hh, ↓reduceIte, hi, hb, hnow, ht]
  obtain ⟨a1, a2⟩ := TK_aux h.1 hi hb (Int.le_of_eq hnow.symm) r hsub hsame
  refine ⟨⟨?_, ?_⟩, hi.trans h.2.1, hb.trans h.2.2⟩
  · rw [hring]
    exact List.pairwise_cons.2 ⟨fun y hy => by rw [ht']; exact a2 y hy, a1⟩
  · intro y hy
    rw [hring] at hy
    rcases List.mem_cons.1 hy with rfl | hy
    · rw [ht']; exact Int.le_refl _
    · exact a2 y hy

theorem TK_init (m : Nat) (i b : Int) : TK (init m i b) i b :=
  ⟨⟨by simp [init], by simp [init]⟩, rfl, rfl⟩

/-! ## the operations -/

theorem TK_touched {s : St} {i b : Int} (h : TK s i b) (j : J s) (e c : Nat) (ci : CurI) {hx : Holder}
    (ht : hx.exp - (if hx.busy = true then s.busyTo else s.idleTo) = s.now) : TK (touched s e c ci hx) i b :=
  TK_head h rfl rfl rfl e (s.ring.erase e) hx rfl List.erase_sublist
    (fun k => ((List.Nodup.mem_erase_iff j.a).1 k).1 rfl) rfl ht

theorem TK_cachedAt {s : St} {i b : Int} (h : TK s i b) (c : Nat) {e : Nat} (he : e ∉ s.ring) : TK (cachedAt s c e) i b :=
  TK_head h rfl rfl rfl e s.ring _ rfl (List.Sublist.refl _) he rfl (by simp)

theorem TK_lookup {s : St} {i b : Int} (id q p : Nat) (ok : Bool) (j : J s) (h : TK s i b) :
    TK (lookup s id q p ok).1 i b := by
  rcases lookup_cases s id q p ok with ⟨_, _, e, _⟩ | ⟨_, _, _, e⟩ | ⟨x, c, _, _, e⟩ <;> rw [e]
  · exact h
  · exact h
  · exact TK_touched h j x c _ (by simp)

theorem TK_create {s : St} {i b : Int} (id q p : Nat) (k : CreateKind) (c n : Nat) (h : TK s i b) :
    TK (create s id q p k c n).1 i b := by
  unfold create
  cases k <;> exact h

theorem TK_insert {s : St} {i b : Int} (c : Nat) (j : J s) (h : TK s i b) : TK (insert true s c).1 i b := by
  rcases insert_cases true s c with ⟨_, _, e⟩ | ⟨_, _, _, _, _, hF, e⟩ <;> rw [e]
  · exact h
  · exact TK_cachedAt (s := { s with free := _, freeSz := _, nextElem := _ }) h c (J_insert_elem j hF).1

theorem TK_release {s : St} {i b : Int} (c cp : Nat) (j : J s) (h : TK s i b) : TK (release false s c cp).1 i b := by
  rcases release_cases false s c cp with ⟨e, _⟩ | ⟨x, _, _, ⟨_, e⟩ | ⟨_, e⟩⟩ <;> rw [e]
  · exact h
  · exact h
  · exact TK_touched h j x c _ (by simp)

theorem TK_evict {s : St} {i b : Int} (x : Nat) (r : Bool) (h : TK s i b) : TK (evict s x r) i b := by
  cases hc : (s.holders x).cur with
  | none => rw [evict_none hc]; exact h
  | some c =>
    rw [evict_some hc]
    refine TK_sub h rfl rfl (Int.le_refl _) List.erase_sublist (fun y _ => ?_)
    show (if y = x then _ else s.holders y).exp = _ ∧ (if y = x then _ else s.holders y).busy = _
    split
    · next hy => rw [hy]; exact ⟨rfl, rfl⟩
    · exact ⟨rfl, rfl⟩

theorem TK_age {s : St} {i b : Int} (d : Int) (hd : 0 ≤ d) (h : TK s i b) : TK (age s d) i b := by
  refine TK_sub h rfl rfl ?_ (List.Sublist.refl _) (fun _ _ => ⟨rfl, rfl⟩)
  show s.now ≤ s.now + d
  omega

/-! ## traces -/

theorem TK_step_split {s : St} {i b : Int} (l : Label) (hs : l.isSplit = true) (k : K s) (hc : clockOKL l)
    (h : TK s i b) : TK (stepL true false s l) i b := by
  cases l with
  | lookup id q p ok => exact TK_lookup id q p ok k.j h
  | create id q p kd c n => exact TK_create id q p kd c n h
  | insert c => exact TK_insert c k.j h
  | get id q p ok kd cache c n => cases hs
  | release c cp => exact TK_release c cp k.j h
  | age d => exact TK_age d hc h
  | sweepT => exact (sweeps_keep (P := fun s => TK s i b) (fun x r => TK_evict x r) (fun h => h) h).2
  | sweepS => exact (sweeps_keep (P := fun s => TK s i b) (fun x r => TK_evict x r) (fun h => h) h).1

theorem getParts_clock (s : St) (id q p : Nat) (ok : Bool) (k : CreateKind) (cache : Bool) (c n : Nat) :
    ClockOK (getParts s id q p ok k cache c n) := by
  intro l hl
  rcases getParts_sub s id q p ok k cache c n l hl with rfl | ⟨_, rfl⟩ | ⟨_, rfl⟩ <;> trivial

theorem TK_run {i b : Int} (tr : List Label) : ∀ {s : St}, K s → TK s i b → WF s tr → ClockOK tr →
    TK (run true false s tr) i b := by
  intro s k h wf hc
  exact (inv_run (I := fun s => K s ∧ TK s i b) (Q := clockOKL) (fun i => i.1.j) getParts_clock
    (fun l hs i wf hq => ⟨K_step_split l hs i.1 wf, TK_step_split l hs i.1 hq i.2⟩) tr ⟨k, h⟩ wf hc).2

/-- the touch order is an invariant of well-formed traces whose clock does not go back -/
theorem TouchInv_run (tr : List Label) {s : St} (k : K s) (h : TouchInv s) (wf : WF s tr) (hc : ClockOK tr) :
    TouchInv (run true false s tr) :=
  (TK_run tr k (⟨h, rfl, rfl⟩ : TK s s.idleTo s.busyTo) wf hc).1

theorem TouchInv_init (m : Nat) (i b : Int) : TouchInv (init m i b) := (TK_init m i b).1

/-- the knobs are never modified -/
theorem knobs_run (tr : List Label) {s : St} (k : K s) (h : TouchInv s) (wf : WF s tr) (hc : ClockOK tr) :
    (run true false s tr).idleTo = s.idleTo ∧ (run true false s tr).busyTo = s.busyTo :=
  (TK_run tr k (⟨h, rfl, rfl⟩ : TK s s.idleTo s.busyTo) wf hc).2

/-- `Sorted` holds in every reachable state (idle timeout ≤ busy timeout, clock monotone) -/
theorem Sorted_reachable (m : Nat) (i b : Int) (hib : i ≤ b) (tr : List Label) (wf : WF (init m i b) tr)
    (hc : ClockOK tr) : Sorted (run true false (init m i b) tr) := by
  obtain ⟨h1, h2, h3⟩ := TK_run tr (K_init m i b) (TK_init m i b) wf hc
  exact Sorted_of_touch_order (by rw [h2, h3]; exact hib) h1.1

/-- in every reachable state with fewer than `2^n` expired holders, `n` sweeps unlink every expired holder and close
    the cursors of the idle ones — no ordering hypothesis -/
theorem sweeper_bound (m : Nat) (i b : Int) (hib : i ≤ b) (tr : List Label) (wf : WF (init m i b) tr) (hc : ClockOK tr)
    (n : Nat)
    (hlt : ((run true false (init m i b) tr).ring.filter (expd (run true false (init m i b) tr))).length < 2 ^ n) :
    ∀ e ∈ (run true false (init m i b) tr).ring,
      ((run true false (init m i b) tr).holders e).exp < (run true false (init m i b) tr).now →
      e ∉ (sweepN n (run true false (init m i b) tr)).ring ∧
      (((run true false (init m i b) tr).holders e).busy = false → ∀ c,
        ((run true false (init m i b) tr).holders e).cur = some c →
        ((sweepN n (run true false (init m i b) tr)).cursors c).closed =
          ((sweepN n (run true false (init m i b) tr)).cursors c).acquired) :=
  sweeps_close n _ (K_run tr (K_init m i b) wf) (Sorted_reachable m i b hib tr wf hc) hlt

end Logrange.Provider

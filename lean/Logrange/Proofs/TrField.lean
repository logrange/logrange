import Logrange.Translated.Field
import Logrange.Model.Fields
import Logrange.Model.FieldsKV
import Logrange.Model.WireFields
/-!
# `field.Check` and `(Fields).Value` as translated from the Go source = the hand-written models

`Field.Check` / `Field.Fields_Value` (machine-generated fuel loops over the `Int` index `idx`) never run out of fuel;
`Check` never panics and agrees with `WireFields.check` (C13) and `FieldsKV.check` (C08); `Fields_Value` returns the
value of `Fields.valueP` and panics exactly where that model says the Go code panics.

The translated loops keep the index `i` into the whole string, the models walk over the remaining suffix. The bridge
is the suffix `s.drop i = c :: rest`: the Go code reads `s[i] = c` and `s[i+1 : i+n+1]` = the first `n` bytes of `rest`
(a panic when there are fewer), and the next index `i + n + 1` stands for the suffix `rest.drop n`. Index arithmetic is
done in `Nat`: `(↑i : Int) + (↑n + 1)` and `↑(i + n + 1)` are the same term up to unfolding `Int.add`.
-/
namespace Logrange.Proofs.TrField
open Go Go.Sem Logrange Logrange.Translated

theorem length_of_drop_cons {s : Bytes} {i : Nat} {c : UInt8} {rest : Bytes} (h : s.drop i = c :: rest) :
    i + rest.length + 1 = s.length := by
  have hl := congrArg List.length h
  rw [List.length_drop, List.length_cons] at hl
  omega

theorem drop_step {s : Bytes} {i : Nat} {c : UInt8} {rest : Bytes} (h : s.drop i = c :: rest) (n : Nat) :
    s.drop (i + n + 1) = rest.drop n := by
  rw [Nat.add_assoc, ← List.drop_drop, h, List.drop_succ_cons]

theorem lt_of_drop_cons {s : Bytes} {i : Nat} {c : UInt8} {rest : Bytes} (h : s.drop i = c :: rest) :
    i < s.length :=
  length_of_drop_cons h ▸ Nat.lt_succ_of_le (Nat.le_add_right i _)

/-- the measure of both loops -/
theorem drop_step_length {s : Bytes} {i : Nat} {c : UInt8} {rest : Bytes} (h : s.drop i = c :: rest) (n k : Nat)
    (hk : (c :: rest).length < k + 1) : s.length - (i + n + 1) < k := by
  rw [← List.length_drop, drop_step h]
  exact Nat.lt_of_le_of_lt (List.drop_sublist _ _).length_le (Nat.lt_of_succ_lt_succ hk)

theorem index_drop (s : Bytes) (i : Nat) :
    Sem.index s (i : Int) = match s.drop i with | [] => Res.panic | c :: _ => Res.ok c := by
  by_cases h : i < s.length
  · rw [index_ok s i h, List.drop_eq_getElem_cons h]
  · rw [index_panic_of_ge s i (Int.ofNat_le.mpr (Nat.le_of_not_lt h)), List.drop_eq_nil_of_le (Nat.le_of_not_lt h)]

theorem slice_drop {s : Bytes} {i : Nat} {c : UInt8} {rest : Bytes} (h : s.drop i = c :: rest) (n : Nat) :
    Sem.slice s ((i : Int) + 1) ((i : Int) + (n : Int) + 1) =
      if rest.length < n then Res.panic else Res.ok (rest.take n) := by
  have hl := length_of_drop_cons h
  have hr := drop_step h 0
  rw [List.drop_zero] at hr
  show Sem.slice s ((i + 1 : Nat) : Int) ((i + n + 1 : Nat) : Int) = _
  by_cases hn : rest.length < n
  · rw [if_pos hn]
    exact slice_panic_of_gt _ _ _ (Int.ofNat_lt.mpr (by omega))
  · rw [if_neg hn, ← hr, slice_ok s (i + 1) (i + n + 1) (by omega) (by omega), Nat.add_sub_add_right,
      Nat.add_sub_cancel_left]

theorem natCast_step (i n : Nat) : (i : Int) + ((n : Int) + 1) = ((i + n + 1 : Nat) : Int) := rfl

theorem bind_ok {α β : Type} (a : α) (f : α → Res β) : Sem.bind (.ok a) f = f a := rfl

/-! ## Check -/

theorem checkGo_nil (m : Nat) : WireFields.checkGo (m + 1) [] = true := by
  rw [WireFields.checkGo.eq_def]

theorem checkGo_cons (m : Nat) (c : UInt8) (rest : Bytes) :
    WireFields.checkGo (m + 1) (c :: rest) =
      if rest.length < c.toNat then false else WireFields.checkGo m (rest.drop c.toNat) := by
  rw [WireFields.checkGo.eq_def]

/-- `idx += int(str[idx]) + 1` -/
theorem check_step (str : Bytes) (fuel : Nat) {i : Nat} {c : UInt8} {rest : Bytes} (h : str.drop i = c :: rest) :
    Field.Check_loop1 str (fuel + 1) (i : Int) = Field.Check_loop1 str fuel ((i + c.toNat + 1 : Nat) : Int) := by
  rw [Field.Check_loop1, if_pos (decide_eq_true (Int.ofNat_lt.mpr (lt_of_drop_cons h))), index_drop, h]
  rfl

theorem check_stop (str : Bytes) (fuel : Nat) {i : Nat} (h : str.length ≤ i) :
    Field.Check_loop1 str (fuel + 1) (i : Int) = .ok (if i = str.length then (str, false) else ([], true)) := by
  rw [Field.Check_loop1, if_neg (by rw [decide_eq_true_eq, Int.ofNat_lt]; exact Nat.not_lt.mpr h), Field.Check_after1]
  by_cases he : i = str.length
  · rw [if_pos he, he, if_neg (by rw [bne_self_eq_false]; exact Bool.false_ne_true)]
  · rw [if_neg he, if_pos (by rw [bne_iff_ne]; exact fun e => he (Int.ofNat_inj.mp e))]

theorem check_loop (str : Bytes) (fuel : Nat) : ∀ (i m : Nat), i ≤ str.length → str.length - i < fuel →
    str.length - i < m →
    Field.Check_loop1 str fuel (i : Int)
      = .ok (if WireFields.checkGo m (str.drop i) then (str, false) else ([], true)) := by
  induction fuel with
  | zero => intro _ _ _ hf; exact absurd hf (Nat.not_lt_zero _)
  | succ fuel ih =>
    intro i m hi hf hm
    rw [← List.length_drop] at hf hm
    match m, hm with
    | m + 1, hm =>
      cases h : str.drop i with
      | nil =>
        have he : i = str.length := Nat.le_antisymm hi (List.drop_eq_nil_iff.mp h)
        rw [check_stop str fuel (Nat.le_of_eq he.symm), if_pos he, checkGo_nil, if_pos rfl]
      | cons c rest =>
        rw [h] at hf hm
        have hl := length_of_drop_cons h
        rw [check_step str fuel h, checkGo_cons]
        by_cases hn : rest.length < c.toNat
        · -- the jump runs past the end: one more turn finds `idx ≠ len`
          have hgt : str.length < i + c.toNat + 1 := hl ▸ Nat.succ_lt_succ (Nat.add_lt_add_left hn i)
          match fuel, hf with
          | f' + 1, _ =>
            rw [if_pos hn, check_stop str f' (Nat.le_of_lt hgt), if_neg (Nat.ne_of_gt hgt), if_neg Bool.false_ne_true]
        · rw [if_neg hn, ← drop_step h]
          exact ih _ m (hl ▸ Nat.succ_le_succ (Nat.add_le_add_left (Nat.le_of_not_lt hn) i))
            (drop_step_length h _ _ hf) (drop_step_length h _ _ hm)

theorem check_eq_wire (str : Bytes) :
    Field.Check str = .ok (if WireFields.check str then (str, false) else ([], true)) :=
  check_loop str (str.length + 1) 0 (str.length + 1) (Nat.zero_le _) (Nat.lt_succ_self _) (Nat.lt_succ_self _)

/-- the two hand models of `Check` differ only when their fuel runs out -/
theorem kv_check_eq_wire (m : Nat) : ∀ (l : Bytes), l.length < m → FieldsKV.check m l = WireFields.checkGo m l := by
  induction m with
  | zero => intro l h; exact absurd h (Nat.not_lt_zero _)
  | succ m ih =>
    intro l h
    cases l with
    | nil => rw [FieldsKV.check.eq_def, WireFields.checkGo.eq_def]
    | cons c rest =>
      rw [FieldsKV.check.eq_def, checkGo_cons]
      show (if rest.length < c.toNat then false else FieldsKV.check m (rest.drop c.toNat)) = _
      rw [ih _ (Nat.lt_of_le_of_lt (List.drop_sublist _ _).length_le (Nat.lt_of_succ_lt_succ h))]

theorem check_eq_kv (str : Bytes) :
    Field.Check str = .ok (if FieldsKV.check (str.length + 1) str then (str, false) else ([], true)) := by
  rw [kv_check_eq_wire _ _ (Nat.lt_succ_self _)]
  exact check_eq_wire str

/-! ## (Fields).Value -/

/-- the Go-shaped result of the model: `none` is the run-time panic -/
def toRes (o : Option Bytes) : Res Bytes :=
  match o with
  | some v => .ok v
  | none => .panic

def item? : Bytes → Option Bytes
  | [] => none
  | d :: r => if r.length < d.toNat then none else some (r.take d.toNat)

theorem valueGo_nil (name : Bytes) (m : Nat) (even : Bool) : Fields.valueGo name m [] even = some [] := by
  cases m <;> rw [Fields.valueGo.eq_def]

theorem valueGo_cons (name : Bytes) (m : Nat) (c : UInt8) (rest : Bytes) (even : Bool) :
    Fields.valueGo name (m + 1) (c :: rest) even =
      if even && c.toNat == name.length then
        if rest.length < c.toNat then none
        else if rest.take c.toNat == name then
          item? (rest.drop c.toNat)
        else Fields.valueGo name m (rest.drop c.toNat) (!even)
      else Fields.valueGo name m (rest.drop c.toNat) (!even) := by
  rw [Fields.valueGo.eq_def] <;> rfl

/-- `n := int(f[j]); return string(f[j+1 : j+n+1])` -/
theorem value_item (f : Bytes) (j : Nat) :
    Sem.bind (Sem.index f (j : Int)) (fun d => Sem.bind (Sem.slice f ((j : Int) + 1) ((j : Int) + (d.toNat : Int) + 1))
      fun t => .ok t) =
      toRes (item? (f.drop j)) := by
  rw [index_drop]
  cases h : f.drop j with
  | nil => rfl
  | cons d r2 =>
    show Sem.bind (Sem.slice f _ _) _ = toRes (if _ then _ else _)
    rw [slice_drop h]
    by_cases hn : r2.length < d.toNat
    · rw [if_pos hn, if_pos hn]; rfl
    · rw [if_neg hn, if_neg hn]; rfl

theorem value_step (f name : Bytes) (fuel : Nat) (even : Bool) {i : Nat} {c : UInt8} {rest : Bytes}
    (h : f.drop i = c :: rest) :
    Field.Fields_Value_loop1 f name (fuel + 1) (i : Int) even =
      if even && c.toNat == name.length then
        if rest.length < c.toNat then .panic
        else if rest.take c.toNat == name then
          toRes (item? (rest.drop c.toNat))
        else Field.Fields_Value_loop1 f name fuel ((i + c.toNat + 1 : Nat) : Int) (!even)
      else Field.Fields_Value_loop1 f name fuel ((i + c.toNat + 1 : Nat) : Int) (!even) := by
  have hb : ((c.toNat : Int) == len name) = (c.toNat == name.length) :=
    Bool.eq_iff_iff.mpr (by rw [beq_iff_eq, beq_iff_eq]; exact Int.ofNat_inj)
  rw [Field.Fields_Value_loop1, if_pos (decide_eq_true (Int.ofNat_lt.mpr (lt_of_drop_cons h))), index_drop, h]
  simp only [bind_ok, natCast_step]
  rw [hb, slice_drop h, value_item, drop_step h]
  by_cases hc : (even && c.toNat == name.length) = true
  · rw [if_pos hc, if_pos hc]
    by_cases hn : rest.length < c.toNat
    · rw [if_pos hn, if_pos hn]; rfl
    · rw [if_neg hn, if_neg hn]; rfl
  · rw [if_neg hc, if_neg hc]; rfl

theorem value_stop (f name : Bytes) (fuel : Nat) (even : Bool) {i : Nat} (h : f.length ≤ i) :
    Field.Fields_Value_loop1 f name (fuel + 1) (i : Int) even = .ok [] := by
  rw [Field.Fields_Value_loop1, if_neg (by rw [decide_eq_true_eq, Int.ofNat_lt]; exact Nat.not_lt.mpr h)]
  rfl

theorem value_loop (f name : Bytes) (fuel : Nat) :
    ∀ (i m : Nat) (even : Bool), f.length - i < fuel → f.length - i < m →
      Field.Fields_Value_loop1 f name fuel (i : Int) even = toRes (Fields.valueGo name m (f.drop i) even) := by
  induction fuel with
  | zero => intro _ _ _ hf; exact absurd hf (Nat.not_lt_zero _)
  | succ fuel ih =>
    intro i m even hf hm
    rw [← List.length_drop] at hf hm
    cases h : f.drop i with
    | nil => rw [value_stop f name fuel even (List.drop_eq_nil_iff.mp h), valueGo_nil]; rfl
    | cons c rest =>
      rw [h] at hf hm
      match m, hm with
      | m + 1, hm =>
        rw [value_step f name fuel even h, valueGo_cons,
          ih (i + c.toNat + 1) m (!even) (drop_step_length h _ _ hf) (drop_step_length h _ _ hm),
          drop_step h, apply_ite toRes, apply_ite toRes, apply_ite toRes]
        rfl

theorem value_eq (f name : Bytes) :
    Field.Fields_Value f name = (match Fields.valueP f name with | some v => .ok v | none => .panic) :=
  value_loop f name (f.length + 1) 0 (f.length + 1) true (Nat.lt_succ_self _) (Nat.lt_succ_self _)

end Logrange.Proofs.TrField

import Logrange.Model.Points
/-! Lemmas about the abstract sparse index (`Logrange.Points`): soundness of the two look-ups, completeness of the
window, preservation of `IndexSound` by `add`. -/
namespace Logrange.Points

theorem cntLE_cons_le {a : Pt} {r : List Pt} {t : Int} (h : a.ts ≤ t) : cntLE (a :: r) t = cntLE r t + 1 := by
  simp [cntLE, List.takeWhile, h]

theorem cntLE_cons_gt {a : Pt} {r : List Pt} {t : Int} (h : ¬ a.ts ≤ t) : cntLE (a :: r) t = 0 := by
  simp [cntLE, List.takeWhile, h]

theorem lastD_cons_cons (a b : Pt) (r : List Pt) : lastD (a :: b :: r) = lastD (b :: r) := by
  simp [lastD]

theorem lastD_single (a : Pt) : lastD [a] = a := by simp [lastD]

theorem cntLE_le_length : ∀ (pts : List Pt) (t : Int), cntLE pts t ≤ pts.length
  | [], _ => Nat.le_refl 0
  | a :: r, t => by
    by_cases h : a.ts ≤ t
    · rw [cntLE_cons_le h]; exact Nat.succ_le_succ (cntLE_le_length r t)
    · rw [cntLE_cons_gt h]; exact Nat.zero_le _

theorem tailAbove_tail {tsOf : Nat → Int} {n : Nat} {a b : Pt} {r : List Pt} (ht : TailAbove tsOf n (a :: b :: r)) :
    TailAbove tsOf n (b :: r) := by
  intro q h1 h2
  have := ht q (by rw [lastD_cons_cons]; exact h1) h2
  rw [lastD_cons_cons] at this; exact this

/-- every position after a point's index (inside the chunk) has a timestamp ≥ the point's -/
theorem after_ge (tsOf : Nat → Int) (n : Nat) : ∀ (r : List Pt) (a : Pt), SortedTs (a :: r) → Claims tsOf (a :: r) →
    TailAbove tsOf n (a :: r) → ∀ q, a.idx < q → q < n → a.ts ≤ tsOf q := by
  intro r
  induction r with
  | nil =>
    intro a _ _ ht q hq hqn
    have := ht q (by simpa [lastD_single] using hq) hqn
    simpa [lastD_single] using this
  | cons b r' ih =>
    intro a hs hc ht q hq hqn
    by_cases hb : q ≤ b.idx
    · exact (hc.1 q hq hb).1
    · have := ih b hs.2 hc.2 (tailAbove_tail ht) q (by omega) hqn
      have := hs.1; omega

/-- `less`: a position beyond the answer cannot have `ts ≤ t` -/
theorem less_upper (tsOf : Nat → Int) (n : Nat) (t : Int) : ∀ (pts : List Pt), SortedTs pts → Claims tsOf pts →
    TailAbove tsOf n pts → ∀ m, lessPos pts t = some m → ∀ q, m < q → q < n → t < tsOf q := by
  intro pts
  induction pts with
  | nil => intro _ _ _ m hm; simp [lessPos, cntLE] at hm
  | cons a r ih =>
    intro hs hc ht m hm q hq hqn
    by_cases ha : a.ts ≤ t
    · have hm' : lessPos r t = some m := by
        simpa [lessPos, cntLE_cons_le ha] using hm
      cases r with
      | nil => simp [lessPos, cntLE] at hm'
      | cons b r' => exact ih hs.2 hc.2 (tailAbove_tail ht) m hm' q hq hqn
    · have : m = a.idx := by
        simp [lessPos, cntLE_cons_gt ha] at hm; exact hm.symm
      subst this
      have := after_ge tsOf n r a hs hc ht q hq hqn
      omega

theorem less_is_upper_bound {tsOf : Nat → Int} {n : Nat} {pts : List Pt} (hs : IndexSound tsOf n pts) (t : Int) (m : Nat)
    (hm : lessPos pts t = some m) (q : Nat) (hq : m < q) (hqn : q < n) : t < tsOf q := by
  have hne : pts ≠ [] := by intro h; subst h; simp [lessPos, cntLE] at hm
  exact less_upper tsOf n t pts hs.sortedTs hs.claims (hs.tail hne) m hm q hq hqn

theorem grEqPos_cons_cons_le {a b : Pt} {r : List Pt} {t : Int} (ha : a.ts ≤ t) (hb : b.ts ≤ t) :
    grEqPos (a :: b :: r) t = grEqPos (b :: r) t := by
  simp [grEqPos, cntLE_cons_le ha, cntLE_cons_le hb]

theorem grEqPos_cons_gt {a : Pt} {r : List Pt} {t : Int} (ha : ¬ a.ts ≤ t) : grEqPos (a :: r) t = 0 := by
  simp [grEqPos, cntLE_cons_gt ha]

theorem grEqPos_cons_le_gt {a b : Pt} {r : List Pt} {t : Int} (ha : a.ts ≤ t) (hb : ¬ b.ts ≤ t) :
    grEqPos (a :: b :: r) t = a.idx := by
  simp [grEqPos, cntLE_cons_le ha, cntLE_cons_gt hb]

theorem grEqPos_single_le {a : Pt} {t : Int} (ha : a.ts ≤ t) : grEqPos [a] t = a.idx := by
  simp [grEqPos, cntLE, List.takeWhile, ha]

/-- `grEq`: every position strictly before the answer has `ts ≤ t` (generalised over the head of the list) -/
theorem grEq_below_aux (tsOf : Nat → Int) (t : Int) : ∀ (r : List Pt) (a : Pt), SortedTs (a :: r) → Claims tsOf (a :: r) →
    a.ts ≤ t → (∀ q, q < a.idx → tsOf q ≤ t) → (∀ b r', r = b :: r' → b.ts ≤ t → tsOf a.idx ≤ t) →
    ∀ q, q < grEqPos (a :: r) t → tsOf q ≤ t := by
  intro r
  induction r with
  | nil =>
    intro a _ _ ha H _ q hq
    rw [grEqPos_single_le ha] at hq
    exact H q hq
  | cons b r' ih =>
    intro a hs hc ha H H2 q hq
    by_cases hb : b.ts ≤ t
    · rw [grEqPos_cons_cons_le ha hb] at hq
      have hA : tsOf a.idx ≤ t := H2 b r' rfl hb
      apply ih b hs.2 hc.2 hb
      · intro q' hq'
        by_cases h1 : q' < a.idx
        · exact H q' h1
        · by_cases h2 : q' = a.idx
          · subst h2; exact hA
          · have := (hc.1 q' (by omega) (by omega)).2
            omega
      · intro c r'' hr hcle
        by_cases h1 : b.idx < a.idx
        · exact H b.idx h1
        · by_cases h2 : b.idx = a.idx
          · rw [h2]; exact hA
          · have := (hc.1 b.idx (by omega) (Nat.le_refl _)).2
            omega
      · exact hq
    · rw [grEqPos_cons_le_gt ha hb] at hq
      exact H q hq

theorem grEq_below {tsOf : Nat → Int} {n : Nat} {pts : List Pt} (hs : IndexSound tsOf n pts) (t : Int) (q : Nat)
    (hq : q < grEqPos pts t) : tsOf q ≤ t := by
  match pts, hs with
  | [], _ => simp [grEqPos, cntLE] at hq
  | [a], hs => exact absurd rfl hs.len
  | a :: b :: r, hs =>
    by_cases ha : a.ts ≤ t
    · have hh := hs.head
      simp only [HeadOk] at hh
      apply grEq_below_aux tsOf t (b :: r) a hs.sortedTs hs.claims ha
      · intro q' hq'; omega
      · intro b' r' hr hb'
        cases hr
        rw [hh.1]; omega
      · exact hq
    · rw [grEqPos_cons_gt ha] at hq; omega

/-- the statement fix 94ffdf8 establishes: asked for `t − 1`, the index answers a position at or before every record
with `ts ≥ t` -/
theorem grEq_minus_one_is_lower_bound {tsOf : Nat → Int} {n : Nat} {pts : List Pt} (hs : IndexSound tsOf n pts) (t : Int)
    (q : Nat) (hq : t ≤ tsOf q) : grEqPos pts (t - 1) ≤ q := by
  apply Nat.le_of_not_lt
  intro h
  have := grEq_below hs (t - 1) q h
  omega

/-- the window is complete as soon as the two look-ups answer bounds: `grEq` asked for `t − 1` a position at or before
every record with `ts ≥ t`, `less` a position at or after every record with `ts ≤ t` -/
theorem window_complete_of {tsOf : Nat → Int} {n : Nat} (h : Hull) (idx : Option (List Pt)) (r : TmRange)
    (hh : HullSound h tsOf n)
    (hlo : ∀ pts, idx = some pts → ∀ t q, q < n → t ≤ tsOf q → grEqPos pts (t - 1) ≤ q)
    (hup : ∀ pts, idx = some pts → ∀ t m, lessPos pts t = some m → ∀ q, m < q → q < n → t < tsOf q) (hn : n ≤ maxU32)
    (hmin : minI64 ≤ h.minTs) (p : Nat) (hp : p < n) (hr : inRange r (tsOf p)) : inWindow (window h idx r) p := by
  have hfact : Generated.C02.lowerAskMinusOne = true := by decide
  obtain ⟨h1, h2⟩ := hh p hp
  obtain ⟨r1, r2⟩ := hr
  have hpm : p ≤ maxU32 := by omega
  unfold window
  have hc : ¬ (r.maxTs < h.minTs ∨ r.minTs > h.maxTs) := by omega
  simp only [hc, if_false]
  constructor
  · -- lower side
    show (if r.minTs ≥ h.minTs then ciGrEq h idx (lowerAsk r.minTs) else 0) ≤ p
    split
    · unfold ciGrEq
      split
      · omega
      · split
        · omega
        · cases idx with
          | none => simp
          | some pts =>
            simp only []
            unfold lowerAsk lowerAskWith
            rw [hfact]
            by_cases hm : r.minTs > minI64
            · simp only [Bool.true_and, hm, decide_true, if_true]
              exact hlo pts rfl r.minTs p hp r1
            · -- r.minTs = minI64 ≤ h.minTs ≤ r.minTs: the hull short-cut has already fired
              rename_i hx hy
              unfold lowerAsk lowerAskWith at hy
              rw [hfact] at hy
              simp only [Bool.true_and, hm, decide_false] at hy
              omega
    · omega
  · -- upper side
    show p ≤ (if r.maxTs ≤ h.maxTs then ciLess h idx r.maxTs else maxU32)
    split
    · unfold ciLess
      split
      · exact hpm
      · split
        · exact hpm
        · cases idx with
          | none => exact hpm
          | some pts =>
            simp only []
            cases hl : lessPos pts r.maxTs with
            | none => simpa using hpm
            | some m =>
              simp only [Option.getD_some]
              apply Nat.le_of_not_lt
              intro hlt
              have := hup pts rfl r.maxTs m hl p hlt hp
              omega
    · exact hpm

/-- **the index may only skip events outside the range** -/
theorem window_complete {tsOf : Nat → Int} {n : Nat} (h : Hull) (idx : Option (List Pt)) (r : TmRange)
    (hh : HullSound h tsOf n) (hi : ∀ pts, idx = some pts → IndexSound tsOf n pts) (hn : n ≤ maxU32)
    (hmin : minI64 ≤ h.minTs) (p : Nat) (hp : p < n) (hr : inRange r (tsOf p)) : inWindow (window h idx r) p :=
  window_complete_of h idx r hh (fun pts e t q _ hq => grEq_minus_one_is_lower_bound (hi pts e) t q hq)
    (fun pts e t m hm q h1 h2 => less_is_upper_bound (hi pts e) t m hm q h1 h2) hn hmin p hp hr

/-! ## preservation by `add` -/

theorem all_le_of_cntLE_eq_length (t : Int) : ∀ (pts : List Pt), cntLE pts t = pts.length → ∀ p ∈ pts, p.ts ≤ t := by
  intro pts
  induction pts with
  | nil => intro _ p hp; simp at hp
  | cons a r ih =>
    intro h p hp
    by_cases ha : a.ts ≤ t
    · rw [cntLE_cons_le ha] at h
      simp at h
      cases hp with
      | head => exact ha
      | tail _ hp' => exact ih h p hp'
    · rw [cntLE_cons_gt ha] at h; simp at h

theorem cntLE_of_all_le (t : Int) : ∀ (pts : List Pt), (∀ p ∈ pts, p.ts ≤ t) → cntLE pts t = pts.length
  | [], _ => rfl
  | a :: r, h => by
    rw [cntLE_cons_le (h a List.mem_cons_self), cntLE_of_all_le t r (fun p hp => h p (List.mem_cons_of_mem _ hp))]
    rfl

theorem lastD_mem : ∀ (pts : List Pt), pts ≠ [] → lastD pts ∈ pts := by
  intro pts
  induction pts with
  | nil => intro h; exact absurd rfl h
  | cons a r ih =>
    intro _
    cases r with
    | nil => simp [lastD]
    | cons b r' =>
      rw [lastD_cons_cons]
      exact List.mem_cons_of_mem _ (ih (by simp))

theorem lastD_snoc (pts : List Pt) (x : Pt) : lastD (pts ++ [x]) = x := by
  simp [lastD]

theorem sortedTs_append (M : List Pt) : ∀ (pts : List Pt), pts ≠ [] → SortedTs pts → SortedTs (lastD pts :: M) →
    SortedTs (pts ++ M)
  | [], h, _, _ => absurd rfl h
  | [_], _, _, hM => hM
  | a :: b :: r, _, hs, hM => ⟨hs.1, sortedTs_append M (b :: r) (by simp) hs.2 hM⟩

theorem sortedTs_snoc (x : Pt) (pts : List Pt) (hne : pts ≠ []) (hs : SortedTs pts) (hl : (lastD pts).ts ≤ x.ts) :
    SortedTs (pts ++ [x]) :=
  sortedTs_append [x] pts hne hs ⟨hl, trivial⟩

theorem sorted_head_le : ∀ (l : List Pt) (a : Pt), SortedTs (a :: l) → ∀ p ∈ l, a.ts ≤ p.ts
  | [], _, _, p, hp => by simp at hp
  | b :: r, a, hs, p, hp => by
    cases hp with
    | head => exact hs.1
    | tail _ hp' => exact Int.le_trans hs.1 (sorted_head_le r b hs.2 p hp')

theorem mem_ts_le_lastD : ∀ (pts : List Pt), SortedTs pts → ∀ p ∈ pts, p.ts ≤ (lastD pts).ts
  | [], _, p, hp => by simp at hp
  | [a], _, p, hp => by simp at hp; subst hp; exact Int.le_refl _
  | a :: b :: r, hs, p, hp => by
    rw [lastD_cons_cons]
    cases hp with
    | head => exact Int.le_trans hs.1 (mem_ts_le_lastD (b :: r) hs.2 b List.mem_cons_self)
    | tail _ hp' => exact mem_ts_le_lastD (b :: r) hs.2 p hp'

theorem sortedIdx_snoc (x : Pt) : ∀ (pts : List Pt), pts ≠ [] → SortedIdx pts → (lastD pts).idx ≤ x.idx → SortedIdx (pts ++ [x]) := by
  intro pts
  induction pts with
  | nil => intro h; exact absurd rfl h
  | cons a r ih =>
    intro _ hs hl
    cases r with
    | nil => simp [lastD] at hl; simp [SortedIdx, hl]
    | cons b r' =>
      rw [lastD_cons_cons] at hl
      exact ⟨hs.1, ih (by simp) hs.2 hl⟩

theorem claims_snoc (tsOf : Nat → Int) (x : Pt) : ∀ (pts : List Pt), pts ≠ [] → Claims tsOf pts →
    (∀ q, (lastD pts).idx < q → q ≤ x.idx → (lastD pts).ts ≤ tsOf q ∧ tsOf q ≤ x.ts) → Claims tsOf (pts ++ [x]) := by
  intro pts
  induction pts with
  | nil => intro h; exact absurd rfl h
  | cons a r ih =>
    intro _ hc hl
    cases r with
    | nil => simp [lastD] at hl; exact ⟨hl, trivial⟩
    | cons b r' =>
      rw [lastD_cons_cons] at hl
      exact ⟨hc.1, ih (by simp) hc.2 hl⟩

theorem tailAbove_snoc (tsOf : Nat → Int) (K : List Pt) (x : Pt) : TailAbove tsOf (x.idx + 1) (K ++ [x]) := by
  intro q h1 h2
  rw [lastD_snoc] at h1
  omega

theorem inChunk_snoc (K : List Pt) (x : Pt) (hK : ∀ p ∈ K, p.idx ≤ x.idx) : ∀ p ∈ K ++ [x], p.idx < x.idx + 1 := by
  intro p hp
  rcases List.mem_append.1 hp with hp | hp
  · exact Nat.lt_succ_of_le (hK p hp)
  · rw [List.mem_singleton.1 hp]; exact Nat.lt_succ_self _

theorem indexSound_snoc {tsOf : Nat → Int} (K : List Pt) (x : Pt) (hne : K ≠ []) (hs : SortedTs K) (hi : SortedIdx K)
    (hc : Claims tsOf K) (hh : HeadOk tsOf (K ++ [x]))
    (hx : ∀ q, (lastD K).idx < q → q ≤ x.idx → (lastD K).ts ≤ tsOf q ∧ tsOf q ≤ x.ts)
    (hts : (lastD K).ts ≤ x.ts) (hK : ∀ p ∈ K, p.idx ≤ x.idx) : IndexSound tsOf (x.idx + 1) (K ++ [x]) :=
  ⟨by simpa using hne, sortedTs_snoc x K hne hs hts, sortedIdx_snoc x K hne hi (hK _ (lastD_mem K hne)),
    claims_snoc tsOf x K hne hc hx, hh, fun _ => tailAbove_snoc tsOf K x, inChunk_snoc K x hK⟩

theorem add_append_eq {pts : List Pt} (it : Iv) (hne : pts ≠ []) (hc : cntLE pts it.p0.ts = pts.length) :
    add pts it = pts ++ [it.p1] := by
  match pts, hne, hc with
  | _ :: _, _, hc => simp only [add, hc, if_true]

/-- **append case** of `block.addInterval` (and the creation of the first interval): the new batch starts at or above
every indexed timestamp, so only `p1` is appended. -/
theorem add_preserves_append {tsOf : Nat → Int} {n n' : Nat} {pts : List Pt} (it : Iv) (hs : IndexSound tsOf n pts)
    (hcase : cntLE pts it.p0.ts = pts.length)
    (hn : it.p0.idx = n) (hle : it.p0.idx ≤ it.p1.idx) (hn' : n' = it.p1.idx + 1) (hb : BatchIn it tsOf)
    (hg : GapCovered pts it tsOf) (he : pts = [] → it.p0.idx = 0) : IndexSound tsOf n' (add pts it) := by
  have hb0 := hb it.p0.idx (Nat.le_refl _) hle
  have hts : it.p0.ts ≤ it.p1.ts := by omega
  subst hn'
  match pts, hs, hcase, hg, he with
  | [], _, _, _, he =>
    have h0 := hb 0 (by rw [he rfl]; exact Nat.le_refl _) (Nat.zero_le _)
    exact indexSound_snoc [it.p0] it.p1 (by simp) trivial trivial trivial ⟨he rfl, h0.1, h0.2⟩
      (fun q h1 h2 => hb q (Nat.le_of_lt h1) h2) hts (by simpa using hle)
  | [a], hs, _, _, _ => exact absurd rfl hs.len
  | a :: b :: r, hs, hcase, hg, _ =>
    have hne : (a :: b :: r) ≠ [] := by simp
    have hlm := lastD_mem (a :: b :: r) hne
    have hl_ts : (lastD (a :: b :: r)).ts ≤ it.p0.ts := all_le_of_cntLE_eq_length it.p0.ts _ hcase _ hlm
    rw [add_append_eq it hne hcase]
    refine indexSound_snoc _ it.p1 hne hs.sortedTs hs.sortedIdx hs.claims (by simpa [HeadOk] using hs.head) ?_ (by omega)
      (fun p hp => by have := hs.inChunk p hp; omega)
    intro q h1 h2
    by_cases hq : q < it.p0.idx
    · -- a position of a skipped batch
      exact ⟨hs.tail hne q h1 (by omega), hg q h1 hq⟩
    · have := hb q (by omega) h2
      omega

/-- a write the sparse index skips (fewer than `sparseSpace` records since the last point): the index is unchanged and
stays sound when the new records are not below the last point -/
theorem skip_preserves {tsOf : Nat → Int} {n n' : Nat} {pts : List Pt} (hs : IndexSound tsOf n pts) (hnn : n ≤ n')
    (hnew : ∀ q, n ≤ q → q < n' → (lastD pts).ts ≤ tsOf q) : IndexSound tsOf n' pts := by
  refine ⟨hs.len, hs.sortedTs, hs.sortedIdx, hs.claims, hs.head, ?_, ?_⟩
  · intro hne q h1 h2
    by_cases hq : q < n
    · exact hs.tail hne q h1 hq
    · exact hnew q (by omega) h2
  · intro p hp; have := hs.inChunk p hp; omega

theorem gapCovered_of_monotone {tsOf : Nat → Int} {n' : Nat} (pts : List Pt) (it : Iv) (hm : Monotone tsOf n')
    (hb : BatchIn it tsOf) (hle : it.p0.idx ≤ it.p1.idx) (hl : it.p1.idx < n') : GapCovered pts it tsOf := by
  intro q _ h2
  have h1 := hm q it.p0.idx (by omega) (by omega)
  have := hb it.p0.idx (Nat.le_refl _) hle
  omega

/-- on a monotone stream whose index is sound, a batch whose hull is exact always takes the append case -/
theorem append_case_of_monotone {tsOf : Nat → Int} {n : Nat} {pts : List Pt} (it : Iv) (hs : IndexSound tsOf n pts)
    (hm : Monotone tsOf (it.p0.idx + 1)) (hn : it.p0.idx = n) (hexact : it.p0.ts = tsOf it.p0.idx)
    (hatt : ∀ p ∈ pts, ∃ q, q < n ∧ p.ts ≤ tsOf q) : cntLE pts it.p0.ts = pts.length := by
  have hall : ∀ p ∈ pts, p.ts ≤ it.p0.ts := by
    intro p hp
    obtain ⟨q, hq, hle⟩ := hatt p hp
    have := hm q it.p0.idx (by omega) (by omega)
    omega
  clear hs
  exact cntLE_of_all_le _ pts hall

end Logrange.Points

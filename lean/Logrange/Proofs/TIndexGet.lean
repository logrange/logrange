import Logrange.Proofs.TIndexRun
/-!
# `GetJournal` (look-up without creation), rejected and empty texts, `Set.Equals`
-/
namespace Logrange.Proofs.TIndexGet
open Go Logrange.KV Logrange.Tags Logrange.TagsEval Logrange.TIndexId Logrange.Proofs.KV Logrange.Proofs.Tags
  Logrange.Proofs.TIndexId Logrange.Proofs.TIndexRun Logrange.Proofs.Quote

/-- `GetJournal` never changes the index -/
theorem get_no_change (s : St) (raw : Bytes) : (getOrCreate s raw false).1 = s := by
  rcases getOrCreate_cases s raw false with h | ⟨tgs, hp, hne, h1, h2, _⟩
  · exact h
  · rw [getOrCreate_miss false h1 hp, if_neg (isEmpty_false hne), h2]; rfl

/-- a text the parser rejects (and that is not a stored key) is refused, whatever the index holds, and changes nothing -/
theorem rejected_text_refused (s : St) (raw : Bytes) (create : Bool) (h1 : lookup s.tmap raw = none)
    (hp : parse raw = none) : getOrCreate s raw create = (s, .badTags) :=
  getOrCreate_badTags create h1 hp

/-- a text denoting the empty set is refused ("at least one tag value is expected") -/
theorem empty_set_refused (s : St) (raw : Bytes) (create : Bool) (h1 : lookup s.tmap raw = none)
    (hp : parse raw = some []) : getOrCreate s raw create = (s, .empty) :=
  getOrCreate_miss create h1 hp

/-- **`GetJournal` finds exactly the partition of the set** (Safe index, Safe non-empty set): it answers `notFound` iff no
partition holds that set, and otherwise the id of the partition that does. -/
theorem get_journal_spec (s : St) (hinv : TInv s) (hsafe : SafeSt s) (t : Bytes) (m : Map) (hp : parse t = some m)
    (hne : m ≠ []) (hs : safe m = true) :
    ((getOrCreate s t false).2 = .notFound ∧ ∀ e ∈ s.tmap, e.2.tags ≠ m) ∨
    (∃ e ∈ s.tmap, e.2.tags = m ∧ (getOrCreate s t false).2 = .ok e.2.src) := by
  rw [getOrCreate_find s hinv (keys_reparse quoteContract s hinv hsafe) t m hp hne
    (roundtrip_core quoteContract m (parse_WF t m hp) hs)]
  cases hf : s.tmap.find? (fun e => e.2.tags = m) with
  | some e => exact Or.inr ⟨e, (of_find_tags hf).1, (of_find_tags hf).2, rfl⟩
  | none => exact Or.inl ⟨rfl, fun e he hem => List.find?_eq_none.mp hf e he (decide_eq_true hem)⟩

/-- **`Set.Equals` (line equality) is set equality** on Safe sets -/
theorem equals_iff_same_set (m1 m2 : Map) (h1 : Map.WF m1) (h2 : Map.WF m2) (s1 : safe m1 = true) (s2 : safe m2 = true) :
    line m1 = line m2 ↔ m1 = m2 :=
  ⟨line_injective quoteContract m1 m2 h1 h2 s1 s2, fun h => by rw [h]⟩

end Logrange.Proofs.TIndexGet

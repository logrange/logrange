import Logrange.Proofs.PathMatchItems
/-!
# Leftmost-commit (`greedyMatch`) = existential (`matchItems`) under `starSafe` / `starSafeAscii`

Plan: cut the item list into star run ++ star-free segment ++ rest (`splitSeg_spec`); the existential meaning of a
segment is `consume` followed by the rest (`matchItems_seg`), a star run is one `starAny` (`stars_match`). For the last
segment the star loop tries every position, which is `starAny` itself (`starLoopI_true`). For a segment between two
stars the loop stops at the leftmost position (`firstAt`, `starLoopI_false`); when the segment is *stable* (it eats
exactly its own length of bytes, never a `/`) a later position leaves a suffix of what the leftmost one leaves, and
the following star absorbs the difference (`starAny_first`). `greedy_gen` is generic in the name class `N` and the item
kind `mid` allowed between stars; `gGo` is the state machine shared by `starSafeGo` and `starSafeAsciiGo`.
-/
namespace Logrange.PathSpec
open Logrange.PathMatch

/-! ## `starAny` -/

theorem starAny_idem (k : Bytes → Bool) : ∀ n, starAny (starAny k) n = starAny k n
  | [] => by simp [starAny]
  | c :: t => by
    have ih := starAny_idem k t
    simp only [starAny, ih]
    cases k (c :: t) <;> cases (c != SL) <;> cases starAny k t <;> rfl

theorem starAny_split (k : Bytes → Bool) : ∀ n, starAny k n = true → ∃ a b, n = a ++ b ∧ SL ∉ a ∧ k b = true
  | [], h => ⟨[], [], rfl, by simp, by simpa [starAny] using h⟩
  | c :: t, h => by
    simp only [starAny, Bool.or_eq_true, Bool.and_eq_true, bne_iff_ne, ne_eq] at h
    rcases h with h | ⟨hc, h⟩
    · exact ⟨[], c :: t, rfl, by simp, h⟩
    · obtain ⟨a, b, e, ha, hb⟩ := starAny_split k t h
      refine ⟨c :: a, b, by simp [e], ?_, hb⟩
      simp only [List.mem_cons, not_or]
      exact ⟨fun e => hc e.symm, ha⟩

theorem starAny_absorb (k : Bytes → Bool) (t : Bytes) (h : starAny k t = true) :
    ∀ m : Bytes, SL ∉ m → starAny k (m ++ t) = true
  | [], _ => by simpa using h
  | c :: m, hm => by
    simp only [List.mem_cons, not_or] at hm
    have ih := starAny_absorb k t h m hm.2
    have hc : (c != SL) = true := by simp only [bne_iff_ne, ne_eq]; exact fun e => hm.1 e.symm
    simp [starAny, ih, hc]

theorem starAny_isEmpty : ∀ n : Bytes, starAny (fun b => b.isEmpty) n = !n.contains SL
  | [] => by simp [starAny]
  | c :: t => by
    have ih := starAny_isEmpty t
    simp only [starAny, ih, List.contains_cons, List.isEmpty_cons, Bool.false_or]
    by_cases hc : c = SL
    · subst hc; simp
    · have h1 : (c != SL) = true := by simpa using hc
      have h2 : (SL == c) = false := by simp only [beq_eq_false_iff_ne, ne_eq]; exact fun e => hc e.symm
      simp [h1, h2]

/-! ## segments -/

theorem isStar_eq {i : Item} (h : i.isStar = true) : i = .star := by
  cases i <;> simp [Item.isStar] at h ⊢

theorem hasStar_of_all : ∀ l : List Item, (∀ i ∈ l, i.isStar = false) → hasStar l = false
  | [], _ => rfl
  | i :: s, h => by
    have h1 := h i (by simp)
    have h2 := hasStar_of_all s (fun j hj => h j (by simp [hj]))
    cases i <;> simp [hasStar, Item.isStar] at h1 ⊢ <;> exact h2

theorem dropWhile_head {α} (p : α → Bool) (l : List α) (x : α) (xs : List α) (h : l.dropWhile p = x :: xs) : p x = false := by
  have := List.head_dropWhile_not p (l := l) (by rw [h]; exact List.cons_ne_nil _ _)
  simpa only [h, List.head_cons] using this

theorem takeWhile_nil {α} (p : α → Bool) : ∀ l : List α, l.takeWhile p = [] → l = [] ∨ ∃ x xs, l = x :: xs ∧ p x = false
  | [], _ => Or.inl rfl
  | a :: l, h => by
    rw [List.takeWhile_cons] at h
    by_cases ha : p a = true
    · simp [ha] at h
    · exact Or.inr ⟨a, l, rfl, by simpa using ha⟩

theorem mem_takeWhile_imp' {α} (p : α → Bool) : ∀ (l : List α) (x : α), x ∈ l.takeWhile p → p x = true
  | [], x, h => by simp at h
  | a :: l, x, h => by
    rw [List.takeWhile_cons] at h
    by_cases ha : p a = true
    · simp only [ha, if_true, List.mem_cons] at h
      rcases h with h | h
      · rw [h]; exact ha
      · exact mem_takeWhile_imp' p l x h
    · simp [ha] at h

theorem splitSeg_spec (its : List Item) :
    ∃ stars seg rest, its = stars ++ (seg ++ rest) ∧ (∀ i ∈ stars, i = Item.star) ∧ hasStar seg = false ∧
      (rest = [] ∨ ∃ r', rest = Item.star :: r') ∧ splitSeg its = (!stars.isEmpty, seg, rest) ∧ (seg = [] → rest = []) := by
  refine ⟨its.takeWhile Item.isStar, (its.dropWhile Item.isStar).takeWhile (fun i => !i.isStar),
    (its.dropWhile Item.isStar).dropWhile (fun i => !i.isStar), ?_, ?_, ?_, ?_, ?_, ?_⟩
  · rw [List.takeWhile_append_dropWhile, List.takeWhile_append_dropWhile]
  · intro i hi; exact isStar_eq (mem_takeWhile_imp' _ _ _ hi)
  · apply hasStar_of_all
    intro i hi
    have := mem_takeWhile_imp' _ _ _ hi
    simpa using this
  · cases h : (its.dropWhile Item.isStar).dropWhile (fun i => !i.isStar) with
    | nil => exact Or.inl rfl
    | cons x xs =>
      have := dropWhile_head _ _ _ _ h
      have hx : x.isStar = true := by simpa using this
      exact Or.inr ⟨xs, by rw [isStar_eq hx]⟩
  · simp only [splitSeg]
    cases its with
    | nil => simp
    | cons i tl =>
      by_cases hi : i.isStar = true <;> simp [hi]
  · intro h
    rcases takeWhile_nil _ _ h with h0 | ⟨x, xs, hx, hp⟩
    · rw [h0]; rfl
    · have := dropWhile_head _ _ _ _ hx
      simp [this] at hp

theorem stars_match : ∀ stars : List Item, (∀ i ∈ stars, i = Item.star) → stars ≠ [] → ∀ l n,
    matchItems (stars ++ l) n = starAny (matchItems l) n
  | [], _, h, _, _ => absurd rfl h
  | i :: s, hs, _, l, n => by
    have hi : i = .star := hs i (by simp)
    subst hi
    cases s with
    | nil => simp [matchItems]
    | cons j s' =>
      have ih := stars_match (j :: s') (fun x hx => hs x (by simp [hx])) (by simp) l
      simp only [List.cons_append, matchItems]
      have : matchItems (j :: (s' ++ l)) = starAny (matchItems l) := funext ih
      rw [this]; exact starAny_idem _ n

theorem allStar_match (stars : List Item) (hs : ∀ i ∈ stars, i = Item.star) (hne : stars ≠ []) (n : Bytes) :
    matchItems stars n = !n.contains SL := by
  rw [← List.append_nil stars, stars_match stars hs hne [] n]
  exact starAny_isEmpty n

/-! ## the star loop -/

/-- leftmost position (the star never steps over a `/`) at which the segment can be consumed -/
def firstAt (seg : List Item) : Bytes → Option Bytes
  | [] => consume seg []
  | c :: r =>
    match consume seg (c :: r) with
    | some t => some t
    | none => if c == SL then none else firstAt seg r

theorem starLoopI_false (seg : List Item) : ∀ n : Bytes,
    (match consume seg n with | some t => some t | none => starLoopI seg n false) = firstAt seg n
  | [] => by
    simp only [firstAt, starLoopI]
    cases consume seg [] <;> rfl
  | c :: r => by
    have ih := starLoopI_false seg r
    simp only [firstAt, starLoopI]
    cases h : consume seg (c :: r) with
    | some t => rfl
    | none =>
      simp only []
      by_cases hc : (c == SL) = true
      · simp [hc]
      · simp only [hc, Bool.false_eq_true, if_false, Bool.false_and]
        rw [← ih]
        cases consume seg r <;> rfl

theorem firstAt_suffix (seg : List Item) : ∀ (n t : Bytes), firstAt seg n = some t → ∃ a, n = a ++ t
  | [], t, h => consume_suffix seg [] t (by simpa [firstAt] using h)
  | c :: r, t, h => by
    simp only [firstAt] at h
    cases hc : consume seg (c :: r) with
    | some t' =>
      rw [hc] at h
      simp only [Option.some.injEq] at h
      subst h
      exact consume_suffix seg _ _ hc
    | none =>
      rw [hc] at h
      simp only [] at h
      split at h
      · simp at h
      · obtain ⟨a, ha⟩ := firstAt_suffix seg r t h
        exact ⟨c :: a, by simp [ha]⟩

/-- the last segment behind a star: every position is tried -/
theorem starLoopI_true (seg : List Item) : ∀ n : Bytes,
    (match consume seg n with
     | some t => if t.isEmpty then true else
        (match starLoopI seg n true with | some t' => t'.isEmpty | none => false)
     | none => (match starLoopI seg n true with | some t' => t'.isEmpty | none => false)) =
    starAny (fun b => match consume seg b with | some t => t.isEmpty | none => false) n
  | [] => by
    simp only [starLoopI, starAny]
    cases consume seg [] with
    | none => rfl
    | some t => cases t <;> rfl
  | c :: r => by
    have ih := starLoopI_true seg r
    simp only [starAny, ← ih]
    have hV : (match starLoopI seg (c :: r) true with | some t' => t'.isEmpty | none => false) =
        (c != SL && (match consume seg r with
         | some t => if t.isEmpty then true else
            (match starLoopI seg r true with | some t' => t'.isEmpty | none => false)
         | none => (match starLoopI seg r true with | some t' => t'.isEmpty | none => false))) := by
      simp only [starLoopI]
      by_cases hc : (c == SL) = true
      · have hc' : c = SL := by simpa using hc
        subst hc'
        simp
      · have : (c != SL) = true := by simpa [bne] using hc
        simp only [hc, Bool.false_eq_true, if_false, this, Bool.true_and]
        cases consume seg r with
        | none => rfl
        | some t => cases t <;> simp
    rw [hV]
    cases consume seg (c :: r) with
    | none => simp
    | some t => cases t <;> simp

theorem greedy_nil (fuel : Nat) (n : Bytes) : greedy (fuel+1) [] n = n.isEmpty := by
  simp [greedy]

theorem greedy_succ (fuel : Nat) (its : List Item) (name : Bytes) (star : Bool) (seg rest : List Item)
    (hne : its ≠ []) (hsp : splitSeg its = (star, seg, rest)) :
    greedy (fuel+1) its name =
      if star && seg.isEmpty then !name.contains SL else
      match consume seg name with
      | some t => if t.isEmpty || !rest.isEmpty then greedy fuel rest t else
          (if star then (match starLoopI seg name rest.isEmpty with | some t' => greedy fuel rest t' | none => false) else false)
      | none => (if star then (match starLoopI seg name rest.isEmpty with | some t' => greedy fuel rest t' | none => false) else false) := by
  have he : its.isEmpty = false := by cases its <;> simp at hne ⊢
  rw [greedy]
  simp only [he, Bool.false_eq_true, if_false, hsp]
  split
  · rfl
  · cases consume seg name <;> rfl

/-! ## the state machine of `starSafe`, generically -/

def gGo (mid : Item → Bool) : Bool → Bool → List Item → Bool
  | _, _, [] => true
  | a, ok, i :: r => if i.isStar then (!a || ok) && gGo mid true true r else gGo mid a (ok && mid i) r

def litMid : Item → Bool
  | .lit c => c != SL
  | _ => false

theorem starSafeGo_eq : ∀ (its : List Item) (a ok : Bool), starSafeGo a ok its = gGo litMid a ok its
  | [], a, ok => by simp [starSafeGo, gGo]
  | i :: r, a, ok => by
    cases i <;> simp [starSafeGo, gGo, Item.isStar, litMid, starSafeGo_eq r]

theorem starSafeAsciiGo_eq : ∀ (its : List Item) (a ok : Bool), starSafeAsciiGo a ok its = gGo Item.asciiMid a ok its
  | [], a, ok => by simp [starSafeAsciiGo, gGo]
  | i :: r, a, ok => by
    cases i <;> simp [starSafeAsciiGo, gGo, Item.isStar, starSafeAsciiGo_eq r]

theorem gGo_stars (mid : Item → Bool) : ∀ (stars : List Item), (∀ i ∈ stars, i = Item.star) → stars ≠ [] →
    ∀ (a ok : Bool) (l : List Item), gGo mid a ok (stars ++ l) = true → gGo mid true true l = true
  | [], _, h, _, _, _, _ => absurd rfl h
  | i :: s, hs, _, a, ok, l, h => by
    have hi : i = .star := hs i (by simp)
    subst hi
    simp only [List.cons_append, gGo, Item.isStar, if_true, Bool.and_eq_true] at h
    cases s with
    | nil => simpa using h.2
    | cons j s' => exact gGo_stars mid (j :: s') (fun x hx => hs x (by simp [hx])) (by simp) true true l h.2

theorem gGo_seg_mid (mid : Item → Bool) : ∀ (seg : List Item) (ok : Bool) (r' : List Item), hasStar seg = false →
    gGo mid true ok (seg ++ Item.star :: r') = true → (∀ i ∈ seg, mid i = true) ∧ gGo mid true true r' = true
  | [], ok, r', _, h => by
    simp only [List.nil_append, gGo, Item.isStar, if_true, Bool.and_eq_true] at h
    exact ⟨by simp, h.2⟩
  | i :: s, ok, r', hs, h => by
    obtain ⟨hi, hs'⟩ := hasStar_cons hs
    simp only [List.cons_append, gGo, hi, Bool.false_eq_true, if_false] at h
    -- need ok && mid i = true: generalise
    have key : ∀ (seg : List Item) (ok : Bool), hasStar seg = false →
        gGo mid true ok (seg ++ Item.star :: r') = true → ok = true := by
      intro seg
      induction seg with
      | nil => intro ok _ h; simp only [List.nil_append, gGo, Item.isStar, if_true, Bool.and_eq_true] at h; simpa using h.1
      | cons j s ih =>
        intro ok hs h
        obtain ⟨hj, hs'⟩ := hasStar_cons hs
        simp only [List.cons_append, gGo, hj, Bool.false_eq_true, if_false] at h
        have := ih _ hs' h
        simp only [Bool.and_eq_true] at this
        exact this.1
    have hk := key s _ hs' h
    simp only [Bool.and_eq_true] at hk
    obtain ⟨h1, h2⟩ := gGo_seg_mid mid s _ r' hs' h
    refine ⟨?_, h2⟩
    intro x hx
    simp only [List.mem_cons] at hx
    rcases hx with hx | hx
    · rw [hx]; exact hk.2
    · exact h1 x hx

theorem gGo_seg_any (mid : Item → Bool) : ∀ (seg : List Item) (a ok : Bool) (r' : List Item), hasStar seg = false →
    gGo mid a ok (seg ++ Item.star :: r') = true → gGo mid true true r' = true
  | [], a, ok, r', _, h => by
    simp only [List.nil_append, gGo, Item.isStar, if_true, Bool.and_eq_true] at h
    exact h.2
  | i :: s, a, ok, r', hs, h => by
    obtain ⟨hi, hs'⟩ := hasStar_cons hs
    simp only [List.cons_append, gGo, hi, Bool.false_eq_true, if_false] at h
    exact gGo_seg_any mid s _ _ r' hs' h

theorem gGo_star_cons (mid : Item → Bool) (r' : List Item) (h : gGo mid true true r' = true) :
    gGo mid true true (Item.star :: r') = true := by
  simp [gGo, Item.isStar, h]

/-! ## stable segments and the commit lemma -/

/-- on names of the class `N` the segment consumes exactly `seg.length` bytes, none of them `/` -/
def Stable (N : Bytes → Prop) (seg : List Item) : Prop :=
  ∀ s t, N s → consume seg s = some t → ∃ pre, s = pre ++ t ∧ pre.length = seg.length ∧ SL ∉ pre

/-- an item of kind `mid` eats exactly one byte, not `/`, of a name of class `N` -/
def StepOK (mid : Item → Bool) (N : Bytes → Prop) : Prop :=
  ∀ (i : Item) (r : List Item) (s t : Bytes), mid i = true → N s → consume (i :: r) s = some t →
    ∃ c s', s = c :: s' ∧ c ≠ SL ∧ consume r s' = some t

theorem stable_of_mid (mid : Item → Bool) (N : Bytes → Prop) (hN : ∀ a b, N (a ++ b) → N b) (hstep : StepOK mid N) :
    ∀ seg : List Item, (∀ i ∈ seg, mid i = true) → Stable N seg
  | [], _ => fun s t _ h => by
    simp only [consume, Option.some.injEq] at h
    exact ⟨[], by simp [h], rfl, by simp⟩
  | i :: r, hm => fun s t hs h => by
    obtain ⟨c, s', rfl, hc, h'⟩ := hstep i r s t (hm i (by simp)) hs h
    obtain ⟨pre, e, hl, hp⟩ := stable_of_mid mid N hN hstep r (fun j hj => hm j (by simp [hj])) s' t (hN [c] s' hs) h'
    refine ⟨c :: pre, by simp [← e], by simp [hl], ?_⟩
    simp only [List.mem_cons, not_or]
    exact ⟨fun e => hc e.symm, hp⟩

theorem starAny_first (N : Bytes → Prop) (hN : ∀ a b, N (a ++ b) → N b) (seg : List Item) (hst : Stable N seg)
    (k' : Bytes → Bool) (habs : ∀ m t, SL ∉ m → k' t = true → k' (m ++ t) = true) :
    ∀ n : Bytes, N n →
      starAny (fun b => match consume seg b with | some t => k' t | none => false) n =
        (match firstAt seg n with | some t => k' t | none => false)
  | [], _ => by simp only [starAny, firstAt]
  | c :: r, hn => by
    have hNr : N r := hN [c] r hn
    have ih := starAny_first N hN seg hst k' habs r hNr
    simp only [starAny, firstAt]
    cases hc : consume seg (c :: r) with
    | none =>
      simp only [Bool.false_or]
      by_cases hcs : (c == SL) = true
      · have : (c != SL) = false := by simpa [bne] using hcs
        simp [hcs, this]
      · have : (c != SL) = true := by simpa [bne] using hcs
        simp only [hcs, Bool.false_eq_true, if_false, this, Bool.true_and]
        exact ih
    | some t =>
      simp only []
      cases hk : k' t with
      | true => simp
      | false =>
        simp only [Bool.false_or]
        -- a later match would contradict `k' t = false`
        cases hA : (c != SL && starAny (fun b => match consume seg b with | some t => k' t | none => false) r) with
        | false => rfl
        | true =>
          exfalso
          simp only [Bool.and_eq_true, bne_iff_ne, ne_eq] at hA
          obtain ⟨hcs, hsa⟩ := hA
          obtain ⟨a, b, e, ha, hb⟩ := starAny_split _ r hsa
          cases hcb : consume seg b with
          | none => simp [hcb] at hb
          | some t' =>
            simp only [hcb] at hb
            have hNb : N b := hN a b (e ▸ hNr)
            obtain ⟨pre, e1, l1, p1⟩ := hst _ _ hn hc
            obtain ⟨pre', e2, l2, p2⟩ := hst _ _ hNb hcb
            have e3 : pre ++ t = (c :: a ++ pre') ++ t' := by
              rw [← e1, e, e2]; simp
            rcases List.append_eq_append_iff.mp e3 with ⟨m, h1, h2⟩ | ⟨m, h1, h2⟩
            · have hm : SL ∉ m := by
                intro hmem
                have : SL ∈ c :: a ++ pre' := by rw [h1]; simp [hmem]
                simp only [List.cons_append, List.mem_cons, List.mem_append] at this
                rcases this with h | h | h
                · exact hcs h.symm
                · exact ha h
                · exact p2 h
              have := habs m t' hm hb
              rw [← h2, hk] at this
              exact Bool.noConfusion this
            · have := congrArg List.length h1
              simp only [List.length_append, List.length_cons] at this
              omega

/-! ## the general theorem -/

theorem greedy_gen (mid : Item → Bool) (N : Bytes → Prop) (hN : ∀ a b, N (a ++ b) → N b) (hstep : StepOK mid N) :
    ∀ (fuel : Nat) (its : List Item) (n : Bytes), its.length < fuel → N n → (∃ a ok, gGo mid a ok its = true) →
      greedy fuel its n = matchItems its n := by
  intro fuel
  induction fuel with
  | zero => intro its n h; omega
  | succ f ih =>
    intro its n hl hn hw
    by_cases hne : its = []
    · subst hne; simp [greedy, matchItems]
    obtain ⟨stars, seg, rest, hits, hst, hseg, hrest, hsp, hse⟩ := splitSeg_spec its
    rw [greedy_succ f its n _ seg rest hne hsp]
    have hlen0 : its.length = stars.length + (seg.length + rest.length) := by
      rw [hits]; simp only [List.length_append]
    have hne2 : stars ≠ [] ∨ seg ≠ [] := by
      by_cases h1 : stars = []
      · by_cases h2 : seg = []
        · exfalso; apply hne; rw [hits, h1, h2, hse h2]; rfl
        · exact Or.inr h2
      · exact Or.inl h1
    have hlen : rest.length < f := by
      rcases hne2 with h | h
      · have : 0 < stars.length := List.length_pos_iff.mpr h
        omega
      · have : 0 < seg.length := List.length_pos_iff.mpr h
        omega
    obtain ⟨a, ok, hg⟩ := hw
    by_cases hs0 : stars = []
    · -- the first segment of the pattern: no star in front
      subst hs0
      simp only [List.nil_append] at hits
      have hW : ∃ a ok, gGo mid a ok rest = true := by
        rcases hrest with e | ⟨r', e⟩
        · exact ⟨true, true, by rw [e]; simp [gGo]⟩
        · rw [hits, e] at hg
          exact ⟨true, true, by rw [e]; exact gGo_star_cons mid r' (gGo_seg_any mid seg a ok r' hseg hg)⟩
      simp only [List.isEmpty_nil, Bool.not_true, Bool.false_and, Bool.false_eq_true, if_false]
      rw [hits, matchItems_seg seg rest n hseg]
      cases hc : consume seg n with
      | none => rfl
      | some t =>
        simp only []
        obtain ⟨a', ha'⟩ := consume_suffix seg n t hc
        have hNt : N t := hN a' t (ha' ▸ hn)
        have hih := ih rest t hlen hNt hW
        by_cases hcond : (t.isEmpty || !rest.isEmpty) = true
        · simp only [hcond, if_true]; exact hih
        · simp only [hcond, Bool.false_eq_true, if_false]
          simp only [Bool.or_eq_true, not_or, Bool.not_eq_true, Bool.not_eq_false', List.isEmpty_iff] at hcond
          cases t with
          | nil => simp at hcond
          | cons x t' => rw [hcond.2]; simp [matchItems]
    · -- a star run in front
      have hst1 : (!stars.isEmpty) = true := by cases stars <;> simp at hs0 ⊢
      simp only [hst1, Bool.true_and, if_true]
      by_cases hseg0 : seg = []
      · have hr0 := hse hseg0
        subst hseg0; subst hr0
        simp only [List.isEmpty_nil, if_true]
        rw [hits]
        simp only [List.append_nil]
        exact (allStar_match stars hst hs0 n).symm
      · have hseg1 : seg.isEmpty = false := by cases seg <;> simp at hseg0 ⊢
        simp only [hseg1, Bool.false_eq_true, if_false]
        have hg1 : gGo mid true true (seg ++ rest) = true := gGo_stars mid stars hst hs0 a ok _ (hits ▸ hg)
        rw [hits, stars_match stars hst hs0 (seg ++ rest) n]
        have hfun : matchItems (seg ++ rest) =
            fun b => match consume seg b with | some t => matchItems rest t | none => false :=
          funext (fun b => matchItems_seg seg rest b hseg)
        rw [hfun]
        rcases hrest with e | ⟨r', e⟩
        · -- the last segment: every position is tried
          subst e
          obtain ⟨f', rfl⟩ : ∃ f', f = f' + 1 := ⟨f - 1, by simp only [List.length_nil] at hlen; omega⟩
          simp only [List.isEmpty_nil, Bool.not_true, Bool.or_false, greedy_nil, matchItems]
          refine Eq.trans ?_ (starLoopI_true seg n)
          cases consume seg n with
          | none => rfl
          | some t => cases t <;> rfl
        · -- a segment between two stars: the leftmost position is final
          subst e
          obtain ⟨hmid, hg2⟩ := gGo_seg_mid mid seg true r' hseg hg1
          have hstab := stable_of_mid mid N hN hstep seg hmid
          have hW : ∃ a ok, gGo mid a ok (Item.star :: r') = true := ⟨true, true, gGo_star_cons mid r' hg2⟩
          have habs : ∀ m t, SL ∉ m → matchItems (Item.star :: r') t = true → matchItems (Item.star :: r') (m ++ t) = true := by
            intro m t hm ht
            simp only [matchItems] at ht ⊢
            exact starAny_absorb _ t ht m hm
          simp only [List.isEmpty_cons, Bool.not_false, Bool.or_true, if_true]
          rw [starAny_first N hN seg hstab (matchItems (Item.star :: r')) habs n hn]
          have hfa := starLoopI_false seg n
          cases hc : consume seg n with
          | some t =>
            rw [hc] at hfa
            simp only [] at hfa
            rw [← hfa]
            simp only []
            obtain ⟨a', ha'⟩ := consume_suffix seg n t hc
            exact ih _ t hlen (hN a' t (ha' ▸ hn)) hW
          | none =>
            rw [hc] at hfa
            simp only [] at hfa
            rw [← hfa]
            simp only []
            cases hsl : starLoopI seg n false with
            | none => rfl
            | some t' =>
              simp only []
              rw [hsl] at hfa
              obtain ⟨a', ha'⟩ := firstAt_suffix seg n t' hfa.symm
              exact ih _ t' hlen (hN a' t' (ha' ▸ hn)) hW

/-! ## the two instances -/

theorem stepOK_lit : StepOK litMid (fun _ => True) := by
  intro i r s t hm _ h
  cases i with
  | lit c =>
    simp only [litMid, bne_iff_ne, ne_eq] at hm
    cases s with
    | nil => simp [consume] at h
    | cons x s' =>
      simp only [consume] at h
      split at h
      · rename_i hx
        have hx' : x = c := by simpa using hx
        exact ⟨x, s', rfl, by rw [hx']; exact hm, h⟩
      · simp at h
  | star => simp [litMid] at hm
  | any => simp [litMid] at hm
  | cls neg rs => simp [litMid] at hm

def asciiName (n : Bytes) : Prop := n.all (fun c => decide (c.toNat < 128)) = true

theorem asciiName_suffix (a b : Bytes) (h : asciiName (a ++ b)) : asciiName b := by
  simp only [asciiName, List.all_append, Bool.and_eq_true] at h ⊢
  exact h.2

theorem decodeRune_ascii (c : UInt8) (r : Bytes) (h : c.toNat < 128) : decodeRune (c :: r) = (c.toNat, 1) := by
  simp [decodeRune, h]

theorem stepOK_ascii : StepOK Item.asciiMid asciiName := by
  intro i r s t hm hs h
  cases s with
  | nil => cases i <;> simp [consume] at h
  | cons x s' =>
    have hx : x.toNat < 128 := by
      simp only [asciiName, List.all_cons, Bool.and_eq_true, decide_eq_true_eq] at hs
      exact hs.1
    have hd := decodeRune_ascii x s' hx
    cases i with
    | star => simp [Item.asciiMid] at hm
    | lit c =>
      simp only [Item.asciiMid, bne_iff_ne, ne_eq] at hm
      simp only [consume] at h
      split at h
      · rename_i hxc
        have hx' : x = c := by simpa using hxc
        exact ⟨x, s', rfl, by rw [hx']; exact hm, h⟩
      · simp at h
    | any =>
      simp only [consume, hd, List.drop_succ_cons, List.drop_zero] at h
      split at h
      · rename_i hxc
        exact ⟨x, s', rfl, by simpa using hxc, h⟩
      · simp at h
    | cls neg rs =>
      simp only [Item.asciiMid, Bool.and_eq_true, Bool.not_eq_true', List.all_eq_true] at hm
      obtain ⟨hneg, hrs⟩ := hm
      subst hneg
      simp only [consume, hd, List.drop_succ_cons, List.drop_zero] at h
      split at h
      · rename_i hin
        refine ⟨x, s', rfl, ?_, h⟩
        intro hxs
        subst hxs
        simp only [inRanges, bne_iff_ne, ne_eq, Bool.not_eq_false, List.any_eq_true] at hin
        obtain ⟨lh, hmem, hlh⟩ := hin
        have := hrs lh hmem
        have h47 : SL.toNat = 47 := by decide
        rw [h47] at hlh
        simp [hlh] at this
      · simp at h

/-- leftmost-commit = existential, every name (any bytes) -/
theorem greedy_eq_spec (its : List Item) (n : Bytes) (h : starSafe its = true) :
    greedyMatch its n = matchItems its n := by
  unfold greedyMatch
  refine greedy_gen litMid (fun _ => True) (fun _ _ _ => trivial) stepOK_lit _ its n (by omega) trivial ⟨false, true, ?_⟩
  rw [← starSafeGo_eq]; exact h

/-- the same for ASCII names under the weaker condition -/
theorem greedy_eq_spec_ascii (its : List Item) (n : Bytes) (hn : n.all (fun c => decide (c.toNat < 128)) = true)
    (h : starSafeAscii its = true) : greedyMatch its n = matchItems its n := by
  unfold greedyMatch
  refine greedy_gen Item.asciiMid asciiName asciiName_suffix stepOK_ascii _ its n (by omega) hn ⟨false, true, ?_⟩
  rw [← starSafeAsciiGo_eq]; exact h

end Logrange.PathSpec

import Logrange.Model.Where
import Logrange.Proofs.Fields
/-!
Lemmas for C05: the builder of `whereeval.go` agrees with the reference meaning, level by level
(function wrapper → condition → XCondition / AND list / OR list by mutual structural recursion).
-/
namespace Logrange.Where
open Go

/-! ## the regenerated constants are the documented ones (re-checked against /repo on every run) -/

theorem gen_cmpContains : Generated.C05.cmpContains = sCONTAINS := by decide
theorem gen_cmpHasPrefix : Generated.C05.cmpHasPrefix = sPREFIX := by decide
theorem gen_cmpHasSuffix : Generated.C05.cmpHasSuffix = sSUFFIX := by decide
theorem gen_cmpLike : Generated.C05.cmpLike = sLIKE := by decide
theorem gen_opndTimestamp : Generated.C05.opndTimestamp = sTs := by decide
theorem gen_opndMessage : Generated.C05.opndMessage = sMsg := by decide
theorem gen_fieldsPrefix : Generated.C05.fieldsPrefix = sFieldsColon := by decide
theorem gen_fieldsMinLen : Generated.C05.fieldsMinLen = 8 := by decide
theorem gen_fieldsCut : Generated.C05.fieldsCut = 7 := by decide
theorem gen_likeTestName : Generated.C05.likeTestName = sProbe := by decide

/-! ## the string functions are what their names say -/

theorem contains_iff_infix : ∀ (s sub : Bytes), contains s sub = true ↔ sub <:+: s
  | [], sub => by simp [contains, List.isEmpty_iff]
  | c :: t, sub => by
    simp only [contains, Bool.or_eq_true, List.isPrefixOf_iff_prefix, contains_iff_infix t sub, List.infix_cons_iff]

theorem hasPrefix_iff (s p : Bytes) : hasPrefix s p = true ↔ p <+: s := by simp [hasPrefix]
theorem hasSuffix_iff (s p : Bytes) : hasSuffix s p = true ↔ p <:+ s := by simp [hasSuffix]

/-! ## identifiers -/

theorem getFirstParamName_eq_leaf : ∀ id : Ident, getFirstParamName id = leaf id
  | .mk _ .nil => by simp [getFirstParamName, leaf]
  | .mk _ (.cons p _) => by simp [getFirstParamName, leaf, getFirstParamName_eq_leaf p]

/-- what it means for `buildMsgLeStrFldF`'s result to agree with the reference -/
def StrFAgrees (env : Env) (id : Ident) : Except BuildErr (Bytes → Bytes) → Prop
  | .ok g => fnsOk env id = true ∧ ∀ s, g s = applyFns env id s
  | .error _ => fnsOk env id = false

theorem strF_agrees (env : Env) : ∀ id : Ident, StrFAgrees env id (buildMsgLeStrFldF env id)
  | .mk _ .nil => by simp [buildMsgLeStrFldF, StrFAgrees, fnsOk, applyFns]
  | .mk o (.cons p rest) => by
    have ih := strF_agrees env p
    cases rest with
    | cons q r => simp [buildMsgLeStrFldF, StrFAgrees, fnsOk, IdList.isNil]
    | nil =>
      simp only [buildMsgLeStrFldF, IdList.isNil, Bool.not_true, Bool.false_eq_true, if_false]
      cases h : buildMsgLeStrFldF env p with
      | error e =>
        rw [h] at ih; simp only [StrFAgrees] at ih
        simp [StrFAgrees, fnsOk, ih]
      | ok inf =>
        rw [h] at ih; simp only [StrFAgrees] at ih
        obtain ⟨hok, hap⟩ := ih
        by_cases hu : (env.up o == sUPPER) = true
        · simp [StrFAgrees, fnsOk, applyFns, hu, hok, hap, IdList.isNil]
        · by_cases hl : (env.up o == sLOWER) = true
          · simp [StrFAgrees, fnsOk, applyFns, hu, hl, hok, hap, IdList.isNil]
          · simp [StrFAgrees, fnsOk, hu, hl]

/-! ## conditions -/

/-- what it means for a built condition to agree with the reference -/
def CondAgrees (env : Env) (c : Cond) : Except BuildErr Pred → Prop
  | .ok f => condSupported env c = true ∧ ∀ ev : Event, Fields.WF ev.fields → f ev = condRef env c ev
  | .error _ => condSupported env c = false

theorem likeRes_eq (p s : Bytes) : likeRes p s = (PathMatch.pathMatch p s == some true) := by
  unfold likeRes
  cases PathMatch.pathMatch p s with
  | none => rfl
  | some b => cases b <;> rfl

theorem value_eq_fieldRef (f name : Bytes) (h : Fields.WF f) : Fields.value f name = fieldRef f name := by
  rw [Fields.value_wf f name h]; rfl

theorem buildTsCond_agrees (env : Env) (c : Cond) (hs : subjectOf env c.ident = .ts) :
    CondAgrees env c (buildTsCond env c) := by
  unfold buildTsCond CondAgrees
  simp only [condSupported, condRef, hs, tsOpOf]
  cases c.ident.params.isNil with
  | false => rfl
  | true =>
    cases env.parseTs c.value with
    | none => rfl
    | some tm =>
      cases (c.op == sLT)
      case true => exact ⟨rfl, fun _ _ => rfl⟩
      cases (c.op == sGT)
      case true => exact ⟨rfl, fun _ _ => rfl⟩
      cases (c.op == sLE)
      case true => exact ⟨rfl, fun _ _ => rfl⟩
      cases (c.op == sGE)
      case true => exact ⟨rfl, fun _ _ => rfl⟩
      rfl

/-- `strOpOf` read as the `if` chain the code is written as -/
theorem strOpOf_elim {β : Type} (u : Bytes) (d : β) (K : StrOp → β) :
    (strOpOf u).elim d K =
      if u == sCONTAINS then K .contains else if u == sPREFIX then K .pfx
      else if u == sSUFFIX then K .sfx else if u == sLIKE then K .like
      else if u == sEQ then K .eq else if u == sNE then K .ne
      else if u == sGT then K .gt else if u == sLT then K .lt
      else if u == sGE then K .ge else if u == sLE then K .le else d := by
  unfold strOpOf
  cases (u == sCONTAINS)
  case true => rfl
  cases (u == sPREFIX)
  case true => rfl
  cases (u == sSUFFIX)
  case true => rfl
  cases (u == sLIKE)
  case true => rfl
  cases (u == sEQ)
  case true => rfl
  cases (u == sNE)
  case true => rfl
  cases (u == sGT)
  case true => rfl
  cases (u == sLT)
  case true => rfl
  cases (u == sGE)
  case true => rfl
  cases (u == sLE) <;> rfl

def strCond1 (allow : StrOp → Bool) (err : BuildErr) (val : Bytes) (g : Event → Bytes) (o : StrOp) : Except BuildErr Pred :=
  if allow o then
    (match o with
     | .like => (match PathMatch.pathMatch val sProbe with
        | none => .error .likePattern
        | some _ => .ok (fun ev => likeRes val (g ev)))
     | o => .ok (fun ev => evalStrOp o (g ev) val))
  else .error err

/-- `buildMsgCond` / `buildFldCond` with the subject (`sub`), the admitted operators and the error left open -/
def strCondOf (env : Env) (c : Cond) (allow : StrOp → Bool) (err : BuildErr) (sub : Event → Bytes) : Except BuildErr Pred :=
  match buildMsgLeStrFldF env c.ident with
  | .error e => .error e
  | .ok lsf => (strOpOf (env.up c.op)).elim (.error err) (strCond1 allow err c.value (fun ev => lsf (sub ev)))

theorem buildMsgCond_eq (env : Env) (c : Cond) : buildMsgCond env c = strCondOf env c StrOp.forMsg .msgOp (·.msg) := by
  unfold buildMsgCond strCondOf
  simp only [gen_cmpContains, gen_cmpHasPrefix, gen_cmpHasSuffix, gen_cmpLike, gen_likeTestName, strOpOf_elim, strCond1,
    StrOp.forMsg, if_true, Bool.false_eq_true, if_false, ite_self]
  rfl

theorem buildFldCond_eq (env : Env) (c : Cond) (fld : Bytes) :
    buildFldCond env c fld = strCondOf env c (fun _ => true) .fldOp (fun ev => Fields.value ev.fields (fld.drop 7)) := by
  unfold buildFldCond strCondOf
  simp only [gen_cmpContains, gen_cmpHasPrefix, gen_cmpHasSuffix, gen_cmpLike, gen_likeTestName, gen_fieldsCut,
    strOpOf_elim, strCond1, if_true]
  rfl

theorem strCond_agrees (env : Env) (c : Cond) (allow : StrOp → Bool) (err : BuildErr) (ref sub : Event → Bytes)
    (hsub : ∀ ev : Event, Fields.WF ev.fields → sub ev = ref ev)
    (hsup : condSupported env c = (fnsOk env c.ident && match strOpOf (env.up c.op) with
        | some o => allow o && (match o with | .like => patternOk c.value | _ => true)
        | none => false))
    (href : ∀ ev, condRef env c ev = match strOpOf (env.up c.op) with
        | some o => evalStrOp o (applyFns env c.ident (ref ev)) c.value
        | none => false) :
    CondAgrees env c (strCondOf env c allow err sub) := by
  have hF := strF_agrees env c.ident
  unfold strCondOf
  cases hb : buildMsgLeStrFldF env c.ident with
  | error e =>
    rw [hb] at hF
    show condSupported env c = false
    rw [hsup, (hF : fnsOk env c.ident = false)]; rfl
  | ok lsf =>
    rw [hb] at hF
    obtain ⟨hok, hap⟩ := hF
    have hagree : ∀ (o : StrOp) (f : Pred), (∀ ev, f ev = evalStrOp o (lsf (sub ev)) c.value) → ∀ ev : Event,
        Fields.WF ev.fields → strOpOf (env.up c.op) = some o → f ev = condRef env c ev := fun o f hf ev hev ho => by
      rw [hf ev, href ev, ho, hap, hsub ev hev]
    rw [hok, Bool.true_and] at hsup
    cases ho : strOpOf (env.up c.op) with
    | none => show condSupported env c = false; rw [hsup, ho]
    | some o =>
      simp only [ho] at hsup
      simp only [Option.elim, strCond1]
      cases ha : allow o with
      | false => show condSupported env c = false; rw [hsup, ha]; rfl
      | true =>
        rw [ha] at hsup
        cases o
        case like =>
          have hp : condSupported env c = (PathMatch.pathMatch c.value sProbe).isSome := hsup
          simp only [if_true]
          cases hpm : PathMatch.pathMatch c.value sProbe with
          | none => show condSupported env c = false; rw [hp, hpm]; rfl
          | some b => exact ⟨by rw [hp, hpm]; rfl, fun ev hev => hagree _ _ (fun ev => likeRes_eq _ _) ev hev ho⟩
        all_goals exact ⟨hsup, fun ev hev => hagree _ _ (fun _ => rfl) ev hev ho⟩

theorem buildMsgCond_agrees (env : Env) (c : Cond) (hs : subjectOf env c.ident = .msg) :
    CondAgrees env c (buildMsgCond env c) := by
  rw [buildMsgCond_eq]
  exact strCond_agrees env c StrOp.forMsg .msgOp (·.msg) (·.msg) (fun _ _ => rfl)
    (by rw [condSupported, hs]; rfl) (fun ev => by rw [condRef, hs]; rfl)

theorem buildFldCond_agrees (env : Env) (c : Cond) (hs : subjectOf env c.ident = .field ((leaf c.ident).drop 7)) :
    CondAgrees env c (buildFldCond env c (leaf c.ident)) := by
  rw [buildFldCond_eq]
  exact strCond_agrees env c (fun _ => true) .fldOp (fun ev => fieldRef ev.fields ((leaf c.ident).drop 7)) _
    (fun ev hev => value_eq_fieldRef _ _ hev) (by rw [condSupported, hs]; rfl) (fun ev => by rw [condRef, hs]; rfl)

theorem buildCond_agrees (env : Env) (c : Cond) : CondAgrees env c (buildCond env c) := by
  unfold buildCond
  simp only [getFirstParamName_eq_leaf, gen_opndTimestamp, gen_opndMessage, gen_fieldsPrefix, gen_fieldsMinLen]
  by_cases hts : (env.lo (leaf c.ident) == sTs) = true
  · simp only [hts, if_true]
    exact buildTsCond_agrees env c (by simp [subjectOf, hts])
  by_cases hmsg : (env.lo (leaf c.ident) == sMsg) = true
  · simp only [hts, hmsg, if_true, if_false]
    exact buildMsgCond_agrees env c (by simp [subjectOf, hts, hmsg])
  simp only [hts, hmsg, if_false]
  by_cases hf : (sFieldsColon.isPrefixOf (env.lo (leaf c.ident)) && decide ((env.lo (leaf c.ident)).length ≥ 8)) = true
  · have hs : subjectOf env c.ident = .field ((leaf c.ident).drop 7) := by
      simp [subjectOf, hts, hmsg, hf]
    have hcond : (!hasPrefix (env.lo (leaf c.ident)) sFieldsColon || decide ((env.lo (leaf c.ident)).length < 8)) = false := by
      simp only [Bool.and_eq_true, decide_eq_true_eq] at hf
      simp [hasPrefix, hf.1]; omega
    simp only [hcond, Bool.false_eq_true, if_false]
    exact buildFldCond_agrees env c hs
  · have hs : subjectOf env c.ident = .unknown := by
      simp [subjectOf, hts, hmsg, hf]
    have hcond : (!hasPrefix (env.lo (leaf c.ident)) sFieldsColon || decide ((env.lo (leaf c.ident)).length < 8)) = true := by
      simp only [Bool.and_eq_true, decide_eq_true_eq, not_and, Nat.not_le] at hf
      simp only [hasPrefix, Bool.or_eq_true, Bool.not_eq_true', decide_eq_true_eq]
      cases hpf : sFieldsColon.isPrefixOf (env.lo (leaf c.ident)) with
      | false => exact Or.inl rfl
      | true => exact Or.inr (hf hpf)
    simp only [hcond, if_true]
    simp [CondAgrees, condSupported, hs]

/-! ## expressions -/

def XAgrees (env : Env) (x : XCond) : Except BuildErr Pred → Prop
  | .ok f => supportedX env x = true ∧
      (wellFormedX x = true → ∀ ev : Event, Fields.WF ev.fields → f ev = evalX env x ev)
  | .error _ => supportedX env x = false

def AndAgrees (env : Env) (a : AndL) : Except BuildErr Pred → Prop
  | .ok f => supportedAnd env a = true ∧
      (wellFormedAnd a = true → ∀ ev : Event, Fields.WF ev.fields → f ev = evalAnd env a ev)
  | .error _ => supportedAnd env a = false

def ExprAgrees (env : Env) (e : Expr) : Except BuildErr Pred → Prop
  | .ok f => supported env e = true ∧
      (wellFormed e = true → ∀ ev : Event, Fields.WF ev.fields → f ev = evalRef env e ev)
  | .error _ => supported env e = false

theorem bne_not (n b : Bool) : (if n then !b else b) = (n != b) := by cases n <;> cases b <;> rfl

/-- the common shape of `CondAgrees` … `ExprAgrees` -/
def Agrees (sup wf : Bool) (ref : Event → Bool) : Except BuildErr Pred → Prop
  | .ok f => sup = true ∧ (wf = true → ∀ ev : Event, Fields.WF ev.fields → f ev = ref ev)
  | .error _ => sup = false

theorem Agrees.bin (op : Bool → Bool → Bool) {s1 w1 s2 w2 : Bool} {r1 r2 : Event → Bool} {R1 R2 : Except BuildErr Pred}
    : Agrees s1 w1 r1 R1 → Agrees s2 w2 r2 R2 →
    Agrees (s1 && s2) (w1 && w2) (fun ev => op (r1 ev) (r2 ev))
      (match R1 with
       | .error e => .error e
       | .ok f => match R2 with
         | .error e => .error e
         | .ok g => .ok (fun le => op (f le) (g le))) := by
  intro h1 h2
  cases R1 with
  | error e => show (s1 && s2) = false; rw [(h1 : s1 = false)]; rfl
  | ok f =>
    cases R2 with
    | error e => show (s1 && s2) = false; rw [(h2 : s2 = false), Bool.and_false]
    | ok g =>
      refine ⟨by rw [h1.1, h2.1]; rfl, fun hw ev hev => ?_⟩
      rw [Bool.and_eq_true] at hw
      show op (f ev) (g ev) = _
      rw [h1.2 hw.1 ev hev, h2.2 hw.2 ev hev]

theorem Agrees.neg (n : Bool) {s w : Bool} {r : Event → Bool} {R : Except BuildErr Pred} : Agrees s w r R →
    Agrees s w (fun ev => n != r ev)
      (match R with
       | .error e => .error e
       | .ok f => if n then .ok (fun le => !f le) else .ok f) := by
  intro h
  cases R with
  | error e => exact h
  | ok f =>
    cases n with
    | false => exact ⟨h.1, fun hw ev hev => (h.2 hw ev hev).trans (Bool.false_bne _).symm⟩
    | true => exact ⟨h.1, fun hw ev hev => (congrArg not (h.2 hw ev hev)).trans (Bool.true_bne _).symm⟩

theorem Agrees.congr {s s' w w' : Bool} {r r' : Event → Bool} {R : Except BuildErr Pred} (hs : s' = s) (hw : w' = w)
    (hr : ∀ ev, r' ev = r ev) : Agrees s w r R → Agrees s' w' r' R := by
  subst hs hw
  cases R with
  | error e => exact id
  | ok f => exact fun h => ⟨h.1, fun hw ev hev => (h.2 hw ev hev).trans (hr ev).symm⟩

theorem CondAgrees.agrees {env : Env} {c : Cond} {R : Except BuildErr Pred} :
    CondAgrees env c R → Agrees (condSupported env c) true (condRef env c) R := by
  cases R with
  | error e => exact id
  | ok f => exact fun h => ⟨h.1, fun _ => h.2⟩

/- a list of one member is built without the combining closure, a longer one member by member -/
mutual
theorem or_agrees (env : Env) : ∀ e : Expr, ExprAgrees env e (buildOrConds env e)
  | .nil => ⟨rfl, fun h => by cases h⟩
  | .cons a .nil => Agrees.congr (Bool.and_true _) rfl (fun _ => Bool.or_false _) (and_agrees env a)
  | .cons a (.cons b r) => Agrees.bin (· || ·) (and_agrees env a) (or_agrees env (.cons b r))
theorem and_agrees (env : Env) : ∀ a : AndL, AndAgrees env a (buildXConds env a)
  | .nil => ⟨rfl, fun _ _ _ => rfl⟩
  | .cons x .nil => Agrees.congr (Bool.and_true _) (Bool.and_true _) (fun _ => Bool.and_true _) (x_agrees env x)
  | .cons x (.cons y r) => Agrees.bin (· && ·) (x_agrees env x) (and_agrees env (.cons y r))
theorem x_agrees (env : Env) : ∀ x : XCond, XAgrees env x (buildXCond env x)
  | .cond n c => Agrees.neg n (CondAgrees.agrees (buildCond_agrees env c))
  | .sub n e => Agrees.neg n (or_agrees env e)
end

end Logrange.Where

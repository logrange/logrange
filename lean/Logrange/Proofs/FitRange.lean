import Logrange.Model.RangedIter
import Logrange.Model.Points
/-! `fiterator`'s range re-check with the comparison flags of the regenerated facts put in (`fitLowerInclusive`,
`fitUpperInclusive`): both bounds are inclusive. -/
namespace Logrange.RangedIter
open Logrange.Points

theorem fitInRange_eq (rmin rmax t : Int) : fitInRange rmin rmax t = decide (inRange ⟨rmin, rmax⟩ t) := by
  have h1 : Generated.C02.fitLowerInclusive = true := by decide
  have h2 : Generated.C02.fitUpperInclusive = true := by decide
  simp only [fitInRange, h1, h2, if_true, inRange]
  by_cases a : rmin ≤ t <;> by_cases b : t ≤ rmax <;> simp [a, b]

end Logrange.RangedIter

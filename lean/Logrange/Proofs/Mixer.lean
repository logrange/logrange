import Logrange.Model.Mixer
/-!
# Lemmas about the mixer model: the stateful tree of mixers refines the pure merge

* `mergeSpec_*` — the pure merge is a permutation of its inputs, keeps each input as a sublist, keeps sortedness.
* `LawfulSource` — the contract a leaf iterator has to meet (what a `model.Iterator` promises): a `view` (the stream
  that remains to be delivered in the current direction) such that `Get` answers its head without consuming it,
  `Next` after a `Get` drops the head, `Release` changes nothing, `SetBackward` sets the direction.
* `It.get_spec`, `It.next_spec`, `It.release_spec`, `It.setBackward_spec` — a tree of mixers over lawful sources is
  itself a lawful source whose view is `mergeSpec` of its children's views, for **every** reachable mixer state
  (invariant `It.WF`: what `st`, the `eof` flags and the buffers mean). So mixers compose (`instLawfulIt`).
* `drain_eq_view`, `drainRel_eq_view` — the reading loop delivers exactly the view, with `Release` calls anywhere.
* `Leaf` is a lawful source.
-/
namespace Logrange.Mixer

/-! ## mergeSpec -/

@[simp] theorem mergeSpec_nil_left (bk : Bool) (ys : List Ev) : mergeSpec bk [] ys = ys := by
  simp [mergeSpec]

@[simp] theorem mergeSpec_nil_right (bk : Bool) (xs : List Ev) : mergeSpec bk xs [] = xs := by
  cases xs <;> simp [mergeSpec]

theorem mergeSpec_cons_cons (bk : Bool) (x y : Ev) (xs ys : List Ev) :
    mergeSpec bk (x :: xs) (y :: ys) =
      if pick bk x y then x :: mergeSpec bk xs (y :: ys) else y :: mergeSpec bk (x :: xs) ys := by
  rw [mergeSpec]

theorem mergeSpec_perm (bk : Bool) (a b : List Ev) : (mergeSpec bk a b).Perm (a ++ b) := by
  fun_induction mergeSpec bk a b with
  | case1 ys => simp
  | case2 xs _ => simp
  | case3 x xs y ys h ih => simpa using ih
  | case4 x xs y ys h ih =>
    refine (List.Perm.cons y ih).trans ?_
    simpa using (List.perm_middle (a := y) (l₁ := x :: xs) (l₂ := ys)).symm

theorem mem_mergeSpec (bk : Bool) (a b : List Ev) (e : Ev) : e ∈ mergeSpec bk a b ↔ e ∈ a ∨ e ∈ b := by
  rw [(mergeSpec_perm bk a b).mem_iff, List.mem_append]

theorem mergeSpec_eq_nil {bk : Bool} {a b : List Ev} (h : mergeSpec bk a b = []) : a = [] ∧ b = [] := by
  have hl := (mergeSpec_perm bk a b).length_eq
  rw [h, List.length_append] at hl
  exact ⟨List.eq_nil_of_length_eq_zero (Nat.eq_zero_of_add_eq_zero_right hl.symm),
    List.eq_nil_of_length_eq_zero (Nat.eq_zero_of_add_eq_zero_left hl.symm)⟩

theorem mergeSpec_sublist_left (bk : Bool) (a b : List Ev) : a.Sublist (mergeSpec bk a b) := by
  fun_induction mergeSpec bk a b with
  | case1 ys => simp
  | case2 xs _ => simp
  | case3 x xs y ys h ih => exact ih.cons_cons x
  | case4 x xs y ys h ih => exact ih.cons y

theorem mergeSpec_sublist_right (bk : Bool) (a b : List Ev) : b.Sublist (mergeSpec bk a b) := by
  fun_induction mergeSpec bk a b with
  | case1 ys => simp
  | case2 xs _ => simp
  | case3 x xs y ys h ih => exact ih.cons x
  | case4 x xs y ys h ih => exact ih.cons_cons y

/-- time order in reading direction: ascending forward, descending backward -/
def ord (bk : Bool) (x y : Ev) : Prop := if bk then y.ts ≤ x.ts else x.ts ≤ y.ts

theorem ord_false : ord false = fun x y => x.ts ≤ y.ts := by funext x y; simp [ord]
theorem ord_true : ord true = fun x y => y.ts ≤ x.ts := by funext x y; simp [ord]

theorem ord_trans {bk : Bool} {x y z : Ev} (h1 : ord bk x y) (h2 : ord bk y z) : ord bk x z := by
  unfold ord at *; cases bk <;> simp at * <;> omega

theorem ord_of_pick {bk : Bool} {x y : Ev} (h : pick bk x y = true) : ord bk x y := by
  unfold pick at h; unfold ord; cases bk <;> simp at * <;> omega

theorem ord_of_not_pick {bk : Bool} {x y : Ev} (h : ¬ pick bk x y = true) : ord bk y x := by
  unfold pick at h; unfold ord; cases bk <;> simp at * <;> omega

theorem mergeSpec_sorted (bk : Bool) (a b : List Ev) (ha : a.Pairwise (ord bk)) (hb : b.Pairwise (ord bk)) :
    (mergeSpec bk a b).Pairwise (ord bk) := by
  fun_induction mergeSpec bk a b with
  | case1 ys => exact hb
  | case2 xs _ => exact ha
  | case3 x xs y ys h ih =>
    rw [List.pairwise_cons] at ha
    refine List.pairwise_cons.mpr ⟨?_, ih ha.2 hb⟩
    intro z hz
    rw [mem_mergeSpec] at hz
    rcases hz with hz | hz
    · exact ha.1 z hz
    · rw [List.pairwise_cons] at hb
      rcases List.mem_cons.mp hz with rfl | hz
      · exact ord_of_pick h
      · exact ord_trans (ord_of_pick h) (hb.1 z hz)
  | case4 x xs y ys h ih =>
    rw [List.pairwise_cons] at hb
    refine List.pairwise_cons.mpr ⟨?_, ih ha hb.2⟩
    intro z hz
    rw [mem_mergeSpec] at hz
    rcases hz with hz | hz
    · rw [List.pairwise_cons] at ha
      rcases List.mem_cons.mp hz with rfl | hz
      · exact ord_of_not_pick h
      · exact ord_trans (ord_of_not_pick h) (ha.1 z hz)
    · exact hb.1 z hz

/-! ## which source the merge takes next -/

/-- 1 / 2: the head of the first / second stream is next; 3: both are empty -/
def sel (bk : Bool) : List Ev → List Ev → Nat
  | [], [] => 3
  | [], _ :: _ => 2
  | _ :: _, [] => 1
  | x :: _, y :: _ => if pick bk x y then 1 else 2

theorem mergeSpec_sel1 {bk : Bool} {xs ys : List Ev} (h : sel bk xs ys = 1) :
    ∃ x xs', xs = x :: xs' ∧ mergeSpec bk xs ys = x :: mergeSpec bk xs' ys := by
  cases xs with
  | nil => cases ys <;> simp [sel] at h
  | cons x xs' =>
    refine ⟨x, xs', rfl, ?_⟩
    cases ys with
    | nil => simp
    | cons y ys' =>
      have : pick bk x y = true := by
        simp only [sel] at h; by_cases hp : pick bk x y = true <;> simp_all
      simp [mergeSpec_cons_cons, this]

theorem mergeSpec_sel2 {bk : Bool} {xs ys : List Ev} (h : sel bk xs ys = 2) :
    ∃ y ys', ys = y :: ys' ∧ mergeSpec bk xs ys = y :: mergeSpec bk xs ys' := by
  cases ys with
  | nil => cases xs <;> simp [sel] at h
  | cons y ys' =>
    refine ⟨y, ys', rfl, ?_⟩
    cases xs with
    | nil => simp
    | cons x xs' =>
      have : ¬ pick bk x y = true := by
        simp only [sel] at h; by_cases hp : pick bk x y = true <;> simp_all
      simp [mergeSpec_cons_cons, this]

theorem mergeSpec_sel3 {bk : Bool} {xs ys : List Ev} (h : sel bk xs ys = 3) : xs = [] ∧ ys = [] := by
  cases xs <;> cases ys <;> simp [sel] at h ⊢
  split at h <;> simp at h

theorem sel_range (bk : Bool) (xs ys : List Ev) : sel bk xs ys = 1 ∨ sel bk xs ys = 2 ∨ sel bk xs ys = 3 := by
  cases xs <;> cases ys <;> simp [sel]
  split <;> simp

/-! ## the state machine on fetched answers -/

theorem testFunc_eq_pick (m : MixSt) : m.testFunc = pick m.bkwd m.le1 m.le2 := by
  unfold MixSt.testFunc pick getEarliest
  cases m.bkwd <;> simp

namespace MixSt

def ask1 (m : MixSt) (o : Option Ev) : MixSt := if m.eof1 then m else m.fetch1 o
def ask2 (m : MixSt) (o : Option Ev) : MixSt := if m.eof2 then m else m.fetch2 o

theorem ask1_rest (m : MixSt) (o : Option Ev) :
    (m.ask1 o).st = m.st ∧ (m.ask1 o).bkwd = m.bkwd ∧ (m.ask1 o).eof2 = m.eof2 ∧ (m.ask1 o).le2 = m.le2 := by
  unfold ask1; cases m.eof1 <;> cases o <;> exact ⟨rfl, rfl, rfl, rfl⟩

theorem ask2_rest (m : MixSt) (o : Option Ev) :
    (m.ask2 o).st = m.st ∧ (m.ask2 o).bkwd = m.bkwd ∧ (m.ask2 o).eof1 = m.eof1 ∧ (m.ask2 o).le1 = m.le1 := by
  unfold ask2; cases m.eof2 <;> cases o <;> exact ⟨rfl, rfl, rfl, rfl⟩

theorem ask1_head (m : MixSt) (xs : List Ev) (he : m.eof1 = true → xs = []) :
    ((m.ask1 xs.head?).eof1 = true ↔ xs = []) ∧ ∀ x ∈ xs.head?, (m.ask1 xs.head?).le1 = x := by
  unfold ask1
  cases xs with
  | nil => cases h : m.eof1 <;> simp [fetch1, h]
  | cons x xs =>
    cases h : m.eof1
    · simp [fetch1, h]
    · exact absurd (he h) (List.cons_ne_nil _ _)

theorem ask2_head (m : MixSt) (ys : List Ev) (he : m.eof2 = true → ys = []) :
    ((m.ask2 ys.head?).eof2 = true ↔ ys = []) ∧ ∀ y ∈ ys.head?, (m.ask2 ys.head?).le2 = y := by
  unfold ask2
  cases ys with
  | nil => cases h : m.eof2 <;> simp [fetch2, h]
  | cons y ys =>
    cases h : m.eof2
    · simp [fetch2, h]
    · exact absurd (he h) (List.cons_ne_nil _ _)

theorem selectState_of_ne {α : Type} (m : MixSt) (a b : α) (ga gb : α × Option Ev) (h : m.st ≠ 0) :
    m.selectState a b ga gb = (m, a, b) := if_pos h

theorem selectState_of_zero {α : Type} (m : MixSt) (a b : α) (ga gb : α × Option Ev) (h : m.st = 0) :
    m.selectState a b ga gb =
      (((m.ask1 ga.2).ask2 gb.2).choose, if m.eof1 then a else ga.1, if m.eof2 then b else gb.1) := by
  have e : (m.ask1 ga.2).eof2 = m.eof2 := (m.ask1_rest ga.2).2.2.1
  unfold selectState ask2
  rw [if_neg (by rw [h]; exact fun c => c rfl)]
  unfold ask1 at e ⊢
  cases h1 : m.eof1 <;> cases h2 : m.eof2 <;> simp [h1, h2] at e ⊢ <;> simp [e]

theorem choose_rest (m : MixSt) :
    m.choose.bkwd = m.bkwd ∧ m.choose.eof1 = m.eof1 ∧ m.choose.eof2 = m.eof2 ∧ m.choose.le1 = m.le1 ∧ m.choose.le2 = m.le2 := by
  unfold choose; split
  · exact ⟨rfl, rfl, rfl, rfl, rfl⟩
  · split
    · exact ⟨rfl, rfl, rfl, rfl, rfl⟩
    · split <;> exact ⟨rfl, rfl, rfl, rfl, rfl⟩

theorem choose_st (m : MixSt) (xs ys : List Ev) (h1 : m.eof1 = true ↔ xs = []) (h2 : m.eof2 = true ↔ ys = [])
    (hx : ∀ x ∈ xs.head?, m.le1 = x) (hy : ∀ y ∈ ys.head?, m.le2 = y) : m.choose.st = sel m.bkwd xs ys := by
  unfold choose
  cases xs with
  | nil =>
    cases ys with
    | nil => simp [h1.mpr, h2.mpr, sel]
    | cons y ys =>
      have : m.eof2 = false := by cases h : m.eof2; rfl; exact absurd (h2.mp h) (List.cons_ne_nil _ _)
      simp [h1.mpr, this, sel]
  | cons x xs =>
    have e1 : m.eof1 = false := by cases h : m.eof1; rfl; exact absurd (h1.mp h) (List.cons_ne_nil _ _)
    cases ys with
    | nil => simp [e1, h2.mpr, sel]
    | cons y ys =>
      have e2 : m.eof2 = false := by cases h : m.eof2; rfl; exact absurd (h2.mp h) (List.cons_ne_nil _ _)
      simp only [e1, e2, sel, testFunc_eq_pick, hx x rfl, hy y rfl]
      cases pick m.bkwd x y <;> rfl

theorem choose_sane (m : MixSt) :
    (m.choose.st = 1 → m.choose.eof1 = false) ∧ (m.choose.st = 2 → m.choose.eof2 = false) := by
  cases h1 : m.eof1 <;> cases h2 : m.eof2 <;> cases h3 : m.testFunc <;> simp [choose, h1, h2, h3]

theorem selectState_congr {α : Type} (m : MixSt) (a b : α) {ga gb ga' gb' : α × Option Ev}
    (h1 : m.eof1 = false → ga = ga') (h2 : m.eof2 = false → gb = gb') :
    m.selectState a b ga gb = m.selectState a b ga' gb' := by
  by_cases h : m.st = 0
  case neg => rw [selectState_of_ne _ _ _ _ _ h, selectState_of_ne _ _ _ _ _ h]
  rw [selectState_of_zero _ _ _ _ _ h, selectState_of_zero _ _ _ _ _ h]
  have k1 : m.ask1 ga.2 = m.ask1 ga'.2 ∧ (if m.eof1 then a else ga.1) = if m.eof1 then a else ga'.1 := by
    unfold ask1
    cases e : m.eof1
    · rw [h1 e]; exact ⟨rfl, rfl⟩
    · exact ⟨rfl, rfl⟩
  have k2 : (m.ask1 ga'.2).ask2 gb.2 = (m.ask1 ga'.2).ask2 gb'.2 ∧
      (if m.eof2 then b else gb.1) = if m.eof2 then b else gb'.1 := by
    unfold ask2
    rw [(m.ask1_rest ga'.2).2.2.1]
    cases e : m.eof2
    · rw [h2 e]; exact ⟨rfl, rfl⟩
    · exact ⟨rfl, rfl⟩
  rw [k1.1, k1.2, k2.1, k2.2]

theorem choose_st_ne (m : MixSt) : m.choose.st ≠ 0 := by
  cases h1 : m.eof1 <;> cases h2 : m.eof2 <;> cases h3 : m.testFunc <;> simp [choose, h1, h2, h3]

theorem selectState_st_ne {α : Type} (m : MixSt) (a b : α) (ga gb : α × Option Ev) :
    (m.selectState a b ga gb).1.st ≠ 0 := by
  by_cases h : m.st = 0
  · rw [selectState_of_zero _ _ _ _ _ h]; exact choose_st_ne _
  · rw [selectState_of_ne _ _ _ _ _ h]; exact h

theorem selectState_fst {α : Type} {P : α → Prop} (m : MixSt) (a b : α) (ga gb : α × Option Ev)
    (h : P a) (hg : P ga.1) : P (m.selectState a b ga gb).2.1 := by
  rcases (It.selectState_cases m a b ga gb).1 with r | r <;> rw [r] <;> assumption

theorem selectState_snd {α : Type} {P : α → Prop} (m : MixSt) (a b : α) (ga gb : α × Option Ev)
    (h : P b) (hg : P gb.1) : P (m.selectState a b ga gb).2.2 := by
  rcases (It.selectState_cases m a b ga gb).2 with r | r <;> rw [r] <;> assumption

end MixSt

/-- what `selectState` establishes, from `st = 0`, when the sources answer the heads of `xs` / `ys` and the `eof`
flags are sound -/
theorem selectState_sound {α : Type} (m : MixSt) (a b : α) (ga gb : α × Option Ev) (xs ys : List Ev)
    (h0 : m.st = 0) (he1 : m.eof1 = true → xs = []) (he2 : m.eof2 = true → ys = [])
    (hga : ga.2 = xs.head?) (hgb : gb.2 = ys.head?)
    (t : MixSt × α × α) (ht : t = m.selectState a b ga gb) :
    t.1.st = sel m.bkwd xs ys ∧ t.1.bkwd = m.bkwd ∧
    (t.1.eof1 = true → xs = []) ∧ (t.1.eof2 = true → ys = []) ∧
    (t.1.st = 1 → xs.head? = some t.1.le1 ∧ t.2.1 = ga.1) ∧
    (t.1.st = 2 → ys.head? = some t.1.le2 ∧ t.2.2 = gb.1) ∧
    (t.2.1 = a ∨ t.2.1 = ga.1) ∧ (t.2.2 = b ∨ t.2.2 = gb.1) := by
  have hc := It.selectState_cases m a b ga gb
  rw [← ht] at hc
  rw [MixSt.selectState_of_zero m a b ga gb h0, hga, hgb] at ht
  obtain ⟨_, b1, e21, l21⟩ := m.ask1_rest xs.head?
  obtain ⟨f1, l1⟩ := m.ask1_head xs he1
  obtain ⟨f2, l2⟩ := (m.ask1 xs.head?).ask2_head ys (e21 ▸ he2)
  obtain ⟨_, b2, e12, l12⟩ := (m.ask1 xs.head?).ask2_rest ys.head?
  rw [← e12] at f1; rw [← l12] at l1
  have hst := MixSt.choose_st _ xs ys f1 f2 l1 l2
  obtain ⟨c1, c2, c3, c4, c5⟩ := ((m.ask1 xs.head?).ask2 ys.head?).choose_rest
  rw [b2, b1] at hst c1
  rw [← c2] at f1; rw [← c3] at f2; rw [← c4] at l1; rw [← c5] at l2
  subst ht
  refine ⟨hst, c1, f1.mp, f2.mp, fun h => ?_, fun h => ?_, hc.1, hc.2⟩
  · obtain ⟨x, xs', rfl, _⟩ := mergeSpec_sel1 (hst ▸ h)
    refine ⟨by rw [l1 x rfl]; rfl, if_neg fun e => ?_⟩
    exact List.cons_ne_nil _ _ (he1 e)
  · obtain ⟨y, ys', rfl, _⟩ := mergeSpec_sel2 (hst ▸ h)
    refine ⟨by rw [l2 y rfl]; rfl, if_neg fun e => ?_⟩
    exact List.cons_ne_nil _ _ (he2 e)

namespace It
variable {σ : Type} [Source σ]

theorem next_mix (m : MixSt) (a b : It σ) :
    (It.mix m a b).next =
      (let r := m.selectState a b a.get b.get
       if r.1.st = 1 then .mix { r.1 with st := 0 } r.2.1.next r.2.2
       else if r.1.st = 2 then .mix { r.1 with st := 0 } r.2.1 r.2.2.next
       else .mix { r.1 with st := 0 } r.2.1 r.2.2) := by
  rw [next]
  split
  rename_i m' a' b' heq
  simp only [heq]
  split <;> simp_all

/-- `Next` recurses into a source as `selectState` left it, which is not a subterm; it has the size of the source. The
hypothesis at a mixer is therefore there for every tree of the size of a source. -/
theorem size_induction {motive : It σ → Prop} (leaf : ∀ s, motive (.leaf s))
    (mix : ∀ m a b, (∀ a' : It σ, a'.size = a.size → motive a') → (∀ b' : It σ, b'.size = b.size → motive b') →
      motive (.mix m a b)) (t : It σ) : motive t := by
  suffices ∀ n (t : It σ), t.size ≤ n → motive t from this _ t (Nat.le_refl _)
  intro n
  induction n with
  | zero => intro t hn; cases t <;> exact absurd hn (Nat.not_succ_le_zero _)
  | succ n ih =>
    intro t hn
    cases t with
    | leaf s => exact leaf s
    | mix m a b =>
      have hn' : a.size + b.size ≤ n := Nat.le_of_succ_le_succ hn
      exact mix m a b (fun a' e => ih a' (by omega)) (fun b' e => ih b' (by omega))

theorem selectState_size (m : MixSt) (a b : It σ) :
    (m.selectState a b a.get b.get).2.1.size = a.size ∧ (m.selectState a b a.get b.get).2.2.size = b.size :=
  ⟨m.selectState_fst (P := fun x => x.size = a.size) a b _ _ rfl (get_size a),
   m.selectState_snd (P := fun x => x.size = b.size) a b _ _ rfl (get_size b)⟩

end It

theorem forall_mem_map_congr {α β γ : Type} {l : List α} {l' : List β} {f : α → γ} {g : β → γ} (h : l.map f = l'.map g)
    (P : γ → Prop) : (∀ s ∈ l, P (f s)) ↔ ∀ s ∈ l', P (g s) :=
  (List.forall_mem_map (f := f) (P := P)).symm.trans (h ▸ List.forall_mem_map)

theorem flatMap_eq_of_map_eq {α β γ : Type} {l : List α} {l' : List β} {f : α → List γ} {g : β → List γ}
    (h : l.map f = l'.map g) : l.flatMap f = l'.flatMap g := by
  rw [List.flatMap_def, List.flatMap_def, h]

/-! ## lawful sources -/

/-- The contract of a leaf iterator. `view s` is the stream that remains in the current direction `dir s`;
`settled s` says that a `Get` has happened since the position or direction last changed otherwise than by `Next`
(only then does `Next` step over exactly the event `Get` shows). -/
class LawfulSource (σ : Type) [Source σ] where
  view : σ → List Ev
  dir : σ → Bool
  wf : σ → Prop
  settled : σ → Prop
  get_spec : ∀ s, wf s → (Source.get s).2 = (view s).head? ∧ view (Source.get s).1 = view s ∧
    wf (Source.get s).1 ∧ dir (Source.get s).1 = dir s ∧ settled (Source.get s).1
  next_spec : ∀ s, wf s → settled s → view (Source.next s) = (view s).tail ∧ wf (Source.next s) ∧
    dir (Source.next s) = dir s
  release_spec : ∀ s, wf s → view (Source.release s) = view s ∧ wf (Source.release s) ∧
    dir (Source.release s) = dir s ∧ (settled s → settled (Source.release s))
  setBackward_spec : ∀ bk s, wf s → wf (Source.setBackward bk s) ∧ dir (Source.setBackward bk s) = bk

namespace It
variable {σ : Type} [Source σ] [LawfulSource σ]
open LawfulSource

/-- the stream a tree delivers: the merge of its children's streams in the node's direction -/
def view : It σ → List Ev
  | .leaf s => LawfulSource.view s
  | .mix m a b => mergeSpec m.bkwd a.view b.view

def dir : It σ → Bool
  | .leaf s => LawfulSource.dir s
  | .mix m _ _ => m.bkwd

def settled : It σ → Prop
  | .leaf s => LawfulSource.settled s
  | .mix _ _ _ => True

/-- the meaning of a mixer's fields: both sources run in the mixer's direction; a set `eof` flag means that source has
ended; a selected state (`st ≠ 0`) is the one the merge would select, and the selected buffer holds that source's
head, which the source has been asked for -/
def WF : It σ → Prop
  | .leaf s => LawfulSource.wf s
  | .mix m a b => a.WF ∧ b.WF ∧ a.dir = m.bkwd ∧ b.dir = m.bkwd ∧
      (m.eof1 = true → a.view = []) ∧ (m.eof2 = true → b.view = []) ∧
      (m.st = 0 ∨ (m.st = sel m.bkwd a.view b.view ∧
        (m.st = 1 → a.view.head? = some m.le1 ∧ a.settled) ∧
        (m.st = 2 → b.view.head? = some m.le2 ∧ b.settled)))

theorem out_eq_head (m : MixSt) (xs ys : List Ev) (hs : m.st = sel m.bkwd xs ys)
    (h1 : m.st = 1 → xs.head? = some m.le1) (h2 : m.st = 2 → ys.head? = some m.le2) :
    m.out = (mergeSpec m.bkwd xs ys).head? := by
  rcases sel_range m.bkwd xs ys with h | h | h
  · obtain ⟨x, xs', rfl, e⟩ := mergeSpec_sel1 h
    have := h1 (hs.trans h)
    simp [MixSt.out, hs, h, e] at this ⊢; exact this.symm
  · obtain ⟨y, ys', rfl, e⟩ := mergeSpec_sel2 h
    have := h2 (hs.trans h)
    simp [MixSt.out, hs, h, e] at this ⊢; exact this.symm
  · obtain ⟨rfl, rfl⟩ := mergeSpec_sel3 h
    simp [MixSt.out, hs, h]

theorem get_spec (it : It σ) (h : it.WF) :
    it.get.2 = it.view.head? ∧ it.get.1.view = it.view ∧ it.get.1.WF ∧ it.get.1.dir = it.dir ∧ it.get.1.settled := by
  induction it with
  | leaf s =>
    have := LawfulSource.get_spec s h
    simpa [get, view, WF, dir, settled] using this
  | mix m a b iha ihb =>
    obtain ⟨wa, wb, da, db, e1, e2, hst⟩ := h
    obtain ⟨ga2, gav, gaw, gad, gas⟩ := iha wa
    obtain ⟨gb2, gbv, gbw, gbd, gbs⟩ := ihb wb
    by_cases h0 : m.st = 0
    · obtain ⟨s1, s2, s3, s4, s5, s6, _⟩ := selectState_sound m a b a.get b.get a.view b.view h0 e1 e2 ga2 gb2 _ rfl
      obtain ⟨va, wa', da'⟩ := m.selectState_fst (P := fun x => x.view = a.view ∧ x.WF ∧ x.dir = m.bkwd) a b a.get b.get
        ⟨rfl, wa, da⟩ ⟨gav, gaw, gad.trans da⟩
      obtain ⟨vb, wb', db'⟩ := m.selectState_snd (P := fun x => x.view = b.view ∧ x.WF ∧ x.dir = m.bkwd) a b a.get b.get
        ⟨rfl, wb, db⟩ ⟨gbv, gbw, gbd.trans db⟩
      simp only [get, view, WF, dir, settled]
      generalize m.selectState a b a.get b.get = t at *
      obtain ⟨m', a', b'⟩ := t
      simp only at s1 s2 s3 s4 s5 s6 ⊢
      rw [va, vb, s2]
      rw [← s2] at s1
      exact ⟨s2 ▸ out_eq_head m' a.view b.view s1 (fun h => (s5 h).1) (fun h => (s6 h).1), rfl,
        ⟨wa', wb', da', db', s3, s4, Or.inr ⟨s2 ▸ s1, fun h => ⟨(s5 h).1, (s5 h).2 ▸ gas⟩, fun h => ⟨(s6 h).1, (s6 h).2 ▸ gbs⟩⟩⟩,
        rfl, trivial⟩
    · rw [get, m.selectState_of_ne _ _ _ _ h0]
      obtain ⟨hs1, hs2, hs3⟩ := hst.resolve_left h0
      exact ⟨out_eq_head m a.view b.view hs1 (fun h => (hs2 h).1) (fun h => (hs3 h).1), rfl,
        ⟨wa, wb, da, db, e1, e2, Or.inr ⟨hs1, hs2, hs3⟩⟩, rfl, trivial⟩

theorem next_spec (it : It σ) (h : it.WF) (hs : it.settled) :
    it.next.view = it.view.tail ∧ it.next.WF ∧ it.next.dir = it.dir := by
  induction it using size_induction with
  | leaf s => simpa only [next, view, WF, dir] using LawfulSource.next_spec s h hs
  | mix m a b iha ihb =>
    -- the `selectState` of `Next` is that of a `Get`: the tree it leaves is well formed, with the same stream, and selected
    obtain ⟨_, gv, gw, gd, _⟩ := get_spec (It.mix m a b) h
    have hne := m.selectState_st_ne a b a.get b.get
    have sz := selectState_size m a b
    rw [next_mix]
    simp only [get] at gv gw gd
    generalize m.selectState a b a.get b.get = t at *
    obtain ⟨m', a', b'⟩ := t
    obtain ⟨wa, wb, da, db, e1, e2, hst⟩ := gw
    obtain ⟨hs1, hs2, hs3⟩ := hst.resolve_left hne
    simp only [view, dir] at gv gd ⊢
    rw [← gv]
    rcases sel_range m'.bkwd a'.view b'.view with hc | hc | hc
    · have h1 : m'.st = 1 := hs1.trans hc
      obtain ⟨x, xs', ex, em⟩ := mergeSpec_sel1 hc
      obtain ⟨nv, nw, nd⟩ := iha a' sz.1 wa (hs2 h1).2
      simp only [h1, if_true, view, WF, dir]
      rw [em, nv, ex]
      exact ⟨rfl, ⟨nw, wb, nd.trans da, db, fun h => absurd (ex ▸ e1 h) (List.cons_ne_nil _ _), e2, Or.inl trivial⟩, gd⟩
    · have h2 : m'.st = 2 := hs1.trans hc
      obtain ⟨y, ys', ey, em⟩ := mergeSpec_sel2 hc
      obtain ⟨nv, nw, nd⟩ := ihb b' sz.2 wb (hs3 h2).2
      simp only [h2, show ¬ (2 = 1) by decide, if_true, if_false, view, WF, dir]
      rw [em, nv, ey]
      exact ⟨rfl, ⟨wa, nw, da, nd.trans db, e1, fun h => absurd (ey ▸ e2 h) (List.cons_ne_nil _ _), Or.inl trivial⟩, gd⟩
    · have h3 : m'.st = 3 := hs1.trans hc
      obtain ⟨ea, eb⟩ := mergeSpec_sel3 hc
      simp only [h3, show ¬ (3 = 1) by decide, show ¬ (3 = 2) by decide, if_false, view, WF, dir]
      rw [ea, eb, mergeSpec_nil_left]
      exact ⟨rfl, ⟨wa, wb, da, db, fun _ => rfl, fun _ => rfl, Or.inl trivial⟩, gd⟩

theorem next_spec_aux (n : Nat) : ∀ it : It σ, it.size ≤ n → it.WF → it.settled →
    it.next.view = it.view.tail ∧ it.next.WF ∧ it.next.dir = it.dir :=
  fun it _ => next_spec it

theorem release_spec (it : It σ) (h : it.WF) :
    it.release.view = it.view ∧ it.release.WF ∧ it.release.dir = it.dir ∧ (it.settled → it.release.settled) := by
  induction it with
  | leaf s =>
    have := LawfulSource.release_spec s h
    simpa [release, view, WF, dir, settled] using this
  | mix m a b iha ihb =>
    obtain ⟨wa, wb, da, db, e1, e2, hst⟩ := h
    obtain ⟨rav, raw, rad, ras⟩ := iha wa
    obtain ⟨rbv, rbw, rbd, rbs⟩ := ihb wb
    simp only [release, view, WF, dir, settled, rav, rbv]
    refine ⟨trivial, ⟨raw, rbw, rad.trans da, rbd.trans db, by simp, by simp, ?_⟩, trivial, fun _ => trivial⟩
    rcases hst with hst | ⟨hs1, hs2, hs3⟩
    · left; simp [hst]
    · by_cases h3 : m.st = 3
      · left; simp [h3]
      · right
        simp only [h3, if_false]
        exact ⟨hs1, fun h => ⟨(hs2 h).1, ras (hs2 h).2⟩, fun h => ⟨(hs3 h).1, rbs (hs3 h).2⟩⟩

/-! ## re-positioning a cursor (`crsr.ApplyState`)

`ApplyState` moves the journal iterators (`SetPos`) behind the mixers' back and then switches the whole tree backward and
forward again. `Release` would not do: the selections survive it. A real direction switch makes every mixer forget everything
(`eof` flags, `st`, whatever the buffers hold), *whatever* its state was — the tree need not be well formed before. -/

def DirOK (d : Bool) : It σ → Prop
  | .leaf s => LawfulSource.wf s ∧ LawfulSource.dir s = d
  | .mix m a b => m.bkwd = d ∧ a.DirOK d ∧ b.DirOK d

theorem WF_DirOK (it : It σ) (h : it.WF) : it.DirOK it.dir := by
  induction it with
  | leaf s => exact ⟨h, rfl⟩
  | mix m a b iha ihb =>
    obtain ⟨wa, wb, da, db, _⟩ := h
    have ha := iha wa
    have hb := ihb wb
    rw [da] at ha; rw [db] at hb
    exact ⟨rfl, ha, hb⟩

theorem mapLeaves_DirOK (g : σ → σ) (d : Bool) (it : It σ) (h : it.DirOK d)
    (hg : ∀ s ∈ it.leaves, LawfulSource.wf (g s) ∧ LawfulSource.dir (g s) = d) : (it.mapLeaves g).DirOK d := by
  induction it with
  | leaf s => exact hg s (by simp [leaves])
  | mix m a b iha ihb =>
    exact ⟨h.1, iha h.2.1 (fun s hs => hg s (by simp [leaves, hs])), ihb h.2.2 (fun s hs => hg s (by simp [leaves, hs]))⟩

theorem setBackward_of_DirOK (bk d : Bool) (it : It σ) (h : it.DirOK d) (hd : d ≠ bk) :
    (it.setBackward bk).WF ∧ (it.setBackward bk).dir = bk := by
  induction it with
  | leaf s =>
    have := LawfulSource.setBackward_spec bk s h.1
    simpa [setBackward, WF, dir] using this
  | mix m a b iha ihb =>
    obtain ⟨hm, ha, hb⟩ := h
    have hne : m.bkwd ≠ bk := hm ▸ hd
    obtain ⟨sa, sad⟩ := iha ha
    obtain ⟨sb, sbd⟩ := ihb hb
    obtain ⟨_, raw, rad, _⟩ := release_spec _ sa
    obtain ⟨_, rbw, rbd, _⟩ := release_spec _ sb
    simp only [setBackward, hne, if_false, release, WF, dir]
    exact ⟨⟨raw, rbw, rad.trans sad, rbd.trans sbd, by simp, by simp, by simp⟩, trivial⟩

theorem setBackward_spec (bk : Bool) (it : It σ) (h : it.WF) :
    (it.setBackward bk).WF ∧ (it.setBackward bk).dir = bk := by
  cases it with
  | leaf s => exact LawfulSource.setBackward_spec bk s h
  | mix m a b =>
    by_cases hb : m.bkwd = bk
    · rw [setBackward, if_pos hb]; exact ⟨h, hb⟩
    · exact setBackward_of_DirOK bk _ _ (WF_DirOK _ h) hb

/-- the stream after a real change of direction: the merge, in the new direction, of what the two sources deliver
after *their* change of direction -/
theorem setBackward_view (bk : Bool) (m : MixSt) (a b : It σ) (h : (It.mix m a b).WF) (hb : m.bkwd ≠ bk) :
    ((It.mix m a b).setBackward bk).view = mergeSpec bk (a.setBackward bk).view (b.setBackward bk).view := by
  obtain ⟨wa, wb, _⟩ := h
  obtain ⟨rav, _⟩ := release_spec _ (setBackward_spec bk a wa).1
  obtain ⟨rbv, _⟩ := release_spec _ (setBackward_spec bk b wb).1
  simp only [setBackward, hb, if_false, release, view, rav, rbv]

/-- a tree of mixers over lawful sources is a lawful source: mixers compose -/
instance instLawfulIt : LawfulSource (It σ) where
  view := view
  dir := dir
  wf := WF
  settled := settled
  get_spec := get_spec
  next_spec := next_spec
  release_spec := release_spec
  setBackward_spec := setBackward_spec

/-! ## the reading loop -/

theorem ite_release (c : Bool) (it : It σ) (h : it.WF) :
    ∃ it1 : It σ, (if c = true then it.release else it) = it1 ∧ it1.WF ∧ it1.view = it.view ∧ (it.settled → it1.settled) := by
  cases c
  · exact ⟨_, rfl, h, rfl, id⟩
  · obtain ⟨rv, rw', _, rs⟩ := release_spec it h
    exact ⟨_, rfl, rw', rv, rs⟩

theorem drainRel_eq_view (rel : Nat → Bool × Bool) (f k : Nat) (it : It σ) (h : it.WF)
    (hf : it.view.length < f) : it.drainRel rel f k = it.view := by
  induction f generalizing it k with
  | zero => omega
  | succ f ih =>
    rw [drainRel]
    obtain ⟨it1, e1, w1, v1, _⟩ := ite_release (rel k).1 it h
    simp only [e1]
    obtain ⟨g2, gv, gw, _, gs⟩ := get_spec it1 w1
    rw [show it1.get = (it1.get.1, it.view.head?) from Prod.ext rfl (v1 ▸ g2)]
    cases hv : it.view with
    | nil => rfl
    | cons x xs =>
      obtain ⟨it2, e2, w2, v2, s2⟩ := ite_release (rel k).2 it1.get.1 gw
      simp only [List.head?_cons, e2]
      obtain ⟨nv, nw, _⟩ := next_spec _ w2 (s2 gs)
      rw [ih _ _ nw (by rw [nv, v2, gv, v1, hv]; rw [hv] at hf; exact Nat.lt_of_succ_lt_succ hf), nv, v2, gv, v1, hv]
      rfl

theorem drain_eq_drainRel (f k : Nat) (it : It σ) : it.drain f = it.drainRel (fun _ => (false, false)) f k := by
  induction f generalizing it k with
  | zero => rfl
  | succ f ih =>
    rw [drain, drainRel]
    simp only [Bool.false_eq_true, if_false]
    split
    · rw [ih]
    · rfl

theorem drain_eq_view (f : Nat) (it : It σ) (h : it.WF) (hf : it.view.length < f) : it.drain f = it.view :=
  (drain_eq_drainRel f 0 it).trans (drainRel_eq_view _ f 0 it h hf)

/-! ## what the stream of a tree is made of -/

theorem init_WF (a b : It σ) (wa : a.WF) (wb : b.WF) (da : a.dir = false) (db : b.dir = false) :
    (init a b).WF ∧ (init a b).dir = false := by
  unfold init
  simp only [WF, dir]
  exact ⟨⟨wa, wb, da, db, by simp, by simp, by simp⟩, trivial⟩

theorem init_view (a b : It σ) : (init a b).view = mergeSpec false a.view b.view := rfl

/-- every event the tree delivers comes from exactly one leaf: the stream is a permutation of the concatenated
leaf streams (in any mixer state) -/
theorem view_perm_leaves (it : It σ) : it.view.Perm (it.leaves.flatMap LawfulSource.view) := by
  induction it with
  | leaf s => simp [view, leaves]
  | mix m a b iha ihb =>
    simp only [view, leaves, List.flatMap_append]
    exact (mergeSpec_perm _ _ _).trans (iha.append ihb)

/-- the events of each leaf keep their order -/
theorem view_sublist_leaf (it : It σ) : ∀ s ∈ it.leaves, (LawfulSource.view s).Sublist it.view := by
  induction it with
  | leaf s => intro s' hs; simp [leaves] at hs; subst hs; simp [view]
  | mix m a b iha ihb =>
    intro s hs
    simp only [leaves, List.mem_append] at hs
    simp only [view]
    rcases hs with hs | hs
    · exact (iha s hs).trans (mergeSpec_sublist_left _ _ _)
    · exact (ihb s hs).trans (mergeSpec_sublist_right _ _ _)

/-- in a well-formed tree every mixer runs in the tree's direction -/
theorem view_sorted (it : It σ) (h : it.WF) (hs : ∀ s ∈ it.leaves, (LawfulSource.view s).Pairwise (ord it.dir)) :
    it.view.Pairwise (ord it.dir) := by
  induction it with
  | leaf s => simpa [view, leaves, dir] using hs
  | mix m a b iha ihb =>
    obtain ⟨wa, wb, da, db, _⟩ := h
    simp only [view, dir, leaves, List.mem_append] at hs ⊢
    apply mergeSpec_sorted
    · rw [← da]; exact iha wa (fun s h => by rw [da]; exact hs s (Or.inl h))
    · rw [← db]; exact ihb wb (fun s h => by rw [db]; exact hs s (Or.inr h))

/-! ## the sources of a tree after a direction switch -/

theorem WF_leaves (it : It σ) (h : it.WF) : ∀ s ∈ it.leaves, LawfulSource.wf s := by
  induction it with
  | leaf s => intro s' hs; simp [leaves] at hs; subst hs; exact h
  | mix m a b iha ihb =>
    intro s hs
    simp only [leaves, List.mem_append] at hs
    rcases hs with hs | hs
    · exact iha h.1 s hs
    · exact ihb h.2.1 s hs

theorem release_leaves (it : It σ) : it.release.leaves = it.leaves.map Source.release := by
  induction it with
  | leaf s => simp [release, leaves]
  | mix m a b iha ihb => simp [release, leaves, iha, ihb]

/-- the sources after the switch, seen through any observation `F` that `Release` does not change -/
theorem setBackward_leaves_map {β : Type} (F : σ → β)
    (hF : ∀ s, LawfulSource.wf s → F (Source.release s) = F s)
    (bk d : Bool) (it : It σ) (h : it.DirOK d) (hd : d ≠ bk) :
    (it.setBackward bk).leaves.map F = it.leaves.map (fun s => F (Source.setBackward bk s)) := by
  have mapF : ∀ l : List σ, (∀ s ∈ l, LawfulSource.wf s) → (l.map Source.release).map F = l.map F := by
    intro l hl
    induction l with
    | nil => rfl
    | cons x xs ih =>
      simp only [List.map_cons]
      rw [hF x (hl x (by simp)), ih (fun s hs => hl s (by simp [hs]))]
  induction it with
  | leaf s => simp [setBackward, leaves]
  | mix m a b iha ihb =>
    obtain ⟨hm, ha, hb⟩ := h
    have hne : m.bkwd ≠ bk := hm ▸ hd
    have wa' := WF_leaves _ (setBackward_of_DirOK bk d a ha hd).1
    have wb' := WF_leaves _ (setBackward_of_DirOK bk d b hb hd).1
    simp only [setBackward, hne, if_false, release, leaves, List.map_append, release_leaves]
    rw [mapF _ wa', mapF _ wb', iha ha, ihb hb]

/-- `Mixer.SetBackward` also releases the sources — several times in a nested tree — which changes no stream -/
theorem setBackward_leaves_views (bk : Bool) (it : It σ) (h : it.WF) (hd : it.dir ≠ bk) :
    (it.setBackward bk).leaves.map LawfulSource.view =
      it.leaves.map (fun s => LawfulSource.view (Source.setBackward bk s)) :=
  setBackward_leaves_map LawfulSource.view (fun s hs => (LawfulSource.release_spec s hs).1) bk it.dir it (WF_DirOK it h) hd

/-! ## appends behind a page boundary

Between two pages of one read (`crsr.commit`, `WaitNewData`) the cursor is `Release`d and writers may append to the
partitions. `Release` resets the `eof` flags (and `st = 3`) precisely so that nothing the mixers remember can be invalidated by
records that arrive *after everything that is still undelivered*: the selections that survive a `Release` (`st = 1/2`, with the
buffered head) stay the ones the merge would make. -/

/-- the state `Release` leaves every mixer in: no `eof` flag set, not "both ended" -/
def Released : It σ → Prop
  | .leaf _ => True
  | .mix m a b => m.eof1 = false ∧ m.eof2 = false ∧ m.st ≠ 3 ∧ a.Released ∧ b.Released

theorem release_Released (it : It σ) : it.release.Released := by
  induction it with
  | leaf s => trivial
  | mix m a b iha ihb =>
    simp only [release, Released]
    refine ⟨trivial, trivial, ?_, iha, ihb⟩
    by_cases h : m.st = 3 <;> simp [h]

/-- `e` is later than everything in `H` (the events that were still undelivered when it arrived) -/
def Late (H : List Ev) (e : Ev) : Prop := ∀ x ∈ H, x.ts < e.ts

/-- what an append may do to a source, seen from the mixer (forward): the source stays well formed and in its direction, a
source that had been asked stays asked, a non-empty stream keeps its head, and what shows up in a stream that had ended is
later than everything in `H` -/
def GrowsTo (H : List Ev) (s s' : σ) : Prop :=
  LawfulSource.wf s' ∧ LawfulSource.dir s' = LawfulSource.dir s ∧
  (LawfulSource.settled s → LawfulSource.settled s') ∧
  (∀ x, (LawfulSource.view s).head? = some x → (LawfulSource.view s').head? = some x) ∧
  (LawfulSource.view s = [] → ∀ e ∈ LawfulSource.view s', Late H e)

theorem mapLeaves_leaves (f : σ → σ) (it : It σ) : (it.mapLeaves f).leaves = it.leaves.map f := by
  induction it with
  | leaf s => simp [mapLeaves, leaves]
  | mix m a b iha ihb => simp [mapLeaves, leaves, iha, ihb]

/-- the selection and the head of a forward merge do not change when both streams grow in the `GrowsTo` way -/
theorem sel_grow (H va vb va' vb' : List Ev) (hHa : ∀ x ∈ va, x ∈ H) (hHb : ∀ x ∈ vb, x ∈ H)
    (a4 : ∀ x, va.head? = some x → va'.head? = some x) (a5 : va = [] → ∀ e ∈ va', Late H e)
    (b4 : ∀ x, vb.head? = some x → vb'.head? = some x) (b5 : vb = [] → ∀ e ∈ vb', Late H e)
    (hne : sel false va vb ≠ 3) :
    sel false va' vb' = sel false va vb ∧ (mergeSpec false va' vb').head? = (mergeSpec false va vb).head? := by
  cases va with
  | nil =>
    cases vb with
    | nil => simp [sel] at hne
    | cons y ys =>
      have hy := b4 y rfl
      cases vb' with
      | nil => simp at hy
      | cons y' ys' =>
        simp only [List.head?_cons, Option.some.injEq] at hy; subst hy
        cases va' with
        | nil => simp [sel]
        | cons e es =>
          have hl : y'.ts < e.ts := a5 rfl e (by simp) y' (hHb y' (by simp))
          have hp : pick false e y' = false := by simp [pick]; omega
          simp [sel, mergeSpec_cons_cons, hp]
  | cons x xs =>
    have hx := a4 x rfl
    cases va' with
    | nil => simp at hx
    | cons x' xs' =>
      simp only [List.head?_cons, Option.some.injEq] at hx; subst hx
      cases vb with
      | nil =>
        cases vb' with
        | nil => simp [sel]
        | cons e es =>
          have hl : x'.ts < e.ts := b5 rfl e (by simp) x' (hHa x' (by simp))
          have hp : pick false x' e = true := by simp [pick]; omega
          simp [sel, mergeSpec_cons_cons, hp]
      | cons y ys =>
        have hy := b4 y rfl
        cases vb' with
        | nil => simp at hy
        | cons y' ys' =>
          simp only [List.head?_cons, Option.some.injEq] at hy; subst hy
          simp only [sel, mergeSpec_cons_cons]
          split <;> simp

/-- **a released tree whose sources grow stays a correct merger**: every mixer state that survives `Release` is still the
state the merge of the *grown* streams prescribes -/
theorem mapLeaves_grow (f : σ → σ) (H : List Ev) (it : It σ) (h : it.WF) (hr : it.Released) (hd : it.dir = false)
    (hH : ∀ x ∈ it.view, x ∈ H) (hf : ∀ s ∈ it.leaves, GrowsTo H s (f s)) :
    (it.mapLeaves f).WF ∧ (it.mapLeaves f).dir = false ∧ (it.settled → (it.mapLeaves f).settled) ∧
    (∀ x, it.view.head? = some x → (it.mapLeaves f).view.head? = some x) ∧
    (it.view = [] → ∀ e ∈ (it.mapLeaves f).view, Late H e) := by
  induction it with
  | leaf s =>
    obtain ⟨g1, g2, g3, g4, g5⟩ := hf s (List.mem_singleton.mpr rfl)
    exact ⟨g1, by rw [← hd]; exact g2, g3, g4, g5⟩
  | mix m a b iha ihb =>
    obtain ⟨wa, wb, da, db, _, _, hst⟩ := h
    obtain ⟨r1, r2, r3, ra, rb⟩ := hr
    have hb : m.bkwd = false := hd
    have hHa : ∀ x ∈ a.view, x ∈ H := fun x hx => hH x ((mem_mergeSpec _ _ _ _).mpr (Or.inl hx))
    have hHb : ∀ x ∈ b.view, x ∈ H := fun x hx => hH x ((mem_mergeSpec _ _ _ _).mpr (Or.inr hx))
    obtain ⟨A1, A2, A3, A4, A5⟩ := iha wa ra (by rw [da, hb]) hHa
      (fun s hs => hf s (List.mem_append_left _ hs))
    obtain ⟨B1, B2, B3, B4, B5⟩ := ihb wb rb (by rw [db, hb]) hHb
      (fun s hs => hf s (List.mem_append_right _ hs))
    simp only [mapLeaves, WF, dir, settled, view, hb] at *
    refine ⟨⟨A1, B1, A2, B2, by simp [r1], by simp [r2], ?_⟩, trivial, fun _ => trivial, ?_, ?_⟩
    · rcases hst with h0 | ⟨hs1, hs2, hs3⟩
      · exact Or.inl h0
      · right
        have hne : sel false a.view b.view ≠ 3 := by rw [← hs1]; exact r3
        have G := sel_grow H _ _ _ _ hHa hHb A4 A5 B4 B5 hne
        refine ⟨hs1.trans G.1.symm, ?_, ?_⟩
        · intro h1; exact ⟨A4 _ (hs2 h1).1, A3 (hs2 h1).2⟩
        · intro h2; exact ⟨B4 _ (hs3 h2).1, B3 (hs3 h2).2⟩
    · intro x hx
      have hne : sel false a.view b.view ≠ 3 := by
        intro h3
        obtain ⟨ea, eb⟩ := mergeSpec_sel3 h3
        rw [ea, eb] at hx; simp at hx
      rw [(sel_grow H _ _ _ _ hHa hHb A4 A5 B4 B5 hne).2]; exact hx
    · intro he e hm
      obtain ⟨ea, eb⟩ := mergeSpec_eq_nil he
      rcases (mem_mergeSpec _ _ _ _).mp hm with hm | hm
      · exact A5 ea e hm
      · exact B5 eb e hm

end It

theorem head_rev_take {α : Type} (les : List α) (k : Nat) (hk : k < les.length) :
    ((les.take (k+1)).reverse).head? = les[k]? := by
  rw [List.head?_reverse, List.getLast?_eq_getElem?]
  simp [List.length_take, Nat.min_eq_left (Nat.succ_le_of_lt hk)]

theorem tail_rev_take {α : Type} (les : List α) (k : Nat) (hk : k < les.length) :
    ((les.take (k+1)).reverse).tail = (les.take k).reverse := by
  rw [List.tail_reverse, List.dropLast_eq_take, List.take_take, List.length_take]
  congr 2; omega

/-! ## the in-memory leaf is a lawful source -/

namespace Leaf

def view (l : Leaf) : List Ev :=
  if l.bkwd then ((l.les.take (l.idx + 1).toNat).reverse).map l.ev else (l.les.drop l.idx.toNat).map l.ev
def wf (l : Leaf) : Prop := -1 ≤ l.idx ∧ l.idx ≤ l.les.length
def settled (l : Leaf) : Prop := if l.bkwd then l.idx < l.les.length else 0 ≤ l.idx

theorem clamp_inrange (l : Leaf) (h0 : 0 ≤ l.idx) (h1 : l.idx < l.les.length) : l.clamp = l.idx := by
  unfold clamp
  cases hb : l.bkwd <;> simp <;> omega

theorem get_eq (l : Leaf) : l.get = ({ l with idx := l.clamp },
    if l.clamp < l.les.length ∧ l.clamp ≥ 0 then (l.les[l.clamp.toNat]?).map l.ev else none) := rfl

theorem view_fwd (l : Leaf) (hb : l.bkwd = false) : l.view = (l.les.drop l.idx.toNat).map l.ev := by
  unfold view; rw [hb]; rfl

theorem view_bwd (l : Leaf) (hb : l.bkwd = true) : l.view = ((l.les.take (l.idx + 1).toNat).reverse).map l.ev := by
  unfold view; rw [hb]; rfl

theorem clamp_fwd (l : Leaf) (h : l.wf) (hb : l.bkwd = false) :
    l.clamp.toNat = l.idx.toNat ∧ 0 ≤ l.clamp ∧ l.clamp ≤ l.les.length := by
  have := h.2
  simp only [clamp, hb, Bool.false_and, Bool.not_false, Bool.true_and, decide_eq_true_eq, Bool.false_eq_true, if_false]
  split <;> omega

theorem clamp_bwd (l : Leaf) (h : l.wf) (hb : l.bkwd = true) :
    (l.clamp + 1).toNat = min (l.idx + 1).toNat l.les.length ∧ -1 ≤ l.clamp ∧ l.clamp < l.les.length := by
  have := h.1
  simp only [clamp, hb, Bool.true_and, Bool.not_true, Bool.false_and, decide_eq_true_eq, Bool.false_eq_true, if_false]
  split <;> omega

theorem get_spec (l : Leaf) (h : l.wf) :
    l.get.2 = l.view.head? ∧ l.get.1.view = l.view ∧ l.get.1.wf ∧ l.get.1.bkwd = l.bkwd ∧ l.get.1.settled := by
  suffices k : l.get.1.view = l.view ∧ l.get.1.wf ∧ l.get.1.settled ∧ l.get.2 = l.get.1.view.head? from
    ⟨k.2.2.2.trans (congrArg _ k.1), k.1, k.2.1, rfl, k.2.2.1⟩
  rcases (Bool.eq_false_or_eq_true l.bkwd).symm with hb | hb
  · obtain ⟨c1, c2, c3⟩ := clamp_fwd l h hb
    refine ⟨?_, ⟨Int.le_trans (by decide) c2, c3⟩, ?_, ?_⟩
    · rw [view_fwd l.get.1 hb, view_fwd l hb]; exact congrArg (fun n => (l.les.drop n).map l.ev) c1
    · show (if l.bkwd = true then _ else _); rw [hb]; exact c2
    · rw [view_fwd l.get.1 hb, List.head?_map, List.head?_drop]
      show (if l.clamp < l.les.length ∧ l.clamp ≥ 0 then _ else none) = (l.les[l.clamp.toNat]?).map l.ev
      by_cases hlt : l.clamp < l.les.length
      · rw [if_pos ⟨hlt, c2⟩]
      · rw [if_neg fun c => hlt c.1, List.getElem?_eq_none (by omega)]; rfl
  · obtain ⟨c1, c2, c3⟩ := clamp_bwd l h hb
    refine ⟨?_, ⟨c2, Int.le_of_lt c3⟩, ?_, ?_⟩
    · rw [view_bwd l.get.1 hb, view_bwd l hb]
      show ((l.les.take (l.clamp + 1).toNat).reverse).map l.ev = _
      rw [c1, ← List.take_eq_take_min]
    · show (if l.bkwd = true then _ else _); rw [hb]; exact c3
    · rw [view_bwd l.get.1 hb, List.head?_map]
      show (if l.clamp < l.les.length ∧ l.clamp ≥ 0 then _ else none) = ((l.les.take (l.clamp + 1).toNat).reverse.head?).map l.ev
      by_cases h0 : 0 ≤ l.clamp
      · rw [if_pos ⟨c3, h0⟩, show (l.clamp + 1).toNat = l.clamp.toNat + 1 by omega, head_rev_take _ _ (by omega)]
      · rw [if_neg fun c => h0 c.2, show (l.clamp + 1).toNat = 0 by omega]; rfl

theorem next_spec (l : Leaf) (h : l.wf) (hs : l.settled) :
    l.next.view = l.view.tail ∧ l.next.wf ∧ l.next.bkwd = l.bkwd := by
  obtain ⟨h1, h2⟩ := h
  unfold settled at hs
  unfold next
  rcases (Bool.eq_false_or_eq_true l.bkwd).symm with hb | hb
  · rw [hb] at hs
    have hs : 0 ≤ l.idx := hs
    rw [if_neg (hb ▸ Bool.false_ne_true)]
    rw [view_fwd l hb, ← List.map_tail, List.tail_drop]
    split
    · refine ⟨?_, ⟨by show -1 ≤ l.idx + 1; omega, by show l.idx + 1 ≤ (l.les.length : Int); omega⟩, rfl⟩
      rw [view_fwd { l with idx := l.idx + 1 } hb]
      show (l.les.drop (l.idx + 1).toNat).map l.ev = _
      rw [show (l.idx + 1).toNat = l.idx.toNat + 1 by omega]
    · refine ⟨?_, ⟨h1, h2⟩, rfl⟩
      rw [view_fwd l hb, List.drop_eq_nil_of_le (by omega), List.drop_eq_nil_of_le (by omega)]
  · rw [hb] at hs
    have hs : l.idx < l.les.length := hs
    rw [if_pos hb]
    rw [view_bwd l hb, ← List.map_tail]
    split
    · refine ⟨?_, ⟨by show -1 ≤ l.idx - 1; omega, by show l.idx - 1 ≤ (l.les.length : Int); omega⟩, rfl⟩
      rw [view_bwd { l with idx := l.idx - 1 } hb]
      show ((l.les.take (l.idx - 1 + 1).toNat).reverse).map l.ev = _
      rw [show (l.idx + 1).toNat = l.idx.toNat + 1 by omega, show (l.idx - 1 + 1).toNat = l.idx.toNat by omega,
        tail_rev_take _ _ (by omega)]
    · refine ⟨?_, ⟨h1, h2⟩, rfl⟩
      rw [view_bwd l hb, show (l.idx + 1).toNat = 0 by omega]; rfl

instance : LawfulSource Leaf where
  view := view
  dir := (·.bkwd)
  wf := wf
  settled := settled
  get_spec := get_spec
  next_spec := next_spec
  release_spec := fun _ h => ⟨rfl, h, rfl, id⟩
  setBackward_spec := fun _ _ h => ⟨h, rfl⟩

theorem view_append (l : Leaf) (r : Rec) (hw : l.wf) (hb : l.bkwd = false) : (l.append r).view = l.view ++ [l.ev r] := by
  simp only [view, append, hb, Bool.false_eq_true, if_false]
  rw [List.drop_append_of_le_length (by have := hw.2; omega)]
  simp only [List.map_append, List.map_cons, List.map_nil]
  rfl

theorem append_grows (l : Leaf) (r : Rec) (hw : l.wf) (hb : l.bkwd = false) :
    LawfulSource.wf (l.append r) ∧ LawfulSource.dir (l.append r) = LawfulSource.dir l ∧
    (LawfulSource.settled l → LawfulSource.settled (l.append r)) ∧
    (∀ x, (LawfulSource.view l).head? = some x → (LawfulSource.view (l.append r)).head? = some x) := by
  refine ⟨⟨hw.1, by have := hw.2; simp only [append, List.length_append, List.length_singleton]; omega⟩, rfl, ?_, ?_⟩
  · intro hs
    simpa [LawfulSource.settled, settled, append, hb] using hs
  · intro x hx
    show (l.append r).view.head? = some x
    have hx' : l.view.head? = some x := hx
    rw [view_append l r hw hb]
    cases hvv : l.view with
    | nil => rw [hvv] at hx'; cases hx'
    | cons y ys => rw [hvv] at hx'; exact hx'

theorem append_growsTo (H : List Ev) (l : Leaf) (r : Rec) (hw : l.wf) (hb : l.bkwd = false)
    (hl : It.Late H (l.ev r)) : It.GrowsTo H l (l.append r) := by
  obtain ⟨g1, g2, g3, g4⟩ := append_grows l r hw hb
  refine ⟨g1, g2, g3, g4, fun he e hm => ?_⟩
  have hm' : e ∈ (l.append r).view := hm
  rw [view_append l r hw hb, show l.view = [] from he, List.nil_append, List.mem_singleton] at hm'
  rw [hm']; exact hl

end Leaf

end Logrange.Mixer

import Logrange.Proofs.LqlEngineStmt
/-!
# C12: engine = direct parser for DESCRIBE and CREATE PIPE (structs Describe, Create, Pipe)

`engine_direct_describe`, `engine_direct_create`: on every token list whose first token matches the statement keyword,
`runEngine` on the regenerated grammar followed by `toLqlChecked` equals the direct statement parser.
-/
namespace Logrange.Lql
open Logrange.Generated.C12

/-! ## DESCRIBE -/
def describeBody : Node := .group (.disj [kwSeq kwPARTITION "Partition" (.ref .tags), kwSeq kwPIPE "Pipe" (.ref .ident)]) .once
theorem g_describe : grammar "Describe" = some describeBody := rfl


theorem engine_direct_describe (dp : Bytes → Option Int) (ft : Nat) (t : Tok) (r : List Tok)
    (h1 : litMatch t kwSELECT = false) (h2 : litMatch t kwDESCRIBE = true) :
    (runEngine grammar "Lql" (t :: r)).bind (toLqlChecked dp ft) = dDescribeRest r := by
  rw [run_lql]
  obtain ⟨g, hg⟩ : ∃ g, 60 * (t :: r).length + 200 = (g + 18) + 5 + 3 + 1 + 3 := ⟨60 * (t :: r).length + 170, rfl⟩
  rw [hg, lql_hit t r (lqlAlts.take 1) _ kwDESCRIBE "Describe" "Describe" rfl (by simp [lqlAlts, h1]) h2 1 rfl,
    parse_strct _ _ "Describe" describeBody 1 g_describe]
  simp only [describeBody, parse_once, parse_disj, parseDisj_cons, parseDisj_nil]
  cases r with
  | nil =>
    have hn : (⟨[t], grammar⟩ : Ctx).toks[1]? = none := rfl
    rw [show g + 15 = (g + 12) + 3 from rfl, kwSeq_none _ _ _ _ _ 1 hn, show g + 14 = (g + 11) + 3 from rfl, kwSeq_none _ _ _ _ _ 1 hn]
    simp [altRes, topRes, dDescribeRest, checked_nil]
  | cons p r1 =>
    have hn : (⟨t :: p :: r1, grammar⟩ : Ctx).toks[1]? = some p := rfl
    cases hp : litMatch p kwPARTITION with
    | true =>
      have hpp := litMatch_excl p _ kwPIPE (by decide) (by decide) hp
      rw [show g + 15 = (g + 10) + 5 from rfl, kwSeq_lit _ _ _ _ _ 1 p hn hp, show g + 14 = (g + 11) + 3 from rfl,
        kwSeq_nolit _ _ _ _ _ 1 p hn hpp, parse_ref]
      cases r1 with
      | nil => simp [altRes, topRes, dDescribeRest, peek, lookahead]
      | cons x r2 =>
        have hn2 : (⟨t :: p :: x :: r2, grammar⟩ : Ctx).toks[1+1]? = some x := rfl
        simp only [peek, hn2]
        by_cases hx : x.t = TT.tags
        · cases r2 with
          | nil =>
            cases htp : KV.tagParse x.v <;>
              simp [hx, altRes, topRes, dDescribeRest, hp, htp, checked_describe, convDescribe, optConv, optStr, fv, fieldVals, strs]
          | cons y r3 => simp [hx, altRes, topRes, dDescribeRest, hp]
        · cases r2 with
          | nil => simp [hx, altRes, topRes, dDescribeRest, hp, hpp, lookahead]
          | cons y r3 => simp [hx, altRes, topRes, dDescribeRest, hp, lookahead]
    | false =>
      rw [show g + 15 = (g + 12) + 3 from rfl, kwSeq_nolit _ _ _ _ _ 1 p hn hp]
      cases hpi : litMatch p kwPIPE with
      | false =>
        rw [show g + 14 = (g + 11) + 3 from rfl, kwSeq_nolit _ _ _ _ _ 1 p hn hpi]
        cases r1 with
        | nil => simp [altRes, topRes, dDescribeRest]
        | cons x r2 => cases r2 <;> simp [altRes, topRes, dDescribeRest, hp, hpi]
      | true =>
        rw [show g + 14 = (g + 9) + 5 from rfl, kwSeq_lit _ _ _ _ _ 1 p hn hpi, parse_ref]
        cases r1 with
        | nil => simp [altRes, topRes, dDescribeRest, peek, lookahead]
        | cons x r2 =>
          have hn2 : (⟨t :: p :: x :: r2, grammar⟩ : Ctx).toks[1+1]? = some x := rfl
          simp only [peek, hn2]
          by_cases hx : x.t = TT.ident
          · cases r2 with
            | nil => simp [hx, altRes, topRes, dDescribeRest, hp, hpi, checked_describe, convDescribe, optConv, optStr, fv, fieldVals, strs]
            | cons y r3 => simp [hx, altRes, topRes, dDescribeRest, hp]
          · cases r2 with
            | nil => simp [hx, altRes, topRes, dDescribeRest, hp, hpi, lookahead]
            | cons y r3 => simp [hx, altRes, topRes, dDescribeRest, hp, lookahead]


/-! ## CREATE PIPE -/
def createBody : Node := optG (.capture "Pipe" (.strct "Pipe"))
theorem g_create : grammar "Create" = some createBody := rfl
def pipeBody : Node := .seq [(.lit kwPIPE), (.capture "Name" (.ref .ident)), optG (kwSeq kwFROM "From" (.strct "Source")),
  optG (kwSeq kwWHERE "Where" (.strct "Expression"))]
theorem g_pipe : grammar "Pipe" = some pipeBody := by rw [grammar]; rfl

/-- from the result of struct `Pipe` at cursor 1 to the result of struct `Create` -/
theorem create_of_pipe (c : Ctx) (hg : c.grammar = grammar) (f : Nat) :
    parse c (f+4) (.strct "Create") 1 =
      (match parse c f (.strct "Pipe") 1 with
       | .ok v cp cur' => .ok [.node "Create" (cp ++ [("Pipe", v)])] [] cur'
       | .noMatch => .ok [.node "Create" []] [] 1
       | .err k _ => if k > 1 + lookahead then .err k true else .ok [.node "Create" []] [] 1) := by
  rw [parse_strct c _ "Create" createBody 1 (hg ▸ g_create), createBody, parse_optG, parse_capture]
  cases parse c f (.strct "Pipe") 1 with
  | ok v cp cur' => simp
  | noMatch => simp
  | err k hv => by_cases hk : k > 1 + lookahead <;> simp [hk]


/-- the engine's result on struct `Pipe` does not lead to an accepted statement -/
def PipeRejected (c : Ctx) (ft : Nat) (r : Res) : Prop :=
  r = .noMatch ∨ (∃ k hv, r = .err k hv) ∨ (∃ v cp cur', r = .ok v cp cur' ∧ cur' < c.toks.length)
    ∨ (∃ v, r = .ok [v] [] c.toks.length ∧ convPipe ft v = none)

def SimPipe (c : Ctx) (ft : Nat) (r : Res) (d : Option Pipe) : Prop :=
  match d with
  | some p => ∃ v, r = .ok [v] [] c.toks.length ∧ convPipe ft v = some p
  | none => PipeRejected c ft r


/-- the `("WHERE" @@)?` clause at the end of `Pipe`, from cursor `cur` with the captures so far -/
theorem pipe_where (c : Ctx) (hg : c.grammar = grammar) (hH : OperandNotParen c.toks) (ft : Nat) (hft : 8 * c.toks.length + 50 ≤ ft)
    (cur : Nat) (hcl : cur ≤ c.toks.length) (g fd : Nat) (hfe : 60 * c.toks.length + 100 ≤ g) (hfd : 4 * c.toks.length + 5 ≤ fd)
    (vals : List Val) (caps : Caps) (hv : vals ≠ []) (hw0 : fieldVals caps "Where" = []) :
    match dKwClause kwWHERE (dExpr fd) (c.toks.drop cur) with
    | some (wh, []) => ∃ vals' caps', parseSeq c (g+8) [optG (kwSeq kwWHERE "Where" (.strct "Expression"))] cur false vals caps
          = .ok vals' (caps ++ caps') c.toks.length ∧ optExpr ft (.node "Pipe" (caps ++ caps')) "Where" = some wh
          ∧ (∀ f, f ≠ "Where" → fieldVals (caps ++ caps') f = fieldVals caps f)
    | _ => (∃ k hv', parseSeq c (g+8) [optG (kwSeq kwWHERE "Where" (.strct "Expression"))] cur false vals caps = .err k hv')
        ∨ (∃ v cp cur', parseSeq c (g+8) [optG (kwSeq kwWHERE "Where" (.strct "Expression"))] cur false vals caps = .ok v cp cur' ∧ cur' < c.toks.length) := by
  have hve : vals.isEmpty = false := isEmpty_false_of_ne hv
  rw [parseSeq_cons]
  cases hn : c.toks[cur]? with
  | none =>
    have hlen : cur = c.toks.length := by have := hn; simp at this; omega
    rw [drop_of_none hn, show g + 7 = (g + 2) + 5 from rfl, clause_none c _ _ _ _ cur hn]
    simp only [dKwClause]
    refine ⟨vals, [], ?_, ?_, ?_⟩
    · simp [parseSeq_nil, hve, hlen]
    · simp [optExpr, fv, hw0]
    · intro f _; simp
  | some t =>
    have hlt := lt_of_get hn
    rw [drop_of_get hn]
    cases hc : litMatch t kwWHERE with
    | false =>
      rw [show g + 7 = (g + 2) + 5 from rfl, clause_nolit c _ _ _ _ cur t hn hc]
      simp only [dKwClause, hc, Bool.false_eq_true, if_false]
      right; exact ⟨vals, caps, cur, by simp [parseSeq_nil, hve], hlt⟩
    | true =>
      have he := simExpr c hg hH _ (cur+1) (Nat.le_refl _) (by omega) (g+1) fd (by omega) (by omega)
      rw [clause_lit c _ _ _ g cur t hn hc]
      simp only [dKwClause, hc, if_true]
      cases hd : dExpr fd (c.toks.drop (cur+1)) with
      | none =>
        rw [hd] at he
        simp only [SimExpr] at he
        rcases he with ⟨k, h, hk⟩ | ⟨v, cur', h, hlt', hst⟩
        · by_cases hgt : k > cur + lookahead
          · left; exact ⟨k, true, by simp [h, hgt]⟩
          · right; exact ⟨vals ++ [.str []], caps, cur, by simp [h, hgt, parseSeq_nil], hlt⟩
        · have hl' : cur' < c.toks.length := by rcases hst with ⟨q, hq, _⟩ | ⟨q, hq, _⟩ <;> exact lt_of_get hq
          right; exact ⟨vals ++ [.str t.v, .str []], caps ++ [("Where", [v])], cur', by simp [h, parseSeq_nil], hl'⟩
      | some res =>
        obtain ⟨e, rest⟩ := res
        have hcv := dExpr_cv hd
        rw [hd] at he
        obtain ⟨v, cur', h, hrel, hrest, h1, h2⟩ := he
        cases rest with
        | nil =>
          have hlen : cur' = c.toks.length := by
            have : (c.toks.drop cur').length = 0 := by rw [← hrest]; rfl
            simp at this; omega
          simp only []
          refine ⟨vals ++ [.str t.v, .str []], [("Where", [v])], ?_, ?_, ?_⟩
          · simp [h, parseSeq_nil, hlen]
          · have hf : cvExpr e ≤ ft := by
              simp only [List.length_drop, List.length_nil] at hcv; omega
            have hfv : fieldVals (caps ++ [("Where", [v])]) "Where" = [v] := by
              simp only [fieldVals, List.filter_append, List.flatMap_append] at hw0 ⊢
              simp [hw0]
            simp [optExpr, fv, hfv, convExpr e v ft hrel hf]
          · intro f hf; simp [fieldVals, Ne.symm hf]
        | cons q r2 =>
          have hl' : cur' < c.toks.length := by
            have : (c.toks.drop cur').length = (q :: r2).length := by rw [← hrest]
            simp at this; omega
          simp only []
          right; exact ⟨vals ++ [.str t.v, .str []], caps ++ [("Where", [v])], cur', by simp [h, parseSeq_nil], hl'⟩


def pipeWrap (r : Res) : Res :=
  match r with
  | .ok _ caps cur' => .ok [.node "Pipe" caps] [] cur'
  | .noMatch => .noMatch
  | .err k _ => .err k true

def pipeDirect (osrc : Option (Option Source)) (name : Bytes) (dk : Option (Option Expr × List Tok)) : Option Pipe :=
  match osrc with
  | some src => (match dk with
     | some (wh, []) => some { name := name, from_ := src, where_ := wh }
     | _ => none)
  | none => none

/-- everything after the FROM clause of `Pipe`: the WHERE clause, the end of the sequence, the conversion -/
theorem pipe_after (c : Ctx) (hg : c.grammar = grammar) (hH : OperandNotParen c.toks) (ft : Nat) (hft : 8 * c.toks.length + 50 ≤ ft)
    (cur : Nat) (hcl : cur ≤ c.toks.length) (g fd : Nat) (hfe : 60 * c.toks.length + 100 ≤ g) (hfd : 4 * c.toks.length + 5 ≤ fd)
    (vals : List Val) (caps : Caps) (hv : vals ≠ []) (hw0 : fieldVals caps "Where" = [])
    (name : Bytes) (hname : strs (fieldVals caps "Name") = name)
    (osrc : Option (Option Source)) (hsrc : optSource ft (.node "Pipe" caps) "From" = osrc) :
    SimPipe c ft (pipeWrap (parseSeq c (g+8) [optG (kwSeq kwWHERE "Where" (.strct "Expression"))] cur false vals caps))
      (pipeDirect osrc name (dKwClause kwWHERE (dExpr fd) (c.toks.drop cur))) := by
  subst hsrc
  have hw := pipe_where c hg hH ft hft cur hcl g fd hfe hfd vals caps hv hw0
  generalize parseSeq c (g+8) [optG (kwSeq kwWHERE "Where" (.strct "Expression"))] cur false vals caps = rr at hw ⊢
  have hrej : ((∃ k hv', rr = .err k hv') ∨ (∃ v cp cur', rr = .ok v cp cur' ∧ cur' < c.toks.length)) → PipeRejected c ft (pipeWrap rr) := by
    rintro (⟨k, hv', rfl⟩ | ⟨v, cp, cur', rfl, hl⟩)
    · exact Or.inr (Or.inl ⟨k, true, rfl⟩)
    · exact Or.inr (Or.inr (Or.inl ⟨_, _, cur', rfl, hl⟩))
  cases hdk : dKwClause kwWHERE (dExpr fd) (c.toks.drop cur) with
  | none =>
    rw [hdk] at hw
    have : SimPipe c ft (pipeWrap rr) none := hrej hw
    cases optSource ft (.node "Pipe" caps) "From" <;> simpa [pipeDirect] using this
  | some res =>
    obtain ⟨wh, rest⟩ := res
    rw [hdk] at hw
    cases rest with
    | cons q r2 =>
      have : SimPipe c ft (pipeWrap rr) none := hrej hw
      cases optSource ft (.node "Pipe" caps) "From" <;> simpa [pipeDirect] using this
    | nil =>
      obtain ⟨vals', caps', rfl, hwh, hfl⟩ := hw
      have hs2 : optSource ft (.node "Pipe" (caps ++ caps')) "From" = optSource ft (.node "Pipe" caps) "From" :=
        by simp only [optSource, fv, hfl "From" (by decide)]
      have hn2 : strs (fieldVals (caps ++ caps') "Name") = name := by rw [hfl "Name" (by decide)]; exact hname
      cases ho : optSource ft (.node "Pipe" caps) "From" with
      | none =>
        simp only [pipeDirect, SimPipe, PipeRejected, pipeWrap]
        right; right; right
        exact ⟨_, rfl, by simp [convPipe, hs2, ho]⟩
      | some src =>
        simp only [pipeDirect, SimPipe, pipeWrap]
        exact ⟨_, rfl, by simp [convPipe, hs2, ho, hwh, fv, hn2]⟩


theorem dPipeBody_eq (fd : Nat) (p n : Tok) (r : List Tok) (hp : litMatch p kwPIPE = true) (hi : n.t = TT.ident) :
    dPipeBody fd (p :: n :: r) =
      (match dKwClause kwFROM (dSource fd) r with
       | none => none
       | some (src, t1) => pipeDirect (some src) n.v (dKwClause kwWHERE (dExpr fd) t1)) := by
  simp only [dPipeBody, hp, hi, beq_self_eq_true, Bool.and_self, if_true, pipeDirect]
  cases dKwClause kwFROM (dSource fd) r with
  | none => rfl
  | some x => rfl

theorem simPipe (c : Ctx) (hg : c.grammar = grammar) (hH : OperandNotParen c.toks) (ft : Nat) (hft : 8 * c.toks.length + 50 ≤ ft)
    (g fd : Nat) (hfe : 60 * c.toks.length + 100 ≤ g) (hfd : 4 * c.toks.length + 5 ≤ fd) :
    SimPipe c ft (parse c (g+13) (.strct "Pipe") 1) (dPipeBody fd (c.toks.drop 1)) := by
  rw [parse_strct c _ "Pipe" pipeBody 1 (hg ▸ g_pipe)]
  change SimPipe c ft (pipeWrap (parse c (g+12) pipeBody 1)) _
  rw [pipeBody, parse_seq, parseSeq_cons, parse_lit]
  simp only [peek]
  cases h1 : c.toks[1]? with
  | none =>
    rw [drop_of_none h1]
    simp only [dPipeBody, SimPipe, pipeWrap, if_true]
    left; rfl
  | some p =>
    rw [drop_of_get h1]
    cases hp : litMatch p kwPIPE with
    | false =>
      have : dPipeBody fd (p :: c.toks.drop (1+1)) = none := by
        cases c.toks.drop (1+1) <;> simp [dPipeBody, hp]
      rw [this]
      simp only [hp, SimPipe, pipeWrap, Bool.false_eq_true, if_false]
      left; rfl
    | true =>
      simp only [hp, if_true, List.nil_append]
      rw [parseSeq_cons, parse_capture, parse_ref]
      simp only [peek]
      cases h2 : c.toks[1+1]? with
      | none =>
        rw [drop_of_none h2]
        simp only [dPipeBody, SimPipe, pipeWrap]
        right; left; exact ⟨_, _, rfl⟩
      | some n =>
        rw [drop_of_get h2]
        by_cases hi : n.t = TT.ident
        · rw [dPipeBody_eq fd p n _ hp hi]
          simp only [hi, beq_self_eq_true, if_true, List.nil_append]
          rw [parseSeq_cons]
          have hl2 := lt_of_get h2
          -- the FROM clause at cursor 3
          have hnoFrom := pipe_after c hg hH ft hft (1+1+1) (by omega) g fd hfe hfd [.str p.v, .str []] [("Name", [.str n.v])] (by simp)
            (by simp [fieldVals]) n.v (by simp [fieldVals, strs]) (some none) (by simp [optSource, fv, fieldVals])
          cases h3 : c.toks[1+1+1]? with
          | none =>
            rw [drop_of_none h3] at hnoFrom ⊢
            rw [show g + 8 = (g + 3) + 5 from rfl, clause_none c _ _ _ _ _ h3]
            simp only [dKwClause, List.append_nil]
            exact hnoFrom
          | some f =>
            have hl3 := lt_of_get h3
            rw [drop_of_get h3]
            cases hf : litMatch f kwFROM with
            | false =>
              rw [show g + 8 = (g + 3) + 5 from rfl, clause_nolit c _ _ _ _ _ f h3 hf]
              simp only [dKwClause, hf, Bool.false_eq_true, if_false, List.append_nil]
              rw [drop_of_get h3] at hnoFrom
              exact hnoFrom
            | true =>
              have hfw := litMatch_excl f _ kwWHERE (by decide) (by decide) hf
              have hs := simSource c hg hH (1+1+1+1) (by omega) (g+2) fd (by omega) (by omega)
              rw [show g + 8 = (g + 1) + 7 from rfl, clause_lit c _ _ _ (g+1) _ f h3 hf]
              simp only [dKwClause, hf, if_true]
              have hdead : ∀ (cur' : Nat) (q : Tok), c.toks[cur']? = some q → litMatch q kwWHERE = false →
                  ∀ osrc, pipeDirect osrc n.v (dKwClause kwWHERE (dExpr fd) (c.toks.drop cur')) = none := by
                intro cur' q hq hqw osrc
                rw [drop_of_get hq]
                cases osrc <;> simp [pipeDirect, dKwClause, hqw]
              cases hd : dSource fd (c.toks.drop (1+1+1+1)) with
              | some res =>
                obtain ⟨sr, rest⟩ := res
                have hcv := dSource_cvM hd
                rw [hd] at hs
                obtain ⟨v, cur', h, hrel, hrest, hlt', hle'⟩ := hs
                subst hrest
                have hf' : cvSource sr ≤ ft := by simp only [List.length_drop] at hcv; omega
                rw [h]
                simp only []
                exact pipe_after c hg hH ft hft cur' hle' g fd hfe hfd _ _ (by simp) (by simp [fieldVals])
                  n.v (by simp [fieldVals, strs]) (some (some sr)) (by simp [optSource, fv, fieldVals, convSource sr v ft hrel hf'])
              | none =>
                rw [hd] at hs
                simp only [SimSource] at hs
                simp only []
                rcases hs with ⟨k, h, hk⟩ | ⟨v, cur', h, hlt', hst⟩ | ⟨v, h, hlt', hconv⟩
                · rw [h]
                  by_cases hgt : k > 1 + 1 + 1 + lookahead
                  · simp only [hgt, if_true, SimPipe, pipeWrap]
                    right; left; exact ⟨_, _, rfl⟩
                  · simp only [hgt, if_false]
                    have := pipe_after c hg hH ft hft (1+1+1) (by omega) g fd hfe hfd ([.str p.v] ++ [.str []] ++ [.str []]) ([] ++ [("Name", [.str n.v])] ++ []) (by simp) (by simp [fieldVals])
                      n.v (by simp [fieldVals, strs]) _ rfl
                    rw [hdead _ f h3 hfw] at this
                    exact this
                · rw [h]
                  simp only []
                  have hq : ∃ q, c.toks[cur']? = some q ∧ litMatch q kwWHERE = false := by
                    rcases hst with ⟨q, hq, hqa⟩ | ⟨q, hq, hqo⟩
                    · exact ⟨q, hq, litMatch_excl q _ _ (by decide) (by decide) hqa⟩
                    · exact ⟨q, hq, litMatch_excl q _ _ (by decide) (by decide) hqo⟩
                  obtain ⟨q, hq, hqw⟩ := hq
                  have := pipe_after c hg hH ft hft cur' (by have := lt_of_get hq; omega) g fd hfe hfd ([.str p.v] ++ [.str []] ++ [.str f.v, .str []]) ([] ++ [("Name", [.str n.v])] ++ ([] ++ [("From", [v])])) (by simp) (by simp [fieldVals])
                    n.v (by simp [fieldVals, strs]) _ rfl
                  rw [hdead _ q hq hqw] at this
                  exact this
                · rw [h]
                  simp only []
                  have := pipe_after c hg hH ft hft (1+1+1+1+1) (by omega) g fd hfe hfd ([.str p.v] ++ [.str []] ++ [.str f.v, .str []]) ([] ++ [("Name", [.str n.v])] ++ ([] ++ [("From", [v])])) (by simp) (by simp [fieldVals])
                    n.v (by simp [fieldVals, strs]) none (by simp [optSource, fv, fieldVals, hconv ft])
                  simpa [pipeDirect] using this
        · have hi' : (n.t == TT.ident) = false := by simpa using hi
          have : dPipeBody fd (p :: n :: c.toks.drop (1+1+1)) = none := by simp [dPipeBody, hp, hi']
          rw [this]
          simp only [hi', Bool.false_eq_true, if_false, SimPipe, pipeWrap]
          right; left; exact ⟨_, _, rfl⟩


theorem engine_direct_create (dp : Bytes → Option Int) (ft : Nat) (t : Tok) (r : List Tok)
    (hH : OperandNotParen (t :: r)) (hft : 8 * (t :: r).length + 50 ≤ ft)
    (h1 : litMatch t kwSELECT = false) (h2 : litMatch t kwDESCRIBE = false) (h3 : litMatch t kwTRUNCATE = false)
    (h4 : litMatch t kwSHOW = false) (h5 : litMatch t kwCREATE = true) :
    (runEngine grammar "Lql" (t :: r)).bind (toLqlChecked dp ft) = dCreateRest (directFuel (t :: r)) r := by
  rw [run_lql]
  obtain ⟨g, hg⟩ : ∃ g, 60 * (t :: r).length + 200 = (g + 13 + 3) + 5 + 3 + 4 + 3 := ⟨60 * (t :: r).length + 169, rfl⟩
  rw [hg, lql_hit t r (lqlAlts.take 4) _ kwCREATE "Create" "Create" rfl (by simp [lqlAlts, h1, h2, h3, h4]) h5 4 rfl,
    create_of_pipe ⟨t :: r, grammar⟩ rfl (g+13)]
  have hsim := simPipe ⟨t :: r, grammar⟩ rfl hH ft hft g (directFuel (t :: r)) (by simp only [List.length_cons] at hg ⊢; omega) (by simp [directFuel])
  cases r with
  | nil =>
    simp only [List.drop_succ_cons, List.drop_nil] at hsim
    rw [parse_strct _ _ "Pipe" pipeBody 1 g_pipe, pipeBody, parse_seq, parseSeq_cons, parse_lit]
    simp [peek, altRes, topRes, dCreateRest, checked_create, convCreate, optNode_nil]
  | cons p r1 =>
    simp only [List.drop_succ_cons, List.drop_zero] at hsim
    simp only [dCreateRest]
    generalize parse ⟨t :: p :: r1, grammar⟩ (g+13) (.strct "Pipe") 1 = rp at hsim ⊢
    cases hd : dPipeBody (directFuel (t :: p :: r1)) (p :: r1) with
    | some pp =>
      rw [hd] at hsim
      obtain ⟨v, rfl, hconv⟩ := hsim
      simp only [altRes, topRes, List.nil_append, beq_self_eq_true, if_true, Option.bind_some]
      rw [checked_create_pipe, hconv]; rfl
    | none =>
      rw [hd] at hsim
      simp only [SimPipe, PipeRejected] at hsim
      rcases hsim with rfl | ⟨k, hv, rfl⟩ | ⟨v, cp, cur', rfl, hl⟩ | ⟨v, rfl, hconv⟩
      · simp [altRes, topRes]
      · by_cases hk : k > 1 + lookahead
        · have hk2 : k > 0 + 1 + lookahead := by omega
          simp [altRes, topRes, hk, hk2]
        · simp [altRes, topRes, hk]
      · simp only [List.length_cons] at hl
        have : (cur' == r1.length + 1 + 1) = false := by simp; omega
        simp [altRes, topRes, this]
      · simp only [altRes, topRes, List.nil_append, beq_self_eq_true, if_true, Option.bind_some]
        rw [checked_create_pipe, hconv]; rfl

end Logrange.Lql

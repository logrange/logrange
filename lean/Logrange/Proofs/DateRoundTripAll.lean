import Logrange.Proofs.DateRoundTrip
import Logrange.Proofs.DateShapes
/-!
# Round trip `time.Parse ∘ render` on civil fields for EVERY layout element the format lists use

Same architecture as `DateRoundTrip.lean` (numeric fixed-width subset): what each element reads back, proved on numbers
and brought together for the fields of an instant in `parseStd_render`; induction over the item list
(`parseItems_render`); Go's epilogue `finish` applied to the fields the layout carries (`projectX`).
What may follow an element in the text (a digit after a 1–2 digit field or a fraction, `.`/`,` after seconds, an
upper-case letter or a sign after a zone abbreviation) is controlled statically: `firstSet` over-approximates the first
byte of the rest of the text from the shapes of the next element (`renderStd_shape`), `ParseWF` checks it per item.
-/
namespace Logrange.Date

/-! ## name tables -/

/-- some position inside both names tells them apart, case-insensitively -/
def differs (e name : Bytes) : Bool :=
  (List.range (min e.length name.length)).any (fun j => (e[j]?.map lowerB) != (name[j]?.map lowerB))

/-- no earlier entry of the table can be mistaken for entry `k` -/
def distinctBefore (tab : List Bytes) : Bool :=
  (List.range tab.length).all (fun k => (List.range k).all (fun j =>
    match tab[j]?, tab[k]? with
    | some e, some n => differs e n
    | _, _ => true))

theorem lookup_miss {e name : Bytes} (hd : differs e name = true) (v : Bytes) :
    ((name ++ v).length ≥ e.length && ((name ++ v).take e.length).map lowerB == e.map lowerB) = false := by
  simp only [differs, List.any_eq_true, List.mem_range, bne_iff_ne, ne_eq] at hd
  obtain ⟨j, hj, hne⟩ := hd
  have hje : j < e.length := by omega
  have hjn : j < name.length := by omega
  cases hlen : decide ((name ++ v).length ≥ e.length) with
  | false => simp [hlen]
  | true =>
    simp only [Bool.true_and]
    apply beq_false_of_ne
    intro heq
    have h1 : (((name ++ v).take e.length).map lowerB)[j]? = (e.map lowerB)[j]? := by rw [heq]
    rw [List.getElem?_map, List.getElem?_map, List.getElem?_take_of_lt hje, List.getElem?_append_left hjn] at h1
    exact hne h1.symm

theorem lookupFrom_hit : ∀ (tab : List Bytes) (i k : Nat) (name v : Bytes), tab[k]? = some name →
    (∀ j, j < k → ∀ e, tab[j]? = some e → differs e name = true) → lookupFrom i (name ++ v) tab = some (i + k, v)
  | [], _, _, _, _, h, _ => by simp at h
  | e :: tab, i, 0, name, v, h, _ => by
    simp at h; subst h
    have : ((e ++ v).length ≥ e.length && ((e ++ v).take e.length).map lowerB == e.map lowerB) = true := by simp
    simp only [lookupFrom, this, if_true]; simp
  | e :: tab, i, k + 1, name, v, h, hd => by
    have hmiss := lookup_miss (hd 0 (by omega) e (by simp)) v
    simp only [lookupFrom, hmiss, Bool.false_eq_true, if_false]
    rw [lookupFrom_hit tab (i + 1) k name v (by simpa using h) (fun j hj e' he' => hd (j + 1) (by omega) e' (by simpa using he'))]
    congr 2; omega

theorem lookup_hit {tab : List Bytes} (hdist : distinctBefore tab = true) {k : Nat} {name : Bytes} (h : tab[k]? = some name) (v : Bytes) :
    lookup tab (name ++ v) = some (k, v) := by
  have hk : k < tab.length := (List.getElem?_eq_some_iff.mp h).1
  simp only [distinctBefore, List.all_eq_true, List.mem_range] at hdist
  have := lookupFrom_hit tab 0 k name v h fun j hj e he => by
    have := hdist k hk j hj
    rwa [he, h] at this
  rwa [Nat.zero_add] at this

theorem tables_distinct : distinctBefore shortMonths = true ∧ distinctBefore longMonths = true ∧
    distinctBefore shortDays = true ∧ distinctBefore longDays = true := by decide +kernel

/-! ## what an element writes into Go's locals -/

def pivotYear (y : Nat) : Int := if y % 100 ≥ 69 then ((y % 100 : Nat) : Int) + 1900 else ((y % 100 : Nat) : Int) + 2000

def setStdX (s : Std) (i : XInst) (f : F) : F :=
  match s with
  | .longYear => { f with year := i.year }
  | .year => { f with year := pivotYear i.year }
  | .month | .longMonth | .numMonth | .zeroMonth => { f with month := i.month }
  | .day | .underDay | .zeroDay => { f with day := i.day }
  | .hour => { f with hour := i.hour }
  | .hour12 | .zeroHour12 => { f with hour := hour12Of i.hour }
  | .zeroMinute => { f with min := i.min }
  | .zeroSecond => { f with sec := i.sec }
  | .frac9 _ => { f with nsec := i.nsec }
  | .pm => if i.hour ≥ 12 then { f with pmS := true } else { f with am := true }
  | .numTZ | .numColonTZ => { f with zoneOffset := some (i.offMin * 60) }
  | .tz => if i.zname = bUTC then { f with zUTC := true } else { f with zoneName := some i.zname }
  | _ => f

def projectFX (items : List (Bytes × Std)) (i : XInst) (f : F) : F := items.foldl (fun f it => setStdX it.2 i f) f

/-- Go's epilogue applied to the fields the layout carries -/
def projectX (L : Layout) (i : XInst) : PR := finish (projectFX L.items i {})

/-- the elements of the format lists -/
def inScope (s : Std) : Bool := (rxAtomsOfStd s).isSome

/-! ## what must not follow an element -/

def badSet (s : Std) (next : Option Std) : BSet :=
  match s with
  | .day | .numMonth | .hour12 | .underDay | .frac9 _ => dS
  | .zeroSecond => (match next with | some (.frac9 _) => [] | _ => [(44, 44), (46, 46)])
  | .tz => [(65, 90), (43, 43), (45, 45)]
  | _ => []

def FollowOK (s : Std) (next : Option Std) (R : Bytes) : Prop := ∀ c, R.head? = some c → inCls (badSet s next) c = false


theorem pad2_ne_nil (n : Nat) : pad2 n ≠ [] := List.cons_ne_nil _ _
theorem pad2_head (n : Nat) : (pad2 n).head? ≠ some 32 := fun e => dig_ne_blank _ (Option.some.inj e)

theorem num12_ne_nil (n : Nat) : num12 n ≠ [] := by simp only [num12]; split <;> exact List.cons_ne_nil _ _
theorem num12_head (n : Nat) : (num12 n).head? ≠ some 32 := by
  simp only [num12]; split <;> exact fun e => dig_ne_blank _ (Option.some.inj e)

theorem beq_h12 : (Std.hour12 == Std.zeroHour12) = false := by decide
theorem beq_day : (Std.day == Std.zeroDay) = false := by decide
theorem beq_dayu : (Std.day == Std.underDay) = false := by decide
theorem beq_nm : (Std.numMonth == Std.zeroMonth) = false := by decide
theorem beq_ud : (Std.underDay == Std.zeroDay) = false := by decide

section elements
variable (next : Option Std) (R : Bytes) (f : F)

theorem parseStd_year (y : Nat) :
    parseStd .year next (pad2 (y % 100) ++ R) f = some ({ f with year := pivotYear y }, R) := by
  have hlen : ¬ ((pad2 (y % 100) ++ R).length < 2) := by simp [pad2]
  have htake : (pad2 (y % 100) ++ R).take 2 = pad2 (y % 100) := by simp [pad2]
  have hdrop : (pad2 (y % 100) ++ R).drop 2 = R := by simp [pad2]
  simp only [parseStd, hlen, if_false, htake, hdrop, atoi_pad2 (y % 100) (by omega), Option.map_some, pivotYear]
  congr 3
  split <;> split <;> omega

theorem parseStd_zeroHour12 (n : Nat) (h : n ≤ 12) :
    parseStd .zeroHour12 next (pad2 n ++ R) f = some ({ f with hour := n }, R) := by
  have hr : (decide ((n : Int) < 0) || decide ((12 : Int) < n)) = false := by simp; omega
  simp only [parseStd, beq_self_eq_true, getnum_pad2 n (by omega), Option.bind, hr]; rfl

theorem getnum_num12 (n : Nat) (hn : n < 100) (hR : R = [] ∨ ∃ c t, R = c :: t ∧ isDig c = false) :
    getnum (num12 n ++ R) false = some ((n : Int), R) := by
  simp only [num12]; split
  · rename_i h10
    have e : ((n % 10 : Nat) : Int) = n := by omega
    rcases hR with h | ⟨c, t, h, hc⟩ <;> subst h <;> simp [getnum, isDig_dig, dval_dig, e, *]
  · exact getnum_pad2 n hn false R

theorem parseStd_pm (p : Prop) [Decidable p] :
    parseStd .pm next ((if p then [80, 77] else [65, 77]) ++ R) f =
      some (if p then { f with pmS := true } else { f with am := true }, R) := by
  by_cases h : p <;> simp [parseStd, h]

theorem parseStd_underDay_blank (v : Bytes) : parseStd .underDay next (32 :: v) f = parseStd .day next v f := by
  simp only [parseStd, beq_self_eq_true, List.head?_cons, Bool.true_and, if_true, List.drop_succ_cons, List.drop_zero, beq_ud,
    beq_day, beq_dayu, Bool.false_and, Bool.false_eq_true, if_false]

theorem parseStd_underDay_plain {v : Bytes} (hv : v.head? ≠ some 32) : parseStd .underDay next v f = parseStd .day next v f := by
  have : (v.head? == some 32) = false := beq_false_of_ne hv
  simp only [parseStd, this, Bool.and_false, Bool.false_eq_true, if_false, beq_ud, beq_day, beq_dayu, Bool.false_and]

variable (hR : R = [] ∨ ∃ c t, R = c :: t ∧ isDig c = false)
include hR

theorem parseStd_numMonth (n : Nat) (h1 : 1 ≤ n) (h12 : n ≤ 12) :
    parseStd .numMonth next (num12 n ++ R) f = some ({ f with month := n }, R) := by
  have hr : (decide ((n : Int) ≤ 0) || decide ((12 : Int) < n)) = false := by simp; omega
  simp only [parseStd, beq_nm, getnum_num12 R n (by omega) hR, Option.bind, hr]; rfl

theorem parseStd_hour12 (n : Nat) (h : n ≤ 12) :
    parseStd .hour12 next (num12 n ++ R) f = some ({ f with hour := n }, R) := by
  have hr : (decide ((n : Int) < 0) || decide ((12 : Int) < n)) = false := by simp; omega
  simp only [parseStd, beq_h12, getnum_num12 R n (by omega) hR, Option.bind, hr]; rfl

theorem parseStd_day (n : Nat) (h : n < 100) :
    parseStd .day next (num12 n ++ R) f = some ({ f with day := n }, R) := by
  simp [parseStd, beq_day, beq_dayu, getnum_num12 R n h hR]

end elements

theorem follow_digit {s : Std} {next : Option Std} {R : Bytes} (hb : badSet s next = dS) (hf : FollowOK s next R) :
    R = [] ∨ ∃ c t, R = c :: t ∧ isDig c = false := by
  cases R with
  | nil => exact Or.inl rfl
  | cons c t => exact Or.inr ⟨c, t, rfl, by rw [← inCls_dS, ← hb]; exact hf c rfl⟩

theorem commaOrPeriod_eq (c : UInt8) : commaOrPeriod c = inCls [(44, 44), (46, 46)] c := by
  have h1 := inCls_bS 44 c
  have h2 := inCls_bS 46 c
  simp only [inCls, bS, List.any_cons, List.any_nil, Bool.or_false] at h1 h2 ⊢
  rw [h1, h2, commaOrPeriod, Bool.or_comm]

theorem follow_zeroSecond {next : Option Std} {R : Bytes} (hf : FollowOK .zeroSecond next R) :
    commaOrPeriod (R.headD 0) = false ∨ ∃ k, next = some (.frac9 k) := by
  by_cases hn : ∃ k, next = some (.frac9 k)
  · exact Or.inr hn
  · have hb : badSet .zeroSecond next = [(44, 44), (46, 46)] := by
      cases next with
      | none => rfl
      | some n => cases n <;> first | rfl | exact absurd ⟨_, rfl⟩ hn
    cases R with
    | nil => exact Or.inl rfl
    | cons c t => exact Or.inl (by rw [List.headD_cons, commaOrPeriod_eq, ← hb]; exact hf c rfl)

theorem badTZ_eq (c : UInt8) : inCls (badSet .tz none) c = (isUpperB c || c == 43 || c == 45) := by
  have h1 := inCls_bS 43 c
  have h2 := inCls_bS 45 c
  simp only [inCls, bS, List.any_cons, List.any_nil, Bool.or_false] at h1 h2
  simp only [badSet, inCls, List.any_cons, List.any_nil, Bool.or_false, h1, h2, isUpperB, Bool.or_assoc]

/-- Go would read a longer abbreviation or `GMT±n` -/
theorem follow_tz {next : Option Std} {R : Bytes} (hf : FollowOK .tz next R) :
    R = [] ∨ ∃ x t, R = x :: t ∧ isUpperB x = false ∧ x ≠ 43 ∧ x ≠ 45 := by
  cases R with
  | nil => exact Or.inl rfl
  | cons x t =>
    have := hf x rfl
    rw [show badSet .tz next = badSet .tz none from rfl, badTZ_eq] at this
    simp only [Bool.or_eq_false_iff, beq_eq_false_iff_ne, ne_eq] at this
    exact Or.inr ⟨x, t, rfl, this.1.1, this.1.2, this.2⟩

/-- all elements but `_2` -/
def plainStd (s : Std) : Bool := (symStd s).all (fun v => match v with | x :: _ => !inCls x 32 | [] => false)

theorem plainStd_of_inScope {s : Std} (hs : inScope s = true) (hu : s ≠ .underDay) : plainStd s = true := by
  cases s <;> first | rfl | exact absurd rfl hu | cases hs

theorem plain_of_shape {s : Std} {i : XInst} (hi : ValidX i) {txt : Bytes} (ht : renderStd s i = some txt) (hp : plainStd s = true) :
    txt ≠ [] ∧ txt.head? ≠ some 32 := by
  obtain ⟨sh, hsh, hs⟩ := renderStd_shape s i hi txt ht
  have := List.all_eq_true.mp hp sh hsh
  match sh, txt, hs with
  | x :: xs, c :: t, hs =>
    refine ⟨List.cons_ne_nil _ _, fun e => ?_⟩
    rw [← Option.some.inj e] at this
    simp [hs.1] at this

def ElemOK (s : Std) (i : XInst) (next : Option Std) (R : Bytes) (f : F) (txt : Bytes) : Prop :=
  renderStd s i = some txt ∧ txt ≠ [] ∧
    ∀ val, (val = txt ++ R ∨ val = cutspace (txt ++ R)) → parseStd s next val f = some (setStdX s i f, R)

theorem elem_underDay {i : XInst} (hi : ValidX i) (next : Option Std) (R : Bytes) (f : F) (hf : FollowOK .underDay next R) :
    ElemOK .underDay i next R f (if i.day < 10 then [32, dig i.day] else pad2 i.day) := by
  have hd31 := day_le_31 hi
  have hday := parseStd_day next R f (follow_digit (s := .underDay) (next := next) rfl hf) i.day (by omega)
  refine ⟨rfl, by split <;> exact List.cons_ne_nil _ _, fun val hv => ?_⟩
  by_cases h10 : i.day < 10
  · -- ` d`: with or without the blank (a literal ending in a blank has eaten it), the digit is read alone
    simp only [h10, if_true] at hv
    rw [num12, if_pos h10] at hday
    have hne : (dig i.day == 32) = false := beq_false_of_ne (dig_ne_blank _)
    have hcs : cutspace ([32, dig i.day] ++ R) = dig i.day :: R := by simp [cutspace, List.dropWhile, hne]
    rw [hcs] at hv
    rcases hv with rfl | rfl
    · exact (parseStd_underDay_blank next f _).trans hday
    · exact (parseStd_underDay_plain next f (v := dig i.day :: R) fun e => dig_ne_blank _ (Option.some.inj e)).trans hday
  · simp only [h10, if_false] at hv
    rw [num12, if_neg h10] at hday
    rw [plain_vals (pad2_ne_nil _) (pad2_head _) hv]
    exact (parseStd_underDay_plain next f (v := pad2 i.day ++ R) fun e => dig_ne_blank _ (Option.some.inj e)).trans hday

theorem read_name {s : Std} {i : XInst} {next : Option Std} (R : Bytes) {f : F} {tab : List Bytes}
    (hdist : distinctBefore tab = true) {k : Nat} (hk : k < tab.length) (hr : renderStd s i = tab[k]?) (g : Nat → F)
    (hparse : ∀ v, parseStd s next v f = (lookup tab v).map (fun p => (g p.1, p.2))) (hset : g k = setStdX s i f) :
    ∃ txt, renderStd s i = some txt ∧ parseStd s next (txt ++ R) f = some (setStdX s i f, R) := by
  have htab := List.getElem?_eq_getElem hk
  exact ⟨tab[k], hr.trans htab, by rw [hparse, lookup_hit hdist htab, ← hset]; rfl⟩

/-! ### zones -/

theorem getnum_pad2_nil (n : Nat) (hn : n < 100) : getnum (pad2 n) true = some ((n : Int), []) := by
  have := getnum_pad2 n hn true []
  simpa using this

theorem numTZ_sign (f : F) (off a : Int) (ha : a = off.natAbs) (R : Bytes) :
    (if (some (if off < 0 then (45 : UInt8) else 43) == some 43) = true then some ({ f with zoneOffset := some (a * 60) }, R)
     else if (some (if off < 0 then (45 : UInt8) else 43) == some 45) = true then
       some ({ f with zoneOffset := some (-(a * 60)) }, R)
     else none) = some ({ f with zoneOffset := some (off * 60) }, R) := by
  by_cases h : off < 0
  · have e : -(a * 60) = off * 60 := by omega
    rw [if_pos h, if_neg (by decide), if_pos (by decide), e]
  · have e : a * 60 = off * 60 := by omega
    rw [if_neg h, if_pos (by decide), e]

theorem numTZ_plain (f : F) (off : Int) (hoff : off.natAbs < 1440) (R : Bytes) :
    numTZ f .numTZ ((if off < 0 then 45 else 43) :: (pad2 (off.natAbs / 60) ++ pad2 (off.natAbs % 60)) ++ R) =
      some ({ f with zoneOffset := some (off * 60) }, R) := by
  have hc : (Std.numTZ == Std.numColonTZ || Std.numTZ == Std.isoColonTZ) = false := by decide
  have hs : (Std.numTZ == Std.numShortTZ || Std.numTZ == Std.isoShortTZ) = false := by decide
  generalize hn : off.natAbs = n at hoff
  have hrange : (decide (((n / 60 : Nat) : Int) > 24) || decide (((n % 60 : Nat) : Int) > 60)) = false := by simp; omega
  simp only [numTZ, hc, hs, Bool.false_eq_true, if_false, Bool.false_and, pad2, List.cons_append, List.nil_append,
    List.length_cons, List.drop_succ_cons, List.drop_zero, List.take_succ_cons, List.take_zero, List.head?_cons]
  rw [if_neg (by omega)]
  have g1 := getnum_pad2_nil (n / 60) (by omega)
  have g2 := getnum_pad2_nil (n % 60) (by omega)
  simp only [pad2] at g1 g2
  simp only [g1, g2, hrange, Bool.false_eq_true, if_false]
  exact numTZ_sign f off _ (by omega) R

theorem numTZ_colon_eq (f : F) (sg h1 h2 m1 m2 : UInt8) (R : Bytes) :
    numTZ f .numColonTZ (sg :: h1 :: h2 :: 58 :: m1 :: m2 :: R) = numTZ f .numTZ (sg :: h1 :: h2 :: m1 :: m2 :: R) := by
  have hc : (Std.numColonTZ == Std.numColonTZ || Std.numColonTZ == Std.isoColonTZ) = true := by decide
  have hc' : (Std.numTZ == Std.numColonTZ || Std.numTZ == Std.isoColonTZ) = false := by decide
  have hs' : (Std.numTZ == Std.numShortTZ || Std.numTZ == Std.isoShortTZ) = false := by decide
  simp only [numTZ, hc, hc', hs', if_true, Bool.false_eq_true, if_false, Bool.true_and, Bool.false_and, List.length_cons,
    List.drop_succ_cons, List.drop_zero, List.take_succ_cons, List.take_zero, List.head?_cons, List.getElem?_cons_succ,
    List.getElem?_cons_zero, bne_self_eq_false]
  rw [if_neg (by omega), if_neg (by omega)]

theorem numTZ_colon (f : F) (off : Int) (hoff : off.natAbs < 1440) (R : Bytes) :
    numTZ f .numColonTZ ((if off < 0 then 45 else 43) :: (pad2 (off.natAbs / 60) ++ 58 :: pad2 (off.natAbs % 60)) ++ R) =
      some ({ f with zoneOffset := some (off * 60) }, R) :=
  (numTZ_colon_eq f _ _ _ _ _ R).trans (numTZ_plain f off hoff R)

/-! ### the zone abbreviation -/

theorem upper_facts {c : UInt8} (h : isUpperB c = true) : c ≠ 104 ∧ c ≠ 101 ∧ c ≠ 43 ∧ c ≠ 45 := by
  simp only [isUpperB, Bool.and_eq_true, decide_eq_true_eq, UInt8.le_iff_toNat_le] at h
  have e65 : (65 : UInt8).toNat = 65 := rfl
  have e90 : (90 : UInt8).toNat = 90 := rfl
  rw [e65, e90] at h
  refine ⟨?_, ?_, ?_, ?_⟩ <;> (intro e; subst e; simp at h)

theorem hasPrefix_three (a b c x y z : UInt8) (R : Bytes) :
    hasPrefix ([a, b, c] ++ R) [x, y, z] = ([a, b, c] == [x, y, z]) := by
  simp only [hasPrefix, List.cons_append, List.nil_append, Bool.and_true, List.cons_beq_cons, List.beq_nil_eq,
    List.isEmpty_nil]

theorem parseTZName_three {a b c : UInt8} (ha : isUpperB a = true) (hb : isUpperB b = true) (hc : isUpperB c = true) {R : Bytes}
    (hR : R = [] ∨ ∃ x t, R = x :: t ∧ isUpperB x = false ∧ x ≠ 43 ∧ x ≠ 45) : parseTZName ([a, b, c] ++ R) = some 3 := by
  obtain ⟨hb104, hb101, _, _⟩ := upper_facts hb
  obtain ⟨_, _, ha43, ha45⟩ := upper_facts ha
  have hch : hasPrefix ([a, b, c] ++ R) [67, 104, 83, 84] = false := by simp [hasPrefix, hb104]
  have hme : hasPrefix ([a, b, c] ++ R) [77, 101, 83, 84] = false := by simp [hasPrefix, hb101]
  have hlen : ¬ (([a, b, c] ++ R).length < 3) := by simp
  have hso : parseSignedOffset R = 0 := by
    rcases hR with h | ⟨x, t, h, _, h43, h45⟩ <;> subst h
    · rfl
    · simp [parseSignedOffset, h43, h45]
  have hnup : (((([a, b, c] ++ R).take 6).takeWhile isUpperB).length) = 3 := by
    rcases hR with h | ⟨x, t, h, hx, _, _⟩ <;> subst h
    · simp [List.takeWhile, ha, hb, hc]
    · simp [List.takeWhile, ha, hb, hc, hx]
  have hs1 : (([a, b, c] ++ R).head? == some 43) = false := beq_false_of_ne fun e => ha43 (Option.some.inj e)
  have hs2 : (([a, b, c] ++ R).head? == some 45) = false := beq_false_of_ne fun e => ha45 (Option.some.inj e)
  simp only [parseTZName, hlen, if_false, hch, hme, Bool.or_self, Bool.false_eq_true]
  cases hg : hasPrefix ([a, b, c] ++ R) bGMT with
  | true =>
    -- `GMT` itself: nothing signed follows, so the offset part is empty
    simp only [if_true]
    split
    · rfl
    · rw [show ([a, b, c] ++ R).drop 3 = R from rfl, hso]
  | false => simp only [Bool.false_eq_true, if_false, hs1, hs2, Bool.or_self, hnup]; rfl

theorem read_tz {i : XInst} (hi : ValidX i) (next : Option Std) (R : Bytes) (f : F) (hf : FollowOK .tz next R) :
    parseStd .tz next (i.zname ++ R) f = some (setStdX .tz i f, R) := by
  obtain ⟨a, b, c, hz, ha, hb, hc⟩ := hi.2.2.2.2.2.2.2.2.2.2.2.2.2.2.2
  simp only [parseStd, setStdX, hz, bUTC, hasPrefix_three, parseTZName_three ha hb hc (follow_tz hf)]
  split
  · rename_i h; rw [if_pos (eq_of_beq h)]; rfl
  · rename_i h; rw [if_neg (fun e => h (by rw [e]; rfl))]; rfl

/-! ### the fraction -/

theorem take_frac (l R : Bytes) : ((46 :: l ++ R).take (1 + l.length)).drop 1 = l := by
  rw [Nat.add_comm, List.cons_append, List.take_succ_cons, List.drop_succ_cons, List.drop_zero]
  simp

theorem drop_frac (l R : Bytes) : (46 :: l ++ R).drop (1 + l.length) = R := by
  rw [Nat.add_comm, List.cons_append, List.drop_succ_cons]
  simp

theorem parseNanos_padN (k q : Nat) (hk : 1 ≤ k) (hk9 : k ≤ 9) (hq : q < 10 ^ k) (R : Bytes) :
    parseNanos (46 :: padN k q ++ R) (1 + k) = some (((q * 10 ^ (9 - k) : Nat) : Int), false) := by
  have hcp : commaOrPeriod 46 = true := by decide
  have hnb : ¬ (1 + k > 10) := by omega
  have e : 10 - (1 + k) = 9 - k := by omega
  have htake : List.drop 1 (List.take (1 + k) (46 :: (padN k q ++ R))) = padN k q := by
    have := take_frac (padN k q) R
    rwa [padN_length] at this
  simp only [parseNanos, List.cons_append, hcp, Bool.not_true, Bool.false_eq_true, if_false, hnb, htake, atoi_padN k q hk hq,
    e, Int.natCast_mul, Int.natCast_pow]
  rw [if_neg (by omega)]; rfl

theorem parseStd_frac9 (n k q : Nat) (hk : 1 ≤ k) (hk9 : k ≤ 9) (hq : q < 10 ^ k) (next : Option Std) (R : Bytes) (f : F)
    (hR : R = [] ∨ ∃ c t, R = c :: t ∧ isDig c = false) :
    parseStd (.frac9 n) next (46 :: padN k q ++ R) f = some ({ f with nsec := ((q * 10 ^ (9 - k) : Nat) : Int) }, R) := by
  have hdr : (digitRun ((46 :: padN k q ++ R).drop 1)).length = k := by
    simp only [List.cons_append, List.drop_succ_cons, List.drop_zero, digitRun,
      takeWhile_digits _ _ (padN_allDig k q) hR, padN_length]
  have hdrop : (46 :: padN k q ++ R).drop (1 + k) = R := by
    have := drop_frac (padN k q) R
    rwa [padN_length] at this
  have hguard : (decide ((46 :: padN k q ++ R).length < 2) || !commaOrPeriod ((46 :: padN k q ++ R).headD 0) ||
      !isDigitAt (46 :: padN k q ++ R) 1) = false := by
    cases hp : padN k q with
    | nil => have := padN_length k q; rw [hp] at this; simp at this; omega
    | cons d ds =>
      have hd : isDig d = true := padN_allDig k q d (by rw [hp]; exact List.mem_cons_self ..)
      simp [commaOrPeriod, isDigitAt, hd]
  simp only [parseStd, hguard, Bool.false_eq_true, if_false, hdr, parseNanos_padN k q hk hk9 hq R, hdrop]

theorem read_frac9 (n : Nat) {i : XInst} (hi : ValidX i) (next : Option Std) (R : Bytes) (f : F)
    (hf : FollowOK (.frac9 n) next R) :
    parseStd (.frac9 n) next (46 :: padN i.fracDigits (i.nsec / 10 ^ (9 - i.fracDigits)) ++ R) f =
      some (setStdX (.frac9 n) i f, R) := by
  have ⟨_, _, _, _, _, _, _, _, _, _, hf3, hf9, hns, hnsm, _⟩ := hi
  have hqlt : i.nsec / 10 ^ (9 - i.fracDigits) < 10 ^ i.fracDigits := by
    apply Nat.div_lt_of_lt_mul
    rw [← Nat.pow_add, show 9 - i.fracDigits + i.fracDigits = 9 by omega]; exact hns
  rw [parseStd_frac9 n _ _ (by omega) hf9 hqlt next R f (follow_digit rfl hf),
    Nat.div_mul_cancel (Nat.dvd_of_mod_eq_zero hnsm)]; rfl

/-! ## all elements together -/

theorem parseStd_render (s : Std) (hs : inScope s = true) (i : XInst) (hi : ValidX i) (next : Option Std) (R : Bytes) (f : F)
    (hf : FollowOK s next R) : ∃ txt, ElemOK s i next R f txt := by
  by_cases hu : s = .underDay
  · subst hu; exact ⟨_, elem_underDay hi next R f hf⟩
  -- every other element writes a text that does not begin with a blank: reading it in front of `R` is all there is to show
  suffices h : ∃ txt, renderStd s i = some txt ∧ parseStd s next (txt ++ R) f = some (setStdX s i f, R) by
    obtain ⟨txt, hr, hp⟩ := h
    obtain ⟨hne, hh⟩ := plain_of_shape hi hr (plainStd_of_inScope hs hu)
    exact ⟨txt, hr, hne, fun val hv => by rw [plain_vals hne hh hv]; exact hp⟩
  have ⟨_, hy, hm1, hm12, _, _, hh, hmi, hse, hwd, _, _, _, _, hoff, _⟩ := hi
  have hd31 := day_le_31 hi
  have h12 := (hour12Of_le i.hour).2
  have hmon : ∀ f : F, { f with month := ((i.month - 1 : Nat) : Int) + 1 } = { f with month := (i.month : Int) } :=
    fun f => by congr 1; omega
  cases s
  case year => exact ⟨_, rfl, parseStd_year next R f i.year⟩
  case longYear => exact ⟨_, rfl, parseStd_longYear next R f i.year (by omega)⟩
  case month =>
    exact read_name R tables_distinct.1 (k := i.month - 1) (show _ < 12 by omega) rfl
      (fun k => { f with month := (k : Int) + 1 }) (fun _ => rfl) (hmon f)
  case longMonth =>
    exact read_name R tables_distinct.2.1 (k := i.month - 1) (show _ < 12 by omega) rfl
      (fun k => { f with month := (k : Int) + 1 }) (fun _ => rfl) (hmon f)
  case numMonth => exact ⟨_, rfl, parseStd_numMonth next R f (follow_digit rfl hf) i.month hm1 hm12⟩
  case zeroMonth => exact ⟨_, rfl, parseStd_zeroMonth next R f i.month hm1 hm12⟩
  case weekDay => exact read_name R tables_distinct.2.2.1 (k := i.wd) hwd rfl (fun _ => f) (fun _ => rfl) rfl
  case longWeekDay => exact read_name R tables_distinct.2.2.2 (k := i.wd) hwd rfl (fun _ => f) (fun _ => rfl) rfl
  case day => exact ⟨_, rfl, parseStd_day next R f (follow_digit rfl hf) i.day (by omega)⟩
  case underDay => exact absurd rfl hu
  case zeroDay => exact ⟨_, rfl, parseStd_zeroDay next R f i.day (by omega)⟩
  case hour => exact ⟨_, rfl, parseStd_hour next R f i.hour hh⟩
  case hour12 => exact ⟨_, rfl, parseStd_hour12 next R f (follow_digit rfl hf) _ h12⟩
  case zeroHour12 => exact ⟨_, rfl, parseStd_zeroHour12 next R f _ h12⟩
  case zeroMinute => exact ⟨_, rfl, parseStd_zeroMinute next R f i.min hmi⟩
  case zeroSecond => exact ⟨_, rfl, parseStd_zeroSecond next R f i.sec hse (follow_zeroSecond hf)⟩
  case pm => exact ⟨_, rfl, parseStd_pm next R f (i.hour ≥ 12)⟩
  case numTZ => exact ⟨_, rfl, numTZ_plain f i.offMin hoff R⟩
  case numColonTZ => exact ⟨_, rfl, numTZ_colon f i.offMin hoff R⟩
  case tz => exact ⟨_, rfl, read_tz hi next R f hf⟩
  case frac9 n => exact ⟨_, rfl, read_frac9 n hi next R f hf⟩
  all_goals cases hs

/-- the text of an element is a function of the instant, so the element lemma speaks of any text `renderStd` gives -/
theorem elemOK_of_render {s : Std} (hs : inScope s = true) {i : XInst} (hi : ValidX i) {next : Option Std} {R : Bytes} (f : F)
    (hf : FollowOK s next R) {txt : Bytes} (hr : renderStd s i = some txt) : ElemOK s i next R f txt := by
  obtain ⟨txt', h⟩ := parseStd_render s hs i hi next R f hf
  rwa [Option.some.inj (hr.symm.trans h.1)]

/-! ## what can come first in the rest of the text -/

/-- the bytes the text of the remaining items (followed by the tail) can begin with -/
def firstSet (items : List (Bytes × Std)) (tail : Bytes) : BSet :=
  match items with
  | [] => (match tail with | c :: _ => bS c | [] => [])
  | (c :: _, _) :: _ => bS c
  | ([], s) :: _ => (symStd s).flatMap (fun v => v.headD [])

theorem inCls_flatMap {α : Type} (l : List α) (g : α → BSet) (c : UInt8) :
    inCls (l.flatMap g) c = l.any (fun v => inCls (g v) c) := by
  induction l with
  | nil => rfl
  | cons x xs ih =>
    simp only [List.flatMap_cons, List.any_cons, ← ih]
    simp only [inCls, List.any_append]

theorem symStd_ne_nil (s : Std) : (symStd s).all (fun v => !v.isEmpty) = true := by cases s <;> rfl

theorem firstSet_sound (i : XInst) (hi : ValidX i) (items : List (Bytes × Std)) (tail body : Bytes)
    (hb : renderItems items i = some body) (c : UInt8) (hc : (body ++ tail).head? = some c) :
    inCls (firstSet items tail) c = true := by
  match items, hb with
  | [], hb =>
    cases hb
    cases tail with
    | nil => cases hc
    | cons x t => cases hc; exact inCls_bS_self c
  | (x :: t, s) :: rest, hb =>
    obtain ⟨a, b, _, _, rfl⟩ := renderItems_cons_some hb
    cases hc; exact inCls_bS_self c
  | ([], s) :: rest, hb =>
    obtain ⟨a, b, ha, _, rfl⟩ := renderItems_cons_some hb
    obtain ⟨sh, hsh, hs⟩ := renderStd_shape s i hi a ha
    -- an element never renders the empty text, so `c` is its first byte and lies in the first set of its shape
    match sh, a, hs with
    | [], _, _ => have := List.all_eq_true.mp (symStd_ne_nil s) [] hsh; cases this
    | y :: ys, x :: t, hs =>
      cases hc
      simp only [firstSet, inCls_flatMap, List.any_eq_true]
      exact ⟨y :: ys, hsh, hs.1⟩

/-- the static check: nothing the rest can begin with is forbidden after the element -/
def parseWFItems : List (Bytes × Std) → Bytes → Bool
  | [], _ => true
  | (_, s) :: rest, tail =>
    inScope s && !meets (badSet s (rest.head?.map (·.2))) (firstSet rest tail) && parseWFItems rest tail

/-- **the layouts the round trip holds for** (decidable; true for every layout of both format lists) -/
def ParseWF (L : Layout) : Bool := parseWFItems L.items L.tail

theorem follow_of_static {s : Std} {next : Option Std} {rest : List (Bytes × Std)} {tail body : Bytes} {i : XInst} (hi : ValidX i)
    (hb : renderItems rest i = some body) (hm : meets (badSet s next) (firstSet rest tail) = false) :
    FollowOK s next (body ++ tail) := by
  intro c hc
  have hin := firstSet_sound i hi rest tail body hb c hc
  cases h : inCls (badSet s next) c with
  | false => rfl
  | true => rw [meets_of_inCls hin h] at hm; cases hm

theorem parseItems_render (tail : Bytes) (i : XInst) (hi : ValidX i) :
    ∀ (items : List (Bytes × Std)), parseWFItems items tail = true →
      ∃ body, renderItems items i = some body ∧ ∀ f, parseItems tail items (body ++ tail) f = some (projectFX items i f)
  | [], _ => ⟨[], rfl, parseItems_nil_tail tail⟩
  | (pre, s) :: rest, h => by
    simp only [parseWFItems, Bool.and_eq_true, Bool.not_eq_true'] at h
    obtain ⟨⟨hs, hm⟩, hrest⟩ := h
    obtain ⟨body', hb', hparse'⟩ := parseItems_render tail i hi rest hrest
    have hf := follow_of_static (s := s) (next := rest.head?.map (·.2)) hi hb' hm
    obtain ⟨txt, hr, _⟩ := parseStd_render s hs i hi (rest.head?.map (·.2)) (body' ++ tail) {} hf
    refine ⟨pre ++ txt ++ body', by simp only [renderItems, hr, hb'], fun f => ?_⟩
    obtain ⟨_, _, hp⟩ := elemOK_of_render hs hi f hf hr
    have e : pre ++ txt ++ body' ++ tail = pre ++ (txt ++ (body' ++ tail)) := by simp only [List.append_assoc]
    rw [e, parseItems_cons_text hp]
    exact hparse' _

/-! ## the epilogue never fails -/

theorem isLeap_pivot (y : Nat) (h : isLeap (y : Int) = true) : isLeap (pivotYear y) = true := by
  simp only [isLeap, Bool.and_eq_true, beq_iff_eq, Bool.or_eq_true, bne_iff_ne, ne_eq] at h ⊢
  simp only [pivotYear]
  split <;> omega

theorem daysIn_pivot (m : Int) (y : Nat) : daysIn m (y : Int) ≤ daysIn m (pivotYear y) := by
  simp only [daysIn]
  by_cases h2 : (m == 2) = true
  · simp only [h2, if_true]
    by_cases hl : isLeap (y : Int) = true
    · simp [hl, isLeap_pivot y hl]
    · have hl' : isLeap (y : Int) = false := by simpa using hl
      simp only [hl', Bool.false_eq_true, if_false]
      split <;> omega
  · simp [h2]

structure XInv (i : XInst) (f : F) : Prop where
  year : f.year = 0 ∨ f.year = i.year ∨ f.year = pivotYear i.year
  month : f.month = -1 ∨ f.month = i.month
  day : f.day = -1 ∨ f.day = i.day


theorem XInv.set {i : XInst} {f : F} (h : XInv i f) (s : Std) : XInv i (setStdX s i f) := by
  cases s
  case longYear => exact { h with year := Or.inr (Or.inl rfl) }
  case year => exact { h with year := Or.inr (Or.inr rfl) }
  case month | longMonth | numMonth | zeroMonth => exact { h with month := Or.inr rfl }
  case day | underDay | zeroDay => exact { h with day := Or.inr rfl }
  case pm | tz => simp only [setStdX]; split <;> exact { h with }
  all_goals exact { h with }

theorem XInv.fold {i : XInst} : ∀ (items : List (Bytes × Std)) {f : F}, XInv i f → XInv i (projectFX items i f)
  | [], _, h => h
  | it :: rest, _, h => XInv.fold rest (h.set it.2)

theorem finish_ok {i : XInst} (hi : ValidX i) {f : F} (h : XInv i f) : ∃ c, finish f = .ok c := by
  obtain ⟨_, _, hm1, _, hd1, hdd, _⟩ := hi
  have hy : daysIn i.month i.year ≤ daysIn i.month f.year := by
    rcases h.year with e | e | e <;> rw [e]
    · exact (daysIn_bounds _ _).2.2
    · exact Int.le_refl _
    · exact daysIn_pivot _ _
  have key := dayTest_ok hm1 hd1 hdd hy h.month h.day
  simp only [finish]
  rw [if_neg (by simpa using key)]
  exact ⟨_, rfl⟩

theorem inScope_supported {s : Std} (hs : inScope s = true) : (s != .unsupported) = true := by
  cases s <;> first | rfl | cases hs

theorem parseWFItems_supported : ∀ (items : List (Bytes × Std)) (tail : Bytes), parseWFItems items tail = true →
    items.all (fun it => it.2 != .unsupported) = true
  | [], _, _ => rfl
  | (_, s) :: rest, tail, h => by
    simp only [parseWFItems, Bool.and_eq_true] at h
    simp only [List.all_cons, inScope_supported h.1.1, parseWFItems_supported rest tail h.2, Bool.and_true]

/-- **the round trip for every layout element of the lists**: the text of a valid instant in a well-formed layout is
parsed back to Go's epilogue of exactly the fields the layout carries -/
theorem render_parse_all (L : Layout) (hL : ParseWF L = true) (i : XInst) (hi : ValidX i) :
    ∃ txt, renderLayout L i = some txt ∧ parseLayout L txt = projectX L i := by
  obtain ⟨body, hb, hp⟩ := parseItems_render L.tail i hi L.items hL
  refine ⟨body ++ L.tail, by simp [renderLayout, hb], ?_⟩
  have hsup : L.supported = true := parseWFItems_supported L.items L.tail hL
  simp only [parseLayout, hsup, Bool.not_true, Bool.false_eq_true, if_false, hp, projectX]

/-- …and that parse succeeds -/
theorem projectX_ok (L : Layout) (i : XInst) (hi : ValidX i) : ∃ c, projectX L i = .ok c :=
  finish_ok hi (XInv.fold L.items ⟨Or.inl rfl, Or.inl rfl, Or.inl rfl⟩)

end Logrange.Date

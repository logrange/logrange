import Logrange.Model.TIndexProgWr
import Logrange.Proofs.TIndexProg
/-! The write lock adds no wait-for cycle: lemmas behind `Props.C14.write_lock_no_deadlock`. -/
namespace Logrange.TIndexProg
open Logrange.TIndexLts

theorem mark_some {c c' : Ctl} {s : Nat} {b : Bool} (h : mark c c' = some (s, b)) : c' = .rel s [] .fin ∧ b = false := by
  unfold mark at h
  split at h
  · simp only [Option.some.injEq, Prod.mk.injEq] at h; obtain ⟨rfl, rfl⟩ := h; exact ⟨rfl, rfl⟩
  · cases h

structure WInv (z : SysW) : Prop where
  /-- a writer between its acquisition and its `Release` stands right before the `Release` -/
  ctl : ∀ a s b, z.ph a = some (s, b) → z.x.ctl a = .rel s [] .fin
  /-- the write lock is held by a writer in the holding phase -/
  own : ∀ s a, z.wr s = some a → z.ph a = some (s, true)

theorem reachW_reach {z : SysW} (h : ReachW z) : Reach z.x := by
  induction h with
  | start ctl he => exact Reach.start ctl he
  | step _ s ih =>
    cases s with
    | base a hp st => exact Reach.step ih st.toStep
    | take a s hp hf => exact ih
    | rel a s hp st => exact Reach.step ih st.toStep
  | call _ a c hf he ih => exact Reach.call ih a c hf he
  | shutdown _ ih => exact Reach.shutdown ih

theorem upd_eq_some {α : Type} {f : Nat → Option α} {k x : Nat} {v : Option α} {y : α} (h : upd f k v x = some y) :
    (x = k ∧ v = some y) ∨ (x ≠ k ∧ f x = some y) := by
  by_cases e : x = k
  · subst e; rw [upd_same] at h; exact Or.inl ⟨rfl, h⟩
  · rw [upd_other _ _ _ _ e] at h; exact Or.inr ⟨e, h⟩

theorem winv_step {z z' : SysW} (ih : WInv z) (s : StepW z z') : WInv z' := by
  cases s with
  | @base y a hp st =>
    obtain ⟨l, c', ho, hst, hctl⟩ := st
    refine ⟨fun b s bb hb => ?_, fun s b hw => ?_⟩
    · rcases upd_eq_some hb with ⟨rfl, hm⟩ | ⟨e, hb'⟩
      · exact (mark_some hm).1
      · exact (congrFun hctl b).trans ((upd_other _ _ _ _ e).trans (ih.ctl b s bb hb'))
    · have hb := ih.own s b hw
      have e : b ≠ a := by intro e; subst e; rw [hp] at hb; cases hb
      exact (upd_other _ _ _ _ e).trans hb
  | take a s hp hf =>
    refine ⟨fun b s' bb hb => ?_, fun s' b hw => ?_⟩
    · rcases upd_eq_some hb with ⟨rfl, hm⟩ | ⟨_, hb'⟩
      · cases hm; exact ih.ctl b s false hp
      · exact ih.ctl b s' bb hb'
    · rcases upd_eq_some hw with ⟨rfl, hm⟩ | ⟨es, hw'⟩
      · cases hm; exact upd_same _ _ _
      · have hb := ih.own s' b hw'
        have e : b ≠ a := by intro e; subst e; rw [hp] at hb; cases hb
        exact (upd_other _ _ _ _ e).trans hb
  | @rel y a s hp st =>
    obtain ⟨l, c', ho, hst, hctl⟩ := st
    refine ⟨fun b s' bb hb => ?_, fun s' b hw => ?_⟩
    · rcases upd_eq_some hb with ⟨_, hm⟩ | ⟨e, hb'⟩
      · cases hm
      · exact (congrFun hctl b).trans ((upd_other _ _ _ _ e).trans (ih.ctl b s' bb hb'))
    · rcases upd_eq_some hw with ⟨_, hm⟩ | ⟨es, hw'⟩
      · cases hm
      · have hb := ih.own s' b hw'
        have e : b ≠ a := by
          intro e; subst e; rw [hp] at hb
          exact es (Prod.mk.inj (Option.some.inj hb)).1.symm
        exact (upd_other _ _ _ _ e).trans hb

theorem winv_reach {z : SysW} (h : ReachW z) : WInv z := by
  induction h with
  | start ctl he => exact ⟨(fun a s b hp => by cases hp), (fun s a hw => by cases hw)⟩
  | step _ s ih => exact winv_step ih s
  | @call z _ a c hf he ih =>
    refine ⟨?_, ih.own⟩
    intro b s bb hb
    have hb' : z.ph b = some (s, bb) := hb
    have hc := ih.ctl b s bb hb'
    have e : b ≠ a := by intro e; subst e; rw [hf] at hc; cases hc
    show upd z.x.ctl a c b = _
    rw [upd_other _ _ _ _ e]; exact hc
  | shutdown _ ih => exact ⟨ih.ctl, ih.own⟩

end Logrange.TIndexProg

import Logrange.Proofs.RdRngOffset
import Logrange.Proofs.RdRngBwd
import Logrange.Proofs.RdOffsetBwd
/-!
Offset laws for a one-source RANGED cursor (C16 with RANGE): the backward walk and the two direction switches.
Over the admitted records `wflat j`: backward, a cursor stands *after* `b` admitted records (`wbCount`); it delivers
`BLR … b`, the matching records among the first `b` admitted ones in reverse. The two loops are instances of the
direction-free ones: `rp_fGetLoop_view` (RdRngPaging) and `Delivers.steps` (RdOffsetStream, through `rob_delivers`).
-/
set_option linter.unusedSectionVars false
set_option linter.unusedVariables false
namespace Logrange.Rd

def BLR (lo hi : Option Int) (j : Journal) (w : Bool) (b : Nat) : List Rec :=
  (((wflat j).take b).filter (passR lo hi w)).reverse

section basics
variable (lo hi : Option Int)

theorem rob_BL_zero (j : Journal) (w : Bool) : BLR lo hi j w 0 = [] := by simp [BLR]

theorem rob_BL_some {j : Journal} {w : Bool} {b : Nat} {r : Rec} (hb : 0 < b) (h : (wflat j)[b - 1]? = some r) :
    BLR lo hi j w b = if passR lo hi w r then r :: BLR lo hi j w (b - 1) else BLR lo hi j w (b - 1) := by
  obtain ⟨b', rfl⟩ : ∃ b', b = b' + 1 := ⟨b - 1, by omega⟩
  simp only [Nat.add_sub_cancel] at h ⊢
  unfold BLR
  rw [List.take_succ, h]
  by_cases hk : passR lo hi w r = true <;> simp [List.filter_append, hk]

theorem rob_BL_view (j : Journal) (w : Bool) (b : Nat) :
    (((wflat j).take b).reverse).filter (passR lo hi w) = BLR lo hi j w b := List.filter_reverse

omit lo hi in
theorem rob_view_nil {l : List Rec} {b : Nat} (hb : b ≤ l.length) (h : (l.take b).reverse = []) : b = 0 := by
  have := congrArg List.length h
  rwa [List.length_reverse, List.length_take, Nat.min_eq_left hb] at this

omit lo hi in
theorem rob_view_cons {l : List Rec} {b : Nat} {r : Rec} {t : List Rec} (hb : b ≤ l.length)
    (h : (l.take b).reverse = r :: t) : 0 < b ∧ l[b - 1]? = some r := by
  have h1 := (rb_rev_take_head_tail l b hb).1
  rw [h] at h1
  by_cases h0 : b = 0
  · rw [if_pos h0] at h1; cases h1
  · rw [if_neg h0] at h1; exact ⟨Nat.pos_of_ne_zero h0, h1.symm⟩

/-- facts about the components of a one-source ranged cursor walking backward, standing after `b` admitted records -/
def StBR (j : Journal) (w : Bool) (s : RIt) (v : Bool) (l : Option Rec) (b : Nat) : Prop :=
  RWF j s ∧ s.bkwd = true ∧ wbCount j s = b ∧
  (v = true → ∃ r, l = some r ∧ 0 < b ∧ (wflat j)[b - 1]? = some r ∧ passR lo hi w r = true ∧ ROnRecord j s)

def AbsBR (name : Nat) (j : Journal) (w : Bool) (c : Cur) (b : Nat) : Prop :=
  ∃ s v l m, c = curR lo hi name j s w v l m ∧ StBR lo hi j w s v l b

/-- the cursor has just done a backward `Get`: it sits on a matching record, or before the first admitted record -/
def PostBR (name : Nat) (j : Journal) (w : Bool) (c : Cur) (b : Nat) : Prop :=
  ∃ s v l m, c = curR lo hi name j s w v l m ∧ StBR lo hi j w s v l b ∧
    ((b = 0 ∧ s.ci = none) ∨
      (∃ r, 0 < b ∧ (wflat j)[b - 1]? = some r ∧ passR lo hi w r = true ∧ ROnRecord j s))

theorem rob_post_abs {name j w c b} (h : PostBR lo hi name j w c b) : AbsBR lo hi name j w c b := by
  obtain ⟨s, v, l, m, e, st, _⟩ := h; exact ⟨s, v, l, m, e, st⟩

/-- post-condition of a backward `Get` from `b` -/
def GetPostBR (name : Nat) (j : Journal) (w : Bool) (c' : Cur) (res : Option Rec) (b : Nat) : Prop :=
  ∃ b', PostBR lo hi name j w c' b' ∧ BLR lo hi j w b' = BLR lo hi j w b ∧ res = (BLR lo hi j w b).head? ∧
    (res = none ↔ b' = 0)

end basics

section bwd
variable (lo hi : Option Int) (HGB : RGetBwdSpec) (HNB : RNextBwdSpec)
include HGB HNB

theorem rob_curNext {name j w c b} (hs : Sorted j) (hp : PosIds j) (hcb : bw_ChunkBound j)
    (h : AbsBR lo hi name j w c b) : AbsBR lo hi name j w (curNext c) (b - 1) := by
  obtain ⟨s, v, l, m, rfl, hst⟩ := h
  unfold StBR at hst
  obtain ⟨hwf, hb, hc, _⟩ := hst
  obtain ⟨h1, h2, h3⟩ := HNB j s hs hp hcb hwf hb
  refine ⟨rNext j s, false, l, m, rp_curNext .., ?_⟩
  unfold StBR
  exact ⟨h1, h2, by rw [h3, hc], by intro hv; cases hv⟩

theorem rob_fGetLoop {name j w} (hs : Sorted j) (hp : PosIds j) (hcb : bw_ChunkBound j) :
    ∀ (fuel : Nat) (c : Cur) (b : Nat), AbsBR lo hi name j w c b → b < fuel →
      GetPostBR lo hi name j w (fGetLoop fuel c).1 (fGetLoop fuel c).2 b := by
  intro fuel c b h hf
  obtain ⟨s, v, l, m, rfl, hwf, hb, hc, hv⟩ := h
  cases v with
  | true =>
    obtain ⟨f, rfl⟩ : ∃ f, fuel = f + 1 := ⟨fuel - 1, by omega⟩
    obtain ⟨r, hl, hpos, hr, hk, hon⟩ := hv rfl
    rw [rp_fGetLoop_succ, if_pos rfl]
    exact ⟨b, ⟨s, true, l, m, rfl, ⟨hwf, hb, hc, hv⟩, Or.inr ⟨r, hpos, hr, hk, hon⟩⟩, rfl,
      by rw [rob_BL_some lo hi hpos hr, if_pos hk, hl]; rfl,
      by rw [hl]; exact ⟨fun h => (by cases h), fun h => by omega⟩⟩
  | false =>
    -- backward the view is the admitted records before the position, in reverse
    obtain ⟨s0, V', v', l', ⟨b1, b2, rfl⟩, hV, he, hd⟩ := rp_fGetLoop_view lo hi (name := name) (w := w)
      (B := fun s V => RWF j s ∧ s.bkwd = true ∧ V = ((wflat j).take (wbCount j s)).reverse)
      (fun s V ⟨h1, h2, h3⟩ => by
        obtain ⟨g1, g2, g3, g4, _⟩ := HGB j s hs hp hcb h1 h2
        exact ⟨by rw [g1, h3, (rb_rev_take_head_tail _ _ (rw_wbCount_le j s)).1], g2, g3, by rw [g4]; exact h3⟩)
      (fun s V ⟨h1, h2, h3⟩ => by
        obtain ⟨n1, n2, n3⟩ := HNB j s hs hp hcb h1 h2
        exact ⟨n1, n2, by rw [n3, h3, (rb_rev_take_head_tail _ _ (rw_wbCount_le j s)).2]⟩)
      fuel s _ l m ⟨hwf, hb, rfl⟩
      (by rw [List.length_reverse, List.length_take, hc]; exact Nat.lt_of_le_of_lt (Nat.min_le_left ..) hf)
    obtain ⟨g1, g2, g3, g4, g5, g6⟩ := HGB j s0 hs hp hcb b1 b2
    have hle := rw_wbCount_le j s0
    have hhd := (rb_rev_take_head_tail (wflat j) _ hle).1
    rw [hc, rob_BL_view, rob_BL_view] at hV
    rw [he, rob_BL_view, hc]
    refine ⟨wbCount j s0, ⟨(rGet j s0).1, v', l', m, rfl, ⟨g2, g3, g4, ?_⟩, ?_⟩, hV, rfl, ?_⟩
    all_goals rcases hd with ⟨hn, rfl⟩ | ⟨r, t, hcons, hk, rfl, rfl⟩
    · intro h; cases h
    · obtain ⟨hpos, hr⟩ := rob_view_cons hle hcons
      exact fun _ => ⟨r, rfl, hpos, hr, hk, g5 (by rw [g1, if_neg (by omega), hr]; rfl)⟩
    · have h0 := rob_view_nil hle hn
      exact Or.inl ⟨h0, g6 (by rw [g1, if_pos h0])⟩
    · obtain ⟨hpos, hr⟩ := rob_view_cons hle hcons
      exact Or.inr ⟨r, hpos, hr, hk, g5 (by rw [g1, if_neg (by omega), hr]; rfl)⟩
    · have h0 := rob_view_nil hle hn
      rw [← hV, h0, rob_BL_zero]
      exact ⟨fun _ => rfl, fun _ => rfl⟩
    · obtain ⟨hpos, hr⟩ := rob_view_cons hle hcons
      rw [← hV, rob_BL_some lo hi hpos hr, if_pos hk]
      exact ⟨fun h => (by cases h), fun h => by omega⟩

theorem rob_curGet {name j w c b} (hs : Sorted j) (hp : PosIds j) (hcb : bw_ChunkBound j)
    (h : AbsBR lo hi name j w c b) : GetPostBR lo hi name j w (curGet c).1 (curGet c).2 b := by
  obtain ⟨s, v, l, m, rfl, hst⟩ := h
  rw [rp_curGet]
  have hle : b ≤ (wflat j).length := by
    unfold StBR at hst; rw [← hst.2.2.1]; exact rw_wbCount_le _ _
  have := rp_wflat_length_le j
  exact rob_fGetLoop lo hi HGB HNB hs hp hcb _ _ b ⟨s, v, l, m, rfl, hst⟩ (by omega)

theorem rob_delivers {name j w} (hs : Sorted j) (hp : PosIds j) (hcb : bw_ChunkBound j) :
    Delivers (fun c L => ∃ b, AbsBR lo hi name j w c b ∧ BLR lo hi j w b = L)
      (fun c L => ∃ b, PostBR lo hi name j w c b ∧ BLR lo hi j w b = L) where
  get := by
    intro c L ⟨b, h, hL⟩
    obtain ⟨b', p, f, r, _⟩ := rob_curGet lo hi HGB HNB hs hp hcb h
    exact ⟨hL ▸ r, b', p, f.trans hL⟩
  next := by
    intro c L ⟨b, h, hL⟩
    refine ⟨b - 1, rob_curNext lo hi HGB HNB hs hp hcb (rob_post_abs lo hi h), ?_⟩
    rw [← hL]
    obtain ⟨s, v, l, m, _, _, hd⟩ := h
    rcases hd with ⟨h0, _⟩ | ⟨r, hpos, hr, hk, _⟩
    · subst h0; simp [rob_BL_zero]
    · rw [rob_BL_some lo hi hpos hr, if_pos hk]; rfl
  settled := fun ⟨b, h, hL⟩ => ⟨b, rob_post_abs lo hi h, hL⟩

/-- the step loop of `Offset`, backward -/
theorem rob_steps {name j w} (hs : Sorted j) (hp : PosIds j) (hcb : bw_ChunkBound j) :
    ∀ (k : Nat) (c : Cur) (b : Nat) (pos : PosId), PostBR lo hi name j w c b →
    ∃ b', PostBR lo hi name j w (offsetSteps k c pos).1 b' ∧ BLR lo hi j w b' = (BLR lo hi j w b).drop k :=
  fun k c b pos h => (rob_delivers lo hi HGB HNB hs hp hcb).steps k c _ pos ⟨b, h, rfl⟩

end bwd

/-! ## direction switches -/
section switches
variable (lo hi : Option Int) (HG : RGetFwdSpec) (HN : RNextFwdSpec)
include HG HN

/-- forward `Get`, then `SetBackward(true)` -/
theorem rob_switch_back {name j w c i} (hs : Sorted j) (h : AbsR lo hi name j w false c i) :
    (∀ r, (curGet c).2 = some r → ∃ i', PostBR lo hi name j w (curSetBackward (curGet c).1 true) (i' + 1) ∧
        FLR lo hi j w i' = FLR lo hi j w i ∧ (wflat j)[i']? = some r ∧ passR lo hi w r = true) ∧
    ((curGet c).2 = none → AbsBR lo hi name j w (curSetBackward (curGet c).1 true) (wflat j).length ∧
        FLR lo hi j w i = []) := by
  obtain ⟨i', s', v', l', m', e, st, onrec, f, r, d⟩ := rp_curGet_abs lo hi HG HN hs h
  unfold StR at st
  obtain ⟨hwf, hb, hi', _, _, _⟩ := st
  obtain ⟨o1, o2⟩ := onrec rfl
  obtain ⟨s1, s2, s3, s4, s5, s6⟩ := rw_setBackward_facts j s' true
  have hcur : curSetBackward (curGet c).1 true = curR lo hi name j (rSetBackward s' true) w false l' m' := by
    rw [e, rp_curSetBackward]
  constructor
  · intro x hx
    rcases d with ⟨hn, _⟩ | ⟨r', hr', hget, hk⟩
    · rw [hx] at hn; cases hn
    · rw [hx] at hr'; cases hr'
      have hon := o1 (by rw [hx]; rfl)
      obtain ⟨hbc, _⟩ := rw_wbCount_on hs hwf hon
      refine ⟨i', ⟨rSetBackward s' true, _, l', m', hcur, ?_, Or.inr ⟨x, by omega, by simpa using hget, hk, s4 hon⟩⟩, f, hget, hk⟩
      unfold StBR
      exact ⟨s1 hwf, s5, by rw [s2, hbc, hi'], by intro h; cases h⟩
  · intro hx
    rcases d with ⟨_, hn⟩ | ⟨r', hr', _, _⟩
    · have hci := o2 hx
      have hnil : FLR lo hi j w i = [] := by rw [hx] at r; exact List.head?_eq_none_iff.mp r.symm
      refine ⟨⟨rSetBackward s' true, _, l', m', hcur, ?_⟩, hnil⟩
      unfold StBR
      refine ⟨s1 hwf, s5, ?_, by intro h; cases h⟩
      rw [s2]
      exact Nat.le_antisymm (rw_wbCount_le j s') (hn ▸ hi' ▸ rw_wIdx_le_wbCount hci)
    · rw [hx] at hr'; cases hr'

/-- `SetBackward(false)` after a backward `Get` -/
theorem rob_switch_fwd {name j w c b} (hs : Sorted j) (h : PostBR lo hi name j w c b) :
    ∃ i, AbsR lo hi name j w false (curSetBackward c false) i ∧
      ((b = 0 ∧ i = 0) ∨ (∃ r, 0 < b ∧ i = b - 1 ∧ (wflat j)[i]? = some r ∧ passR lo hi w r = true)) := by
  obtain ⟨s, v, l, m, rfl, st, d⟩ := h
  unfold StBR at st
  obtain ⟨hwf, hb, hc, _⟩ := st
  obtain ⟨s1, s2, s3, s4, s5, s6⟩ := rw_setBackward_facts j s false
  have mkSt : ∀ i, wIdx j s = i → StR lo hi j w false (rSetBackward s false) false l i := by
    intro i hi'
    unfold StR
    exact ⟨s1 hwf, s5, by rw [s3, hi'], (by intro h; cases h), (by intro h; cases h), (by intro _ h; cases h)⟩
  rcases d with ⟨h0, hci⟩ | ⟨r, hpos, hr, hk, hon⟩
  · have hz : wIdx j s = 0 := Nat.le_zero.mp (h0 ▸ hc ▸ rw_wIdx_le_wbCount hci)
    exact ⟨0, ⟨_, _, _, _, rp_curSetBackward .., mkSt 0 hz⟩, Or.inl ⟨h0, rfl⟩⟩
  · obtain ⟨hbc, _⟩ := rw_wbCount_on hs hwf hon
    have hz : wIdx j s = b - 1 := by omega
    exact ⟨b - 1, ⟨_, _, _, _, rp_curSetBackward .., mkSt _ hz⟩, Or.inr ⟨r, hpos, rfl, hr, hk⟩⟩

end switches

/-! ## `Offset` with a negative argument -/

theorem rob_iter_id (lo hi : Option Int) (name j s w v l m) (pos : PosId) :
    iterateToPos (curR lo hi name j s w v l m) pos = curR lo hi name j s w v l m := by
  simp [iterateToPos, curR]

theorem rob_FL_suffix (lo hi : Option Int) (j : Journal) (w : Bool) (b : Nat) :
    FLR lo hi j w b = (FLR lo hi j w 0).drop (BLR lo hi j w b).length ∧
    (FLR lo hi j w 0).length = (BLR lo hi j w b).length + (FLR lo hi j w b).length := by
  have h : FLR lo hi j w 0 = ((wflat j).take b).filter (passR lo hi w) ++ FLR lo hi j w b := by
    unfold FLR
    rw [List.drop_zero, ← List.filter_append, List.take_append_drop]
  have hl : (BLR lo hi j w b).length = (((wflat j).take b).filter (passR lo hi w)).length := by simp [BLR]
  constructor
  · rw [h, hl, List.drop_left]
  · rw [h, hl, List.length_append]

section neg
variable (lo hi : Option Int) (HG : RGetFwdSpec) (HN : RNextFwdSpec) (HGB : RGetBwdSpec) (HNB : RNextBwdSpec)
include HG HN HGB HNB

theorem rob_finish {name j w c b} (hs : Sorted j) (h : PostBR lo hi name j w c b) (pos : PosId) :
    ∃ i, AbsR lo hi name j w false (iterateToPos (curSetBackward c false) pos) i ∧
      FLR lo hi j w i = (FLR lo hi j w 0).drop ((BLR lo hi j w b).length - 1) := by
  obtain ⟨i, ha, hd⟩ := rob_switch_fwd lo hi HG HN hs h
  have hid : iterateToPos (curSetBackward c false) pos = curSetBackward c false := by
    obtain ⟨s, v, l, m, e, _⟩ := ha
    rw [e, rob_iter_id]
  rw [hid]
  refine ⟨i, ha, ?_⟩
  rcases hd with ⟨h0, hi0⟩ | ⟨r, hpos, hi', hr, hk⟩
  · subst h0; subst hi0; simp [rob_BL_zero]
  · have hb : BLR lo hi j w b = r :: BLR lo hi j w (b - 1) := by
      rw [hi'] at hr; rw [rob_BL_some lo hi hpos hr]; simp [hk]
    rw [hb, hi', (rob_FL_suffix lo hi j w (b - 1)).1]; simp

/-- **Offset(−k)** from any forward state of the ranged cursor -/
theorem rob_offset_neg {name j w c i} (hs : Sorted j) (hp : PosIds j) (hcb : bw_ChunkBound j) (k : Nat)
    (h : AbsR lo hi name j w false c i) :
    ∃ i', AbsR lo hi name j w false (offset c (-(k : Int))) i' ∧
      FLR lo hi j w i' = (FLR lo hi j w 0).drop (((FLR lo hi j w 0).length - (FLR lo hi j w i).length) - k) := by
  obtain ⟨sfx1, sfx2⟩ := rob_FL_suffix lo hi j w i
  cases k with
  | zero =>
    refine ⟨i, by simpa [offset] using h, ?_⟩
    have : (FLR lo hi j w 0).length - (FLR lo hi j w i).length - 0 = (BLR lo hi j w i).length := by omega
    rw [this]; exact sfx1
  | succ k =>
    obtain ⟨hsome, hnone⟩ := rob_switch_back lo hi HG HN hs h
    cases hx : (curGet c).2 with
    | some x =>
      obtain ⟨i1, hpost, f1, hget, hkx⟩ := hsome x hx
      rw [ob_offset_unfold_some c k x hx]
      have hid : iterateToPos (curSetBackward (curGet c).1 true) (curPos (curGet c).1) = curSetBackward (curGet c).1 true := by
        obtain ⟨s, v, l, m, e, _⟩ := hpost
        rw [e, rob_iter_id]
      rw [hid]
      obtain ⟨b', hp', hb'⟩ := rob_steps lo hi HGB HNB hs hp hcb (k + 1) _ (i1 + 1) (curPos (curGet c).1) hpost
      obtain ⟨i', ha', hf'⟩ := rob_finish lo hi HG HN HGB HNB hs hp'
        (offsetSteps (k + 1) (curSetBackward (curGet c).1 true) (curPos (curGet c).1)).2
      refine ⟨i', ha', ?_⟩
      rw [hf', hb']
      have hbl : BLR lo hi j w (i1 + 1) = x :: BLR lo hi j w i1 := by
        rw [rob_BL_some lo hi (Nat.succ_pos _) (by simpa using hget)]; simp [hkx]
      obtain ⟨_, s2⟩ := rob_FL_suffix lo hi j w i1
      rw [f1] at s2
      rw [hbl, List.length_drop, List.length_cons]
      exact congrArg (List.drop · _) (by omega)
    | none =>
      obtain ⟨habs, hnil⟩ := hnone hx
      rw [ob_offset_unfold_none c k hx]
      obtain ⟨b1, hp1, fb1, _, _⟩ := rob_curGet lo hi HGB HNB hs hp hcb habs
      obtain ⟨b', hp', hb'⟩ := rob_steps lo hi HGB HNB hs hp hcb k _ b1
        (curPos (curGet (curSetBackward (curGet c).1 true)).1) hp1
      obtain ⟨i', ha', hf'⟩ := rob_finish lo hi HG HN HGB HNB hs hp'
        (offsetSteps k (curGet (curSetBackward (curGet c).1 true)).1 (curPos (curGet (curSetBackward (curGet c).1 true)).1)).2
      refine ⟨i', ha', ?_⟩
      rw [hf', hb', fb1, List.length_drop]
      obtain ⟨_, s3⟩ := rob_FL_suffix lo hi j w (wflat j).length
      rw [ro_FL_len] at s3
      rw [hnil]
      simp only [List.length_nil] at s3 ⊢
      exact congrArg (List.drop · _) (by omega)

end neg

/-! ## the three laws for a one-source ranged cursor -/

theorem rob_wflatIdx_tail {j : Journal} (h : IdsBelowTail j) (k : Nat) : wflatIdx j ⟨tailCid, k⟩ = (wflat j).length := by
  apply wflatIdx_eq_len
  intro c hc
  simp only [wfiTerm, h c hc, if_true]

section lawsC16
variable (lo hi : Option Int) (HG : RGetFwdSpec) (HN : RNextFwdSpec) (HGB : RGetBwdSpec) (HNB : RNextBwdSpec)
include HG HN

theorem rob_readN {name j w sy c i} (hs : Sorted j) (n : Nat) (h : AbsR lo hi name j w sy c i) :
    readN n c = (FLR lo hi j w i).take n := by
  have := (rp_readLoop_abs lo hi HG HN hs n c i [] h).1
  simpa [readN] using this

include HGB HNB

theorem rob_tail_minus_k (name : Nat) (j : Journal) (w : Bool) (k n : Nat) (hs : Sorted j) (hp : PosIds j)
    (hcb : bw_ChunkBound j) (ht : IdsBelowTail j) :
    readN n (offset (applyCorner (mkR lo hi name j w) true) (-(k : Int))) =
      (((wflat j).filter (passR lo hi w)).drop (((wflat j).filter (passR lo hi w)).length - k)).take n := by
  have h0 := rp_corner_abs lo hi name j w true false
  simp only [if_true] at h0
  rw [rob_wflatIdx_tail ht] at h0
  obtain ⟨i', a', f'⟩ := rob_offset_neg lo hi HG HN HGB HNB hs hp hcb k h0
  rw [rob_readN lo hi HG HN hs n a', f', ro_FL_len]; simp [FLR]

theorem rob_plus_minus_k (name : Nat) (j : Journal) (w : Bool) (m k n : Nat) (hs : Sorted j) (hp : PosIds j)
    (hcb : bw_ChunkBound j) (hk : m + k ≤ ((wflat j).filter (passR lo hi w)).length) :
    readN n (offset (offset (readLoop m (applyCorner (mkR lo hi name j w) false) []).1 (k : Int)) (-(k : Int))) =
      readN n (readLoop m (applyCorner (mkR lo hi name j w) false) []).1 := by
  have h0 := rp_corner_abs lo hi name j w false false
  simp only [Bool.false_eq_true, if_false] at h0
  rw [show wflatIdx j ({} : Pos) = 0 from rw_wflatIdx_zero j] at h0
  obtain ⟨_, i1, a1, f1⟩ := rp_readLoop_abs lo hi HG HN hs m _ 0 [] h0
  obtain ⟨i2, a2, f2⟩ := ro_offset_pos lo hi HG HN hs k a1
  obtain ⟨i3, a3, f3⟩ := rob_offset_neg lo hi HG HN HGB HNB hs hp hcb k a2
  rw [rob_readN lo hi HG HN hs n a3, rob_readN lo hi HG HN hs n a1, f3, f2, f1]
  rw [rp_FLR_zero] at *
  simp only [List.length_drop, List.drop_drop]
  exact congrArg (fun d => (List.drop d _).take n) (by omega)

end lawsC16
end Logrange.Rd

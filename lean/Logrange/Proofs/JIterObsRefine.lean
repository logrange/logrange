import Logrange.Proofs.JIterObs
/-! # The general observation model of the journal iterator, run on the probe journal, refines to the tail model
(`Model/JIterObs.lean`: `probe` vs `Tail.probe`), and the tail probe never skips when no end-of-data step saw the count grow -/
namespace Logrange.JIterObs

/-- the probe journal: old chunk 10 (`k` reads so far), new chunk 20 (`r` reads so far) -/
def PJ (old : Nat) (script : List Nat) (k r : Nat) : Journal :=
  [{ id := 10, script := [old], reads := k }, { id := 20, script := script, reads := r }]

/-- the general iterator that corresponds to a tail state -/
def itOf (s : Tail.St) : It :=
  { cid := 20, idx := s.pos, ci := if s.opened then some { chunk := 20, pos := (s.pos : Int) } else none }

theorem count_20 (old : Nat) (script : List Nat) (k r : Nat) :
    count (PJ old script k r) 20 = (Tail.scriptObs script r, PJ old script k (r + 1)) := by
  simp [count, PJ, Tail.scriptObs]

theorem count_10 (old : Nat) (script : List Nat) (k r : Nat) :
    count (PJ old script k r) 10 = (old, PJ old script (k + 1) r) := by
  simp [count, PJ]

theorem ciGet_of_count {j j' : Journal} {id v : Nat} (h : count j id = (v, j')) (p : Nat) :
    ciGet j { chunk := id, pos := (p : Int) } =
      ({ chunk := id, pos := (p : Int) }, if p < v then some p else none, v, j') := by
  simp only [ciGet, h, Int.not_lt.mpr (Int.natCast_nonneg p), ↓reduceIte, ge_iff_le, Int.ofNat_le, ← Nat.not_lt, ite_not,
    Int.toNat_natCast]
  split <;> rfl

theorem ciSetPos_of_count {j j' : Journal} {id v : Nat} (h : count j id = (v, j')) (p : Nat) :
    ciSetPos j { chunk := id, pos := 0 } (p : Int) =
      ({ chunk := id, pos := ((if p = 0 then 0 else min p v : Nat) : Int) }, if p = 0 then j else j') := by
  by_cases hp : p = 0
  · subst hp; rfl
  · have h1 : ((p : Int) == 0) = false := by simpa using hp
    have h2 : ∀ x : Nat, ¬ ((x : Int) < 0) := fun x => Int.not_lt.mpr (Int.natCast_nonneg x)
    simp only [ciSetPos, h1, h, hp, Bool.false_eq_true, ↓reduceIte, gt_iff_lt, Int.ofNat_lt]
    split
    · rw [if_neg (h2 v), Nat.min_eq_right (Nat.le_of_lt ‹_›)]
    · rw [if_neg (h2 p), Nat.min_eq_left (Nat.le_of_not_lt ‹_›)]

theorem ensure_found {j j' : Journal} {chk : Chunk} {cid idx : Nat} {c : CIt}
    (hf : j.find? (fun x => decide (x.id ≥ cid)) = some chk) (hge : cid ≤ chk.id)
    (hs : ciSetPos j { chunk := chk.id } ((if chk.id > cid then 0 else idx : Nat) : Int) = (c, j')) :
    ensure j { cid := cid, idx := idx, ci := none } = ({ cid := chk.id, idx := c.pos.toNat, ci := some c }, false, none, j') := by
  simp only [ensure, hf, Nat.not_lt.mpr hge, ↓reduceIte]
  by_cases hgt : chk.id > cid
  · simp only [hgt, ↓reduceIte] at hs ⊢
    rw [hs]
  · obtain rfl : cid = chk.id := Nat.le_antisymm hge (Nat.le_of_not_lt hgt)
    simp only [hgt, ↓reduceIte] at hs ⊢
    rw [hs]

/-- `ensureChkIt` after `advanceChunk` from chunk 20: the last-chunk branch -/
theorem ensure_21 (old : Nat) (script : List Nat) (k r : Nat) :
    ensure (PJ old script k r) { cid := 21, idx := 0, ci := none } =
      ({ cid := 20, idx := Tail.scriptObs script r, ci := none }, true, some (Tail.scriptObs script r),
        PJ old script k (r + 1)) := by
  have hf : (PJ old script k r).find? (fun c => decide (c.id ≥ 21)) = none := by simp [PJ]
  have hl : (PJ old script k r).getLast? = some { id := 20, script := script, reads := r } := by simp [PJ]
  simp only [ensure, hf, hl, count_20]
  simp

/-- `ensureChkIt` of a reader in chunk 20 without a chunk iterator -/
theorem ensure_20 (old : Nat) (script : List Nat) (k r p : Nat) :
    ensure (PJ old script k r) { cid := 20, idx := p, ci := none } =
      (itOf { pos := Tail.ensPos (Tail.scriptObs script) { pos := p, opened := false, reads := r }, opened := true,
              reads := Tail.ensReads { pos := p, opened := false, reads := r } }, false, none,
        PJ old script k (Tail.ensReads { pos := p, opened := false, reads := r })) := by
  rw [ensure_found (chk := { id := 20, script := script, reads := r }) (by simp [PJ]) (Nat.le_refl _)
    (ciSetPos_of_count (count_20 old script k r) _)]
  by_cases h : p = 0 <;> simp [itOf, Tail.ensPos, Tail.ensReads, h]

/-- the `Get` loop of a reader with an open chunk iterator on chunk 20 is `Tail.get` -/
theorem getLoop_20 (old : Nat) (script : List Nat) (n k r p : Nat) :
    getLoop (n + 1) (PJ old script k r) (itOf { pos := p, opened := true, reads := r }) =
      ⟨itOf (Tail.get (Tail.scriptObs script) { pos := p, opened := true, reads := r }).1,
       (Tail.get (Tail.scriptObs script) { pos := p, opened := true, reads := r }).2.1.map (fun x => (20, x)),
       (Tail.get (Tail.scriptObs script) { pos := p, opened := true, reads := r }).2.2,
       PJ old script k (Tail.get (Tail.scriptObs script) { pos := p, opened := true, reads := r }).1.reads⟩ := by
  by_cases h : p < Tail.scriptObs script r
  · simp [getLoop, itOf, ciGet_of_count (count_20 old script k r), Tail.get, Tail.ensPos, Tail.ensReads, h]
  · simp [getLoop, itOf, ciGet_of_count (count_20 old script k r), advance, ensure_21, Tail.get, Tail.ensPos, Tail.ensReads, h]

theorem tail_get_ens (obs : Nat → Nat) (s : Tail.St) :
    Tail.get obs s = Tail.get obs { pos := Tail.ensPos obs s, opened := true, reads := Tail.ensReads s } := by
  obtain ⟨p, o, r⟩ := s
  cases o <;> simp [Tail.get, Tail.ensPos, Tail.ensReads]

/-- `JIterator.Get` of the general model on the probe journal is `Tail.get` -/
theorem get_sim (old : Nat) (script : List Nat) (k : Nat) (s : Tail.St) :
    get (PJ old script k s.reads) (itOf s) =
      ⟨itOf (Tail.get (Tail.scriptObs script) s).1,
       (Tail.get (Tail.scriptObs script) s).2.1.map (fun x => (20, x)),
       (Tail.get (Tail.scriptObs script) s).2.2,
       PJ old script k (Tail.get (Tail.scriptObs script) s).1.reads⟩ := by
  obtain ⟨p, o, r⟩ := s
  cases o with
  | true =>
    have e : ensure (PJ old script k r) (itOf { pos := p, opened := true, reads := r }) =
        (itOf { pos := p, opened := true, reads := r }, false, none, PJ old script k r) := by
      simp [ensure, itOf]
    have hl : (PJ old script k r).length + 2 = 3 + 1 := rfl
    simp only [get, e, hl, getLoop_20]
    simp
  | false =>
    have e : itOf { pos := p, opened := false, reads := r } = { cid := 20, idx := p, ci := none } := by
      simp [itOf]
    have hl : ∀ r', (PJ old script k r').length + 2 = 3 + 1 := fun _ => rfl
    rw [tail_get_ens (Tail.scriptObs script) { pos := p, opened := false, reads := r }]
    simp only [get, e, ensure_20, hl, getLoop_20]
    simp

/-- `JIterator.Next` of the general model on the probe journal is `Tail.next` -/
theorem next_sim (old : Nat) (script : List Nat) (k : Nat) (s : Tail.St) :
    next (PJ old script k s.reads) (itOf s) =
      (itOf (Tail.next (Tail.scriptObs script) s), PJ old script k (Tail.next (Tail.scriptObs script) s).reads) := by
  simp only [next, get_sim, Tail.next]
  generalize Tail.get (Tail.scriptObs script) s = g
  obtain ⟨⟨p1, o1, r1⟩, rec, eo⟩ := g
  cases o1 with
  | false => simp [itOf]
  | true =>
    by_cases h : p1 < Tail.scriptObs script r1
    · simp [itOf, ciNext, ciGet_of_count (count_20 old script k r1), h]
    · simp [itOf, ciNext, ciGet_of_count (count_20 old script k r1), h]

/-- the polling loop of the general model on the probe journal is `Tail.pollLoop` -/
theorem pollLoop_sim (old : Nat) (script : List Nat) (k : Nat) :
    ∀ (fuel polls : Nat) (s : Tail.St) (acc : List Nat) (g : Bool),
      pollLoop fuel polls (PJ old script k s.reads) (itOf s) acc g =
        Tail.pollLoop (Tail.scriptObs script) fuel polls s acc g := by
  intro fuel
  induction fuel with
  | zero => intro polls s acc g; cases polls <;> rfl
  | succ fuel ih =>
    intro polls s acc g
    cases polls with
    | zero => rfl
    | succ polls =>
      rw [pollLoop, Tail.pollLoop]
      simp only [get_sim]
      generalize Tail.get (Tail.scriptObs script) s = gr
      obtain ⟨s1, rec, eo⟩ := gr
      cases rec with
      | none => simp only [Option.map_none]; exact ih polls s1 acc _
      | some p =>
        simp only [Option.map_some, next_sim]
        exact ih (polls + 1) _ (p :: acc) _

/-- `ensureChkIt` of the reader at `(10, old)`: the chunk iterator of the old chunk, positioned at its end -/
theorem ensure_10 (old : Nat) (script : List Nat) (k r : Nat) :
    ensure (PJ old script k r) { cid := 10, idx := old, ci := none } =
      ({ cid := 10, idx := old, ci := some { chunk := 10, pos := (old : Int) } }, false, none,
        PJ old script (if old = 0 then k else k + 1) r) := by
  rw [ensure_found (chk := { id := 10, script := [old], reads := k }) (by simp [PJ]) (Nat.le_refl _)
    (ciSetPos_of_count (count_10 old script k r) _)]
  by_cases h : old = 0 <;> simp [h]

/-- `advanceChunk` from the old chunk opens the new one at 0 without reading its count -/
theorem advance_10 (old : Nat) (script : List Nat) (k r i : Nat) (c : Option CIt) :
    advance (PJ old script k r) { cid := 10, idx := i, ci := c } =
      (itOf { pos := 0, opened := true, reads := r }, false, none, PJ old script k r) := by
  rw [advance, ensure_found (chk := { id := 20, script := script, reads := r }) (by simp [PJ]) (show 11 ≤ 20 by decide)
    (ciSetPos_of_count (count_20 old script k r) 0)]
  rfl

/-- the first `Get` of the probe: end of the old chunk, `advanceChunk`, then `Tail.get` from the initial tail state -/
theorem first_get (old : Nat) (script : List Nat) :
    get (PJ old script 0 0) { cid := 10, idx := old, ci := none } =
      ⟨itOf (Tail.get (Tail.scriptObs script) {}).1,
       (Tail.get (Tail.scriptObs script) {}).2.1.map (fun x => (20, x)),
       (Tail.get (Tail.scriptObs script) {}).2.2,
       PJ old script ((if old = 0 then 0 else 0 + 1) + 1) (Tail.get (Tail.scriptObs script) {}).1.reads⟩ := by
  have hl : ∀ k' r', (PJ old script k' r').length + 2 = 2 + 1 + 1 := fun _ _ => rfl
  have ht : Tail.get (Tail.scriptObs script) {} =
      Tail.get (Tail.scriptObs script) { pos := 0, opened := true, reads := 0 } := by
    rw [tail_get_ens]; simp [Tail.ensPos, Tail.ensReads]
  rw [ht]
  simp only [get, ensure_10, hl]
  rw [getLoop]
  simp only [ciGet_of_count (count_10 old script _ 0) old, Nat.lt_irrefl, ↓reduceIte, advance_10, getLoop_20]
  simp

/-- **Refinement**: the general observation model on the probe journal gives exactly the probe of the tail model. -/
theorem probe_refines (old : Nat) (script : List Nat) (fuel polls : Nat) :
    probe old script fuel polls = Tail.probe script fuel polls := by
  have hs : setPos [{ id := 10, script := [old] }, { id := 20, script := script }] {} 10 old =
      ({ cid := 10, idx := old, ci := none }, PJ old script 0 0) := by
    simp [setPos, PJ]
  simp only [probe, Tail.probe, hs, first_get]
  generalize Tail.get (Tail.scriptObs script) {} = gr
  obtain ⟨s1, rec, eo⟩ := gr
  simp only [pollLoop_sim]
  cases rec <;> simp [itOf]

/-! ## the tail probe never skips when no end-of-data step saw the count grow -/

namespace Tail

/-- `a ≤ b`: the two observations of an end-of-data step are successive reads -/
theorem get_cases (obs : Nat → Nat) (hm : Mono obs) (s : St) :
    (∃ s1 p, get obs s = (s1, some p, none) ∧ s1.pos = ensPos obs s) ∨
    (∃ s1 a b, get obs s = (s1, none, some (a, b)) ∧ a ≤ b ∧ s1.pos = b ∧ ¬ ensPos obs s < a) := by
  simp only [get]
  split
  · exact Or.inl ⟨_, _, rfl, rfl⟩
  · exact Or.inr ⟨_, _, _, rfl, hm _ _ (Nat.le_succ _), rfl, ‹_›⟩

theorem pollLoop_grew (obs : Nat → Nat) :
    ∀ (fuel polls : Nat) (s : St) (acc : List Nat), (pollLoop obs fuel polls s acc true).2 = true := by
  intro fuel
  induction fuel with
  | zero => intro polls s acc; cases polls <;> rfl
  | succ fuel ih =>
    intro polls s acc
    cases polls with
    | zero => rfl
    | succ polls =>
      rw [pollLoop]
      generalize get obs s = gr
      obtain ⟨s1, rec, eo⟩ := gr
      cases rec with
      | none => simp only [Bool.true_or]; exact ih _ _ _
      | some p => simp only [Bool.true_or]; exact ih _ _ _

/-- the polling loop keeps `RInv` (with the accumulator, reversed, as the delivered records) as long as no end-of-data
step sees the count grow -/
theorem pollLoop_no_skip (obs : Nat → Nat) (hm : Mono obs) :
    ∀ (fuel polls : Nat) (s : St) (acc : List Nat) (g : Bool),
      RInv obs { s := s, delivered := acc.reverse, stable := true } →
      (pollLoop obs fuel polls s acc g).2 = false →
      (pollLoop obs fuel polls s acc g).1 = List.range (pollLoop obs fuel polls s acc g).1.length := by
  intro fuel
  induction fuel with
  | zero => intro polls s acc g hi _; cases polls <;> exact hi.pre
  | succ fuel ih =>
    intro polls s acc g hi
    cases polls with
    | zero => intro _; exact hi.pre
    | succ polls =>
      cases g with
      | true => intro hg; rw [pollLoop_grew] at hg; exact absurd hg (by simp)
      | false =>
        have hstep := step_inv obs hm _ hi
        rw [pollLoop]
        simp only [step] at hstep
        rcases get_cases obs hm s with ⟨s1, p, hg, _⟩ | ⟨s1, a, b, hg, hab, _, _⟩
        · simp only [hg, Bool.false_or, Bool.true_and] at hstep ⊢
          have hi' := hstep trivial
          refine ih (polls + 1) (next obs s1) (p :: acc) false ?_
          rw [List.reverse_cons]
          exact ⟨hi'.pos, hi'.pre, hi'.bound⟩
        · simp only [hg, Bool.false_or, Bool.true_and] at hstep ⊢
          by_cases hlt : a < b
          · intro hgr
            simp only [hlt, decide_true] at hgr
            rw [pollLoop_grew] at hgr
            exact absurd hgr (by simp)
          · obtain rfl : a = b := by omega
            simp only [hlt, decide_false, beq_self_eq_true] at hstep ⊢
            have hi' := hstep trivial
            exact ih polls s1 acc false ⟨hi'.pos, hi'.pre, hi'.bound⟩

end Tail

/-- **No skip on the tail model**: for monotone observations, if no end-of-data step of the probe saw the count grow,
the delivered indices are exactly `0, 1, 2, …` in order. -/
theorem tail_probe_no_skip (script : List Nat) (hm : Tail.Mono (Tail.scriptObs script)) (fuel polls : Nat) :
    (Tail.probe script fuel polls).grew = false →
    (Tail.probe script fuel polls).delivered = List.range (Tail.probe script fuel polls).delivered.length := by
  simp only [Tail.probe]
  rcases Tail.get_cases _ hm {} with ⟨s1, p, hg, hp⟩ | ⟨s1, a, b, hg, hab, hb, hna⟩
  · simp only [hg]
    exact Tail.pollLoop_no_skip _ hm fuel polls s1 [] false ⟨hp, rfl, Or.inl hp⟩
  · simp only [hg]
    by_cases hlt : a < b
    · intro hg'
      simp only [hlt, decide_true] at hg'
      rw [Tail.pollLoop_grew] at hg'
      exact absurd hg' (by simp)
    · simp only [hlt, decide_false]
      have h0 : s1.pos = 0 := by have : ¬ 0 < a := hna; omega
      exact Tail.pollLoop_no_skip _ hm fuel polls s1 [] false ⟨h0, rfl, Or.inl h0⟩

/-- a sorted script gives monotone observations -/
theorem mono_of_sorted (script : List Nat) (h : script.Pairwise (· ≤ ·)) : Tail.Mono (Tail.scriptObs script) := by
  intro a b hab
  unfold Tail.scriptObs
  by_cases hl : script.length = 0
  · have : script = [] := List.eq_nil_of_length_eq_zero hl
    subst this; simp
  · have hi : min a (script.length - 1) < script.length := by omega
    have hj : min b (script.length - 1) < script.length := by omega
    simp only [List.getD_eq_getElem?_getD, List.getElem?_eq_getElem hi, List.getElem?_eq_getElem hj, Option.getD_some]
    by_cases he : min a (script.length - 1) = min b (script.length - 1)
    · simp only [he]; exact Nat.le_refl _
    · exact (List.pairwise_iff_getElem.mp h) _ _ hi hj (by omega)

example : Tail.Mono (Tail.scriptObs [0, 0, 2]) := mono_of_sorted _ (by decide)

/-- non-vacuity: a monotone script whose probe never sees the count grow and delivers three records -/
example : Tail.Mono (Tail.scriptObs [0, 0, 1, 1, 1, 1, 1, 3]) ∧
    (probe 3 [0, 0, 1, 1, 1, 1, 1, 3] 60 10).grew = false ∧
    (probe 3 [0, 0, 1, 1, 1, 1, 1, 3] 60 10).delivered = [0, 1, 2] :=
  ⟨mono_of_sorted _ (by decide), by rw [probe_refines]; decide +kernel, by rw [probe_refines]; decide +kernel⟩

/-- … and a monotone script where an end-of-data step does see the count grow (`grew = true`): record 0 is skipped, so the hypothesis
`grew = false` of the no-skip theorems cannot be dropped -/
example : Tail.Mono (Tail.scriptObs [0, 1, 1, 3]) ∧
    (probe 3 [0, 1, 1, 3] 60 10).grew = true ∧ (probe 3 [0, 1, 1, 3] 60 10).delivered = [1, 2] :=
  ⟨mono_of_sorted _ (by decide), by rw [probe_refines]; decide +kernel, by rw [probe_refines]; decide +kernel⟩

end Logrange.JIterObs

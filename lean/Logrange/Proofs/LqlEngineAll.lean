import Logrange.Proofs.LqlEngineMisc
import Logrange.Proofs.LqlEngineSelect
import Logrange.Proofs.LqlEngineTrunc
/-!
# C12: engine = direct parser for EVERY statement kind (root `Lql`)

`engine_direct_lql`: `runEngine` on the regenerated grammar followed by `toLqlChecked` (typed captures + post-check) equals
`directLql`, from the per-kind theorems `engine_direct_select` (LqlEngineSelect), `engine_direct_truncate`, `engine_direct_show`
(LqlEngineTrunc), `engine_direct_describe`, `engine_direct_create` (LqlEngineMisc), `engine_direct_delete` (LqlEngineStmt).
-/
namespace Logrange.Lql
open Logrange.Generated.C12

theorem run_lql_miss (toks : List Tok) (h : ∀ t, toks[0]? = some t → ∀ x ∈ lqlAlts, litMatch t x.1 = false) :
    runEngine grammar "Lql" toks = none := by
  rw [run_lql, show 60 * toks.length + 200 = (60 * toks.length + 188) + 3 + 6 + 3 from rfl,
    alts_miss ⟨toks, grammar⟩ "Lql" lqlAlts g_lql 0 h 6 rfl]
  rfl

theorem kw_excl_all (t : Tok) (a b : Bytes) (hab : (a == b) = false) (hf : eqFold a b = false) (h : litMatch t a = true) :
    litMatch t b = false := litMatch_excl t a b hab hf h


/-- the statement-level theorem from the per-kind theorems: DESCRIBE, CREATE, DELETE, "no statement keyword" and the empty
token list are proved here; SELECT, TRUNCATE, SHOW are taken as arguments (instantiated in `engine_direct_lql`) -/
theorem engine_direct_lql_of (dp : Bytes → Option Int) (toks : List Tok) (hH : OperandNotParen toks)
    (HS : ∀ t r, toks = t :: r → litMatch t kwSELECT = true →
      (runEngine grammar "Lql" toks).bind (toLqlChecked dp (8 * toks.length + 50)) = dSelectRest dp (directFuel toks) r)
    (HT : ∀ t r, toks = t :: r → litMatch t kwSELECT = false → litMatch t kwDESCRIBE = false → litMatch t kwTRUNCATE = true →
      (runEngine grammar "Lql" toks).bind (toLqlChecked dp (8 * toks.length + 50)) = dTruncateRest dp (directFuel toks) r)
    (HW : ∀ t r, toks = t :: r → litMatch t kwSELECT = false → litMatch t kwDESCRIBE = false → litMatch t kwTRUNCATE = false →
      litMatch t kwSHOW = true →
      (runEngine grammar "Lql" toks).bind (toLqlChecked dp (8 * toks.length + 50)) = dShowRest (directFuel toks) r) :
    (runEngine grammar "Lql" toks).bind (toLqlChecked dp (8 * toks.length + 50)) = directLql dp toks := by
  cases toks with
  | nil => rw [run_lql_miss [] (fun _ h => nomatch h)]; rfl
  | cons t r =>
    unfold directLql directLqlFuel
    cases h1 : litMatch t kwSELECT with
    | true => simp only [h1, if_true]; exact HS t r rfl h1
    | false =>
      cases h2 : litMatch t kwDESCRIBE with
      | true => simp only [h1, h2, Bool.false_eq_true, if_false, if_true]; exact engine_direct_describe dp _ t r h1 h2
      | false =>
        cases h3 : litMatch t kwTRUNCATE with
        | true => simp only [h1, h2, h3, Bool.false_eq_true, if_false, if_true]; exact HT t r rfl h1 h2 h3
        | false =>
          cases h4 : litMatch t kwSHOW with
          | true => simp only [h1, h2, h3, h4, Bool.false_eq_true, if_false, if_true]; exact HW t r rfl h1 h2 h3 h4
          | false =>
            cases h5 : litMatch t kwCREATE with
            | true =>
              simp only [h1, h2, h3, h4, h5, Bool.false_eq_true, if_false, if_true]
              exact engine_direct_create dp _ t r hH (Nat.le_refl _) h1 h2 h3 h4 h5
            | false =>
              cases h6 : litMatch t kwDELETE with
              | true =>
                simp only [h1, h2, h3, h4, h5, h6, Bool.false_eq_true, if_false, if_true]
                exact engine_direct_delete dp _ t r h1 h2 h3 h4 h5 h6
              | false =>
                simp only [h1, h2, h3, h4, h5, h6, Bool.false_eq_true, if_false]
                rw [run_lql_miss (t :: r) (fun _ h => by cases h; simp [lqlAlts, h1, h2, h3, h4, h5, h6])]; rfl

/-- what is proved without the SELECT / TRUNCATE / SHOW files: every token list whose first token is none of those keywords -/
theorem engine_direct_lql_misc (dp : Bytes → Option Int) (toks : List Tok) (hH : OperandNotParen toks)
    (hk : ∀ t ∈ toks.head?, litMatch t kwSELECT = false ∧ litMatch t kwTRUNCATE = false ∧ litMatch t kwSHOW = false) :
    (runEngine grammar "Lql" toks).bind (toLqlChecked dp (8 * toks.length + 50)) = directLql dp toks := by
  refine engine_direct_lql_of dp toks hH ?_ ?_ ?_
  · intro t r e h; subst e; have := (hk t (by simp)).1; rw [h] at this; cases this
  · intro t r e _ _ h; subst e; have := (hk t (by simp)).2.1; rw [h] at this; cases this
  · intro t r e _ _ _ h; subst e; have := (hk t (by simp)).2.2; rw [h] at this; cases this


/-- **engine = direct parser, root `Lql`, every statement kind.** Hypotheses: `OperandNotParen toks` (true of every lexed token
list) and `hdp`: the date parser rejects the eleven texts `(`, `<`, `>`, `>=`, `<=`, `!=`, `=`, `CONTAINS`, `PREFIX`, `SUFFIX`,
`LIKE` (needed for `TRUNCATE BEFORE "<one of these>" …` only — see `cex_truncate_dp`: there the engine's unguarded source attempt
reads `BEFORE ( …` as a function call and fails hard, while the direct parser goes on with the clauses). -/
theorem engine_direct_lql (dp : Bytes → Option Int) (hdp : ∀ b ∈ LP :: condOps, dp b = none) (toks : List Tok)
    (hH : OperandNotParen toks) :
    (runEngine grammar "Lql" toks).bind (toLqlChecked dp (8 * toks.length + 50)) = directLql dp toks := by
  refine engine_direct_lql_of dp toks hH ?_ ?_ ?_
  · intro t r e h; subst e; exact engine_direct_select dp _ t r hH (Nat.le_refl _) h
  · intro t r e h1 h2 h3; subst e; exact engine_direct_truncate dp hdp _ t r hH (Nat.le_refl _) h1 h2 h3
  · intro t r e h1 h2 h3 h4; subst e; exact engine_direct_show dp _ t r hH (Nat.le_refl _) h1 h2 h3 h4

end Logrange.Lql

import Logrange.Model.LqlFindings
/-!
# Lemmas for C12: the direct parser inverts `tokensOf` on the parser's image (token level), any nesting depth
-/
namespace Logrange.Lql

/-- the next token (if any) does not match the literal `s` -/
def headNot (s : Bytes) : List Tok → Bool
  | [] => true
  | tk :: _ => !litMatch tk s

/-! ### fuel measures (an upper bound of the call depth of the direct parser on `toks… ast`) -/
mutual
def szIdent : Ident → Nat
  | .mk _ .nil => 1
  | .mk _ (.cons h t) => 1 + szIdent h + szIdentsTail t
def szIdentsTail : IdentList → Nat
  | .nil => 1
  | .cons h t => 1 + szIdent h + szIdentsTail t
end

theorem isOperandTok_operandTok (op : Bytes) : isOperandTok (operandTok op) = true := by
  unfold isOperandTok operandTok
  split <;> simp

theorem operandTok_v (op : Bytes) : (operandTok op).v = op := rfl

theorem litMatch_tLP : litMatch tLP LP = true := by decide
theorem litMatch_tRP : litMatch tRP RP = true := by decide
theorem litMatch_tCOMMA : litMatch tCOMMA COMMA = true := by decide
theorem litMatch_tRP_COMMA : litMatch tRP COMMA = false := by decide
theorem litMatch_tRP_LP : litMatch tRP LP = false := by decide
theorem litMatch_tCOMMA_LP : litMatch tCOMMA LP = false := by decide

theorem headNot_LP_tail (t : IdentList) (rest : List Tok) : headNot LP (toksIdentsTail t ++ (tRP :: rest)) = true := by
  cases t with
  | nil => simp [toksIdentsTail, headNot, litMatch_tRP_LP]
  | cons h t => simp [toksIdentsTail, headNot, litMatch_tCOMMA_LP]

mutual
theorem dIdent_toks : ∀ (i : Ident) (f : Nat) (rest : List Tok), szIdent i ≤ f → headNot LP rest = true →
    dIdent f (toksIdent i ++ rest) = some (i, rest)
  | .mk op .nil, f, rest, hf, hr => by
    cases f with
    | zero => simp [szIdent] at hf
    | succ f =>
      cases rest with
      | nil => simp [toksIdent, dIdent, isOperandTok_operandTok, operandTok_v]
      | cons p r =>
        have hp : litMatch p LP = false := by simpa [headNot] using hr
        simp [toksIdent, dIdent, isOperandTok_operandTok, operandTok_v, hp]
  | .mk op (.cons h t), f, rest, hf, _ => by
    cases f with
    | zero => simp [szIdent] at hf
    | succ f =>
      have hf' : 1 + szIdent h + szIdentsTail t ≤ f + 1 := by simpa [szIdent] using hf
      have h1 := dIdent_toks h f (toksIdentsTail t ++ (tRP :: rest)) (by omega) (headNot_LP_tail t rest)
      have h2 := dIdentTail_toks t f (tRP :: rest) (by omega) (by simp [headNot, litMatch_tRP_COMMA]) (by simp [headNot, litMatch_tRP_LP])
      simp only [toksIdent, List.cons_append, List.append_assoc] at h1 ⊢
      simp [dIdent, isOperandTok_operandTok, operandTok_v, litMatch_tLP, h1, h2, litMatch_tRP]
theorem dIdentTail_toks : ∀ (t : IdentList) (f : Nat) (rest : List Tok), szIdentsTail t ≤ f → headNot COMMA rest = true →
    headNot LP rest = true → dIdentTail f (toksIdentsTail t ++ rest) = some (t, rest)
  | .nil, f, rest, hf, hr, _ => by
    cases f with
    | zero => simp [szIdentsTail] at hf
    | succ f =>
      cases rest with
      | nil => simp [toksIdentsTail, dIdentTail]
      | cons p r =>
        have hp : litMatch p COMMA = false := by simpa [headNot] using hr
        simp [toksIdentsTail, dIdentTail, hp]
  | .cons h t, f, rest, hf, hr, hl => by
    cases f with
    | zero => simp [szIdentsTail] at hf
    | succ f =>
      have hf' : 1 + szIdent h + szIdentsTail t ≤ f + 1 := by simpa [szIdentsTail] using hf
      have hh : headNot LP (toksIdentsTail t ++ rest) = true := by
        cases t with
        | nil => simpa [toksIdentsTail] using hl
        | cons h' t' => simp [toksIdentsTail, headNot, litMatch_tCOMMA_LP]
      have h1 := dIdent_toks h f (toksIdentsTail t ++ rest) (by omega) hh
      have h2 := dIdentTail_toks t f rest (by omega) hr hl
      simp only [toksIdentsTail, List.cons_append, List.append_assoc] at h1 ⊢
      simp [dIdentTail, litMatch_tCOMMA, h1, h2]
end


/-! ### well-formedness = the parser's image (decidable; the harness checks it on every AST the real parser returns) -/

def operandOf : Ident → Bytes
  | .mk op _ => op

/-- the operator text is one of the ten `Condition.Op` literals (Keyword ones in any letter case) -/
def wfCond (c : Cond) : Bool := isOpTok (opTok c.op) && !litMatch (opTok c.op) LP

mutual
def wfExpr : Expr → Bool
  | .mk .nil => false
  | .mk (.cons h t) => wfOr h && wfOrs t
def wfOrs : OrList → Bool
  | .nil => true
  | .cons h t => wfOr h && wfOrs t
def wfOr : OrCond → Bool
  | .mk .nil => false
  | .mk (.cons h t) => wfX h && wfXs t
def wfXs : XList → Bool
  | .nil => true
  | .cons h t => wfX h && wfXs t
/-- an un-negated condition cannot start with the operand `NOT` (the optional `[@"NOT"]` would have taken it) -/
def wfX : XCond → Bool
  | .cond neg c => wfCond c && (neg || !litMatch (operandTok (operandOf c.ident)) kwNOT)
  | .paren _ e => wfExpr e
end

/-- `{…}` sources: the printed tag line is read back to the same set by `tag.Parse` (C08's round trip; holds for
every `safeTags` set — tested there — and is false for the F12b witnesses) -/
def wfSource : Source → Bool
  | .tags m => KV.tagParse (KV.LB :: (KV.line m ++ [KV.RB])) == some m
  | .expr e => wfExpr e

mutual
def szExpr : Expr → Nat
  | .mk .nil => 0
  | .mk (.cons h t) => 1 + szOr h + szOrs t
def szOrs : OrList → Nat
  | .nil => 1
  | .cons h t => 1 + szOr h + szOrs t
def szOr : OrCond → Nat
  | .mk .nil => 0
  | .mk (.cons h t) => 1 + szX h + szXs t
def szXs : XList → Nat
  | .nil => 1
  | .cons h t => 1 + szX h + szXs t
def szX : XCond → Nat
  | .cond _ c => 2 + szIdent c.ident
  | .paren _ e => 2 + szExpr e
end

theorem toksIdent_head (i : Ident) : ∃ tl, toksIdent i = operandTok (operandOf i) :: tl := by
  cases i with
  | mk op ps => cases ps with
    | nil => exact ⟨[], by simp [toksIdent, operandOf]⟩
    | cons h t => exact ⟨_, by simp [toksIdent, operandOf]; rfl⟩

theorem dCond_toks (c : Cond) (f : Nat) (rest : List Tok) (hf : szIdent c.ident ≤ f) (hw : wfCond c = true) :
    dCond f (toksCond c ++ rest) = some (c, rest) := by
  have hw' : isOpTok (opTok c.op) = true ∧ litMatch (opTok c.op) LP = false := by
    simpa [wfCond] using hw
  have h1 := dIdent_toks c.ident f (opTok c.op :: ⟨.string, c.value⟩ :: rest) hf (by simp [headNot, hw'.2])
  simp only [toksCond, List.append_assoc, List.cons_append, List.nil_append] at h1 ⊢
  rw [dCond, h1]
  have hv : (opTok c.op).v = c.op := rfl
  simp [hw'.1, isValueTok, hv]

theorem litMatch_tNOT : litMatch tNOT kwNOT = true := by decide
theorem litMatch_tAND : litMatch tAND kwAND = true := by decide
theorem litMatch_tOR : litMatch tOR kwOR = true := by decide
theorem litMatch_tOR_AND : litMatch tOR kwAND = false := by decide
theorem litMatch_tRP_OR : litMatch tRP kwOR = false := by decide
theorem litMatch_tRP_AND : litMatch tRP kwAND = false := by decide
theorem litMatch_tLP_NOT : litMatch tLP kwNOT = false := by decide
theorem isOperandTok_tLP : isOperandTok tLP = false := by decide

theorem headNot_AND_orsTail (t : OrList) (rest : List Tok) (h : headNot kwAND rest = true) :
    headNot kwAND (toksOrsTail t ++ rest) = true := by
  cases t with
  | nil => simpa [toksOrsTail] using h
  | cons h' t' => simp [toksOrsTail, headNot, litMatch_tOR_AND]

theorem dX_not (f : Nat) (neg : Bool) (t : Tok) (r : List Tok) (h : neg = true ∨ litMatch t kwNOT = false) :
    dX (f + 1) ((if neg then [tNOT] else []) ++ t :: r) = dXBody f neg (t :: r) := by
  cases neg with
  | true => simp [dX, litMatch_tNOT]
  | false =>
    have : litMatch t kwNOT = false := h.resolve_left (by decide)
    simp [dX, this]

mutual
theorem dExpr_toks : ∀ (e : Expr) (f : Nat) (rest : List Tok), szExpr e ≤ f → wfExpr e = true →
    headNot kwOR rest = true → headNot kwAND rest = true → dExpr f (toksExpr e ++ rest) = some (e, rest)
  | .mk .nil, _, _, _, hw, _, _ => by simp [wfExpr] at hw
  | .mk (.cons h t), f, rest, hf, hw, ho, ha => by
    cases f with
    | zero => simp [szExpr] at hf
    | succ f =>
      have hf' : 1 + szOr h + szOrs t ≤ f + 1 := by simpa [szExpr] using hf
      have hw' : wfOr h = true ∧ wfOrs t = true := by simpa [wfExpr] using hw
      have h1 := dOr_toks h f (toksOrsTail t ++ rest) (by omega) hw'.1 (headNot_AND_orsTail t rest ha)
      have h2 := dOrTail_toks t f rest (by omega) hw'.2 ho ha
      simp only [toksExpr, List.append_assoc] at h1 ⊢
      simp [dExpr, h1, h2]
theorem dOrTail_toks : ∀ (t : OrList) (f : Nat) (rest : List Tok), szOrs t ≤ f → wfOrs t = true →
    headNot kwOR rest = true → headNot kwAND rest = true → dOrTail f (toksOrsTail t ++ rest) = some (t, rest)
  | .nil, f, rest, hf, _, ho, _ => by
    cases f with
    | zero => simp [szOrs] at hf
    | succ f =>
      cases rest with
      | nil => simp [toksOrsTail, dOrTail]
      | cons p r =>
        have hp : litMatch p kwOR = false := by simpa [headNot] using ho
        simp [toksOrsTail, dOrTail, hp]
  | .cons h t, f, rest, hf, hw, ho, ha => by
    cases f with
    | zero => simp [szOrs] at hf
    | succ f =>
      have hf' : 1 + szOr h + szOrs t ≤ f + 1 := by simpa [szOrs] using hf
      have hw' : wfOr h = true ∧ wfOrs t = true := by simpa [wfOrs] using hw
      have h1 := dOr_toks h f (toksOrsTail t ++ rest) (by omega) hw'.1 (headNot_AND_orsTail t rest ha)
      have h2 := dOrTail_toks t f rest (by omega) hw'.2 ho ha
      simp only [toksOrsTail, List.cons_append, List.append_assoc] at h1 ⊢
      simp [dOrTail, litMatch_tOR, h1, h2]
theorem dOr_toks : ∀ (o : OrCond) (f : Nat) (rest : List Tok), szOr o ≤ f → wfOr o = true →
    headNot kwAND rest = true → dOr f (toksOr o ++ rest) = some (o, rest)
  | .mk .nil, _, _, _, hw, _ => by simp [wfOr] at hw
  | .mk (.cons h t), f, rest, hf, hw, ha => by
    cases f with
    | zero => simp [szOr] at hf
    | succ f =>
      have hf' : 1 + szX h + szXs t ≤ f + 1 := by simpa [szOr] using hf
      have hw' : wfX h = true ∧ wfXs t = true := by simpa [wfOr] using hw
      have h1 := dX_toks h f (toksXsTail t ++ rest) (by omega) hw'.1
      have h2 := dAndTail_toks t f rest (by omega) hw'.2 ha
      simp only [toksOr, List.append_assoc] at h1 ⊢
      simp [dOr, h1, h2]
theorem dAndTail_toks : ∀ (t : XList) (f : Nat) (rest : List Tok), szXs t ≤ f → wfXs t = true →
    headNot kwAND rest = true → dAndTail f (toksXsTail t ++ rest) = some (t, rest)
  | .nil, f, rest, hf, _, ha => by
    cases f with
    | zero => simp [szXs] at hf
    | succ f =>
      cases rest with
      | nil => simp [toksXsTail, dAndTail]
      | cons p r =>
        have hp : litMatch p kwAND = false := by simpa [headNot] using ha
        simp [toksXsTail, dAndTail, hp]
  | .cons h t, f, rest, hf, hw, ha => by
    cases f with
    | zero => simp [szXs] at hf
    | succ f =>
      have hf' : 1 + szX h + szXs t ≤ f + 1 := by simpa [szXs] using hf
      have hw' : wfX h = true ∧ wfXs t = true := by simpa [wfXs] using hw
      have h1 := dX_toks h f (toksXsTail t ++ rest) (by omega) hw'.1
      have h2 := dAndTail_toks t f rest (by omega) hw'.2 ha
      simp only [toksXsTail, List.cons_append, List.append_assoc] at h1 ⊢
      simp [dAndTail, litMatch_tAND, h1, h2]
theorem dX_toks : ∀ (x : XCond) (f : Nat) (rest : List Tok), szX x ≤ f → wfX x = true →
    dX f (toksX x ++ rest) = some (x, rest)
  | .cond neg c, f, rest, hf, hw => by
    have hf' : 2 + szIdent c.ident ≤ f := by simpa [szX] using hf
    obtain ⟨f2, rfl⟩ : ∃ f2, f = f2 + 2 := ⟨f - 2, by omega⟩
    have hw' : wfCond c = true ∧ (neg = true ∨ litMatch (operandTok (operandOf c.ident)) kwNOT = false) := by
      simpa [wfX] using hw
    have hc := dCond_toks c f2 rest (by omega) hw'.1
    obtain ⟨tl, htl⟩ := toksIdent_head c.ident
    have hshape : toksCond c ++ rest = operandTok (operandOf c.ident) :: (tl ++ [opTok c.op, ⟨.string, c.value⟩] ++ rest) := by
      simp [toksCond, htl]
    rw [toksX, List.append_assoc, hshape, dX_not _ _ _ _ hw'.2, dXBody]
    simp only [isOperandTok_operandTok, if_true]
    rw [← hshape, hc]
  | .paren neg e, f, rest, hf, hw => by
    have hf' : 2 + szExpr e ≤ f := by simpa [szX] using hf
    obtain ⟨f2, rfl⟩ : ∃ f2, f = f2 + 2 := ⟨f - 2, by omega⟩
    have hw' : wfExpr e = true := by simpa [wfX] using hw
    have he := dExpr_toks e f2 (tRP :: rest) (by omega) hw' (by simp [headNot, litMatch_tRP_OR]) (by simp [headNot, litMatch_tRP_AND])
    rw [toksX, List.append_assoc, List.cons_append, dX_not _ _ _ _ (.inr litMatch_tLP_NOT), dXBody]
    simp [isOperandTok_tLP, litMatch_tLP, he, litMatch_tRP]
end

theorem operandTok_not_tags (op : Bytes) : (operandTok op).t ≠ .tags := by
  unfold operandTok; split <;> simp

theorem toksX_head (x : XCond) : ∃ t r, toksX x = t :: r ∧ t.t ≠ .tags := by
  cases x with
  | cond neg c =>
    obtain ⟨tl, htl⟩ := toksIdent_head c.ident
    cases neg with
    | true => exact ⟨tNOT, toksCond c, by simp [toksX], by decide⟩
    | false =>
      exact ⟨operandTok (operandOf c.ident), tl ++ [opTok c.op, ⟨.string, c.value⟩], by simp [toksX, toksCond, htl],
        operandTok_not_tags _⟩
  | paren neg e =>
    cases neg with
    | true => exact ⟨tNOT, tLP :: (toksExpr e ++ [tRP]), by simp [toksX], by decide⟩
    | false => exact ⟨tLP, toksExpr e ++ [tRP], by simp [toksX], by decide⟩

theorem toksExpr_head (e : Expr) (hw : wfExpr e = true) : ∃ t r, toksExpr e = t :: r ∧ t.t ≠ .tags := by
  cases e with
  | mk ors => cases ors with
    | nil => simp [wfExpr] at hw
    | cons o os => cases o with
      | mk xs => cases xs with
        | nil => simp [wfExpr, wfOr] at hw
        | cons x xt =>
          obtain ⟨t, r, h1, h2⟩ := toksX_head x
          exact ⟨t, r ++ (toksXsTail xt ++ toksOrsTail os), by simp [toksExpr, toksOr, h1], h2⟩

theorem dSource_toks_rest (s : Source) (f : Nat) (rest : List Tok)
    (hf : (match s with | .tags _ => 0 | .expr e => szExpr e) ≤ f) (hw : wfSource s = true)
    (ho : headNot kwOR rest = true) (ha : headNot kwAND rest = true) :
    dSource f (toksSource s ++ rest) = some (s, rest) := by
  cases s with
  | tags m =>
    have : KV.tagParse (KV.LB :: (KV.line m ++ [KV.RB])) = some m := by simpa [wfSource] using hw
    simp [toksSource, dSource, this]
  | expr e =>
    have hw' : wfExpr e = true := by simpa [wfSource] using hw
    have he := dExpr_toks e f rest hf hw' ho ha
    obtain ⟨t, r, h1, h2⟩ := toksExpr_head e hw'
    have h2' : (t.t == TT.tags) = false := by simpa using h2
    have hshape : toksSource (.expr e) ++ rest = t :: (r ++ rest) := by simp [toksSource, h1]
    rw [hshape, dSource]
    simp only [h2', Bool.false_eq_true, if_false]
    rw [← List.cons_append, ← h1, he]; rfl

theorem dSource_toks (s : Source) (f : Nat) (hf : (match s with | .tags _ => 0 | .expr e => szExpr e) ≤ f)
    (hw : wfSource s = true) : dSource f (toksSource s) = some (s, []) := by
  have := dSource_toks_rest s f [] hf hw rfl rfl
  rwa [List.append_nil] at this

theorem dOptSource_of_dSource {f : Nat} {toks r : List Tok} {s : Source} (h : dSource f toks = some (s, r)) :
    dOptSource f toks = some (some s, r) := by
  cases toks with
  | nil => simp [dSource] at h
  | cons t tl =>
    simp only [dSource, dOptSource] at h ⊢
    split
    · rename_i ht
      rw [if_pos ht] at h
      cases hp : KV.tagParse t.v with
      | none => rw [hp] at h; cases h
      | some m => rw [hp] at h; cases h; rfl
    · rename_i ht
      rw [if_neg ht] at h
      cases he : dExpr f (t :: tl) with
      | none => rw [he] at h; cases h
      | some p => rw [he] at h; cases h; rfl


/-! ### TRUNCATE: token-level round trip of the whole statement -/

/-- a size the parser can produce: its decimal text is read back to it by `humanize.ParseBytes` (true for every uint64
that is a float64 value — `ParseBytes` computes in float64, so every `Size` in the parser's image is one; checked on
every parsed TRUNCATE by the harness), and that text is not mistaken for an operator or a parenthesis -/
def sizeOK (n : Nat) : Bool :=
  parseBytes (decNat n) == some n && !isOpTok ⟨.number, decNat n⟩ && !litMatch ⟨.number, decNat n⟩ LP

/-- the printed date text is not mistaken for an operator or a parenthesis -/
def dateTokOK (rd : Int → Bytes) (v : Int) : Bool := !isOpTok ⟨.string, rd v⟩ && !litMatch ⟨.string, rd v⟩ LP

def optAll {α} (p : α → Bool) : Option α → Bool
  | none => true
  | some a => p a

/-- the parser's image of `Truncate` (decidable) -/
def wfTruncate (rd : Int → Bytes) (t : Truncate) : Bool :=
  optAll wfSource t.source && optAll sizeOK t.minSize && optAll sizeOK t.maxSize && optAll sizeOK t.maxDbSize
  && optAll (dateTokOK rd) t.before
  && (t.dryRun || headNot kwDRYRUN (optSourceToks t.source ++ clauseToks rd t))

/-- the recorded contract of the date functions (C20's side of the boundary): the date parser reads the printed text
of the statement's BEFORE instant back to that instant -/
def DateContract (dp : Bytes → Option Int) (rd : Int → Bytes) (t : Truncate) : Prop :=
  ∀ v, t.before = some v → dp (rd v) = some v

theorem dSizeClause_toks (kw : Bytes) (hk : litMatch (tKw kw) kw = true) (o : Option Nat) (rest : List Tok)
    (ho : optAll sizeOK o = true) (hr : o = none → headNot kw rest = true) :
    dSizeClause kw (sizeToks kw o ++ rest) = some (o, rest) := by
  cases o with
  | none =>
    cases rest with
    | nil => simp [sizeToks, dSizeClause]
    | cons t r =>
      have : litMatch t kw = false := by simpa [headNot] using hr rfl
      simp [sizeToks, dSizeClause, this]
  | some n =>
    have h : parseBytes (decNat n) = some n := by
      have := ho; simp only [optAll, sizeOK, Bool.and_eq_true, beq_iff_eq] at this; exact this.1.1
    simp [sizeToks, dSizeClause, hk, h]

theorem dDateClause_toks (dp : Bytes → Option Int) (rd : Int → Bytes) (o : Option Int) (rest : List Tok)
    (ho : ∀ v, o = some v → dp (rd v) = some v) (hr : o = none → headNot kwBEFORE rest = true) :
    dDateClause dp kwBEFORE (beforeToks rd o ++ rest) = some (o, rest) := by
  cases o with
  | none =>
    cases rest with
    | nil => simp [beforeToks, dDateClause]
    | cons t r =>
      have : litMatch t kwBEFORE = false := by simpa [headNot] using hr rfl
      simp [beforeToks, dDateClause, this]
  | some v =>
    have hk : litMatch (tKw kwBEFORE) kwBEFORE = true := by decide
    simp [beforeToks, dDateClause, hk, ho v rfl]

theorem isOperandTok_tKw (k : Bytes) : isOperandTok (tKw k) = true := by simp [isOperandTok, tKw]

theorem dExpr_nil (f : Nat) : dExpr f [] = none := by
  cases f with
  | zero => simp [dExpr]
  | succ f => cases f with
    | zero => simp [dExpr, dOr]
    | succ f => cases f with
      | zero => simp [dExpr, dOr, dX]
      | succ f => simp [dExpr, dOr, dX]

/-- a clause (`KW number` / `BEFORE "date"`) is not the beginning of a source expression -/
theorem dExpr_clause_none (f : Nat) (k : Bytes) (x : Tok) (rest : List Tok) (hn : litMatch (tKw k) kwNOT = false)
    (hl : litMatch x LP = false) (ho : isOpTok x = false) : dExpr f (tKw k :: x :: rest) = none := by
  have hid : ∀ g, dIdent g (tKw k :: x :: rest) = none ∨ dIdent g (tKw k :: x :: rest) = some (.mk (tKw k).v .nil, x :: rest) := by
    intro g; cases g with
    | zero => left; simp [dIdent]
    | succ g => right; simp [dIdent, isOperandTok_tKw, hl]
  have hc : ∀ g, dCond g (tKw k :: x :: rest) = none := by
    intro g
    rcases hid g with h | h
    · simp [dCond, h]
    · cases rest with
      | nil => simp [dCond, h]
      | cons v r => simp [dCond, h, ho]
  have hb : ∀ g, dXBody g false (tKw k :: x :: rest) = none := by
    intro g; cases g with
    | zero => simp [dXBody]
    | succ g => simp [dXBody, isOperandTok_tKw, hc]
  have hx : ∀ g, dX g (tKw k :: x :: rest) = none := by
    intro g; cases g with
    | zero => simp [dX]
    | succ g => simp [dX, hn, hb]
  have hor : ∀ g, dOr g (tKw k :: x :: rest) = none := by
    intro g; cases g with
    | zero => simp [dOr]
    | succ g => simp [dOr, hx]
  cases f with
  | zero => simp [dExpr]
  | succ f => simp [dExpr, hor]

/-- what may follow the unguarded `(@@)?` source: nothing, or a clause keyword other than `NOT` / `OR` / `AND` and then a
token that is neither `(` nor a comparison operator. Such a list is not the beginning of an expression and does not
continue one. -/
def ClauseStart (c : List Tok) : Prop :=
  c = [] ∨ ∃ k x r, c = tKw k :: x :: r ∧ litMatch (tKw k) kwNOT = false ∧ litMatch (tKw k) kwOR = false
    ∧ litMatch (tKw k) kwAND = false ∧ litMatch x LP = false ∧ isOpTok x = false

theorem ClauseStart.append {a b : List Tok} (ha : ClauseStart a) (hb : ClauseStart b) : ClauseStart (a ++ b) := by
  rcases ha with rfl | ⟨k, x, r, rfl, h⟩
  · exact hb
  · exact .inr ⟨k, x, r ++ b, rfl, h⟩

theorem ClauseStart.not_or_and {c : List Tok} (hc : ClauseStart c) : headNot kwOR c = true ∧ headNot kwAND c = true := by
  rcases hc with rfl | ⟨k, x, r, rfl, _, h2, h3, _⟩
  · exact ⟨rfl, rfl⟩
  · simp [headNot, h2, h3]

theorem sizeToks_start (kw : Bytes)
    (hk : litMatch (tKw kw) kwNOT = false ∧ litMatch (tKw kw) kwOR = false ∧ litMatch (tKw kw) kwAND = false)
    (o : Option Nat) (h : optAll sizeOK o = true) : ClauseStart (sizeToks kw o) := by
  cases o with
  | none => exact .inl rfl
  | some n =>
    simp only [optAll, sizeOK, Bool.and_eq_true, Bool.not_eq_true'] at h
    exact .inr ⟨kw, _, [], rfl, hk.1, hk.2.1, hk.2.2, h.2, h.1.2⟩

theorem beforeToks_start (rd : Int → Bytes) (o : Option Int) (h : optAll (dateTokOK rd) o = true) :
    ClauseStart (beforeToks rd o) := by
  cases o with
  | none => exact .inl rfl
  | some v =>
    simp only [optAll, dateTokOK, Bool.and_eq_true, Bool.not_eq_true'] at h
    exact .inr ⟨kwBEFORE, _, [], rfl, by decide, by decide, by decide, h.2, h.1⟩

theorem clauseToks_start (rd : Int → Bytes) (t : Truncate)
    (h1 : optAll sizeOK t.minSize = true) (h2 : optAll sizeOK t.maxSize = true) (h3 : optAll sizeOK t.maxDbSize = true)
    (h4 : optAll (dateTokOK rd) t.before = true) : ClauseStart (clauseToks rd t) :=
  (sizeToks_start kwMINSIZE (by decide) _ h1).append ((sizeToks_start kwMAXSIZE (by decide) _ h2).append
    ((beforeToks_start rd _ h4).append (sizeToks_start kwMAXDBSIZE (by decide) _ h3)))

theorem dOptSource_toks (f : Nat) (src : Option Source) (c : List Tok)
    (hf : (match src with | some (.expr e) => szExpr e | _ => 0) ≤ f) (hw : optAll wfSource src = true)
    (hc : ClauseStart c) : dOptSource f (optSourceToks src ++ c) = some (src, c) := by
  cases src with
  | none =>
    rcases hc with rfl | ⟨k, x, r, rfl, h1, _, _, hl, ho⟩
    · rfl
    · have ht : ((tKw k).t == TT.tags) = false := rfl
      simp [optSourceToks, dOptSource, ht, dExpr_clause_none f k x r h1 hl ho]
  | some s =>
    exact dOptSource_of_dSource (dSource_toks_rest s f c (by cases s <;> exact hf) hw hc.not_or_and.1 hc.not_or_and.2)

theorem dDryRun_toks (dry : Bool) (rest : List Tok) (h : dry = true ∨ headNot kwDRYRUN rest = true) :
    dDryRun ((if dry then [tKw kwDRYRUN] else []) ++ rest) = (dry, rest) := by
  cases dry with
  | true =>
    have : litMatch (tKw kwDRYRUN) kwDRYRUN = true := by decide
    simp [dDryRun, this]
  | false =>
    have h' : headNot kwDRYRUN rest = true := by rcases h with h | h; cases h; exact h
    cases rest with
    | nil => simp [dDryRun]
    | cons t r =>
      have : litMatch t kwDRYRUN = false := by simpa [headNot] using h'
      simp [dDryRun, this]

theorem headNot_clause_tail (kw : Bytes) (l : List Tok)
    (h : l = [] ∨ ∃ k x r, l = tKw k :: x :: r ∧ litMatch (tKw k) kw = false) : headNot kw l = true := by
  rcases h with rfl | ⟨k, x, r, rfl, hk⟩
  · simp [headNot]
  · simp [headNot, hk]

/-- **the direct parser inverts `tokensOf` on every TRUNCATE statement in the parser's image**, given the date
contract for its BEFORE instant -/
theorem dTruncate_toks (dp : Bytes → Option Int) (rd : Int → Bytes) (t : Truncate) (f : Nat)
    (hf : (match t.source with | some (.expr e) => szExpr e | _ => 0) ≤ f)
    (hw : wfTruncate rd t = true) (hd : DateContract dp rd t) :
    directTruncateFuel dp f (toksTruncate rd t) = some t := by
  simp only [wfTruncate, Bool.and_eq_true, Bool.or_eq_true] at hw
  obtain ⟨⟨⟨⟨⟨hsrc, hmn⟩, hmx⟩, hdb⟩, hbf⟩, hdry⟩ := hw
  have hT : litMatch (tKw kwTRUNCATE) kwTRUNCATE = true := by decide
  have h1 := dDryRun_toks t.dryRun (optSourceToks t.source ++ clauseToks rd t) hdry
  have h2 := dOptSource_toks f t.source (clauseToks rd t) hf hsrc (clauseToks_start rd t hmn hmx hdb hbf)
  -- the clause chain
  have c4 := dSizeClause_toks kwMAXDBSIZE (by decide) t.maxDbSize [] hdb (by intro _; simp [headNot])
  have c3 := dDateClause_toks dp rd t.before (sizeToks kwMAXDBSIZE t.maxDbSize ++ []) (fun v hv => hd v hv) (by
    intro _; cases t.maxDbSize <;> simp [sizeToks, headNot] <;> decide)
  have c2 := dSizeClause_toks kwMAXSIZE (by decide) t.maxSize (beforeToks rd t.before ++ (sizeToks kwMAXDBSIZE t.maxDbSize ++ [])) hmx (by
    intro _; cases t.before <;> cases t.maxDbSize <;> simp [sizeToks, beforeToks, headNot] <;> decide)
  have c1 := dSizeClause_toks kwMINSIZE (by decide) t.minSize
    (sizeToks kwMAXSIZE t.maxSize ++ (beforeToks rd t.before ++ (sizeToks kwMAXDBSIZE t.maxDbSize ++ []))) hmn (by
    intro _; cases t.maxSize <;> cases t.before <;> cases t.maxDbSize <;> simp [sizeToks, beforeToks, headNot] <;> decide)
  simp only [List.append_nil] at c1 c2 c3 c4
  simp only [toksTruncate, directTruncateFuel, hT, if_true, dTruncBody, h1, h2]
  simp only [clauseToks, c1, c2, c3, c4]

end Logrange.Lql

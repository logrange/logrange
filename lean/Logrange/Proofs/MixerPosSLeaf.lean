import Logrange.Proofs.MixerPosS
import Logrange.Proofs.MixerPosLeaf
/-!
# The in-memory leaf meets `LawfulSourcePosS` (with `sync := True`), incl. the direction-switch law
-/
namespace Logrange.Mixer
namespace Leaf

/-- the head of the stream in terms of `clamp` -/
theorem view_head_clamp (l : Leaf) (h : l.wf) :
    l.view.head? = if l.clamp < l.les.length ∧ l.clamp ≥ 0 then (l.les[l.clamp.toNat]?).map l.ev else none := by
  rw [← (get_spec l h).1, get_eq]

theorem pview_head (l : Leaf) (h : l.wf) (p : Int × Int) (hp : (pview l).head? = some p) :
    l.clamp < l.les.length ∧ l.clamp ≥ 0 ∧ p = ((l.tags : Int), l.clamp) := by
  simp only [pview, List.head?_map] at hp
  rw [view_head_clamp l.idxLeaf (idxLeaf_wf l h), idxLeaf_clamp, idxLeaf_len] at hp
  split at hp
  · rename_i hc
    have hlt : l.clamp.toNat < l.les.length := by omega
    simp only [idxLeaf, List.getElem?_map, List.getElem?_range hlt, Option.map_some, Option.some.injEq] at hp
    refine ⟨hc.1, hc.2, ?_⟩
    rw [← hp]
    simp only [ev]
    congr 1
    omega
  · simp at hp

instance instLawfulLeafPosS : LawfulSourcePosS Leaf where
  pview := pview
  pview_length := instLawfulLeafPos.pview_length
  sync _ := True
  sync_get _ _ _ := trivial
  sync_next _ _ _ _ := trivial
  sync_release _ _ _ := trivial
  pos_get l h _ p hp := instLawfulLeafPos.pos_get l h p hp
  pview_get := instLawfulLeafPos.pview_get
  pview_next := instLawfulLeafPos.pview_next
  pview_release := instLawfulLeafPos.pview_release
  head_setBackward bk l h _ p hp hpos := by
    obtain ⟨c1, c2, rfl⟩ := pview_head l h p hp
    have hidx : l.idx = l.clamp := by
      have : ((l.tags : Int), l.idx) = ((l.tags : Int), l.clamp) := hpos
      exact (Prod.mk.injEq _ _ _ _ ▸ this).2
    have h0 : 0 ≤ l.idx := by omega
    have h1 : l.idx < l.les.length := by omega
    have hw' : (l.setBackward bk).wf := h
    have hc' : (l.setBackward bk).clamp = l.idx := clamp_inrange (l.setBackward bk) h0 h1
    refine ⟨?_, ?_, ?_⟩
    · show (pview (l.setBackward bk)).head? = _
      have hne : (pview (l.setBackward bk)).head? ≠ none := by
        simp only [pview, List.head?_map]
        rw [view_head_clamp _ (idxLeaf_wf _ hw'), idxLeaf_clamp, idxLeaf_len, hc']
        have : l.idx < (l.setBackward bk).les.length ∧ l.idx ≥ 0 := ⟨h1, h0⟩
        have hlt : l.idx.toNat < (l.setBackward bk).les.length := by
          have : (l.setBackward bk).les.length = l.les.length := rfl
          omega
        simp [this, idxLeaf, List.getElem?_range hlt]
      cases hq : (pview (l.setBackward bk)).head? with
      | none => exact absurd hq hne
      | some q =>
        obtain ⟨_, _, rfl⟩ := pview_head _ hw' q hq
        rw [hc', ← hidx]; rfl
    · show (l.setBackward bk).view.head? = l.view.head?
      rw [view_head_clamp _ hw', view_head_clamp l h, hc', ← hidx]; rfl
    · show (((l.setBackward bk).tags : Int), (l.setBackward bk).idx) = _
      rw [← hidx]; rfl

end Leaf
end Logrange.Mixer

import Logrange.Proofs.LqlEngine
/-!
# C12: engine on the regenerated grammar simulates the direct parsers (part 2: `Condition`, `XCondition`, `OrCondition`,
`Expression`)

`simCond`, `simAlt`/`simX_step`, `simAndTail`/`simOr_step`, `simOrTail`/`simExpr_step`, `simExpr`: for every cursor, every
engine fuel ≥ 60·(remaining tokens)+58 and every direct-parser fuel ≥ 4·(remaining tokens)+5 the engine's result on the struct
and the direct parser's result on the remaining tokens are related by `Sim…` (same acceptance, same consumed tokens, values
related by `RExpr`; on rejection the engine's result is an error or a match that stops before an `AND`/`OR` it cannot continue).
-/
namespace Logrange.Lql
open Logrange.Generated.C12

/-- a disjunction of literals: first match, the token's text whichever literal matched -/
theorem disj_lits (c : Ctx) (cur : Nat) (o : Tok) (ho : c.toks[cur]? = some o) :
    ∀ (ls : List Bytes) (f : Nat), ls.length + 1 < f →
      parseDisj c f (ls.map Node.lit) cur none = if ls.any (fun l => litMatch o l) then .ok [.str o.v] [] (cur+1) else .noMatch
  | [], f, hf => by
    obtain ⟨g, rfl⟩ := Nat.exists_eq_add_of_le' (show 1 ≤ f by omega)
    simp [parseDisj_nil]
  | l :: ls, f, hf => by
    obtain ⟨g, rfl⟩ := Nat.exists_eq_add_of_le' (show 2 ≤ f by simp at hf; omega)
    have ih := disj_lits c cur o ho ls (g+1) (by simp at hf; omega)
    simp only [List.map_cons, parseDisj_cons, parse_lit, peek, ho, List.any_cons]
    by_cases h : litMatch o l = true
    · simp [h]
    · simp [h, ih]

theorem disj_lits_none (c : Ctx) (cur : Nat) (ho : c.toks[cur]? = none) :
    ∀ (ls : List Bytes) (f : Nat), ls.length + 1 < f → parseDisj c f (ls.map Node.lit) cur none = .noMatch
  | [], f, hf => by
    obtain ⟨g, rfl⟩ := Nat.exists_eq_add_of_le' (show 1 ≤ f by omega)
    simp [parseDisj_nil]
  | l :: ls, f, hf => by
    obtain ⟨g, rfl⟩ := Nat.exists_eq_add_of_le' (show 2 ≤ f by simp at hf; omega)
    have ih := disj_lits_none c cur ho ls (g+1) (by simp at hf; omega)
    simp only [List.map_cons, parseDisj_cons, parse_lit, peek, ho, ih]

/-- the operator literals of `Condition.Op` as the REGENERATED grammar lists them — in whatever order: only the set matters
(first match over literals that exclude each other), so a re-ordering of the alternatives in the struct tag does not break the proof,
whereas an added, removed or changed literal breaks `grammarOps_perm` -/
def grammarOps : List Bytes :=
  match grammar "Condition" with
  | some (.seq [_, .group (.capture _ (.group (.disj ns) _)) _, _]) =>
    ns.filterMap (fun n => match n with | .lit s => some s | _ => none)
  | _ => []
def opGroup : Node := .group (.capture "Op" (.group (.disj (grammarOps.map .lit)) .once)) .once
def valGroup : Node := .group (.disj [(.capture "Value" (.ref .string)), (.capture "Value" (.ref .ident)), (.capture "Value" (.ref .number))]) .once
def condBody : Node := .seq [(.capture "Ident" (.strct "Identifier")), opGroup, valGroup]
theorem g_cond : grammar "Condition" = some condBody := by rw [grammar]; rfl
theorem grammarOps_perm : grammarOps.Perm condOps := by decide +kernel
theorem grammarOps_any (o : Tok) : grammarOps.any (fun l => litMatch o l) = isOpTok o := grammarOps_perm.any_eq
theorem grammarOps_len : grammarOps.length = 10 := by rw [grammarOps_perm.length_eq]; rfl

theorem opGroup_none (c : Ctx) (f cur : Nat) (hn : c.toks[cur]? = none) : parse c (f+16) opGroup cur = .noMatch := by
  have := disj_lits_none c cur hn grammarOps (f+12) (by rw [grammarOps_len]; omega)
  simp only [opGroup, parse_once, parse_capture, parse_disj, this]
theorem opGroup_some (c : Ctx) (f cur : Nat) (o : Tok) (ho : c.toks[cur]? = some o) :
    parse c (f+16) opGroup cur = if isOpTok o then .ok [.str []] [("Op", [.str o.v])] (cur+1) else .noMatch := by
  have := disj_lits c cur o ho grammarOps (f+12) (by rw [grammarOps_len]; omega)
  rw [grammarOps_any] at this
  simp only [opGroup, parse_once, parse_capture, parse_disj, this]
  cases isOpTok o <;> simp
theorem valGroup_none (c : Ctx) (f cur : Nat) (hn : c.toks[cur]? = none) : parse c (f+7) valGroup cur = .noMatch := by
  show parse c (f+7) (.group (.disj ([Node.ref .string, .ref .ident, .ref .number].map (.capture "Value"))) .once) cur = _
  rw [parse_once, parse_disj, disj_caps_none c "Value" cur hn _ (by simp) (f+5) (by simp)]
theorem valGroup_some (c : Ctx) (f cur : Nat) (v : Tok) (hv : c.toks[cur]? = some v) :
    parse c (f+7) valGroup cur = if isValueTok v then .ok [.str []] [("Value", [.str v.v])] (cur+1) else .noMatch := by
  show parse c (f+7) (.group (.disj ([Node.ref .string, .ref .ident, .ref .number].map (.capture "Value"))) .once) cur = _
  rw [parse_once, parse_disj, disj_caps c "Value" cur v hv _ (by simp) (f+5) (by simp)]
  simp [tokTest, isValueTok, Bool.or_assoc]

def valCond (cd : Cond) : Val := .node "Condition" [("Ident", [valIdent cd.ident]), ("Op", [.str cd.op]), ("Value", [.str cd.value])]

def SimCond (c : Ctx) (cur : Nat) (r : Res) (d : PR Cond) : Prop :=
  match d with
  | some (cd, rest) => ∃ cur', r = .ok [valCond cd] [] cur' ∧ rest = c.toks.drop cur' ∧ cur < cur' ∧ cur' ≤ c.toks.length
  | none => (r = .noMatch ∧ ¬ operandAt c cur) ∨ (∃ k, r = .err k true ∧ cur + 1 ≤ k ∧ operandAt c cur)

theorem LP_not_op (p : Tok) (h : litMatch p LP = true) : isOpTok p = false := by
  simp only [isOpTok, condOps, List.any_cons, List.any_nil, Bool.or_false, Bool.or_eq_false_iff]
  refine ⟨?_, ?_, ?_, ?_, ?_, ?_, ?_, ?_, ?_, ?_⟩ <;> exact litMatch_excl p _ _ (by decide) (by decide) h

theorem simCond (c : Ctx) (hg : c.grammar = grammar) (cur : Nat) (fe fd : Nat) (hcl : cur ≤ c.toks.length)
    (hfe : 60 * (c.toks.length - cur) + 40 ≤ fe) (hfd : 4 * (c.toks.length - cur) + 1 ≤ fd) :
    SimCond c cur (parse c fe (.strct "Condition") cur) (dCond fd (c.toks.drop cur)) := by
  obtain ⟨g, rfl⟩ := Nat.exists_eq_add_of_le' (show 40 ≤ fe by omega)
  have hin := simIdent c hg _ cur (Nat.le_refl _) (g+36) fd hcl (by omega) hfd
  rw [parse_strct c _ "Condition" condBody cur (hg ▸ g_cond)]
  simp only [condBody, parse_seq, parseSeq_cons, parse_capture, dCond]
  generalize hr : parse c (g+36) (.strct "Identifier") cur = r at hin ⊢
  cases hd : dIdent fd (c.toks.drop cur) with
  | none =>
    rw [hd] at hin
    simp only [SimCond]
    rcases hin with ⟨rfl, hno⟩ | ⟨k', rfl, hk', hop⟩ | ⟨v, rfl, hop, p, hp, hpl⟩
    · left; exact ⟨by simp, hno⟩
    · right; exact ⟨k', by simp, by omega, hop⟩
    · right
      refine ⟨cur+1, ?_, by omega, hop⟩
      simp [opGroup_some c _ _ p hp, LP_not_op p hpl]
  | some res =>
    obtain ⟨i, rest1⟩ := res
    rw [hd] at hin
    obtain ⟨cur1, rfl, hrest, h1, h2, hopAt⟩ := hin
    subst hrest
    simp only []
    cases ho : c.toks[cur1]? with
    | none =>
      rw [drop_of_none ho]
      simp only [SimCond]
      right; exact ⟨cur1, by simp [show parse c (g+36) opGroup cur1 = .noMatch from opGroup_none c (g+20) cur1 ho], by omega, hopAt⟩
    | some o =>
      rw [drop_of_get ho]
      have hlo := lt_of_get ho
      cases hio : isOpTok o with
      | false =>
        have e : parse c (g + 36) opGroup cur1 = .noMatch := by
          have h := opGroup_some c (g+20) cur1 o ho; simp [hio] at h; exact h
        cases hv : c.toks[cur1+1]? with
        | none =>
          rw [drop_of_none hv]; simp only [SimCond]
          right; exact ⟨cur1, by simp [e], by omega, hopAt⟩
        | some v =>
          rw [drop_of_get hv]; simp only [SimCond, hio, Bool.false_and, Bool.false_eq_true, if_false]
          right; exact ⟨cur1, by simp [e], by omega, hopAt⟩
      | true =>
        have e : parse c (g + 36) opGroup cur1 = .ok [.str []] [("Op", [.str o.v])] (cur1+1) := by
          have h := opGroup_some c (g+20) cur1 o ho; simp [hio] at h; exact h
        cases hv : c.toks[cur1+1]? with
        | none =>
          rw [drop_of_none hv]; simp only [SimCond]
          right; exact ⟨cur1+1, by simp [e, show parse c (g+35) valGroup (cur1+1) = .noMatch from valGroup_none c (g+28) _ hv], by omega, hopAt⟩
        | some v =>
          have hlv := lt_of_get hv
          rw [drop_of_get hv]
          cases hiv : isValueTok v with
          | false =>
            simp only [SimCond, hio, hiv, Bool.and_false, Bool.false_eq_true, if_false]
            right; exact ⟨cur1+1, by simp [e, show parse c (g+35) valGroup (cur1+1) = _ from valGroup_some c (g+28) _ v hv, hiv], by omega, hopAt⟩
          | true =>
            simp only [SimCond, hio, hiv, Bool.and_true, if_true]
            exact ⟨cur1+1+1, by simp [e, show parse c (g+35) valGroup (cur1+1) = _ from valGroup_some c (g+28) _ v hv, hiv, parseSeq_nil, valCond], rfl, by omega, by omega⟩


/-! ## value relations (the engine's generic values vs the typed AST) -/
def NotCaps (neg : Bool) (pre : Caps) : Prop := if neg then ∃ t, pre = [("Not", [.str t])] else pre = []

mutual
def RExpr : Expr → Val → Prop
  | .mk ors, v => ∃ caps, v = .node "Expression" caps ∧ ROrs ors caps
def ROrs : OrList → Caps → Prop
  | .nil, caps => caps = []
  | .cons h t, caps => ∃ vh ct, caps = ("Or", [vh]) :: ct ∧ ROr h vh ∧ ROrs t ct
def ROr : OrCond → Val → Prop
  | .mk xs, v => ∃ caps, v = .node "OrCondition" caps ∧ RXs xs caps
def RXs : XList → Caps → Prop
  | .nil, caps => caps = []
  | .cons h t, caps => ∃ vh ct, caps = ("And", [vh]) :: ct ∧ RX h vh ∧ RXs t ct
def RX : XCond → Val → Prop
  | .cond neg cd, v => ∃ pre, v = .node "XCondition" (pre ++ [("Cond", [valCond cd])]) ∧ NotCaps neg pre
  | .paren neg e, v => ∃ pre ve, v = .node "XCondition" (pre ++ [("Expr", [ve])]) ∧ NotCaps neg pre ∧ RExpr e ve
end

def SimX (c : Ctx) (cur : Nat) (r : Res) (d : PR XCond) : Prop :=
  match d with
  | some (x, rest) => ∃ v cur', r = .ok [v] [] cur' ∧ RX x v ∧ rest = c.toks.drop cur' ∧ cur < cur' ∧ cur' ≤ c.toks.length
  | none => ∃ k, r = .err k true ∧ cur ≤ k
def SimOr (c : Ctx) (cur : Nat) (r : Res) (d : PR OrCond) : Prop :=
  match d with
  | some (x, rest) => ∃ v cur', r = .ok [v] [] cur' ∧ ROr x v ∧ rest = c.toks.drop cur' ∧ cur < cur' ∧ cur' ≤ c.toks.length
  | none => (∃ k, r = .err k true ∧ cur ≤ k) ∨ (∃ v cur', r = .ok [v] [] cur' ∧ cur < cur' ∧ litAt c cur' kwAND)
def SimExpr (c : Ctx) (cur : Nat) (r : Res) (d : PR Expr) : Prop :=
  match d with
  | some (x, rest) => ∃ v cur', r = .ok [v] [] cur' ∧ RExpr x v ∧ rest = c.toks.drop cur' ∧ cur < cur' ∧ cur' ≤ c.toks.length
  | none => (∃ k, r = .err k true ∧ cur ≤ k) ∨ (∃ v cur', r = .ok [v] [] cur' ∧ cur < cur' ∧ (litAt c cur' kwAND ∨ litAt c cur' kwOR))

def SimXAt (c : Ctx) (cur : Nat) : Prop :=
  ∀ fe fd, 60 * (c.toks.length - cur) + 50 ≤ fe → 4 * (c.toks.length - cur) + 3 ≤ fd →
    SimX c cur (parse c fe (.strct "XCondition") cur) (dX fd (c.toks.drop cur))
def SimOrAt (c : Ctx) (cur : Nat) : Prop :=
  ∀ fe fd, 60 * (c.toks.length - cur) + 54 ≤ fe → 4 * (c.toks.length - cur) + 4 ≤ fd →
    SimOr c cur (parse c fe (.strct "OrCondition") cur) (dOr fd (c.toks.drop cur))
def SimExprAt (c : Ctx) (cur : Nat) : Prop :=
  ∀ fe fd, 60 * (c.toks.length - cur) + 58 ≤ fe → 4 * (c.toks.length - cur) + 5 ≤ fd →
    SimExpr c cur (parse c fe (.strct "Expression") cur) (dExpr fd (c.toks.drop cur))

/-- the hypothesis on token lists under which the direct parser's commitment "an operand token starts a condition" is
what the engine does too: no Ident / Keyword token has the text `(` (true of every token list the lexer produces) -/
def OperandNotParen (toks : List Tok) : Prop := ∀ t ∈ toks, isOperandTok t = true → litMatch t LP = false

theorem AND_not_OR (tk : Tok) (h : litMatch tk kwAND = true) : litMatch tk kwOR = false := litMatch_excl tk _ _ (by decide) (by decide) h


def SimAndTail (c : Ctx) (cur : Nat) (caps : Caps) (r : Res) (d : PR XList) : Prop :=
  match d with
  | some (xs, rest) => ∃ vals' caps' cur', r = .ok vals' (caps ++ caps') cur' ∧ RXs xs caps' ∧ rest = c.toks.drop cur' ∧ cur ≤ cur' ∧ cur' ≤ c.toks.length
  | none => (∃ k hv, r = .err k hv ∧ cur ≤ k) ∨ (∃ vals' caps' cur', r = .ok vals' caps' cur' ∧ cur ≤ cur' ∧ litAt c cur' kwAND)

theorem simAndTail (c : Ctx) (base : Nat) (hX : ∀ cur', base ≤ cur' → cur' ≤ c.toks.length → SimXAt c cur') :
    ∀ (k cur : Nat), c.toks.length - cur ≤ k → base ≤ cur → cur ≤ c.toks.length → ∀ (vals : List Val) (caps : Caps) (fe fd : Nat),
      60 * (c.toks.length - cur) + 30 ≤ fe → 4 * (c.toks.length - cur) + 1 ≤ fd →
      SimAndTail c cur caps (parseRep c fe (loopNode kwAND "And" "XCondition") cur vals caps) (dAndTail fd (c.toks.drop cur)) := by
  intro k cur hk hb hcl vals caps fe fd hfe hfd
  have h := simLoop c kwAND "And" "XCondition" dX dAndTail .nil .cons (fun _ => rfl)
    (fun f t r => by
      rw [dAndTail]; split
      · cases dX f r with
        | none => rfl
        | some p => obtain ⟨x, r1⟩ := p; simp only [Option.bind_some]; cases dAndTail f r1 <;> rfl
      · rfl)
    RX RXs (by simp only [RXs]) (fun e es v cp h1 h2 => by simp only [RXs]; exact ⟨v, cp, rfl, h1, h2⟩)
    (fun cur => litAt c cur kwAND) (fun _ h => h) base
    (fun cur' h1 h2 fe fd hfe hfd => by
      have hin := hX cur' (by omega) h2 fe fd (by omega) (by omega)
      cases hd : dX fd (c.toks.drop cur') with
      | none => rw [hd] at hin; exact Or.inr (Or.inl hin)
      | some res => rw [hd] at hin; exact hin)
    k cur hk hb hcl vals caps fe fd hfe hfd
  cases hd : dAndTail fd (c.toks.drop cur) with
  | none => rw [hd] at h; exact h
  | some res => rw [hd] at h; exact h


def SimOrTail (c : Ctx) (cur : Nat) (caps : Caps) (r : Res) (d : PR OrList) : Prop :=
  match d with
  | some (xs, rest) => ∃ vals' caps' cur', r = .ok vals' (caps ++ caps') cur' ∧ ROrs xs caps' ∧ rest = c.toks.drop cur' ∧ cur ≤ cur' ∧ cur' ≤ c.toks.length
  | none => (∃ k hv, r = .err k hv ∧ cur ≤ k)
      ∨ (∃ vals' caps' cur', r = .ok vals' caps' cur' ∧ cur ≤ cur' ∧ (litAt c cur' kwAND ∨ litAt c cur' kwOR))

theorem simOrTail (c : Ctx) (base : Nat) (hO : ∀ cur', base ≤ cur' → cur' ≤ c.toks.length → SimOrAt c cur') :
    ∀ (k cur : Nat), c.toks.length - cur ≤ k → base ≤ cur → cur ≤ c.toks.length → ∀ (vals : List Val) (caps : Caps) (fe fd : Nat),
      60 * (c.toks.length - cur) + 30 ≤ fe → 4 * (c.toks.length - cur) + 1 ≤ fd →
      SimOrTail c cur caps (parseRep c fe (loopNode kwOR "Or" "OrCondition") cur vals caps) (dOrTail fd (c.toks.drop cur)) := by
  intro k cur hk hb hcl vals caps fe fd hfe hfd
  have h := simLoop c kwOR "Or" "OrCondition" dOr dOrTail .nil .cons (fun _ => rfl)
    (fun f t r => by
      rw [dOrTail]; split
      · cases dOr f r with
        | none => rfl
        | some p => obtain ⟨x, r1⟩ := p; simp only [Option.bind_some]; cases dOrTail f r1 <;> rfl
      · rfl)
    ROr ROrs (by simp only [ROrs]) (fun e es v cp h1 h2 => by simp only [ROrs]; exact ⟨v, cp, rfl, h1, h2⟩)
    (fun cur => litAt c cur kwAND ∨ litAt c cur kwOR) (fun _ h => Or.inr h) base
    (fun cur' h1 h2 fe fd hfe hfd => by
      have hin := hO cur' (by omega) h2 fe fd (by omega) (by omega)
      cases hd : dOr fd (c.toks.drop cur') with
      | none =>
        rw [hd] at hin
        rcases hin with h | ⟨v, cur2, h, hlt, q, hq, hqa⟩
        · exact Or.inr (Or.inl h)
        · exact Or.inr (Or.inr ⟨v, cur2, h, hlt, fun q' hq' => by rw [hq] at hq'; cases hq'; exact AND_not_OR q hqa, Or.inl ⟨q, hq, hqa⟩⟩)
      | some res => rw [hd] at hin; exact hin)
    k cur hk hb hcl vals caps fe fd hfe hfd
  cases hd : dOrTail fd (c.toks.drop cur) with
  | none => rw [hd] at h; exact h
  | some res => rw [hd] at h; exact h


def orBody : Node := .seq [(.capture "And" (.strct "XCondition")), (.group (loopNode kwAND "And" "XCondition") .zeroOrMore)]
theorem g_or : grammar "OrCondition" = some orBody := by rw [grammar]; rfl
def exprBody : Node := .seq [(.capture "Or" (.strct "OrCondition")), (.group (loopNode kwOR "Or" "OrCondition") .zeroOrMore)]
theorem g_expr : grammar "Expression" = some exprBody := by rw [grammar]; rfl

theorem simOr_step (c : Ctx) (hg : c.grammar = grammar) (cur : Nat) (hcl : cur ≤ c.toks.length)
    (hX : ∀ cur', cur ≤ cur' → cur' ≤ c.toks.length → SimXAt c cur') : SimOrAt c cur := by
  intro fe fd hfe hfd
  obtain ⟨g, rfl⟩ := Nat.exists_eq_add_of_le' (show 54 ≤ fe by omega)
  obtain ⟨fd', rfl⟩ := Nat.exists_eq_add_of_le' (show 1 ≤ fd by omega)
  have hin := hX cur (Nat.le_refl _) hcl (g+50) fd' (by omega) (by omega)
  rw [parse_strct c _ "OrCondition" orBody cur (hg ▸ g_or)]
  simp only [orBody, parse_seq, parseSeq_cons, parse_capture, parse_rep, dOr]
  generalize hr : parse c (g+50) (.strct "XCondition") cur = r at hin ⊢
  cases hd : dX fd' (c.toks.drop cur) with
  | none =>
    rw [hd] at hin
    obtain ⟨k, rfl, hk⟩ := hin
    simp only [SimOr]
    left; exact ⟨k, by simp, hk⟩
  | some res =>
    obtain ⟨x, rest1⟩ := res
    rw [hd] at hin
    obtain ⟨vx, cur1, rfl, hrx, hrest, h1, h2⟩ := hin
    subst hrest
    have hloop := simAndTail c cur hX _ cur1 (Nat.le_refl _) (by omega) h2 [] [] (g+49) fd' (by omega) (by omega)
    simp only []
    generalize hrep : parseRep c (g+49) (loopNode kwAND "And" "XCondition") cur1 [] [] = rr at hloop ⊢
    cases hd2 : dAndTail fd' (c.toks.drop cur1) with
    | none =>
      rw [hd2] at hloop
      simp only [SimAndTail] at hloop
      simp only [SimOr]
      rcases hloop with ⟨k', hv, rfl, hk'⟩ | ⟨vals', caps', cur2, rfl, hc2, hst⟩
      · left; exact ⟨k', by simp, by omega⟩
      · right; exact ⟨.node "OrCondition" (("And", [vx]) :: caps'), cur2, by simp [parseSeq_nil], by omega, hst⟩
    | some res2 =>
      obtain ⟨xs, rest2⟩ := res2
      rw [hd2] at hloop
      simp only [SimAndTail] at hloop
      obtain ⟨vals', caps', cur2, rfl, hrxs, hrest2, hc2, hl2⟩ := hloop
      subst hrest2
      simp only [SimOr]
      refine ⟨.node "OrCondition" (("And", [vx]) :: caps'), cur2, by simp [parseSeq_nil], ?_, rfl, by omega, hl2⟩
      simp only [ROr]; exact ⟨_, rfl, by simp only [RXs]; exact ⟨vx, caps', rfl, hrx, hrxs⟩⟩

theorem simExpr_step (c : Ctx) (hg : c.grammar = grammar) (cur : Nat) (hcl : cur ≤ c.toks.length)
    (hO : ∀ cur', cur ≤ cur' → cur' ≤ c.toks.length → SimOrAt c cur') : SimExprAt c cur := by
  intro fe fd hfe hfd
  obtain ⟨g, rfl⟩ := Nat.exists_eq_add_of_le' (show 58 ≤ fe by omega)
  obtain ⟨fd', rfl⟩ := Nat.exists_eq_add_of_le' (show 1 ≤ fd by omega)
  have hin := hO cur (Nat.le_refl _) hcl (g+54) fd' (by omega) (by omega)
  rw [parse_strct c _ "Expression" exprBody cur (hg ▸ g_expr)]
  simp only [exprBody, parse_seq, parseSeq_cons, parse_capture, parse_rep, dExpr]
  generalize hr : parse c (g+54) (.strct "OrCondition") cur = r at hin ⊢
  cases hd : dOr fd' (c.toks.drop cur) with
  | none =>
    rw [hd] at hin
    simp only [SimExpr]
    rcases hin with ⟨k, rfl, hk⟩ | ⟨v, cur1, rfl, hlt1, q, hq, hqa⟩
    · left; exact ⟨k, by simp, hk⟩
    · right
      have hqo : litMatch q kwOR = false := AND_not_OR q hqa
      simp only []
      rw [parseRep_succ, loop_step_nolit c _ _ _ _ _ q hq hqo]
      exact ⟨.node "Expression" [("Or", [v])], cur1, by simp [parseSeq_nil], hlt1, Or.inl ⟨q, hq, hqa⟩⟩
  | some res =>
    obtain ⟨x, rest1⟩ := res
    rw [hd] at hin
    obtain ⟨vx, cur1, rfl, hrx, hrest, h1, h2⟩ := hin
    subst hrest
    have hloop := simOrTail c cur hO _ cur1 (Nat.le_refl _) (by omega) h2 [] [] (g+53) fd' (by omega) (by omega)
    simp only []
    generalize hrep : parseRep c (g+53) (loopNode kwOR "Or" "OrCondition") cur1 [] [] = rr at hloop ⊢
    cases hd2 : dOrTail fd' (c.toks.drop cur1) with
    | none =>
      rw [hd2] at hloop
      simp only [SimOrTail] at hloop
      simp only [SimExpr]
      rcases hloop with ⟨k', hv, rfl, hk'⟩ | ⟨vals', caps', cur2, rfl, hc2, hst⟩
      · left; exact ⟨k', by simp, by omega⟩
      · right; exact ⟨.node "Expression" (("Or", [vx]) :: caps'), cur2, by simp [parseSeq_nil], by omega, hst⟩
    | some res2 =>
      obtain ⟨xs, rest2⟩ := res2
      rw [hd2] at hloop
      simp only [SimOrTail] at hloop
      obtain ⟨vals', caps', cur2, rfl, hrxs, hrest2, hc2, hl2⟩ := hloop
      subst hrest2
      simp only [SimExpr]
      refine ⟨.node "Expression" (("Or", [vx]) :: caps'), cur2, by simp [parseSeq_nil], ?_, rfl, by omega, hl2⟩
      simp only [RExpr]; exact ⟨_, rfl, by simp only [ROrs]; exact ⟨vx, caps', rfl, hrx, hrxs⟩⟩


def notGroup : Node := .group (.capture "Not" (.lit [78, 79, 84])) .zeroOrOne
def parenSeq : Node := .seq [(.lit [40]), (.capture "Expr" (.strct "Expression")), (.lit [41])]
def altGroup : Node := .group (.disj [(.capture "Cond" (.strct "Condition")), parenSeq]) .once
def xBody : Node := .seq [notGroup, altGroup]
theorem g_x : grammar "XCondition" = some xBody := by rw [grammar]; rfl

theorem paren_none (c : Ctx) (f cur : Nat) (hn : c.toks[cur]? = none) : parse c (f+3) parenSeq cur = .noMatch := by
  simp only [parenSeq, parse_seq, parseSeq_cons, parse_lit, peek, hn, if_true]
theorem paren_nolit (c : Ctx) (f cur : Nat) (t : Tok) (hn : c.toks[cur]? = some t) (hc : litMatch t [40] = false) :
    parse c (f+3) parenSeq cur = .noMatch := by
  simp only [parenSeq, parse_seq, parseSeq_cons, parse_lit, peek, hn, hc, if_true, Bool.false_eq_true, if_false]
theorem paren_lit (c : Ctx) (f cur : Nat) (t : Tok) (hn : c.toks[cur]? = some t) (hc : litMatch t [40] = true) :
    parse c (f+5) parenSeq cur =
      (match parse c (f+1) (.strct "Expression") (cur+1) with
       | .ok v cp cur2 =>
         (match c.toks[cur2]? with
          | some q => if litMatch q [41] then .ok [.str t.v, .str [], .str q.v] (cp ++ [("Expr", v)]) (cur2+1) else .err cur2 true
          | none => .err cur2 true)
       | .noMatch => .err (cur+1) true
       | .err k _ => .err k true) := by
  simp only [parenSeq, parse_seq, parseSeq_cons, parse_lit, parse_capture, peek, hn, hc, if_true]
  cases parse c (f+1) (.strct "Expression") (cur+1) with
  | ok v cp cur2 =>
    simp only []
    cases c.toks[cur2]? with
    | none => simp
    | some q => cases hq : litMatch q [41] <;> simp [parseSeq_nil, hq]
  | noMatch => simp
  | err k hv => simp

def SimAlt (c : Ctx) (cur0 : Nat) (neg : Bool) (r : Res) (d : PR XCond) : Prop :=
  match d with
  | some (x, rest) => ∃ vals cp cur', r = .ok vals cp cur' ∧ vals ≠ [] ∧ (∀ pre, NotCaps neg pre → RX x (.node "XCondition" (pre ++ cp)))
      ∧ rest = c.toks.drop cur' ∧ cur0 < cur' ∧ cur' ≤ c.toks.length
  | none => r = .noMatch ∨ ∃ k hv, r = .err k hv ∧ cur0 + 1 ≤ k

theorem dCond_nil (f : Nat) : dCond f [] = none := by cases f <;> simp [dCond, dIdent]
theorem dCond_nonoperand (f : Nat) (t : Tok) (r : List Tok) (h : isOperandTok t = false) : dCond f (t :: r) = none := by
  cases f <;> simp [dCond, dIdent, h]

theorem simAlt (c : Ctx) (hg : c.grammar = grammar) (hH : OperandNotParen c.toks) (cur0 : Nat) (hcl0 : cur0 ≤ c.toks.length)
    (hE : ∀ cur', cur0 < cur' → cur' ≤ c.toks.length → SimExprAt c cur') (neg : Bool) (fe fd : Nat)
    (hfe : 60 * (c.toks.length - cur0) + 46 ≤ fe) (hfd : 4 * (c.toks.length - cur0) + 2 ≤ fd) :
    SimAlt c cur0 neg (parse c fe altGroup cur0) (dXBody fd neg (c.toks.drop cur0)) := by
  obtain ⟨g, rfl⟩ := Nat.exists_eq_add_of_le' (show 46 ≤ fe by omega)
  obtain ⟨fd', rfl⟩ := Nat.exists_eq_add_of_le' (show 1 ≤ fd by omega)
  have hc := simCond c hg cur0 (g+42) fd' hcl0 (by omega) (by omega)
  simp only [altGroup, parse_once, parse_disj, parseDisj_cons, parse_capture]
  generalize hr : parse c (g+42) (.strct "Condition") cur0 = rc at hc ⊢
  cases hn : c.toks[cur0]? with
  | none =>
    rw [drop_of_none hn] at hc ⊢
    rw [dCond_nil] at hc
    simp only [SimCond] at hc
    rcases hc with ⟨rfl, _⟩ | ⟨k, rfl, _, ⟨tk, h, _⟩⟩
    · simp [show parse c (g+42) parenSeq cur0 = .noMatch from paren_none c (g+39) cur0 hn, parseDisj_nil, dXBody, SimAlt]
    · rw [hn] at h; cases h
  | some t =>
    have hlt := lt_of_get hn
    have hmem : t ∈ c.toks := List.mem_of_getElem? hn
    rw [drop_of_get hn] at hc ⊢
    cases hop : isOperandTok t with
    | true =>
      simp only [dXBody, hop, if_true]
      cases hd : dCond fd' (t :: c.toks.drop (cur0+1)) with
      | none =>
        rw [hd] at hc
        simp only [SimCond] at hc
        rcases hc with ⟨rfl, hno⟩ | ⟨k, rfl, hk, _⟩
        · exact absurd ⟨t, hn, hop⟩ hno
        · simp only [SimAlt]
          right
          by_cases hgt : k > cur0 + lookahead
          · exact ⟨k, true, by simp [hgt], hk⟩
          · have hlp : litMatch t [40] = false := hH t hmem hop
            exact ⟨k, true, by simp [hgt, show parse c (g+42) parenSeq cur0 = .noMatch from paren_nolit c (g+39) cur0 t hn hlp, parseDisj_nil], hk⟩
      | some res =>
        obtain ⟨cd, rest⟩ := res
        rw [hd] at hc
        obtain ⟨cur', rfl, hrest, h1, h2⟩ := hc
        subst hrest
        simp only [SimAlt]
        exact ⟨[.str []], [("Cond", [valCond cd])], cur', by simp, by simp, (fun pre hp => by simp only [RX]; exact ⟨pre, rfl, hp⟩), rfl, h1, h2⟩
    | false =>
      rw [dCond_nonoperand _ _ _ hop] at hc
      simp only [SimCond] at hc
      rcases hc with ⟨rfl, _⟩ | ⟨k, rfl, _, ⟨tk, h, h'⟩⟩
      · cases hlp : litMatch t [40] with
        | false =>
          have hlp' : litMatch t LP = false := hlp
          simp [show parse c (g+42) parenSeq cur0 = .noMatch from paren_nolit c (g+39) cur0 t hn hlp, parseDisj_nil, dXBody, hop, hlp', SimAlt]
        | true =>
          have hlp' : litMatch t LP = true := hlp
          have he := hE (cur0+1) (by omega) (by omega) (g+38) fd' (by omega) (by omega)
          simp only [dXBody, hop, hlp', Bool.false_eq_true, if_false, if_true]
          rw [show parse c (g+42) parenSeq cur0 = _ from paren_lit c (g+37) cur0 t hn hlp]
          generalize hre : parse c (g+37+1) (.strct "Expression") (cur0+1) = re at he ⊢
          cases hde : dExpr fd' (c.toks.drop (cur0+1)) with
          | none =>
            rw [hde] at he
            simp only [SimExpr] at he
            simp only [SimAlt]
            right
            rcases he with ⟨k, rfl, hk⟩ | ⟨v, cur2, rfl, hlt2, hst⟩
            · exact ⟨k, true, by by_cases hgt : k > cur0 + lookahead <;> simp [hgt, parseDisj_nil], hk⟩
            · have hgt : cur2 > cur0 + lookahead := by simp only [lookahead]; omega
              rcases hst with ⟨q, hq, hqa⟩ | ⟨q, hq, hqo⟩
              · have hqr : litMatch q [41] = false := litMatch_excl q kwAND _ (by decide) (by decide) hqa
                exact ⟨cur2, true, by simp [hq, hqr, hgt], by omega⟩
              · have hqr : litMatch q [41] = false := litMatch_excl q kwOR _ (by decide) (by decide) hqo
                exact ⟨cur2, true, by simp [hq, hqr, hgt], by omega⟩
          | some res =>
            obtain ⟨e, rest2⟩ := res
            rw [hde] at he
            obtain ⟨ve, cur2, rfl, hrel, hrest, hlt2, hle2⟩ := he
            subst hrest
            have hgt : cur2 > cur0 + lookahead := by simp only [lookahead]; omega
            cases hq : c.toks[cur2]? with
            | none =>
              rw [drop_of_none hq]
              simp only [SimAlt]
              right; exact ⟨cur2, true, by simp [hq, hgt], by omega⟩
            | some q =>
              rw [drop_of_get hq]
              have hlq := lt_of_get hq
              cases hqr : litMatch q [41] with
              | false =>
                have hqr' : litMatch q RP = false := hqr
                simp only [SimAlt, hqr', Bool.false_eq_true, if_false]
                right; exact ⟨cur2, true, by simp [hq, hqr, hgt], by omega⟩
              | true =>
                have hqr' : litMatch q RP = true := hqr
                simp only [SimAlt, hqr', if_true]
                exact ⟨[.str t.v, .str [], .str q.v], [("Expr", [ve])], cur2+1, by simp [hq, hqr], by simp,
                  (fun pre hp => by simp only [RX]; exact ⟨pre, ve, rfl, hp, hrel⟩), rfl, by omega, by omega⟩
      · rw [hn] at h; cases h; rw [hop] at h'; cases h'


theorem isEmpty_false_of_ne {α : Type} {l : List α} (h : l ≠ []) : l.isEmpty = false := by
  cases l with
  | nil => exact absurd rfl h
  | cons _ _ => rfl

theorem simX_step (c : Ctx) (hg : c.grammar = grammar) (hH : OperandNotParen c.toks) (cur : Nat) (hcl : cur ≤ c.toks.length)
    (hE : ∀ cur', cur < cur' → cur' ≤ c.toks.length → SimExprAt c cur') : SimXAt c cur := by
  intro fe fd hfe hfd
  obtain ⟨g, rfl⟩ := Nat.exists_eq_add_of_le' (show 50 ≤ fe by omega)
  obtain ⟨fd', rfl⟩ := Nat.exists_eq_add_of_le' (show 1 ≤ fd by omega)
  rw [parse_strct c _ "XCondition" xBody cur (hg ▸ g_x)]
  simp only [xBody, parse_seq, parseSeq_cons, notGroup, parse_opt, parse_capture, parse_lit, peek]
  cases hn : c.toks[cur]? with
  | none =>
    have ha := simAlt c hg hH cur hcl hE false (g+46) fd' (by omega) (by omega)
    rw [drop_of_none hn] at ha ⊢
    have hd : dXBody fd' false [] = none := by cases fd' <;> simp [dXBody]
    rw [hd] at ha
    simp only [SimAlt] at ha
    simp only [dX, SimX]
    rcases ha with h | ⟨k, hv, h, hk⟩
    · exact ⟨cur, by simp [h], Nat.le_refl _⟩
    · exact ⟨k, by simp [h], by omega⟩
  | some t =>
    have hlt := lt_of_get hn
    rw [drop_of_get hn]
    cases hnot : litMatch t [78, 79, 84] with
    | true =>
      have hnot' : litMatch t kwNOT = true := hnot
      have ha := simAlt c hg hH (cur+1) (by omega) (fun cur' h1 h2 => hE cur' (by omega) h2) true (g+46) fd' (by omega) (by omega)
      simp only [dX, hnot', if_true]
      cases hd : dXBody fd' true (c.toks.drop (cur+1)) with
      | none =>
        rw [hd] at ha
        simp only [SimAlt] at ha
        simp only [SimX]
        rcases ha with h | ⟨k, hv, h, hk⟩
        · exact ⟨cur+1, by simp [h, hnot], by omega⟩
        · exact ⟨k, by simp [h, hnot], by omega⟩
      | some res =>
        obtain ⟨x, rest⟩ := res
        rw [hd] at ha
        obtain ⟨vals, cp, cur', h, hne, hrel, hrest, h1, h2⟩ := ha
        subst hrest
        simp only [SimX]
        refine ⟨.node "XCondition" ([("Not", [.str t.v])] ++ cp), cur', ?_, hrel _ ⟨t.v, rfl⟩, rfl, by omega, h2⟩
        simp [h, hnot, parseSeq_nil]
    | false =>
      have hnot' : litMatch t kwNOT = false := hnot
      have ha := simAlt c hg hH cur hcl hE false (g+46) fd' (by omega) (by omega)
      rw [drop_of_get hn] at ha
      simp only [dX, hnot', Bool.false_eq_true, if_false]
      cases hd : dXBody fd' false (t :: c.toks.drop (cur+1)) with
      | none =>
        rw [hd] at ha
        simp only [SimAlt] at ha
        simp only [SimX]
        rcases ha with h | ⟨k, hv, h, hk⟩
        · exact ⟨cur, by simp [h, hnot], Nat.le_refl _⟩
        · exact ⟨k, by simp [h, hnot], by omega⟩
      | some res =>
        obtain ⟨x, rest⟩ := res
        rw [hd] at ha
        obtain ⟨vals, cp, cur', h, hne, hrel, hrest, h1, h2⟩ := ha
        subst hrest
        simp only [SimX]
        refine ⟨.node "XCondition" ([] ++ cp), cur', ?_, hrel [] rfl, rfl, h1, h2⟩
        simp [h, hnot, parseSeq_nil, isEmpty_false_of_ne hne]

/-- **the engine on the regenerated grammar simulates the direct expression parser at every cursor** -/
theorem simExpr (c : Ctx) (hg : c.grammar = grammar) (hH : OperandNotParen c.toks) :
    ∀ (n cur : Nat), c.toks.length - cur ≤ n → cur ≤ c.toks.length → SimExprAt c cur := by
  have step : ∀ cur, cur ≤ c.toks.length → (∀ cur', cur < cur' → cur' ≤ c.toks.length → SimExprAt c cur') → SimExprAt c cur :=
    fun cur hcl hE => simExpr_step c hg cur hcl fun cur1 _ h1 => simOr_step c hg cur1 h1 fun cur2 _ h2 =>
      simX_step c hg hH cur2 h2 fun cur3 h3 h4 => hE cur3 (by omega) h4
  intro n
  induction n with
  | zero => exact fun cur hn hcl => step cur hcl fun cur' h1 h2 => by omega
  | succ n ih => exact fun cur hn hcl => step cur hcl fun cur' h1 h2 => ih cur' (by omega) h2

end Logrange.Lql

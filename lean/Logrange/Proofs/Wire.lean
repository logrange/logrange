import Logrange.Model.Wire
import Logrange.Proofs.Outcome
/-!
# Lemmas about the wire decoders (C13)

`Fine L o`: the outcome `o` of a decoder is not a panic and a byte count it returns is at most `L`.
`Good P d`: on every buffer satisfying `P`, decoder `d` is `Fine` — it passes every bounds check of the code it mirrors and
never claims to have read more than the buffer holds. `P = Safe` (no length varint of the F13 class) for the stored-record
decoder that still calls the library directly; `P = IsGoSlice` (the length fits an `int`, no condition on the content) for
the api/rpc decoders, whose string reads go through the length guard of commit dbbc1a7.
`Good` is closed under the sequencing idiom `Dec.next`, which gives the composite decoders.

`NoFuel` (no decoder takes fuel) and `CountLe` hold on every buffer, with no `P`, and are closed under `Dec.next` in the same way.
-/
namespace Logrange.Wire
open Go Logrange Outcome

def Fine (L : Nat) (o : Outcome (Nat × β)) : Prop :=
  o.isPanic = false ∧ ∀ n x, o = .ok (n, x) → n ≤ L

/-- decoder `d` is `Fine` on every buffer that satisfies `P` (`P` = `Safe` for decoders that call the library's
`UnmarshalBytes` directly, `P` = `IsGoSlice` — no condition on the content — for the guarded api/rpc decoders) -/
def Good (P : Bytes → Prop) (d : Dec α) : Prop := ∀ b, P b → Fine b.length (d b)

/-- the buffer predicate survives `buf[k:]` -/
def DropClosed (P : Bytes → Prop) : Prop := ∀ b k, P b → P (b.drop k)

def NoFuel (d : Dec α) : Prop := ∀ b, (d b).isOutOfFuel = false

/-- a byte count a decoder returns with a value lies inside the slice it was given — for every input (no `Safe`) -/
def CountLe (d : Dec α) : Prop := ∀ b n x, d b = .ok (n, x) → n ≤ b.length

theorem fine_err {L : Nat} : Fine L (.err : Outcome (Nat × β)) := ⟨rfl, fun _ _ h => nomatch h⟩

theorem fine_outOfFuel {L : Nat} : Fine L (.outOfFuel : Outcome (Nat × β)) := ⟨rfl, fun _ _ h => nomatch h⟩

theorem fine_ok {L n : Nat} {x : β} (h : n ≤ L) : Fine L (.ok (n, x)) :=
  ⟨rfl, by intro n' x' e; cases e; exact h⟩

theorem safe_dropClosed : DropClosed Safe := fun _ k h j => by simpa [List.drop_drop] using h (k + j)

theorem goSlice_dropClosed : DropClosed IsGoSlice := fun b k h =>
  Nat.lt_of_le_of_lt (by rw [List.length_drop]; exact Nat.sub_le _ _) h

theorem wrap64_of_lt {x : Int} (h0 : 0 ≤ x) (h1 : x < 9223372036854775808) : wrap64 x = x := by
  unfold wrap64
  have : x % 18446744073709551616 = x := Int.emod_eq_of_lt h0 (by omega)
  simp only [this]
  split <;> omega

/-! ### fixed-width decoders

`UnmarshalUint16/32/64` are `if len(buf) < w { error } else { w, … }`; everything about them is read off that shape. -/

section fixed
variable {w : Nat} {f : Bytes → α}

theorem fixed_eq_ok {d : Dec α} {b : Bytes} {n : Nat} {x : α} (h : d b = .ok (n, x))
    (hd : ∀ b, d b = if b.length < w then .err else .ok (w, f b)) : n = w ∧ w ≤ b.length := by
  rw [hd] at h
  split at h
  · cases h
  · cases h; exact ⟨rfl, by omega⟩

theorem good_fixed {P : Bytes → Prop} : Good P fun b => if b.length < w then .err else .ok (w, f b) :=
  fun b _ => ite_of (Fine b.length) (fun _ => fine_err) fun h => fine_ok (Nat.le_of_not_lt h)

theorem noFuel_fixed : NoFuel fun b => if b.length < w then .err else .ok (w, f b) :=
  fun _ => ite_both Fueled rfl rfl

end fixed

theorem good_byte {P : Bytes → Prop} : Good P unmarshalByte := by
  intro b _
  cases b with
  | nil => exact fine_err
  | cons x r => exact fine_ok (Nat.le_add_left 1 _)

theorem countLe_u64 : CountLe unmarshalUint64 := fun _ _ _ h => (fixed_eq_ok h fun _ => rfl).1 ▸ (fixed_eq_ok h fun _ => rfl).2

/-! ### the varint and the length-prefixed byte string -/

theorem uvarintGo_spec : ∀ (b : Bytes) (idx shft res : Nat),
    Ends (uvarintGo b idx shft res) ∧ ∀ n v, uvarintGo b idx shft res = .ok (n, v) → n ≤ idx + b.length
  | [], _, _, _ => ⟨⟨rfl, rfl⟩, fun _ _ h => nomatch h⟩
  | x :: r, idx, shft, res => by
    unfold uvarintGo
    refine ite_of (fun o => Ends o ∧ ∀ n v, o = .ok (n, v) → n ≤ idx + (x :: r).length)
      (fun _ => ⟨⟨rfl, rfl⟩, fun _ _ h => by cases h; simp⟩) fun _ => ?_
    have ih := uvarintGo_spec r (idx + 1) (shft + 7)
    exact ⟨(ih _).1, fun n v h => by have := (ih _).2 n v h; rw [List.length_cons]; omega⟩

theorem unmarshalUint_le {b : Bytes} {idx v : Nat} (h : unmarshalUint b = .ok (idx, v)) : idx ≤ b.length := by
  have := (uvarintGo_spec b 0 0 0).2 idx v h
  omega

theorem countLe_bytes : CountLe unmarshalBytes := by
  intro b m x hm
  unfold unmarshalBytes at hm
  obtain ⟨p, _, hm⟩ := bind_eq_ok hm
  simp only [] at hm
  split at hm
  · cases hm
  · obtain ⟨r, _, hm⟩ := bind_eq_ok hm
    have h1 := congrArg Prod.fst (Outcome.ok.inj hm)
    simp only [] at h1
    omega

/-- **the only panic of `UnmarshalBytes` is the F13 class**: without a length varint `≥ 2⁶³ − idx` at the start of
the buffer it returns a value or an error, and what it consumed lies inside the buffer. -/
theorem fine_unmarshalBytes (b : Bytes) (hs : SafeAt b) : Fine b.length (unmarshalBytes b) := by
  refine ⟨?_, countLe_bytes b⟩
  unfold unmarshalBytes
  refine bind_isPanic_false (uvarintGo_spec b 0 0 0).1.1 fun p hu => ?_
  obtain ⟨idx, v⟩ := p
  have hv := hs idx v hu
  have hidx := unmarshalUint_le hu
  -- below 2⁶³ neither `int(uln)` nor `ln+idx` wraps, and then the size test is the slice's bounds check
  show NoPanic (if (b.length : Int) < wrap64 (wrap64 (v : Int) + (idx : Int)) then _ else _)
  rw [wrap64_of_lt (x := (v : Int)) (by omega) (by omega), wrap64_of_lt (x := (v : Int) + idx) (by omega) (by omega)]
  refine ite_of NoPanic (fun _ => rfl) fun hlen => ?_
  rw [slice_ok_of (by omega)]; rfl

theorem good_bytes : Good Safe unmarshalBytes := fun b hs => fine_unmarshalBytes b (by simpa using hs 0)

/-- **the guarded string decoder of api/rpc never panics**, whatever the bytes: either the guard rejects the length, or the
length fits the bytes left and the library call is inside its safe range (`len(buf)` is an `int`). -/
theorem fine_rpcString (b : Bytes) (hb : IsGoSlice b) : Fine b.length (rpcStringG true b) := by
  unfold rpcStringG
  cases hu : unmarshalUint b with
  | ok p =>
    refine ite_of (Fine b.length) (fun _ => fine_err) fun hc => fine_unmarshalBytes b fun idx' v' hu' => ?_
    rw [hu] at hu'
    cases hu'
    have hidx := unmarshalUint_le hu
    unfold IsGoSlice at hb
    simp only [true_and, Nat.not_lt] at hc
    omega
  | _ => exact fine_unmarshalBytes b fun i v h => by rw [hu] at h; cases h

theorem good_rpcString (hg : Generated.C13.rpcStringLengthGuard = true) : Good IsGoSlice rpcString :=
  fun b hb => show Fine _ (rpcStringG _ b) from hg ▸ fine_rpcString b hb

/-- converse direction, used for the class predicate: a panic of `UnmarshalBytes` exhibits the varint -/
theorem unmarshalBytes_panic {b : Bytes} (h : (unmarshalBytes b).isPanic = true) :
    ∃ idx v, unmarshalUint b = .ok (idx, v) ∧ 9223372036854775808 ≤ v + idx := by
  apply Classical.byContradiction
  intro hn
  have hs : SafeAt b := fun idx v hu => Nat.lt_of_not_le fun hle => hn ⟨idx, v, hu, hle⟩
  rw [(fine_unmarshalBytes b hs).1] at h
  cases h

theorem rpcStringG_of {Q : Outcome (Nat × Bytes) → Prop} (g : Bool) (b : Bytes) (herr : Q .err) (hb : Q (unmarshalBytes b)) :
    Q (rpcStringG g b) := by
  unfold rpcStringG
  split
  · exact ite_both Q herr hb
  · exact hb

theorem noFuel_rpcString (g : Bool) : NoFuel (rpcStringG g) := fun b =>
  rpcStringG_of (Q := Fueled) g b rfl <| bind_isOutOfFuel_false (uvarintGo_spec b 0 0 0).1.2 fun _ _ =>
    ite_both Fueled rfl (bind_isOutOfFuel_false (ite_both Fueled rfl rfl) fun _ _ => rfl)

theorem countLe_rpcString (g : Bool) : CountLe (rpcStringG g) := fun b =>
  rpcStringG_of (Q := fun o => ∀ n x, o = .ok (n, x) → n ≤ b.length) g b (fun _ _ h => nomatch h) (countLe_bytes b)

/-! ### sequencing -/

/-- `hfuel`: `Good` does not exclude the end of the fuel -/
theorem next_of {P : Bytes → Prop} {d : Dec α} {k : Nat → α → Outcome β} {buf : Bytes} {nn : Nat} (Q : Outcome β → Prop)
    (herr : Q .err) (hfuel : Q .outOfFuel)
    (hP : DropClosed P) (hd : Good P d) (hs : P buf) (hnn : nn ≤ buf.length)
    (hk : ∀ n a, nn + n ≤ buf.length → Q (k (nn + n) a)) : Q (Dec.next nn buf d k) := by
  unfold Dec.next
  rw [sliceFrom_ok_of hnn, bind_ok]
  have hg := hd (buf.drop nn) (hP _ nn hs)
  refine bind_of Q herr hfuel hg.1 fun p hp => hk p.1 p.2 (Nat.add_le_of_le_sub' hnn ?_)
  exact List.length_drop ▸ hg.2 p.1 p.2 hp

theorem next_fine {P : Bytes → Prop} {d : Dec α} {k : Nat → α → Outcome (Nat × β)} {buf : Bytes} {nn : Nat}
    (hP : DropClosed P) (hd : Good P d) (hs : P buf) (hnn : nn ≤ buf.length)
    (hk : ∀ n a, nn + n ≤ buf.length → Fine buf.length (k (nn + n) a)) :
    Fine buf.length (Dec.next nn buf d k) :=
  next_of (Fine buf.length) fine_err fine_outOfFuel hP hd hs hnn hk

theorem next_noFuel {d : Dec α} {k : Nat → α → Outcome β} {buf : Bytes} {nn : Nat}
    (hd : NoFuel d) (hk : ∀ n a, (k n a).isOutOfFuel = false) : (Dec.next nn buf d k).isOutOfFuel = false :=
  bind_isOutOfFuel_false (ite_both Fueled rfl rfl) fun _ _ =>
    bind_isOutOfFuel_false (hd _) fun _ _ => hk _ _

theorem next_eq_ok {d : Dec α} {k : Nat → α → Outcome β} {buf : Bytes} {nn : Nat} {r : β}
    (h : Dec.next nn buf d k = .ok r) : ∃ n a, d (buf.drop nn) = .ok (n, a) ∧ nn ≤ buf.length ∧ k (nn + n) a = .ok r := by
  unfold Dec.next at h
  obtain ⟨b, hb, h⟩ := bind_eq_ok h
  unfold sliceFrom at hb
  split at hb
  · cases hb
    obtain ⟨p, hp, h⟩ := bind_eq_ok h
    exact ⟨p.1, p.2, hp, by assumption, h⟩
  · cases hb

/-! ### composite decoders -/

theorem good_event : Good Safe Event.unmarshal := by
  intro b hs
  unfold Event.unmarshal
  refine next_fine safe_dropClosed good_byte hs (Nat.zero_le _) fun n1 hdr h1 => ?_
  refine next_fine safe_dropClosed good_fixed hs h1 fun n2 ts h2 => ?_
  refine next_fine safe_dropClosed good_bytes hs h2 fun n3 msg h3 => ?_
  refine ite_both (Fine b.length) ?_ (fine_ok h3)
  exact next_fine safe_dropClosed good_bytes hs h3 fun n4 flds h4 => fine_ok h4

section guarded
variable (hg : Generated.C13.rpcStringLengthGuard = true)
include hg

theorem good_logEvent : Good IsGoSlice unmarshalLogEvent := by
  intro b hs
  unfold unmarshalLogEvent
  refine next_fine goSlice_dropClosed good_fixed hs (Nat.zero_le _) fun n1 ts h1 => ?_
  refine next_fine goSlice_dropClosed (good_rpcString hg) hs h1 fun n2 msg h2 => ?_
  refine next_fine goSlice_dropClosed (good_rpcString hg) hs h2 fun n3 tags h3 => ?_
  exact next_fine goSlice_dropClosed (good_rpcString hg) hs h3 fun n4 flds h4 => fine_ok h4

theorem good_queryRequest : Good IsGoSlice unmarshalQueryRequest := by
  intro b hs
  unfold unmarshalQueryRequest
  refine next_fine goSlice_dropClosed good_fixed hs (Nat.zero_le _) fun n1 _ h1 => ?_
  refine next_fine goSlice_dropClosed (good_rpcString hg) hs h1 fun n2 _ h2 => ?_
  refine next_fine goSlice_dropClosed (good_rpcString hg) hs h2 fun n3 _ h3 => ?_
  refine next_fine goSlice_dropClosed good_fixed hs h3 fun n4 _ h4 => ?_
  refine next_fine goSlice_dropClosed good_fixed hs h4 fun n5 _ h5 => ?_
  exact next_fine goSlice_dropClosed good_fixed hs h5 fun n6 _ h6 => fine_ok h6

theorem fine_events (buf : Bytes) (hs : IsGoSlice buf) :
    ∀ (k nn : Nat) (acc : List ApiEvent), nn ≤ buf.length → Fine buf.length (unmarshalEvents buf k nn acc)
  | 0, nn, acc, h => fine_ok h
  | k + 1, nn, acc, h => by
    unfold unmarshalEvents
    exact next_fine goSlice_dropClosed (good_logEvent hg) hs h fun n e hn => fine_events buf hs k (nn + n) (e :: acc) hn

theorem good_queryResult : Good IsGoSlice unmarshalQueryResult := by
  intro b hs
  unfold unmarshalQueryResult
  refine next_fine goSlice_dropClosed good_fixed hs (Nat.zero_le _) fun n1 ln h1 => ?_
  have hev := fine_events hg b hs ln (0 + n1) [] h1
  exact bind_of (Fine b.length) fine_err fine_outOfFuel hev.1 fun r he =>
    next_fine goSlice_dropClosed (good_queryRequest hg) hs (hev.2 r.1 r.2 he) fun n2 q h2 => fine_ok h2

end guarded

theorem noFuel_logEvent : NoFuel unmarshalLogEvent := fun _ =>
  next_noFuel noFuel_fixed fun _ _ => next_noFuel (noFuel_rpcString _) fun _ _ =>
    next_noFuel (noFuel_rpcString _) fun _ _ => next_noFuel (noFuel_rpcString _) fun _ _ => rfl

theorem unmarshalLogEvent_count {b : Bytes} {n : Nat} {e : ApiEvent} (h : unmarshalLogEvent b = .ok (n, e)) : 8 ≤ n ∧ n ≤ b.length := by
  unfold unmarshalLogEvent at h
  obtain ⟨n1, _, hd1, _, h⟩ := next_eq_ok h
  obtain ⟨n2, _, _, _, h⟩ := next_eq_ok h
  obtain ⟨n3, _, _, _, h⟩ := next_eq_ok h
  obtain ⟨n4, _, hd4, l4, h⟩ := next_eq_ok h
  cases h
  have h1 := (fixed_eq_ok hd1 fun _ => rfl).1
  have h4 := countLe_rpcString _ _ _ _ hd4
  rw [List.length_drop] at h4
  replace h4 := Nat.add_le_of_le_sub' l4 h4
  exact ⟨by omega, h4⟩

/-- a decoded api event consumed at least its 8-byte timestamp: no zero-byte events -/
theorem unmarshalLogEvent_ge (b : Bytes) (n : Nat) (e : ApiEvent) (h : unmarshalLogEvent b = .ok (n, e)) : 8 ≤ n :=
  (unmarshalLogEvent_count h).1

/-! ### wpIterator -/

/-- invariant of the server-side iterator over a write packet -/
def WpInv (it : WpIter) : Prop := IsGoSlice it.buf ∧ it.pos ≤ it.buf.length

theorem wpInitCore_ok {kv : Bytes → Option Bytes} {buf : Bytes} {it : WpIter} (h : wpInitCore kv buf = .ok it) :
    it.buf = buf ∧ it.pos ≤ buf.length ∧ it.read = false ∧ it.cur = 0 ∧ ∃ s, kv s = some it.flds := by
  unfold wpInitCore at h
  obtain ⟨n1, tags, _, _, h⟩ := next_eq_ok h
  obtain ⟨n2, flds, _, _, h⟩ := next_eq_ok h
  obtain ⟨n3, ln, hd3, hl3, h⟩ := next_eq_ok h
  have b3 := fixed_eq_ok hd3 fun _ => rfl
  rw [List.length_drop] at b3
  split at h
  · cases h
  · rename_i hkv
    cases h
    exact ⟨rfl, b3.1 ▸ Nat.add_le_of_le_sub' hl3 b3.2, rfl, rfl, _, hkv⟩

/-! ### `init` with the validation loop (commit c6bbc14) -/

theorem wpValidate_noFuel (kv : Bytes → Option Bytes) (buf : Bytes) : ∀ (k p : Nat), (wpValidate kv buf k p).isOutOfFuel = false
  | 0, _ => rfl
  | k + 1, p => by
    unfold wpValidate
    refine next_noFuel noFuel_logEvent fun n le => ?_
    split
    · rfl
    · exact wpValidate_noFuel kv buf k n

/-- what `init` accepts is what its first part built -/
theorem wpInit_core (kv : Bytes → Option Bytes) (buf : Bytes) (it : WpIter) (h : wpInit kv buf = .ok it) :
    wpInitCore kv buf = .ok it := by
  unfold wpInit at h
  obtain ⟨it0, h0, h⟩ := bind_eq_ok h
  split at h
  · obtain ⟨_, _, h⟩ := bind_eq_ok h
    cases h; exact h0
  · cases h; exact h0

theorem wpInit_ok {kv : Bytes → Option Bytes} {buf : Bytes} {it : WpIter} (h : wpInit kv buf = .ok it) :
    it.buf = buf ∧ it.pos ≤ buf.length ∧ it.read = false ∧ it.cur = 0 ∧ ∃ s, kv s = some it.flds :=
  wpInitCore_ok (wpInit_core kv buf it h)

theorem wpInit_inv (kv : Bytes → Option Bytes) (buf : Bytes) (hs : IsGoSlice buf) (it : WpIter)
    (h : wpInit kv buf = .ok it) : WpInv it := by
  obtain ⟨hb, hp, _⟩ := wpInit_ok h
  rw [← hb] at hs hp
  exact ⟨hs, hp⟩

theorem wpInit_noFuel (kv : Bytes → Option Bytes) (buf : Bytes) : (wpInit kv buf).isOutOfFuel = false :=
  bind_isOutOfFuel_false
    (next_noFuel (noFuel_rpcString _) fun _ _ => next_noFuel (noFuel_rpcString _) fun _ _ =>
      next_noFuel noFuel_fixed fun _ _ => by split <;> rfl) fun _ _ =>
    ite_both Fueled (bind_isOutOfFuel_false (wpValidate_noFuel kv buf _ _) fun _ _ => rfl) rfl

theorem wpValidate_noPanic (hg : Generated.C13.rpcStringLengthGuard = true) (kv : Bytes → Option Bytes) (buf : Bytes)
    (hs : IsGoSlice buf) : ∀ (k p : Nat), p ≤ buf.length → (wpValidate kv buf k p).isPanic = false
  | 0, _, _ => rfl
  | k + 1, p, hp => by
    unfold wpValidate
    refine next_of NoPanic rfl rfl goSlice_dropClosed (good_logEvent hg) hs hp fun n le hn => ?_
    split
    · rfl
    · exact wpValidate_noPanic hg kv buf hs k (p + n) hn

theorem wpGet_some {kv : Bytes → Option Bytes} {it it' : WpIter} {e : Event} (h : wpGet kv it = .ok (it', some e)) :
    (it.read = true ∧ it' = it ∧ e = it.lge) ∨
    (it.read = false ∧ it.cur < it.recs ∧ it.pos ≤ it.buf.length ∧ ∃ n le, unmarshalLogEvent (it.buf.drop it.pos) = .ok (n, le) ∧
      e = ⟨le.ts, le.msg, it.flds ++ (kv le.fields).getD []⟩ ∧
      it' = { it with cur := it.cur + 1, pos := it.pos + n, read := true, lge := e }) := by
  unfold wpGet at h
  split at h
  · rename_i hr
    cases h
    exact .inl ⟨hr, rfl, rfl⟩
  · rename_i hnr
    split at h
    · cases h
    · rename_i hcur
      obtain ⟨b, hb, h⟩ := bind_eq_ok h
      unfold sliceFrom at hb
      split at hb
      · rename_i hpos
        cases hb
        split at h
        · rename_i n le hd
          cases h
          exact .inr ⟨by simpa using hnr, by omega, hpos, n, le, hd, rfl, rfl⟩
        all_goals cases h
      · cases hb

/-- one `Get`: either the batch ends, or an event is delivered and — unless it came from the cache — at least 8 more bytes
of the buffer are behind the position and `cur` has advanced -/
theorem wpGet_progress (kv : Bytes → Option Bytes) (it it' : WpIter) (e : Event) (h : wpGet kv it = .ok (it', some e)) :
    it'.buf = it.buf ∧ it'.recs = it.recs ∧
    ((it.read = true ∧ it'.pos = it.pos ∧ it'.cur = it.cur) ∨
     (it.read = false ∧ it.pos + 8 ≤ it'.pos ∧ it'.pos ≤ it.buf.length ∧ it'.cur = it.cur + 1 ∧ it.cur < it.recs)) := by
  rcases wpGet_some h with ⟨hr, rfl, _⟩ | ⟨hr, hcur, hpos, n, le, hd, _, rfl⟩
  · exact ⟨rfl, rfl, .inl ⟨hr, rfl, rfl⟩⟩
  · obtain ⟨h8, hle⟩ := unmarshalLogEvent_count hd
    rw [List.length_drop] at hle
    exact ⟨rfl, rfl, .inr ⟨hr, Nat.add_le_add_left h8 _, Nat.add_le_of_le_sub' hpos hle, rfl, hcur⟩⟩

theorem wpGet_noFuel (kv : Bytes → Option Bytes) (it : WpIter) : (wpGet kv it).isOutOfFuel = false := by
  unfold wpGet
  refine ite_both Fueled rfl (ite_both Fueled rfl (bind_isOutOfFuel_false (ite_both Fueled rfl rfl) fun b _ => ?_))
  have := noFuel_logEvent b
  split
  · rfl
  · rfl
  · rfl
  · rename_i hd; rw [hd] at this; cases this

/-! ### termination of the drain loop

No decoder has a fuel parameter (`NoFuel`); a delivered event consumed at least the 8 bytes of its timestamp
(`unmarshalLogEvent_ge`), so the number of iterations is bounded by the bytes left in the buffer; independently, every `Get`
that is not served from the cache increments `cur`, so it is also bounded by the (client-controlled) count field. -/

/-- **the drain loop ends**, by the bytes left or by the events left (the bound of `wpFuel`), whatever the other says;
`+1` while an event is cached, `<` because the last `Get` answers EOF -/
theorem wpDrain_ends (kv : Bytes → Option Bytes) : ∀ (fuel : Nat) (it : WpIter) (acc : List Event),
    (it.pos ≤ it.buf.length ∧ it.buf.length - it.pos + (if it.read then 1 else 0) < fuel) ∨
      it.recs - it.cur + (if it.read then 1 else 0) < fuel → (wpDrain kv fuel it acc).isOutOfFuel = false
  | 0, _, _, h => h.elim (fun h => nomatch h.2) (fun h => nomatch h)
  | f + 1, it, acc, hf => by
    unfold wpDrain
    refine bind_isOutOfFuel_false (wpGet_noFuel kv it) fun r hr => ?_
    obtain ⟨it', e⟩ := r
    cases e with
    | none => rfl
    | some ev =>
      refine wpDrain_ends kv f (wpNext it') (ev :: acc) ?_
      obtain ⟨hb, hrec, hp⟩ := wpGet_progress kv it it' ev hr
      show (it'.pos ≤ it'.buf.length ∧ it'.buf.length - it'.pos + (if false = true then 1 else 0) < f) ∨
        it'.recs - it'.cur + (if false = true then 1 else 0) < f
      rw [hb, hrec, if_neg Bool.false_ne_true]
      rcases hp with ⟨hr, hp, hc⟩ | ⟨hr, h8, hle, hc, hlt⟩
      · rw [hr, if_pos rfl] at hf; rw [hp, hc]
        exact hf.imp (fun h => ⟨h.1, Nat.lt_of_succ_lt_succ h.2⟩) Nat.lt_of_succ_lt_succ
      · rw [hr, if_neg Bool.false_ne_true] at hf; rw [hc]
        have hp : it.pos < it'.pos := Nat.lt_of_lt_of_le (Nat.lt_add_of_pos_right (by decide)) h8
        exact hf.imp
          (fun h => ⟨hle, Nat.lt_of_lt_of_le (Nat.sub_lt_sub_left (Nat.lt_of_lt_of_le hp hle) hp) (Nat.le_of_lt_succ h.2)⟩)
          fun h => Nat.lt_of_lt_of_le (Nat.sub_succ_lt_self _ _ hlt) (Nat.le_of_lt_succ h)

theorem wpDecode_noFuel (kv : Bytes → Option Bytes) (buf : Bytes) : (wpDecode kv buf).isOutOfFuel = false :=
  bind_isOutOfFuel_false (wpInit_noFuel kv buf) fun it hit =>
    bind_isOutOfFuel_false
      (wpDrain_ends kv _ it [] (.inr (by rw [(wpInit_ok hit).2.2.1]; exact Nat.lt_succ_self _))) fun _ _ => rfl

section guarded
variable (hg : Generated.C13.rpcStringLengthGuard = true) (kv : Bytes → Option Bytes)
include hg

theorem wpInit_noPanic (buf : Bytes) (hs : IsGoSlice buf) : (wpInit kv buf).isPanic = false := by
  refine bind_isPanic_false ?_ fun it hit => ite_both NoPanic (bind_isPanic_false
    (wpValidate_noPanic hg kv buf hs it.recs it.pos (wpInitCore_ok hit).2.1) fun _ _ => rfl) rfl
  unfold wpInitCore
  refine next_of NoPanic rfl rfl goSlice_dropClosed (good_rpcString hg) hs (Nat.zero_le _) fun n1 tags h1 => ?_
  refine next_of NoPanic rfl rfl goSlice_dropClosed (good_rpcString hg) hs h1 fun n2 flds h2 => ?_
  refine next_of NoPanic rfl rfl goSlice_dropClosed good_fixed hs h2 fun n3 ln h3 => ?_
  split <;> rfl

theorem wpGet_noPanic (it : WpIter) (hi : WpInv it) : (wpGet kv it).isPanic = false := by
  unfold wpGet
  refine ite_both NoPanic rfl (ite_both NoPanic rfl ?_)
  show NoPanic ((Go.sliceFrom it.buf it.pos).bind _)
  rw [sliceFrom_ok_of hi.2, bind_ok]
  have := (good_logEvent hg (it.buf.drop it.pos) (goSlice_dropClosed _ _ hi.1)).1
  split
  · rfl
  · rfl
  · rename_i hd; rw [hd] at this; cases this
  · rfl

theorem wpDrain_noPanic : ∀ (fuel : Nat) (it : WpIter) (acc : List Event), WpInv it → (wpDrain kv fuel it acc).isPanic = false
  | 0, _, _, _ => rfl
  | f + 1, it, acc, hi => by
    unfold wpDrain
    refine bind_isPanic_false (wpGet_noPanic hg kv it hi) fun r hr => ?_
    obtain ⟨it', e⟩ := r
    cases e with
    | none => rfl
    | some ev =>
      obtain ⟨hb, _, hp⟩ := wpGet_progress kv it it' ev hr
      refine wpDrain_noPanic f (wpNext it') (ev :: acc) ⟨hb ▸ hi.1, hb ▸ ?_⟩
      rcases hp with ⟨_, hp, _⟩ | ⟨_, _, hp, _⟩
      · exact hp ▸ hi.2
      · exact hp

theorem wpDecode_noPanic (buf : Bytes) (hs : IsGoSlice buf) : (wpDecode kv buf).isPanic = false :=
  bind_isPanic_false (wpInit_noPanic hg kv buf hs) fun it hit =>
    bind_isPanic_false (wpDrain_noPanic hg kv _ it [] (wpInit_inv kv buf hs it hit)) fun _ _ => rfl

end guarded

end Logrange.Wire

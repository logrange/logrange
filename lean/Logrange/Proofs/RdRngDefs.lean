import Logrange.Proofs.RdIterFwd
import Logrange.Proofs.RdIterBwd
import Logrange.Model.RdWindow
/-!
Shared definitions for the proofs about the RANGED journal iterator (`partition.JIterator` + `chkSelector`,
model `Model/RdSelector.lean`), C03/C16.

The selector admits, per chunk `c`, the window of record indices `[c.minPos, min(c.cnt, c.maxPos+1))` (what
`updatePoss` answered for the chunk: an INPUT here; its soundness — every in-range record of the chunk lies inside —
is `WinSound`, which is what C02 proves about the time index). `wflat j` is the list of admitted records in stored
order. The ranged iterator behaves over `wflat j` exactly as the library iterator behaves over `flat j`:
forward it stands at index `wIdx j s` of `wflat j` (`Get` = that element and does not move the index, `Next` = +1),
backward it stands after `wbCount j s` admitted records.
-/
namespace Logrange.Rd

/-- the selector's status cache over a FIXED journal value: never filled, or rebuilt from this journal -/
def RStats (j : Journal) (st : List (Nat × ChkSt)) : Prop := st = [] ∨ st = rebuild j []

/-- well-formed ranged iterator over `j` (either direction): an open chunk iterator stands inside the window of its
chunk or at the chunk's end. Every state reachable from a fresh iterator by `SetPos` (while no chunk is open),
`SetBackward`, `Get`, `Next`, `Release` over the fixed `j` is well-formed. (`SetPos` into the OPEN chunk is not
window-checked by the code: a position before the window makes `Next` leave the chunk — such states are excluded.) -/
def RWF (j : Journal) (s : RIt) : Prop :=
  match s.ci with
  | none => RStats j s.stats
  | some c => s.stats = rebuild j [] ∧ c.chunk = s.cid ∧
      ∃ ch ∈ j, ch.id = c.chunk ∧ ch.minPos < ch.cnt ∧ (ch.minPos : Int) ≤ c.pos ∧ c.pos ≤ (ch.maxPos : Int) ∧
        c.pos ≤ (ch.cnt : Int) ∧ (c.cached = true → c.pos < (ch.cnt : Int))

/-- `pos` reports where the open chunk iterator stands -/
def RSynced (s : RIt) : Prop :=
  match s.ci with
  | none => True
  | some c => 0 ≤ c.pos ∧ s.idx = c.pos.toNat

/-- forward: index into `wflat j` -/
def wIdx (j : Journal) (s : RIt) : Nat := wflatIdx j (rEffPos s)

/-- backward: number of admitted records at or before the iterator's position -/
def wbCount (j : Journal) (s : RIt) : Nat :=
  match s.ci with
  | some c => wflatIdx j ⟨c.chunk, (c.pos + 1).toNat⟩
  | none => wflatIdx j ⟨s.cid, s.idx + 1⟩

/-- the iterator sits on a record -/
def ROnRecord (j : Journal) (s : RIt) : Prop :=
  ∃ c, s.ci = some c ∧ 0 ≤ c.pos ∧ c.pos < (cntOf j c.chunk : Int)

/-- the iterator after `k` rounds of `Get; Next` -/
def rStepK (j : Journal) : Nat → RIt → RIt
  | 0, s => s
  | k + 1, s => rStepK j k (rNext j (rGet j s).1)

/-! ## the time range and the window contract -/

def inRange (lo hi : Option Int) (r : Rec) : Bool :=
  (match lo with | some m => decide (m ≤ r.ts) | none => true) &&
  (match hi with | some m => decide (r.ts ≤ m) | none => true)

/-- **window soundness** (input contract; C02's subject): every record of a chunk whose timestamp is inside the
range lies inside the chunk's window. Windows may be wider than the range. -/
def WinSound (j : Journal) (lo hi : Option Int) : Prop :=
  ∀ c ∈ j, ∀ (k : Nat) (r : Rec), c.recs[k]? = some r → inRange lo hi r = true → c.minPos ≤ k ∧ k ≤ c.maxPos

/-! ## statements -/

def RGetFwdSpec : Prop :=
  ∀ (j : Journal) (s : RIt), Sorted j → RWF j s → s.bkwd = false →
    (rGet j s).2 = (wflat j)[wIdx j s]? ∧
    RWF j (rGet j s).1 ∧ (rGet j s).1.bkwd = false ∧
    wIdx j (rGet j s).1 = wIdx j s ∧
    (RSynced s → RSynced (rGet j s).1) ∧
    ((rGet j s).2.isSome → ROnRecord j (rGet j s).1) ∧
    ((rGet j s).2 = none → (rGet j s).1.ci = none)

def RNextFwdSpec : Prop :=
  ∀ (j : Journal) (s : RIt), Sorted j → RWF j s → s.bkwd = false →
    RWF j (rNext j s) ∧ (rNext j s).bkwd = false ∧ RSynced (rNext j s) ∧
    wIdx j (rNext j s) = min (wIdx j s + 1) (wflat j).length

def RGetBwdSpec : Prop :=
  ∀ (j : Journal) (s : RIt), Sorted j → PosIds j → bw_ChunkBound j → RWF j s → s.bkwd = true →
    (rGet j s).2 = (if wbCount j s = 0 then none else (wflat j)[wbCount j s - 1]?) ∧
    RWF j (rGet j s).1 ∧ (rGet j s).1.bkwd = true ∧
    wbCount j (rGet j s).1 = wbCount j s ∧
    ((rGet j s).2.isSome → ROnRecord j (rGet j s).1) ∧
    ((rGet j s).2 = none → (rGet j s).1.ci = none)

def RNextBwdSpec : Prop :=
  ∀ (j : Journal) (s : RIt), Sorted j → PosIds j → bw_ChunkBound j → RWF j s → s.bkwd = true →
    RWF j (rNext j s) ∧ (rNext j s).bkwd = true ∧
    wbCount j (rNext j s) = wbCount j s - 1

theorem Chunk.lt_hi {c : Chunk} {k : Nat} : k < c.hi ↔ k < c.cnt ∧ k ≤ c.maxPos := by
  unfold Chunk.hi; omega

theorem rw_wrecs_length (c : Chunk) : c.wrecs.length = c.wlen := by
  simp [Chunk.wrecs, Chunk.wlen, Chunk.hi, Chunk.cnt, Nat.min_comm]

theorem rw_wBefore_le (c : Chunk) (k : Nat) : c.wBefore k ≤ c.wlen := by
  unfold Chunk.wBefore Chunk.wlen; omega

theorem wBefore_full (c : Chunk) {k : Nat} (h : c.hi ≤ k) : c.wBefore k = c.wlen := by
  unfold Chunk.wBefore Chunk.wlen; rw [Nat.min_eq_right h]

theorem wBefore_low (c : Chunk) {k : Nat} (h : k ≤ c.minPos) : c.wBefore k = 0 := by
  unfold Chunk.wBefore; omega

theorem wBefore_in (c : Chunk) {k : Nat} (h1 : c.minPos ≤ k) (h2 : k < c.hi) :
    c.wBefore k = k - c.minPos ∧ c.wBefore (k + 1) = c.wBefore k + 1 := by
  unfold Chunk.wBefore; omega

theorem rw_wflat_cons (c : Chunk) (r : Journal) : wflat (c :: r) = c.wrecs ++ wflat r := by
  simp [wflat]

theorem wflat_length_cons (c : Chunk) (r : Journal) : (wflat (c :: r)).length = c.wlen + (wflat r).length := by
  rw [rw_wflat_cons, List.length_append, rw_wrecs_length]

def wfiTerm (c : Chunk) (p : Pos) : Nat :=
  if c.id < p.cid then c.wlen else if c.id = p.cid then c.wBefore p.idx else 0

theorem wflatIdx_cons (c : Chunk) (r : Journal) (p : Pos) :
    wflatIdx (c :: r) p = wfiTerm c p + wflatIdx r p := rfl

theorem wfiTerm_lt {c : Chunk} {p : Pos} (h : c.id < p.cid) : wfiTerm c p = c.wlen := if_pos h

theorem wfiTerm_gt {c : Chunk} {p : Pos} (h : p.cid < c.id) : wfiTerm c p = 0 := by
  unfold wfiTerm; rw [if_neg (by omega), if_neg (by omega)]

theorem wfiTerm_eq {c : Chunk} {p : Pos} (h : c.id = p.cid) : wfiTerm c p = c.wBefore p.idx := by
  unfold wfiTerm; rw [if_neg (by omega), if_pos h]

theorem wfiTerm_self (c : Chunk) (k : Nat) : wfiTerm c ⟨c.id, k⟩ = c.wBefore k := wfiTerm_eq rfl

theorem wfiTerm_zero {c : Chunk} {cid : Nat} (h : cid ≤ c.id) : wfiTerm c ⟨cid, 0⟩ = 0 := by
  unfold wfiTerm
  rw [if_neg (Nat.not_lt.mpr h)]
  split
  · exact wBefore_low c (Nat.zero_le _)
  · rfl

theorem wflatIdx_congr {j : Journal} {p q : Pos} (h : ∀ c ∈ j, wfiTerm c p = wfiTerm c q) :
    wflatIdx j p = wflatIdx j q := by
  induction j with
  | nil => rfl
  | cons c r ih =>
    rw [wflatIdx_cons, wflatIdx_cons, h c (List.mem_cons_self ..), ih (fun x hx => h x (List.mem_cons_of_mem _ hx))]

theorem wflatIdx_eq_len {j : Journal} {p : Pos} (h : ∀ c ∈ j, wfiTerm c p = c.wlen) :
    wflatIdx j p = (wflat j).length := by
  induction j with
  | nil => rfl
  | cons c r ih =>
    rw [wflatIdx_cons, wflat_length_cons, h c (List.mem_cons_self ..), ih (fun x hx => h x (List.mem_cons_of_mem _ hx))]

theorem wflatIdx_eq_zero {j : Journal} {p : Pos} (h : ∀ c ∈ j, wfiTerm c p = 0) :
    wflatIdx j p = 0 := by
  induction j with
  | nil => rfl
  | cons c r ih =>
    rw [wflatIdx_cons, h c (List.mem_cons_self ..), ih (fun x hx => h x (List.mem_cons_of_mem _ hx))]

theorem wflatIdx_of_lt {j : Journal} {p : Pos} (h : ∀ c ∈ j, p.cid < c.id) : wflatIdx j p = 0 :=
  wflatIdx_eq_zero fun c hc => wfiTerm_gt (h c hc)

theorem wflatIdx_of_gt {j : Journal} {p : Pos} (h : ∀ c ∈ j, c.id < p.cid) : wflatIdx j p = (wflat j).length :=
  wflatIdx_eq_len fun c hc => wfiTerm_lt (h c hc)

theorem rp_wflat_length_le (j : Journal) : (wflat j).length ≤ (flat j).length := by
  induction j with
  | nil => exact Nat.le_refl _
  | cons c r ih =>
    rw [wflat_length_cons, flat_length_cons]
    have : c.wlen ≤ c.cnt := by unfold Chunk.wlen Chunk.hi; omega
    omega

theorem rw_wflatIdx_le (j : Journal) (p : Pos) : wflatIdx j p ≤ (wflat j).length := by
  induction j with
  | nil => exact Nat.le_refl _
  | cons c rest ih =>
    rw [wflat_length_cons, wflatIdx_cons]
    refine Nat.add_le_add ?_ ih
    unfold wfiTerm
    split
    · exact Nat.le_refl _
    · split
      · exact rw_wBefore_le c _
      · exact Nat.zero_le _

theorem rw_wflatIdx_mono (j : Journal) (c k : Nat) : wflatIdx j ⟨c, k⟩ ≤ wflatIdx j ⟨c, k + 1⟩ := by
  induction j with
  | nil => exact Nat.le_refl _
  | cons ch rest ih =>
    rw [wflatIdx_cons, wflatIdx_cons]
    refine Nat.add_le_add ?_ ih
    unfold wfiTerm
    split
    · exact Nat.le_refl _
    · split
      · show ch.wBefore k ≤ ch.wBefore (k + 1)
        unfold Chunk.wBefore; omega
      · exact Nat.le_refl _

theorem rw_wIdx_le (j : Journal) (s : RIt) : wIdx j s ≤ (wflat j).length := rw_wflatIdx_le _ _

theorem rw_wbCount_le (j : Journal) (s : RIt) : wbCount j s ≤ (wflat j).length := by
  unfold wbCount; split <;> exact rw_wflatIdx_le _ _

/-- position inside chunk `ch` of a sorted journal -/
theorem rw_wflatIdx_in {j : Journal} (hs : Sorted j) {ch : Chunk} (hm : ch ∈ j) (k : Nat) :
    wflatIdx j ⟨ch.id, k⟩ = wflatIdx j ⟨ch.id, 0⟩ + ch.wBefore k := by
  induction j with
  | nil => cases hm
  | cons c rest ih =>
    rw [wflatIdx_cons, wflatIdx_cons]
    rcases List.mem_cons.mp hm with rfl | hm'
    · rw [wflatIdx_of_lt (Sorted.head_lt hs), wflatIdx_of_lt (Sorted.head_lt hs), wfiTerm_self, wfiTerm_self,
        wBefore_low ch (Nat.zero_le _)]
      omega
    · have hlt := Sorted.head_lt hs ch hm'
      rw [wfiTerm_lt hlt, wfiTerm_lt hlt, ih (Sorted.tail hs) hm']
      omega

theorem wflatIdx_succ_in {j : Journal} (hs : Sorted j) {ch : Chunk} (hm : ch ∈ j) {k : Nat} (h1 : ch.minPos ≤ k)
    (h2 : k < ch.hi) :
    wflatIdx j ⟨ch.id, k + 1⟩ = wflatIdx j ⟨ch.id, k⟩ + 1 ∧ wflatIdx j ⟨ch.id, k⟩ < (wflat j).length := by
  have hle := rw_wflatIdx_le j ⟨ch.id, k + 1⟩
  rw [rw_wflatIdx_in hs hm, (wBefore_in ch h1 h2).2] at hle ⊢
  rw [rw_wflatIdx_in hs hm k]
  omega

theorem wIdx_none {j : Journal} {s : RIt} (h : s.ci = none) : wIdx j s = wflatIdx j ⟨s.cid, s.idx⟩ := by
  unfold wIdx rEffPos; rw [h]; rfl

theorem wIdx_some {j : Journal} {s : RIt} {c : CIt} (h : s.ci = some c) :
    wIdx j s = wflatIdx j ⟨c.chunk, c.pos.toNat⟩ := by
  unfold wIdx rEffPos; rw [h]

theorem wbCount_none {j : Journal} {s : RIt} (h : s.ci = none) : wbCount j s = wflatIdx j ⟨s.cid, s.idx + 1⟩ := by
  unfold wbCount; rw [h]

theorem wbCount_some {j : Journal} {s : RIt} {c : CIt} (h : s.ci = some c) :
    wbCount j s = wflatIdx j ⟨c.chunk, (c.pos + 1).toNat⟩ := by
  unfold wbCount; rw [h]

/-- a well-formed state with an open chunk iterator is this record: the iterator stands at index `k : Nat` of its chunk `ch`
(`toNat` of the `Int` position makes every `omega` call split on its sign; the proofs below work with `k`) -/
theorem RWF.open {j : Journal} {s : RIt} {c : CIt} (hs : Sorted j) (hwf : RWF j s) (hci : s.ci = some c) :
    ∃ ch ∈ j, ∃ (k idx : Nat) (b cached : Bool), s = ⟨ch.id, idx, some ⟨ch.id, k, cached⟩, b, rebuild j []⟩ ∧
      c = ⟨ch.id, k, cached⟩ ∧ cntOf j ch.id = ch.cnt ∧
      ch.minPos ≤ k ∧ k ≤ ch.maxPos ∧ k ≤ ch.cnt ∧ ch.minPos < ch.cnt ∧ (cached = true → k < ch.cnt) := by
  obtain ⟨cid, idx, ci, b, stats⟩ := s
  obtain ⟨chunk, pos, cached⟩ := c
  simp only at hci
  subst hci
  simp only [RWF] at hwf
  obtain ⟨rfl, rfl, ch, hm, rfl, w3, w4, w5, w6, w7⟩ := hwf
  obtain ⟨k, rfl⟩ := Int.eq_ofNat_of_zero_le (a := pos) (by omega)
  exact ⟨ch, hm, k, idx, b, cached, rfl, rfl, cntOf_mem hs hm, by omega, by omega, by omega, w3,
    fun h => by have := w7 h; omega⟩

theorem RWF.of_open {j : Journal} {ch : Chunk} (hm : ch ∈ j) {k : Nat} (h0 : ch.minPos < ch.cnt) (h1 : ch.minPos ≤ k)
    (h2 : k ≤ ch.maxPos) (h3 : k ≤ ch.cnt) (idx : Nat) (b cached : Bool) (h4 : cached = true → k < ch.cnt) :
    RWF j ⟨ch.id, idx, some ⟨ch.id, k, cached⟩, b, rebuild j []⟩ := by
  simp only [RWF]
  exact ⟨trivial, trivial, ch, hm, rfl, h0, by omega, by omega, by omega, fun h => by have := h4 h; omega⟩

theorem rw_toNat_succ (k : Nat) : ((k : Int) + 1).toNat = k + 1 := by omega

theorem rw_ciGet_on {j : Journal} (hs : Sorted j) {ch : Chunk} (hm : ch ∈ j) (b cached : Bool) {k : Nat} (hk : k < ch.cnt) :
    ciGet j b ⟨ch.id, k, cached⟩ = (⟨ch.id, k, true⟩, some ch.recs[k]) := by
  have h0 : (0 : Int) ≤ k := Int.natCast_nonneg k
  have h1 : (k : Int) < ch.cnt := Int.ofNat_lt.mpr hk
  rw [ciGet_spec hs b hm rfl (Int.le_trans (by decide) h0) (Int.le_of_lt h1) (fun _ => ⟨h0, h1⟩), restPos_of_mem h0 h1,
    if_pos ⟨h0, h1⟩]
  exact congrArg (Prod.mk _) (List.getElem?_eq_getElem hk)

theorem rw_ciGet_end {j : Journal} (hs : Sorted j) {ch : Chunk} (hm : ch ∈ j) :
    ciGet j false ⟨ch.id, ch.cnt, false⟩ = (⟨ch.id, ch.cnt, false⟩, none) ∧
    ∀ h0 : 0 < ch.cnt, ciGet j true ⟨ch.id, ch.cnt, false⟩ =
      (⟨ch.id, (ch.cnt - 1 : Nat), true⟩, some (ch.recs[ch.cnt - 1]'(Nat.sub_lt h0 Nat.one_pos))) := by
  have hsp := fun b => ciGet_spec hs b (c := ⟨ch.id, ch.cnt, false⟩) hm rfl (Int.le_trans (by decide) (Int.natCast_nonneg _))
    (Int.le_refl _) (fun h => by cases h)
  refine ⟨?_, fun h0 => ?_⟩
  · rw [hsp false, show restPos false (ch.cnt : Int) ch.cnt = ch.cnt from Int.max_eq_left (Int.natCast_nonneg _),
      if_neg (fun h => Int.lt_irrefl _ h.2)]
  · have e : restPos true (ch.cnt : Int) ch.cnt = ((ch.cnt - 1 : Nat) : Int) := by
      show (if (ch.cnt : Int) ≥ ch.cnt then (ch.cnt : Int) - 1 else ch.cnt) = _
      rw [if_pos (Int.le_refl _)]; omega
    rw [hsp true, e, if_pos ⟨Int.natCast_nonneg _, by omega⟩]
    exact congrArg (Prod.mk _) (List.getElem?_eq_getElem _)

/-- sitting on a record: backward count = forward index + 1 -/
theorem rw_wbCount_on {j : Journal} {s : RIt} (hs : Sorted j) (hwf : RWF j s) (ho : ROnRecord j s) :
    wbCount j s = wIdx j s + 1 ∧ wIdx j s < (wflat j).length := by
  obtain ⟨c, hc, _, hlt⟩ := ho
  obtain ⟨ch, hm, k, idx, b, cached, rfl, rfl, hcnt, k1, k2, _, _, _⟩ := hwf.open hs hc
  rw [show cntOf j ch.id = ch.cnt from hcnt] at hlt
  rw [wbCount_some rfl, wIdx_some rfl, rw_toNat_succ]
  exact wflatIdx_succ_in hs hm k1 (Chunk.lt_hi.mpr ⟨Int.ofNat_lt.mp hlt, k2⟩)

theorem rw_wIdx_le_wbCount {j : Journal} {s : RIt} (h : s.ci = none) : wIdx j s ≤ wbCount j s := by
  rw [wIdx_none h, wbCount_none h]; exact rw_wflatIdx_mono ..

theorem rw_drop_min_succ {α : Type} (l : List α) (i : Nat) : l.drop (min (i + 1) l.length) = (l.drop i).tail := by
  rw [List.tail_drop]
  rcases Nat.le_total (i + 1) l.length with h | h
  · rw [Nat.min_eq_left h]
  · rw [Nat.min_eq_right h, List.drop_eq_nil_of_le (Nat.le_refl _), List.drop_eq_nil_of_le h]

/-- draining an iterator that has a *view* — a list `V s` of which `Get` delivers the head (and keeps the list) and `Next`
drops the head — delivers that list. Forward the view is `wflat` from `wIdx` on, backward the first `wbCount` admitted
records in reverse (`rSpecDrain` names both). -/
theorem rDrain_of_view {j : Journal} (V : RIt → List Rec) (P : RIt → Prop)
    (hget : ∀ s, P s → (rGet j s).2 = (V s).head? ∧ V (rGet j s).1 = V s ∧ P (rGet j s).1)
    (hnext : ∀ s, P s → V (rNext j s) = (V s).tail ∧ P (rNext j s)) :
    ∀ (n : Nat) (s : RIt), P s → rDrain j n s = (V s).take n := by
  intro n
  induction n with
  | zero => intro s _; rfl
  | succ n ih =>
    intro s hP
    obtain ⟨g1, g2, g3⟩ := hget s hP
    obtain ⟨n1, n2⟩ := hnext _ g3
    rw [rDrain]
    generalize rGet j s = res at g1 g2 g3 n1 n2
    obtain ⟨s', r⟩ := res
    cases r with
    | none =>
      rw [List.head?_eq_none_iff.mp g1.symm]; rfl
    | some l =>
      simp only
      rw [ih _ n2, n1, g2]
      cases hv : V s with
      | nil => rw [hv] at g1; cases g1
      | cons x t => rw [hv] at g1; cases g1; rfl

theorem rw_setBackward_facts (j : Journal) (s : RIt) (b : Bool) :
    (RWF j s → RWF j (rSetBackward s b)) ∧ wbCount j (rSetBackward s b) = wbCount j s ∧
    wIdx j (rSetBackward s b) = wIdx j s ∧ (ROnRecord j s → ROnRecord j (rSetBackward s b)) ∧
    (rSetBackward s b).bkwd = b ∧ (rSetBackward s b).ci = s.ci :=
  ⟨fun h => h, rfl, rfl, fun h => h, rfl, rfl⟩

theorem rw_release_facts (j : Journal) (s : RIt) :
    (RWF j s → RWF j (rRelease s)) ∧ rEffPos (rRelease s) = rEffPos s ∧ (rRelease s).bkwd = s.bkwd ∧
    (RSynced s → RSynced (rRelease s)) ∧ (rRelease s).pos = s.pos ∧ wbCount j (rRelease s) = wbCount j s := by
  unfold rRelease
  cases h : s.ci with
  | none => simp
  | some c =>
    refine ⟨?_, ?_, rfl, ?_, rfl, ?_⟩
    · intro hwf; unfold RWF at hwf ⊢; rw [h] at hwf; simp only
      obtain ⟨a, b, ch, hm, c1, c2, c3, c4, c5, _⟩ := hwf
      exact ⟨a, b, ch, hm, c1, c2, c3, c4, c5, by intro hc; cases hc⟩
    · simp [rEffPos, h]
    · intro hsy; unfold RSynced at hsy ⊢; rw [h] at hsy; simpa using hsy
    · simp [wbCount, h]

theorem rw_effPos_eq_pos {j : Journal} {s : RIt} (hwf : RWF j s) (hsy : RSynced s) : rEffPos s = s.pos := by
  unfold rEffPos RIt.pos
  cases h : s.ci with
  | none => rfl
  | some c =>
    unfold RWF at hwf; unfold RSynced at hsy; rw [h] at hwf hsy
    simp only
    rw [hwf.2.1, hsy.2]

/-- a fresh ranged iterator positioned by `SetPos` -/
theorem rw_setPos_fresh (j : Journal) (p : Pos) :
    (rSetPos j {} p).ci = none ∧ (rSetPos j {} p).pos = p ∧ (rSetPos j {} p).bkwd = false ∧
    (rSetPos j {} p).stats = [] := by
  unfold rSetPos
  by_cases h : p.cid = ({} : RIt).cid ∧ p.idx = ({} : RIt).idx
  · rw [if_pos h]
    obtain ⟨h1, h2⟩ := h
    refine ⟨rfl, ?_, rfl, rfl⟩
    cases p; simp only [RIt.pos] at *; simp_all
  · rw [if_neg h]
    by_cases h2 : p.cid ≠ ({} : RIt).cid <;> simp [h2, RIt.pos]

theorem rw_setPos_fresh_wf (j : Journal) (p : Pos) :
    RWF j (rSetPos j {} p) ∧ RSynced (rSetPos j {} p) ∧ wIdx j (rSetPos j {} p) = wflatIdx j p := by
  obtain ⟨h1, h2, _, h4⟩ := rw_setPos_fresh j p
  refine ⟨?_, ?_, (wIdx_none h1).trans (congrArg (wflatIdx j) h2)⟩
  · unfold RWF; rw [h1]; exact Or.inl h4
  · unfold RSynced; rw [h1]; trivial

theorem rw_wflatIdx_zero (j : Journal) : wflatIdx j ⟨0, 0⟩ = 0 :=
  wflatIdx_eq_zero fun _ _ => wfiTerm_zero (Nat.zero_le _)

end Logrange.Rd

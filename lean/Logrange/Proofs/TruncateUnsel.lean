import Logrange.Proofs.TruncateDry
/-! TRUNCATE leaves the partitions its source condition does not select alone — the whole command. -/
namespace Logrange.Truncate
variable {acct : Bool}

/-! ### the visitor body and the selection flag -/

theorem p1_part_sel (strict : Bool) (p : Params) (q q' : Part)
    (h : (phase1Part strict p q).part = some q') : q'.sel = q.sel := by
  obtain ⟨cks, rfl⟩ := p1_part_eq strict p q q' h; rfl

/-- the visitor returns at once for a partition the source condition does not select -/
theorem p1_unsel (strict : Bool) (p : Params) (q : Part) (hs : q.sel = false) :
    (phase1Part strict p q).part = some q ∧ (phase1Part strict p q).info = none ∧
      (phase1Part strict p q).report = none := by
  rw [phase1Part_unsel strict p q hs]
  exact ⟨rfl, rfl, rfl⟩

theorem p1_info_sel (strict : Bool) (p : Params) (q : Part) (ti : Info)
    (h : (phase1Part strict p q).info = some ti) : q.sel = true :=
  (p1_info_src strict p q ti h).1

theorem p1_report_sel (strict : Bool) (p : Params) (q : Part) (r : Info)
    (h : (phase1Part strict p q).report = some r) : q.sel = true ∧ r.src = q.src := by
  rcases Bool.eq_false_or_eq_true q.sel with hs | hs
  · by_cases hz : psize q.chunks = 0
    · rw [phase1Part_empty strict p q hs hz] at h
      simp only [] at h
      split at h
      · exact ⟨hs, Option.some.inj h ▸ rfl⟩
      · cases h
    · rw [phase1Part_data strict p q hs hz] at h; cases h
  · rw [phase1Part_unsel strict p q hs] at h; cases h

/-! ### phase I keeps the unselected partitions, in order -/

theorem phase1_db_unsel (strict : Bool) (p : Params) : ∀ (order : List Part),
    (order.filterMap (fun q => (phase1Part strict p q).part)).filter (fun q => !q.sel) =
      order.filter (fun q => !q.sel) := by
  intro order
  induction order with
  | nil => rfl
  | cons x xs ih =>
    cases hs : x.sel with
    | false =>
      have hx := (p1_unsel strict p x hs).1
      simp only [List.filterMap_cons, hx, List.filter_cons, hs, Bool.not_false, if_true]
      rw [ih]
    | true =>
      cases hx : (phase1Part strict p x).part with
      | none =>
        simp only [List.filterMap_cons, hx, List.filter_cons, hs, Bool.not_true, Bool.false_eq_true, if_false]
        exact ih
      | some y =>
        have hy : y.sel = true := by rw [p1_part_sel strict p x y hx]; exact hs
        simp only [List.filterMap_cons, hx, List.filter_cons, hs, hy, Bool.not_true, Bool.false_eq_true, if_false]
        exact ih

/-! ### the two writes of the MAXDBSIZE pass -/

theorem filter_unsel_dbRemove : ∀ (db : List Part) (s : Nat), (∀ q ∈ db, q.src = s → q.sel = true) →
    (dbRemove db s).filter (fun q => !q.sel) = db.filter (fun q => !q.sel) := by
  intro db s
  unfold dbRemove
  induction db with
  | nil => intro _; rfl
  | cons x xs ih =>
    intro h
    have ih' := ih (fun q hq => h q (List.mem_cons_of_mem _ hq))
    by_cases hx : x.src = s
    · have hsel := h x (by simp) hx
      simp only [List.filter_cons, hx, beq_self_eq_true, Bool.not_true, Bool.false_eq_true, if_false, hsel]
      simpa [hx] using ih'
    · have hb : (x.src == s) = false := by simp [hx]
      simp only [List.filter_cons, hb, Bool.not_false, if_true]
      rw [ih']

theorem filter_unsel_dbSet : ∀ (db : List Part) (s : Nat) (cks : List Chunk), (∀ q ∈ db, q.src = s → q.sel = true) →
    (dbSet db s cks).filter (fun q => !q.sel) = db.filter (fun q => !q.sel) := by
  intro db s cks
  unfold dbSet
  induction db with
  | nil => intro _; rfl
  | cons x xs ih =>
    intro h
    have ih' := ih (fun q hq => h q (List.mem_cons_of_mem _ hq))
    by_cases hx : x.src = s
    · have hsel := h x (by simp) hx
      simp only [List.map_cons, hx, if_true, List.filter_cons, hsel, Bool.not_true, Bool.false_eq_true, if_false]
      simpa [hx] using ih'
    · simp only [List.map_cons, hx, if_false, List.filter_cons]
      rw [ih']

theorem mem_dbRemove (db : List Part) (s : Nat) (q : Part) (h : q ∈ dbRemove db s) : q ∈ db := by
  unfold dbRemove at h
  exact (List.mem_filter.mp h).1

theorem mem_dbSet (db : List Part) (s : Nat) (cks : List Chunk) (q : Part) (h : q ∈ dbSet db s cks) :
    ∃ q0 ∈ db, q.src = q0.src ∧ q.sel = q0.sel := by
  unfold dbSet at h
  obtain ⟨q0, hq0, e⟩ := List.mem_map.mp h
  refine ⟨q0, hq0, ?_⟩
  by_cases hx : q0.src = s
  · simp only [hx, if_true] at e; rw [← e]; exact ⟨hx.symm ▸ rfl, rfl⟩
  · simp only [hx, if_false] at e; rw [← e]; exact ⟨rfl, rfl⟩

theorem passWrite_filter (s : Nat) (db db1 : List Part) (hw : PassWrite s db db1)
    (h : ∀ q ∈ db, q.src = s → q.sel = true) :
    db1.filter (fun q => !q.sel) = db.filter (fun q => !q.sel) := by
  rcases hw with rfl | rfl | ⟨cks, rfl⟩
  · rfl
  · exact filter_unsel_dbRemove db s h
  · exact filter_unsel_dbSet db s cks h

theorem passWrite_mem (s : Nat) (db db1 : List Part) (hw : PassWrite s db db1) (q : Part) (hq : q ∈ db1) :
    ∃ q0 ∈ db, q.src = q0.src ∧ q.sel = q0.sel := by
  rcases hw with rfl | rfl | ⟨cks, rfl⟩
  · exact ⟨q, hq, rfl, rfl⟩
  · exact ⟨q, mem_dbRemove db s q hq, rfl, rfl⟩
  · exact mem_dbSet db s cks q hq

/-! ### the MAXDBSIZE pass writes only partitions named by `sortedInfos` -/

theorem globalLoop_unsel (strict : Bool) (gMin gMax : Nat) (p : Params) :
    ∀ (infos : List Info) (ts : Nat) (db : List Part),
      (∀ ti ∈ infos, ∀ q ∈ db, q.src = ti.src → q.sel = true) →
      (globalLoop acct strict gMin gMax p infos ts db).2.filter (fun q => !q.sel) = db.filter (fun q => !q.sel) := by
  intro infos
  induction infos with
  | nil => intro ts db _; rfl
  | cons ti rest ih =>
    intro ts db hinv
    by_cases h1 : p.maxDB < ts
    · have hw := passStep_write (acct := acct) strict gMin gMax p ti ts db
      rw [globalLoop_step_snd strict gMin gMax p ti rest ts db h1, passRest, ih]
      · exact passWrite_filter ti.src db _ hw (hinv ti (List.mem_cons_self ..))
      · intro tj htj q hq e
        obtain ⟨q0, hq0, e1, e2⟩ := passWrite_mem ti.src db _ hw q hq
        rw [e2]
        exact hinv tj (List.mem_cons_of_mem _ htj) q0 hq0 (e1 ▸ e)
    · rw [globalLoop_idle strict gMin gMax p _ ts db (Nat.le_of_not_lt h1)]

/-! ### assembling the command -/

theorem forall2_taken_src : ∀ (l l' : List Info), Forall2 Taken l l' → ∀ r ∈ l', ∃ ti ∈ l, r.src = ti.src := by
  intro l l' h
  induction h with
  | nil => intro r hr; cases hr
  | @cons a b l₁ l₂ hab _ ih =>
    intro r hr
    rcases List.mem_cons.mp hr with rfl | hr
    · rcases hab with e | e
      · exact ⟨a, by simp, by rw [e]⟩
      · exact ⟨a, by simp, e.2.1⟩
    · obtain ⟨ti, hti, e⟩ := ih r hr
      exact ⟨ti, List.mem_cons_of_mem _ hti, e⟩

theorem eq_of_src_eq (order : List Part) (hnd : (order.map (·.src)).Nodup) (a b : Part) (ha : a ∈ order)
    (hb : b ∈ order) (e : a.src = b.src) : a = b := by
  have h1 := dbFind_of_mem order hnd a ha
  have h2 := dbFind_of_mem order hnd b hb
  rw [e, h2] at h1
  exact (Option.some.inj h1).symm

/-- every entry of `sortedInfos` names a selected partition of the visiting order -/
theorem sortedInfos_sel (strict : Bool) (p : Params) (order : List Part) (hnd : (order.map (·.src)).Nodup)
    (ti : Info) (hti : ti ∈ sortInfos (order.filterMap (fun q => (phase1Part strict p q).info))) :
    ∃ q0 ∈ order, q0.sel = true ∧ ti.src = q0.src := by
  obtain ⟨q0, hq0, hi⟩ := (mem_phase1_infos strict p order hnd ti).mp hti
  exact ⟨q0, hq0, p1_info_src strict p q0 ti hi⟩

/-- the whole command leaves every partition the source condition does not select exactly as it was (same record, same
relative order), and no report line names such a partition -/
theorem run_unselected_untouched (strict : Bool) (gMin gMax : Nat) (p : Params) (order : List Part)
    (hnd : (order.map (·.src)).Nodup) :
    (run acct strict gMin gMax p order).db.filter (fun q => !q.sel) = order.filter (fun q => !q.sel) ∧
    ∀ r ∈ (run acct strict gMin gMax p order).reports, ∀ q ∈ order, q.sel = false → r.src ≠ q.src := by
  refine ⟨?_, ?_⟩
  · unfold run phase2
    rw [phase1_eq]
    simp only []
    rw [globalLoop_unsel, phase1_db_unsel]
    intro ti hti q hq e
    obtain ⟨q0, hq0, hsel0, e0⟩ := sortedInfos_sel strict p order hnd ti hti
    obtain ⟨q1, hq1, hp1⟩ := List.mem_filterMap.mp hq
    have e1 := p1_part_src strict p q1 q hp1
    have := eq_of_src_eq order hnd q1 q0 hq1 hq0 (by rw [← e1, e, e0])
    rw [p1_part_sel strict p q1 q hp1, this]
    exact hsel0
  · intro r hr q hq hsel e
    have hcontra : ∀ q0 ∈ order, q0.sel = true → r.src = q0.src → False := by
      intro q0 hq0 hsel0 e0
      have := eq_of_src_eq order hnd q0 q hq0 hq (by rw [← e0, e])
      rw [this, hsel] at hsel0
      cases hsel0
    rw [run_reports] at hr
    rcases List.mem_append.mp hr with hr | hr
    · obtain ⟨q0, hq0, hrep⟩ := List.mem_filterMap.mp hr
      obtain ⟨hsel0, e0⟩ := p1_report_sel strict p q0 r hrep
      exact hcontra q0 hq0 hsel0 e0
    · have hr' := (List.mem_filter.mp hr).1
      obtain ⟨ti, hti, eti⟩ := forall2_taken_src _ _ (globalLoop_shape strict gMin gMax p _ _ _) r hr'
      obtain ⟨q0, hq0, hsel0, e0⟩ := sortedInfos_sel strict p order hnd ti hti
      exact hcontra q0 hq0 hsel0 (by rw [eti, e0])

/-! ### non-vacuity: one selected and one unselected partition; the selected one is cut and reported, the other stays -/

example :
    let order : List Part :=
      [⟨1, true, 0, [⟨1, 10, 5⟩, ⟨2, 10, 6⟩]⟩, ⟨2, false, 0, [⟨1, 10, 5⟩, ⟨2, 10, 6⟩]⟩]
    let out := run false true 0 1 { maxSrc := 10 } order
    (order.map (·.src)).Nodup ∧
    out.db ≠ order ∧
    out.reports.map (·.src) = [1] ∧
    out.db.filter (fun q => !q.sel) = order.filter (fun q => !q.sel) ∧
    ∀ r ∈ out.reports, ∀ q ∈ order, q.sel = false → r.src ≠ q.src := by
  decide

end Logrange.Truncate

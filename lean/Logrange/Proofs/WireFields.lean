import Logrange.Model.WireFields
import Logrange.Proofs.Wire
/-! Lemmas about binary field lists (C13): the readers are total on well-formed lists; what the ingestion paths build is
well-formed unless unquoting makes an item longer than 255 bytes. -/
namespace Logrange.WireFields
open Go Logrange Outcome

theorem lenByte (v : Bytes) (h : v.length ≤ 255) : (UInt8.ofNat v.length).toNat = v.length := by
  simp [UInt8.toNat_ofNat']; omega

theorem slice_prefix (v r : Bytes) : Go.slice (v ++ r) 0 v.length = .ok v := by
  rw [slice_ok_of (by simp only [List.length_append]; omega)]
  simp

theorem encodeItems_length_cons (v : Bytes) (r : List Bytes) :
    (encodeItems (v :: r)).length = 1 + v.length + (encodeItems r).length := by
  simp [encodeItems]; omega

theorem encodeItems_append (a b : List Bytes) : encodeItems (a ++ b) = encodeItems a ++ encodeItems b := by
  induction a with
  | nil => rfl
  | cons x r ih => simp [encodeItems, ih]

/-- `AsKVString`'s walk over a well-formed list returns exactly its items -/
theorem itemsGo_encode : ∀ (its : List Bytes) (fuel : Nat), (∀ v ∈ its, v.length ≤ 255) →
    (encodeItems its).length < fuel → itemsGo fuel (encodeItems its) = .ok its
  | _, 0, _, hf => nomatch hf
  | [], _ + 1, _, _ => rfl
  | v :: r, f + 1, hv, hf => by
    rw [encodeItems_length_cons] at hf
    simp only [encodeItems, itemsGo]
    rw [lenByte v (hv v (.head _)), slice_prefix, bind_ok, List.drop_left,
      itemsGo_encode r f (fun x hx => hv x (.tail _ hx)) (by omega), bind_ok]

theorem checkGo_encode : ∀ (its : List Bytes) (fuel : Nat), (∀ v ∈ its, v.length ≤ 255) →
    (encodeItems its).length < fuel → checkGo fuel (encodeItems its) = true
  | _, 0, _, hf => nomatch hf
  | [], _ + 1, _, _ => rfl
  | v :: r, f + 1, hv, hf => by
    rw [encodeItems_length_cons] at hf
    simp only [encodeItems, checkGo]
    rw [lenByte v (hv v (.head _)), if_neg (by simp), List.drop_left]
    exact checkGo_encode r f (fun x hx => hv x (.tail _ hx)) (by omega)

/-- `Fields.Value` on a well-formed list, two items at a time; `hrec` is the skip of the value item behind a key that does not
match (`even` is false there) -/
theorem valueGo_encode (name : Bytes) : ∀ (its : List Bytes) (fuel : Nat), (∀ v ∈ its, v.length ≤ 255) →
    its.length % 2 = 0 → (encodeItems its).length < fuel → Ends (valueGo name fuel (encodeItems its) true)
  | _, 0, _, _, hf => nomatch hf
  | [], _ + 1, _, _, _ => ⟨rfl, rfl⟩
  | [_], _, _, hp, _ => nomatch hp
  | [_, _], 1, _, _, hf => by rw [encodeItems_length_cons] at hf; omega
  | k :: v :: r, f + 2, hv, hp, hf => by
    rw [encodeItems_length_cons, encodeItems_length_cons] at hf
    have hrec : Ends (valueGo name (f + 1) (encodeItems (v :: r)) false) := by
      simp only [encodeItems, valueGo, Bool.false_eq_true, false_and, if_false, Bool.not_false]
      rw [lenByte v (hv v (.tail _ (.head _))), List.drop_left]
      exact valueGo_encode name r f (fun x hx => hv x (.tail _ (.tail _ hx)))
        ((Nat.add_mod_right r.length 2).symm.trans hp) (by omega)
    simp only [encodeItems, valueGo]
    rw [lenByte k (hv k (.head _)), List.drop_left]
    split
    · rw [slice_prefix, bind_ok]
      split
      · show Ends ((Go.slice (v ++ encodeItems r) 0 (UInt8.ofNat v.length).toNat))
        rw [lenByte v (hv v (.tail _ (.head _))), slice_prefix]
        exact ⟨rfl, rfl⟩
      · exact hrec
    · exact hrec

theorem concat_WF (a b : Bytes) (ha : WF a) (hb : WF b) : WF (concat a b) := by
  obtain ⟨ia, ha1, ha2, rfl⟩ := ha
  obtain ⟨ib, hb1, hb2, rfl⟩ := hb
  refine ⟨ia ++ ib, fun v hv => (List.mem_append.mp hv).elim (ha1 v) (hb1 v), ?_, (encodeItems_append ia ib).symm⟩
  rw [List.length_append, Nat.add_mod, ha2, hb2]

theorem WF_nil : WF [] := ⟨[], nofun, rfl, rfl⟩

/-- the builder loop keeps "the buffer is the encoding of items of at most 255 bytes": an unquoted item is at most 255
bytes long because the code tests it (commit 72eac47; regenerated facts) — or, for the code before that commit, under the
hypothesis that unquoting does not produce a longer item -/
theorem buildGo_items (trim : Bytes → Bytes) (unq : Bytes → Option Bytes)
    (htrim : ∀ v, (trim v).length ≤ v.length)
    (hmax : Generated.C13.fieldMaxLen ≤ 255)
    (hunq : (Generated.C13.fieldLenTestedAfterUnquote = true ∧ Generated.C13.fieldMaxLenAfterUnquote ≤ 255) ∨
      ∀ v w, unq v = some w → w.length ≤ 255) :
    ∀ (parts : List Bytes) (i : Nat) (acc : List Bytes), (∀ v ∈ acc, v.length ≤ 255) → ∀ f,
      buildGo trim unq parts i (encodeItems acc) = some f →
      ∃ its, f = encodeItems its ∧ (∀ v ∈ its, v.length ≤ 255) ∧ its.length = acc.length + parts.length
  | [], _, acc, hacc, f, h => by
    cases h
    exact ⟨acc, rfl, hacc, rfl⟩
  | p :: rest, i, acc, hacc, f, h => by
    let P (o : Option Bytes) : Prop := ∀ f, o = some f →
      ∃ its, f = encodeItems its ∧ (∀ v ∈ its, v.length ≤ 255) ∧ its.length = acc.length + (rest.length + 1)
    revert f h
    show P _
    unfold buildGo
    refine ite_of P (fun _ _ h => nomatch h) fun hlen => ite_of P (fun _ _ h => nomatch h) fun _ => ?_
    have hp : (trim p).length ≤ 255 := Nat.le_trans (htrim p) (Nat.le_trans (Nat.le_of_not_lt hlen) hmax)
    simp only []
    split
    · exact fun _ h => nomatch h
    · rename_i w hw
      -- the item appended is the trimmed part, or its unquoted form when that passed the second length test
      have hwl : w.length ≤ 255 := by
        split at hw
        · split at hw
          · split at hw
            · cases hw
            · rename_i u hu
              split at hw
              · cases hw
              · rename_i htest
                cases hw
                rcases hunq with ⟨ht, hm⟩ | hun
                · exact Nat.le_trans (Nat.le_of_not_lt fun h => htest ⟨ht, h⟩) hm
                · exact hun _ _ hu
          · cases hw; exact hp
        · cases hw; exact hp
      have enc : encodeItems (acc ++ [w]) = encodeItems acc ++ UInt8.ofNat w.length :: w := by
        rw [encodeItems_append]; simp [encodeItems]
      intro f h
      rw [← enc] at h
      obtain ⟨its, h1, h2, h3⟩ := buildGo_items trim unq htrim hmax hunq rest (i + 1) (acc ++ [w])
        (fun v hv => (List.mem_append.mp hv).elim (hacc v) fun hv => by rw [List.mem_singleton.mp hv]; exact hwl) f h
      exact ⟨its, h1, h2, by rw [h3, List.length_append, List.length_singleton, Nat.add_assoc, Nat.add_comm 1]⟩

theorem fromKV_WF (split : Bytes → Option (List Bytes)) (trim : Bytes → Bytes) (unq : Bytes → Option Bytes)
    (htrim : ∀ v, (trim v).length ≤ v.length)
    (hmax : Generated.C13.fieldMaxLen ≤ 255)
    (hunq : (Generated.C13.fieldLenTestedAfterUnquote = true ∧ Generated.C13.fieldMaxLenAfterUnquote ≤ 255) ∨
      ∀ v w, unq v = some w → w.length ≤ 255)
    (s f : Bytes) (h : fromKV split trim unq s = some f) : WF f := by
  unfold fromKV at h
  split at h
  · cases h
  · unfold build at h
    split at h
    · cases h
    · rename_i hpar
      obtain ⟨its, h1, h2, h3⟩ := buildGo_items trim unq htrim hmax hunq _ 0 [] nofun f h
      exact ⟨its, h2, by rw [h3, List.length_nil, Nat.zero_add]; exact Nat.mod_two_ne_one.mp hpar, h1⟩

/-! ### the write packet iterator stores well-formed field lists -/
open Logrange.Wire

def FInv (it : WpIter) : Prop := WF it.flds ∧ (it.read = true → WF it.lge.fields)

section
variable {kv : Bytes → Option Bytes} (hkv : ∀ s f, kv s = some f → WF f)
include hkv

theorem wpGet_FInv {it it' : WpIter} {e : Event} (hi : FInv it) (h : wpGet kv it = .ok (it', some e)) :
    WF e.fields ∧ FInv (wpNext it') := by
  rcases wpGet_some h with ⟨hr, rfl, rfl⟩ | ⟨_, _, _, n, le, _, rfl, rfl⟩
  · exact ⟨hi.2 hr, hi.1, nofun⟩
  · refine ⟨concat_WF _ _ hi.1 ?_, hi.1, nofun⟩
    cases hk : kv le.fields with
    | none => exact WF_nil
    | some f => exact hkv _ _ hk

theorem wpDrain_WF : ∀ (fuel : Nat) (it : WpIter) (acc evs : List Event), FInv it → (∀ e ∈ acc, WF e.fields) →
      wpDrain kv fuel it acc = .ok evs → ∀ e ∈ evs, WF e.fields
  | 0, _, _, _, _, _, h => nomatch h
  | f + 1, it, acc, evs, hi, hacc, h => by
    unfold wpDrain at h
    obtain ⟨⟨it', e⟩, hr, h⟩ := bind_eq_ok h
    cases e with
    | none =>
      cases h
      exact fun e he => hacc e (List.mem_reverse.mp he)
    | some ev =>
      obtain ⟨hev, hi'⟩ := wpGet_FInv hkv hi hr
      exact wpDrain_WF f (wpNext it') (ev :: acc) evs hi'
        (fun e he => (List.mem_cons.mp he).elim (fun h => h ▸ hev) (hacc e)) h

/-- every event a Write body delivers has a well-formed field list, when the field-text parser only yields such lists -/
theorem wpDecode_WF {buf tags : Bytes} {evs : List Event} (h : wpDecode kv buf = .ok (tags, evs)) : ∀ e ∈ evs, WF e.fields := by
  unfold wpDecode at h
  obtain ⟨it, hit, h⟩ := bind_eq_ok h
  obtain ⟨evs', hd, h⟩ := bind_eq_ok h
  cases h
  obtain ⟨_, _, hr, _, s, hs⟩ := wpInit_ok hit
  exact wpDrain_WF hkv _ it [] evs ⟨hkv s _ hs, fun h => by rw [hr] at h; cases h⟩ nofun hd

end

end Logrange.WireFields

import Logrange.Model.PipeLtsRep
import Logrange.Proofs.PipeLts
/-!
# Lemmas for the repaired pipe LTS (C10): `stepR` is `step` without the repairs; it keeps the copy invariant with them
-/
namespace Logrange.PipeLts

theorem stepR_unrepaired (cfg : Cfg) (st : State) (l : Label) : stepR cfg unrepaired st l = step cfg st l := by
  cases l with
  | write s b => simp [stepR, unrepaired]
  | notify => simp only [stepR, unrepaired]; cases step cfg st .notify <;> simp
  | restart => simp only [stepR, unrepaired]; cases step cfg st .restart <;> simp
  | _ => rfl

theorem runR_unrepaired (cfg : Cfg) (st : State) (ls : List Label) : runR cfg unrepaired st ls = run cfg st ls := by
  induction ls generalizing st with
  | nil => rfl
  | cons l ls ih =>
    simp only [runR, run, stepR_unrepaired]
    cases step cfg st l <;> exact ih _


/-- `Service.Init` → `ppipe.catchUp` on every source -/
def catchUpAll (st : State) : State := { st with srcs := fun s => catchUpSrc (st.srcs s) }

theorem Step.restart_inv {cfg : Cfg} {st s1 : State} (h : Step cfg st .restart s1) :
    st.down = true ∧ s1.down = false ∧ s1.chan = st.chan ∧ s1.pend = st.pend := by
  cases h with
  | restart hdn => exact ⟨hdn, rfl, rfl, rfl⟩

theorem stepR_cases {cfg : Cfg} {rc : RCfg} {st st' : State} {l : Label} (hs : stepR cfg rc st l = some st') :
    ∃ s1, Step cfg st l s1 ∧
      ((st' = s1 ∧ (l = .notify → rc.persistFirst = true → firstSeen st = false) ∧
          (l = .restart → rc.catchUpAtInit = true → s1.pipe ≠ .live)) ∨
        (l = .notify ∧ rc.persistFirst = true ∧ firstSeen st = true ∧ st' = resaveAll s1) ∨
        (l = .restart ∧ rc.catchUpAtInit = true ∧ s1.pipe = .live ∧ st' = catchUpAll s1)) ∧
      (rc.writeLock = true → ∀ s b, l = .write s b → ∀ we ∈ st.pend, we.src ≠ s) := by
  cases l with
  | write s b =>
    simp only [stepR] at hs
    split at hs
    · cases hs
    · rename_i hany
      refine ⟨st', .of_step hs, Or.inl ⟨rfl, nofun, nofun⟩, fun hw s' b' e => ?_⟩
      cases e
      simpa [hw] using hany
  | notify =>
    simp only [stepR] at hs
    cases hst : step cfg st .notify with
    | none => simp [hst] at hs
    | some s1 =>
      simp only [hst] at hs
      refine ⟨s1, .of_step hst, ?_, fun _ _ _ => nofun⟩
      split at hs
      · rename_i hc
        simp only [Bool.and_eq_true] at hc
        cases hs; exact Or.inr (Or.inl ⟨rfl, hc.1, hc.2, rfl⟩)
      · rename_i hc
        cases hs
        refine Or.inl ⟨rfl, fun _ hp => ?_, nofun⟩
        simpa [hp] using hc
  | restart =>
    simp only [stepR] at hs
    cases hst : step cfg st .restart with
    | none => simp [hst] at hs
    | some s1 =>
      simp only [hst] at hs
      refine ⟨s1, .of_step hst, ?_, fun _ _ _ => nofun⟩
      split at hs
      · rename_i hc
        simp only [Bool.and_eq_true, beq_iff_eq] at hc
        cases hs; exact Or.inr (Or.inr ⟨rfl, hc.1, hc.2, rfl⟩)
      · rename_i hc
        cases hs
        refine Or.inl ⟨rfl, nofun, fun _ hcu => ?_⟩
        simpa [hcu] using hc
  | enqueue i => exact ⟨st', .of_step hs, Or.inl ⟨rfl, nofun, nofun⟩, fun _ _ _ => nofun⟩
  | wopen s => exact ⟨st', .of_step hs, Or.inl ⟨rfl, nofun, nofun⟩, fun _ _ _ => nofun⟩
  | wcopy s k => exact ⟨st', .of_step hs, Or.inl ⟨rfl, nofun, nofun⟩, fun _ _ _ => nofun⟩
  | wsave s => exact ⟨st', .of_step hs, Or.inl ⟨rfl, nofun, nofun⟩, fun _ _ _ => nofun⟩
  | wtimeout s => exact ⟨st', .of_step hs, Or.inl ⟨rfl, nofun, nofun⟩, fun _ _ _ => nofun⟩
  | wdone s => exact ⟨st', .of_step hs, Or.inl ⟨rfl, nofun, nofun⟩, fun _ _ _ => nofun⟩
  | create => exact ⟨st', .of_step hs, Or.inl ⟨rfl, nofun, nofun⟩, fun _ _ _ => nofun⟩
  | delete => exact ⟨st', .of_step hs, Or.inl ⟨rfl, nofun, nofun⟩, fun _ _ _ => nofun⟩
  | shutdown => exact ⟨st', .of_step hs, Or.inl ⟨rfl, nofun, nofun⟩, fun _ _ _ => nofun⟩
  | halt => exact ⟨st', .of_step hs, Or.inl ⟨rfl, nofun, nofun⟩, fun _ _ _ => nofun⟩

theorem runR_inv {cfg : Cfg} {rc : RCfg} {P : State → Prop}
    (hstep : ∀ st l st', P st → stepR cfg rc st l = some st' → P st')
    (st : State) (ls : List Label) (h : P st) : P (runR cfg rc st ls) := by
  induction ls generalizing st with
  | nil => exact h
  | cons l ls ih =>
    simp only [runR]
    cases hs : stepR cfg rc st l with
    | none => exact ih st h
    | some st' => exact ih st' (hstep st l st' h hs)

/-- writing the whole map to the positions file keeps the invariant -/
theorem ginv_resaveAll (cfg : Cfg) (st : State) (h : GInv cfg st) : GInv cfg (resaveAll st) :=
  ⟨fun s => sinv_resave cfg st.flt (st.srcs s) _ (sinvw_of_sinv _ _ _ _ (h.1 s)), h.2.1, h.2.2.1, h.2.2.2⟩

/-- `catchUp` of one source keeps the per-source invariant -/
theorem sinv_catchUpSrc (cfg : Cfg) (flt : Ev → Bool) (σ : SrcSt) (P : List Ev) (h : SInv cfg flt σ P) :
    SInv cfg flt (catchUpSrc σ) P := by
  unfold catchUpSrc
  cases hd : σ.desc with
  | none => simpa [hd] using h
  | some d => exact dinv_startWorker _ _ _ _ _ _ (h.2 d hd)

theorem catchUpSrc_none (σ : SrcSt) (h : σ.desc = none) : catchUpSrc σ = σ := by
  unfold catchUpSrc; simp [h]

theorem catchUpSrc_some (σ : SrcSt) (d : Desc) (h : σ.desc = some d) :
    catchUpSrc σ = startWorker false σ { d with lastKnown := max d.lastKnown σ.log.length } := by
  unfold catchUpSrc; simp [h]

theorem catchUpSrc_log (σ : SrcSt) : (catchUpSrc σ).log = σ.log := by
  unfold catchUpSrc; split
  · rfl
  · exact startWorker_log _ _ _

theorem catchUpSrc_desc_none (σ : SrcSt) (h : σ.desc = none) : (catchUpSrc σ).desc = none := by
  rw [catchUpSrc_none σ h]; exact h

theorem ginv_catchUp (cfg : Cfg) (st : State) (h : GInv cfg st) (hdn : st.down = false) : GInv cfg (catchUpAll st) := by
  obtain ⟨g1, g2, g3, g4⟩ := h
  refine ⟨fun s => sinv_catchUpSrc cfg st.flt (st.srcs s) _ (g1 s), fun we hw => ?_,
    fun s hs => catchUpSrc_desc_none _ (g3 s hs), fun hd => by rw [show (catchUpAll st).down = st.down from rfl, hdn] at hd; cases hd⟩
  obtain ⟨b1, b2, b3⟩ := g2 we hw
  refine ⟨b1, b2, ?_⟩
  show we.endPos ≤ (catchUpSrc (st.srcs we.src)).log.length
  rw [catchUpSrc_log]; exact b3

/-- the repaired LTS keeps the copy invariant, whichever repairs are switched on -/
theorem stepR_ginv (cfg : Cfg) (rc : RCfg) (st st' : State) (l : Label) (h : GInv cfg st)
    (hs : stepR cfg rc st l = some st') : GInv cfg st' := by
  obtain ⟨s1, h1, hrep, _⟩ := stepR_cases hs
  have g1 := step_ginv h h1
  rcases hrep with ⟨rfl, _, _⟩ | ⟨_, _, _, rfl⟩ | ⟨rfl, _, _, rfl⟩
  · exact g1
  · exact ginv_resaveAll cfg s1 g1
  · exact ginv_catchUp cfg s1 g1 h1.restart_inv.2.1

theorem runR_ginv (cfg : Cfg) (rc : RCfg) (st : State) (ls : List Label) (h : GInv cfg st) : GInv cfg (runR cfg rc st ls) :=
  runR_inv (fun st l st' h hs => stepR_ginv cfg rc st st' l h hs) st ls h

/-! ### publication order (repair of F10) -/

/-- events of one source appear in storage order -/
def SameSrcOrdered (l : List WE) : Prop := l.Pairwise (fun a b => a.src = b.src → a.endPos ≤ b.startPos)
/-- at most one unpublished event per source -/
def OnePending (l : List WE) : Prop := l.Pairwise (fun a b => a.src ≠ b.src)

def PubInv (st : State) : Prop := SameSrcOrdered (st.chan ++ st.pend) ∧ OnePending st.pend

theorem pubinv_frame (st st' : State) (h : PubInv st) (e1 : st'.chan = st.chan) (e2 : st'.pend = st.pend) : PubInv st' := by
  unfold PubInv at *; rw [e1, e2]; exact h

theorem pubinv_init (n : Nat) (l : Nat → Bool) (p : Nat → Bytes) (f : Ev → Bool) (o : Bool) : PubInv (init n l p f o) := by
  simp [PubInv, SameSrcOrdered, OnePending, init]

/-- the event moves from the middle of `pend` to the end of `chan`: what stood before it in `pend` now stands after it,
harmless because unpublished events have pairwise different sources -/
theorem pubinv_publish {pend chan : List WE} {i : Nat} {we : WE} (hpi : pend[i]? = some we)
    (ho : SameSrcOrdered (chan ++ pend)) (hp : OnePending pend) :
    SameSrcOrdered ((chan ++ [we]) ++ pend.eraseIdx i) ∧ OnePending (pend.eraseIdx i) := by
  have hlt : i < pend.length := by
    rcases Nat.lt_or_ge i pend.length with h | h
    · exact h
    · rw [List.getElem?_eq_none h] at hpi; cases hpi
  have hmem : we ∈ pend := List.mem_of_getElem? hpi
  have hdiff : ∀ b ∈ pend.eraseIdx i, we.src ≠ b.src := by
    have hsplit : pend = pend.take i ++ we :: pend.drop (i + 1) := by
      have hget : pend[i] = we := by
        rw [List.getElem?_eq_getElem hlt] at hpi; exact Option.some.inj hpi
      rw [← hget]; exact (List.take_append_drop i pend).symm.trans (by rw [List.drop_eq_getElem_cons hlt])
    have hp' := hp
    unfold OnePending at hp'
    rw [hsplit, List.pairwise_append, List.pairwise_cons] at hp'
    intro b hb
    rw [List.eraseIdx_eq_take_drop_succ, List.mem_append] at hb
    rcases hb with hb | hb
    · exact fun e => hp'.2.2 b hb we (by simp) e.symm
    · exact hp'.2.1.1 b hb
  have hsub : List.Sublist (pend.eraseIdx i) pend := List.eraseIdx_sublist _ _
  refine ⟨?_, hp.sublist hsub⟩
  unfold SameSrcOrdered at ho ⊢
  rw [List.pairwise_append] at ho ⊢
  obtain ⟨o1, o2, o3⟩ := ho
  refine ⟨?_, o2.sublist hsub, ?_⟩
  · rw [List.pairwise_append]
    refine ⟨o1, by simp, ?_⟩
    intro a ha b hb
    rw [List.mem_singleton] at hb; subst hb
    exact o3 a ha b hmem
  · intro a ha b hb
    rw [List.mem_append, List.mem_singleton] at ha
    rcases ha with ha | rfl
    · exact o3 a ha b (hsub.subset hb)
    · exact fun e => absurd e (hdiff b hb)

/-- **with the write lock, publication keeps storage order**: one step of the repaired LTS -/
theorem stepR_pubinv (cfg : Cfg) (rc : RCfg) (hw : rc.writeLock = true) (st st' : State) (l : Label)
    (hg : GInv cfg st) (h : PubInv st) (hs : stepR cfg rc st l = some st') : PubInv st' := by
  obtain ⟨s1, h1, hrep, hlock⟩ := stepR_cases hs
  suffices h1' : PubInv s1 by
    rcases hrep with ⟨rfl, _, _⟩ | ⟨_, _, _, rfl⟩ | ⟨_, _, _, rfl⟩
    · exact h1'
    · exact pubinv_frame _ _ h1' rfl rfl
    · exact pubinv_frame _ _ h1' rfl rfl
  have hany := hlock hw
  obtain ⟨ho, hp⟩ := h
  cases h1 with
  | write s b hup hlt =>
    have hfree := hany s b rfl
    cases b with
    | nil => exact ⟨ho, hp⟩
    | cons e es =>
      -- the new event is the last of its source: every queued event of `s` ends inside the old log
      simp only [List.isEmpty_cons, Bool.false_eq_true, if_false]
      constructor
      · show SameSrcOrdered (st.chan ++ (st.pend ++ [_]))
        rw [← List.append_assoc]
        unfold SameSrcOrdered
        rw [List.pairwise_append]
        refine ⟨ho, by simp, ?_⟩
        intro a ha b' hb'
        simp only [List.mem_singleton] at hb'
        subst hb'
        intro hsrc
        have := (hg.2.1 a ha).2.2
        simp only at hsrc
        rw [hsrc] at this
        exact this
      · unfold OnePending
        rw [List.pairwise_append]
        refine ⟨hp, by simp, ?_⟩
        intro a ha b' hb'
        simp only [List.mem_singleton] at hb'
        subst hb'
        exact hfree a ha
  | enqueue i we hpi hup hcap => exact pubinv_publish hpi ho hp
  | notifyHit we rest hup hcl hch hit =>
    unfold SameSrcOrdered at ho
    rw [hch, List.cons_append, List.pairwise_cons] at ho
    exact ⟨ho.2, hp⟩
  | notifyMiss we rest hup hcl hch hit =>
    unfold SameSrcOrdered at ho
    rw [hch, List.cons_append, List.pairwise_cons] at ho
    exact ⟨ho.2, hp⟩
  | halt hcl hup hidle => simp [PubInv, SameSrcOrdered, OnePending]
  | _ => exact ⟨ho, hp⟩

theorem runR_pubinv (cfg : Cfg) (rc : RCfg) (hw : rc.writeLock = true) (st : State) (ls : List Label)
    (hg : GInv cfg st) (h : PubInv st) : PubInv (runR cfg rc st ls) :=
  (runR_inv (P := fun st => GInv cfg st ∧ PubInv st)
    (fun st l st' h hs => ⟨stepR_ginv cfg rc st st' l h.1 hs, stepR_pubinv cfg rc hw st st' l h.1 h.2 hs⟩) st ls ⟨hg, h⟩).2

end Logrange.PipeLts

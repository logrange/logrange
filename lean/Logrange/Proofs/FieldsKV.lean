import Logrange.Model.FieldsKV
/-! Lemmas about the binary field encoding (`FieldsKV`): decode ∘ encode, evenness of what `fromKV` writes. -/
namespace Logrange.Proofs.FieldsKV
open Go Logrange.Quote Logrange.KV Logrange.Tags Logrange.FieldsKV

theorem toNat_ofNat_le (n : Nat) (h : n ≤ 255) : (UInt8.ofNat n).toNat = n := by
  simp [UInt8.toNat_ofNat']
  omega

theorem decode_item (f : Nat) (k rest : Bytes) (hk : k.length ≤ 255) :
    decodeItems (f+1) (UInt8.ofNat k.length :: (k ++ rest)) = (decodeItems f rest).map (fun xs => k :: xs) := by
  simp [decodeItems, toNat_ofNat_le _ hk]
  omega

theorem encodeItems_length (items : List Bytes) : items.length ≤ (encodeItems items).length := by
  induction items with
  | nil => simp [encodeItems]
  | cons x xs ih =>
    simp only [encodeItems, List.flatMap_cons, encPiece, List.length_append, List.length_cons] at *
    omega

theorem decode_encode (items : List Bytes) (h : ∀ p ∈ items, p.length ≤ 255) (f : Nat) (hf : items.length ≤ f) :
    decodeItems f (encodeItems items) = some items := by
  induction items generalizing f with
  | nil => cases f <;> simp [encodeItems, decodeItems]
  | cons p ps ih =>
    have hp := h p (by simp)
    match f, hf with
    | f+1, hf =>
      have := ih (fun q hq => h q (by simp [hq])) f (by simp at hf; omega)
      simp only [encodeItems, List.flatMap_cons] at *
      have e : encPiece p ++ List.flatMap encPiece ps
          = UInt8.ofNat p.length :: (p ++ List.flatMap encPiece ps) := by simp [encPiece]
      rw [e, decode_item _ _ _ hp, this]
      simp

theorem decodeItems_some (fuel : Nat) (f : Bytes) : ∀ items, decodeItems fuel f = some items →
    f = encodeItems items ∧ ∀ p ∈ items, p.length ≤ 255 := by
  fun_induction decodeItems fuel f with
  | case1 | case3 => intro items h; cases h; exact ⟨rfl, fun _ hp => nomatch hp⟩
  | case2 | case4 => intro items h; cases h
  | case5 n c rest hlt ih =>
    intro items h
    cases hr : decodeItems n (rest.drop c.toNat) with
    | none => rw [hr] at h; cases h
    | some xs =>
      rw [hr] at h
      cases h
      obtain ⟨e, hle⟩ := ih xs hr
      have hl : (rest.take c.toNat).length = c.toNat := List.length_take_of_le (Nat.le_of_not_lt hlt)
      refine ⟨?_, ?_⟩
      · show c :: rest = encPiece (rest.take c.toNat) ++ encodeItems xs
        rw [← e, encPiece, hl, UInt8.ofNat_toNat, List.cons_append, List.take_append_drop]
      · intro p hp
        rcases List.mem_cons.mp hp with rfl | hp
        · rw [hl]; exact Nat.le_of_lt_succ c.toNat_lt
        · exact hle p hp

theorem fromKVLoop_length (res : List Bytes) (even : Bool) :
    ∀ items, fromKVLoop res even = some items → items.length = res.length := by
  fun_induction fromKVLoop res even with
  | case1 => intro items h; cases h; rfl
  | case7 v rest even _ _ _ v' _ _ r hr ih =>
    intro items h; cases h
    rw [List.length_cons, List.length_cons, ih r hr]
  | case2 | case3 | case4 | case5 | case6 => intro items h; cases h

theorem trimSpaces_length_le (s : Bytes) : (trimSpaces s).length ≤ s.length := by
  unfold trimSpaces
  rw [List.length_reverse]
  refine Nat.le_trans (List.dropWhile_sublist _).length_le ?_
  rw [List.length_reverse]
  exact (List.dropWhile_sublist _).length_le

theorem decodeValue_unquoted (v v' : Bytes) (hq : startsQuoted v = false) (h : decodeValue v = some v') : v' = v := by
  cases v with
  | nil => simp [decodeValue] at h; exact h
  | cons c t =>
    simp [startsQuoted] at hq
    simp [decodeValue, hq.1, hq.2] at h
    exact h.symm

/-- with the limit tested on the raw piece and again on the unquoted value, every stored piece fits the limit -/
theorem fromKVLoop_items_le (hB : Logrange.Generated.C08.fieldLimitBeforeUnquote = true)
    (hA : Logrange.Generated.C08.fieldLimitAfterUnquote = true) (res : List Bytes) (even : Bool) :
    ∀ items, fromKVLoop res even = some items → ∀ p ∈ items, p.length ≤ maxLen := by
  fun_induction fromKVLoop res even with
  | case1 => intro items h; cases h; exact fun _ hp => nomatch hp
  | case7 v rest even h1 _ _ v' hd h2 r hr ih =>
    intro items h; cases h
    intro p hp
    rcases List.mem_cons.mp hp with rfl | hp
    · simp [hB] at h1
      simp [hA] at h2
      cases hq : startsQuoted (trimSpaces v) with
      | true => exact h2 hq
      | false =>
        rw [decodeValue_unquoted _ _ hq hd]
        exact Nat.le_trans (trimSpaces_length_le v) h1
    · exact ih r hr p hp
  | case2 | case3 | case4 | case5 | case6 => intro items h; cases h

theorem fromKVItems_some (t : Bytes) : ∀ items, fromKVItems t = some items →
    items = [] ∨ ∃ res : List Bytes, res.length % 2 = 0 ∧ fromKVLoop res true = some items := by
  fun_cases fromKVItems t
  case case1 | case3 => exact fun _ h => Or.inl (Option.some.inj h).symm
  case case2 | case4 | case5 => exact fun _ h => nomatch h
  case case6 res _ hodd => exact fun _ h => Or.inr ⟨res, by rw [beq_iff_eq] at hodd; omega, h⟩

theorem fromKVItems_items_le (hB : Logrange.Generated.C08.fieldLimitBeforeUnquote = true)
    (hA : Logrange.Generated.C08.fieldLimitAfterUnquote = true) (t : Bytes) (items : List Bytes)
    (h : fromKVItems t = some items) : ∀ p ∈ items, p.length ≤ maxLen := by
  rcases fromKVItems_some t items h with rfl | ⟨res, _, h⟩
  · exact fun _ hp => nomatch hp
  · exact fromKVLoop_items_le hB hA _ _ _ h

theorem fromKVItems_even (t : Bytes) (items : List Bytes) (h : fromKVItems t = some items) :
    items.length % 2 = 0 := by
  rcases fromKVItems_some t items h with rfl | ⟨res, hev, h⟩
  · rfl
  · rw [fromKVLoop_length _ _ _ h]; exact hev

end Logrange.Proofs.FieldsKV

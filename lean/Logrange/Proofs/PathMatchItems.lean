import Logrange.Model.PathMatchGreedy
/-!
Star-free items, one item at a time: `consume [i]` is the piece of the name one item takes, `consume` and `matchItems` on a
list iterate it, so everything about star-free segments follows by induction on the segment without looking at the kind of
item again.
-/
namespace Logrange.PathSpec
open Logrange.PathMatch

theorem hasStar_cons {i : Item} {s : List Item} (h : hasStar (i :: s) = false) : i.isStar = false ∧ hasStar s = false := by
  cases i <;> first | cases h | exact ⟨rfl, h⟩

theorem consume_cons (i : Item) (its : List Item) (s : Bytes) :
    consume (i :: its) s = (consume [i] s).bind (consume its) := by
  cases i <;> cases s <;> simp only [consume, Option.bind_none] <;> split <;> rfl

theorem matchItems_cons (i : Item) (r : List Item) (n : Bytes) (hi : i.isStar = false) :
    matchItems (i :: r) n = (match consume [i] n with | some t => matchItems r t | none => false) := by
  cases i with
  | star => cases hi
  | any => cases n with
    | nil => rfl
    | cons c t => simp only [matchItems, consume]; cases (c != SL) <;> rfl
  | cls neg rs => cases n with
    | nil => rfl
    | cons c t =>
      simp only [matchItems, consume]
      show (inRanges rs (decodeRune (c :: t)).1 != neg && _) = _
      cases (inRanges rs (decodeRune (c :: t)).1 != neg) <;> rfl
  | lit x => cases n with
    | nil => rfl
    | cons c t => simp only [matchItems, consume]; cases (c == x) <;> rfl

theorem consume_one_suffix (i : Item) (s t : Bytes) (h : consume [i] s = some t) : ∃ a, s = a ++ t := by
  cases i <;> cases s <;> simp only [consume] at h <;> try cases h
  all_goals
    split at h
    · cases h
      first
        | exact ⟨List.take _ _, (List.take_append_drop _ _).symm⟩
        | exact ⟨[_], rfl⟩
    · cases h

theorem matchItems_seg : ∀ (seg rest : List Item) (n : Bytes), hasStar seg = false →
    matchItems (seg ++ rest) n = (match consume seg n with | some t => matchItems rest t | none => false)
  | [], _, _, _ => rfl
  | i :: r, rest, n, h => by
    obtain ⟨hi, hr⟩ := hasStar_cons h
    rw [List.cons_append, matchItems_cons i _ n hi, consume_cons i r n]
    cases consume [i] n with
    | none => rfl
    | some t => exact matchItems_seg r rest t hr

theorem matchItems_consume : ∀ (its : List Item) (n : Bytes), hasStar its = false →
    matchItems its n = (consume its n == some []) := by
  intro its n h
  rw [← List.append_nil its, matchItems_seg its [] n h, List.append_nil]
  cases consume its n with
  | none => rfl
  | some t => cases t <;> rfl

theorem consume_suffix : ∀ (seg : List Item) (s t : Bytes), consume seg s = some t → ∃ a, s = a ++ t
  | [], s, t, h => by simp only [consume, Option.some.injEq] at h; exact ⟨[], by simp [h]⟩
  | i :: r, s, t, h => by
    rw [consume_cons i r s] at h
    cases h1 : consume [i] s with
    | none => rw [h1] at h; cases h
    | some u =>
      rw [h1] at h
      obtain ⟨a, ha⟩ := consume_one_suffix i s u h1
      obtain ⟨b, hb⟩ := consume_suffix r u t h
      exact ⟨a ++ b, by rw [ha, hb, List.append_assoc]⟩

end Logrange.PathSpec

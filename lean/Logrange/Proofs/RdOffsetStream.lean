import Logrange.Model.RdQueryLoop
/-!
The loops that only call `Get` and `Next` — the read loop of `Query`, the step loop of `crsr.Offset` and its positive branch —
over any cursor, given what the two calls do to "the events still to deliver". Every kind of cursor (one partition forward or
backward, two partitions merged) supplies the two facts and gets the loops from here.
-/
namespace Logrange.Rd

/-- `R c L`: the cursor `c` has exactly `L` still to deliver in its direction; `S c L`: the same, and `c` has settled on the
first of them, as a `Get` leaves it. `Next` is specified from a settled state only: every loop calls it right after a `Get`. -/
structure Delivers (R S : Cur → List Rec → Prop) : Prop where
  get : ∀ {c L}, R c L → (curGet c).2 = L.head? ∧ S (curGet c).1 L
  next : ∀ {c L}, S c L → R (curNext c) L.tail
  settled : ∀ {c L}, S c L → R c L

namespace Delivers
variable {R S : Cur → List Rec → Prop} (D : Delivers R S)
include D

theorem steps : ∀ (k : Nat) (c : Cur) (L : List Rec) (pos : PosId),
    S c L → S (offsetSteps k c pos).1 (L.drop k) := by
  intro k
  induction k with
  | zero => intro c L pos h; exact h
  | succ k ih =>
    intro c L pos h
    obtain ⟨g1, g2⟩ := D.get (D.next h)
    rw [offsetSteps, ← List.drop_tail]
    generalize curGet (curNext c) = p at g1 g2
    obtain ⟨c', v⟩ := p
    cases v with
    | none =>
      rw [List.head?_eq_none_iff.mp g1.symm] at g2 ⊢
      rw [List.drop_nil]; exact g2
    | some x => exact ih _ _ _ g2

theorem offset_pos {c : Cur} {L : List Rec} (k : Nat) (h : R c L) : R (offset c (k : Int)) (L.drop k) := by
  cases k with
  | zero => exact h
  | succ k =>
    have e : offset c ((k + 1 : Nat) : Int) = (offsetSteps (k + 1) (curGet c).1 none).1 := by
      have h1 : ((((k + 1 : Nat) : Int)) == 0) = false := by
        simp only [beq_eq_false_iff_ne, ne_eq]; omega
      have h2 : ¬ (((k + 1 : Nat) : Int)) < 0 := by omega
      rw [offset, h1]
      simp only [Bool.false_eq_true, if_false, h2, Int.natAbs_natCast]
    rw [e]
    exact D.settled (D.steps (k + 1) _ _ none (D.get h).2)

theorem readLoop : ∀ (k : Nat) (c : Cur) (L acc : List Rec), R c L →
    (readLoop k c acc).2 = acc.reverse ++ L.take k ∧ R (readLoop k c acc).1 (L.drop k) := by
  intro k
  induction k with
  | zero => intro c L acc h; exact ⟨by simp [Rd.readLoop], h⟩
  | succ k ih =>
    intro c L acc h
    obtain ⟨g1, g2⟩ := D.get h
    rw [Rd.readLoop]
    generalize curGet c = p at g1 g2
    obtain ⟨c', v⟩ := p
    cases v with
    | none =>
      rw [List.head?_eq_none_iff.mp g1.symm] at g2 ⊢
      exact ⟨by simp, by rw [List.drop_nil]; exact D.settled g2⟩
    | some r =>
      obtain ⟨q1, q2⟩ := ih (curNext c') L.tail (r :: acc) (D.next g2)
      cases L with
      | nil => cases g1
      | cons x xs =>
        cases g1
        exact ⟨by rw [show (_ : Cur × List Rec).2 = _ from q1]; simp, q2⟩

end Delivers
end Logrange.Rd

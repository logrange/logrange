import Logrange.Model.PartScan
import Logrange.Proofs.FitRange
import Logrange.Proofs.Points
/-! The forward scan of the selector/iterator over a journal delivers, chunk by chunk, exactly the positions inside each
chunk's window (`scanAll_eq`); with complete windows the range-filtered scan of a partition is the filter of its full
read (`partition_read_eq_filter`). -/
namespace Logrange.PartScan
open Logrange Selector Points

theorem filter_range_interval (a b : Nat) : ∀ n : Nat,
    (List.range n).filter (fun p => decide (a ≤ p ∧ p ≤ b)) = List.range' a (min n (b + 1) - a) := by
  intro n
  induction n with
  | zero => simp
  | succ n ih =>
    rw [List.range_succ, List.filter_append, ih]
    by_cases h : a ≤ n ∧ n ≤ b
    · have e1 : min (n + 1) (b + 1) - a = (min n (b + 1) - a) + 1 := by omega
      have e2 : a + (min n (b + 1) - a) = n := by omega
      rw [e1, List.range'_concat]
      simp [h, e2]
    · have e1 : min (n + 1) (b + 1) - a = min n (b + 1) - a := by omega
      rw [e1]
      simp [h]

theorem windowPositions_eq (st : ChkSt) :
    windowPositions st = List.range' st.minPos (min st.count (st.maxPos + 1) - st.minPos) := by
  unfold windowPositions
  exact filter_range_interval st.minPos st.maxPos st.count

/-- inside an opened chunk the iterator delivers the consecutive positions up to the end of the window / of the chunk -/
theorem scanFrom_eq (st : ChkSt) : ∀ (fuel pos : Nat), st.minPos ≤ pos → pos ≤ st.maxPos → st.count - pos ≤ fuel →
    scanFrom st fuel pos = List.range' pos (min st.count (st.maxPos + 1) - pos) := by
  -- `E`: the end of what is delivered; the arithmetic below only needs how positions compare with it
  generalize hE : min st.count (st.maxPos + 1) = E
  have hE1 : ∀ p, p < E ↔ p < st.count ∧ p ≤ st.maxPos := by intro p; omega
  intro fuel
  induction fuel with
  | zero =>
    intro pos _ h2 hf
    have : E - pos = 0 := by have := hE1 pos; omega
    rw [this]; rfl
  | succ fuel ih =>
    intro pos h1 h2 hf
    unfold scanFrom
    by_cases hc : pos < st.count
    · have hlt : pos < E := (hE1 pos).mpr ⟨hc, h2⟩
      have e : E - pos = (E - (pos + 1)) + 1 := by omega
      rw [if_pos hc, e, List.range'_succ]
      by_cases hn : pos + 1 > st.maxPos
      · have : E - (pos + 1) = 0 := by have := hE1 (pos + 1); omega
        simp [hn, this]
      · have hm : ¬ (pos + 1 < st.minPos) := by omega
        simp only [hm, hn, decide_false, Bool.or_self, Bool.false_eq_true, if_false]
        rw [ih (pos + 1) (by omega) (by omega) (by omega)]
    · have : E - pos = 0 := by have := hE1 pos; omega
      rw [if_neg hc, this]; rfl

/-- `checkPosOrAdvance` -/
theorem checkAdvance_eq (st : ChkSt) (pI : Nat) :
    checkAdvance st pI = if max st.minPos pI ≥ st.count ∨ max st.minPos pI > st.maxPos then (st.count, false)
      else (max st.minPos pI, true) := by
  have hp : (if pI < st.minPos then st.minPos else pI) = max st.minPos pI := by
    by_cases h : pI < st.minPos
    · rw [if_pos h]; omega
    · rw [if_neg h]; omega
  simp only [checkAdvance, hp, Bool.or_eq_true, decide_eq_true_eq]

theorem windowFrom_eq (st : ChkSt) (pIdx : Nat) :
    (windowPositions st).filter (fun p => decide (pIdx ≤ p)) =
      List.range' (max st.minPos pIdx) (min st.count (st.maxPos + 1) - max st.minPos pIdx) := by
  unfold windowPositions
  rw [List.filter_filter, ← filter_range_interval (max st.minPos pIdx) st.maxPos st.count]
  apply List.filter_congr
  intro p _
  by_cases h1 : pIdx ≤ p <;> by_cases h2 : st.minPos ≤ p <;> by_cases h3 : p ≤ st.maxPos <;> simp [h1, h2, h3] <;> omega

/-- `pIdx` is 0 when the reader comes from the chunk before, the position a page ended with for a re-created cursor -/
theorem checkAdvance_mid (st : ChkSt) (pIdx : Nat) :
    ((checkAdvance st pIdx).2 = false ∧ (windowPositions st).filter (fun p => decide (pIdx ≤ p)) = []) ∨
    ((checkAdvance st pIdx).2 = true ∧
      scanFrom st st.count (checkAdvance st pIdx).1 = (windowPositions st).filter (fun p => decide (pIdx ≤ p))) := by
  rw [windowFrom_eq, checkAdvance_eq]
  by_cases hbad : max st.minPos pIdx ≥ st.count ∨ max st.minPos pIdx > st.maxPos
  · left
    rw [if_pos hbad]
    have : min st.count (st.maxPos + 1) - max st.minPos pIdx = 0 := by omega
    exact ⟨rfl, by rw [this]; rfl⟩
  · right
    rw [if_neg hbad]
    exact ⟨rfl, scanFrom_eq st st.count (max st.minPos pIdx) (by omega) (by omega) (by omega)⟩

/-- a refused chunk costs no fuel -/
theorem scan_step (st : ChkSt) (rest : List ChkSt) (pIdx f k : Nat) :
    ∃ f', f ≤ f' ∧ scan (f + 1) (st :: rest) pIdx k =
      ((windowPositions st).filter (fun p => decide (pIdx ≤ p))).map (fun p => (k, p)) ++ scan f' rest 0 (k + 1) := by
  rcases checkAdvance_mid st pIdx with ⟨hb, hw⟩ | ⟨hb, hw⟩
  · refine ⟨f + 1, Nat.le_succ f, ?_⟩
    have hg : getPosForward (st :: rest) pIdx k = getPosForward rest 0 (k + 1) := by
      rw [getPosForward]
      cases hca : checkAdvance st pIdx with
      | mk np ok => rw [hca] at hb; rw [show ok = false from hb]
    rw [hw, List.map_nil, List.nil_append]
    simp only [scan, hg]
  · refine ⟨f, Nat.le_refl f, ?_⟩
    have hg : getPosForward (st :: rest) pIdx k = some (k, (checkAdvance st pIdx).1, st, rest) := by
      rw [getPosForward]
      cases hca : checkAdvance st pIdx with
      | mk np ok => rw [hca] at hb; rw [show ok = true from hb]
    simp only [scan, hg]
    rw [hw]

/-- **the scan as a fold over chunks**: `getPosForward`/`Get`/`Next`/`advanceChunk` deliver, chunk after chunk, the
positions inside each chunk's window -/
theorem scan_eq : ∀ (cs : List ChkSt) (fuel k : Nat), cs.length + 1 ≤ fuel → scan fuel cs 0 k = journalPositions cs k := by
  intro cs
  induction cs with
  | nil =>
    intro fuel k hf
    obtain ⟨f, rfl⟩ : ∃ f, fuel = f + 1 := ⟨fuel - 1, by omega⟩
    rfl
  | cons st rest ih =>
    intro fuel k hf
    obtain ⟨f, rfl⟩ : ∃ f, fuel = f + 1 := ⟨fuel - 1, by omega⟩
    obtain ⟨f', hf', e⟩ := scan_step st rest 0 f k
    rw [e, ih f' (k + 1) (by simp at hf; omega), List.filter_eq_self.mpr (fun _ _ => by simp)]
    rfl

theorem scanAll_eq (cs : List ChkSt) : scanAll cs = journalPositions cs 0 :=
  scan_eq cs (cs.length + 1) 0 (Nat.le_refl _)

theorem scan_mid_eq (st : ChkSt) (rest : List ChkSt) (pIdx fuel k : Nat) (hf : rest.length + 2 ≤ fuel) :
    scan fuel (st :: rest) pIdx k =
      ((windowPositions st).filter (fun p => decide (pIdx ≤ p))).map (fun p => (k, p)) ++ journalPositions rest (k + 1) := by
  obtain ⟨f, rfl⟩ : ∃ f, fuel = f + 1 := ⟨fuel - 1, by omega⟩
  obtain ⟨f', hf', e⟩ := scan_step st rest pIdx f k
  rw [e, scan_eq rest f' (k + 1) (by omega)]

/-! ## partitions -/

/-- what the time index knows about one chunk -/
structure ChunkMeta where
  n : Nat
  hull : Hull
  idx : Option (List Pt)

/-- the status `updatePoss` gives the chunk for the range `r` -/
def statusOf (r : TmRange) (c : ChunkMeta) : ChkSt :=
  { minPos := (window c.hull c.idx r).1, maxPos := (window c.hull c.idx r).2, count := c.n }

/-- the window of every range contains every in-range position of the chunk -/
def WindowComplete (tsOf : Nat → Int) (c : ChunkMeta) : Prop :=
  ∀ (r : TmRange) (p : Nat), p < c.n → inRange r (tsOf p) → inWindow (window c.hull c.idx r) p

/-- all chunks of a partition (`ts k` = timestamps of chunk `k`) have complete windows -/
def AllComplete (ts : Nat → Nat → Int) : List ChunkMeta → Nat → Prop
  | [], _ => True
  | c :: rest, k => WindowComplete (ts k) c ∧ AllComplete ts rest (k + 1)

/-- the unbounded read: every position of every chunk in order -/
def fullPositions : List ChunkMeta → Nat → List (Nat × Nat)
  | [], _ => []
  | c :: rest, k => (List.range c.n).map (fun p => (k, p)) ++ fullPositions rest (k + 1)

/-- the ranged read of a partition: the selector/iterator scan under the statuses of `r`, then `fiterator`'s re-check -/
def rangedRead (ts : Nat → Nat → Int) (cs : List ChunkMeta) (r : TmRange) : List (Nat × Nat) :=
  (scanAll (cs.map (statusOf r))).filter (fun kp => RangedIter.fitInRange r.minTs r.maxTs (ts kp.1 kp.2))

theorem chunk_eq_of_complete {tsOf : Nat → Int} (c : ChunkMeta) (r : TmRange) (hw : WindowComplete tsOf c) :
    (windowPositions (statusOf r c)).filter (fun p => RangedIter.fitInRange r.minTs r.maxTs (tsOf p)) =
      (List.range c.n).filter (fun p => decide (inRange r (tsOf p))) := by
  unfold windowPositions statusOf
  simp only []
  rw [List.filter_filter]
  apply List.filter_congr
  intro p hp
  have hpn : p < c.n := by simpa using hp
  rw [RangedIter.fitInRange_eq]
  by_cases hr : inRange r (tsOf p)
  · have := hw r p hpn hr
    unfold inWindow at this
    simp [this.1, this.2, hr]
  · simp [hr]

theorem journal_filter_eq (ts : Nat → Nat → Int) (r : TmRange) : ∀ (cs : List ChunkMeta) (k : Nat), AllComplete ts cs k →
    (journalPositions (cs.map (statusOf r)) k).filter (fun kp => RangedIter.fitInRange r.minTs r.maxTs (ts kp.1 kp.2)) =
      (fullPositions cs k).filter (fun kp => decide (inRange r (ts kp.1 kp.2))) := by
  intro cs
  induction cs with
  | nil => intro k _; simp [journalPositions, fullPositions]
  | cons c rest ih =>
    intro k hall
    simp only [List.map_cons, journalPositions, fullPositions, List.filter_append]
    rw [ih (k + 1) hall.2]
    congr 1
    rw [List.filter_map, List.filter_map]
    congr 1
    exact chunk_eq_of_complete (tsOf := ts k) c r hall.1

/-- **partition_read_eq_filter**: for a journal whose chunks all have complete windows, the ranged read over the whole
partition — selector stepping chunk by chunk, then the range re-check — is exactly the filter of the unbounded read. -/
theorem partition_read_eq_filter (ts : Nat → Nat → Int) (cs : List ChunkMeta) (r : TmRange) (hall : AllComplete ts cs 0) :
    rangedRead ts cs r = (fullPositions cs 0).filter (fun kp => decide (inRange r (ts kp.1 kp.2))) := by
  unfold rangedRead
  rw [scanAll_eq]
  exact journal_filter_eq ts r cs 0 hall

/-! ## a reader that starts inside a window (paging: a cursor re-created at the position the previous page ended with) -/

/-- the positions of a journal at or behind `(k, pIdx)` (first chunk of the list = chunk `k`) -/
def fullFrom : List ChunkMeta → Nat → Nat → List (Nat × Nat)
  | [], _, _ => []
  | c :: rest, pIdx, k => ((List.range c.n).filter (fun p => decide (pIdx ≤ p))).map (fun p => (k, p)) ++ fullPositions rest (k + 1)

/-- **resume_read_eq_filter** — paging from a position inside a window: a ranged read that is resumed at `(k, pIdx)` (a
new cursor at the position the previous page ended with: `getPosForward` enters the chunk at `pIdx`, corrected to the
window) delivers exactly the in-range records at or behind that position — provided the windows are complete. -/
theorem resume_read_eq_filter (ts : Nat → Nat → Int) (c : ChunkMeta) (rest : List ChunkMeta) (r : TmRange) (pIdx k : Nat)
    (hall : AllComplete ts (c :: rest) k) :
    (scan (rest.length + 2) ((c :: rest).map (statusOf r)) pIdx k).filter
        (fun kp => RangedIter.fitInRange r.minTs r.maxTs (ts kp.1 kp.2)) =
      (fullFrom (c :: rest) pIdx k).filter (fun kp => decide (inRange r (ts kp.1 kp.2))) := by
  rw [List.map_cons, scan_mid_eq _ _ pIdx _ k (by simp)]
  simp only [fullFrom, List.filter_append]
  rw [journal_filter_eq ts r rest (k + 1) hall.2]
  congr 1
  rw [List.filter_map, List.filter_map]
  congr 1
  have := chunk_eq_of_complete (tsOf := ts k) c r hall.1
  have hL : ∀ (P : Nat → Bool) (L : List Nat) (Q : Nat × Nat → Bool),
      List.filter (Q ∘ fun p => (k, p)) (List.filter P L) = List.filter P (List.filter (fun p => Q (k, p)) L) := by
    intro P L Q
    rw [List.filter_filter, List.filter_filter]
    apply List.filter_congr
    intro p _
    simp [Bool.and_comm]
  rw [hL, hL, this]

/-! ## backward entry -/

/-- **backward reading enters a chunk at or behind every in-range record**: `getPosBackward` enters a chunk that is not the
wanted one at index MaxUint32, `checkPosOrReduce` pulls it down to `min maxPos (count − 1)`; when the window contains a
position `q` of the chunk (what `chunk_window_sound` gives for every in-range `q`), the chunk is accepted and the entry
position is `≥ q` and inside the window — nothing in range lies behind the point where the backward reader starts, and
`Next` (which leaves the chunk below `minPos`) cannot leave before `q`. For the wanted chunk itself (`pIdx` = the position
a page ended with) the entry is `min pIdx (min maxPos (count − 1))`. -/
theorem checkReduce_covers (st : ChkSt) (pIdx q : Nat) (h1 : st.minPos ≤ q) (h2 : q ≤ st.maxPos) (h3 : q < st.count)
    (hc : st.count ≤ 4294967296) :
    checkReduce st pIdx = (min pIdx (min st.maxPos (st.count - 1)), decide (st.minPos ≤ min pIdx (min st.maxPos (st.count - 1)))) ∧
      (q ≤ pIdx → (checkReduce st pIdx).2 = true ∧ q ≤ (checkReduce st pIdx).1 ∧ (checkReduce st pIdx).1 ≤ st.maxPos) := by
  have hw : (st.count + 4294967296 - 1) % 4294967296 = st.count - 1 := by omega
  have e1 : (if pIdx > st.maxPos then st.maxPos else pIdx) = min pIdx st.maxPos := by split <;> omega
  have e2 : ∀ a, (if a ≥ st.count then st.count - 1 else a) = min a (st.count - 1) := by intro a; split <;> omega
  have e : checkReduce st pIdx = (min pIdx (min st.maxPos (st.count - 1)), decide (st.minPos ≤ min pIdx (min st.maxPos (st.count - 1)))) := by
    simp only [checkReduce, hw, e1, e2, Nat.min_assoc, decide_eq_true (show st.count > 0 by omega), Bool.and_true, ge_iff_le]
  refine ⟨e, fun hq => ?_⟩
  have hv : q ≤ min pIdx (min st.maxPos (st.count - 1)) := Nat.le_min.mpr ⟨hq, Nat.le_min.mpr ⟨h2, by omega⟩⟩
  rw [e]
  exact ⟨decide_eq_true (Nat.le_trans h1 hv), hv, Nat.le_trans (Nat.min_le_right _ _) (Nat.min_le_left _ _)⟩

end Logrange.PartScan

import Logrange.Proofs.Lql
import Logrange.Model.LqlStmt
/-!
# Token-level round trip for every statement kind: `directLql ∘ toksLql = id` on the parser's image
-/
namespace Logrange.Lql

/-! ### lists that are empty or start with one of a set of clause keywords -/

def headKwIn (K : List Bytes) : List Tok → Bool
  | [] => true
  | t :: _ => K.any (fun k => t == tKw k)

/-- no keyword of `K` is matched by the literal `kw` -/
def notLit (K : List Bytes) (kw : Bytes) : Bool := K.all (fun k => !litMatch (tKw k) kw)

theorem headNot_of_headKwIn (K : List Bytes) (kw : Bytes) (l : List Tok) (h : headKwIn K l = true)
    (hn : notLit K kw = true) : headNot kw l = true := by
  cases l with
  | nil => simp [headNot]
  | cons t r =>
    simp only [headKwIn, List.any_eq_true, beq_iff_eq] at h
    obtain ⟨k, hk, rfl⟩ := h
    simp only [notLit, List.all_eq_true, Bool.not_eq_true'] at hn
    simp [headNot, hn k hk]

theorem headKwIn_mono (K K' : List Bytes) (l : List Tok) (h : headKwIn K l = true) (hs : ∀ k ∈ K, k ∈ K') :
    headKwIn K' l = true := by
  cases l with
  | nil => simp [headKwIn]
  | cons t r =>
    simp only [headKwIn, List.any_eq_true, beq_iff_eq] at h ⊢
    obtain ⟨k, hk, rfl⟩ := h
    exact ⟨k, hs k hk, rfl⟩

theorem headKwIn_clause {α : Type} (K : List Bytes) (kw : Bytes) (bt : α → List Tok) (o : Option α) (rest : List Tok)
    (h : headKwIn K rest = true) : headKwIn (kw :: K) (kwClauseToks kw bt o ++ rest) = true := by
  cases o with
  | none => simpa [kwClauseToks] using headKwIn_mono K (kw :: K) rest h (fun k hk => List.mem_cons_of_mem _ hk)
  | some a => simp [kwClauseToks, headKwIn]

theorem head_keyword_of_headKwIn (K : List Bytes) (t : Tok) (r : List Tok) (h : headKwIn K (t :: r) = true) :
    t.t = .keyword := by
  simp only [headKwIn, List.any_eq_true, beq_iff_eq] at h
  obtain ⟨k, _, rfl⟩ := h
  rfl

/-! ### the generic guarded clause -/

theorem dKwClause_toks {α : Type} (kw : Bytes) (hk : litMatch (tKw kw) kw = true) (body : List Tok → Option (α × List Tok))
    (bt : α → List Tok) (o : Option α) (rest : List Tok)
    (hb : ∀ a, o = some a → body (bt a ++ rest) = some (a, rest)) (hr : o = none → headNot kw rest = true) :
    dKwClause kw body (kwClauseToks kw bt o ++ rest) = some (o, rest) := by
  cases o with
  | none =>
    cases rest with
    | nil => simp [kwClauseToks, dKwClause]
    | cons t r =>
      have : litMatch t kw = false := by simpa [headNot] using hr rfl
      simp [kwClauseToks, dKwClause, this]
  | some a => simp [kwClauseToks, dKwClause, hk, hb a rfl]

/-! ### clause bodies -/

/-- an int64 the printer's decimal text is read back to by `strconv.ParseInt(s, 0, 64)`, and that text is not mistaken
for an operator or a parenthesis (true for every int64; evaluated on every parsed statement by the harness) -/
def intOK (i : Int) : Bool :=
  parseInt0 (decInt i) == some i && !isOpTok ⟨.number, decInt i⟩ && !litMatch ⟨.number, decInt i⟩ LP

theorem dIntTok_toks (i : Int) (rest : List Tok) (h : intOK i = true) : dIntTok (intTokToks i ++ rest) = some (i, rest) := by
  have hp : parseInt0 (decInt i) = some i := by
    simp only [intOK, Bool.and_eq_true, beq_iff_eq] at h; exact h.1.1
  simp [intTokToks, dIntTok, hp]

theorem dPosTok_toks (p : Bytes) (rest : List Tok) : dPosTok (posTokToks p ++ rest) = some (p, rest) := by
  simp [posTokToks, dPosTok]

/-- the parser's image of `Range` (after `ParseLql`'s post-check): at least one time point; the printed instant is not
mistaken for the bracket -/
def wfRange (rd : Int → Bytes) (r : Range) : Bool :=
  (r.p1.isSome || r.p2.isSome) && optAll (fun v => !litMatch (dateTok rd v) kwLBR) r.p1

def RangeContract (dp : Bytes → Option Int) (rd : Int → Bytes) (r : Range) : Prop :=
  (∀ v, r.p1 = some v → dp (rd v) = some v) ∧ (∀ v, r.p2 = some v → dp (rd v) = some v)

theorem dOptLit_toks (kw : Bytes) (hk : litMatch (tKw kw) kw = true) (b : Bool) (rest : List Tok)
    (h : b = true ∨ headNot kw rest = true) : dOptLit kw ((if b then [tKw kw] else []) ++ rest) = (b, rest) := by
  cases b with
  | true => simp [dOptLit, hk]
  | false =>
    have h' : headNot kw rest = true := by rcases h with h | h; cases h; exact h
    cases rest with
    | nil => simp [dOptLit]
    | cons t r =>
      have : litMatch t kw = false := by simpa [headNot] using h'
      simp [dOptLit, this]

theorem dOptDate_toks (dp : Bytes → Option Int) (rd : Int → Bytes) (o : Option Int) (rest : List Tok)
    (hc : ∀ v, o = some v → dp (rd v) = some v) (hr : o = none → ∀ t r, rest = t :: r → t.t ≠ .string) :
    dOptDate dp (optDateToks rd o ++ rest) = some (o, rest) := by
  cases o with
  | none =>
    cases rest with
    | nil => simp [optDateToks, dOptDate]
    | cons t r =>
      have : (t.t == TT.string) = false := by simpa using hr rfl t r rfl
      simp [optDateToks, dOptDate, this]
  | some v => simp [optDateToks, dOptDate, dateTok, hc v rfl]

theorem dRangeTail_toks (dp : Bytes → Option Int) (rd : Int → Bytes) (o : Option Int) (rest : List Tok)
    (hc : ∀ v, o = some v → dp (rd v) = some v) (hr : o = none → headNot kwCOLON rest = true) :
    dRangeTail dp (rangeTailToks rd o ++ rest) = some (o, rest) := by
  cases o with
  | none =>
    cases rest with
    | nil => simp [rangeTailToks, dRangeTail]
    | cons t r =>
      have : litMatch t kwCOLON = false := by simpa [headNot] using hr rfl
      simp [rangeTailToks, dRangeTail, this]
  | some v =>
    have h1 : litMatch (tKw kwCOLON) kwCOLON = true := by decide
    have h2 : litMatch (tKw kwRBR) kwRBR = true := by decide
    simp [rangeTailToks, dRangeTail, h1, h2, dateTok, hc v rfl]

theorem dRangeBody_toks (dp : Bytes → Option Int) (rd : Int → Bytes) (r : Range) (rest : List Tok)
    (hw : wfRange rd r = true) (hc : RangeContract dp rd r) (K : List Bytes) (hK : headKwIn K rest = true)
    (hn2 : notLit K kwCOLON = true) :
    dRangeBody dp (rangeToks rd r ++ rest) = some (r, rest) := by
  obtain ⟨r1, r2⟩ := r
  simp only [wfRange, Bool.and_eq_true, Bool.or_eq_true] at hw
  obtain ⟨hsome, hlb⟩ := hw
  have hLB : litMatch (tKw kwLBR) kwLBR = true := by decide
  have hf : Logrange.Generated.C12.parseLqlRejectsEmptyRange = true := by decide
  have hcol : headNot kwCOLON rest = true := headNot_of_headKwIn K kwCOLON rest hK hn2
  -- stage 1: the optional bracket
  have s1 := dOptLit_toks kwLBR hLB r2.isSome (optDateToks rd r1 ++ (rangeTailToks rd r2 ++ rest)) (by
    cases r2 with
    | some v => left; rfl
    | none =>
      right
      cases r1 with
      | none => simp at hsome
      | some v1 =>
        have : litMatch (dateTok rd v1) kwLBR = false := by simpa [optAll] using hlb
        simp [optDateToks, headNot, this])
  -- stage 2: the first instant
  have s2 := dOptDate_toks dp rd r1 (rangeTailToks rd r2 ++ rest) hc.1 (by
    intro h1 t r ht
    cases r2 with
    | none => subst h1; simp at hsome
    | some v2 =>
      simp only [rangeTailToks, List.cons_append, List.cons.injEq] at ht
      rw [← ht.1]; simp [tKw])
  -- stage 3: `: instant ]`
  have s3 := dRangeTail_toks dp rd r2 rest hc.2 (fun _ => hcol)
  have hshape : rangeToks rd ⟨r1, r2⟩ ++ rest = (if r2.isSome then [tKw kwLBR] else []) ++ (optDateToks rd r1 ++ (rangeTailToks rd r2 ++ rest)) := by
    simp [rangeToks, List.append_assoc]
  rw [hshape, dRangeBody, s1]
  simp only [s2, s3, hf, Bool.true_and]
  cases r1 <;> cases r2 <;> simp at hsome ⊢


/-! ### SELECT -/

def fmtOK : Option Bytes → Bool
  | none => true
  | some f => !f.isEmpty

theorem dOptFormat_toks (fmt : Option Bytes) (rest : List Tok) (hf : fmtOK fmt = true)
    (hr : fmt = none → ∀ t r, rest = t :: r → t.t ≠ .string) : dOptFormat (formatToks fmt ++ rest) = (fmt, rest) := by
  cases fmt with
  | none =>
    cases rest with
    | nil => simp [formatToks, dOptFormat]
    | cons t r =>
      have : (t.t == TT.string) = false := by simpa using hr rfl t r rfl
      simp [formatToks, dOptFormat, this]
  | some f =>
    have : f.isEmpty = false := by simpa [fmtOK] using hf
    simp [formatToks, dOptFormat, this]

/-- the parser's image of `Select` minus the open class F12e (a SELECT that prints only its keyword) and up to the
meaning-preserving normal form `Format = ""` ≡ nil -/
def wfSelect (rd : Int → Bytes) (s : Select) : Bool :=
  !isEmptySelect s && fmtOK s.format && optAll wfSource s.source && optAll (wfRange rd) s.range && optAll wfExpr s.where_
  && optAll intOK s.offset && optAll intOK s.limit

def SelectContract (dp : Bytes → Option Int) (rd : Int → Bytes) (s : Select) : Prop :=
  ∀ r, s.range = some r → RangeContract dp rd r

def srcSz : Option Source → Nat
  | some (.expr e) => szExpr e
  | _ => 0
def exprSz : Option Expr → Nat
  | some e => szExpr e
  | none => 0

theorem dSelectBody_toks (dp : Bytes → Option Int) (rd : Int → Bytes) (s : Select) (f : Nat)
    (hf : srcSz s.source + exprSz s.where_ ≤ f) (hw : wfSelect rd s = true) (hc : SelectContract dp rd s) :
    dSelectBody dp f (toksSelect rd s) = some s := by
  obtain ⟨fmt, src, rng, wh, pos, off, lim⟩ := s
  simp only [wfSelect, Bool.and_eq_true] at hw
  obtain ⟨⟨⟨⟨⟨⟨_, hfmt⟩, hsrc⟩, hrng⟩, hwh⟩, hoff⟩, hlim⟩ := hw
  simp only [srcSz, exprSz] at hf
  -- the suffixes after each clause and the keywords they can start with
  let c6 := kwClauseToks kwLIMIT intTokToks lim
  let c5 := kwClauseToks kwOFFSET intTokToks off ++ c6
  let c4 := kwClauseToks kwPOSITION posTokToks pos ++ c5
  let c3 := kwClauseToks kwWHERE toksExpr wh ++ c4
  let c2 := kwClauseToks kwRANGE (rangeToks rd) rng ++ c3
  let c1 := kwClauseToks kwFROM toksSource src ++ c2
  have h6 : headKwIn [kwLIMIT] c6 = true := by
    have := headKwIn_clause [] kwLIMIT intTokToks lim [] (by simp [headKwIn]); simpa using this
  have h5 : headKwIn [kwOFFSET, kwLIMIT] c5 = true := headKwIn_clause _ kwOFFSET intTokToks off c6 h6
  have h4 : headKwIn [kwPOSITION, kwOFFSET, kwLIMIT] c4 = true := headKwIn_clause _ kwPOSITION posTokToks pos c5 h5
  have h3 : headKwIn [kwWHERE, kwPOSITION, kwOFFSET, kwLIMIT] c3 = true := headKwIn_clause _ kwWHERE toksExpr wh c4 h4
  have h2 : headKwIn [kwRANGE, kwWHERE, kwPOSITION, kwOFFSET, kwLIMIT] c2 = true := headKwIn_clause _ kwRANGE (rangeToks rd) rng c3 h3
  have h1 : headKwIn [kwFROM, kwRANGE, kwWHERE, kwPOSITION, kwOFFSET, kwLIMIT] c1 = true := headKwIn_clause _ kwFROM toksSource src c2 h2
  -- the six guarded clauses, last to first
  have l6 : dKwClause kwLIMIT dIntTok c6 = some (lim, []) := by
    have := dKwClause_toks kwLIMIT (by decide) dIntTok intTokToks lim []
      (fun a ha => dIntTok_toks a [] (by subst ha; simpa [optAll] using hlim)) (fun _ => by simp [headNot])
    simpa using this
  have l5 : dKwClause kwOFFSET dIntTok c5 = some (off, c6) :=
    dKwClause_toks kwOFFSET (by decide) dIntTok intTokToks off c6
      (fun a ha => dIntTok_toks a c6 (by subst ha; simpa [optAll] using hoff))
      (fun _ => headNot_of_headKwIn _ kwOFFSET c6 h6 (by decide))
  have l4 : dKwClause kwPOSITION dPosTok c4 = some (pos, c5) :=
    dKwClause_toks kwPOSITION (by decide) dPosTok posTokToks pos c5 (fun a _ => dPosTok_toks a c5)
      (fun _ => headNot_of_headKwIn _ kwPOSITION c5 h5 (by decide))
  have l3 : dKwClause kwWHERE (dExpr f) c3 = some (wh, c4) :=
    dKwClause_toks kwWHERE (by decide) (dExpr f) toksExpr wh c4
      (fun e he => dExpr_toks e f c4 (by subst he; simp only at hf; omega) (by subst he; simpa [optAll] using hwh)
        (headNot_of_headKwIn _ kwOR c4 h4 (by decide)) (headNot_of_headKwIn _ kwAND c4 h4 (by decide)))
      (fun _ => headNot_of_headKwIn _ kwWHERE c4 h4 (by decide))
  have l2 : dKwClause kwRANGE (dRangeBody dp) c2 = some (rng, c3) :=
    dKwClause_toks kwRANGE (by decide) (dRangeBody dp) (rangeToks rd) rng c3
      (fun r hr => dRangeBody_toks dp rd r c3 (by subst hr; simpa [optAll] using hrng) (hc r (by subst hr; rfl)) _ h3 (by decide))
      (fun _ => headNot_of_headKwIn _ kwRANGE c3 h3 (by decide))
  have l1 : dKwClause kwFROM (dSource f) c1 = some (src, c2) :=
    dKwClause_toks kwFROM (by decide) (dSource f) toksSource src c2
      (fun a ha => dSource_toks_rest a f c2 (by subst ha; cases a <;> simp only at hf ⊢ <;> omega) (by subst ha; simpa [optAll] using hsrc)
        (headNot_of_headKwIn _ kwOR c2 h2 (by decide)) (headNot_of_headKwIn _ kwAND c2 h2 (by decide)))
      (fun _ => headNot_of_headKwIn _ kwFROM c2 h2 (by decide))
  have l0 : dOptFormat (formatToks fmt ++ c1) = (fmt, c1) :=
    dOptFormat_toks fmt c1 hfmt (fun _ t r ht => by
      have := head_keyword_of_headKwIn _ t r (ht ▸ h1); rw [this]; simp)
  have hshape : toksSelect rd ⟨fmt, src, rng, wh, pos, off, lim⟩ = formatToks fmt ++ c1 := by
    simp [toksSelect, selectTail4, c1, c2, c3, c4, c5, c6]
  rw [hshape, dSelectBody, l0]
  simp only [l1, l2, l3, l4, l5, l6]


/-! ### SHOW PARTITIONS / SHOW PIPES, CREATE PIPE -/

theorem intClause_start (kw : Bytes)
    (hk : litMatch (tKw kw) kwNOT = false ∧ litMatch (tKw kw) kwOR = false ∧ litMatch (tKw kw) kwAND = false)
    (o : Option Int) (h : optAll intOK o = true) : ClauseStart (kwClauseToks kw intTokToks o) := by
  cases o with
  | none => exact .inl rfl
  | some i =>
    simp only [optAll, intOK, Bool.and_eq_true, Bool.not_eq_true'] at h
    exact .inr ⟨kw, _, [], rfl, hk.1, hk.2.1, hk.2.2, h.2, h.1.2⟩

theorem dSrcOffLim_toks (f : Nat) (src : Option Source) (off lim : Option Int) (hf : srcSz src ≤ f)
    (hs : optAll wfSource src = true) (ho : optAll intOK off = true) (hl : optAll intOK lim = true) :
    dSrcOffLim f (optSourceToks src ++ offLimToks off lim) = some (src, off, lim) := by
  have h0 := dOptSource_toks f src (offLimToks off lim) hf hs
    ((intClause_start kwOFFSET (by decide) off ho).append (intClause_start kwLIMIT (by decide) lim hl))
  let c2 := kwClauseToks kwLIMIT intTokToks lim
  have h2 : headKwIn [kwLIMIT] c2 = true := by
    have := headKwIn_clause [] kwLIMIT intTokToks lim [] (by simp [headKwIn]); simpa using this
  have l2 : dKwClause kwLIMIT dIntTok c2 = some (lim, []) := by
    have := dKwClause_toks kwLIMIT (by decide) dIntTok intTokToks lim []
      (fun a ha => dIntTok_toks a [] (by subst ha; simpa [optAll] using hl)) (fun _ => by simp [headNot])
    simpa using this
  have l1 : dKwClause kwOFFSET dIntTok (offLimToks off lim) = some (off, c2) :=
    dKwClause_toks kwOFFSET (by decide) dIntTok intTokToks off c2
      (fun a ha => dIntTok_toks a c2 (by subst ha; simpa [optAll] using ho))
      (fun _ => headNot_of_headKwIn _ kwOFFSET c2 h2 (by decide))
  simp only [dSrcOffLim, h0, l1, l2]

theorem dPipeBody_toks (f : Nat) (p : Pipe) (hf : srcSz p.from_ + exprSz p.where_ ≤ f)
    (hs : optAll wfSource p.from_ = true) (hw : optAll wfExpr p.where_ = true) :
    dPipeBody f (toksPipe p) = some p := by
  obtain ⟨name, src, wh⟩ := p
  simp only [srcSz, exprSz] at hf
  have h2 : headKwIn [kwWHERE] (kwClauseToks kwWHERE toksExpr wh) = true := by
    have := headKwIn_clause [] kwWHERE toksExpr wh [] (by simp [headKwIn]); simpa using this
  have l2 : dKwClause kwWHERE (dExpr f) (kwClauseToks kwWHERE toksExpr wh) = some (wh, []) := by
    have := dKwClause_toks kwWHERE (by decide) (dExpr f) toksExpr wh []
      (fun e he => dExpr_toks e f [] (by subst he; simp only at hf; omega) (by subst he; simpa [optAll] using hw)
        (by simp [headNot]) (by simp [headNot])) (fun _ => by simp [headNot])
    simpa using this
  have l1 : dKwClause kwFROM (dSource f) (kwClauseToks kwFROM toksSource src ++ (kwClauseToks kwWHERE toksExpr wh)) = some (src, (kwClauseToks kwWHERE toksExpr wh)) :=
    dKwClause_toks kwFROM (by decide) (dSource f) toksSource src (kwClauseToks kwWHERE toksExpr wh)
      (fun a ha => dSource_toks_rest a f (kwClauseToks kwWHERE toksExpr wh) (by subst ha; cases a <;> simp only at hf ⊢ <;> omega) (by subst ha; simpa [optAll] using hs)
        (headNot_of_headKwIn _ kwOR (kwClauseToks kwWHERE toksExpr wh) h2 (by decide)) (headNot_of_headKwIn _ kwAND (kwClauseToks kwWHERE toksExpr wh) h2 (by decide)))
      (fun _ => headNot_of_headKwIn _ kwFROM (kwClauseToks kwWHERE toksExpr wh) h2 (by decide))
  have hP : litMatch (tKw kwPIPE) kwPIPE = true := by decide
  simp only [toksPipe, dPipeBody, hP, Bool.true_and, beq_self_eq_true, if_true, l1, l2]

/-! ### every statement kind -/

def wfDescribe (d : Describe) : Bool :=
  match d.partition, d.pipe with
  | some m, none => KV.tagParse (KV.LB :: (KV.line m ++ [KV.RB])) == some m
  | none, some _ => true
  | _, _ => false

def wfShow (s : ShowS) : Bool :=
  match s.partitions, s.pipes with
  | some p, none => optAll wfSource p.source && optAll intOK p.offset && optAll intOK p.limit
  | none, some p => p.void.isNone && optAll intOK p.offset && optAll intOK p.limit
  | _, _ => false

def wfCreate (c : Create) : Bool :=
  match c.pipe with
  | none => true
  | some p => optAll wfSource p.from_ && optAll wfExpr p.where_

/-- **the parser's image of `Lql`, minus the open classes**: exactly one statement struct (F12e: none), a SELECT that
prints more than its keyword (F12e), `{…}` sources / partitions whose printed tag line `tag.Parse` reads back (F12b),
`Format` not the empty string and `Pipes.Void` absent (meaning-preserving normal form: neither is printed), sizes /
integers whose decimal text is read back (`sizeOK`, `intOK`), a Range with a time point. F12a is a lexer matter and
does not exist at token level. Decidable. -/
def wfLql (rd : Int → Bytes) (l : Lql) : Bool :=
  match l.select, l.describe, l.truncate, l.show_, l.create, l.delete with
  | some s, none, none, none, none, none => wfSelect rd s
  | none, some d, none, none, none, none => wfDescribe d
  | none, none, some t, none, none, none => wfTruncate rd t
  | none, none, none, some s, none, none => wfShow s
  | none, none, none, none, some c, none => wfCreate c
  | none, none, none, none, none, some _ => true
  | _, _, _, _, _, _ => false

/-- the date contract for every instant the statement prints (RANGE bounds, BEFORE) -/
def LqlContract (dp : Bytes → Option Int) (rd : Int → Bytes) (l : Lql) : Prop :=
  (∀ s, l.select = some s → SelectContract dp rd s) ∧ (∀ t, l.truncate = some t → DateContract dp rd t)

/-- fuel that suffices: the sizes of the statement's expressions -/
def lqlSz (l : Lql) : Nat :=
  (match l.select with | some s => srcSz s.source + exprSz s.where_ | none => 0)
  + (match l.truncate with | some t => srcSz t.source | none => 0)
  + (match l.show_ with | some s => (match s.partitions with | some p => srcSz p.source | none => 0) | none => 0)
  + (match l.create with | some c => (match c.pipe with | some p => srcSz p.from_ + exprSz p.where_ | none => 0) | none => 0)

theorem directLqlFuel_select (dp : Bytes → Option Int) (f : Nat) (r : List Tok) :
    directLqlFuel dp f (tKw kwSELECT :: r) = dSelectRest dp f r := rfl
theorem directLqlFuel_describe (dp : Bytes → Option Int) (f : Nat) (r : List Tok) :
    directLqlFuel dp f (tKw kwDESCRIBE :: r) = dDescribeRest r := rfl
theorem directLqlFuel_truncate (dp : Bytes → Option Int) (f : Nat) (r : List Tok) :
    directLqlFuel dp f (tKw kwTRUNCATE :: r) = dTruncateRest dp f r := rfl
theorem directLqlFuel_show (dp : Bytes → Option Int) (f : Nat) (r : List Tok) :
    directLqlFuel dp f (tKw kwSHOW :: r) = dShowRest f r := rfl
theorem directLqlFuel_create (dp : Bytes → Option Int) (f : Nat) (r : List Tok) :
    directLqlFuel dp f (tKw kwCREATE :: r) = dCreateRest f r := rfl
theorem directLqlFuel_delete (dp : Bytes → Option Int) (f : Nat) (r : List Tok) :
    directLqlFuel dp f (tKw kwDELETE :: r) = dDeleteRest r := rfl

theorem directLql_toks (dp : Bytes → Option Int) (rd : Int → Bytes) (l : Lql) (f : Nat) (hf : lqlSz l ≤ f)
    (hw : wfLql rd l = true) (hc : LqlContract dp rd l) : directLqlFuel dp f (toksLql rd l) = some l := by
  obtain ⟨sel, desc, tr, sh, cr, de⟩ := l
  simp only [wfLql] at hw
  split at hw
  · -- SELECT
    rename_i s
    have hne : isEmptySelect s = false := by
      simp only [wfSelect, Bool.and_eq_true, Bool.not_eq_true'] at hw; exact hw.1.1.1.1.1.1
    have h := dSelectBody_toks dp rd s f (by simpa [lqlSz] using hf) hw (hc.1 s rfl)
    simp [toksLql, directLqlFuel_select, dSelectRest, h, hne]
  · -- DESCRIBE
    rename_i d
    obtain ⟨part, pipe⟩ := d
    simp only [wfDescribe] at hw
    split at hw
    · rename_i m
      have hm : KV.tagParse (KV.LB :: (KV.line m ++ [KV.RB])) = some m := by simpa using hw
      have hP : litMatch (tKw kwPARTITION) kwPARTITION = true := by decide
      simp_all [toksLql, toksDescribe, directLqlFuel_describe, dDescribeRest, tagsTok]
    · rename_i n
      have hP2 : litMatch (tKw kwPIPE) kwPARTITION = false := by decide
      have hP3 : litMatch (tKw kwPIPE) kwPIPE = true := by decide
      simp_all [toksLql, toksDescribe, directLqlFuel_describe, dDescribeRest]
    · cases hw
  · -- TRUNCATE
    rename_i t
    have hf' : srcSz t.source ≤ f := by simpa [lqlSz] using hf
    have h := dTruncate_toks dp rd t f hf' hw (hc.2 t rfl)
    simp only [toksTruncate, directTruncateFuel, show litMatch (tKw kwTRUNCATE) kwTRUNCATE = true from rfl, if_true] at h
    simp [toksLql, toksTruncate, directLqlFuel_truncate, dTruncateRest, h]
  · -- SHOW
    rename_i s
    obtain ⟨pa, pi⟩ := s
    simp only [wfShow] at hw
    split at hw
    · rename_i p
      obtain ⟨src, off, lim⟩ := p
      simp only [Bool.and_eq_true] at hw
      have h := dSrcOffLim_toks f src off lim (by simpa [lqlSz] using hf) hw.1.1 hw.1.2 hw.2
      have hP : litMatch (tKw kwPARTITIONS) kwPARTITIONS = true := by decide
      simp_all [toksLql, toksShow, directLqlFuel_show, dShowRest]
    · rename_i p
      obtain ⟨void, off, lim⟩ := p
      simp only [Bool.and_eq_true, Option.isNone_iff_eq_none] at hw
      obtain ⟨⟨hv, ho⟩, hl⟩ := hw
      subst hv
      have h := dSrcOffLim_toks f none off lim (by simp [srcSz]) (by simp [optAll]) ho hl
      simp only [optSourceToks, List.nil_append] at h
      have hP : litMatch (tKw kwPIPES) kwPARTITIONS = false := by decide
      have hP2 : litMatch (tKw kwPIPES) kwPIPES = true := by decide
      simp_all [toksLql, toksShow, directLqlFuel_show, dShowRest]
    · cases hw
  · -- CREATE
    rename_i c
    obtain ⟨pipe⟩ := c
    cases pipe with
    | none => simp [toksLql, directLqlFuel_create, dCreateRest]
    | some p =>
      simp only [wfCreate, Bool.and_eq_true] at hw
      have h := dPipeBody_toks f p (by simpa [lqlSz] using hf) hw.1 hw.2
      obtain ⟨a, b, r, hab⟩ : ∃ a b r, toksPipe p = a :: b :: r := ⟨_, _, _, rfl⟩
      simp only [toksLql, List.nil_append, List.append_nil, directLqlFuel_create]
      rw [hab] at h ⊢
      simp [dCreateRest, h]
  · -- DELETE
    rename_i d
    obtain ⟨pn⟩ := d
    have hP : litMatch (tKw kwPIPE) kwPIPE = true := by decide
    cases pn with
    | none => simp [toksLql, directLqlFuel_delete, dDeleteRest]
    | some n => simp [toksLql, directLqlFuel_delete, dDeleteRest, hP]
  · cases hw

end Logrange.Lql

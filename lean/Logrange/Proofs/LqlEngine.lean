import Logrange.Proofs.LqlStmt
/-!
# C12: the participle-engine interpreter on the REGENERATED grammar simulates the direct parsers (part 1: one-step
equations of the interpreter, disjunctions of one-token captures, the loop `{ "KW" @@ }`, struct `Identifier`)

Every struct lemma starts from `grammar "<Struct>" = some <body>` (`g_…`), which holds by computation against
`Generated/C12.lean`, so a changed struct tag in pkg/lql/parser.go breaks the proof on the next run.
-/
namespace Logrange.Lql
open Logrange.Generated.C12

/-! ## one-step equations of the interpreter (every node kind except `.strct`) -/
section eqs
variable (c : Ctx)

theorem parse_ref (f : Nat) (t : TT) (cur : Nat) : parse c (f+1) (.ref t) cur =
    (match peek c cur with
     | some tk => if tk.t == t then .ok [.str tk.v] [] (cur+1) else .noMatch
     | none => .noMatch) := by simp only [parse]; rfl
theorem parse_lit (f : Nat) (s : Bytes) (cur : Nat) : parse c (f+1) (.lit s) cur =
    (match peek c cur with
     | some tk => if litMatch tk s then .ok [.str tk.v] [] (cur+1) else .noMatch
     | none => .noMatch) := by simp only [parse]; rfl
theorem parse_capture (f : Nat) (fl : String) (n : Node) (cur : Nat) : parse c (f+1) (.capture fl n) cur =
    (match parse c f n cur with
     | .ok vals caps cur' => .ok [.str []] (caps ++ [(fl, vals)]) cur'
     | .noMatch => .noMatch
     | .err k _ => .err k true) := by simp only [parse]; rfl
theorem parse_strct (f : Nat) (name : String) (body : Node) (cur : Nat) (h : c.grammar name = some body) :
    parse c (f+1) (.strct name) cur =
    (match parse c f body cur with
     | .ok _ caps cur' => .ok [.node name caps] [] cur'
     | .noMatch => .noMatch
     | .err k _ => .err k true) := by simp only [parse, h]; rfl
theorem parse_seq (f : Nat) (ns : List Node) (cur : Nat) : parse c (f+1) (.seq ns) cur = parseSeq c f ns cur true [] [] := by simp only [parse]
theorem parse_disj (f : Nat) (ns : List Node) (cur : Nat) : parse c (f+1) (.disj ns) cur = parseDisj c f ns cur none := by simp only [parse]
theorem parse_once (f : Nat) (n : Node) (cur : Nat) : parse c (f+1) (.group n .once) cur = parse c f n cur := by simp only [parse]
theorem parse_opt (f : Nat) (n : Node) (cur : Nat) : parse c (f+1) (.group n .zeroOrOne) cur =
    (match parse c f n cur with
     | .ok vals caps cur' => .ok vals caps cur'
     | .noMatch => .ok [] [] cur
     | .err k hv => if k > cur + lookahead then .err k hv else .ok (if hv then [.str []] else []) [] cur) := by simp only [parse]; rfl
theorem parse_rep (f : Nat) (n : Node) (cur : Nat) : parse c (f+1) (.group n .zeroOrMore) cur = parseRep c f n cur [] [] := by simp only [parse]
theorem parseSeq_nil (f : Nat) (cur : Nat) (first : Bool) (vals : List Val) (caps : Caps) :
    parseSeq c (f+1) [] cur first vals caps = if vals.isEmpty then .noMatch else .ok vals caps cur := by simp only [parseSeq]
theorem parseSeq_cons (f : Nat) (n : Node) (ns : List Node) (cur : Nat) (first : Bool) (vals : List Val) (caps : Caps) :
    parseSeq c (f+1) (n :: ns) cur first vals caps =
    (match parse c f n cur with
     | .ok v cp cur' => parseSeq c f ns cur' false (vals ++ v) (caps ++ cp)
     | .noMatch => if first then .noMatch else .err cur (!vals.isEmpty)
     | .err k hv => .err k (hv || !vals.isEmpty)) := by simp only [parseSeq]; rfl
theorem parseDisj_nil (f : Nat) (cur : Nat) (d : Option (Nat × Bool)) :
    parseDisj c (f+1) [] cur d = (match d with | some (k, hv) => .err k hv | none => .noMatch) := by rw [parseDisj.eq_def]; cases d <;> rfl
theorem parseDisj_cons (f : Nat) (n : Node) (ns : List Node) (cur : Nat) (deepest : Option (Nat × Bool)) :
    parseDisj c (f+1) (n :: ns) cur deepest =
    (match parse c f n cur with
     | .ok vals caps cur' => .ok vals caps cur'
     | .noMatch => parseDisj c f ns cur deepest
     | .err k hv =>
       if k > cur + lookahead then .err k hv
       else parseDisj c f ns cur (match deepest with | some (d, dh) => if k ≥ d then some (k, hv) else some (d, dh) | none => some (k, hv))) := by
  simp only [parseDisj]; rfl
theorem parseRep_succ (f : Nat) (n : Node) (cur : Nat) (vals : List Val) (caps : Caps) :
    parseRep c (f+1) n cur vals caps =
    (match parse c f n cur with
     | .ok v cp cur' => if cur' == cur then .ok (vals ++ v) (caps ++ cp) cur' else parseRep c f n cur' (vals ++ v) (caps ++ cp)
     | .noMatch => .ok vals caps cur
     | .err k hv => if k > cur + lookahead then .err k (hv || !vals.isEmpty) else .ok (if hv then vals ++ [.str []] else vals) caps cur) := by
  simp only [parseRep]; rfl
end eqs
end Logrange.Lql

namespace Logrange.Lql
open Logrange.Generated.C12

theorem drop_of_get {toks : List Tok} {cur : Nat} {tk : Tok} (h : toks[cur]? = some tk) :
    toks.drop cur = tk :: toks.drop (cur+1) := by
  obtain ⟨hl, rfl⟩ := List.getElem?_eq_some_iff.mp h
  exact List.drop_eq_getElem_cons hl
theorem drop_of_none {toks : List Tok} {cur : Nat} (h : toks[cur]? = none) : toks.drop cur = [] := by
  simpa using h
theorem lt_of_get {toks : List Tok} {cur : Nat} {tk : Tok} (h : toks[cur]? = some tk) : cur < toks.length :=
  (List.getElem?_eq_some_iff.mp h).1

def tokTest : Node → Tok → Bool
  | .ref t, tk => tk.t == t
  | .lit s, tk => litMatch tk s
  | _, _ => false

/-- `(@A | @B | …)` into one field: the field gets the token's text whichever alternative matched, so only the set of
alternatives matters -/
theorem disj_caps (c : Ctx) (fl : String) (cur : Nat) (tk : Tok) (hn : c.toks[cur]? = some tk) :
    ∀ (ns : List Node), (∀ n ∈ ns, (∃ t, n = .ref t) ∨ ∃ s, n = .lit s) → ∀ f, ns.length + 1 < f →
      parseDisj c f (ns.map (Node.capture fl)) cur none =
        if ns.any (tokTest · tk) then .ok [.str []] [(fl, [.str tk.v])] (cur+1) else .noMatch
  | [], _, f, hf => by
    obtain ⟨g, rfl⟩ := Nat.exists_eq_add_of_le' (show 1 ≤ f by omega)
    simp [parseDisj_nil]
  | n :: ns, hns, f, hf => by
    obtain ⟨g, rfl⟩ := Nat.exists_eq_add_of_le' (show 3 ≤ f by simp at hf; omega)
    have ih := disj_caps c fl cur tk hn ns (fun m hm => hns m (List.mem_cons_of_mem _ hm)) (g+2) (by simp at hf; omega)
    rw [List.map_cons, parseDisj_cons, parse_capture, List.any_cons]
    rcases hns n List.mem_cons_self with ⟨t, rfl⟩ | ⟨s, rfl⟩
    · rw [parse_ref, peek, hn]
      by_cases h : (tk.t == t) = true <;> simp [tokTest, h, ih]
    · rw [parse_lit, peek, hn]
      by_cases h : litMatch tk s = true <;> simp [tokTest, h, ih]

theorem disj_caps_none (c : Ctx) (fl : String) (cur : Nat) (hn : c.toks[cur]? = none) :
    ∀ (ns : List Node), (∀ n ∈ ns, (∃ t, n = .ref t) ∨ ∃ s, n = .lit s) → ∀ f, ns.length + 1 < f →
      parseDisj c f (ns.map (Node.capture fl)) cur none = .noMatch
  | [], _, f, hf => by
    obtain ⟨g, rfl⟩ := Nat.exists_eq_add_of_le' (show 1 ≤ f by omega)
    simp [parseDisj_nil]
  | n :: ns, hns, f, hf => by
    obtain ⟨g, rfl⟩ := Nat.exists_eq_add_of_le' (show 3 ≤ f by simp at hf; omega)
    have ih := disj_caps_none c fl cur hn ns (fun m hm => hns m (List.mem_cons_of_mem _ hm)) (g+2) (by simp at hf; omega)
    rw [List.map_cons, parseDisj_cons, parse_capture]
    rcases hns n List.mem_cons_self with ⟨t, rfl⟩ | ⟨s, rfl⟩
    · rw [parse_ref, peek, hn]; exact ih
    · rw [parse_lit, peek, hn]; exact ih

/-! ## Identifier -/
def identTailNode : Node := .seq [(.lit [44]), (.capture "Params" (.strct "Identifier"))]
def opNode : Node := .group (.disj [(.capture "Operand" (.ref .ident)), (.capture "Operand" (.ref .keyword))]) .once
def identBody : Node :=
  .seq [opNode, (.group (.group (.seq [(.lit [40]), (.capture "Params" (.strct "Identifier")), (.group identTailNode .zeroOrMore), (.lit [41])]) .once) .zeroOrOne)]
theorem g_ident : grammar "Identifier" = some identBody := by rw [grammar]; rfl

mutual
def valIdent : Ident → Val
  | .mk op ps => .node "Identifier" (("Operand", [.str op]) :: capsParams ps)
def capsParams : IdentList → Caps
  | .nil => []
  | .cons h t => ("Params", [valIdent h]) :: capsParams t
end

def operandAt (c : Ctx) (cur : Nat) : Prop := ∃ tk, c.toks[cur]? = some tk ∧ isOperandTok tk = true
def litAt (c : Ctx) (cur : Nat) (s : Bytes) : Prop := ∃ tk, c.toks[cur]? = some tk ∧ litMatch tk s = true
def notLitAt (c : Ctx) (cur : Nat) (s : Bytes) : Prop := ∀ tk, c.toks[cur]? = some tk → litMatch tk s = false

/-- engine result on struct `Identifier` at `cur` vs the direct parser on the remaining tokens -/
def SimIdent (c : Ctx) (cur : Nat) (r : Res) (d : PR Ident) : Prop :=
  match d with
  | some (i, rest) => ∃ cur', r = .ok [valIdent i] [] cur' ∧ rest = c.toks.drop cur' ∧ cur < cur' ∧ cur' ≤ c.toks.length ∧ operandAt c cur
  | none => (r = .noMatch ∧ ¬ operandAt c cur)
      ∨ (∃ k, r = .err k true ∧ cur + 3 ≤ k ∧ operandAt c cur)
      ∨ (∃ v, r = .ok [v] [] (cur+1) ∧ operandAt c cur ∧ litAt c (cur+1) LP)

def SimIdentAt (c : Ctx) (cur : Nat) : Prop :=
  ∀ fe fd, cur ≤ c.toks.length → 60 * (c.toks.length - cur) + 20 ≤ fe → 4 * (c.toks.length - cur) + 1 ≤ fd →
    SimIdent c cur (parse c fe (.strct "Identifier") cur) (dIdent fd (c.toks.drop cur))

/-- the `{"," @@}` loop vs `dIdentTail` -/
def SimIdentTail (c : Ctx) (cur : Nat) (caps : Caps) (r : Res) (d : PR IdentList) : Prop :=
  match d with
  | some (is, rest) => ∃ vals' cur', r = .ok vals' (caps ++ capsParams is) cur' ∧ rest = c.toks.drop cur' ∧ cur ≤ cur' ∧ cur' ≤ c.toks.length
  | none => (∃ k hv, r = .err k hv ∧ cur ≤ k) ∨ (∃ vals' caps' cur', r = .ok vals' caps' cur' ∧ cur ≤ cur' ∧ notLitAt c cur' RP)

theorem eqFold_trans' : ∀ (v a b : Bytes), eqFold v a = true → eqFold v b = true → eqFold a b = true
  | [], [], [], _, _ => by simp [eqFold]
  | [], [], _ :: _, _, h => by simp [eqFold] at h
  | [], _ :: _, _, h, _ => by simp [eqFold] at h
  | _ :: _, [], _, h, _ => by simp [eqFold] at h
  | _ :: _, _ :: _, [], _, h => by simp [eqFold] at h
  | x :: xs, y :: ys, z :: zs, h1, h2 => by
    simp only [eqFold, Bool.and_eq_true, beq_iff_eq] at h1 h2 ⊢
    exact ⟨h1.1.symm.trans h2.1, eqFold_trans' xs ys zs h1.2 h2.2⟩

theorem litMatch_excl (tk : Tok) (a b : Bytes) (hab : (a == b) = false) (hf : eqFold a b = false)
    (ha : litMatch tk a = true) : litMatch tk b = false := by
  unfold litMatch at *
  split at ha
  · rename_i hk
    simp only [hk]
    cases hb : eqFold tk.v b with
    | false => rfl
    | true => rw [eqFold_trans' _ _ _ ha hb] at hf; cases hf
  · rename_i hk
    simp only [hk, if_false]
    have : tk.v = a := by simpa using ha
    rw [this]; exact hab

theorem LP_not_COMMA (tk : Tok) (h : litMatch tk LP = true) : litMatch tk COMMA = false := litMatch_excl tk _ _ (by decide) (by decide) h
theorem LP_not_RP (tk : Tok) (h : litMatch tk LP = true) : litMatch tk RP = false := litMatch_excl tk _ _ (by decide) (by decide) h

def loopNode (kw : Bytes) (fl S : String) : Node := .seq [(.lit kw), (.capture fl (.strct S))]

theorem loop_step_none (c : Ctx) (kw : Bytes) (fl S : String) (f cur : Nat) (hn : c.toks[cur]? = none) :
    parse c (f+3) (loopNode kw fl S) cur = .noMatch := by
  simp only [loopNode, parse_seq, parseSeq_cons, parse_lit, peek, hn, if_true]
theorem loop_step_nolit (c : Ctx) (kw : Bytes) (fl S : String) (f cur : Nat) (t : Tok) (hn : c.toks[cur]? = some t)
    (hc : litMatch t kw = false) : parse c (f+3) (loopNode kw fl S) cur = .noMatch := by
  simp only [loopNode, parse_seq, parseSeq_cons, parse_lit, peek, hn, hc, if_true, Bool.false_eq_true, if_false]
theorem loop_step_lit (c : Ctx) (kw : Bytes) (fl S : String) (f cur : Nat) (t : Tok) (hn : c.toks[cur]? = some t)
    (hc : litMatch t kw = true) :
    parse c (f+5) (loopNode kw fl S) cur =
      (match parse c (f+1) (.strct S) (cur+1) with
       | .ok v cp cur' => .ok [.str t.v, .str []] (cp ++ [(fl, v)]) cur'
       | .noMatch => .err (cur+1) true
       | .err k _ => .err k true) := by
  simp only [loopNode, parse_seq, parseSeq_cons, parse_lit, parse_capture, peek, hn, hc, if_true]
  cases parse c (f+1) (.strct S) (cur+1) <;> simp [parseSeq_nil]

/-- the loop `{ "KW" @@ }` against a direct tail parser `dTl` that reads `KW element` as long as `KW` is there (the shape
`dIdentTail`, `dAndTail`, `dOrTail` share). `Stop` is what the caller needs to know about the place where an engine loop ends
that `dTl` rejects; it holds at every `KW` (`hstop`): a soft failure of the element is swallowed and leaves the cursor in front of
the keyword. -/
theorem simLoop {E L : Type} (c : Ctx) (kw : Bytes) (fl S : String)
    (dEl : Nat → List Tok → PR E) (dTl : Nat → List Tok → PR L) (nil : L) (cons : E → L → L)
    (hTl0 : ∀ f, dTl (f+1) [] = some (nil, []))
    (hTl : ∀ f t r, dTl (f+1) (t :: r) =
      if litMatch t kw then (dEl f r).bind fun p => (dTl f p.2).map fun q => (cons p.1 q.1, q.2) else some (nil, t :: r))
    (RE : E → Val → Prop) (RL : L → Caps → Prop) (hnil : RL nil [])
    (hcons : ∀ e es v cp, RE e v → RL es cp → RL (cons e es) ((fl, [v]) :: cp))
    (Stop : Nat → Prop) (hstop : ∀ cur, litAt c cur kw → Stop cur) (base : Nat)
    (hEl : ∀ cur, base < cur → cur ≤ c.toks.length → ∀ fe fd, 60 * (c.toks.length - cur) + 60 ≤ fe → 4 * (c.toks.length - cur) + 4 ≤ fd →
      match dEl fd (c.toks.drop cur) with
      | some (e, rest) => ∃ v cur', parse c fe (.strct S) cur = .ok [v] [] cur' ∧ RE e v ∧ rest = c.toks.drop cur' ∧ cur < cur' ∧ cur' ≤ c.toks.length
      | none => parse c fe (.strct S) cur = .noMatch ∨ (∃ k, parse c fe (.strct S) cur = .err k true ∧ cur ≤ k)
          ∨ (∃ v cur', parse c fe (.strct S) cur = .ok [v] [] cur' ∧ cur < cur' ∧ notLitAt c cur' kw ∧ Stop cur')) :
    ∀ (k cur : Nat), c.toks.length - cur ≤ k → base ≤ cur → cur ≤ c.toks.length → ∀ (vals : List Val) (caps : Caps) (fe fd : Nat),
      60 * (c.toks.length - cur) + 30 ≤ fe → 4 * (c.toks.length - cur) + 1 ≤ fd →
      match dTl fd (c.toks.drop cur) with
      | some (es, rest) => ∃ vals' cp cur', parseRep c fe (loopNode kw fl S) cur vals caps = .ok vals' (caps ++ cp) cur' ∧ RL es cp
          ∧ rest = c.toks.drop cur' ∧ cur ≤ cur' ∧ cur' ≤ c.toks.length
      | none => (∃ k hv, parseRep c fe (loopNode kw fl S) cur vals caps = .err k hv ∧ cur ≤ k)
          ∨ (∃ vals' caps' cur', parseRep c fe (loopNode kw fl S) cur vals caps = .ok vals' caps' cur' ∧ cur ≤ cur' ∧ Stop cur') := by
  intro k
  induction k with
  | zero =>
    intro cur hk _ hcl vals caps fe fd hfe hfd
    obtain ⟨g, rfl⟩ := Nat.exists_eq_add_of_le' (show 10 ≤ fe by omega)
    obtain ⟨fd', rfl⟩ := Nat.exists_eq_add_of_le' (show 1 ≤ fd by omega)
    have hn : c.toks[cur]? = none := by simp; omega
    rw [drop_of_none hn, parseRep_succ, loop_step_none c _ _ _ _ cur hn, hTl0]
    exact ⟨vals, [], cur, by simp, hnil, (drop_of_none hn).symm, Nat.le_refl _, hcl⟩
  | succ k ih =>
    intro cur hk hb hcl vals caps fe fd hfe hfd
    obtain ⟨g, rfl⟩ := Nat.exists_eq_add_of_le' (show 10 ≤ fe by omega)
    obtain ⟨fd', rfl⟩ := Nat.exists_eq_add_of_le' (show 1 ≤ fd by omega)
    cases hn : c.toks[cur]? with
    | none =>
      rw [drop_of_none hn, parseRep_succ, loop_step_none c _ _ _ _ cur hn, hTl0]
      exact ⟨vals, [], cur, by simp, hnil, (drop_of_none hn).symm, Nat.le_refl _, hcl⟩
    | some t =>
      have hlt := lt_of_get hn
      rw [drop_of_get hn, parseRep_succ, hTl]
      cases hc : litMatch t kw with
      | false =>
        rw [loop_step_nolit c _ _ _ _ cur t hn hc]
        simp only [Bool.false_eq_true, if_false]
        exact ⟨vals, [], cur, by simp, hnil, (drop_of_get hn).symm, Nat.le_refl _, hcl⟩
      | true =>
        have hin := hEl (cur+1) (by omega) (by omega) (g+5) fd' (by omega) (by omega)
        rw [loop_step_lit c _ _ _ _ cur t hn hc]
        simp only [if_true]
        generalize hr : parse c (g+4+1) (.strct S) (cur+1) = r at hin ⊢
        cases hd : dEl fd' (c.toks.drop (cur+1)) with
        | none =>
          rw [hd] at hin
          simp only [Option.bind_none]
          have hsoft : ∀ k', cur + 1 ≤ k' → (∃ k hv, (if k' > cur + lookahead then Res.err k' (true || !vals.isEmpty) else
                .ok (vals ++ [.str []]) caps cur) = .err k hv ∧ cur ≤ k)
              ∨ (∃ vals' caps' cur', (if k' > cur + lookahead then Res.err k' (true || !vals.isEmpty) else
                .ok (vals ++ [.str []]) caps cur) = .ok vals' caps' cur' ∧ cur ≤ cur' ∧ Stop cur') := by
            intro k' hk'
            by_cases hgt : k' > cur + lookahead
            · left; exact ⟨k', _, by rw [if_pos hgt], by omega⟩
            · right; exact ⟨_, _, cur, by rw [if_neg hgt], Nat.le_refl _, hstop cur ⟨t, hn, hc⟩⟩
          rcases hin with rfl | ⟨k', rfl, hk'⟩ | ⟨v, cur', rfl, hlt', ⟨hnk, hst⟩⟩
          · simpa using hsoft (cur+1) (Nat.le_refl _)
          · simpa using hsoft k' hk'
          · right
            simp only [beq_iff_eq]
            rw [if_neg (by omega), parseRep_succ]
            cases hq : c.toks[cur']? with
            | none => rw [loop_step_none c _ _ _ _ _ hq]; exact ⟨_, _, cur', rfl, by omega, hst⟩
            | some q => rw [loop_step_nolit c _ _ _ _ _ q hq (hnk q hq)]; exact ⟨_, _, cur', rfl, by omega, hst⟩
        | some res =>
          obtain ⟨x, rest1⟩ := res
          rw [hd] at hin
          obtain ⟨vx, cur2, rfl, hrx, hrest, hlt2, hle2⟩ := hin
          subst hrest
          simp only [Option.bind_some]
          have hloop := ih cur2 (by omega) (by omega) hle2 (vals ++ [.str t.v, .str []]) (caps ++ ([] ++ [(fl, [vx])])) (g+9) fd' (by omega) (by omega)
          simp only [beq_iff_eq]
          rw [if_neg (by omega)]
          cases hd2 : dTl fd' (c.toks.drop cur2) with
          | none =>
            rw [hd2] at hloop
            simp only [Option.map_none]
            rcases hloop with ⟨k', hv, h1, h2⟩ | ⟨vals', caps', cur', h1, h2, h3⟩
            · left; exact ⟨k', hv, h1, by omega⟩
            · right; exact ⟨vals', caps', cur', h1, by omega, h3⟩
          | some res2 =>
            obtain ⟨xs, rest2⟩ := res2
            rw [hd2] at hloop
            simp only [Option.map_some]
            obtain ⟨vals', cp, cur', h1, hrxs, h2, h3, h4⟩ := hloop
            exact ⟨vals', (fl, [vx]) :: cp, cur', by rw [h1]; simp, hcons _ _ _ _ hrx hrxs, h2, by omega, h4⟩

/-- the loop `{"," @@}` simulates `dIdentTail`, given the simulation of `Identifier` at all later positions -/
theorem simIdentTail (c : Ctx) (m : Nat) (hI : ∀ cur', c.toks.length - cur' ≤ m → SimIdentAt c cur') :
    ∀ (k cur : Nat), c.toks.length - cur ≤ k → k ≤ m → cur ≤ c.toks.length → ∀ (vals : List Val) (caps : Caps) (fe fd : Nat),
      60 * (c.toks.length - cur) + 30 ≤ fe → 4 * (c.toks.length - cur) + 1 ≤ fd →
      SimIdentTail c cur caps (parseRep c fe identTailNode cur vals caps) (dIdentTail fd (c.toks.drop cur)) := by
  intro k cur hk hkm hcl vals caps fe fd hfe hfd
  have h := simLoop c COMMA "Params" "Identifier" dIdent dIdentTail .nil .cons (fun _ => rfl) (fun f t r => by
      rw [dIdentTail]; split
      · cases dIdent f r with
        | none => rfl
        | some p => obtain ⟨i, r1⟩ := p; simp only [Option.bind_some]; cases dIdentTail f r1 <;> rfl
      · rfl)
    (fun i v => v = valIdent i) (fun is cp => cp = capsParams is) rfl (fun e es v cp h1 h2 => by subst h1 h2; rfl)
    (fun cur => notLitAt c cur RP) (fun cur ⟨t, ht, hc⟩ q hq => by rw [ht] at hq; cases hq; exact litMatch_excl _ _ _ (by decide) (by decide) hc)
    (c.toks.length - m - 1)
    (fun cur' h1 h2 fe fd hfe hfd => by
      have hin := hI cur' (by omega) fe fd h2 (by omega) (by omega)
      cases hd : dIdent fd (c.toks.drop cur') with
      | none =>
        rw [hd] at hin
        rcases hin with ⟨h, _⟩ | ⟨k', h, hk', _⟩ | ⟨v, h, _, p, hp, hpl⟩
        · exact Or.inl h
        · exact Or.inr (Or.inl ⟨k', h, by omega⟩)
        · exact Or.inr (Or.inr ⟨v, cur'+1, h, by omega, fun q hq => by rw [hp] at hq; cases hq; exact LP_not_COMMA _ hpl,
            fun q hq => by rw [hp] at hq; cases hq; exact LP_not_RP _ hpl⟩)
      | some res =>
        obtain ⟨i, rest⟩ := res
        rw [hd] at hin
        obtain ⟨cur2, h, hrest, hlt, hle, _⟩ := hin
        exact ⟨_, cur2, h, rfl, hrest, hlt, hle⟩)
    k cur hk (by omega) hcl vals caps fe fd hfe hfd
  cases hd : dIdentTail fd (c.toks.drop cur) with
  | none => rw [hd] at h; exact h
  | some res =>
    obtain ⟨is, rest⟩ := res
    rw [hd] at h
    obtain ⟨vals', cp, cur', h1, rfl, h2, h3, h4⟩ := h
    exact ⟨vals', cur', h1, h2, h3, h4⟩

theorem op_step_none (c : Ctx) (f cur : Nat) (hn : c.toks[cur]? = none) : parse c (f+6) opNode cur = .noMatch := by
  show parse c (f+6) (.group (.disj ([Node.ref .ident, .ref .keyword].map (.capture "Operand"))) .once) cur = _
  rw [parse_once, parse_disj, disj_caps_none c "Operand" cur hn _ (by simp) (f+4) (by simp)]
theorem op_step (c : Ctx) (f cur : Nat) (tk : Tok) (hn : c.toks[cur]? = some tk) :
    parse c (f+6) opNode cur = if isOperandTok tk then .ok [.str []] [("Operand", [.str tk.v])] (cur+1) else .noMatch := by
  show parse c (f+6) (.group (.disj ([Node.ref .ident, .ref .keyword].map (.capture "Operand"))) .once) cur = _
  rw [parse_once, parse_disj, disj_caps c "Operand" cur tk hn _ (by simp) (f+4) (by simp)]
  simp [tokTest, isOperandTok]

theorem simIdent (c : Ctx) (hg : c.grammar = grammar) : ∀ (n cur : Nat), c.toks.length - cur ≤ n → SimIdentAt c cur := by
  have hend : ∀ cur, c.toks[cur]? = none → SimIdentAt c cur := fun cur hnone fe fd hcl hfe hfd => by
    obtain ⟨g, rfl⟩ := Nat.exists_eq_add_of_le' (show 20 ≤ fe by omega)
    obtain ⟨fd', rfl⟩ := Nat.exists_eq_add_of_le' (show 1 ≤ fd by omega)
    rw [drop_of_none hnone, parse_strct c _ "Identifier" identBody cur (hg ▸ g_ident)]
    simp only [identBody, parse_seq, parseSeq_cons, op_step_none c _ cur hnone, dIdent, SimIdent, if_true]
    left; exact ⟨trivial, fun ⟨tk, h, _⟩ => by rw [hnone] at h; cases h⟩
  intro n
  induction n with
  | zero => exact fun cur hn => hend cur (by simp; omega)
  | succ n ih =>
    intro cur hn
    cases hnone : c.toks[cur]? with
    | none => exact hend cur hnone
    | some tk =>
      intro fe fd hcl hfe hfd
      obtain ⟨g, rfl⟩ := Nat.exists_eq_add_of_le' (show 20 ≤ fe by omega)
      obtain ⟨fd', rfl⟩ := Nat.exists_eq_add_of_le' (show 1 ≤ fd by omega)
      rw [parse_strct c _ "Identifier" identBody cur (hg ▸ g_ident)]
      have hlt := lt_of_get hnone
      rw [drop_of_get hnone]
      cases hop : isOperandTok tk with
      | false =>
        simp only [identBody, parse_seq, parseSeq_cons, op_step c _ cur tk hnone, hop, dIdent, SimIdent, if_true, Bool.false_eq_true, if_false]
        left; exact ⟨trivial, fun ⟨tk', h, h2⟩ => by rw [hnone] at h; cases h; rw [hop] at h2; cases h2⟩
      | true =>
        have hopAt : operandAt c cur := ⟨tk, hnone, hop⟩
        cases hnext : c.toks[cur+1]? with
        | none =>
          rw [drop_of_none hnext]
          simp only [identBody, parse_seq, parseSeq_cons, parseSeq_nil, op_step c _ cur tk hnone, hop, dIdent, SimIdent, if_true,
            parse_opt, parse_once, parse_lit, peek, hnext]
          exact ⟨cur+1, by simp [valIdent, capsParams], (drop_of_none hnext).symm, by omega, by omega, hopAt⟩
        | some p =>
          rw [drop_of_get hnext]
          cases hlp : litMatch p [40] with
          | false =>
            have hlp' : litMatch p LP = false := hlp
            simp only [identBody, parse_seq, parseSeq_cons, parseSeq_nil, op_step c _ cur tk hnone, hop, dIdent, SimIdent, if_true,
              parse_opt, parse_once, parse_lit, peek, hnext, hlp, hlp', Bool.false_eq_true, if_false]
            exact ⟨cur+1, by simp [valIdent, capsParams], (drop_of_get hnext).symm, by omega, by omega, hopAt⟩
          | true =>
            have hlp' : litMatch p LP = true := hlp
            have hlt2 := lt_of_get hnext
            have hin := ih (cur+1+1) (by omega) (g+10) fd' (by omega) (by omega) (by omega)
            simp only [identBody, parse_seq, parseSeq_cons, op_step c _ cur tk hnone, hop, dIdent, if_true,
              parse_opt, parse_once, parse_lit, parse_capture, parse_rep, peek, hnext, hlp, hlp']
            generalize hr : parse c (g+10) (.strct "Identifier") (cur+1+1) = r at hin ⊢
            cases hd : dIdent fd' (c.toks.drop (cur+1+1)) with
            | none =>
              rw [hd] at hin
              simp only [SimIdent]
              rcases hin with ⟨rfl, _⟩ | ⟨k', rfl, hk', _⟩ | ⟨v, rfl, _, q, hq, hql⟩
              · right; right
                simp [parseSeq_nil, lookahead]
                exact ⟨hopAt, ⟨p, hnext, hlp'⟩⟩
              · right; left
                have hgt : k' > cur + 1 + lookahead := by simp only [lookahead]; omega
                refine ⟨k', ?_, by omega, hopAt⟩
                simp [hgt]
              · right; left
                have hq' : c.toks[cur+1+1+1]? = some q := hq
                have hqc : litMatch q [44] = false := LP_not_COMMA q hql
                have hqr : litMatch q [41] = false := LP_not_RP q hql
                have hgt : cur + 1 + 1 + 1 > cur + 1 + lookahead := by simp only [lookahead]; omega
                refine ⟨cur+1+1+1, ?_, by omega, hopAt⟩
                simp only []
                rw [parseRep_succ, show parse c _ identTailNode _ = _ from loop_step_nolit c _ "Params" "Identifier" _ _ q hq' hqc]
                simp [hq', hqr, hgt]
            | some res =>
              obtain ⟨i1, rest1⟩ := res
              rw [hd] at hin
              obtain ⟨cur1, rfl, hrest, h1, h2, _⟩ := hin
              subst hrest
              have hloop := simIdentTail c n ih n cur1 (by omega) (Nat.le_refl _) h2 [] [] (g+9) fd' (by omega) (by omega)
              simp only []
              generalize hrep : parseRep c (g+9) identTailNode cur1 [] [] = rr at hloop ⊢
              have hgt : ∀ k, cur1 ≤ k → cur + 1 + lookahead < k := by intro k hk; simp only [lookahead]; omega
              cases hd2 : dIdentTail fd' (c.toks.drop cur1) with
              | none =>
                rw [hd2] at hloop
                simp only [SimIdentTail] at hloop
                simp only [SimIdent]
                right; left
                rcases hloop with ⟨k', hv, rfl, hk'⟩ | ⟨vals', caps', cur2, rfl, hc2, hnr⟩
                · exact ⟨k', by simp [hgt k' hk'], by omega, hopAt⟩
                · refine ⟨cur2, ?_, by omega, hopAt⟩
                  cases hq : c.toks[cur2]? with
                  | none => simp [hq, hgt cur2 hc2]
                  | some q =>
                    have hqr : litMatch q [41] = false := hnr q hq
                    simp [hq, hqr, hgt cur2 hc2]
              | some res2 =>
                obtain ⟨is, rest2⟩ := res2
                rw [hd2] at hloop
                simp only [SimIdentTail] at hloop
                obtain ⟨vals', cur2, rfl, hrest2, hc2, hl2⟩ := hloop
                subst hrest2
                cases hq : c.toks[cur2]? with
                | none =>
                  rw [drop_of_none hq]
                  simp only [SimIdent]
                  right; left
                  exact ⟨cur2, by simp [hq, hgt cur2 hc2], by omega, hopAt⟩
                | some q =>
                  rw [drop_of_get hq]
                  cases hqr : litMatch q [41] with
                  | false =>
                    have hqr' : litMatch q RP = false := hqr
                    simp only [SimIdent, hqr', Bool.false_eq_true, if_false]
                    right; left
                    exact ⟨cur2, by simp [hq, hqr, hgt cur2 hc2], by omega, hopAt⟩
                  | true =>
                    have hqr' : litMatch q RP = true := hqr
                    have := lt_of_get hq
                    simp only [SimIdent, hqr', if_true]
                    exact ⟨cur2+1, by simp [hq, hqr, parseSeq_nil, valIdent, capsParams], rfl, by omega, by omega, hopAt⟩

end Logrange.Lql

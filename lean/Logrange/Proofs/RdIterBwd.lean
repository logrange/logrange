import Logrange.Proofs.RdIterFwd
/-!
Backward direction of the journal iterator (C03/C16): `get` / `next` with `bkwd = true` against the flat
record list. All declarations are prefixed `bw_`.

Result: `GetBwdSpec` / `NextBwdSpec` of RdIterDefs.lean are FALSE as stated (`bw_getBwdSpec_false`,
`bw_nextBwdSpec_false`): the model puts no bound on a chunk's record count, and backward `advanceChunk`
enters the previous chunk at index `maxU32`, so a chunk with ≥ `maxU32 + 2` records loses its tail. With the
extra hypothesis `bw_ChunkBound j` (every chunk has ≤ `maxU32 + 1` records; the real count is a `uint32`)
both specs hold with every conjunct: `bw_getBwd_bounded`, `bw_nextBwd_bounded`.
-/
namespace Logrange.Rd

/-- inside a chunk: the record at local index `k` is the flat record number `flatIdx ⟨id,k⟩`, and one step
further in the chunk is one step further in the flat list -/
theorem bw_recAt_flat (j : Journal) (hs : Sorted j) (ch : Chunk) (hm : ch ∈ j) (k : Nat) (hk : k < ch.cnt) :
    recAt j ch.id k = (flat j)[flatIdx j ⟨ch.id, k⟩]? ∧
    flatIdx j ⟨ch.id, k + 1⟩ = flatIdx j ⟨ch.id, k⟩ + 1 ∧
    (recAt j ch.id k).isSome := by
  refine ⟨?_, flatIdx_succ_in hs hm hk, ?_⟩
  · rw [recAt_mem hs hm, flatIdx_in hs hm, Nat.min_eq_left (Nat.le_of_lt hk), flat_get hs hm hk]
  · rw [recAt_mem hs hm, List.getElem?_eq_getElem hk]; rfl

theorem bw_orLess_none (j : Journal) (hs : Sorted j) (cid : Nat) (h : orLess j cid = none) :
    ∀ c ∈ j, cid < c.id := by
  cases j with
  | nil => intro c hc; simp at hc
  | cons c0 rest =>
    have h1 := hs.head_lt
    simp only [orLess] at h
    split at h
    · rename_i hgt
      intro c hc
      rcases List.mem_cons.mp hc with e | hc'
      · subst e; omega
      · have := h1 c hc'; omega
    · rename_i hle
      exfalso
      have hm : c0 ∈ (c0 :: rest).filter (fun c => decide (c.id ≤ cid)) := by
        simp [List.mem_filter]; omega
      rw [List.getLast?_eq_none_iff] at h
      rw [h] at hm
      simp at hm

theorem bw_orLess_some (j : Journal) (hs : Sorted j) (cid : Nat) (chk : Chunk) (h : orLess j cid = some chk) :
    chk ∈ j ∧ chk.id ≤ cid ∧ ∀ c ∈ j, c.id ≤ chk.id ∨ cid < c.id := by
  cases j with
  | nil => simp [orLess] at h
  | cons c0 rest =>
    simp only [orLess] at h
    split at h
    · simp at h
    · have hmem := List.mem_of_getLast? h
      rw [List.mem_filter] at hmem
      have hsf : Sorted ((c0 :: rest).filter (fun c => decide (c.id ≤ cid))) :=
        List.Pairwise.filter _ hs
      have hmax := (getLast_max hsf h).2
      refine ⟨hmem.1, by simpa using hmem.2, ?_⟩
      intro c hc
      by_cases hle : c.id ≤ cid
      · left
        apply hmax
        rw [List.mem_filter]
        exact ⟨hc, by simpa using hle⟩
      · right; omega

theorem bw_ensure_none (j : Journal) (it : It) (hci : it.ci = none) (hb : it.bkwd = true)
    (h : orLess j it.cid = none) : ensure j it = (it, true) := by
  unfold ensure
  simp [hci, hb, h]

theorem bw_ensure_some (j : Journal) (it : It) (hci : it.ci = none) (hb : it.bkwd = true)
    (chk : Chunk) (h : orLess j it.cid = some chk) (hle : chk.id ≤ it.cid) :
    ensure j it =
      ({ cid := chk.id,
         idx := (ciSetPos j { chunk := chk.id } ((if chk.id < it.cid then chk.cnt else it.idx : Nat) : Int)).pos.toNat,
         ci := some (ciSetPos j { chunk := chk.id } ((if chk.id < it.cid then chk.cnt else it.idx : Nat) : Int)),
         bkwd := true }, false) := by
  obtain ⟨cid, idx, ci, bkwd⟩ := it
  simp only at hci hb h hle
  subst hci hb
  unfold ensure
  simp only [h, if_true]
  by_cases hlt : chk.id < cid
  · simp [hlt]
  · have : chk.id = cid := by omega
    subst this
    simp

theorem bw_bCount_none (j : Journal) (it : It) (hci : it.ci = none) :
    bCount j it = flatIdx j ⟨it.cid, it.idx + 1⟩ := by
  simp [bCount, hci]

theorem bw_bCount_some (j : Journal) (it : It) (c : CIt) (hci : it.ci = some c) :
    bCount j it = flatIdx j ⟨c.chunk, (c.pos + 1).toNat⟩ := by
  simp [bCount, hci]

/-- backward `ensure` on a closed iterator: EOF exactly when nothing is at or before the position, otherwise
it opens the last chunk at or before it without changing the count -/
theorem bw_ensure (j : Journal) (hs : Sorted j) (it : It) (hci : it.ci = none) (hb : it.bkwd = true) :
    ((ensure j it).2 = true ∧ (ensure j it).1 = it ∧ bCount j it = 0) ∨
    ((ensure j it).2 = false ∧ (∃ c, (ensure j it).1.ci = some c) ∧ WF j (ensure j it).1 ∧
      (ensure j it).1.bkwd = true ∧ bCount j (ensure j it).1 = bCount j it ∧
      (ensure j it).1.cid ≤ it.cid) := by
  cases h : orLess j it.cid with
  | none =>
    left
    rw [bw_ensure_none j it hci hb h]
    refine ⟨rfl, rfl, ?_⟩
    rw [bw_bCount_none j it hci]
    exact flatIdx_eq_zero_of_lt (bw_orLess_none j hs it.cid h)
  | some chk =>
    right
    obtain ⟨hm, hle, hmax⟩ := bw_orLess_some j hs it.cid chk h
    rw [bw_ensure_some j it hci hb chk h hle]
    have hcnt := cntOf_mem hs hm
    rw [ciSetPos_fresh, hcnt]
    refine ⟨rfl, ⟨_, rfl⟩, ?_, rfl, ?_, hle⟩
    · simp only [WF, hcnt]
      exact ⟨trivial, ⟨chk, hm, rfl⟩, by omega, by omega, by simp⟩
    · rw [bw_bCount_none j it hci, bw_bCount_some j _ _ rfl]
      simp only
      rw [show ∀ m : Nat, ((m : Int) + 1).toNat = m + 1 from fun m => by omega]
      by_cases hlt : chk.id < it.cid
      · -- the chunk lies before `it.cid` and no chunk id is in between: both positions have all of it before them
        rw [if_pos hlt, Nat.min_self, flatIdx_end hs hm (Nat.le_succ _),
          flatIdx_gap 0 (Nat.succ_lt_succ hlt) (fun d hd => (hmax d hd).imp Nat.lt_succ_of_le Nat.succ_le_of_lt),
          flatIdx_gap (it.idx + 1) (Nat.lt_succ_self it.cid)
            (fun d hd => (hmax d hd).imp (Nat.lt_of_le_of_lt · hlt) Nat.succ_le_of_lt)]
      · rw [if_neg hlt, ← Nat.le_antisymm hle (Nat.not_lt.mp hlt), flatIdx_in hs hm,
          flatIdx_in hs hm (it.idx + 1)]
        omega

/-- no chunk holds more records than a `uint32` index can reach from `maxU32` (the real chunk count is a
`uint32`); needed because backward `advanceChunk` enters the previous chunk at index `maxU32` -/
def bw_ChunkBound (j : Journal) : Prop := ∀ c ∈ j, c.cnt ≤ maxU32 + 1

/-- the chunk before an existing chunk, entered at `maxU32`, stands right before that chunk's first record -/
theorem bw_flatIdx_prev (j : Journal) (hp : PosIds j) (hb : bw_ChunkBound j) (ch : Chunk) (hm : ch ∈ j) :
    flatIdx j ⟨ch.id - 1, maxU32 + 1⟩ = flatIdx j ⟨ch.id, 0⟩ := by
  have h0 := hp ch hm
  apply flatIdx_congr
  intro d hd
  rcases Nat.lt_trichotomy d.id (ch.id - 1) with h | h | h
  · rw [fiTerm_of_lt h, fiTerm_of_lt (show d.id < ch.id by omega)]
  · rw [fiTerm_of_eq h, fiTerm_of_lt (show d.id < ch.id by omega), Nat.min_eq_right (hb d hd)]
  · rw [fiTerm_of_gt h, fiTerm_zero_of_le (show ch.id ≤ d.id by omega)]

theorem bw_flatIdx_clamp (j : Journal) (hs : Sorted j) (ch : Chunk) (hm : ch ∈ j) (a b : Nat)
    (h : min a ch.cnt = min b ch.cnt) : flatIdx j ⟨ch.id, a⟩ = flatIdx j ⟨ch.id, b⟩ := by
  rw [← flatIdx_clamp hs hm a, h, flatIdx_clamp hs hm b]

/-- loop measure: number of chunks with id ≤ `cid` -/
def bw_m (j : Journal) (cid : Nat) : Nat := j.countP (fun c => decide (c.id ≤ cid))

theorem bw_m_le_length (j : Journal) (cid : Nat) : bw_m j cid ≤ j.length := List.countP_le_length

theorem bw_m_lt (j : Journal) (ch : Chunk) (hm : ch ∈ j) (a : Nat) (h : a < ch.id) :
    bw_m j a < bw_m j ch.id := by
  apply countP_lt_of _ hm
  · simp only [decide_eq_false_iff_not]; omega
  · simp only [decide_eq_true_eq]; exact Nat.le_refl _
  · intro x _ hx; simp only [decide_eq_true_eq] at hx ⊢; omega

/-- what backward `get` owes when `n` records are at or before the position -/
def bw_Post (j : Journal) (n : Nat) (r : It × Option Rec) : Prop :=
  r.2 = (if n = 0 then none else (flat j)[n - 1]?) ∧
  WF j r.1 ∧ r.1.bkwd = true ∧ bCount j r.1 = n ∧
  (r.2.isSome → OnRecord j r.1) ∧ (r.2 = none → r.1.ci = none)

/-- backward `advanceChunk` from an open chunk `ch` -/
theorem bw_advance (j : Journal) (hs : Sorted j) (hp : PosIds j) (hb : bw_ChunkBound j)
    (it : It) (hbk : it.bkwd = true) (ch : Chunk) (hm : ch ∈ j) (hcid : it.cid = ch.id) :
    WF j (advance j it).1 ∧ (advance j it).1.bkwd = true ∧
    bCount j (advance j it).1 = flatIdx j ⟨ch.id, 0⟩ ∧
    (((advance j it).2 = true ∧ (advance j it).1.ci = none ∧ flatIdx j ⟨ch.id, 0⟩ = 0) ∨
     ((advance j it).2 = false ∧ (∃ c', (advance j it).1.ci = some c') ∧ (advance j it).1.cid < ch.id)) := by
  have hadv : advance j it = ensure j { cid := ch.id - 1, idx := maxU32, ci := none, bkwd := true } := by
    obtain ⟨cid, idx, ci, bkwd⟩ := it
    simp only at hbk hcid
    subst hbk hcid
    simp [advance]
  rw [hadv]
  have hpos := hp ch hm
  have hb0 : bCount j { cid := ch.id - 1, idx := maxU32, ci := none, bkwd := true } = flatIdx j ⟨ch.id, 0⟩ :=
    bw_flatIdx_prev j hp hb ch hm
  rcases bw_ensure j hs { cid := ch.id - 1, idx := maxU32, ci := none, bkwd := true } rfl rfl with
    ⟨e1, e2, e3⟩ | ⟨e1, e2, e3, e4, e5, e6⟩
  · rw [e2]
    exact ⟨by simp [WF], rfl, hb0, Or.inl ⟨e1, rfl, hb0 ▸ e3⟩⟩
  · simp only at e6
    exact ⟨e3, e4, e5.trans hb0, Or.inr ⟨e1, e2, by omega⟩⟩

/-- one backward chunk-iterator `Get` under an open, well-formed journal iterator -/
theorem bw_step (j : Journal) (hs : Sorted j) (it : It) (c : CIt) (hci : it.ci = some c) (hwf : WF j it) :
    ∃ ch, ch ∈ j ∧ it.cid = ch.id ∧ (ciGet j true c).1.chunk = ch.id ∧
      -1 ≤ (ciGet j true c).1.pos ∧ (ciGet j true c).1.pos < (ch.cnt : Int) ∧
      bCount j it = flatIdx j ⟨ch.id, ((ciGet j true c).1.pos + 1).toNat⟩ ∧
      ((ciGet j true c).1.pos < 0 → (ciGet j true c).2 = none ∧ (ciGet j true c).1.cached = false) ∧
      (0 ≤ (ciGet j true c).1.pos → (ciGet j true c).2 = recAt j ch.id (ciGet j true c).1.pos.toNat) := by
  simp only [WF, hci] at hwf
  obtain ⟨w1, ⟨ch, hm, w2⟩, w3, w4, w5⟩ := hwf
  have hcnt := cntOf_mem hs hm
  rw [← w2, hcnt] at w4 w5
  have hq : -1 ≤ restPos true c.pos ch.cnt ∧ restPos true c.pos ch.cnt < ch.cnt ∧
      min (c.pos + 1).toNat ch.cnt = min (restPos true c.pos ch.cnt + 1).toNat ch.cnt := by
    unfold restPos; simp only [cond_true]; split <;> omega
  have hbc : bCount j it = flatIdx j ⟨ch.id, (restPos true c.pos ch.cnt + 1).toNat⟩ := by
    rw [bw_bCount_some j it c hci, ← w2]; exact bw_flatIdx_clamp j hs ch hm _ _ hq.2.2
  refine ⟨ch, hm, (w2.trans w1).symm, ?_⟩
  rw [ciGet_spec hs true hm w2 w3 w4 w5, recAt_mem hs hm]
  split
  · rename_i h
    exact ⟨w2.symm, hq.1, hq.2.1, hbc, fun h' => absurd h.1 (Int.not_le.mpr h'), fun _ => rfl⟩
  · rename_i h
    exact ⟨w2.symm, hq.1, hq.2.1, hbc, fun _ => ⟨rfl, rfl⟩, fun h' => absurd ⟨h', hq.2.1⟩ h⟩

theorem bw_getLoop (j : Journal) (hs : Sorted j) (hp : PosIds j) (hb : bw_ChunkBound j) :
    ∀ (fuel : Nat) (it : It) (c : CIt), it.ci = some c → WF j it → it.bkwd = true →
      bw_m j it.cid ≤ fuel → bw_Post j (bCount j it) (getLoop j fuel it) := by
  intro fuel
  induction fuel with
  | zero =>
    intro it c hci hwf hbk hfuel
    exfalso
    obtain ⟨ch, hm, hcid, _⟩ := bw_step j hs it c hci hwf
    have := bw_m_lt j ch hm (ch.id - 1) (by have := hp ch hm; omega)
    rw [hcid] at hfuel
    omega
  | succ fuel ih =>
    intro it c hci hwf hbk hfuel
    obtain ⟨cid, idx, ci, bkwd⟩ := it
    simp only at hci hbk
    subst hci hbk
    obtain ⟨ch, hm, hcid, s1, s2, s3, s4, s5, s6⟩ := bw_step j hs _ c rfl hwf
    simp only at hcid hfuel
    subst hcid
    rw [getLoop]
    simp only
    generalize ciGet j true c = g at s1 s2 s3 s4 s5 s6
    obtain ⟨c', r⟩ := g
    simp only at s1 s2 s3 s4 s5 s6 ⊢
    have hcnt := cntOf_mem hs hm
    by_cases hneg : c'.pos < 0
    · obtain ⟨hr, hcached⟩ := s5 hneg
      subst hr
      simp only
      have hpos : c'.pos = -1 := Int.le_antisymm (Int.le_sub_one_of_lt hneg) s2
      rw [hpos] at s4
      simp only [Int.reduceNeg, Int.add_left_neg, Int.toNat_zero] at s4
      obtain ⟨a1, a2, a3, a4⟩ := bw_advance j hs hp hb
        { cid := ch.id, idx := idx, ci := some c', bkwd := true } rfl ch hm rfl
      generalize advance j { cid := ch.id, idx := idx, ci := some c', bkwd := true } = adv at a1 a2 a3 a4 ⊢
      obtain ⟨it', eof⟩ := adv
      simp only at a1 a2 a3 a4 ⊢
      rw [s4]
      rcases a4 with ⟨b1, b2, b3⟩ | ⟨b1, ⟨c2, b2⟩, b3⟩
      · subst b1
        simp only [if_true]
        refine ⟨by simp [b3], a1, a2, a3, by simp, fun _ => b2⟩
      · subst b1
        simp only [Bool.false_eq_true, if_false]
        rw [← a3]
        apply ih it' c2 b2 a1 a2
        have := bw_m_lt j ch hm it'.cid b3
        omega
    · have hnn : 0 ≤ c'.pos := Int.not_lt.mp hneg
      have hr := s6 hnn
      have hk : c'.pos.toNat < ch.cnt := (Int.toNat_lt hnn).mpr s3
      obtain ⟨f1, f2, f3⟩ := bw_recAt_flat j hs ch hm c'.pos.toNat hk
      have hsucc : (c'.pos + 1).toNat = c'.pos.toNat + 1 := toNat_add_one hnn
      rw [hsucc, f2] at s4
      rw [← hr] at f1 f3
      obtain ⟨l, hl⟩ := Option.isSome_iff_exists.mp f3
      subst hl
      simp only
      rw [s4]
      refine ⟨?_, ?_, rfl, ?_, fun _ => ⟨c', rfl, hnn, ?_⟩, fun h => by simp at h⟩
      · simp [f1]
      · simp only [WF, s1, hcnt]
        exact ⟨trivial, ⟨ch, hm, rfl⟩, s2, Int.le_of_lt s3, fun _ => ⟨hnn, s3⟩⟩
      · rw [bw_bCount_some j _ c' rfl, s1, hsucc, f2]
      · rw [s1, hcnt]; exact s3

theorem bw_ensure_open (j : Journal) (it : It) (c : CIt) (hci : it.ci = some c) : ensure j it = (it, false) := by
  unfold ensure
  simp [hci]

theorem bw_get_eq (j : Journal) (it : It) :
    get j it = if (ensure j it).2 = true then ((ensure j it).1, none)
      else getLoop j (j.length + 2) (ensure j it).1 := by
  simp only [get]

/-- backward `get`, all conjuncts of `GetBwdSpec`, under the chunk-size bound -/
theorem bw_get (j : Journal) (it : It) (hs : Sorted j) (hp : PosIds j) (hb : bw_ChunkBound j)
    (hwf : WF j it) (hbk : it.bkwd = true) : bw_Post j (bCount j it) (get j it) := by
  rw [bw_get_eq]
  cases hci : it.ci with
  | some c =>
    rw [bw_ensure_open j it c hci]
    simp only [Bool.false_eq_true, if_false]
    apply bw_getLoop j hs hp hb _ it c hci hwf hbk
    have := bw_m_le_length j it.cid
    omega
  | none =>
    rcases bw_ensure j hs it hci hbk with ⟨e1, e2, e3⟩ | ⟨e1, ⟨c, e2⟩, e3, e4, e5, e6⟩
    · rw [e1, e2, e3]
      simp only [if_true]
      refine ⟨by simp, hwf, hbk, e3, by simp, fun _ => hci⟩
    · rw [e1]
      simp only [Bool.false_eq_true, if_false]
      rw [← e5]
      apply bw_getLoop j hs hp hb _ _ c e2 e3 e4
      have := bw_m_le_length j (ensure j it).1.cid
      omega

theorem bw_next_eq (j : Journal) (it : It) :
    next j it = match (get j it).1.ci with
      | none => (get j it).1
      | some c =>
        if (ciNext j (get j it).1.bkwd c).pos < 0
        then (advance j { (get j it).1 with ci := some (ciNext j (get j it).1.bkwd c) }).1
        else { (get j it).1 with ci := some (ciNext j (get j it).1.bkwd c),
                                 idx := (ciNext j (get j it).1.bkwd c).pos.toNat } := by
  rfl

/-- backward `next`, all conjuncts of `NextBwdSpec`, under the chunk-size bound -/
theorem bw_next (j : Journal) (it : It) (hs : Sorted j) (hp : PosIds j) (hb : bw_ChunkBound j)
    (hwf : WF j it) (hbk : it.bkwd = true) :
    WF j (next j it) ∧ (next j it).bkwd = true ∧ bCount j (next j it) = bCount j it - 1 := by
  obtain ⟨g1, g2, g3, g4, g5, g6⟩ := bw_get j it hs hp hb hwf hbk
  rw [bw_next_eq]
  generalize get j it = g at g1 g2 g3 g4 g5 g6
  obtain ⟨⟨cid, idx, ci, bkwd⟩, r⟩ := g
  simp only at g1 g2 g3 g4 g5 g6 ⊢
  subst g3
  cases ci with
  | none =>
    simp only
    refine ⟨g2, trivial, ?_⟩
    cases r with
    | some l =>
      obtain ⟨c0, e, _⟩ := g5 rfl
      simp at e
    | none =>
      have hle : bCount j it ≤ (flat j).length := by
        unfold bCount
        split <;> exact flatIdx_le _ _
      by_cases hz : bCount j it = 0
      · omega
      · rw [if_neg hz] at g1
        have : bCount j it - 1 < (flat j).length := by omega
        simp [this] at g1
  | some c =>
    simp only
    cases r with
    | none => simp at g6
    | some l =>
      obtain ⟨c0, e, h0, h1⟩ := g5 rfl
      simp only [Option.some.injEq] at e
      subst e
      have hwf1 := g2
      simp only [WF] at hwf1
      obtain ⟨w1, ⟨ch, hm, w2⟩, _, _, _⟩ := hwf1
      have hcnt := cntOf_mem hs hm
      rw [← w2, hcnt] at h1
      rw [ciNext_spec hs true hm w2 h0 h1, ← w2]
      rw [bw_bCount_some j _ c rfl, ← w2] at g4
      have hcid : ch.id = cid := w2.trans w1
      rw [toNat_add_one h0, flatIdx_succ_in hs hm ((Int.toNat_lt h0).mpr h1)] at g4
      simp only [cond_true]
      by_cases hneg : c.pos - 1 < 0
      · rw [if_pos hneg]
        have hp0 : c.pos = 0 := Int.le_antisymm (Int.sub_one_lt_iff.mp hneg) h0
        rw [hp0] at g4
        simp only [Int.toNat_zero] at g4
        obtain ⟨a1, a2, a3, _⟩ := bw_advance j hs hp hb
          { cid := cid, idx := idx, ci := some { chunk := ch.id, pos := c.pos - 1, cached := false }, bkwd := true }
          rfl ch hm hcid.symm
        exact ⟨a1, a2, by rw [a3, ← g4, Nat.add_sub_cancel]⟩
      · rw [if_neg hneg]
        refine ⟨?_, rfl, ?_⟩
        · simp only [WF, hcnt]
          exact ⟨hcid, ⟨ch, hm, rfl⟩, by omega, by omega, by simp⟩
        · rw [bw_bCount_some j _ _ rfl]
          simp only
          rw [Int.sub_add_cancel, ← g4, Nat.add_sub_cancel]

/-! ## the unbounded specs are false -/

/-- the counterexample journal: chunk 1 with `maxU32 + 2` records, chunk 2 empty -/
def bw_cexJ (recs : List Rec) : Journal := [{ id := 1, recs := recs }, { id := 2, recs := [] }]
def bw_cexIt : It := { cid := 2, idx := 0, ci := none, bkwd := true }

theorem bw_cex_recAt (recs : List Rec) (h : recs.length = maxU32 + 2) :
    ∃ l, recAt (bw_cexJ recs) 1 4294967295 = some l := by
  have : 4294967295 < recs.length := by rw [h, maxU32]; omega
  exact ⟨recs[4294967295], by simp [recAt, findChunk, bw_cexJ, this]⟩

theorem bw_cex_ensure1 (recs : List Rec) :
    ensure (bw_cexJ recs) bw_cexIt = ({ cid := 2, idx := 0, ci := some { chunk := 2, pos := 0, cached := false }, bkwd := true }, false) := by
  simp [ensure, orLess, ciSetPos, bw_cexJ, bw_cexIt]

theorem bw_cex_adv (recs : List Rec) (h : recs.length = maxU32 + 2) :
    advance (bw_cexJ recs) { cid := 2, idx := 0, ci := some { chunk := 2, pos := -1, cached := false }, bkwd := true } =
    ({ cid := 1, idx := maxU32, ci := some { chunk := 1, pos := (maxU32 : Int), cached := false }, bkwd := true }, false) := by
  simp [advance, ensure, orLess, ciSetPos, bw_cexJ, cntOf, findChunk, Chunk.cnt, h, maxU32]

theorem bw_cex_ciGet2 (recs : List Rec) :
    ciGet (bw_cexJ recs) true { chunk := 2, pos := 0, cached := false } =
      ({ chunk := 2, pos := -1, cached := false }, none) := by
  simp [ciGet, ciSetPos, bw_cexJ, cntOf, findChunk, Chunk.cnt]

theorem bw_cex_ciGet1 (recs : List Rec) (h : recs.length = maxU32 + 2) :
    ciGet (bw_cexJ recs) true { chunk := 1, pos := (maxU32 : Int), cached := false } =
      ({ chunk := 1, pos := (maxU32 : Int), cached := true }, recAt (bw_cexJ recs) 1 4294967295) := by
  simp [ciGet, bw_cexJ, cntOf, findChunk, Chunk.cnt, h, maxU32]

theorem bw_cex_get (recs : List Rec) (h : recs.length = maxU32 + 2) :
    (get (bw_cexJ recs) bw_cexIt).1 =
      { cid := 1, idx := maxU32, ci := some { chunk := 1, pos := (maxU32 : Int), cached := true }, bkwd := true } := by
  obtain ⟨l, hl⟩ := bw_cex_recAt recs h
  rw [bw_get_eq, bw_cex_ensure1]
  have hlen : (bw_cexJ recs).length + 2 = 2 + 1 + 1 := rfl
  simp only [Bool.false_eq_true, if_false]
  rw [hlen, getLoop]
  simp only [bw_cex_ciGet2, bw_cex_adv recs h, Bool.false_eq_true, if_false]
  rw [getLoop]
  simp only [bw_cex_ciGet1 recs h, hl]

theorem bw_cex_sorted (recs : List Rec) : Sorted (bw_cexJ recs) := by simp [Sorted, bw_cexJ]
theorem bw_cex_posIds (recs : List Rec) : PosIds (bw_cexJ recs) := by simp [PosIds, bw_cexJ]
theorem bw_cex_wf (recs : List Rec) : WF (bw_cexJ recs) bw_cexIt := by simp [WF, bw_cexIt]

theorem bw_cex_bCount0 (recs : List Rec) (h : recs.length = maxU32 + 2) :
    bCount (bw_cexJ recs) bw_cexIt = maxU32 + 2 := by
  simp [bCount, flatIdx, bw_cexJ, bw_cexIt, Chunk.cnt, h]

theorem bw_cex_bCount1 (recs : List Rec) (h : recs.length = maxU32 + 2) :
    bCount (bw_cexJ recs) (get (bw_cexJ recs) bw_cexIt).1 = maxU32 + 1 := by
  rw [bw_cex_get recs h]
  simp [bCount, flatIdx, bw_cexJ, Chunk.cnt, h, maxU32]

theorem bw_cex_next (recs : List Rec) (h : recs.length = maxU32 + 2) :
    bCount (bw_cexJ recs) (next (bw_cexJ recs) bw_cexIt) = maxU32 := by
  obtain ⟨l, hl⟩ := bw_cex_recAt recs h
  have hn : ciNext (bw_cexJ recs) true { chunk := 1, pos := (maxU32 : Int), cached := true } =
      { chunk := 1, pos := (maxU32 : Int) - 1, cached := false } := by
    have hl' : recAt (bw_cexJ recs) 1 4294967295 = some l := hl
    simp [ciNext, ciGet, ciSetPos, cntOf, findChunk, Chunk.cnt, maxU32, hl']
    simp [bw_cexJ, h, maxU32]
  rw [bw_next_eq, bw_cex_get recs h]
  simp only [hn]
  simp [bCount, flatIdx, bw_cexJ, Chunk.cnt, h, maxU32]

/-- `GetBwdSpec` as stated (no bound on chunk sizes) is false: a chunk with `maxU32 + 2` records before an
empty chunk; backward `advanceChunk` enters it at index `maxU32` and skips its last record -/
theorem bw_getBwdSpec_false : ¬ GetBwdSpec := by
  intro H
  have hlen : (List.replicate (maxU32 + 2) ({ lbl := 0 } : Rec)).length = maxU32 + 2 := List.length_replicate ..
  generalize List.replicate (maxU32 + 2) ({ lbl := 0 } : Rec) = recs at hlen
  obtain ⟨_, _, _, h4, _⟩ := H (bw_cexJ recs) bw_cexIt (bw_cex_sorted recs) (bw_cex_posIds recs) (bw_cex_wf recs) rfl
  rw [bw_cex_bCount0 recs hlen, bw_cex_bCount1 recs hlen] at h4
  omega

theorem bw_nextBwdSpec_false : ¬ NextBwdSpec := by
  intro H
  have hlen : (List.replicate (maxU32 + 2) ({ lbl := 0 } : Rec)).length = maxU32 + 2 := List.length_replicate ..
  generalize List.replicate (maxU32 + 2) ({ lbl := 0 } : Rec) = recs at hlen
  obtain ⟨_, _, h3⟩ := H (bw_cexJ recs) bw_cexIt (bw_cex_sorted recs) (bw_cex_posIds recs) (bw_cex_wf recs) rfl
  rw [bw_cex_bCount0 recs hlen, bw_cex_next recs hlen] at h3
  omega

/-! ## the specs with the chunk-size bound (the closest true statements) -/

/-- `GetBwdSpec` plus the hypothesis `bw_ChunkBound j` -/
def bw_GetBwdSpecB : Prop :=
  ∀ (j : Journal) (it : It), Sorted j → PosIds j → bw_ChunkBound j → WF j it → it.bkwd = true →
    (get j it).2 = (if bCount j it = 0 then none else (flat j)[bCount j it - 1]?) ∧
    WF j (get j it).1 ∧ (get j it).1.bkwd = true ∧
    bCount j (get j it).1 = bCount j it ∧
    ((get j it).2.isSome → OnRecord j (get j it).1) ∧
    ((get j it).2 = none → (get j it).1.ci = none)

/-- `NextBwdSpec` plus the hypothesis `bw_ChunkBound j` -/
def bw_NextBwdSpecB : Prop :=
  ∀ (j : Journal) (it : It), Sorted j → PosIds j → bw_ChunkBound j → WF j it → it.bkwd = true →
    WF j (next j it) ∧ (next j it).bkwd = true ∧
    bCount j (next j it) = bCount j it - 1

theorem bw_getBwd_bounded : bw_GetBwdSpecB :=
  fun j it hs hp hb hwf hbk => bw_get j it hs hp hb hwf hbk

theorem bw_nextBwd_bounded : bw_NextBwdSpecB :=
  fun j it hs hp hb hwf hbk => bw_next j it hs hp hb hwf hbk

/-- the real bound (`uint32` record counts) implies `bw_ChunkBound` -/
theorem bw_chunkBound_of_u32 (j : Journal) (h : ∀ c ∈ j, c.cnt ≤ maxU32) : bw_ChunkBound j :=
  fun c hc => Nat.le_succ_of_le (h c hc)

end Logrange.Rd

import Logrange.Model.TIndexUtf8
import Logrange.Proofs.TIndexGet
import Logrange.Proofs.RegistryJson
/-!
# The tag index with the UTF-8 guard on creation (fix a7918dd): everything proved about `getOrCreate` carries over
-/
namespace Logrange.Proofs.TIndexUtf8
open Go Logrange.KV Logrange.Tags Logrange.TIndexId Logrange.TIndexUtf8 Logrange.Proofs.KV Logrange.Proofs.Tags
  Logrange.Proofs.TIndexId Logrange.Proofs.TIndexRun

/-- a step either refuses and changes nothing, or is the step of the unguarded model -/
theorem stepU_cases (u g : Bool) (s : St) (raw : Bytes) (create : Bool) :
    ((getOrCreateU u g s raw create).1 = s ∧ ∀ r, (getOrCreateU u g s raw create).2 ≠ .res (.ok r)) ∨
    getOrCreateU u g s raw create = ((getOrCreate s raw create).1, .res (getOrCreate s raw create).2) := by
  unfold getOrCreateU
  by_cases h1 : (u && utf8Rejects s raw create) = true
  · left; simp [h1]
  · by_cases h2 : (g && Logrange.TIndexGuard.guardRejects s raw) = true
    · left; simp [h1, h2]
    · right; simp [h1, h2]

theorem tinv_stepU (u g : Bool) (s : St) (raw : Bytes) (create : Bool) (h : TInv s) :
    TInv (getOrCreateU u g s raw create).1 := by
  rcases stepU_cases u g s raw create with ⟨e, _⟩ | e
  · rw [e]; exact h
  · rw [e]; exact tinv_step s raw create h

theorem tinv_runU (u g : Bool) (s : St) (ops : List (Bytes × Bool)) (h : TInv s) : TInv (runU u g s ops) := by
  induction ops generalizing s with
  | nil => exact h
  | cons op ops ih =>
    obtain ⟨raw, create⟩ := op
    simp only [runU]
    exact ih _ (tinv_stepU u g s raw create h)

/-- a text whose set has a valid UTF-8 line is never refused by the UTF-8 guard -/
theorem utf8Rejects_valid (s : St) (raw : Bytes) (create : Bool) (m : Map) (hp : parse raw = some m)
    (hv : validLine (line m) = true) : utf8Rejects s raw create = false := by
  unfold utf8Rejects
  simp [hp, hv]

/-- the raw-text fast path is not touched by the guard: an existing partition addressed by its stored line is found -/
theorem utf8Rejects_fast (s : St) (raw : Bytes) (create : Bool) (td : Desc) (h : lookup s.tmap raw = some td) :
    utf8Rejects s raw create = false := by
  unfold utf8Rejects
  simp [h]

theorem stepU_hit (u g : Bool) (s : St) (raw : Bytes) (create : Bool) (td : Desc) (h : lookup s.tmap raw = some td) :
    getOrCreateU u g s raw create = (s, .res (.ok td.src)) := by
  have hg : Logrange.TIndexGuard.guardRejects s raw = false := by
    unfold Logrange.TIndexGuard.guardRejects; rw [h]; rfl
  unfold getOrCreateU
  rw [utf8Rejects_fast s raw create td h, hg, getOrCreate_hit create h, Bool.and_false, Bool.and_false]
  rfl

/-- the keys created under the guard are valid UTF-8 -/
def KInv (s : St) : Prop := ∀ e ∈ s.tmap, validLine e.1 = true

theorem kinv_stepU (g : Bool) (s : St) (raw : Bytes) (create : Bool) (h : KInv s) :
    KInv (getOrCreateU true g s raw create).1 := by
  unfold getOrCreateU
  rw [Bool.true_and]
  split
  · exact h
  · rename_i h1
    split
    · exact h
    · cases create with
      | false => rw [Logrange.Proofs.TIndexGet.get_no_change]; exact h
      | true =>
        -- the guard did not fire although this call creates: the line is valid
        refine all_step s raw true h fun m hp hne hl => ?_
        unfold utf8Rejects at h1
        simpa [hl, hp, isEmpty_false hne] using h1

theorem kinv_runU (g : Bool) (s : St) (ops : List (Bytes × Bool)) (h : KInv s) : KInv (runU true g s ops) := by
  induction ops generalizing s with
  | nil => exact h
  | cons op ops ih =>
    obtain ⟨raw, create⟩ := op
    simp only [runU]
    exact ih _ (kinv_stepU g s raw create h)

end Logrange.Proofs.TIndexUtf8

/-! `Quote.validUtf8` is the validity test of the codec model -/

namespace Logrange.Proofs.KeyJson
open Go Logrange.Quote Logrange.Registry

theorem decodeRune_eq (s : Bytes) : Logrange.Quote.decodeRune s = jDecodeRune s := by
  unfold Logrange.Quote.decodeRune jDecodeRune
  rfl

theorem valid_eq : ∀ (f : Nat) (s : Bytes), Logrange.Quote.validUtf8 f s = validGo f s := by
  intro f
  induction f with
  | zero => intro s; rfl
  | succ n ih =>
    intro s
    cases s with
    | nil => rfl
    | cons c rest =>
      unfold Logrange.Quote.validUtf8 validGo
      by_cases h : c.toNat < 0x80
      · simp only [h, if_true]; exact ih rest
      · simp only [h, if_false]
        rw [decodeRune_eq]
        cases hd : jDecodeRune (c :: rest) with
        | mk r w =>
          simp only [jBad, Logrange.Quote.runeError, jRuneError]
          simp [ih]

/-- **a key created under the UTF-8 guard is written to and read back from `tindex.dat` unchanged**: `encoding/json`
(`Registry.jsanitize` = `Unmarshal ∘ Marshal` on a Go string, C19/C07's model, validated against the real codec there) is the
identity on it -/
theorem valid_key_json_stable (k : Bytes) (h : Logrange.TIndexUtf8.validLine k = true) : jsanitize k = k := by
  apply jsanitize_valid
  unfold Logrange.TIndexUtf8.validLine at h
  unfold Logrange.Registry.validUtf8
  rw [← valid_eq]; exact h

end Logrange.Proofs.KeyJson

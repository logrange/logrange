import Logrange.Proofs.Mixer
import Logrange.Proofs.MixTree
/-!
# Paging over a merged cursor of ANY number of partitions (C03 goal: `paging_n_partitions`)

Generic part, over C04's mixer-tree model (`Logrange.Mixer.It`, read-only import of `Model/Mixer.lean`, `Proofs/Mixer.lean`,
`Proofs/MixTree.lean`) and any lawful leaf (`LawfulSource`): a page = the read loop (`Get`, emit, `Next`, at most `lim` times)
followed by `commit` (`Get` to settle, export every leaf's position, `Release`); before the next page the environment either
keeps the cursor object (`same`) or builds a new cursor with `newCursor` (`build`) over new leaves made from the exported
positions (`fresh`). If making a new leaf from a leaf's exported position keeps its stream (`hre`, for leaves satisfying an
invariant `P` that `Get`/`Next`/`Release` preserve), the concatenated pages are the first Σ limits events of the merged
stream `t.view` of the first cursor — C04's `mixer_refines_merge` tree semantics (nested `mergeSpec` in the shape of the tree).

The proof needs that a held tree and a newly built one have the same SHAPE (`SameShape`: the reduction of `newCursor` depends
only on the number of sources; `Get`/`Next`/`Release` never change the shape), because the nested merge of unsorted streams
depends on it.
-/
set_option linter.unusedSectionVars false
set_option linter.unusedVariables false
namespace Logrange.MergeN
open Logrange.Mixer Logrange.MixTree LawfulSource

variable {σ : Type} [Source σ] [LawfulSource σ]

/-! ## shape -/

def SameShape : It σ → It σ → Prop
  | .leaf _, .leaf _ => True
  | .mix m a b, .mix m' a' b' => m.bkwd = m'.bkwd ∧ SameShape a a' ∧ SameShape b b'
  | _, _ => False

theorem SameShape.refl : ∀ t : It σ, SameShape t t
  | .leaf _ => trivial
  | .mix _ a b => ⟨rfl, SameShape.refl a, SameShape.refl b⟩

theorem SameShape.symm : ∀ {t u : It σ}, SameShape t u → SameShape u t
  | .leaf _, .leaf _, _ => trivial
  | .mix _ _ _, .mix _ _ _, h => ⟨h.1.symm, SameShape.symm h.2.1, SameShape.symm h.2.2⟩
  | .leaf _, .mix _ _ _, h => h.elim
  | .mix _ _ _, .leaf _, h => h.elim

theorem SameShape.trans : ∀ {t u v : It σ}, SameShape t u → SameShape u v → SameShape t v
  | .leaf _, .leaf _, .leaf _, _, _ => trivial
  | .mix _ _ _, .mix _ _ _, .mix _ _ _, h1, h2 =>
    ⟨h1.1.trans h2.1, SameShape.trans h1.2.1 h2.2.1, SameShape.trans h1.2.2 h2.2.2⟩
  | .leaf _, .mix _ _ _, _, h, _ => h.elim
  | .mix _ _ _, .leaf _, _, h, _ => h.elim
  | .leaf _, .leaf _, .mix _ _ _, _, h => h.elim
  | .mix _ _ _, .mix _ _ _, .leaf _, _, h => h.elim

theorem SameShape.leaves_length : ∀ {t u : It σ}, SameShape t u → t.leaves.length = u.leaves.length
  | .leaf _, .leaf _, _ => rfl
  | .mix _ a b, .mix _ a' b', h => by
    simp only [It.leaves, List.length_append, SameShape.leaves_length h.2.1, SameShape.leaves_length h.2.2]
  | .leaf _, .mix _ _ _, h => h.elim
  | .mix _ _ _, .leaf _, h => h.elim

/-- the stream of a tree is a function of its shape and of its leaves' streams -/
theorem view_congr : ∀ {t u : It σ}, SameShape t u → t.leaves.map view = u.leaves.map view → t.view = u.view
  | .leaf s, .leaf s', _, h => by simpa [It.leaves, It.view] using h
  | .mix m a b, .mix m' a' b', hs, h => by
    simp only [It.leaves, List.map_append] at h
    have hl : (a.leaves.map (view (σ := σ))).length = (a'.leaves.map (view (σ := σ))).length := by
      simp only [List.length_map]; exact hs.2.1.leaves_length
    obtain ⟨h1, h2⟩ := List.append_inj h hl
    simp only [It.view, hs.1, view_congr hs.2.1 h1, view_congr hs.2.2 h2]
  | .leaf _, .mix _ _ _, h, _ => h.elim
  | .mix _ _ _, .leaf _, h, _ => h.elim

/-- a leaf-wise invariant -/
def All (P : σ → Prop) : It σ → Prop
  | .leaf s => P s
  | .mix _ a b => All P a ∧ All P b

theorem All.leaves {P : σ → Prop} : ∀ {t : It σ}, All P t → ∀ s ∈ t.leaves, P s
  | .leaf s, h, x, hx => by simp only [It.leaves, List.mem_singleton] at hx; subst hx; exact h
  | .mix _ a b, h, x, hx => by
    simp only [It.leaves, List.mem_append] at hx
    rcases hx with hx | hx
    · exact All.leaves h.1 x hx
    · exact All.leaves h.2 x hx

theorem selectState_bkwd {α : Type} (m : MixSt) (a b : α) (ga gb : α × Option Ev) :
    (m.selectState a b ga gb).1.bkwd = m.bkwd := by
  by_cases h : m.st = 0
  · rw [MixSt.selectState_of_zero _ _ _ _ _ h, (MixSt.choose_rest _).1, (MixSt.ask2_rest _ _).2.1,
      (MixSt.ask1_rest _ _).2.1]
  · rw [MixSt.selectState_of_ne _ _ _ _ _ h]

section ops
variable (P : σ → Prop) (hg : ∀ s, P s → P (Source.get s).1) (hn : ∀ s, P s → P (Source.next s))
  (hr : ∀ s, P s → P (Source.release s))
include hg hn hr

theorem get_keeps : ∀ t : It σ, SameShape t.get.1 t ∧ (All P t → All P t.get.1)
  | .leaf s => ⟨trivial, fun h => hg s h⟩
  | .mix m a b => by
    have ia := get_keeps a
    have ib := get_keeps b
    simp only [It.get]
    exact ⟨⟨selectState_bkwd m a b a.get b.get,
        m.selectState_fst (P := fun x => SameShape x a) a b _ _ (SameShape.refl a) ia.1,
        m.selectState_snd (P := fun x => SameShape x b) a b _ _ (SameShape.refl b) ib.1⟩,
      fun h => ⟨m.selectState_fst (P := All P) a b _ _ h.1 (ia.2 h.1),
        m.selectState_snd (P := All P) a b _ _ h.2 (ib.2 h.2)⟩⟩

theorem next_keeps (t : It σ) : SameShape t.next t ∧ (All P t → All P t.next) := by
  induction t using It.size_induction with
  | leaf s => rw [It.next]; exact ⟨trivial, fun h => hn s h⟩
  | mix m a b iha ihb =>
    have G := get_keeps P hg hn hr (It.mix m a b)
    simp only [It.get] at G
    obtain ⟨sa, sb⟩ := It.selectState_size m a b
    rw [It.next_mix]
    generalize m.selectState a b a.get b.get = r at G sa sb
    obtain ⟨⟨gb, ga1, ga2⟩, gall⟩ := G
    have ia := iha _ sa
    have ib := ihb _ sb
    dsimp only
    split
    · exact ⟨⟨gb, ia.1.trans ga1, ga2⟩, fun h => ⟨ia.2 (gall h).1, (gall h).2⟩⟩
    · split
      · exact ⟨⟨gb, ga1, ib.1.trans ga2⟩, fun h => ⟨(gall h).1, ib.2 (gall h).2⟩⟩
      · exact ⟨⟨gb, ga1, ga2⟩, gall⟩

theorem release_keeps : ∀ t : It σ, SameShape t.release t ∧ (All P t → All P t.release)
  | .leaf s => ⟨trivial, fun h => hr s h⟩
  | .mix m a b => by
    have ia := release_keeps a
    have ib := release_keeps b
    simp only [It.release]
    exact ⟨⟨rfl, ia.1, ib.1⟩, fun h => ⟨ia.2 h.1, ib.2 h.2⟩⟩

/-- the cursor after the read loop of a page with limit `k` -/
def afterK : Nat → It σ → It σ
  | 0, t => t
  | k + 1, t =>
    match t.get with
    | (t', some _) => afterK k t'.next
    | (t', none) => t'

/-- the read loop of a page: its events are the first `k` of the stream, the cursor is left with the rest -/
theorem page_read : ∀ (k : Nat) (t : It σ), t.WF →
    t.drain k = t.view.take k ∧ (afterK k t).WF ∧ (afterK k t).view = t.view.drop k ∧
    (afterK k t).dir = t.dir ∧ SameShape (afterK k t) t ∧ (All P t → All P (afterK k t)) := by
  intro k
  induction k with
  | zero => intro t h; exact ⟨by simp [It.drain], h, by simp [afterK], rfl, SameShape.refl t, fun h => h⟩
  | succ k ih =>
    intro t h
    obtain ⟨g2, gv, gw, gd, gs⟩ := It.get_spec t h
    have gk := get_keeps P hg hn hr t
    rw [It.drain, afterK]
    cases hgt : t.get with
    | mk t' r =>
      rw [hgt] at g2 gv gw gd gs gk
      simp only at g2 gv gw gd gs gk
      cases r with
      | none =>
        simp only
        have hnil : t.view = [] := List.head?_eq_none_iff.mp g2.symm
        exact ⟨by simp [hnil], gw, by rw [gv, hnil]; simp, gd, gk.1, gk.2⟩
      | some e =>
        simp only
        obtain ⟨nv, nw, nd⟩ := It.next_spec t' gw gs
        have nk := next_keeps P hg hn hr t'
        obtain ⟨i1, i2, i3, i4, i5, i6⟩ := ih t'.next nw
        have hcons : t.view = e :: t.view.tail := by
          cases hv : t.view with
          | nil => rw [hv] at g2; cases g2
          | cons x xs => rw [hv] at g2; simp at g2; simp [g2]
        refine ⟨?_, i2, ?_, by rw [i4, nd, gd], i5.trans (nk.1.trans gk.1), fun hp => i6 (nk.2 (gk.2 hp))⟩
        · rw [i1, nv, gv]; conv => rhs; rw [hcons]
          simp
        · rw [i3, nv, gv]; conv => rhs; rw [hcons]
          simp

end ops

/-! ## `newCursor`'s tree depends on the number of sources only -/
section build
variable [Inhabited σ]

def ShL : List (It σ) → List (It σ) → Prop
  | [], [] => True
  | a :: r, a' :: r' => SameShape a a' ∧ ShL r r'
  | _, _ => False

theorem ShL.length_eq : ∀ {l l' : List (It σ)}, ShL l l' → l.length = l'.length
  | [], [], _ => rfl
  | _ :: r, _ :: r', h => by simp [ShL.length_eq h.2]
  | [], _ :: _, h => h.elim
  | _ :: _, [], h => h.elim

theorem pairs_shape : ∀ (l l' : List (It σ)), ShL l l' → ShL (pairs l) (pairs l')
  | [], [], _ => by simp [pairs, ShL]
  | [a], [a'], h => by simpa [pairs] using h
  | a :: b :: r, a' :: b' :: r', h => by
    obtain ⟨h1, h2, h3⟩ := h
    simp only [pairs]
    exact ⟨⟨rfl, h1, h2⟩, pairs_shape r r' h3⟩
  | [], _ :: _, h => h.elim
  | _ :: _, [], h => h.elim
  | [_], _ :: _ :: _, h => h.2.elim
  | _ :: _ :: _, [_], h => h.2.elim

theorem reduce_shape (fuel : Nat) : ∀ (l l' : List (It σ)), ShL l l' → ShL (reduce fuel l) (reduce fuel l') := by
  induction fuel with
  | zero => intro l l' h; simpa [reduce] using h
  | succ f ih =>
    intro l l' h
    have hl := h.length_eq
    rw [reduce, reduce, ← hl]
    split
    · rw [round_eq_pairs, round_eq_pairs]; exact ih _ _ (pairs_shape l l' h)
    · exact h

theorem ShL.map_leaf : ∀ (a b : List σ), a.length = b.length → ShL (a.map It.leaf) (b.map It.leaf)
  | [], [], _ => trivial
  | _ :: xs, _ :: ys, h => ⟨trivial, ShL.map_leaf xs ys (Nat.succ.inj h)⟩
  | [], _ :: _, h => nomatch h
  | _ :: _, [], h => nomatch h

theorem ShL.head : ∀ {x y : List (It σ)} {t t' : It σ}, ShL x y → x.head? = some t → y.head? = some t' → SameShape t t'
  | _ :: _, _ :: _, _, _, h, rfl, rfl => h.1
  | [], [], _, _, _, e, _ => nomatch e
  | [], _ :: _, _, _, h, _, _ => h.elim
  | _ :: _, [], _, _, h, _, _ => h.elim

theorem build_shape (l l' : List σ) (hl : l.length = l'.length) (t t' : It σ) (ht : build l = some t)
    (ht' : build l' = some t') : SameShape t t' := by
  rw [build_eq_head] at ht ht'
  rw [← hl] at ht'
  exact (reduce_shape l.length _ _ (ShL.map_leaf l l' hl)).head ht ht'

theorem leaves_ne_nil : ∀ t : It σ, t.leaves ≠ []
  | .leaf s => by simp [It.leaves]
  | .mix _ a b => by simp [It.leaves, leaves_ne_nil a]

end build

/-! ## chains of pages over a merged cursor -/
section chain
variable [Inhabited σ] (P : σ → Prop) (refresh : σ → σ)

/-- one page with limit `lim`: the committed cursor (`Get` to settle, `Release`) and the events -/
def pageN (lim : Nat) (t : It σ) : It σ × List Ev := (((afterK lim t).get.1).release, t.drain lim)

/-- the cursor that serves the next page: the held one, or `newCursor` over leaves made from the exported positions -/
def resumeN (fresh : Bool) (t : It σ) : It σ :=
  if fresh then (build (t.leaves.map refresh)).getD t else t

def pagesN : It σ → List (Bool × Nat) → List (List Ev)
  | _, [] => []
  | t, (f, lim) :: rest =>
    (pageN lim (resumeN refresh f t)).2 :: pagesN (pageN lim (resumeN refresh f t)).1 rest

/-- what is kept between pages -/
def InvN (t : It σ) : Prop :=
  t.WF ∧ t.dir = false ∧ All P t ∧ ∃ l t0, build l = some t0 ∧ SameShape t t0

variable (hg : ∀ s, P s → P (Source.get s).1) (hn : ∀ s, P s → P (Source.next s))
  (hr : ∀ s, P s → P (Source.release s))
  (hre : ∀ s, P s → P (refresh s) ∧ wf (refresh s) ∧ dir (refresh s) = false ∧ view (refresh s) = view s)
include hg hn hr hre

theorem pageN_keeps (lim : Nat) (t : It σ) (h : InvN P t) :
    (pageN lim t).2 = t.view.take lim ∧ InvN P (pageN lim t).1 ∧ (pageN lim t).1.view = t.view.drop lim := by
  obtain ⟨hw, hd, hp, l, t0, hb, hsh⟩ := h
  obtain ⟨r1, r2, r3, r4, r5, r6⟩ := page_read P hg hn hr lim t hw
  obtain ⟨_, gv, gw, gd, _⟩ := It.get_spec (afterK lim t) r2
  have gk := get_keeps P hg hn hr (afterK lim t)
  obtain ⟨rv, rw', rd, _⟩ := It.release_spec _ gw
  have rk := release_keeps P hg hn hr (afterK lim t).get.1
  refine ⟨r1, ⟨rw', by show (afterK lim t).get.1.release.dir = false; rw [rd, gd, r4, hd], rk.2 (gk.2 (r6 hp)), l, t0, hb, ?_⟩,
    by show (afterK lim t).get.1.release.view = _; rw [rv, gv, r3]⟩
  exact rk.1.trans (gk.1.trans (r5.trans hsh))

theorem resumeN_keeps (f : Bool) (t : It σ) (h : InvN P t) :
    InvN P (resumeN refresh f t) ∧ (resumeN refresh f t).view = t.view := by
  cases f with
  | false => exact ⟨by simpa [resumeN] using h, by simp [resumeN]⟩
  | true =>
    obtain ⟨hw, hd, hp, l, t0, hb, hsh⟩ := h
    have hne : t.leaves.map refresh ≠ [] := by
      intro e; exact leaves_ne_nil t (List.map_eq_nil_iff.mp e)
    obtain ⟨F, hF, hFl⟩ := build_leaves (t.leaves.map refresh) hne
    have hres : resumeN refresh true t = F := by simp [resumeN, hF]
    rw [hres]
    have hleafP := All.leaves hp
    -- the new tree is well formed, forward, and satisfies the leaf invariant
    have hall := build_all (fun x : It σ => x.WF ∧ x.dir = false ∧ All P x)
      (fun a b ha hb' => ⟨(It.init_WF a b ha.1 hb'.1 ha.2.1 hb'.2.1).1, rfl, ha.2.2, hb'.2.2⟩)
      (t.leaves.map refresh)
      (by
        intro s hs
        obtain ⟨s0, hs0, rfl⟩ := List.mem_map.mp hs
        obtain ⟨p1, p2, p3, _⟩ := hre s0 (hleafP s0 hs0)
        exact ⟨p2, p3, p1⟩) F hF
    obtain ⟨l0, hl0⟩ : ∃ l0, l0 = t0.leaves := ⟨_, rfl⟩
    have ht0l : t0.leaves = l := by
      have hne0 : l ≠ [] := by intro e; rw [e] at hb; simp [build] at hb
      obtain ⟨t1, h1, h2⟩ := build_leaves l hne0
      rw [hb] at h1; cases h1; exact h2
    have hshF : SameShape F t0 :=
      build_shape _ _ (by rw [List.length_map, hsh.leaves_length, ht0l]) F t0 hF hb
    have hshFt : SameShape F t := hshF.trans hsh.symm
    refine ⟨⟨hall.1, hall.2.1, hall.2.2, l, t0, hb, hshF⟩, ?_⟩
    apply view_congr hshFt
    rw [hFl, List.map_map]
    apply List.map_congr_left
    intro s hs
    exact (hre s (hleafP s hs)).2.2.2

/-- **paging over a merged cursor of any number of sources**: the concatenated pages are the first Σ limits events of the
cursor's merged stream, whatever the limits and whatever is chosen per page -/
theorem pagesN_spec : ∀ (steps : List (Bool × Nat)) (t : It σ), InvN P t →
    (pagesN refresh t steps).flatten = t.view.take (steps.map (·.2)).sum := by
  intro steps
  induction steps with
  | nil => intro t _; simp [pagesN]
  | cons st rest ih =>
    intro t h
    obtain ⟨f, lim⟩ := st
    obtain ⟨hi, hv⟩ := resumeN_keeps P refresh hg hn hr hre f t h
    obtain ⟨e1, hi2, hv2⟩ := pageN_keeps P refresh hg hn hr hre lim _ hi
    rw [pagesN, List.flatten_cons, ih _ hi2, e1, hv2, hv]
    simp only [List.map_cons, List.sum_cons]
    rw [List.take_add]

/-- a tree `newCursor` has just built over leaves satisfying the leaf invariant -/
theorem built_inv (srcs : List σ) (t : It σ) (ht : build srcs = some t)
    (hs : ∀ s ∈ srcs, P s ∧ wf s ∧ dir s = false) : InvN P t := by
  have hall := build_all (fun x : It σ => x.WF ∧ x.dir = false ∧ All P x)
    (fun a b ha hb' => ⟨(It.init_WF a b ha.1 hb'.1 ha.2.1 hb'.2.1).1, rfl, ha.2.2, hb'.2.2⟩) srcs
    (fun s h => ⟨(hs s h).2.1, (hs s h).2.2, (hs s h).1⟩) t ht
  exact ⟨hall.1, hall.2.1, hall.2.2, srcs, t, ht, SameShape.refl t⟩

theorem built_fresh (all : σ → List Ev) (srcs : List σ) (hne : srcs ≠ []) (hv : ∀ s ∈ srcs, view s = all s)
    (hs : ∀ s ∈ srcs, P s ∧ wf s ∧ dir s = false) :
    ∃ t, build srcs = some t ∧ InvN P t ∧ t.view.Perm (srcs.flatMap all) ∧ ∀ s ∈ srcs, (all s).Sublist t.view := by
  obtain ⟨t, ht, hl⟩ := build_leaves srcs hne
  refine ⟨t, ht, built_inv P refresh hg hn hr hre srcs t ht hs, ?_, ?_⟩
  · have := It.view_perm_leaves t
    rw [hl, List.flatMap_def, List.map_congr_left hv] at this; exact this
  · intro s hs
    have := It.view_sublist_leaf t s (by rw [hl]; exact hs)
    rw [hv s hs] at this; exact this

end chain
end Logrange.MergeN

import Logrange.Proofs.Provider
import Logrange.Proofs.RingPtr
/-!
# The provider's two rings at pointer level

`Model/Provider.lean` keeps `p.busy` / `p.free` as lists (`Model/Ring.lean`); `Model/RingPtr.lean` models
`container.CLElement` at pointer level (two pointer fields per cell, the Go statements in order) and
`Proofs/RingPtr.lean` shows that every sequence of the four ring manipulations provider.go performs (`toHead`,
`insertNew`, `insertFree`, `evict`), each under its side condition, is simulated by the list level (`sim_run`).

Here: every step of the provider model changes its two rings by such a sequence, and the side conditions hold
(`Evolves`), for all well-formed traces — so the pointer-level heap obtained by executing the real pointer
manipulations represents the model's rings in every reachable state.
-/
namespace Logrange.Provider
open Logrange.Ring Logrange.RingPtr

/-- the two rings of a provider state -/
def lst (s : St) : LSt := ⟨s.ring, s.free⟩

/-- the rings of `s'` are what a sequence of provider-shaped ring operations, each under its side condition, makes of
the rings of `s` -/
def Evolves (s s' : St) : Prop := ∃ ops, OkRun (lst s) ops ∧ lrun (lst s) ops = lst s'

theorem okRun_append : ∀ (a b : List Op) (l : LSt), OkRun l a → OkRun (lrun l a) b → OkRun l (a ++ b)
  | [], _, _, _, hb => hb
  | _ :: a, b, _, ha, hb => ⟨ha.1, okRun_append a b _ ha.2 hb⟩

theorem lrun_append : ∀ (a b : List Op) (l : LSt), lrun l (a ++ b) = lrun (lrun l a) b
  | [], _, _ => rfl
  | _ :: a, b, _ => lrun_append a b _

theorem Evolves.refl (s : St) : Evolves s s := ⟨[], trivial, rfl⟩

theorem Evolves.trans {s1 s2 s3 : St} (h1 : Evolves s1 s2) (h2 : Evolves s2 s3) : Evolves s1 s3 := by
  obtain ⟨a, oa, ra⟩ := h1
  obtain ⟨b, ob, rb⟩ := h2
  refine ⟨a ++ b, okRun_append a b _ oa (by rw [ra]; exact ob), ?_⟩
  rw [lrun_append, ra, rb]

theorem Evolves.of_eq {s s' : St} (h1 : s'.ring = s.ring) (h2 : s'.free = s.free) : Evolves s s' :=
  ⟨[], trivial, by simp [lrun, lst, h1, h2]⟩

theorem Evolves.one {s s' : St} (op : Op) (ok : okOp (lst s) op) (h : lstep (lst s) op = lst s') : Evolves s s' :=
  ⟨[op], ⟨ok, trivial⟩, h⟩

theorem Evolves.toHead {s : St} {e : Nat} (he : e ∈ s.ring) (c : Nat) (i : CurI) (hx : Holder) :
    Evolves s (touched s e c i hx) :=
  Evolves.one (.toHead e) he (by simp only [lstep, lst, touched, Ring.tearOff, append_single])

theorem evolves_lookup {s : St} (id q p : Nat) (ok : Bool) (j : J s) : Evolves s (lookup s id q p ok).1 := by
  rcases lookup_cases s id q p ok with ⟨_, _, e, _⟩ | ⟨_, _, _, e⟩ | ⟨x, c, hg, _, e⟩ <;> rw [e]
  · exact Evolves.refl s
  · exact Evolves.of_eq rfl rfl
  · exact Evolves.toHead (j.f id x hg).1 c _ _

theorem evolves_create {s : St} (id q p : Nat) (k : CreateKind) (c n : Nat) : Evolves s (create s id q p k c n).1 := by
  unfold create
  cases k <;> exact Evolves.of_eq rfl rfl

theorem evolves_insert {s : St} (chk : Bool) (c : Nat) (j : J s) : Evolves s (insert chk s c).1 := by
  rcases insert_cases chk s c with ⟨_, _, e⟩ | ⟨_, x, F', n', z, hF, e⟩ <;> rw [e]
  · exact Evolves.of_eq rfl rfl
  · obtain ⟨hr, hf, _⟩ := J_insert_elem j hF
    rcases hF with ⟨h, _⟩ | ⟨rfl, rfl, _⟩
    · exact Evolves.one .insertFree (by simp [okOp, lst, h]) (by simp [lstep, lst, cachedAt, h, Ring.tearOff, append_single])
    · exact Evolves.one (.insertNew s.nextElem) ⟨hr, hf⟩ (by simp [lstep, lst, cachedAt, append_single])

theorem evolves_release {s : St} (byId : Bool) (c cp : Nat) (j : J s) : Evolves s (release byId s c cp).1 := by
  rcases release_cases byId s c cp with ⟨e, _⟩ | ⟨x, hg, _, ⟨_, e⟩ | ⟨_, e⟩⟩ <;> rw [e]
  · exact Evolves.of_eq rfl rfl
  · exact Evolves.of_eq rfl rfl
  · exact Evolves.toHead (j.f _ x hg).1 c _ _

theorem evolves_evict {s : St} (e : Nat) (rc : Bool) (j : J s) (he : e ∈ s.ring) : Evolves s (evict s e rc) := by
  obtain ⟨c, hc, _⟩ := j.e e he
  rw [evict_some hc]
  refine Evolves.one (.evict e (rc && decide (s.freeSz < freePoolCap))) he ?_
  simp only [lstep, lst, Ring.tearOff, append_single]

theorem evolves_step_split {s : St} (l : Label) (hs : l.isSplit = true) (k : K s) :
    Evolves s (stepL true false s l) := by
  have hev : ∀ {s' : St} (e : Nat) (r : Bool), K s' → e ∈ s'.ring → Evolves s s' → Evolves s (evict s' e r) :=
    fun e r k' he h => h.trans (evolves_evict e r k'.j he)
  cases l with
  | lookup id q p ok => exact evolves_lookup id q p ok k.j
  | create id q p kd c n => exact evolves_create id q p kd c n
  | insert c => exact evolves_insert true c k.j
  | get id q p ok kd cache c n => cases hs
  | release c cp => exact evolves_release false c cp k.j
  | age d => exact Evolves.of_eq rfl rfl
  | sweepT => exact (K_sweepByTime_keep hev k (Evolves.refl s)).2
  | sweepS => exact (K_sweepBySizeLoop_keep hev _ k (Evolves.refl s)).2

/-- along every well-formed trace the two rings change by provider-shaped ring operations under their side conditions -/
theorem evolves_run (tr : List Label) : ∀ {s : St}, K s → WF s tr → Evolves s (run true false s tr) := by
  intro s k wf
  exact (inv_run (I := fun s' => K s' ∧ Evolves s s') (Q := fun _ => True) (fun i => i.1.j)
    (fun _ _ _ _ _ _ _ _ _ _ _ => trivial)
    (fun l hs i wf _ => ⟨K_step_split l hs i.1 wf, i.2.trans (evolves_step_split l hs i.1)⟩)
    tr ⟨k, Evolves.refl s⟩ wf (fun _ _ => trivial)).2

/-- every reachable provider state has a pointer-level twin: the heap obtained by executing the real pointer
manipulations of `clist.go` for the ring operations the trace performed represents both rings of the model -/
theorem pointer_twin (m : Nat) (i b : Int) (tr : List Label) (wf : WF (init m i b) tr) :
    ∃ ops, OkRun LSt.init ops ∧
      Sim (prun PSt.init ops) (lst (run true false (init m i b) tr)) := by
  obtain ⟨ops, ok, r⟩ := evolves_run tr (K_init m i b) wf
  have e : lst (init m i b) = LSt.init := rfl
  rw [e] at ok r
  exact ⟨ops, ok, by rw [← r]; exact sim_run_init ops ok⟩

end Logrange.Provider

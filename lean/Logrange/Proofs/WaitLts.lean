import Logrange.Model.WaitLts
/-! Lemmas behind the C11 property theorems: the no-lost-wake-up invariant of the listener LTS; the Query loop. -/
namespace Logrange.WaitLts

/-! `step` with its guards as hypotheses, one constructor per enabled branch -/

inductive Step (st : State) : Label → State → Prop
  | append (k : Nat) (hk : k ≠ 0) : Step st (.append k) { st with cnt := st.cnt + k }
  | confirm (hne : st.cnt ≠ st.cfrmd) : Step st .confirm { st with cfrmd := st.cnt, pendNotif := st.pendNotif + 1 }
  | loadHit (hp : st.pendNotif ≠ 0) (hw : waitersPositive st = true) :
      Step st .loadWaiters { st with pendNotif := st.pendNotif - 1, pendClose := st.pendClose + 1 }
  | loadMiss (hp : st.pendNotif ≠ 0) (hw : waitersPositive st = false) :
      Step st .loadWaiters { st with pendNotif := st.pendNotif - 1 }
  | closeAll (hp : st.pendClose ≠ 0) (hl : st.lock = none) :
      Step st .closeAll { st with pendClose := st.pendClose - 1, ws := st.ws.map (fun w => { w with sub := false }) }
  | start (w pos : Nat) (x : WSt) (hx : st.ws[w]? = some x) (hpc : x.pc = .idle) :
      Step st (.start w pos) { st with ws := st.ws.set w { x with pc := .started, pos := pos } }
  | inc (w : Nat) (x : WSt) (hx : st.ws[w]? = some x) (hpc : x.pc = .started) :
      Step st (.inc w) { st with ws := st.ws.set w { x with pc := .counted } }
  | lockRet (w : Nat) (x : WSt) (hx : st.ws[w]? = some x) (hpc : x.pc = .counted) (hl : st.lock = none)
      (hlt : x.pos < st.cfrmd) :
      Step st (.lockCheck w) { st with ws := st.ws.set w { x with pc := .returning, woke := true } }
  | lockHold (w : Nat) (x : WSt) (hx : st.ws[w]? = some x) (hpc : x.pc = .counted) (hl : st.lock = none)
      (hge : ¬ x.pos < st.cfrmd) :
      Step st (.lockCheck w) { st with lock := some w, ws := st.ws.set w { x with pc := .holding, pos := st.cfrmd } }
  | subscribe (w : Nat) (x : WSt) (hx : st.ws[w]? = some x) (hpc : x.pc = .holding) :
      Step st (.subscribe w) { st with lock := none, ws := st.ws.set w { x with pc := .asleep, sub := true } }
  | wake (w : Nat) (x : WSt) (hx : st.ws[w]? = some x) (hpc : x.pc = .asleep) (hsub : x.sub = false) :
      Step st (.wake w) { st with ws := st.ws.set w { x with pc := .counted } }
  | cancel (w : Nat) (x : WSt) (hx : st.ws[w]? = some x) (hpc : x.pc = .asleep) (hl : st.lock = none) :
      Step st (.cancel w) { st with ws := st.ws.set w { x with pc := .returning, sub := false, woke := false } }
  | ret (w : Nat) (x : WSt) (hx : st.ws[w]? = some x) (hpc : x.pc = .returning) :
      Step st (.ret w) { st with ws := st.ws.set w { x with pc := .idle } }

theorem Step.of_step {st st' : State} {l : Label} (h : step st l = some st') : Step st l st' := by
  cases l with
  | append k =>
    simp only [step, Option.ite_none_left_eq_some, Option.some.injEq] at h
    obtain ⟨hk, rfl⟩ := h
    exact .append k hk
  | confirm =>
    simp only [step, Option.ite_none_left_eq_some, Option.some.injEq] at h
    obtain ⟨hne, rfl⟩ := h
    exact .confirm hne
  | loadWaiters =>
    simp only [step, Option.ite_none_left_eq_some] at h
    obtain ⟨hp, h⟩ := h
    split at h
    · rename_i hw; cases h; exact .loadHit hp hw
    · rename_i hw; cases h; exact .loadMiss hp (by simpa using hw)
  | closeAll =>
    simp only [step, Option.ite_none_left_eq_some, Bool.or_eq_true, decide_eq_true_eq, not_or, Bool.not_eq_true,
      Option.isSome_eq_false_iff, Option.isNone_iff_eq_none, Option.some.injEq] at h
    obtain ⟨hg, rfl⟩ := h
    exact .closeAll hg.1 hg.2
  | start w pos =>
    simp only [step] at h
    split at h
    · rename_i x hx
      simp only [Option.ite_none_right_eq_some, Option.some.injEq] at h
      obtain ⟨hg, rfl⟩ := h
      exact .start w pos x hx hg
    · cases h
  | inc w =>
    simp only [step] at h
    split at h
    · rename_i x hx
      simp only [Option.ite_none_right_eq_some, Option.some.injEq] at h
      obtain ⟨hg, rfl⟩ := h
      exact .inc w x hx hg
    · cases h
  | lockCheck w =>
    simp only [step] at h
    split at h
    · rename_i x hx
      simp only [Option.ite_none_right_eq_some, Bool.and_eq_true, decide_eq_true_eq, Option.isNone_iff_eq_none] at h
      obtain ⟨hg, h⟩ := h
      split at h
      · rename_i hlt; cases h; exact .lockRet w x hx hg.1 hg.2 hlt
      · rename_i hge; cases h; exact .lockHold w x hx hg.1 hg.2 hge
    · cases h
  | subscribe w =>
    simp only [step] at h
    split at h
    · rename_i x hx
      simp only [Option.ite_none_right_eq_some, Option.some.injEq] at h
      obtain ⟨hg, rfl⟩ := h
      exact .subscribe w x hx hg
    · cases h
  | wake w =>
    simp only [step] at h
    split at h
    · rename_i x hx
      simp only [Option.ite_none_right_eq_some, Bool.and_eq_true, decide_eq_true_eq, Bool.not_eq_true', Option.some.injEq] at h
      obtain ⟨hg, rfl⟩ := h
      exact .wake w x hx hg.1 hg.2
    · cases h
  | cancel w =>
    simp only [step] at h
    split at h
    · rename_i x hx
      simp only [Option.ite_none_right_eq_some, Bool.and_eq_true, decide_eq_true_eq, Option.isNone_iff_eq_none, Option.some.injEq] at h
      obtain ⟨hg, rfl⟩ := h
      exact .cancel w x hx hg.1 hg.2
    · cases h
  | ret w =>
    simp only [step] at h
    split at h
    · rename_i x hx
      simp only [Option.ite_none_right_eq_some, Option.some.injEq] at h
      obtain ⟨hg, rfl⟩ := h
      exact .ret w x hx hg
    · cases h

theorem run_inv {P : State → Prop} (hstep : ∀ st l st', P st → Step st l st' → P st')
    (st : State) (ls : List Label) (h : P st) : P (run st ls) := by
  induction ls generalizing st with
  | nil => exact h
  | cons l ls ih =>
    simp only [run]
    cases hs : step st l with
    | none => exact ih st h
    | some st' => exact ih st' (hstep st l st' h (.of_step hs))

/-- a waiter that relies on being woken: subscribed and asleep, or about to subscribe (holding the listener lock) -/
def Relies (x : WSt) : Prop := (x.pc = .asleep ∧ x.sub = true) ∨ x.pc = .holding

/-- the invariant: (A) a relying waiter with confirmed data beyond its position has a pending `OnNewData`;
(B) a waiter between its locked check and its subscription holds the listener lock -/
def WInv (st : State) : Prop :=
  (∀ (w : Nat) (x : WSt), st.ws[w]? = some x → Relies x → x.pos < st.cfrmd → 0 < st.pendNotif + st.pendClose) ∧
  (∀ (w : Nat) (x : WSt), st.ws[w]? = some x → x.pc = .holding → st.lock = some w)

theorem winv_init (n k : Nat) : WInv (init n k) := by
  constructor
  · intro w x hx hr _
    simp only [init, List.getElem?_replicate] at hx
    split at hx
    · simp only [Option.some.injEq] at hx; subst hx
      rcases hr with ⟨h, _⟩ | h <;> simp at h
    · cases hx
  · intro w x hx hp
    simp only [init, List.getElem?_replicate] at hx
    split at hx
    · simp only [Option.some.injEq] at hx; subst hx; simp at hp
    · cases hx

/-- a step that rewrites waiter `w` into a state that does not rely on a wake-up and touches nothing else -/
theorem winv_set_norely (st : State) (w : Nat) (x' : WSt) (h : WInv st)
    (hnr : ¬ Relies x') (hnh : x'.pc ≠ .holding) :
    WInv { st with ws := st.ws.set w x' } := by
  obtain ⟨hA, hB⟩ := h
  constructor
  · intro v y hy hr hlt
    by_cases e : v = w
    · subst e
      by_cases hl : v < st.ws.length
      · rw [List.getElem?_set_self hl] at hy
        simp only [Option.some.injEq] at hy; subst hy; exact absurd hr hnr
      · rw [List.getElem?_eq_none (by simp; omega)] at hy; cases hy
    · rw [List.getElem?_set_ne (Ne.symm e)] at hy
      exact hA v y hy hr hlt
  · intro v y hy hp
    by_cases e : v = w
    · subst e
      by_cases hl : v < st.ws.length
      · rw [List.getElem?_set_self hl] at hy
        simp only [Option.some.injEq] at hy; subst hy; exact absurd hp hnh
      · rw [List.getElem?_eq_none (by simp; omega)] at hy; cases hy
    · rw [List.getElem?_set_ne (Ne.symm e)] at hy
      exact hB v y hy hp

theorem lt_of_getElem?_some {α : Type} {l : List α} {i : Nat} {x : α} (h : l[i]? = some x) : i < l.length := by
  rcases Nat.lt_or_ge i l.length with h' | h'
  · exact h'
  · rw [List.getElem?_eq_none h'] at h; cases h

theorem waitersPositive_of (st : State) (w : Nat) (x : WSt) (hx : st.ws[w]? = some x) (hr : Relies x) :
    waitersPositive st = true := by
  unfold waitersPositive
  rw [List.any_eq_true]
  refine ⟨x, List.mem_of_getElem? hx, ?_⟩
  rcases hr with ⟨h, _⟩ | h <;> simp [countedPc, h]

theorem step_winv {st st' : State} {l : Label} (h : WInv st) (hs : Step st l st') : WInv st' := by
  have norely : ∀ w x', x'.pc ≠ .asleep → x'.pc ≠ .holding → WInv { st with ws := st.ws.set w x' } :=
    fun w x' h1 h2 => winv_set_norely st w x' h (by rintro (⟨hr, _⟩ | hr) <;> contradiction) h2
  have nohold : st.lock = none → ∀ (v : Nat) (y : WSt), st.ws[v]? = some y → y.pc ≠ .holding := by
    intro hl v y hy hp
    have := h.2 v y hy hp
    rw [hl] at this; cases this
  cases hs with
  | append k hk => exact h
  | confirm hne => exact ⟨fun _ _ _ _ _ => by simp only []; omega, h.2⟩
  | loadHit hp hw =>
    refine ⟨fun w x hx hr hlt => ?_, h.2⟩
    have := h.1 w x hx hr hlt
    simp only []; omega
  | loadMiss hp hw =>
    refine ⟨fun w x hx hr _ => ?_, h.2⟩
    rw [waitersPositive_of st w x hx hr] at hw; cases hw
  | closeAll hp hl =>
    constructor
    · intro w y hy hr _
      simp only [List.getElem?_map] at hy
      cases hx : st.ws[w]? with
      | none => simp [hx] at hy
      | some x =>
        simp only [hx, Option.map_some, Option.some.injEq] at hy; subst hy
        rcases hr with ⟨_, h2⟩ | h2
        · simp at h2
        · exact absurd h2 (nohold hl w x hx)
    · intro w y hy hp'
      simp only [List.getElem?_map] at hy
      cases hx : st.ws[w]? with
      | none => simp [hx] at hy
      | some x =>
        simp only [hx, Option.map_some, Option.some.injEq] at hy; subst hy
        exact absurd hp' (nohold hl w x hx)
  | start w pos x hx hpc => exact norely w _ (by simp) (by simp)
  | inc w x hx hpc => exact norely w _ (by simp) (by simp)
  | wake w x hx hpc hsub => exact norely w _ (by simp) (by simp)
  | cancel w x hx hpc hl => exact norely w _ (by simp) (by simp)
  | ret w x hx hpc => exact norely w _ (by simp) (by simp)
  | lockRet w x hx hpc hl hlt => exact norely w _ (by simp) (by simp)
  | lockHold w x hx hpc hl hge =>
    -- the new position is the confirmed count: nothing lies beyond it; nobody else holds, the lock was free
    have hlen := lt_of_getElem?_some hx
    constructor
    · intro v y hy hr hlt
      by_cases e : v = w
      · subst e
        rw [List.getElem?_set_self hlen] at hy
        simp only [Option.some.injEq] at hy; subst hy
        simp at hlt
      · rw [List.getElem?_set_ne (Ne.symm e)] at hy
        exact h.1 v y hy hr hlt
    · intro v y hy hp
      by_cases e : v = w
      · subst e; rfl
      · rw [List.getElem?_set_ne (Ne.symm e)] at hy
        exact absurd hp (nohold hl v y hy)
  | subscribe w x hx hpc =>
    have hlen := lt_of_getElem?_some hx
    have hlock : st.lock = some w := h.2 w x hx hpc
    constructor
    · intro v y hy hr hlt
      by_cases e : v = w
      · subst e
        rw [List.getElem?_set_self hlen] at hy
        simp only [Option.some.injEq] at hy; subst hy
        exact h.1 v x hx (Or.inr hpc) hlt
      · rw [List.getElem?_set_ne (Ne.symm e)] at hy
        exact h.1 v y hy hr hlt
    · intro v y hy hp
      by_cases e : v = w
      · subst e
        rw [List.getElem?_set_self hlen] at hy
        simp only [Option.some.injEq] at hy; subst hy
        simp at hp
      · rw [List.getElem?_set_ne (Ne.symm e)] at hy
        have := h.2 v y hy hp
        rw [hlock] at this
        simp only [Option.some.injEq] at this
        exact absurd this.symm e

theorem run_winv (st : State) (ls : List Label) (h : WInv st) : WInv (run st ls) :=
  run_inv (fun _ _ _ h hs => step_winv h hs) st ls h

/-! ### the Query loop -/

theorem queryLoop_empty_spins (lim wt : Nat) (hl : 0 < lim) (hw : 0 < wt) :
    ∀ fuel, queryLoop (emptyCur true) wt lim fuel lim () [] = .outOfFuel := by
  intro fuel
  induction fuel with
  | zero => rfl
  | succ f ih =>
    unfold queryLoop
    have : ¬ lim = 0 := by omega
    have hg : (emptyCur true).get () = (none, ()) := rfl
    have hwt : (emptyCur true).wait () = (.data, ()) := rfl
    simp only [this, if_false, hg, hwt, hw, and_self, if_true]
    exact ih

theorem queryLoop_script_terminates (wt lim : Nat) :
    ∀ fuel limit (s : Script) acc, scriptMeasure s < fuel → queryLoop scriptCur wt lim fuel limit s acc ≠ .outOfFuel := by
  intro fuel
  induction fuel with
  | zero => intro _ _ _ h; omega
  | succ f ih =>
    intro limit s acc hm
    unfold queryLoop
    by_cases hl : limit = 0
    · simp [hl]
    · simp only [hl, if_false]
      obtain ⟨vis, fut⟩ := s
      cases vis with
      | cons e es =>
        simp only [scriptCur]
        apply ih
        simp only [scriptMeasure, List.length_cons] at hm ⊢; omega
      | nil =>
        simp only [scriptCur]
        split
        · cases fut with
          | nil => simp
          | cons o fs =>
            cases o with
            | none => simp
            | some b =>
              simp only []
              apply ih
              simp only [scriptMeasure, List.length_nil, List.map_cons, List.sum_cons, Option.getD_some, List.nil_append] at hm ⊢
              omega
        · simp

end Logrange.WaitLts
